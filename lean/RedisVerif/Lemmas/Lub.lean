/-!
# Folding an ACI operation computes a least upper bound

For an operation `m` that is commutative, associative and idempotent on a carrier `P` closed
under it, `foldl m x l` is the least upper bound of `x :: l` in the induced order
`a ≤ b :↔ m a b = b`; hence it depends only on the *set* of elements: it is invariant under
permutation and duplication.  Used for the delivery schedules of C06 (`Lemmas/Flow`, and through
`Lemmas/Converge` the cluster invariant) and for the pull network of C18 (`Lemmas/AENet`); the
stream area (C11-C13) states the same theory on `fold1` in `Lemmas/FoldACI`.
-/
namespace RedisVerif

structure ACI {α : Type} (m : α → α → α) (P : α → Prop) : Prop where
  closed : ∀ a b, P a → P b → P (m a b)
  comm : ∀ a b, P a → P b → m a b = m b a
  assoc : ∀ a b c, P a → P b → P c → m a (m b c) = m (m a b) c
  idem : ∀ a, P a → m a a = a

namespace ACI
variable {α : Type} {m : α → α → α} {P : α → Prop}

/-- the induced order -/
def le (m : α → α → α) (a b : α) : Prop := m a b = b

theorem le_refl (h : ACI m P) {a : α} (ha : P a) : le m a a := h.idem a ha

theorem le_antisymm (h : ACI m P) {a b : α} (ha : P a) (hb : P b) (h1 : le m a b)
    (h2 : le m b a) : a = b := by
  unfold le at h1 h2
  rw [← h2, h.comm b a hb ha, h1]

theorem le_trans (h : ACI m P) {a b c : α} (ha : P a) (hb : P b) (hc : P c) (h1 : le m a b)
    (h2 : le m b c) : le m a c := by
  unfold le at *
  rw [← h2, h.assoc a b c ha hb hc, h1]

theorem le_merge_left (h : ACI m P) {a b : α} (ha : P a) (hb : P b) : le m a (m a b) := by
  unfold le
  rw [h.assoc a a b ha ha hb, h.idem a ha]

theorem le_merge_right (h : ACI m P) {a b : α} (ha : P a) (hb : P b) : le m b (m a b) := by
  unfold le
  rw [h.comm a b ha hb, h.assoc b b a hb hb ha, h.idem b hb]

theorem merge_le (h : ACI m P) {a b u : α} (ha : P a) (hb : P b) (hu : P u) (h1 : le m a u)
    (h2 : le m b u) : le m (m a b) u := by
  unfold le at *
  rw [← h.assoc a b u ha hb hu, h2, h1]

theorem fold_closed (h : ACI m P) (l : List α) (x : α) (hx : P x) (hl : ∀ a ∈ l, P a) :
    P (l.foldl m x) := by
  induction l generalizing x with
  | nil => exact hx
  | cons a l ih =>
    exact ih (m x a) (h.closed x a hx (hl a (by simp))) (fun b hb => hl b (by simp [hb]))

/-- the fold is an upper bound of its seed and of every element -/
theorem fold_upper (h : ACI m P) (l : List α) (x : α) (hx : P x) (hl : ∀ a ∈ l, P a) :
    le m x (l.foldl m x) ∧ ∀ a ∈ l, le m a (l.foldl m x) := by
  induction l generalizing x with
  | nil => exact ⟨h.le_refl hx, fun a ha => nomatch ha⟩
  | cons b l ih =>
    have hb : P b := hl b List.mem_cons_self
    have hl' : ∀ a ∈ l, P a := fun a ha => hl a (List.mem_cons_of_mem _ ha)
    have hxb : P (m x b) := h.closed x b hx hb
    have ⟨h1, h2⟩ := ih (m x b) hxb hl'
    have hF : P (l.foldl m (m x b)) := h.fold_closed l _ hxb hl'
    exact ⟨h.le_trans hx hxb hF (h.le_merge_left hx hb) h1,
      List.forall_mem_cons.mpr ⟨h.le_trans hb hxb hF (h.le_merge_right hx hb) h1, h2⟩⟩

/-- … and the least one -/
theorem fold_least (h : ACI m P) (l : List α) (x u : α) (hx : P x) (hl : ∀ a ∈ l, P a)
    (hu : P u) (h1 : le m x u) (h2 : ∀ a ∈ l, le m a u) : le m (l.foldl m x) u := by
  induction l generalizing x with
  | nil => exact h1
  | cons b l ih =>
    have hb : P b := hl b (by simp)
    exact ih (m x b) (h.closed x b hx hb) (fun a ha => hl a (by simp [ha]))
      (h.merge_le hx hb hu h1 (h2 b (by simp))) (fun a ha => h2 a (by simp [ha]))

theorem fold_le_fold (h : ACI m P) (x x' : α) (l l' : List α)
    (hx : P x) (hl : ∀ a ∈ l, P a) (hx' : P x') (hl' : ∀ a ∈ l', P a)
    (hsub : ∀ a ∈ x :: l, a ∈ x' :: l') : le m (l.foldl m x) (l'.foldl m x') := by
  have vb : ∀ a ∈ x' :: l', le m a (l'.foldl m x') :=
    List.forall_mem_cons.mpr (h.fold_upper l' x' hx' hl')
  exact h.fold_least l x _ hx hl (h.fold_closed l' x' hx' hl') (vb x (hsub x List.mem_cons_self))
    (fun a ha => vb a (hsub a (List.mem_cons_of_mem _ ha)))

/-- **order- and duplication-independence**: two folds over lists with the same elements
    (seed included) are equal -/
theorem fold_eq_of_same_elems (h : ACI m P) (x x' : α) (l l' : List α)
    (hx : P x) (hl : ∀ a ∈ l, P a) (hx' : P x') (hl' : ∀ a ∈ l', P a)
    (hsame : ∀ a, a ∈ x :: l ↔ a ∈ x' :: l') :
    l.foldl m x = l'.foldl m x' :=
  h.le_antisymm (h.fold_closed l x hx hl) (h.fold_closed l' x' hx' hl')
    (h.fold_le_fold x x' l l' hx hl hx' hl' fun a => (hsame a).mp)
    (h.fold_le_fold x' x l' l hx' hl' hx hl fun a => (hsame a).mpr)

/-- absorbing an element already below the accumulator changes nothing -/
theorem absorb (h : ACI m P) {x a : α} (hx : P x) (ha : P a) (hle : le m a x) : m x a = x := by
  unfold le at hle
  rw [h.comm x a hx ha, hle]

end ACI
end RedisVerif
