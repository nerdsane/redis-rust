import RedisVerif.Model.HashBytes
import RedisVerif.Lemmas.InsertSort

/-! Lemmas about the vocabulary of `Model/HashBytes.lean`: fixed-width little-endian integers are
    uniquely decodable.  (Re-exports `Lemmas/InsertSort.lean`, the lemmas about `HB.isort`.) -/
namespace RedisVerif
namespace HB

theorem leBytes_prefix_inj : ∀ (w : Nat) {a b : Nat} {r r' : List Nat},
    leBytes (w + 1) a ++ r = leBytes (w + 1) b ++ r' → a = b ∧ r = r'
  | 0, _, _, _, _, h => List.cons.inj h
  | w + 1, a, b, _, _, h => by
    obtain ⟨h1, h2⟩ := List.cons.inj h
    obtain ⟨h3, h4⟩ := leBytes_prefix_inj w h2
    have ea := Nat.div_add_mod a 256
    have eb := Nat.div_add_mod b 256
    exact ⟨by omega, h4⟩

theorem le64_length (n : Nat) : (le64 n).length = 8 := rfl

end HB
end RedisVerif
