import RedisVerif.Lemmas.RedisStr
import RedisVerif.Lemmas.RedisList
import RedisVerif.Lemmas.RedisSetHash
import RedisVerif.Lemmas.RedisZSet
import RedisVerif.Model.RedisKeys

/-!
  What every command of the M7 reference executor (`Model/Redis.lean`, the model C01 ties to the real
  `CommandExecutor`) that names its keys does — from ONE description of its body (`exec_sound`).

  `LocalOn K f` (for `f = fun s => exec s now c`, `K = cmdKeys c`) is LOCALITY, a command reads and writes only
  the keys it names:
    * `wf`    — canonical form is preserved,
    * `frame` — a key outside `K` keeps its entry,
    * `loc`   — the reply and the new entries of the keys in `K` depend only on the old entries of
                the keys in `K` (and on `now` and the command's arguments).
  `exec_localOn` proves it for EVERY command of the model that names keys (single-key commands of all
  five value types, expiry commands, the two-key commands RENAME / RENAMENX / RPOPLPUSH / LMOVE /
  SORT … STORE, the multi-key commands MGET / MSET / MSETNX / DEL / EXISTS); the commands for which
  it is FALSE (KEYS, DBSIZE, FLUSHDB, FLUSHALL, RANDOMKEY) are exactly those with `cmdKeys c = none`
  (`keyless_cases`; `C03.m7_global_not_local`).  This discharges the assumption `Shards.Exec.Local` of the
  sharding model for the executor model that C01 validates (`Lemmas/Shards7.lean`).

  `Sound p K f` is `LocalOn K f` together with what C01 and C17 ask of a command (`Safe`): the invariant is kept,
  and an error reply comes with the state the command was given.  `exec_localOn`, `exec_wf` and the dispatcher
  lemmas `safe_exec`, `inv_exec`, `exec_err` (`Lemmas/RedisStep.lean`) are projections of `exec_sound`; `exec_ro`
  (what `isReadOnly` promises) is a walk of its own, over the reading commands.
-/
namespace RedisVerif.Redis
open RedisVerif NMap

structure LocalOn (K : List Nat) (f : State → State × Reply) : Prop where
  wf : ∀ s, WF s → WF (f s).1
  frame : ∀ s k', WF s → k' ∉ K → get (f s).1 k' = get s k'
  loc : ∀ s s', WF s → WF s' → (∀ k ∈ K, get s k = get s' k) →
    (f s).2 = (f s').2 ∧ ∀ k ∈ K, get (f s).1 k = get (f s').1 k

/-- `a` depends on the state only through the slots of the keys `K` -/
def Obs {α : Type} (K : List Nat) (a : State → α) : Prop :=
  ∀ s s', (∀ k ∈ K, get s k = get s' k) → a s = a s'

/-- `w` writes slots of `K` only, as a function of the slots of `K`; it keeps the invariant if `p` holds -/
structure Writes (p : Prop) (K : List Nat) (w : State → State) : Prop where
  wf : ∀ s, WF s → WF (w s)
  inv : p → ∀ s, Inv s → Inv (w s)
  frame : ∀ s k', WF s → k' ∉ K → get (w s) k' = get s k'
  loc : ∀ s s', WF s → WF s' → (∀ k ∈ K, get s k = get s' k) → ∀ k ∈ K, get (w s) k = get (w s') k

/-- a command body: local on `K`; it keeps the invariant if `p` holds; an error reply comes with the state it
    was given.  `p` stands for what is known of the values the body mentions (that a set it writes back is
    canonical, say): only `inv` needs it — locality speaks of every canonical state, and an error changes nothing
    in any state. -/
structure Sound (p : Prop) (K : List Nat) (f : State → State × Reply) : Prop extends LocalOn K f where
  inv : p → ∀ s, Inv s → Inv (f s).1
  err : ∀ s, (f s).2.isError = true → (f s).1 = s

theorem LocalOn.keep {K : List Nat} {r : Reply} : LocalOn K (fun s => (s, r)) :=
  ⟨fun _ h => h, fun _ _ _ _ => rfl, fun _ _ _ _ h => ⟨rfl, h⟩⟩

/-! `Sound p K` is closed under the constructs the executor is written in: answer (`keep`); write slots of `K`
    (`Writes`: `put`, `del`, `putList` …) and answer without an error (`write`); go on with something observed
    on `K` (`read`, and its instances shaped like the `match`es of the model so that they apply by first-order
    unification); test (`ite`, `iteObs`).  A command is sound because its body is such a term.  The one thing a
    term says beyond the shape of the body is why a collection it writes is canonical: a lookup hands its
    continuation what the invariant says of the value found (`setCases`: `WF x`; `getCases`: `ValueOk e.val`) in
    place of `p`, and the `put…` that writes a value back asks for it under `p`.
    Where a key is named, `hk : k ∈ K` comes last and defaults to "`k` is the first key of `K`". -/
namespace Writes
variable {p : Prop} {K : List Nat} {k : Nat} {w : State → State}

theorem skip : Writes p K (fun s => s) :=
  ⟨fun _ h => h, fun _ _ h => h, fun _ _ _ _ => rfl, fun _ _ _ _ h => h⟩

theorem put (e : Entry) (h : Writes p K w) (hk : k ∈ K := by exact .head _)
    (hv : p → ValueOk e.val := by exact fun _ => trivial) : Writes p K (fun s => NMap.insert k e (w s)) :=
  ⟨fun s hs => wf_insert (h.wf s hs),
   fun hp s hs => inv_insert_entry (h.inv hp s hs) (hv hp),
   fun s k' hs hk' => by rw [get_insert, if_neg fun e : k' = k => hk' (e ▸ hk), h.frame s k' hs hk'],
   fun s s' hs hs' hg x hx => by rw [get_insert, get_insert, h.loc s s' hs hs' hg x hx]⟩

theorem del (h : Writes p K w) (hk : k ∈ K := by exact .head _) :
    Writes p K (fun s => NMap.erase k (w s)) :=
  ⟨fun s hs => wf_erase (h.wf s hs),
   fun hp s hs => inv_erase (h.inv hp s hs),
   fun s k' hs hk' => by
     rw [get_erase (h.wf s hs), if_neg fun e : k' = k => hk' (e ▸ hk), h.frame s k' hs hk'],
   fun s s' hs hs' hg x hx => by
     rw [get_erase (h.wf s hs), get_erase (h.wf s' hs'), h.loc s s' hs hs' hg x hx]⟩

theorem putList (l : List BS) (dl : Option Nat) (h : Writes p K w) (hk : k ∈ K := by exact .head _) :
    Writes p K (fun s => putList (w s) k l dl) := by
  cases l
  · exact h.del hk
  · exact h.put _ hk fun _ => List.cons_ne_nil _ _

theorem putSet (m : MSet) (dl : Option Nat) (h : Writes p K w) (hm : p → WF m)
    (hk : k ∈ K := by exact .head _) : Writes p K (fun s => putSet (w s) k m dl) := by
  cases m
  · exact h.del hk
  · exact h.put _ hk fun hp => ⟨List.cons_ne_nil _ _, hm hp⟩

theorem putHash (m : MHash) (dl : Option Nat) (h : Writes p K w) (hm : p → WF m)
    (hk : k ∈ K := by exact .head _) : Writes p K (fun s => putHash (w s) k m dl) := by
  cases m
  · exact h.del hk
  · exact h.put _ hk fun hp => ⟨List.cons_ne_nil _ _, hm hp⟩

theorem putZ (z : ZL) (dl : Option Nat) (h : Writes p K w) (hz : p → ZCanon z)
    (hk : k ∈ K := by exact .head _) : Writes p K (fun s => putZ (w s) k z dl) := by
  cases z
  · exact h.del hk
  · exact h.put _ hk fun hp => ⟨List.cons_ne_nil _ _, hz hp⟩

theorem msetAll : ∀ (kvs : List (Nat × BS)) {w : State → State}, Writes p K w → (∀ q ∈ kvs, q.1 ∈ K) →
    Writes p K (fun s => msetAll (w s) kvs)
  | [], _, h, _ => h
  | (k, v) :: kvs, _, h, hK =>
    msetAll kvs (h.put ⟨.str v, none⟩ (hK (k, v) (.head _))) fun q hq => hK q (.tail _ hq)

end Writes

namespace Sound
variable {p : Prop} {K : List Nat} {k : Nat} {α : Type} {f g : State → State × Reply}

theorem keep {r : Reply} : Sound p K (fun s => (s, r)) :=
  { LocalOn.keep with inv := fun _ _ h => h, err := fun _ _ => rfl }

/-- first write, then go on with a body that never replies with an error -/
theorem after {w : State → State} (hw : Writes p K w) (h : Sound p K f)
    (hr : ∀ s, (f s).2.isError = false) : Sound p K (fun s => f (w s)) where
  wf s hs := h.wf _ (hw.wf s hs)
  frame s k' hs hk' := by rw [h.frame _ k' (hw.wf s hs) hk', hw.frame s k' hs hk']
  loc s s' hs hs' hg := h.loc _ _ (hw.wf s hs) (hw.wf s' hs') (hw.loc s s' hs hs' hg)
  inv hp s hs := h.inv hp _ (hw.inv hp s hs)
  err s he := by rw [hr] at he; cases he

theorem write {w : State → State} {r : Reply} (hw : Writes p K w) (hr : r.isError = false := by rfl) :
    Sound p K (fun s => (w s, r)) :=
  after hw keep fun _ => hr

/-- go on with a value observed on the keys — the one place where two states are compared; `P` is what the
    invariant says of the value -/
theorem readInv {a : State → α} (ha : Obs K a) {P : α → Prop} (hP : ∀ s, p → Inv s → P (a s))
    {F : α → State → State × Reply} (h : ∀ x, Sound (P x) K (F x)) :
    Sound p K (fun s => F (a s) s) where
  wf s := (h _).wf s
  frame s := (h _).frame s
  loc s s' hs hs' hg := by
    have := (h (a s)).loc s s' hs hs' hg
    rw [ha s s' hg] at this ⊢
    exact this
  inv hp s hs := (h _).inv (hP s hp hs) s hs
  err s := (h _).err s

theorem read {a : State → α} (ha : Obs K a) {F : α → State → State × Reply} (h : ∀ x, Sound p K (F x)) :
    Sound p K (fun s => F (a s) s) :=
  readInv ha (P := fun _ => p) (fun _ hp _ => hp) h

theorem keepObs {r : State → Reply} (hr : Obs K r) : Sound p K (fun s => (s, r s)) :=
  read hr (F := fun x s => (s, x)) fun _ => keep

/-- entry and reply are observed on the state BEFORE the write (SET … GET / KEEPTTL) -/
theorem putObs {e : State → Entry} {r : State → Reply} (he : Obs K e) (hr : Obs K r)
    (hv : ∀ s, ValueOk (e s).val) (hne : ∀ s, (r s).isError = false)
    (hk : k ∈ K := by exact .head _) : Sound p K (fun s => (NMap.insert k (e s) s, r s)) where
  wf _ hs := wf_insert hs
  frame _ k' _ hk' := by rw [get_insert, if_neg fun h : k' = k => hk' (h ▸ hk)]
  loc s s' _ _ hg := ⟨hr s s' hg, fun x hx => by rw [get_insert, get_insert, he s s' hg, hg x hx]⟩
  inv _ s hs := inv_insert_entry hs (hv s)
  err s h := by rw [hne] at h; cases h

theorem iteObs {c : State → Prop} [∀ s, Decidable (c s)] (hc : Obs K c) (hf : Sound p K f)
    (hg : Sound p K g) : Sound p K (fun s => if c s then f s else g s) := by
  have hb : ∀ b : Bool, Sound p K (fun s => if b then f s else g s) := fun b => by
    cases b <;> assumption
  have e : (fun s => if c s then f s else g s) =
      fun s => (fun (b : Bool) s => if b then f s else g s) (decide (c s)) s := by
    funext s; by_cases h : c s <;> simp [h]
  rw [e]
  exact read (a := fun s => decide (c s)) (fun s s' h => by simp only [hc s s' h]) hb

theorem ite {c : Prop} [Decidable c] (hf : Sound p K f) (hg : Sound p K g) :
    Sound p K (fun s => if c then f s else g s) := by
  split <;> assumption

theorem getCases {f : Entry → State → State × Reply} (hn : Sound p K g)
    (hf : ∀ e, Sound (ValueOk e.val) K (f e)) (hk : k ∈ K := by exact .head _) :
    Sound p K (fun s => match get s k with | none => g s | some e => f e s) :=
  readInv (a := fun s => get s k) (fun _ _ h => h k hk)
    (P := fun o => match o with | none => p | some e => ValueOk e.val)
    (fun s hp hs => by
      cases hg : get s k with
      | none => exact hp
      | some e => exact inv_get hs hg)
    (F := fun o s => match o with | none => g s | some e => f e s)
    fun o => match o with | none => hn | some _ => hf _

theorem sortCases {f : List BS → State → State × Reply} (hn : Sound p K g)
    (hf : ∀ es, Sound p K (f es)) (hk : k ∈ K := by exact .head _) :
    Sound p K (fun s => match sortSource s k with | none => g s | some es => f es s) :=
  read (a := fun s => sortSource s k) (fun _ _ h => by simp only [sortSource, h k hk])
    (F := fun o s => match o with | none => g s | some es => f es s)
    fun o => match o with | none => hn | some _ => hf _

variable {m w : State → State × Reply}

theorem strCases {f : BS → Option Nat → State → State × Reply}
    (hm : Sound p K m) (hw : Sound p K w) (hf : ∀ b dl, Sound p K (f b dl))
    (hk : k ∈ K := by exact .head _) :
    Sound p K (fun s => match lookupStr s k with
      | .missing => m s | .wrong => w s | .found b dl => f b dl s) :=
  read (a := fun s => lookupStr s k) (fun _ _ h => by simp only [lookupStr, h k hk])
    (F := fun (l : StrLookup) s => match l with | .missing => m s | .wrong => w s | .found b dl => f b dl s)
    fun l => match l with | .missing => hm | .wrong => hw | .found _ _ => hf _ _

/-- the primed forms are the same functions, their alternatives in the order `wrong`, `missing`,
    `found` that some commands of the model use -/
theorem strCases' {f : BS → Option Nat → State → State × Reply}
    (hw : Sound p K w) (hm : Sound p K m) (hf : ∀ b dl, Sound p K (f b dl))
    (hk : k ∈ K := by exact .head _) :
    Sound p K (fun s => match lookupStr s k with
      | .wrong => w s | .missing => m s | .found b dl => f b dl s) := by
  refine cast ?_ (strCases hm hw hf hk)
  congr; funext s; cases lookupStr s k <;> rfl

theorem listCases {f : List BS → Option Nat → State → State × Reply}
    (hm : Sound p K m) (hw : Sound p K w) (hf : ∀ l dl, Sound p K (f l dl))
    (hk : k ∈ K := by exact .head _) :
    Sound p K (fun s => match lookupList s k with
      | .missing => m s | .wrong => w s | .found l dl => f l dl s) :=
  read (a := fun s => lookupList s k) (fun _ _ h => by simp only [lookupList, h k hk])
    (F := fun (l : ListLookup) s => match l with | .missing => m s | .wrong => w s | .found l dl => f l dl s)
    fun l => match l with | .missing => hm | .wrong => hw | .found _ _ => hf _ _

theorem listCases' {f : List BS → Option Nat → State → State × Reply}
    (hw : Sound p K w) (hm : Sound p K m) (hf : ∀ l dl, Sound p K (f l dl))
    (hk : k ∈ K := by exact .head _) :
    Sound p K (fun s => match lookupList s k with
      | .wrong => w s | .missing => m s | .found l dl => f l dl s) := by
  refine cast ?_ (listCases hm hw hf hk)
  congr; funext s; cases lookupList s k <;> rfl

theorem setCases {f : MSet → Option Nat → State → State × Reply}
    (hm : Sound p K m) (hw : Sound p K w) (hf : ∀ x dl, Sound (WF x) K (f x dl))
    (hk : k ∈ K := by exact .head _) :
    Sound p K (fun s => match lookupSet s k with
      | .missing => m s | .wrong => w s | .found x dl => f x dl s) :=
  readInv (a := fun s => lookupSet s k) (fun _ _ h => by simp only [lookupSet, h k hk])
    (P := fun l => match l with | .found x _ => WF x | _ => p)
    (fun s hp hs => by
      cases hl : lookupSet s k with
      | found x dl => exact lookupSet_wf hs hl
      | _ => exact hp)
    (F := fun (l : SetLookup) s => match l with | .missing => m s | .wrong => w s | .found x dl => f x dl s)
    fun l => match l with | .missing => hm | .wrong => hw | .found _ _ => hf _ _

theorem setCases' {f : MSet → Option Nat → State → State × Reply}
    (hw : Sound p K w) (hm : Sound p K m) (hf : ∀ x dl, Sound (WF x) K (f x dl))
    (hk : k ∈ K := by exact .head _) :
    Sound p K (fun s => match lookupSet s k with
      | .wrong => w s | .missing => m s | .found x dl => f x dl s) := by
  refine cast ?_ (setCases hm hw hf hk)
  congr; funext s; cases lookupSet s k <;> rfl

theorem hashCases {f : MHash → Option Nat → State → State × Reply}
    (hm : Sound p K m) (hw : Sound p K w) (hf : ∀ x dl, Sound (WF x) K (f x dl))
    (hk : k ∈ K := by exact .head _) :
    Sound p K (fun s => match lookupHash s k with
      | .missing => m s | .wrong => w s | .found x dl => f x dl s) :=
  readInv (a := fun s => lookupHash s k) (fun _ _ h => by simp only [lookupHash, h k hk])
    (P := fun l => match l with | .found x _ => WF x | _ => p)
    (fun s hp hs => by
      cases hl : lookupHash s k with
      | found x dl => exact lookupHash_wf hs hl
      | _ => exact hp)
    (F := fun (l : HashLookup) s => match l with | .missing => m s | .wrong => w s | .found x dl => f x dl s)
    fun l => match l with | .missing => hm | .wrong => hw | .found _ _ => hf _ _

theorem hashCases' {f : MHash → Option Nat → State → State × Reply}
    (hw : Sound p K w) (hm : Sound p K m) (hf : ∀ x dl, Sound (WF x) K (f x dl))
    (hk : k ∈ K := by exact .head _) :
    Sound p K (fun s => match lookupHash s k with
      | .wrong => w s | .missing => m s | .found x dl => f x dl s) := by
  refine cast ?_ (hashCases hm hw hf hk)
  congr; funext s; cases lookupHash s k <;> rfl

theorem zCases {f : ZL → Option Nat → State → State × Reply}
    (hm : Sound p K m) (hw : Sound p K w) (hf : ∀ z dl, Sound (ZCanon z) K (f z dl))
    (hk : k ∈ K := by exact .head _) :
    Sound p K (fun s => match lookupZ s k with
      | .missing => m s | .wrong => w s | .found z dl => f z dl s) :=
  readInv (a := fun s => lookupZ s k) (fun _ _ h => by simp only [lookupZ, h k hk])
    (P := fun l => match l with | .found z _ => ZCanon z | _ => p)
    (fun s hp hs => by
      cases hl : lookupZ s k with
      | found z dl => exact lookupZ_canon hs hl
      | _ => exact hp)
    (F := fun (l : ZLookup) s => match l with | .missing => m s | .wrong => w s | .found z dl => f z dl s)
    fun l => match l with | .missing => hm | .wrong => hw | .found _ _ => hf _ _

theorem zCases' {f : ZL → Option Nat → State → State × Reply}
    (hw : Sound p K w) (hm : Sound p K m) (hf : ∀ z dl, Sound (ZCanon z) K (f z dl))
    (hk : k ∈ K := by exact .head _) :
    Sound p K (fun s => match lookupZ s k with
      | .wrong => w s | .missing => m s | .found z dl => f z dl s) := by
  refine cast ?_ (zCases hm hw hf hk)
  congr; funext s; cases lookupZ s k <;> rfl

theorem safe (h : Sound True K f) (s : State) : Safe s (f s) := ⟨h.inv trivial s, h.err s⟩

end Sound

open Sound Writes
variable {p : Prop} {K : List Nat} {k : Nat}

theorem sound_execSet (now : Nat) (v : BS) (c : SetCond) (e : SetExp) (g : Bool)
    (hk : k ∈ K := by exact .head _) : Sound p K (fun s => execSet s now k v c e g) :=
  ite keep <|
    iteObs (fun _ _ h => by simp only [wrongStr, lookupStr, h k hk]) keep <|
    iteObs (fun _ _ h => by simp only [h k hk])
      (keepObs fun _ _ h => by simp only [oldStrReply, lookupStr, h k hk])
      (putObs (fun _ _ h => by simp only [oldDl, h k hk])
        (fun _ _ h => by simp only [oldStrReply, lookupStr, h k hk]) (fun _ => trivial)
        (fun s => by cases g; exact rfl; exact oldStrReply_not_err s k) hk)

theorem sound_execIncrBy (d : Int) (hk : k ∈ K := by exact .head _) :
    Sound p K (fun s => execIncrBy s k d) := by
  refine strCases' keep (write (skip.put _ hk)) (fun b dl => ?_) hk
  split
  · exact keep
  · exact ite (write (skip.put _ hk)) keep

theorem sound_expireAt (now : Nat) (w : Int) (f : ExpFlags) (hk : k ∈ K := by exact .head _) :
    Sound p K (fun s => expireAt s now k w f) :=
  getCases keep (fun _ => ite keep (ite (write (skip.del hk)) (write (skip.put _ hk id)))) hk

theorem sound_ttl (f : Nat → Nat) (hk : k ∈ K := by exact .head _) :
    Sound p K (fun s => (s, ttlReply s k f)) :=
  keepObs fun _ _ h => by simp only [ttlReply, h k hk]

theorem sound_execPush (sd : Side) (vs : List BS) (hk : k ∈ K := by exact .head _) :
    Sound p K (fun s => execPush sd s k vs) := by
  cases vs
  · exact keep
  · exact listCases' keep (write (skip.putList _ _ hk)) (fun _ _ => write (skip.putList _ _ hk)) hk

theorem sound_execPop (sd : Side) (hk : k ∈ K := by exact .head _) :
    Sound p K (fun s => execPop sd s k) := by
  refine listCases keep keep (fun l dl => ?_) hk
  split
  · exact keep
  · exact write (skip.putList _ _ hk)

theorem sound_execLMove {a b : Nat} (f t : Side) (ha : a ∈ K) (hb : b ∈ K) :
    Sound p K (fun s => execLMove s a b f t) := by
  refine listCases keep keep (fun l dl => ?_) ha
  split
  · exact keep
  · exact ite (write (skip.putList _ _ ha)) <|
      listCases' keep (write ((skip.putList _ _ ha).putList _ _ hb))
        (fun _ _ => write ((skip.putList _ _ ha).putList _ _ hb)) hb

theorem sound_execSort (st : Option Nat) (hd : ∀ d, st = some d → d ∈ K)
    (hk : k ∈ K := by exact .head _) : Sound p K (fun s => execSort s k st) := by
  refine sortCases keep (fun es => ite keep ?_) hk
  cases st
  · exact keep
  · exact write (skip.putList _ _ (hd _ rfl))

theorem any_isSome_congr (kvs : List (Nat × BS)) (hK : ∀ p ∈ kvs, p.1 ∈ K) {s s' : State}
    (h : ∀ k ∈ K, get s k = get s' k) :
    (kvs.any fun p => (get s p.1).isSome) = (kvs.any fun p => (get s' p.1).isSome) := by
  induction kvs with
  | nil => rfl
  | cons kv kvs ih =>
    rw [List.any_cons, List.any_cons, h kv.1 (hK kv (.head _)), ih fun p hp => hK p (.tail _ hp)]

theorem sound_delKeys : ∀ (ks : List Nat), (∀ k ∈ ks, k ∈ K) → ∀ {p : Prop} (r : Nat → Reply),
    (∀ n, (r n).isError = false) → Sound p K (fun s => ((delKeys s ks).1, r (delKeys s ks).2))
  | [], _, _, r, _ => keep (r := r 0)
  | k :: ks, hK, _, r, hr => by
    have hk := hK k (.head _)
    have ih := @sound_delKeys ks fun x hx => hK x (.tail _ hx)
    have e : (fun s => ((delKeys s (k :: ks)).1, r (delKeys s (k :: ks)).2)) = fun s =>
        match get s k with
        | none => ((delKeys s ks).1, r (delKeys s ks).2)
        | some _ => ((delKeys (NMap.erase k s) ks).1, r ((delKeys (NMap.erase k s) ks).2 + 1)) := by
      funext s; simp only [delKeys]; cases get s k <;> rfl
    rw [e]
    exact getCases (ih r hr) (fun _ => after (skip.del hk) (ih (fun n => r (n + 1)) fun _ => hr _) fun _ => hr _) hk

/-- every command that names keys: locality, the invariant, and an error changes nothing -/
theorem exec_sound (now : Nat) (c : Cmd) (K : List Nat) (hK : cmdKeys c = some K) :
    Sound True K (fun s => exec s now c) := by
  -- `K` becomes the key list of the command (`sort` waits for its `store`); `hK` excludes the others
  cases c <;> first | (injection hK with hK <;> subst hK) | cases hK | skip
  case get k | strlen k | getrange k a b => exact strCases keep keep fun _ _ => keep
  case set k v c e g => exact sound_execSet now v c e g
  case setnx k v =>
    exact read (a := fun s => get s k) (fun _ _ h => h k (.head _))
      (F := fun o s => match o with
        | some _ => (s, .int 0) | none => (NMap.insert k ⟨.str v, none⟩ s, .int 1))
      fun o => match o with | none => write (skip.put _) | some _ => keep
  case append k v | getset k v => exact strCases (write (skip.put _)) keep fun _ _ => write (skip.put _)
  case mget ks =>
    exact keepObs fun _ _ h => congrArg Reply.arr <| List.map_congr_left fun k hk => by
      simp only [mgetElem, lookupStr, h k hk]
  case mset kvs => exact write (skip.msetAll kvs fun _ hp => List.mem_map_of_mem hp)
  case msetnx kvs =>
    have hK : ∀ p ∈ kvs, p.1 ∈ kvs.map (·.1) := fun _ hp => List.mem_map_of_mem hp
    exact iteObs (fun _ _ h => by rw [any_isSome_congr kvs hK h]) keep (write (skip.msetAll kvs hK))
  case setrange k o v =>
    exact strCases' keep (ite keep (ite keep (write (skip.put _))))
      fun _ _ => ite keep (ite keep (write (skip.put _)))
  case getex k o =>
    refine strCases keep keep fun _ _ => ?_
    split
    · exact keep
    · exact keep
    · exact write (skip.put _)
    · exact write (skip.put _)
  case getdel k => exact strCases keep keep fun _ _ => write skip.del
  case incr k | decr k | incrby k d => exact sound_execIncrBy _
  case decrby k d => exact ite keep (sound_execIncrBy _)
  case del ks => exact sound_delKeys ks (fun _ h => h) (fun n => .int n) fun _ => rfl
  case «exists» ks =>
    exact keepObs fun s s' h => by
      rw [List.filter_congr (q := fun k => (get s' k).isSome) fun k hk => by rw [h k hk]]
  case type k => exact getCases keep fun _ => keep
  case rename a b =>
    exact getCases keep fun e => ite keep (write (skip.del.put e (.tail _ (.head _)) id))
  case renamenx a b =>
    exact getCases keep fun e =>
      iteObs (fun _ _ h => by rw [h b (.tail _ (.head _))]) keep
        (write (skip.del.put e (.tail _ (.head _)) id))
  case expire k v f => exact ite keep (ite keep (ite keep (sound_expireAt ..)))
  case pexpire k v f | expireat k v f => exact ite keep (ite keep (sound_expireAt ..))
  case pexpireat k v f => exact ite keep (sound_expireAt ..)
  case ttl k | pttl k | expiretime k | pexpiretime k => exact sound_ttl _
  case persist k =>
    refine getCases keep fun e => ?_
    split
    · exact keep
    · exact write (skip.put _ (hv := id))
  case lpush k vs | rpush k vs => exact sound_execPush _ vs
  case lpop k | rpop k => exact sound_execPop _
  case llen k | lrange k a b => exact listCases keep keep fun _ _ => keep
  case lindex k i =>
    refine listCases keep keep fun l _ => ?_
    split
    · exact keep
    · split <;> exact keep
  case lset k i v =>
    refine listCases keep keep fun l _ => ?_
    split
    · exact keep
    · exact write (skip.putList _ _)
  case ltrim k a b => exact listCases keep keep fun _ _ => write (skip.putList _ _)
  case rpoplpush a b | lmove a b f t => exact sound_execLMove _ _ (.head _) (.tail _ (.head _))
  case sadd k ms =>
    cases ms
    · exact keep
    · exact setCases' keep (write (skip.putSet _ _ fun _ => wf_saddAll wf_nil _))
        fun _ _ => write (skip.putSet _ _ fun h => wf_saddAll h _)
  case srem k ms => exact setCases keep keep fun _ _ => write (skip.putSet _ _ fun h => wf_sremAll h _)
  case smembers k | sismember k m | scard k => exact setCases keep keep fun _ _ => keep
  case spop k n ch =>
    cases n
    · refine setCases keep keep fun m _ => ?_
      split
      · exact keep
      · split
        · exact ite (write (skip.putSet _ _ fun h => wf_erase h)) (write (skip.putSet _ _ fun h => wf_tail h))
        · exact write (skip.putSet _ _ fun h => wf_tail h)
    · refine setCases keep keep fun m _ => ite ?_ (write (skip.putSet _ _ fun h => wf_drop h _))
      split
      · rename_i hr
        exact write (skip.putSet _ _ fun h => wf_removeChosen h hr)
      · exact write (skip.putSet _ _ fun h => wf_drop h _)
  case hset k fvs =>
    cases fvs
    · exact keep
    · exact hashCases' keep (write (skip.putHash _ _ fun _ => wf_hsetAll wf_nil _))
        fun _ _ => write (skip.putHash _ _ fun h => wf_hsetAll h _)
  case hget k f =>
    refine hashCases keep keep fun h _ => ?_
    split <;> exact keep
  case hdel k fs => exact hashCases keep keep fun _ _ => write (skip.putHash _ _ fun h => wf_hdelAll h _)
  case hgetall k | hkeys k | hvals k | hlen k | hexists k f =>
    exact hashCases keep keep fun _ _ => keep
  case hincrby k f d =>
    refine hashCases' keep (write (skip.putHash _ _ fun _ => wf_insert wf_nil)) fun h _ => ?_
    split
    · exact keep
    · exact ite (write (skip.putHash _ _ fun h => wf_insert h)) keep
  case zadd k f ps =>
    refine ite keep ?_
    cases ps
    · exact keep
    · exact zCases' keep (ite keep (write (skip.putZ _ _ fun _ => canon_zaddAll canon_nil _)))
        fun _ _ => write (skip.putZ _ _ fun h => canon_zaddAll h _)
  case zrem k ms => exact zCases keep keep fun _ _ => write (skip.putZ _ _ fun h => canon_zremAll h _)
  case zrange k a b ws | zrevrange k a b ws | zcard k => exact zCases keep keep fun _ _ => keep
  case zscore k m | zrank k m =>
    refine zCases keep keep fun z _ => ?_
    split <;> exact keep
  case zcount k lo hi | zrangebyscore k lo hi ws lim =>
    cases lo <;> cases hi <;> first | exact keep | exact zCases keep keep fun _ _ => keep
  case sort k st =>
    cases st with
    | none =>
      simp only [cmdKeys, Option.some.injEq] at hK; subst hK
      exact sound_execSort none fun _ h => nomatch h
    | some d =>
      simp only [cmdKeys, Option.some.injEq] at hK; subst hK
      exact sound_execSort (some d) fun _ h => Option.some.inj h ▸ .tail _ (.head _)

/-- **locality of the reference executor**: every command that names keys reads and writes only
    those keys -/
theorem exec_localOn (now : Nat) (c : Cmd) (K : List Nat) (hK : cmdKeys c = some K) :
    LocalOn K (fun s => exec s now c) := (exec_sound now c K hK).toLocalOn

/-- the commands that name no key -/
theorem keyless_cases {c : Cmd} (hk : cmdKeys c = none) :
    c = .keys ∨ c = .dbsize ∨ c = .flushdb ∨ c = .flushall ∨ ∃ ch, c = .randomkey ch := by
  cases c
  case keys => exact .inl rfl
  case dbsize => exact .inr (.inl rfl)
  case flushdb => exact .inr (.inr (.inl rfl))
  case flushall => exact .inr (.inr (.inr (.inl rfl)))
  case randomkey ch => exact .inr (.inr (.inr (.inr ⟨ch, rfl⟩)))
  case sort k st => cases st <;> cases hk
  all_goals cases hk

theorem exec_wf (now : Nat) (c : Cmd) {s : State} (hs : WF s) : WF (exec s now c).1 := by
  cases hk : cmdKeys c with
  | some K => exact (exec_sound now c K hk).wf s hs
  | none =>
    obtain rfl | rfl | rfl | rfl | ⟨ch, rfl⟩ := keyless_cases hk
    · exact hs
    · exact hs
    · exact wf_nil
    · exact wf_nil
    · exact (execRandomKey_ro s ch).symm ▸ hs

theorem exec_ro {s : State} {now : Nat} {c : Cmd} (hr : isReadOnly c = true) :
    (exec s now c).1 = s := by
  cases c <;> try cases hr
  case get k => exact execGet_ro ..
  case strlen k => exact execStrLen_ro ..
  case getrange k a b => exact execGetRange_ro ..
  case type k => exact execType_ro ..
  case randomkey ch => exact execRandomKey_ro ..
  case mget ks | «exists» ks | keys | dbsize | ttl k | pttl k | expiretime k | pexpiretime k => rfl
  case llen k => exact execLLen_ro ..
  case lindex k i => exact execLIndex_ro ..
  case lrange k a b => exact execLRange_ro ..
  case smembers k => exact execSMembers_ro ..
  case sismember k m => exact execSIsMember_ro ..
  case scard k => exact execSCard_ro ..
  case hget k f => exact execHGet_ro ..
  case hgetall k => exact execHGetAll_ro ..
  case hkeys k => exact execHKeys_ro ..
  case hvals k => exact execHVals_ro ..
  case hlen k => exact execHLen_ro ..
  case hexists k f => exact execHExists_ro ..
  case zrange k a b ws | zrevrange k a b ws => exact execZRange_ro ..
  case zscore k m => exact execZScore_ro ..
  case zrank k m => exact execZRank_ro ..
  case zcard k => exact execZCard_ro ..
  case zcount k lo hi => exact execZCount_ro ..
  case zrangebyscore k lo hi ws lim => exact execZRangeByScore_ro ..

end RedisVerif.Redis
