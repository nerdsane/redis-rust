/-!
  Facts about `List`, `Nat`, `Option` and `if` that more than one area uses and that core does not state
  in this form.  Nothing of the models is imported; a fact that mentions a definition of the development
  lives with that definition.
-/
namespace RedisVerif

theorem ite_eq_some {α : Type} {p : Prop} [Decidable p] {x y : Option α} {c : α} :
    (if p then x else y) = some c ↔ p ∧ x = some c ∨ ¬p ∧ y = some c := by
  split <;> simp [*]

theorem foldl_add_init (l : List Nat) (x : Nat) : l.foldl (· + ·) x = x + l.foldl (· + ·) 0 := by
  simpa using List.foldl_assoc (op := (· + · : Nat → Nat → Nat)) (l := l) (a₁ := x) (a₂ := 0)

theorem filter_map_nil {α β : Type} {f : α → β} {p : β → Bool} (h : ∀ a, p (f a) = false) (l : List α) :
    (l.map f).filter p = [] :=
  List.filter_eq_nil_iff.mpr (fun b hb => by obtain ⟨a, _, rfl⟩ := List.mem_map.mp hb; simp [h a])

/-! ### a list with one position replaced -/

theorem getElem?_set_cases {α : Type} {l : List α} {i j : Nat} {x y : α}
    (h : (l.set i x)[j]? = some y) : (j = i ∧ y = x) ∨ (j ≠ i ∧ l[j]? = some y) := by
  rw [List.getElem?_set] at h
  split at h
  · rename_i hij
    split at h
    · exact Or.inl ⟨hij.symm, (Option.some.inj h).symm⟩
    · cases h
  · rename_i hij
    exact Or.inr ⟨fun e => hij e.symm, h⟩

theorem list_set_same {α : Type} {l : List α} {i : Nat} {x : α} (h : l[i]? = some x) : l.set i x = l := by
  obtain ⟨hi, rfl⟩ := List.getElem?_eq_some_iff.mp h
  exact List.set_getElem_self hi

theorem map_set_same {α β : Type} {f : α → β} {l : List α} {i : Nat} {x x' : α} (h : l[i]? = some x)
    (hf : f x' = f x) : (l.set i x').map f = l.map f := by
  rw [List.map_set, hf]
  exact list_set_same (by simp [List.getElem?_map, h])

theorem mem_set_of_mem {α : Type} {l : List α} {n : Nat} {a b x : α} (hn : l[n]? = some a) (h : x ∈ l) :
    x ∈ l.set n b ∨ x = a := by
  obtain ⟨i, hi⟩ := List.mem_iff_getElem?.mp h
  by_cases hin : i = n
  · exact Or.inr (Option.some.inj ((hin ▸ hi).symm.trans hn))
  · exact Or.inl (List.mem_iff_getElem?.mpr ⟨i, by rw [List.getElem?_set_ne (Ne.symm hin)]; exact hi⟩)

theorem mem_set_self {α : Type} {l : List α} {n : Nat} {a b : α} (hn : l[n]? = some a) : b ∈ l.set n b :=
  List.mem_set (List.getElem?_eq_some_iff.mp hn).1 b

end RedisVerif
