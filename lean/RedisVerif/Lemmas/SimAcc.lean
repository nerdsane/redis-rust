import RedisVerif.Lemmas.SimCluster

/-!
  Copy accounting for the simulator cluster: as long as nothing is lost — no outbox overflow, no
  gossip round while a partition exists, no packet loss — every delta a node recorded is, for every
  node its gossip round sends it to (everybody else, or the targets of its router), still in the
  origin's outbox, or in flight to that node, or absorbed by it.  Hence: outboxes and queue empty ⇒
  delivered to every destination.
-/
namespace RedisVerif
namespace SimC
open Gossip Cluster

/-- this event loses nothing in state `c` (sufficient, decidable) -/
def Calm (cfg : Cfg) (c : Sim) : SEv → Prop
  | .exec i op => ∀ nd, c.nodes[i]? = some nd → nd.ps.pending.length + op.lops.length ≤ cfg.pendingCap
  | .gossip oracle => c.parts = [] ∧ ∀ p ∈ oracle, p.1 = false
  | _ => True

instance (cfg : Cfg) (c : Sim) (e : SEv) : Decidable (Calm cfg c e) := by
  cases e <;> simp only [Calm] <;> infer_instance

/-- every event of the run is calm in the state it meets -/
def CalmRun (H : AE.Hasher) (cfg : Cfg) : Sim → List SEv → Prop
  | _, [] => True
  | c, e :: es => Calm cfg c e ∧ CalmRun H cfg (c.step H cfg e) es

instance (H : AE.Hasher) (cfg : Cfg) : ∀ (c : Sim) (evs : List SEv), Decidable (CalmRun H cfg c evs)
  | _, [] => isTrue trivial
  | c, e :: es =>
    have := instDecidableCalmRun H cfg (c.step H cfg e) es
    by unfold CalmRun; infer_instance

/-- the nodes the gossip round of node `o` sends a delta of key `k` to -/
def destsOf (routers : List (Option Router)) (n o k : Nat) : List Nat :=
  match routers[o]? with
  | some (some r) =>
    if r.selective then (r.targetsOf k).map (· - 1)
    else (List.range n).filter (· ≠ o)
  | _ => (List.range n).filter (· ≠ o)

/-- the nodes the gossip round of `m`'s origin sends `m` to -/
def dests (routers : List (Option Router)) (n : Nat) (m : Msg) : List Nat := destsOf routers n m.origin m.key

structure SAcc (c : Sim) : Prop where
  /-- a delta in the outbox of node `i` was recorded there -/
  porg : ∀ (i : Nat) (nd : SNode), c.nodes[i]? = some nd → ∀ m ∈ nd.ps.pending, m.origin = i
  /-- every recorded delta was recorded by an existing node -/
  iorg : ∀ m ∈ c.issued, m.origin < c.nodes.length
  acc : ∀ m ∈ c.issued, ∀ j ∈ dests c.routers c.nodes.length m, j < c.nodes.length →
    (∃ nd : SNode, c.nodes[m.origin]? = some nd ∧ m ∈ nd.ps.pending) ∨
    (∃ f ∈ c.queue, f.dst = j ∧ m ∈ f.deltas) ∨
    (⟨j, m.key, m.val⟩ : Absorbed) ∈ c.log

theorem acc_init (n : Nat) (causal : Bool) (routers : List (Option Router)) (autoAE : Bool) :
    SAcc (Sim.init n causal routers autoAE) := by
  constructor
  · intro i nd hnd m hm
    have hmem := List.mem_of_getElem? hnd
    simp only [Sim.init, List.mem_map, List.mem_range] at hmem
    obtain ⟨x, _, rfl⟩ := hmem
    simp [SNode.init, PShard.init] at hm
  · intro m hm; simp [Sim.init] at hm
  · intro m hm; simp [Sim.init] at hm

theorem routeSelective_complete (r : Router) (deltas : List Msg) (d : Msg) (hd : d ∈ deltas) (t : Nat)
    (ht : t ∈ r.targetsOf d.key) : ∃ row, (t, row) ∈ routeSelective r deltas ∧ d ∈ row := by
  obtain ⟨row, hg, hm⟩ := mem_rowOf.mp ((mem_rowOf_routeSelective r deltas t d).mpr ⟨hd, ht⟩)
  exact ⟨row, NMap.mem_of_get hg, hm⟩

theorem sendsOf_complete (routers : List (Option Router)) (n src : Nat) (ds : List Msg) (m : Msg) (hm : m ∈ ds)
    (hsrc : m.origin = src) (j : Nat) (hj : j ∈ dests routers n m) :
    ∃ p ∈ Sim.sendsOf routers n src ds, p.1 = j ∧ m ∈ p.2 := by
  have hne : ds.isEmpty = false := by cases ds with | nil => cases hm | cons _ _ => rfl
  unfold Sim.sendsOf
  simp only [hne, Bool.false_eq_true, if_false]
  unfold dests destsOf at hj
  rw [hsrc] at hj
  have bc : j ∈ (List.range n).filter (· ≠ src) →
      ∃ p ∈ ((List.range n).filter (· ≠ src)).map (fun t => (t, ds)), p.1 = j ∧ m ∈ p.2 := by
    intro h
    exact ⟨(j, ds), List.mem_map.mpr ⟨j, h, rfl⟩, rfl, hm⟩
  cases hr : routers[src]? with
  | none => rw [hr] at hj; simp only [hr]; exact bc hj
  | some ro =>
    rw [hr] at hj
    cases ro with
    | none => simp only [hr]; exact bc hj
    | some r =>
      simp only [hr]
      simp only at hj
      by_cases hs : r.selective = true
      · simp only [hs, if_true] at hj ⊢
        simp only [List.mem_map] at hj
        obtain ⟨t, ht, rfl⟩ := hj
        obtain ⟨row, hrow, hmr⟩ := routeSelective_complete r ds m hm t ht
        exact ⟨(t - 1, row), List.mem_map.mpr ⟨(t, row), hrow, rfl⟩, rfl, hmr⟩
      · simp only [hs, Bool.false_eq_true, if_false] at hj ⊢
        exact bc hj

theorem sendFold_complete (now : Nat) (sends : List (Nat × Nat × List Msg)) :
    ∀ (acc : List Flight × List (Bool × Nat)), (∀ p ∈ acc.2, p.1 = false) →
    ∀ sp ∈ sends, ∃ f ∈ (sends.foldl (fun acc sp => Sim.sendOne [] now acc sp.1 sp.2) acc).1,
      f.dst = sp.2.1 ∧ f.deltas = sp.2.2 := by
  intro acc hor sp hsp
  obtain ⟨new, e, _, hall⟩ := sendFold_spec [] now sends acc
  obtain ⟨f, hf, h⟩ := hall hor sp hsp rfl
  exact ⟨f, by rw [e]; exact List.mem_append_right _ hf, h⟩

theorem deliverFlights_log (fs : List Flight) : ∀ (c : Sim),
    (∀ a ∈ c.log, a ∈ (fs.foldl Sim.deliverFlight c).log) ∧
    (fs.foldl Sim.deliverFlight c).nodes.length = c.nodes.length ∧
    (fs.foldl Sim.deliverFlight c).routers = c.routers ∧
    (∀ f ∈ fs, f.dst < c.nodes.length → ∀ m ∈ f.deltas,
      (⟨f.dst, m.key, m.val⟩ : Absorbed) ∈ (fs.foldl Sim.deliverFlight c).log) := by
  induction fs with
  | nil => intro c; exact ⟨fun a ha => ha, rfl, rfl, fun f hf => by cases hf⟩
  | cons g fs ih =>
    intro c
    have ha := applied_deliverFlights (g :: fs) c
    refine ⟨ha.log, ha.len, ha.routers, ?_⟩
    intro f hf hlt m hm
    rw [List.foldl_cons]
    rcases List.mem_cons.mp hf with rfl | h5
    · apply (applied_deliverFlights fs _).log
      simp only [Sim.deliverFlight, List.getElem?_eq_getElem hlt]
      exact List.mem_append_right _ (List.mem_map.mpr ⟨m, hm, rfl⟩)
    · exact (ih _).2.2.2 f h5 (by rw [(applied_deliverFlight c g).len]; exact hlt) m hm

theorem record_pending (cap i : Nat) : ∀ (ops : List LOp) (ps : PShard) (acc : List Msg),
    ps.pending.length + ops.length ≤ cap →
    ∃ ds, (ops.foldl (recF cap i) (ps, acc)).2 = acc ++ ds ∧
      (ops.foldl (recF cap i) (ps, acc)).1.pending = ps.pending ++ ds ∧ ∀ m ∈ ds, m.origin = i := by
  intro ops ps acc hl
  obtain ⟨ds, h1, h2, _, _, h5⟩ := record_spec cap i ops ps acc
  exact ⟨ds, h1, h5 hl, h2⟩

theorem deliverFlights_pending (fs : List Flight) : ∀ (c : Sim), (∀ nd ∈ c.nodes, nd.ps.pending = []) →
    (∀ nd ∈ (fs.foldl Sim.deliverFlight c).nodes, nd.ps.pending = []) ∧
    (fs.foldl Sim.deliverFlight c).issued = c.issued ∧ (fs.foldl Sim.deliverFlight c).queue = c.queue := by
  intro c h
  have ha := applied_deliverFlights fs c
  refine ⟨fun nd' hnd' => ?_, ha.issued, ha.queue⟩
  obtain ⟨i, hi⟩ := List.getElem?_of_mem hnd'
  obtain ⟨nd, hnd, hp⟩ := ha.pending hi
  rw [hp]; exact h nd (List.mem_of_getElem? hnd)

theorem syncStep_shape (H : AE.Hasher) (cfg : Cfg) (c : Sim) (a b : Nat) :
    (Sim.syncStep H cfg c a b).issued = c.issued ∧ (Sim.syncStep H cfg c a b).queue = c.queue ∧
    (Sim.syncStep H cfg c a b).routers = c.routers ∧ (Sim.syncStep H cfg c a b).nodes.length = c.nodes.length ∧
    (∀ x ∈ c.log, x ∈ (Sim.syncStep H cfg c a b).log) ∧
    (∀ (i : Nat) (nd' : SNode), (Sim.syncStep H cfg c a b).nodes[i]? = some nd' →
      ∃ nd, c.nodes[i]? = some nd ∧ nd'.ps.pending = nd.ps.pending) :=
  have ha := applied_syncStep H cfg c a b
  ⟨ha.issued, ha.queue, ha.routers, ha.len, ha.log, fun _ _ h => ha.pending h⟩

theorem SAcc.applied {D : Msg → Prop} {c c' : Sim} (h : SAcc c) (ha : Applied D c c') : SAcc c' := by
  constructor
  · intro i nd' hnd' m hm
    obtain ⟨nd, hnd, hp⟩ := ha.pending hnd'
    rw [hp] at hm
    exact h.porg i nd hnd m hm
  · intro m hm
    rw [ha.issued] at hm; rw [ha.len]; exact h.iorg m hm
  · intro m hm j hj hjn
    rw [ha.issued] at hm
    rw [ha.routers, ha.len] at hj
    rw [ha.len] at hjn
    rcases h.acc m hm j hj hjn with ⟨nd, hnd, hmp⟩ | ⟨f, hf, hfd, hfm⟩ | hg
    · left
      have hlt : m.origin < c'.nodes.length := by
        rw [ha.len]; exact (List.getElem?_eq_some_iff.mp hnd).1
      obtain ⟨nd0, hnd0, hp⟩ := ha.pending (List.getElem?_eq_getElem hlt)
      rw [hnd] at hnd0
      cases hnd0
      exact ⟨_, List.getElem?_eq_getElem hlt, by rw [hp]; exact hmp⟩
    · right; left; exact ⟨f, by rw [ha.queue]; exact hf, hfd, hfm⟩
    · right; right; exact ha.log _ hg

theorem sacc_step (H : AE.Hasher) (cfg : Cfg) (c : Sim) (h : SAcc c) (e : SEv) (hc : Calm cfg c e) :
    SAcc (c.step H cfg e) := by
  cases e with
  | exec i op =>
    cases hn : c.nodes[i]? with
    | none => rw [step_exec_none H cfg hn]; exact h
    | some nd =>
      obtain ⟨ds, h1, h2, h3⟩ := record_pending cfg.pendingCap i op.lops nd.ps [] (hc nd hn)
      have hilt : i < c.nodes.length := (List.getElem?_eq_some_iff.mp hn).1
      rw [step_exec H cfg hn, record_eq]
      rw [List.nil_append] at h1
      rw [h1]
      constructor
      · intro i' nd' hnd' m hm
        rcases getElem?_set_cases hnd' with ⟨rfl, rfl⟩ | ⟨_, h4⟩
        · simp only [h2, List.mem_append] at hm
          rcases hm with h5 | h5
          · exact h.porg _ nd hn m h5
          · exact h3 m h5
        · exact h.porg i' nd' h4 m hm
      · intro m hm
        simp only [List.length_set]
        rcases List.mem_append.mp hm with h5 | h5
        · exact h.iorg m h5
        · rw [h3 m h5]; exact hilt
      · intro m hm j hj hjn
        simp only [List.length_set] at hj hjn
        -- the new deltas, and the old ones still queued at `i`, sit in `i`'s outbox
        have hout : ∀ m, m ∈ nd.ps.pending ∨ m ∈ ds →
            ∃ nd' : SNode, (c.nodes.set i ⟨(op.lops.foldl (recF cfg.pendingCap i) (nd.ps, [])).1,
              SNode.kvExec nd.kv op⟩)[i]? = some nd' ∧ m ∈ nd'.ps.pending :=
          fun m hm => ⟨_, List.getElem?_set_self hilt, by simp only [h2, List.mem_append]; exact hm⟩
        rcases List.mem_append.mp hm with hm | hm
        · rcases h.acc m hm j hj hjn with ⟨nd0, hnd0, hmp⟩ | ⟨f, hf, hfd, hfm⟩ | hg
          · left
            by_cases ho : m.origin = i
            · rw [ho] at hnd0 ⊢
              rw [hn] at hnd0; cases hnd0
              exact hout m (Or.inl hmp)
            · exact ⟨nd0, by simp only; rw [List.getElem?_set_ne (Ne.symm ho)]; exact hnd0, hmp⟩
          · right; left; exact ⟨f, hf, hfd, hfm⟩
          · right; right; exact List.mem_append_left _ hg
        · left
          rw [h3 m hm]
          exact hout m (Or.inr hm)
  | gossip oracle =>
    obtain ⟨hparts, hor⟩ := hc
    rw [step_gossip]
    generalize hq : sentQueue c oracle = q
    -- what is in the queue after the sends
    have hold : ∀ f ∈ c.queue, f ∈ q := by
      intro f hf
      obtain ⟨new, e, _⟩ := sendFold_spec c.parts c.now _ (c.queue, oracle)
      rw [← hq, sentQueue, e]; exact List.mem_append_left _ hf
    have hnew : ∀ m, ∀ j ∈ dests c.routers c.nodes.length m, ∀ nd : SNode,
        c.nodes[m.origin]? = some nd → m ∈ nd.ps.pending → ∃ f ∈ q, f.dst = j ∧ m ∈ f.deltas := by
      intro m j hj nd hnd hmp
      have holt : m.origin < c.nodes.length := (List.getElem?_eq_some_iff.mp hnd).1
      obtain ⟨p, hp, hpj, hpm⟩ := sendsOf_complete c.routers c.nodes.length m.origin nd.ps.pending m hmp rfl j hj
      have hsp : (m.origin, p) ∈ (List.range c.nodes.length).flatMap fun src =>
          (Sim.sendsOf c.routers c.nodes.length src ((c.nodes.map fun nd => nd.ps.pending)[src]?.getD [])).map
            fun p => (src, p) := by
        simp only [List.mem_flatMap, List.mem_map, List.mem_range]
        exact ⟨m.origin, holt, p, by simpa [List.getElem?_map, hnd] using hp, rfl⟩
      simp only [sentQueue, hparts] at hq
      obtain ⟨f, hf, hfd, hfm⟩ := sendFold_complete c.now _ (c.queue, oracle) hor _ hsp
      rw [hq] at hf
      exact ⟨f, hf, by rw [hfd, hpj], by rw [hfm]; exact hpm⟩
    have ha := applied_deliverFlights (Sim.popReady c.parts c.now q).1 (drained c (Sim.popReady c.parts c.now q).2)
    have hl4 := (deliverFlights_log (Sim.popReady c.parts c.now q).1 (drained c (Sim.popReady c.parts c.now q).2)).2.2.2
    have hlen0 : (drained c (Sim.popReady c.parts c.now q).2).nodes.length = c.nodes.length := by simp [drained]
    constructor
    · intro i nd' hnd' m hm
      obtain ⟨nd, hnd, hp⟩ := ha.pending hnd'
      rw [hp] at hm
      have := List.mem_of_getElem? hnd
      simp only [drained, List.mem_map] at this
      obtain ⟨x, _, rfl⟩ := this
      cases hm
    · intro m hm
      rw [ha.issued] at hm
      rw [ha.len, hlen0]
      exact h.iorg m hm
    · intro m hm j hj hjn
      rw [ha.issued] at hm
      rw [ha.routers, ha.len, hlen0] at hj
      rw [ha.len, hlen0] at hjn
      -- where the copy for `j` is after the sends
      have hin : (∃ f ∈ q, f.dst = j ∧ m ∈ f.deltas) ∨ (⟨j, m.key, m.val⟩ : Absorbed) ∈ c.log := by
        rcases h.acc m hm j hj hjn with ⟨nd, hnd, hmp⟩ | ⟨f, hf, hfd, hfm⟩ | hg
        · exact Or.inl (hnew m j hj nd hnd hmp)
        · exact Or.inl ⟨f, hold f hf, hfd, hfm⟩
        · exact Or.inr hg
      rcases hin with ⟨f, hf, hfd, hfm⟩ | hg
      · rw [← popReady_split c.parts c.now q] at hf
        rcases List.mem_append.mp hf with h1 | h1
        · right; right
          have := hl4 f h1 (by rw [hlen0, hfd]; exact hjn) m hfm
          rw [hfd] at this
          exact this
        · right; left
          exact ⟨f, by rw [ha.queue]; exact h1, hfd, hfm⟩
      · right; right
        exact ha.log _ hg
  | _ =>
    exact step_ae H cfg (fun x _ _ hx => ⟨hx.porg, hx.iorg, hx.acc⟩)
      (fun x a b hx => hx.applied (applied_syncStep H cfg x a b)) c h _ rfl

theorem sacc_run (H : AE.Hasher) (cfg : Cfg) (evs : List SEv) : ∀ (c : Sim), SAcc c → CalmRun H cfg c evs →
    SAcc (c.run H cfg evs) := by
  induction evs with
  | nil => intro c h _; exact h
  | cons e evs ih =>
    intro c h hc
    exact ih _ (sacc_step H cfg c h e hc.1) hc.2

theorem delivered_of_quiet (c : Sim) (h : SAcc c) (hq : c.queue = [])
    (hp : ∀ nd ∈ c.nodes, nd.ps.pending = []) :
    ∀ m ∈ c.issued, ∀ j ∈ dests c.routers c.nodes.length m, j < c.nodes.length →
      (⟨j, m.key, m.val⟩ : Absorbed) ∈ c.log := by
  intro m hm j hj hjn
  rcases h.acc m hm j hj hjn with ⟨nd, hnd, hmp⟩ | ⟨f, hf, _, _⟩ | hg
  · rw [hp nd (List.mem_of_getElem? hnd)] at hmp; cases hmp
  · rw [hq] at hf; cases hf
  · exact hg

end SimC
end RedisVerif
