import RedisVerif.Model.Shards7
import RedisVerif.Lemmas.Shards
import RedisVerif.Lemmas.RedisLocal

/-!
  The sharding model instantiated with the M7 reference executor (`Model/Shards7.lean`): locality is a
  theorem, the multi-key commands the sharding model executes itself coincide with M7's, which shards
  a message reaches (`recv`).  Time is in `Lemmas/ShardsTime.lean`.
-/
namespace RedisVerif
namespace Shards
namespace M7

open NMap
open Redis (Entry LocalOn cmdKeys exec_localOn live purge)

theorem exec1_pos {s : Store sig7.Val} {k : Key} {op : sig7.Op} (h : cmdKeys op.2 = some [k]) :
    exec7.exec1 s k op = ((Redis.exec s op.1 op.2).1, .one (.ext (Redis.exec s op.1 op.2).2)) := by
  show (if cmdKeys op.2 = some [k] then _ else _) = _
  rw [if_pos h]

theorem exec1_neg {s : Store sig7.Val} {k : Key} {op : sig7.Op} (h : ¬ cmdKeys op.2 = some [k]) :
    exec7.exec1 s k op = (s, .one (.err 0)) := by
  show (if cmdKeys op.2 = some [k] then _ else _) = _
  rw [if_neg h]

theorem exec2_pos {s : Store sig7.Val} {a b : Key} {op : sig7.Op2} (h : cmdKeys op.2 = some [a, b]) :
    exec7.exec2 s a b op = ((Redis.exec s op.1 op.2).1, .one (.ext (Redis.exec s op.1 op.2).2)) := by
  show (if cmdKeys op.2 = some [a, b] then _ else _) = _
  rw [if_pos h]

theorem exec2_neg {s : Store sig7.Val} {a b : Key} {op : sig7.Op2} (h : ¬ cmdKeys op.2 = some [a, b]) :
    exec7.exec2 s a b op = (s, .one (.err 0)) := by
  show (if cmdKeys op.2 = some [a, b] then _ else _) = _
  rw [if_neg h]

/-- **the locality law of the sharding model holds for the M7 reference executor** -/
theorem exec7_local : Exec.Local exec7 where
  wf1 := by
    intro s k op hs
    by_cases h : cmdKeys op.2 = some [k]
    · rw [exec1_pos h]; exact (exec_localOn op.1 op.2 [k] h).wf s hs
    · rw [exec1_neg h]; exact hs
  frame1 := by
    intro s k op k' hs hk
    by_cases h : cmdKeys op.2 = some [k]
    · rw [exec1_pos h]; exact (exec_localOn op.1 op.2 [k] h).frame s k' hs (by simpa using hk)
    · rw [exec1_neg h]
  local1 := by
    intro s s' k op hs hs' hg
    by_cases h : cmdKeys op.2 = some [k]
    · rw [exec1_pos h, exec1_pos h]
      obtain ⟨e1, e2⟩ := (exec_localOn op.1 op.2 [k] h).loc s s' hs hs' (by simpa using hg)
      exact ⟨by show Reply.one (.ext _) = Reply.one (.ext _); rw [e1], e2 k (by simp)⟩
    · rw [exec1_neg h, exec1_neg h]; exact ⟨rfl, hg⟩
  wf2 := by
    intro s a b op hs
    by_cases h : cmdKeys op.2 = some [a, b]
    · rw [exec2_pos h]; exact (exec_localOn op.1 op.2 [a, b] h).wf s hs
    · rw [exec2_neg h]; exact hs
  frame2 := by
    intro s a b op k' hs hka hkb
    by_cases h : cmdKeys op.2 = some [a, b]
    · rw [exec2_pos h]; exact (exec_localOn op.1 op.2 [a, b] h).frame s k' hs (by simp [hka, hkb])
    · rw [exec2_neg h]
  local2 := by
    intro s s' a b op hs hs' hga hgb
    by_cases h : cmdKeys op.2 = some [a, b]
    · rw [exec2_pos h, exec2_pos h]
      obtain ⟨e1, e2⟩ := (exec_localOn op.1 op.2 [a, b] h).loc s s' hs hs'
        (by intro k hk; simp at hk; rcases hk with rfl | rfl <;> assumption)
      exact ⟨by show Reply.one (.ext _) = Reply.one (.ext _); rw [e1], e2 a (by simp), e2 b (by simp)⟩
    · rw [exec2_neg h, exec2_neg h]; exact ⟨rfl, hga, hgb⟩

/-- `inject now c` is a one- or two-key message that carries `c` and names exactly `cmdKeys c` — such a
    command is `Routable7` iff its keys share a shard — or `c` is one of the ten commands the sharding
    model executes itself -/
inductive InjView (now : Nat) : Redis.Cmd → Cmd sig7 → Prop
  | single {c : Redis.Cmd} {k : Nat} (hk : cmdKeys c = some [k]) (hr : ∀ R, Routable7 R c = true) :
    InjView now c (.single k (now, c))
  | two {c : Redis.Cmd} {a b : Nat} (hk : cmdKeys c = some [a, b])
    (hr : ∀ R, Routable7 R c = (R.bytes a == R.bytes b)) : InjView now c (.two a b (now, c))
  | mget (ks) : InjView now (.mget ks) (.mget ks)
  | mset (kvs) : InjView now (.mset kvs) (.mset kvs)
  | msetnx (kvs) : InjView now (.msetnx kvs) (.msetnx kvs)
  | del (ks) : InjView now (.del ks) (.del ks)
  | exists (ks) : InjView now (.exists ks) (.exists ks)
  | keys : InjView now .keys (.keys ())
  | dbsize : InjView now .dbsize .dbsize
  | flushdb : InjView now .flushdb .flush
  | flushall : InjView now .flushall .flush
  | randomkey (ch) : InjView now (.randomkey ch) .randomkey

theorem inject_view (now : Nat) (c : Redis.Cmd) : InjView now c (inject now c) := by
  cases c
  case rename | renamenx | rpoplpush | lmove => exact .two rfl fun _ => rfl
  case sort k st =>
    cases st
    · exact .single rfl fun _ => rfl
    · exact .two rfl fun _ => rfl
  case mget | mset | msetnx | del | «exists» | keys | dbsize | flushdb | flushall | randomkey => constructor
  all_goals exact .single rfl fun _ => rfl

/-- on one executor only KEYS answers with a key list and only RANDOMKEY with a random key -/
theorem exec7_reply_kind (s : Store sig7.Val) (sc : Cmd sig7) :
    (∀ l, (exec7.exec s sc).2 = .keys l → ∃ p, sc = .keys p) ∧
    (∀ o, (exec7.exec s sc).2 = .rkey o → sc = .randomkey) := by
  have no : ∀ {r : Reply}, (∀ l, r ≠ .keys l) → (∀ o, r ≠ .rkey o) →
      (∀ l, r = .keys l → ∃ p, sc = .keys p) ∧ (∀ o, r = .rkey o → sc = .randomkey) :=
    fun h1 h2 => ⟨fun l h => absurd h (h1 l), fun o h => absurd h (h2 o)⟩
  have one : ∀ (r : R1), (∀ l, Reply.one r = .keys l → ∃ p, sc = .keys p) ∧
      (∀ o, Reply.one r = .rkey o → sc = .randomkey) := fun _ => no nofun nofun
  cases sc with
  | keys p => exact ⟨fun _ _ => ⟨p, rfl⟩, nofun⟩
  | randomkey => exact ⟨nofun, fun _ _ => rfl⟩
  | single k op =>
    show (∀ l, (exec7.exec1 s k op).2 = _ → _) ∧ (∀ o, (exec7.exec1 s k op).2 = _ → _)
    by_cases h : cmdKeys op.2 = some [k]
    · rw [exec1_pos h]; exact one _
    · rw [exec1_neg h]; exact one _
  | two a b op =>
    show (∀ l, (exec7.exec2 s a b op).2 = _ → _) ∧ (∀ o, (exec7.exec2 s a b op).2 = _ → _)
    by_cases h : cmdKeys op.2 = some [a, b]
    · rw [exec2_pos h]; exact one _
    · rw [exec2_neg h]; exact one _
  | msetnx kvs => rw [exec_msetnx]; split <;> exact one _
  | scan c p n =>
    show (∀ l, scanStore exec7 s c p n = _ → _) ∧ (∀ o, scanStore exec7 s c p n = _ → _)
    unfold scanStore
    dsimp only
    split <;> exact no nofun nofun
  | mget | batchGet | batchSet => exact no nofun nofun
  | mset | del | «exists» | dbsize | flush | fastGet | fastSet => exact one _

theorem inject_eq_keys {now : Nat} {c : Redis.Cmd} {p : Unit} (h : inject now c = .keys p) : c = .keys := by
  have v := inject_view now c
  rw [h] at v
  cases v; rfl

theorem inject_eq_randomkey {now : Nat} {c : Redis.Cmd} (h : inject now c = .randomkey) :
    ∃ ch, c = .randomkey ch := by
  have v := inject_view now c
  rw [h] at v
  cases v; exact ⟨_, rfl⟩

theorem elemOf_mgetSlot (s : Store sig7.Val) (k : Nat) : elemOf (mgetSlot exec7 s k) = Redis.mgetElem s k := by
  unfold mgetSlot Redis.mgetElem Redis.lookupStr
  cases get s k with
  | none => rfl
  | some e =>
    obtain ⟨v, dl⟩ := e
    cases v <;> rfl

theorem foldl_setStr_eq (kvs : List (Nat × Bytes)) (s : Store sig7.Val) :
    kvs.foldl (setStr exec7) s = Redis.msetAll s kvs := by
  induction kvs generalizing s with
  | nil => rfl
  | cons kv kvs ih => obtain ⟨k, v⟩ := kv; exact ih _

theorem delKeys_eq (ks : List Nat) (s : Store sig7.Val) (hs : WF s) :
    (Shards.delKeys s ks).1 = (Redis.delKeys s ks).1 ∧ (Shards.delKeys s ks).2 = (Redis.delKeys s ks).2 := by
  induction ks generalizing s with
  | nil => exact ⟨rfl, rfl⟩
  | cons k ks ih =>
    cases hg : get s k with
    | none =>
      have e0 : Redis.delKeys s (k :: ks) = Redis.delKeys s ks := by simp only [Redis.delKeys, hg]
      have e3 : Shards.delKeys s (k :: ks) = ((Shards.delKeys s ks).1, 0 + (Shards.delKeys s ks).2) := by
        simp only [Shards.delKeys, present, hg, erase_of_get_none hs hg]; rfl
      obtain ⟨e1, e2⟩ := ih s hs
      rw [e0, e3]
      exact ⟨e1, by simp [e2]⟩
    | some e =>
      have e0 : Redis.delKeys s (k :: ks) =
          ((Redis.delKeys (erase k s) ks).1, (Redis.delKeys (erase k s) ks).2 + 1) := by
        simp only [Redis.delKeys, hg]
      have e3 : Shards.delKeys s (k :: ks) =
          ((Shards.delKeys (erase k s) ks).1, 1 + (Shards.delKeys (erase k s) ks).2) := by
        simp only [Shards.delKeys, present, hg]; rfl
      obtain ⟨e1, e2⟩ := ih _ (wf_erase (k := k) hs)
      rw [e0, e3]
      exact ⟨e1, by simp only [e2]; omega⟩

/-- the sharding model's view of an M7 command on ONE executor is the M7 command -/
theorem exec7_inject (s : Store sig7.Val) (now : Nat) (c : Redis.Cmd) (hs : WF s) (hr : ∀ ch, c ≠ .randomkey ch) :
    (exec7.exec s (inject now c)).1 = (Redis.exec s now c).1 ∧
    replyEqv7 (exec7.exec s (inject now c)).2 (Redis.exec s now c).2 = true := by
  have v := inject_view now c
  generalize inject now c = sc at v ⊢
  cases v with
  | single hk _ =>
    show (exec7.exec1 s _ (now, c)).1 = _ ∧ replyEqv7 (exec7.exec1 s _ (now, c)).2 _ = true
    rw [exec1_pos (op := (now, c)) hk]
    exact ⟨rfl, by simp [replyEqv7, toM7]⟩
  | two hk _ =>
    show (exec7.exec2 s _ _ (now, c)).1 = _ ∧ replyEqv7 (exec7.exec2 s _ _ (now, c)).2 _ = true
    rw [exec2_pos (op := (now, c)) hk]
    exact ⟨rfl, by simp [replyEqv7, toM7]⟩
  | mget ks =>
    refine ⟨rfl, ?_⟩
    show replyEqv7 (.many (ks.map (mgetSlot exec7 s))) (.arr (ks.map (Redis.mgetElem s))) = true
    simp only [replyEqv7, toM7, List.map_map]
    have : ks.map (elemOf ∘ mgetSlot exec7 s) = ks.map (Redis.mgetElem s) :=
      List.map_congr_left (fun k _ => elemOf_mgetSlot s k)
    simp [this]
  | mset kvs => exact ⟨foldl_setStr_eq kvs s, rfl⟩
  | msetnx kvs =>
    show (if kvs.any (fun p => (get s p.1).isSome) then (s, Reply.one (.int 0))
          else (kvs.foldl (setStr exec7) s, .one (.int 1))).1 =
        (if kvs.any (fun p => (get s p.1).isSome) then (s, Redis.Reply.int 0) else (Redis.msetAll s kvs, .int 1)).1 ∧
      replyEqv7 (if kvs.any (fun p => (get s p.1).isSome) then (s, Reply.one (.int 0))
          else (kvs.foldl (setStr exec7) s, .one (.int 1))).2
        (if kvs.any (fun p => (get s p.1).isSome) then (s, Redis.Reply.int 0) else (Redis.msetAll s kvs, .int 1)).2 = true
    rw [foldl_setStr_eq]
    split <;> exact ⟨rfl, rfl⟩
  | del ks =>
    obtain ⟨e1, e2⟩ := delKeys_eq ks s hs
    refine ⟨e1, ?_⟩
    show replyEqv7 (.one (.int (Shards.delKeys s ks).2)) (.int (Redis.delKeys s ks).2) = true
    rw [e2]; simp [replyEqv7, toM7]
  | «exists» ks =>
    refine ⟨rfl, ?_⟩
    show replyEqv7 (.one (.int (ks.filter (fun k => (get s k).isSome)).length))
      (.int (ks.filter (fun k => (get s k).isSome)).length) = true
    simp [replyEqv7, toM7]
  | keys =>
    refine ⟨rfl, ?_⟩
    show replyEqv7 (.keys ((NMap.keys s).filter (fun _ => true))) (.arr (s.map (fun p => Redis.Elem.key p.1))) = true
    rw [List.filter_eq_self.mpr (fun _ _ => rfl)]
    simp only [replyEqv7, NMap.keys, List.isPerm_iff, List.map_map]
    exact List.Perm.refl _
  | dbsize => exact ⟨rfl, by show replyEqv7 (.one (.int s.length)) (.int s.length) = true; simp [replyEqv7, toM7]⟩
  | flushdb | flushall => exact ⟨rfl, rfl⟩
  | randomkey ch => exact absurd rfl (hr ch)

theorem recv_all (R : Routes) (now : Nat) (c : Redis.Cmd) (h : cmdKeys c = none) (i : Nat) :
    recv R (inject now c) i = true := by
  have v := inject_view now c
  generalize inject now c = sc at v ⊢
  cases v with
  | single hk _ | two hk _ => rw [hk] at h; cases h
  | mget | mset | msetnx | del | «exists» => cases h
  | keys | dbsize | flushdb | flushall | randomkey => rfl

theorem recv_covers (R : Routes) (now : Nat) (c : Redis.Cmd) (hr : Routable7 R c = true) (K : List Nat)
    (hK : cmdKeys c = some K) (k : Nat) (hk : k ∈ K) : recv R (inject now c) (R.bytes k) = true := by
  have v := inject_view now c
  generalize inject now c = sc at v ⊢
  cases v with
  | single h _ =>
    rw [h] at hK; cases hK
    rw [List.mem_singleton.mp hk]
    exact beq_self_eq_true _
  | two h hab =>
    -- the message goes to the home of the first key; `Routable7`: the second lives there too
    rw [h] at hK; cases hK
    rw [hab] at hr
    simp only [List.mem_cons, List.not_mem_nil, or_false] at hk
    rcases hk with rfl | rfl
    · exact beq_self_eq_true _
    · exact hr
  | mget ks | «exists» ks => injection hK with hK; subst hK; exact List.any_eq_true.mpr ⟨k, hk, beq_self_eq_true _⟩
  | mset kvs =>
    injection hK with hK; subst hK
    obtain ⟨kv, hkv, e⟩ := List.mem_map.mp hk
    exact List.any_eq_true.mpr ⟨kv, hkv, by simp [e]⟩
  | del ks =>
    injection hK with hK; subst hK
    show (if ks.length > 1 then ks.any (fun k' => R.bytes k' == R.bytes k)
      else cmdShard R true (Cmd.del (S := sig7) ks) == R.bytes k) = true
    split
    · exact List.any_eq_true.mpr ⟨k, hk, beq_self_eq_true _⟩
    · match ks, hk with
      | [a], hk => rw [List.mem_singleton.mp hk]; exact beq_self_eq_true _
      | _ :: _ :: _, _ => rename_i h; simp at h
  | msetnx kvs =>
    injection hK with hK; subst hK
    match kvs, hk, hr with
    | kv :: rest, hk, hr =>
      show (R.bytes kv.1 == R.bytes k) = true
      simp only [List.map_cons, List.mem_cons] at hk
      rcases hk with rfl | hk
      · exact beq_self_eq_true _
      · obtain ⟨x, hx, rfl⟩ := List.mem_map.mp hk
        rw [beq_iff_eq, ← beq_iff_eq.mp (List.all_eq_true.mp hr x hx)]
  | keys | dbsize | flushdb | flushall | randomkey => cases hK

end M7
end Shards
end RedisVerif
