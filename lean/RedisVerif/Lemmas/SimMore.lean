import RedisVerif.Model.SimMore
import RedisVerif.Lemmas.Sim

/-!
Helper lemmas for the whole-run statements of C20 (Props/C20.lean, T4): a run does not depend on
the hidden inputs the model makes explicit.
-/
namespace RedisVerif
namespace SimMoreLemmas
open SimRng SimHarness SimMore SimLemmas

/-! ## the node-map order through a whole `DSTSimulation` / `RedisDSTSimulation` run

In the current code the order `pi` reaches a step only through `crashedNodes true pi`, a sorted list:
the recovery loop, hence the step, is the same FUNCTION for any two orders, and every loop around a
step follows by rewriting the step. -/

section
variable {σ : Type} (S : Sampler σ) {pi pi' : List Nat}

theorem recoverLoop_perm (c : DstCfg) (hs : c.sortedNodes = true) (hp : pi.Perm pi') :
    recoverLoop S c pi = recoverLoop S c pi' := by
  funext d
  unfold recoverLoop crashedNodes
  rw [hs, if_pos rfl, if_pos rfl, sortNat_perm_invariant _ _ (hp.filter _)]

theorem dstStep_perm (c : DstCfg) (hs : c.sortedNodes = true) (hp : pi.Perm pi') :
    dstStep S c pi = dstStep S c pi' := by
  funext d
  unfold dstStep
  rw [recoverLoop_perm S c hs hp]

theorem redisStep_perm (c : RCfg) (hs : c.dst.sortedNodes = true) (hp : pi.Perm pi') :
    redisStep S c pi = redisStep S c pi' := by
  funext s
  unfold redisStep
  rw [dstStep_perm S c.dst hs hp]

theorem redisLoop_perm (c : RCfg) (hs : c.dst.sortedNodes = true) (hp : pi.Perm pi') (fuel : Nat) :
    redisLoop S c pi fuel = redisLoop S c pi' fuel := by
  induction fuel with
  | zero => rfl
  | succ n ih =>
    funext s
    rw [redisLoop, redisLoop, redisStep_perm S c hs hp, ih]

end

/-- the states of `ops` consecutive steps over ANY sampler -/
def dstRun {σ} (S : Sampler σ) (c : DstCfg) (pi : List Nat) : Nat → Dst σ → Except String (Dst σ) :=
  repeatM (dstStep S c pi)

theorem dstLoop_perm (c : DstCfg) {pi pi' : List Nat} (hs : c.sortedNodes = true) (hp : pi.Perm pi') (fuel : Nat) :
    dstLoop c pi fuel = dstLoop c pi' fuel := by
  induction fuel with
  | zero => rfl
  | succ n ih =>
    funext k d acc
    rw [dstLoop, dstLoop, dstStep_perm chacha c hs hp, ih]

/-! ## scenario timing: the executor cannot influence it -/

section
variable {ε ρ ε' ρ' : Type}

/-- what two scenario states over different executors share -/
def ScSim (s : ScSt ε ρ) (s' : ScSt ε' ρ') : Prop :=
  s.rng = s'.rng ∧ s.now = s'.now ∧
    s.recs.map (fun x => (x.client, x.inv, x.done)) = s'.recs.map (fun x => (x.client, x.inv, x.done))

variable (exec : ε → Nat → Nat → ε × ρ) (exec' : ε' → Nat → Nat → ε' × ρ') (c : ScCfg)
  {s : ScSt ε ρ} {s' : ScSt ε' ρ'}

theorem ScSim.setNow (h : ScSim s s') (t : Nat) (e : ε) (e' : ε') :
    ScSim { s with now := t, ex := e } { s' with now := t, ex := e' } := ⟨h.1, rfl, h.2.2⟩

theorem ScSim.execute (h : ScSim s s') (idx client t : Nat) :
    ScSim (scExecute exec c idx client { s with now := t }) (scExecute exec' c idx client { s' with now := t }) := by
  unfold scExecute ScSim
  simp only [h.1, List.map_cons, h.2.2, and_self]

theorem scRun_sim (ops : List (Nat × ScOp)) (h : ScSim s s') : ScSim (scRun exec c ops s) (scRun exec' c ops s') := by
  induction ops generalizing s s' with
  | nil => exact h
  | cons p rest ih => exact ih (h.execute exec exec' c p.1 p.2.client p.2.time)

theorem scEvictLoop_sim (evict : ε → Nat → ε) (evict' : ε' → Nat → ε') (maxTime fuel : Nat) (ops : List (Nat × ScOp))
    (nextEv : Nat) (h : ScSim s s') :
    ScSim (scEvictLoop exec evict c maxTime fuel ops nextEv s) (scEvictLoop exec' evict' c maxTime fuel ops nextEv s') := by
  induction fuel generalizing ops nextEv s s' with
  | zero => exact h
  | succ n ih =>
    unfold scEvictLoop
    -- both sides branch on the script, the eviction clock and `now`: the same branch
    rw [h.2.1]
    split
    · exact h
    · split
      · exact ih _ _ (h.execute exec exec' c _ _ _)
      · exact ih _ _ (h.setNow _ _ _)
    · split
      · exact ih _ _ (h.setNow _ _ _)
      · exact h
    · exact ih _ _ (h.execute exec exec' c _ _ _)

end

theorem harnessLoop_ops {τ ω : Type} (store : τ → WOp → τ × ω) :
    ∀ (ops : List WOp) (t : τ), (harnessLoop store ops t).map (·.1) = ops
  | [], _ => rfl
  | o :: rest, t => congrArg (o :: ·) (harnessLoop_ops store rest (store t o).1)

theorem find?_isNone_perm {α} (p : α → Bool) (l l' : List α) (h : l.Perm l') :
    (l.find? p).isNone = (l'.find? p).isNone := by
  rw [Bool.eq_iff_iff]
  simp only [Option.isNone_iff_eq_none, List.find?_eq_none, h.mem_iff]

theorem hashCheck_isOk (fmt : NSet → String) (impl : Impl) (expected pi : NSet) :
    isOk (hashCheck fmt impl expected pi) = hashCheckOk impl expected pi := by
  unfold hashCheck hashCheckOk bne
  -- the five tests in the order the code makes them; the error texts play no role
  generalize (impl.len == expected.length) = c1
  generalize (impl.isEmpty == expected.isEmpty) = c2
  generalize pi.find? (fun f => !impl.exists_ f) = o3
  generalize (impl.keys == expected) = c4
  generalize pi.find? (fun f => !impl.getSome f) = o5
  cases c1
  · rfl
  cases c2
  · rfl
  cases o3 with
  | some _ => rfl
  | none =>
    cases c4
    · rfl
    cases o5 <;> rfl

end SimMoreLemmas
end RedisVerif
