import RedisVerif.Lemmas.SimAcc

/-!
  Two quiet rounds empty the simulator cluster: with no partition in place and every flight due
  within `D` ms, `advance D; gossip_round; advance D; gossip_round` (= `converge(2)` with delays
  ≤ `D`) leaves every outbox and the message queue empty — everything that was recorded before has
  been handed to its destinations.
-/
namespace RedisVerif
namespace SimC
open Gossip Cluster

theorem popReady_all (now : Nat) : ∀ (q : List Flight), (∀ f ∈ q, f.due ≤ now) → Sim.popReady [] now q = (q, []) := by
  intro q
  induction q with
  | nil => intro _; rfl
  | cons m q ih =>
    intro h
    have hm := h m (by simp)
    have hc : Sim.canComm [] m.src m.dst = true := rfl
    simp only [Sim.popReady, hm, hc, and_self, if_true]
    rw [ih (fun f hf => h f (List.mem_cons_of_mem _ hf))]

theorem popReady_append (now : Nat) : ∀ (old new : List Flight), (∀ f ∈ old, f.due ≤ now) →
    Sim.popReady [] now (old ++ new) = (old ++ (Sim.popReady [] now new).1, (Sim.popReady [] now new).2) := by
  intro old
  induction old with
  | nil => intro new _; rfl
  | cons m old ih =>
    intro new h
    have hm := h m (by simp)
    have hc : Sim.canComm [] m.src m.dst = true := rfl
    simp only [List.cons_append, Sim.popReady, hm, hc, and_self, if_true]
    rw [ih new (fun f hf => h f (List.mem_cons_of_mem _ hf))]

theorem gossip_step_shape (H : AE.Hasher) (cfg : Cfg) (c : Sim) (oracle : List (Bool × Nat)) :
    (∀ nd ∈ (c.step H cfg (.gossip oracle)).nodes, nd.ps.pending = []) ∧
    (c.step H cfg (.gossip oracle)).queue = (Sim.popReady c.parts c.now (sentQueue c oracle)).2 ∧
    (c.step H cfg (.gossip oracle)).now = c.now ∧ (c.step H cfg (.gossip oracle)).parts = c.parts := by
  rw [step_gossip]
  have ha := applied_deliverFlights (Sim.popReady c.parts c.now (sentQueue c oracle)).1
    (drained c (Sim.popReady c.parts c.now (sentQueue c oracle)).2)
  refine ⟨(deliverFlights_pending _ _ ?_).1, ha.queue, ha.now, ha.parts⟩
  intro nd hnd
  simp only [drained, List.mem_map] at hnd
  obtain ⟨x, _, rfl⟩ := hnd
  rfl

theorem gossip_round_due (H : AE.Hasher) (cfg : Cfg) (c : Sim) (oracle : List (Bool × Nat)) (D : Nat) (hD : 1 ≤ D)
    (hparts : c.parts = []) (hdue : ∀ f ∈ c.queue, f.due ≤ c.now) (hor : ∀ p ∈ oracle, p.2 ≤ D) :
    (∀ nd ∈ (c.step H cfg (.gossip oracle)).nodes, nd.ps.pending = []) ∧
    (∀ f ∈ (c.step H cfg (.gossip oracle)).queue, f.due ≤ c.now + D) ∧
    (c.step H cfg (.gossip oracle)).now = c.now ∧ (c.step H cfg (.gossip oracle)).parts = [] := by
  obtain ⟨new, hq, hnew, _⟩ := sendFold_spec c.parts c.now _ (c.queue, oracle)
  obtain ⟨h1, h2, h3, h4⟩ := gossip_step_shape H cfg c oracle
  refine ⟨h1, ?_, h3, by rw [h4]; exact hparts⟩
  intro f hf
  rw [h2, sentQueue, hq, hparts, popReady_append c.now c.queue new hdue] at hf
  -- a new flight is due after a delay the oracle names, or after 1 ms
  obtain ⟨_, _, o, ho, rfl⟩ := hnew f (mem_popReady (Or.inr hf))
  exact Nat.add_le_add_left (ho.elim (hor o) fun h => by rw [h]; exact hD) c.now

theorem gossip_round_flush (H : AE.Hasher) (cfg : Cfg) (c : Sim) (oracle : List (Bool × Nat))
    (hparts : c.parts = []) (hdue : ∀ f ∈ c.queue, f.due ≤ c.now) (hp : ∀ nd ∈ c.nodes, nd.ps.pending = []) :
    (∀ nd ∈ (c.step H cfg (.gossip oracle)).nodes, nd.ps.pending = []) ∧ (c.step H cfg (.gossip oracle)).queue = [] := by
  have hsends : ((List.range c.nodes.length).flatMap fun src =>
      (Sim.sendsOf c.routers c.nodes.length src ((c.nodes.map fun nd => nd.ps.pending)[src]?.getD [])).map
        fun p => (src, p)) = [] := by
    apply List.flatMap_eq_nil_iff.mpr
    intro src _
    have : ((c.nodes.map fun nd => nd.ps.pending)[src]?.getD []) = [] := by
      simp only [List.getElem?_map]
      cases hs : c.nodes[src]? with
      | none => rfl
      | some nd => simp [hp nd (List.mem_of_getElem? hs)]
    rw [this]
    simp [Sim.sendsOf]
  have hq : sentQueue c oracle = c.queue := by simp only [sentQueue, hsends]; rfl
  obtain ⟨h1, h2, _, _⟩ := gossip_step_shape H cfg c oracle
  refine ⟨h1, ?_⟩
  rw [h2, hq, hparts, popReady_all c.now c.queue hdue]

/-- `converge(2)` with delays ≤ `D` = `advance D; gossip; advance D; gossip` -/
def quiesce (D : Nat) (o1 o2 : List (Bool × Nat)) : List SEv := [.advance D, .gossip o1, .advance D, .gossip o2]

/-- **two rounds empty the cluster** -/
theorem quiesce_quiet (H : AE.Hasher) (cfg : Cfg) (c : Sim) (D : Nat) (o1 o2 : List (Bool × Nat)) (hD : 1 ≤ D)
    (hparts : c.parts = []) (hdue : ∀ f ∈ c.queue, f.due ≤ c.now + D) (hor : ∀ p ∈ o1, p.2 ≤ D) :
    (∀ nd ∈ (c.run H cfg (quiesce D o1 o2)).nodes, nd.ps.pending = []) ∧ (c.run H cfg (quiesce D o1 o2)).queue = [] := by
  simp only [quiesce, Sim.run, List.foldl_cons, List.foldl_nil]
  obtain ⟨p2, q2, n2, r2⟩ := gossip_round_due H cfg (c.step H cfg (.advance D)) o1 D hD hparts hdue hor
  -- the state after round 1 is named: the second round only needs the four facts about it
  generalize (c.step H cfg (.advance D)).step H cfg (.gossip o1) = c2 at p2 q2 n2 r2 ⊢
  refine gossip_round_flush H cfg (c2.step H cfg (.advance D)) o2 r2 (fun f hf => ?_) p2
  have hnow : (c2.step H cfg (.advance D)).now = c2.now + D := rfl
  rw [hnow, n2]
  exact q2 f hf

theorem quiesce_calm (H : AE.Hasher) (cfg : Cfg) (c : Sim) (D : Nat) (o1 o2 : List (Bool × Nat)) (hD : 1 ≤ D)
    (hparts : c.parts = []) (hdue : ∀ f ∈ c.queue, f.due ≤ c.now + D)
    (ho1 : ∀ p ∈ o1, p.1 = false ∧ p.2 ≤ D) (ho2 : ∀ p ∈ o2, p.1 = false) :
    CalmRun H cfg c (quiesce D o1 o2) := by
  obtain ⟨_, _, _, r2⟩ := gossip_round_due H cfg (c.step H cfg (.advance D)) o1 D hD hparts hdue
    (fun p hp => (ho1 p hp).2)
  refine ⟨trivial, ⟨hparts, fun p hp => (ho1 p hp).1⟩, ?_⟩
  generalize (c.step H cfg (.advance D)).step H cfg (.gossip o1) = c2 at r2 ⊢
  exact ⟨trivial, ⟨r2, ho2⟩, trivial⟩

end SimC
end RedisVerif
