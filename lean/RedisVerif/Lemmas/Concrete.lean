import RedisVerif.Lemmas.Bincode
import RedisVerif.Lemmas.Crc32
import RedisVerif.Lemmas.Codec
import RedisVerif.Lemmas.Wal

/-
  Glue between the concrete parameters (`crc := Driver.crc32`, `ser/de :=` the bincode model) and
  the abstract framing lemmas: the width hypotheses on checksums (`… < 2^32`) hold because CRC-32 of
  a byte string is a 32-bit value, and what the writers hash are byte strings.
-/
namespace RedisVerif
namespace Concrete

open Wal Codec Bincode Driver Crc

theorem bytes_of_allBytes {bs : Bytes} (h : allBytes bs = true) : ∀ b ∈ bs, b < 256 := (allBytes_iff bs).mp h

theorem allBytes_of_bytes {bs : Bytes} (h : ∀ b ∈ bs, b < 256) : allBytes bs = true := (allBytes_iff bs).mpr h

theorem allBytes_records (ps : List Bytes) (h : ∀ p ∈ ps, allBytes p = true) : allBytes (records ps) = true := by
  unfold records
  apply allBytes_flatMap
  intro p hp
  unfold record
  rw [allBytes_append, allBytes_le, h p hp]; rfl

theorem allBytes_segCovered (n a b : Nat) : allBytes (segCovered n a b) = true := by
  unfold segCovered segMagic
  rw [allBytes_append, allBytes_append, allBytes_append, allBytes_append, allBytes_le, allBytes_le, allBytes_le]; rfl

theorem allBytes_covered (fmt : Format) (len ts : Nat) (d : Bytes) (h : allBytes d = true) :
    allBytes (covered fmt len ts d) = true := by
  cases fmt with
  | v1 => exact h
  | v2 => simp only [covered]; rw [allBytes_append, allBytes_append, allBytes_le, allBytes_le, h]; rfl

/-- the crc conditions of `SegFits` hold for CRC-32 whenever the payloads are byte strings -/
theorem segFits_crc32 (ps : List Bytes) (ts : List Nat) (hn : ps.length < 2 ^ 32)
    (hp : ∀ p ∈ ps, p.length < 2 ^ 32) (hb : ∀ p ∈ ps, allBytes p = true) : SegFits crc32 ps ts :=
  ⟨hn, hp, crc32_lt _ (bytes_of_allBytes (allBytes_segCovered _ _ _)),
    crc32_lt _ (bytes_of_allBytes (allBytes_records ps hb))⟩

theorem allBytes_chkCovered (k t l : Nat) : allBytes (chkCoveredA ++ chkCoveredB k t l) = true := by
  unfold chkCoveredA chkCoveredB chkMagic
  rw [allBytes_append, allBytes_append, allBytes_append, allBytes_append, allBytes_le, allBytes_le, allBytes_le]; rfl

theorem chkFits_crc32 (k t l : Nat) (payload : Bytes) (hl : payload.length < 2 ^ 32) (hb : allBytes payload = true) :
    ChkFits crc32 k t l payload :=
  ⟨hl, crc32_lt _ (bytes_of_allBytes (allBytes_chkCovered k t l)), crc32_lt _ (bytes_of_allBytes hb),
    crc32_lt _ (bytes_of_allBytes (by rw [allBytes_append, allBytes_le, allBytes_le]; rfl))⟩

/-- an encoding is never empty -/
theorem enc_ne_nil {α : Type} {c : Codec α} (hc : Lawful c) (a : α) : (c.enc a).length ≠ 0 := by
  have := hc.cells_lt a
  omega

theorem dec_enc {α : Type} {c : Codec α} (hc : Lawful c) (a : α) (ha : c.ok a) :
    c.dec (c.enc a) = some (a, []) := by
  have := hc.rt a [] ha
  rwa [List.append_nil] at this

/-- `de (ser d) = some d` for the bincode codec of deltas -/
theorem deDelta_enc (d : WDelta) (hd : delta.ok d) : deDelta (delta.enc d) = some d := by
  rw [deDelta, dec_enc lawful_delta d hd]; rfl

theorem deState_enc (s : WState) (hs : state.ok s) : deState (state.enc s) = some s := by
  rw [deState, dec_enc lawful_state s hs]; rfl

theorem set_append_right (a b : Bytes) (i v : Nat) : (a ++ b).set (a.length + i) v = a ++ b.set i v := by
  rw [List.set_append, if_neg (by omega)]
  congr 2
  omega

theorem set_append_left (a b : Bytes) (i v : Nat) (h : i < a.length) : (a ++ b).set i v = a.set i v ++ b := by
  rw [List.set_append, if_pos h]

/-- the checksummed bytes of a v2 entry: 12 bytes of length and stamp, then the payload -/
theorem covered_v2_eq (n ts : Nat) (d : Bytes) : covered .v2 n ts d = (le 4 n ++ le 8 ts) ++ d := by
  simp [covered]

end Concrete
end RedisVerif
