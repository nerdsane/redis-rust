import RedisVerif.Model.ConnSim
import RedisVerif.Lemmas.ConnWrite

/-
  The mirror (`SimulatedConnection::process`) is the C15 buffer loop `feedAll` (`simFold_feedAll`); on a
  well-formed pipeline it therefore decodes the frames that `Conn.execAll` executes (`simRun_wf`).
-/
namespace RedisVerif.ConnSim
open RedisVerif.Resp RedisVerif.Conn

def valsOf : List Frame → List Val
  | [] => []
  | .val v :: r => v :: valsOf r
  | _ :: r => valsOf r

theorem valsOf_append (a b : List Frame) : valsOf (a ++ b) = valsOf a ++ valsOf b := by
  induction a with
  | nil => rfl
  | cons x xs ih => cases x <;> simp [valsOf, ih]

/-- every frame is a value the command parser accepts -/
def AllVal (cmdErr : Val → Bool) (fs : List Frame) : Prop := ∀ fr ∈ fs, ∃ v, fr = .val v ∧ cmdErr v = false

theorem AllVal.append_left {cmdErr : Val → Bool} {a b : List Frame} (h : AllVal cmdErr (a ++ b)) : AllVal cmdErr a :=
  fun fr hf => h fr (by simp [hf])

theorem AllVal.append_right {cmdErr : Val → Bool} {a b : List Frame} (h : AllVal cmdErr (a ++ b)) : AllVal cmdErr b :=
  fun fr hf => h fr (by simp [hf])

/-- where the C15 buffer loop yields only accepted values and stays alive, the mirror's inner loop
    executes exactly those values and keeps the same rest -/
theorem simLoop_drain (env : Env) (cmdErr : Val → Bool) : ∀ (f : Nat) (buf : Bytes),
    (drain (fun b => (parse1 env b).out) f buf).2.2 = false →
    AllVal cmdErr (drain (fun b => (parse1 env b).out) f buf).1 →
    simLoop env cmdErr f buf =
      (valsOf (drain (fun b => (parse1 env b).out) f buf).1, (drain (fun b => (parse1 env b).out) f buf).2.1, false) := by
  intro f
  induction f with
  | zero => intro buf _ _; simp [simLoop, drain, valsOf]
  | succ f ih =>
    intro buf hd ha
    unfold simLoop
    unfold drain at hd ha ⊢
    cases hout : (parse1 env buf).out with
    | ok v k =>
      simp only [hout] at hd ha ⊢
      obtain ⟨v', hv, hce⟩ := ha (.val v) (by simp)
      cases hv
      simp only [hce, Bool.false_eq_true, if_false]
      have := ih (buf.drop k) hd (fun fr hf => ha fr (by simp [hf]))
      rw [this]
      simp [valsOf]
    | incomplete i => simp [valsOf]
    | error e => simp [hout] at hd
    | crash e => simp [hout] at hd

theorem feed_dead (p : Bytes → Outcome) (st : FeedSt) (c : Bytes) (h : st.dead = true) : feed p st c = st := by
  simp [feed, h]

theorem feedAll_dead (p : Bytes → Outcome) (cs : List Bytes) (st : FeedSt) (h : st.dead = true) : feedAll p st cs = st :=
  TraceInv.run_inv (feed p) (· = st) (fun _ c hs => hs ▸ feed_dead p st c h) st rfl cs

theorem feed_live (p : Bytes → Outcome) (st : FeedSt) (c : Bytes) (h : st.dead = false) :
    feed p st c = ⟨st.frames ++ (drain p ((st.buf ++ c).length + 1) (st.buf ++ c)).1,
      (drain p ((st.buf ++ c).length + 1) (st.buf ++ c)).2.1, (drain p ((st.buf ++ c).length + 1) (st.buf ++ c)).2.2⟩ := by
  simp [feed, h]

/-- read by read: the mirror against the C15 buffer loop -/
theorem simFold_feedAll (env : Env) (cmdErr : Val → Bool) : ∀ (chunks : List Bytes) (st : FeedSt),
    st.dead = false →
    (feedAll (fun b => (parse1 env b).out) st chunks).dead = false →
    AllVal cmdErr (feedAll (fun b => (parse1 env b).out) st chunks).frames →
    chunks.foldl (simRead env cmdErr) ⟨valsOf st.frames, st.buf, false⟩ =
      ⟨valsOf (feedAll (fun b => (parse1 env b).out) st chunks).frames,
       (feedAll (fun b => (parse1 env b).out) st chunks).buf, false⟩ := by
  intro chunks st _ hfin hall
  -- The two loops go through the reads side by side, the mirror's state being the buffer loop's WHILE that
  -- is alive and has yielded accepted values only. A dead loop stays dead and frames are only added, so
  -- what is assumed of the last state holds of every state before it.
  refine List.foldl_rel (r := fun (m : SimSt) (s : FeedSt) =>
    s.dead = false → AllVal cmdErr s.frames → m = ⟨valsOf s.frames, s.buf, false⟩) (fun _ _ => rfl) ?_ hfin hall
  intro c _ m s ih hd1 hall1
  have hst : s.dead = false := by
    cases hdd : s.dead with
    | false => rfl
    | true => rw [feed_dead _ s c hdd, hdd] at hd1; exact hd1
  rw [feed_live _ s c hst] at hd1 hall1 ⊢
  rw [ih hst hall1.append_left]
  simp only [simRead, Bool.false_eq_true, if_false, valsOf_append,
    simLoop_drain env cmdErr _ _ hd1 hall1.append_right]

theorem execFrames_execAll (cmds : List Cmd) : execFrames (execAll cmds) = cmds.map cmdFrame := by
  induction cmds with
  | nil => rfl
  | cons c cs ih =>
    simp only [execAll, List.map_cons, execFrames] at ih ⊢
    rw [ih]

theorem stream_eq_flatten (cmds : List Cmd) : stream cmds = ((cmds.map cmdFrame).map encode2).flatten := by
  simp only [stream, List.map_map]
  rfl

/-- the mirror executes every command of a well-formed pipeline exactly once, in order, however the
    bytes are cut into reads (its `read()` returns the pending data or a random prefix of it) -/
theorem simRun_wf (env : Env) (cmdErr : Val → Bool) (hd : 2 ≤ env.depth) (cmds : List Cmd) (chunks : List Bytes)
    (h : chunks.flatten = stream cmds) (hs : Small (stream cmds))
    (hce : ∀ c ∈ cmds, cmdErr (cmdFrame c) = false) :
    simRun env cmdErr chunks = ⟨cmds.map cmdFrame, [], false⟩ := by
  have hok : ∀ v ∈ cmds.map cmdFrame, ConnW.ValOK codec1 env v := by
    intro v hv
    obtain ⟨c, _, rfl⟩ := List.mem_map.1 hv
    refine ⟨by simp [cmdFrame, Val.wf, wfList_bulk], ?_, by simp [cmdFrame, Val.arr, arrList_bulk, maxNesting]⟩
    have := depthList_bulk c
    simp only [cmdFrame, Val.depth]
    omega
  have hfe := ConnW.feedAll_encoded codec1 (Or.inl rfl) env (by omega) (cmds.map cmdFrame) hok chunks
    (by rw [h, stream_eq_flatten]) (by rw [← stream_eq_flatten]; exact hs)
  have hfe' : feedAll (fun b => (parse1 env b).out) FeedSt.init chunks =
      ⟨(cmds.map cmdFrame).map (fun v => Frame.val v.san), [], false⟩ := hfe
  have hall : AllVal cmdErr (feedAll (fun b => (parse1 env b).out) FeedSt.init chunks).frames := by
    rw [hfe']
    intro fr hf
    simp only [List.mem_map] at hf
    obtain ⟨v, ⟨c, hc, rfl⟩, rfl⟩ := hf
    exact ⟨cmdFrame c, by rw [san_cmdFrame], hce c hc⟩
  have := simFold_feedAll env cmdErr chunks FeedSt.init rfl (by rw [hfe']) hall
  unfold simRun SimSt.init
  rw [hfe'] at this
  simp only [FeedSt.init, valsOf] at this
  rw [this]
  simp only [SimSt.mk.injEq, and_true]
  have hv : ∀ (l : List Cmd), valsOf ((l.map cmdFrame).map (fun v => Frame.val v.san)) = l.map cmdFrame := by
    intro l
    induction l with
    | nil => rfl
    | cons c cs ih => simp only [List.map_cons, valsOf, san_cmdFrame, ih]
  exact hv cmds

end RedisVerif.ConnSim
