import RedisVerif.Lemmas.SkipListBase

/-! The searches.  `TowersOk` / `Spans`: the stored spans are the distances; one level of a search (`walk_spec`), the
    descent through the levels (`descend_spec`) and `IsUpd`, in which its result is stated; the invariant `Wf` and
    the descent on a well-formed list (`descend_wf` for any test that means "position ≤ `c`"; `search_spec`: by key,
    `c = cntLt`, the number of smaller keys). -/
namespace RedisVerif.SkipList
open RedisVerif RedisVerif.Redis

/-- the spans of a tower list are the distances -/
def TowersOk (T : List Tower) : Prop :=
  ∀ k t, T[k]? = some t → ∀ j, j < t.ht → t.spans[j]? = some (distTo j (T.drop (k + 1)))

theorem TowersOk.tail {t : Tower} {ts : List Tower} (h : TowersOk (t :: ts)) : TowersOk ts :=
  fun k t' hk j hj => h (k + 1) t' hk j hj

theorem TowersOk.drop {T : List Tower} (h : TowersOk T) (p : Nat) : TowersOk (T.drop p) := by
  intro k t hk j hj
  rw [List.getElem?_drop] at hk
  rw [List.drop_drop]
  exact h (p + k) t hk j hj

theorem towersOk_cons {t : Tower} {ts : List Tower} (ht : ∀ j, j < t.ht → t.spans[j]? = some (distTo j ts))
    (hts : TowersOk ts) : TowersOk (t :: ts)
  | 0, _, rfl, j, hj => ht j hj
  | k + 1, t', hk, j, hj => hts k t' hk j hj

theorem towersOk_append {A Z : List Tower} (hZ : TowersOk Z)
    (hA : ∀ k t, A[k]? = some t → ∀ j, j < t.ht → t.spans[j]? = some (distTo j (A.drop (k + 1) ++ Z))) :
    TowersOk (A ++ Z) := by
  intro k t hk j hj
  by_cases hkA : k < A.length
  · rw [List.getElem?_append_left hkA] at hk
    rw [List.drop_append_of_le_length hkA]
    exact hA k t hk j hj
  · rw [List.getElem?_append_right (Nat.le_of_not_lt hkA)] at hk
    rw [List.drop_append, List.drop_eq_nil_of_le (by omega), List.nil_append,
      show k + 1 - A.length = k - A.length + 1 by omega]
    exact hZ _ t hk j hj

/-- One level of the search, for a test `go` that means "position ≤ `c`" (positions: 0 = header, tower `k` of
    `rest` = `p + sk + 1 + k`; `sk` counts the towers passed since `p` that have no level `i`, `cs` is the span
    of the current node).  The rank returned is the position returned (`acc = p` throughout); that position is
    `p` or a tower with a level `i` at a position `≤ c`; every tower between it and `c` has no level `i`. -/
theorem walk_spec (go : Tower → Nat → Bool) (i c : Nat) :
    ∀ (rest : List Tower) (p sk cs acc : Nat),
      cs = sk + distTo i rest → acc = p → TowersOk rest →
      (∀ k t, rest[k]? = some t → go t (p + sk + 1 + k) = decide (p + sk + 1 + k ≤ c)) →
      (walk go i rest p sk cs acc).2 = (walk go i rest p sk cs acc).1 ∧
      p ≤ (walk go i rest p sk cs acc).1 ∧
      ((walk go i rest p sk cs acc).1 = p ∨
        ∃ k t, rest[k]? = some t ∧ (walk go i rest p sk cs acc).1 = p + sk + 1 + k ∧ i < t.ht ∧
          (walk go i rest p sk cs acc).1 ≤ c) ∧
      (∀ k t, rest[k]? = some t → (walk go i rest p sk cs acc).1 < p + sk + 1 + k →
          p + sk + 1 + k ≤ c → t.ht ≤ i) := by
  intro rest
  induction rest with
  | nil =>
    intro p sk cs acc _ hacc _ _
    exact ⟨hacc, Nat.le_refl _, Or.inl rfl, fun k t hk => by cases hk⟩
  | cons t ts ih =>
    intro p sk cs acc hcs hacc hok hgo
    have hgo' : ∀ k t', ts[k]? = some t' →
        go t' (p + sk + 1 + (k + 1)) = decide (p + sk + 1 + (k + 1) ≤ c) := fun k t' hk => hgo (k + 1) t' hk
    cases hsp : t.spans[i]? with
    | none =>
      -- `t` has no level `i`: it is skipped
      have hlt : ¬ i < t.ht := fun h => by have := hok 0 t rfl i h; rw [hsp] at this; cases this
      have hd : distTo i (t :: ts) = 1 + distTo i ts := if_neg hlt
      have ih := ih p (sk + 1) cs acc (by rw [hcs, hd]; omega) hacc hok.tail
        (fun k t' hk => by
          rw [show p + (sk + 1) + 1 + k = p + sk + 1 + (k + 1) by omega]; exact hgo' k t' hk)
      rw [show walk go i (t :: ts) p sk cs acc = walk go i ts p (sk + 1) cs acc by simp only [walk, hsp]]
      generalize walk go i ts p (sk + 1) cs acc = r at ih ⊢
      obtain ⟨h1, h2, h3, h4⟩ := ih
      refine ⟨h1, h2, h3.imp_right ?_, ?_⟩
      · rintro ⟨k, t', hk, he, hi, hc⟩
        exact ⟨k + 1, t', hk, by omega, hi, hc⟩
      · intro k t' hk hlt' hc
        cases k with
        | zero => cases hk; omega
        | succ k => exact h4 k t' hk (by omega) (by omega)
    | some cs' =>
      have hlt : i < t.ht := (List.getElem?_eq_some_iff.mp hsp).1
      have hcs' : cs' = distTo i ts := by
        have := hok 0 t rfl i hlt; rw [hsp] at this; exact Option.some.inj this
      have hd : distTo i (t :: ts) = 1 := if_pos hlt
      have hcsv : acc + cs = p + sk + 1 := by rw [hcs, hd, hacc]; omega
      have hg : go t (p + sk + 1) = decide (p + sk + 1 ≤ c) := hgo 0 t rfl
      by_cases hle : p + sk + 1 ≤ c
      · -- the walk moves on to `t`
        have ih := ih (p + sk + 1) 0 cs' (p + sk + 1) (by omega) rfl hok.tail
          (fun k t' hk => by
            rw [show p + sk + 1 + 0 + 1 + k = p + sk + 1 + (k + 1) by omega]; exact hgo' k t' hk)
        rw [show walk go i (t :: ts) p sk cs acc = walk go i ts (p + sk + 1) 0 cs' (p + sk + 1) by
          simp only [walk, hsp, hcsv, hg, hle, decide_true, if_true]]
        generalize walk go i ts (p + sk + 1) 0 cs' (p + sk + 1) = r at ih ⊢
        obtain ⟨h1, h2, h3, h4⟩ := ih
        refine ⟨h1, by omega, Or.inr ?_, ?_⟩
        · rcases h3 with h | ⟨k, t', hk, he, hi, hc⟩
          · exact ⟨0, t, rfl, by omega, hlt, by omega⟩
          · exact ⟨k + 1, t', hk, by omega, hi, hc⟩
        · intro k t' hk hlt' hc
          cases k with
          | zero => omega
          | succ k => exact h4 k t' hk (by omega) (by omega)
      · rw [show walk go i (t :: ts) p sk cs acc = (p, acc) by
          simp only [walk, hsp, hcsv, hg, hle, decide_false, Bool.false_eq_true, if_false]]
        exact ⟨hacc, Nat.le_refl _, Or.inl rfl, fun k t' hk _ hc => by omega⟩


/-- the spans of a list are the distances, for every level below `L` of the header and every level
    of every tower; every tower has between 1 and `L` levels -/
structure Spans (sl : SL) (L : Nat) : Prop where
  hdrLen : sl.hdr.length = maxLevel
  L_le : L ≤ maxLevel
  hdr : ∀ j, j < L → sl.hdr[j]? = some (distTo j sl.towers)
  tw : TowersOk sl.towers
  hts : ∀ t ∈ sl.towers, 1 ≤ t.ht ∧ t.ht ≤ L

theorem spans_mono {sl : SL} {L L' : Nat} (h : Spans sl L) (hle : L' ≤ L) (hts : ∀ t ∈ sl.towers, t.ht ≤ L') :
    Spans sl L' :=
  ⟨h.hdrLen, by have := h.L_le; omega, fun j hj => h.hdr j (by omega), h.tw,
   fun t ht => ⟨(h.hts t ht).1, hts t ht⟩⟩

/-- `u` is the last position `≤ c` that is the header (0) or a tower with a level `j` -/
def IsUpd (T : List Tower) (c j u : Nat) : Prop :=
  u ≤ c ∧ (u = 0 ∨ ∃ t, T[u - 1]? = some t ∧ j < t.ht) ∧
  (∀ q t, u ≤ q → q < c → T[q]? = some t → t.ht ≤ j)

/-- reading a slot that exists: a level below `L` of the header, or a level of a tower -/
theorem spanAt_of_level {sl : SL} {L j q : Nat} (hs : Spans sl L) (hj : j < L)
    (hq : q = 0 ∨ ∃ t, sl.towers[q - 1]? = some t ∧ j < t.ht) :
    spanAt sl q j = some (distTo j (sl.towers.drop q)) := by
  cases q with
  | zero => exact hs.hdr j hj
  | succ q =>
    obtain ⟨t, ht, hlt⟩ := hq.resolve_left (Nat.succ_ne_zero q)
    have ht : sl.towers[q]? = some t := ht
    rw [spanAt_succ ht]
    exact hs.tw q t ht j hlt

/-- The descent from level `n` down, started at a position `p ≤ c` that has a level `n` and is followed up to `c`
    by towers of at most `n` levels: by induction on `n`, each level is one `walk_spec` from where the level
    above stopped, so slot `j` of the result is `(u, u)` with `u` the last position `≤ c` that has a level `j`. -/
theorem descend_spec {sl : SL} {L : Nat} (hs : Spans sl L) (go : Tower → Nat → Bool) (c : Nat)
    (hgo : ∀ k t, sl.towers[k]? = some t → go t (k + 1) = decide (k + 1 ≤ c)) :
    ∀ (n p : Nat), n ≤ L → p ≤ c →
      (p = 0 ∨ ∃ t, sl.towers[p - 1]? = some t ∧ n ≤ t.ht) →
      (∀ q t, p ≤ q → q < c → sl.towers[q]? = some t → t.ht ≤ n) →
      ∃ l, descend go sl n p p = some l ∧ l.length = n ∧
        ∀ j, j < n → ∃ u, l[j]? = some (u, u) ∧ IsUpd sl.towers c j u ∧ p ≤ u := by
  intro n
  induction n with
  | zero => exact fun p _ _ _ _ => ⟨[], rfl, rfl, fun j hj => absurd hj (Nat.not_lt_zero _)⟩
  | succ n ih =>
    intro p hn hp hhp hbig
    have hsp : spanAt sl p n = some (distTo n (sl.towers.drop p)) :=
      spanAt_of_level hs (by omega) (hhp.imp_right fun ⟨t, ht, hle⟩ => ⟨t, ht, by omega⟩)
    have hw := walk_spec go n c (sl.towers.drop p) p 0 (distTo n (sl.towers.drop p)) p
      (Nat.zero_add _).symm rfl (hs.tw.drop p)
      (fun k t hk => by
        rw [List.getElem?_drop] at hk
        rw [show p + 0 + 1 + k = p + k + 1 by omega]; exact hgo (p + k) t hk)
    generalize hr : walk go n (sl.towers.drop p) p 0 (distTo n (sl.towers.drop p)) p = r at hw
    obtain ⟨hacc, hpr, hwho, hrest⟩ := hw
    have hrc : r.1 ≤ c := by
      rcases hwho with h | ⟨_, _, _, _, _, h⟩
      · omega
      · exact h
    have hupd : IsUpd sl.towers c n r.1 := by
      refine ⟨hrc, ?_, ?_⟩
      · rcases hwho with h | ⟨k, t, hk, he, hi, _⟩
        · rw [h]
          rcases hhp with h0 | ⟨t, ht, hle⟩
          · exact Or.inl h0
          · exact Or.inr ⟨t, ht, by omega⟩
        · refine Or.inr ⟨t, ?_, hi⟩
          rw [show r.1 - 1 = p + k by omega, ← List.getElem?_drop]; exact hk
      · intro q t hq hqc hqt
        have hk : (sl.towers.drop p)[q - p]? = some t := by
          rw [List.getElem?_drop, Nat.add_sub_cancel' (Nat.le_trans hpr hq)]; exact hqt
        exact hrest (q - p) t hk (by omega) (by omega)
    obtain ⟨l, hl, hlen, hall⟩ := ih r.1 (by omega) hrc
      (by
        rcases hupd.2.1 with h | ⟨t, ht, hlt⟩
        · exact Or.inl h
        · exact Or.inr ⟨t, ht, by omega⟩)
      (fun q t hq hqc hqt => hupd.2.2 q t hq hqc hqt)
    refine ⟨l ++ [r], ?_, by rw [List.length_append, hlen]; rfl, ?_⟩
    · simp only [descend, hsp, hr]
      rw [hacc, hl]
    · intro j hj
      by_cases hjn : j = n
      · subst hjn
        refine ⟨r.1, ?_, hupd, hpr⟩
        rw [List.getElem?_append_right (by omega), hlen]
        simp only [Nat.sub_self, List.getElem?_cons_zero, Option.some.injEq]
        exact Prod.ext rfl hacc
      · obtain ⟨u, hu, hupdj, hle⟩ := hall j (by omega)
        refine ⟨u, ?_, hupdj, by omega⟩
        rw [List.getElem?_append_left (by omega)]; exact hu

/-! ## the invariant `Wf`, and the searches on a well-formed list -/

/-- the structure invariant of `SkipList` -/
structure Wf (sl : SL) : Prop where
  spans : Spans sl sl.level
  level_pos : 1 ≤ sl.level
  tight : sl.level = 1 ∨ ∃ t ∈ sl.towers, t.ht = sl.level
  len : sl.length = sl.towers.length
  sorted : sl.towers.Pairwise (fun a b => zLt a.key b.key = true)

/-- number of towers whose key is below the target -/
def cntLt (tgt : BS × Score) (T : List Tower) : Nat := (T.takeWhile (fun t => zLt t.key tgt)).length

theorem cntLt_le (tgt : BS × Score) (T : List Tower) : cntLt tgt T ≤ T.length := by
  unfold cntLt
  exact (List.takeWhile_sublist _).length_le

theorem cntLt_spec (tgt : BS × Score) : ∀ {T : List Tower},
    T.Pairwise (fun a b => zLt a.key b.key = true) →
    ∀ k t, T[k]? = some t → zLt t.key tgt = decide (k < cntLt tgt T)
  | [], _, k, t, h => by simp at h
  | x :: xs, hs, k, t, h => by
    rw [List.pairwise_cons] at hs
    by_cases hx : zLt x.key tgt = true
    · have e : cntLt tgt (x :: xs) = cntLt tgt xs + 1 := by simp [cntLt, hx]
      cases k with
      | zero => simp at h; subst h; simp [e, hx]
      | succ k =>
        have := cntLt_spec tgt hs.2 k t (by simpa using h)
        simp [e, this]
    · have e : cntLt tgt (x :: xs) = 0 := by simp [cntLt, hx]
      rw [e]
      simp only [Nat.not_lt_zero, decide_false]
      cases k with
      | zero => simp at h; subst h; simpa using hx
      | succ k =>
        have hm : t ∈ xs := List.mem_of_getElem? (by simpa using h)
        have hxt := hs.1 t hm
        cases hz : zLt t.key tgt with
        | false => rfl
        | true => exact absurd (zLt_trans hxt hz) hx

theorem isUpd_zero {T : List Tower} {c u : Nat} (hc : c ≤ T.length) (hts : ∀ t ∈ T, 1 ≤ t.ht)
    (h : IsUpd T c 0 u) : u = c := by
  obtain ⟨h1, _, h3⟩ := h
  by_cases hlt : u < c
  · have hu : u < T.length := by omega
    have := h3 u T[u] (Nat.le_refl _) hlt (List.getElem?_eq_getElem hu)
    have := hts T[u] (List.getElem_mem hu)
    omega
  · omega

theorem length_pad {ur : List (Nat × Nat)} (h : ur.length ≤ maxLevel) : (pad ur).length = maxLevel := by
  simp [pad]; omega

theorem goLess_iff {sl : SL} (hw : Wf sl) (m : BS) (sc : Score) (k : Nat) (t : Tower) (hk : sl.towers[k]? = some t) :
    goLess m sc t (k + 1) = decide (k + 1 ≤ cntLt (m, sc) sl.towers) := by
  simp only [goLess, cntLt_spec (m, sc) hw.sorted k t hk]
  by_cases h : k < cntLt (m, sc) sl.towers <;> simp [h] <;> omega

/-- Every search of the structure (`insert` / `remove_with_score` / `rank` by key, `range` by rank) is the descent
    from the top level of a well-formed list with a test that means "position ≤ `c`": it cannot panic, the padded
    arrays hold `update[j] = rank[j] =` the last position `≤ c` that has a level `j`, and `update[0] = c` because
    level 0 skips nothing. -/
theorem descend_wf {sl : SL} (hw : Wf sl) (go : Tower → Nat → Bool) {c : Nat} (hc : c ≤ sl.towers.length)
    (hgo : ∀ k t, sl.towers[k]? = some t → go t (k + 1) = decide (k + 1 ≤ c)) :
    ∃ l, descend go sl sl.level 0 0 = some l ∧ (pad l).length = maxLevel ∧ slot (pad l) 0 = some (c, c) ∧
      (∀ j, j < sl.level → ∃ u, (pad l)[j]? = some (u, u) ∧ IsUpd sl.towers c j u) ∧
      (∀ j, sl.level ≤ j → j < maxLevel → (pad l)[j]? = some (0, 0)) := by
  obtain ⟨l, hl, hlen, hall⟩ := descend_spec hw.spans go c hgo
    sl.level 0 (Nat.le_refl _) (Nat.zero_le _) (Or.inl rfl)
    (fun q t _ _ hq => (hw.spans.hts t (List.mem_of_getElem? hq)).2)
  have hL := hw.spans.L_le
  have hur : ∀ j, j < sl.level → ∃ u, (pad l)[j]? = some (u, u) ∧ IsUpd sl.towers c j u := by
    intro j hj
    obtain ⟨u, hu, hupd, _⟩ := hall j hj
    refine ⟨u, ?_, hupd⟩
    simp only [pad]
    rw [List.getElem?_append_left (by omega)]; exact hu
  refine ⟨l, hl, length_pad (by omega), ?_, hur, ?_⟩
  · obtain ⟨u, hu, hupd⟩ := hur 0 hw.level_pos
    rw [isUpd_zero hc (fun t ht => (hw.spans.hts t ht).1) hupd] at hu
    exact hu
  · intro j hj hj'
    simp only [pad]
    rw [List.getElem?_append_right (by omega)]
    simp [List.getElem?_replicate]; omega

/-- the search of `insert` / `remove_with_score` on a well-formed list: it cannot panic and fills
    `update[j] = rank[j] =` the last position before the target's place that has a level `j` -/
theorem search_spec {sl : SL} (hw : Wf sl) (m : BS) (sc : Score) :
    ∃ ur, search sl m sc = some ur ∧ ur.length = maxLevel ∧
      (∀ j, j < sl.level → ∃ u, ur[j]? = some (u, u) ∧ IsUpd sl.towers (cntLt (m, sc) sl.towers) j u) ∧
      (∀ j, sl.level ≤ j → j < maxLevel → ur[j]? = some (0, 0)) := by
  obtain ⟨l, hl, h1, _, h3, h4⟩ := descend_wf hw (goLess m sc) (cntLt_le _ _) (goLess_iff hw m sc)
  exact ⟨pad l, by rw [search, hl]; rfl, h1, h3, h4⟩

end RedisVerif.SkipList
