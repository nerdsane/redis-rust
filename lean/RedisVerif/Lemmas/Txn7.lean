import RedisVerif.Model.Txn7
import RedisVerif.Lemmas.RedisLocal

/-!
  The M7 instance of the transaction machines (`Model/Txn7.lean`): nodes that are canonical and hold
  nothing dead at their instant stay so under every command and tick; on them a data command is `exec`
  followed by `purge`, so the locality of the reference executor (a command that names its keys reads
  and writes only those keys) lifts to nodes, and two commands that name DISJOINT key sets COMMUTE —
  same node, same replies — for every command of the reference model of every value type, multi-key
  and expiry commands included.
-/
namespace RedisVerif
namespace Txn7
open Redis (State Cmd Reply Value Entry purge live LocalOn cmdKeys exec_localOn)
open NMap

theorem filter_filter_self {α : Type} (p : α → Bool) (o : Option α) :
    (o.filter p).filter p = o.filter p := by
  cases o with
  | none => rfl
  | some a => by_cases h : p a = true <;> simp [Option.filter, h]

theorem get_of_purged {s : State} {now : Nat} (hw : WF s) (hp : purge s now = s) (k : Nat) :
    (get s k).filter (live now) = get s k := by
  have := Redis.get_purge hw now k
  rw [hp] at this
  exact this.symm

theorem nodeOk_init (now : Nat) : NodeOk (Node.init now) := ⟨wf_nil, rfl⟩

/-- on a node that holds nothing dead, a data command is `exec` then `purge` -/
theorem exec7_data {n : Node} (h : NodeOk n) (c : Cmd) :
    exec7 n (.data c) =
      ({ s := purge (Redis.exec n.s n.now c).1 n.now, now := n.now }, .data (Redis.exec n.s n.now c).2) := by
  simp only [exec7, Redis.step, h.2]

theorem exec7_now_data (n : Node) (c : Cmd) : (exec7 n (.data c)).1.now = n.now := rfl

/-- the invariant is kept by everything a node can be asked to do -/
theorem exec7_ok {n : Node} (h : NodeOk n) (c : Cmd7) : NodeOk (exec7 n c).1 := by
  cases c with
  | data c =>
    rw [exec7_data h]
    exact ⟨Redis.wf_purge _ (Redis.exec_wf _ _ h.1), Redis.purge_idem _ _⟩
  | tick t => exact ⟨Redis.wf_purge _ h.1, Redis.purge_idem _ _⟩
  | ping => exact h
  | unwatch => exact h
  | unknown => exact h
  | loc l => exact h

/-- a command of the connection itself, PING, UNWATCH, an unknown command: the node is untouched -/
theorem exec7_keyless (n : Node) (c : Cmd7) (hk : keysOf c = some []) (hd : ∀ d, c ≠ .data d) :
    (exec7 n c).1 = n := by
  cases c with
  | data d => exact absurd rfl (hd d)
  | tick t => simp [keysOf] at hk
  | ping => rfl
  | unwatch => rfl
  | unknown => rfl
  | loc l => rfl

theorem exec7_keyless_reply (n n' : Node) (c : Cmd7) (hd : ∀ d, c ≠ .data d) (ht : ∀ t, c ≠ .tick t) :
    (exec7 n c).2 = (exec7 n' c).2 := by
  cases c with
  | data d => exact absurd rfl (hd d)
  | tick t => exact absurd rfl (ht t)
  | ping => rfl
  | unwatch => rfl
  | unknown => rfl
  | loc l => rfl

/-- **frame**: a data command that names its keys leaves every other key's entry alone -/
theorem exec7_frame {n : Node} (h : NodeOk n) (c : Cmd) (K : List Nat) (hK : cmdKeys c = some K)
    (k : Nat) (hk : k ∉ K) : get (exec7 n (.data c)).1.s k = get n.s k := by
  have L := exec_localOn n.now c K hK
  rw [exec7_data h]
  show get (purge (Redis.exec n.s n.now c).1 n.now) k = get n.s k
  rw [Redis.get_purge (L.wf n.s h.1), L.frame n.s k h.1 hk, get_of_purged h.1 h.2]

/-- **locality**: the reply and the new entries of the named keys depend only on the old entries of
    the named keys (same instant) -/
theorem exec7_loc {n n' : Node} (h : NodeOk n) (h' : NodeOk n') (hnow : n.now = n'.now) (c : Cmd)
    (K : List Nat) (hK : cmdKeys c = some K) (hg : ∀ k ∈ K, get n.s k = get n'.s k) :
    (exec7 n (.data c)).2 = (exec7 n' (.data c)).2 ∧
      ∀ k ∈ K, get (exec7 n (.data c)).1.s k = get (exec7 n' (.data c)).1.s k := by
  have L := exec_localOn n.now c K hK
  obtain ⟨e1, e2⟩ := L.loc n.s n'.s h.1 h'.1 hg
  rw [exec7_data h, exec7_data h', ← hnow]
  refine ⟨by rw [e1], ?_⟩
  intro k hk
  show get (purge (Redis.exec n.s n.now c).1 n.now) k = get (purge (Redis.exec n'.s n.now c).1 n.now) k
  rw [Redis.get_purge (L.wf n.s h.1), Redis.get_purge (L.wf n'.s h'.1), e2 k hk]

theorem node_ext {a b : Node} (ha : NodeOk a) (hb : NodeOk b) (hnow : a.now = b.now)
    (h : ∀ k, get a.s k = get b.s k) : a = b := by
  obtain ⟨sa, na⟩ := a
  obtain ⟨sb, nb⟩ := b
  simp only at hnow h
  subst hnow
  have e : sa = sb := NMap.ext ha.1 hb.1 h
  subst e
  rfl

/-- **two data commands that name disjoint key sets commute**: same node, and each answers what it
    answers without the other -/
theorem exec7_commute {n : Node} (h : NodeOk n) (f c : Cmd) (Kf Kc : List Nat)
    (hf : cmdKeys f = some Kf) (hc : cmdKeys c = some Kc) (hd : ∀ k ∈ Kf, k ∉ Kc) :
    (exec7 (exec7 n (.data f)).1 (.data c)).1 = (exec7 (exec7 n (.data c)).1 (.data f)).1 ∧
    (exec7 (exec7 n (.data f)).1 (.data c)).2 = (exec7 n (.data c)).2 ∧
    (exec7 (exec7 n (.data c)).1 (.data f)).2 = (exec7 n (.data f)).2 := by
  have hd' : ∀ k ∈ Kc, k ∉ Kf := fun k hk hk' => hd k hk' hk
  have of := exec7_ok h (.data f)
  have oc := exec7_ok h (.data c)
  have agree_c : ∀ k ∈ Kc, get (exec7 n (.data f)).1.s k = get n.s k :=
    fun k hk => exec7_frame h f Kf hf k (hd' k hk)
  have agree_f : ∀ k ∈ Kf, get (exec7 n (.data c)).1.s k = get n.s k :=
    fun k hk => exec7_frame h c Kc hc k (hd k hk)
  obtain ⟨rc, sc⟩ := exec7_loc of h (exec7_now_data n f) c Kc hc agree_c
  obtain ⟨rf, sf⟩ := exec7_loc oc h (exec7_now_data n c) f Kf hf agree_f
  refine ⟨?_, rc, rf⟩
  apply node_ext (exec7_ok of _) (exec7_ok oc _) (by simp only [exec7_now_data])
  intro k
  by_cases h1 : k ∈ Kc
  · rw [sc k h1, exec7_frame oc f Kf hf k (hd' k h1)]
  · by_cases h2 : k ∈ Kf
    · rw [exec7_frame of c Kc hc k h1, sf k h2]
    · rw [exec7_frame of c Kc hc k h1, exec7_frame h f Kf hf k h2,
        exec7_frame oc f Kf hf k h2, exec7_frame h c Kc hc k h1]

/-- the GET reply of key `k` is a function of `k`'s entry -/
theorem getReply7_congr {n n' : Node} (h : NodeOk n) (h' : NodeOk n') (hnow : n.now = n'.now) (k : Nat)
    (hg : get n.s k = get n'.s k) : backend7.getReply n k = backend7.getReply n' k :=
  (exec7_loc h h' hnow (.get k) [k] rfl (by simpa using hg)).1

/-- a data command on a node whose keyspace is `r` with the dead entries dropped is `Redis.step` on `r`
    (which drops them itself) -/
theorem exec7_purged (r : State) (t : Nat) (c : Cmd) :
    exec7 { s := purge r t, now := t } (.data c) =
      ({ s := purge (Redis.step r t c).1 t, now := t }, .data (Redis.step r t c).2) := by
  simp only [exec7, Redis.step, Redis.purge_idem]

theorem runSeq7_purged (cs : List Cmd) (t : Nat) : ∀ (r : State),
    Txn.runSeq backend7 { s := purge r t, now := t } (cs.map .data) =
      ({ s := purge (Redis.run r (cs.map (fun c => (t, c)))).1 t, now := t },
       (Redis.run r (cs.map (fun c => (t, c)))).2.map .data) := by
  induction cs with
  | nil => intro r; rfl
  | cons c rest ih =>
    intro r
    simp only [List.map_cons, Txn.runSeq, Redis.run]
    rw [show backend7.exec _ (.data c) = _ from exec7_purged r t c, ih]

/-- consecutive data commands at one instant on a node = `Redis.run` at that instant: the replies
    are M7's, the node's keyspace is M7's keyspace with the dead entries dropped -/
theorem runSeq7_eq_run (cs : List Cmd) : ∀ (n : Node), NodeOk n →
    (Txn.runSeq backend7 n (cs.map .data)).2 = (Redis.run n.s (cs.map (fun c => (n.now, c)))).2.map .data ∧
    (Txn.runSeq backend7 n (cs.map .data)).1 =
      { s := purge (Redis.run n.s (cs.map (fun c => (n.now, c)))).1 n.now, now := n.now } := by
  intro n h
  have e := runSeq7_purged cs n.now n.s
  rw [h.2] at e
  exact ⟨congrArg Prod.snd e, congrArg Prod.fst e⟩

end Txn7
end RedisVerif
