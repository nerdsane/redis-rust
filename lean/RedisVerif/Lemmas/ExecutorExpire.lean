import RedisVerif.Lemmas.ExecutorKeys

/-! Refinement of EXPIRE / PEXPIRE / EXPIREAT / PEXPIREAT / TTL / PTTL / EXPIRETIME / PEXPIRETIME /
    PERSIST of `Model.Executor` (key_ops.rs) to M7: flag order, deadline arithmetic, rounding. -/
set_option linter.unusedSimpArgs false

namespace RedisVerif.Executor
open RedisVerif RedisVerif.Redis

def noFlags : ExpFlags := ⟨false, false, false, false⟩

/-- the flag tests of `execute_expire` / `execute_pexpire` = ¬ M7's `flagsPass`, deadlines shifted by the epoch -/
theorem expireFlagsFail_eq {c : CState} (h : CInv c) (f : ExpFlags) (k : Nat) (newMs : Int) :
    expireFlagsFail f (NMap.get c.exp k) newMs =
      !flagsPass f ((NMap.get c.exp k).map (· + c.epoch)) (newMs + (c.epoch : Int)) := by
  unfold expireFlagsFail flagsPass
  cases hc : NMap.get c.exp k with
  | none => cases f.nx <;> cases f.xx <;> cases f.gt <;> cases f.lt <;> rfl
  | some d =>
    have := h.dlOk k d hc
    have ha : asI64 d = (d : Int) := asI64_small (by omega)
    simp only [Option.map_some, Option.isSome_some, Bool.not_true, Bool.and_false, Bool.or_false,
      Bool.and_true, ha]
    push_cast
    have e1 : decide (newMs ≤ (d : Int)) = decide (newMs + (c.epoch : Int) ≤ (d : Int) + (c.epoch : Int)) := by
      apply decide_eq_decide.mpr; omega
    have e2 : decide (newMs ≥ (d : Int)) = decide (newMs + (c.epoch : Int) ≥ (d : Int) + (c.epoch : Int)) := by
      apply decide_eq_decide.mpr; omega
    rw [e1, e2]
    cases f.nx <;> cases f.gt <;> cases f.lt <;> simp

section tail
variable {cs c : CState} {k : Nat} {w : Value} {f : ExpFlags} {wh : Int}

/-- what M7's `expireAt` does to a key it finds, once the flags pass: the deadline is stored (a deadline that
    has been reached removes the key, which `purge` does to the stored one as well) -/
theorem expireAt_pass {s : State} {now k : Nat} {e : Entry} {wh : Int} {f : ExpFlags} (hw : NMap.WF s)
    (hs : purge s now = s) (hg : NMap.get s k = some e) (hp : flagsPass f e.dl wh = true) :
    (expireAt s now k wh f).2 = .int 1 ∧
      purge (expireAt s now k wh f).1 now = purge (NMap.insert k ⟨e.val, some wh.toNat⟩ s) now := by
  simp only [expireAt, hg, hp, Bool.not_true, Bool.false_eq_true, if_false]
  split
  · refine ⟨rfl, ?_⟩
    have : ¬ now < wh.toNat := by omega
    simp only [purge_erase hw, purge_insert hw, hs, live, this, decide_false, Bool.false_eq_true, if_false, setAt]
  · exact ⟨rfl, rfl⟩

/-- the tail of the four EXPIRE commands on a key that is there: flags pass and the code has set the deadline … -/
theorem After.expire_pass {c' : CState} (g : After cs k c (some w))
    (hp : flagsPass f ((NMap.get c.exp k).map (· + c.epoch)) wh = true) (hd : Wrote c k (some ⟨w, (some wh.toNat)⟩) c') :
    SimF c (fun s => expireAt s (unix c) k wh f) (c', .int 1) :=
  have := expireAt_pass (wf_absP g.inv.wfd) (purge_absP c) g.look_some hp
  hd.simF_purge this.1 this.2

/-- … or they do not, and nothing is done -/
theorem After.expire_fail (g : After cs k c (some w))
    (hp : flagsPass f ((NMap.get c.exp k).map (· + c.epoch)) wh = false) :
    SimF c (fun s => expireAt s (unix c) k wh f) (c, .int 0) :=
  g.keep (by simp only [expireAt, g.look_some, hp]; rfl)

end tail

/-- what `execute_expire` / `execute_pexpire` do once the relative deadline `ms` (virtual ms from now) has
    been validated; `P` is the code's own "not positive" test, `st` its store branch -/
theorem expireRel_tail {cs : CState} (h : CInv cs) (k : Nat) (ms : Int) (f : ExpFlags)
    (hlo : -9223372036854775808 ≤ ms) (hhi : ms + ((unix cs : Nat) : Int) ≤ 9223372036854775807)
    {P : Prop} [Decidable P] (hP : P ↔ ms ≤ 0) (st : Option (CState × Reply))
    (hst : 0 < ms → st = (u64Add cs.now (asU64 ms)).map fun e =>
      ({ cs with exp := NMap.insert k e cs.exp }, .int 1)) :
    ∃ res, (if !liveKey cs k then some (cs, .int 0)
        else if expireFlagsFail f (NMap.get cs.exp k) (sat (asI64 cs.now + ms)) then some (cs, .int 0)
        else if P then some (dropKey cs k, .int 1) else st) = some res ∧
      SimF cs (fun s => expireAt s (unix cs) k (ms + ((unix cs : Nat) : Int)) f) res := by
  have ht := h.timeOk
  have hu : ((unix cs : Nat) : Int) = (cs.epoch : Int) + (cs.now : Int) := by simp [unix]
  by_cases hl : liveKey cs k = true
  · obtain ⟨v, g⟩ := liveKey_after h hl
    have hsat : sat (asI64 cs.now + ms) = (cs.now : Int) + ms := by
      rw [asI64_small (by omega)]; exact sat_id (by omega) (by omega)
    have hw : (cs.now : Int) + ms + (cs.epoch : Int) = ms + ((unix cs : Nat) : Int) := by omega
    rw [hl, hsat, expireFlagsFail_eq h, hw]
    cases hp : flagsPass f ((NMap.get cs.exp k).map (· + cs.epoch)) (ms + ((unix cs : Nat) : Int))
    · exact ⟨_, rfl, g.expire_fail hp⟩
    · by_cases h3 : ms ≤ 0
      · exact ⟨_, by rw [if_pos (hP.mpr h3)]; rfl, g.expire_pass hp (Wrote.dead h (by omega))⟩
      · obtain ⟨ha, hd⟩ := dlSet_rel h g.val (by omega : 0 < ms) hhi
        exact ⟨_, by rw [if_neg (fun hh => h3 (hP.mp hh)), hst (by omega), ha]; rfl, g.expire_pass hp hd⟩
  · rw [Bool.not_eq_true] at hl
    exact ⟨_, by rw [hl]; rfl, simF_refl h (by simp only [expireAt, liveKey_false h hl])⟩

/-- `execute_expire` refines M7's EXPIRE (the parser has refused incompatible flags) -/
theorem cExpire_sim {cs : CState} (h : CInv cs) (k : Nat) (secs : Int) (f : ExpFlags)
    (hf : flagsCompatible f = true) :
    ∃ res, cExpire cs k secs f = some res ∧ Sim cs (.expire k secs f) res := by
  have ht := h.timeOk
  have hu : ((unix cs : Nat) : Int) = (cs.epoch : Int) + (cs.now : Int) := by simp [unix]
  have hdv := i64MaxDiv1000_eq
  have hdm := i64MinDiv1000_eq
  have hmx := i64Max_eq
  unfold cExpire
  by_cases h1 : secs > i64MaxDiv1000 ∨ secs < i64MinDiv1000
  · rw [if_pos h1]
    exact ⟨_, rfl, simF_refl h (by
      simp only [exec, execExpire, hf, Bool.not_true, Bool.false_eq_true, if_false, h1, if_true])⟩
  · rw [if_neg h1, sat_id (i := secs * 1000) (by omega) (by omega), basetime_eq h]
    by_cases h2 : secs * 1000 > i64Max - ((unix cs : Nat) : Int)
    · rw [if_pos ⟨by omega, h2⟩]
      exact ⟨_, rfl, simF_refl h (by
        simp only [exec, execExpire, hf, Bool.not_true, Bool.false_eq_true, if_false, h1, h2, if_true])⟩
    · rw [if_neg (fun hh => h2 hh.2)]
      obtain ⟨res, e, hsim⟩ := expireRel_tail h k (secs * 1000) f (by omega) (by omega)
        (P := secs ≤ 0) (by omega)
        ((u64Mul1000 (asU64 secs)).bind fun d => (u64Add cs.now d).map fun e =>
          ({ cs with exp := NMap.insert k e cs.exp }, .int 1))
        (fun hpos => by rw [u64Mul1000_secs (by omega) (by omega), Option.bind_some])
      exact ⟨res, e, simF_congr (fun s => by
        simp only [exec, execExpire, hf, Bool.not_true, Bool.false_eq_true, if_false, h1, h2]) hsim⟩

theorem cPExpire_sim {cs : CState} (h : CInv cs) (k : Nat) (ms : Int) (f : ExpFlags)
    (hs : I64 ms) (hf : flagsCompatible f = true) :
    ∃ res, cPExpire cs k ms f = some res ∧ Sim cs (.pexpire k ms f) res := by
  have ht := h.timeOk
  have hu : ((unix cs : Nat) : Int) = (cs.epoch : Int) + (cs.now : Int) := by simp [unix]
  have hmx := i64Max_eq
  have hs1 := hs.1
  unfold cPExpire
  rw [basetime_eq h]
  by_cases h2 : ms > i64Max - ((unix cs : Nat) : Int)
  · rw [if_pos ⟨by omega, h2⟩]
    exact ⟨_, rfl, simF_refl h (by
      simp only [exec, execPExpire, hf, Bool.not_true, Bool.false_eq_true, if_false, h2, if_true])⟩
  · rw [if_neg (fun hh => h2 hh.2)]
    obtain ⟨res, e, hsim⟩ := expireRel_tail h k ms f hs1 (by omega) (P := ms ≤ 0) Iff.rfl _ (fun _ => rfl)
    exact ⟨res, e, simF_congr (fun s => by
      simp only [exec, execPExpire, hf, Bool.not_true, Bool.false_eq_true, if_false, h2]) hsim⟩

theorem flagsPass_noFlags (cur : Option Nat) (w : Int) : flagsPass noFlags cur w = true := by
  cases cur <;> rfl

/-- `saturating_sub` of a difference that cannot exceed i64: clamped below only where the sign has been lost already -/
theorem sat_cases {i : Int} (h : i ≤ 9223372036854775807) : (sat i ≤ 0 ∧ i ≤ 0) ∨ (sat i = i ∧ 0 < i) := by
  unfold sat
  rw [i64Max_eq, i64Min_eq]
  split
  · omega
  · split <;> omega

/-- the common tail of `execute_expireat` / `execute_pexpireat` on a live key (`saturating_sub` may clamp
    a very negative timestamp: the key is deleted either way) -/
theorem expireAtRel_spec {cs : CState} (h : CInv cs) {k : Nat} (hl : liveKey cs k = true) (whenMs : Int)
    (hlo : -9223372036854775808 ≤ whenMs) (hhi : whenMs ≤ 9223372036854775807) :
    SimF cs (fun s => expireAt s (unix cs) k whenMs noFlags)
      (expireAtRel cs k (sat (whenMs - (cs.epoch : Int)))) := by
  obtain ⟨v, g⟩ := liveKey_after h hl
  have ht := h.timeOk
  have hu : unix cs = cs.epoch + cs.now := rfl
  have pass := fun c' => g.expire_pass (c' := c') (f := noFlags) (wh := whenMs) (flagsPass_noFlags _ _)
  unfold expireAtRel
  rcases sat_cases (i := whenMs - (cs.epoch : Int)) (by omega) with ⟨h1, h2⟩ | ⟨h1, h2⟩
  · rw [if_pos h1]
    exact pass _ (Wrote.dead h (by omega))
  · rw [h1, if_neg (by omega), asU64_nonneg (by omega)]
    split
    · exact pass _ (Wrote.dead h (by omega))
    · have e : (whenMs - (cs.epoch : Int)).toNat + cs.epoch = whenMs.toNat := by omega
      exact pass _ (e ▸ Wrote.dl h g.val (by omega))

/-- `execute_pexpireat` refines M7's PEXPIREAT (the variant carries no flags) -/
theorem cPExpireAt_sim {cs : CState} (h : CInv cs) (k : Nat) (t : Int) (hs : I64 t) :
    Sim cs (.pexpireat k t noFlags) (cPExpireAt cs k t) :=
  simF_ifLive h k (fun hg => by simp only [exec, execPExpireAt, expireAt, hg]; rfl)
    fun hl => expireAtRel_spec h hl t hs.1 hs.2

theorem cExpireAt_sim {cs : CState} (h : CInv cs) (k : Nat) (t : Int) :
    Sim cs (.expireat k t noFlags) (cExpireAt cs k t) := by
  have hdv := i64MaxDiv1000_eq
  have hdm := i64MinDiv1000_eq
  unfold cExpireAt
  simp only [Sim, exec, execExpireAt, show flagsCompatible noFlags = true from rfl, Bool.not_true,
    Bool.false_eq_true, if_false]
  by_cases h1 : t > i64MaxDiv1000 ∨ t < i64MinDiv1000
  · simp only [h1, if_true]
    exact simF_refl h rfl
  · simp only [h1, if_false]
    rw [sat_id (i := t * 1000) (by omega) (by omega)]
    exact simF_ifLive h k (fun hg => by simp only [expireAt, hg])
      fun hl => expireAtRel_spec h hl (t * 1000) (by omega) (by omega)


theorem notExp_lt {cs : CState} {k d : Nat} (hx : isExpired cs k = false) (hc : NMap.get cs.exp k = some d) :
    cs.now < d := by
  unfold isExpired at hx
  rw [hc] at hx
  simp only [decide_eq_false_iff_not] at hx
  omega

/-- the shape shared by the four read commands: −2 / −1 / a function of the deadline -/
theorem ttlShape_sim {cs : CState} (h : CInv cs) (k : Nat) (fc : Nat → Int) (fm : Nat → Nat)
    (hf : ∀ d, NMap.get cs.exp k = some d → cs.now < d → fc d = ((fm (d + cs.epoch) : Nat) : Int)) :
    SimF cs (fun s => (s, ttlReply s k fm)) (ttlShape cs k fc) :=
  simF_congr (fun s => by unfold ttlReply; cases NMap.get s k <;> rfl) <|
    simF_live h k fun v g => by
      cases hc : NMap.get cs.exp k with
      | none => exact g.keep rfl
      | some d => exact g.keep (by rw [hf d hc (notExp_lt g.notExp hc)]; rfl)

theorem cTtl_sim {cs : CState} (h : CInv cs) (k : Nat) : Sim cs (.ttl k) (cTtl cs k) := by
  have ht := h.timeOk
  exact ttlShape_sim h k _ (fun d => roundSecs (d - unix cs)) (by
      intro d hc hlt
      have := h.dlOk k d hc
      simp only [roundSecs, unix]
      rw [asI64_small (by omega), asI64_small (by omega)]
      omega)

theorem cPTtl_sim {cs : CState} (h : CInv cs) (k : Nat) : Sim cs (.pttl k) (cPTtl cs k) := by
  have ht := h.timeOk
  exact ttlShape_sim h k _ (fun d => d - unix cs) (by
      intro d hc hlt
      have := h.dlOk k d hc
      simp only [unix]
      rw [asI64_small (by omega), asI64_small (by omega)]
      omega)

/-- EXPIRETIME: `(deadline + 500) / 1000`; the `saturating_add(500)` cannot clamp inside the invariant's
    range except within 500 ms of i64::MAX, which the hypothesis excludes -/
theorem cExpireTime_sim {cs : CState} (h : CInv cs) (k : Nat)
    (hroom : ∀ d, NMap.get cs.exp k = some d → cs.epoch + d + 500 ≤ 9223372036854775807) :
    Sim cs (.expiretime k) (cExpireTime cs k) := by
  have ht := h.timeOk
  exact ttlShape_sim h k _ roundSecs (by
      intro d hc hlt
      have := hroom d hc
      simp only [roundSecs]
      rw [asI64_small (by omega)]
      have h1 : sat ((cs.epoch : Int) + (d : Int)) = (cs.epoch : Int) + (d : Int) := sat_id (by omega) (by omega)
      rw [h1, sat_id (by omega) (by omega)]
      omega)

theorem cPExpireTime_sim {cs : CState} (h : CInv cs) (k : Nat) :
    Sim cs (.pexpiretime k) (cPExpireTime cs k) := by
  have ht := h.timeOk
  exact ttlShape_sim h k _ id (by
      intro d hc hlt
      have := h.dlOk k d hc
      rw [asI64_small (by omega), sat_id (by omega) (by omega)]
      simp only [id]
      omega)

theorem cPersist_sim {cs : CState} (h : CInv cs) (k : Nat) : Sim cs (.persist k) (cPersist cs k) :=
  simF_live h k fun v g => by
    cases hc : NMap.get cs.exp k with
    | none => exact g.keep rfl
    | some d => exact (Wrote.noDl h g.val).simF rfl

end RedisVerif.Executor
