import RedisVerif.Lemmas.GossipSim

/-!
  Accounting of delta copies at the message level (broadcast gossip): every delta a node issued
  is, for every configured peer, still queued at its origin, or on the wire to that peer, or
  recorded as lost.  Behind `C06.delivered_of_no_loss`.
-/
namespace RedisVerif
namespace Gossip
open MCluster

theorem sendOne_broadcast (cfg : NodeCfg) (r : Routed) (oks : List Bool) (h : r.target = none) :
    sendOne cfg r oks = cfg.peers.foldl (bstep r) ([], [], oks) := by
  unfold sendOne
  rw [h]
  rfl

theorem fold_bstep_mono (r : Routed) : ∀ (ps : List Nat) (acc),
    (∀ pk ∈ acc.1, pk ∈ (ps.foldl (bstep r) acc).1) ∧ (∀ l ∈ acc.2.1, l ∈ (ps.foldl (bstep r) acc).2.1) :=
  fun ps acc => (fold_bstep_spec r ps acc).1

theorem sendAll_broadcast_complete (cfg : NodeCfg) (rs : List Routed) (oks : List Bool)
    (hb : ∀ r ∈ rs, r.target = none) :
    ∀ r ∈ rs, ∀ a ∈ cfg.peers,
      (⟨a, r.msg⟩ : Packet) ∈ (sendAll cfg rs oks).1 ∨
      ∀ d ∈ r.msg.payload, (d, Loss.sendFailed, some a) ∈ (sendAll cfg rs oks).2 := by
  obtain ⟨runs, h1, h2, h3⟩ := sendAll_runs cfg rs oks
  intro r hr a ha
  rw [← h1, List.mem_map] at hr
  obtain ⟨x, hx, rfl⟩ := hr
  have hg := (fold_bstep_spec x.1 cfg.peers ([], [], x.2)).2.2 a ha
  rw [← sendOne_broadcast cfg x.1 x.2 (hb _ (by rw [← h1]; exact List.mem_map_of_mem hx))] at hg
  rw [h2, h3]
  exact hg.imp (fun h => List.mem_flatMap.mpr ⟨x, hx, h⟩) (fun h d hd => List.mem_flatMap.mpr ⟨x, hx, h d hd⟩)

theorem mem_deltasOf_split (cap : Nat) (q : List Routed) (m : Msg) (h : m ∈ deltasOf q) :
    m ∈ deltasOf (overflow cap q) ∨ m ∈ deltasOf (enforceCap cap q) := by
  rw [← overflow_append_enforceCap cap q, deltasOf_append, List.mem_append] at h
  exact h

end Gossip
end RedisVerif
