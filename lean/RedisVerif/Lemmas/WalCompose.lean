import RedisVerif.Lemmas.WalOrder
import RedisVerif.Lemmas.Concrete

/-!
  Glue between the three WAL models for `Props/C09Compose.lean`: messages that carry DELTAS
  (`DEv`), the entries `from_delta` makes of them (`entryOf`, byte-exact bincode + CRC-32),
  `recover_entries_after` over images all of whose entries were written, and the bookkeeping that
  every ack belongs to a `write_durable` call of the history.
-/
namespace RedisVerif
namespace C09

open Wal Bincode Driver Concrete

/-- `WalEntry::from_delta(&delta, timestamp)`: payload = bincode of the delta, checksum =
    CRC-32 of `data_length | timestamp | data` -/
def entryOf (d : WDelta) (ts : Nat) : Entry := Entry.mk' .v2 crc32 (delta.enc d) ts

/-- the delta is representable (`delta.ok`: strings are UTF-8, integers fit their widths), its
    encoding fits the u32 length field of a WAL entry, the stamp is a u64 -/
def DeltaFits (d : WDelta) (ts : Nat) : Prop := delta.ok d ∧ ts < 2 ^ 64 ∧ (delta.enc d).length < 2 ^ 32

theorem entryOf_good (d : WDelta) (ts : Nat) (h : DeltaFits d ts) : (entryOf d ts).Good .v2 crc32 := by
  obtain ⟨hd, hts, hlen⟩ := h
  refine ⟨⟨hlen, hts, ?_⟩, rfl, fun _ => enc_ne_nil lawful_delta d⟩
  exact Crc.crc32_lt _ (bytes_of_allBytes (allBytes_covered .v2 _ _ _ (lawful_delta.enc_bytes d hd)))

/-- a mailbox event whose `Write`s carry DELTAS, as `WalMessage::Write { delta, timestamp, ack_tx }`
    does (`ack_tx = Some` for `write_durable`, `None` for `write_fire_and_forget`); `reopen` = end of
    this actor incarnation (clean shutdown or machine crash) and `WalRotator::new` over what is left -/
inductive DEv where
  | write (id : Nat) (d : WDelta) (ts : Nat)
  | forget (id : Nat) (d : WDelta) (ts : Nat)
  | tick
  | truncate (T : Nat)
  | flush
  | reopen (crash : Bool)

/-- the event of the byte-level actor model: the actor serialises the delta first -/
def DEv.toEv : DEv → Ev
  | .write id d ts => .write ⟨id, delta.enc d, ts⟩
  | .forget id d ts => .forget ⟨id, delta.enc d, ts⟩
  | .tick => .tick
  | .truncate T => .truncate T
  | .flush => .flush
  | .reopen c => .reopen c false

/-- (delta, stamp) of every `Write` message of the history -/
def writesOf : List DEv → List (WDelta × Nat)
  | [] => []
  | .write _ d ts :: r => (d, ts) :: writesOf r
  | .forget _ d ts :: r => (d, ts) :: writesOf r
  | _ :: r => writesOf r

/-- (id, delta, stamp) of every `write_durable` call of the history -/
def durableWritesOf : List DEv → List (Nat × WDelta × Nat)
  | [] => []
  | .write id d ts :: r => (id, d, ts) :: durableWritesOf r
  | _ :: r => durableWritesOf r

theorem mem_writesOf_write {devs : List DEv} {id : Nat} {d : WDelta} {ts : Nat}
    (h : DEv.write id d ts ∈ devs ∨ DEv.forget id d ts ∈ devs) : (d, ts) ∈ writesOf devs := by
  induction devs with
  | nil => rcases h with h | h <;> cases h
  | cons ev r ih =>
    have hr : (DEv.write id d ts ∈ r ∨ DEv.forget id d ts ∈ r) → (d, ts) ∈ writesOf (ev :: r) := by
      intro h'
      have := ih h'
      cases ev <;> simp only [writesOf, List.mem_cons] <;> first | exact Or.inr this | exact this
    rcases h with h | h
    · rcases List.mem_cons.mp h with rfl | h'
      · simp [writesOf]
      · exact hr (Or.inl h')
    · rcases List.mem_cons.mp h with rfl | h'
      · simp [writesOf]
      · exact hr (Or.inr h')

theorem entriesOf_devs (devs : List DEv) :
    entriesOf .v2 crc32 (devs.map DEv.toEv) = (writesOf devs).map (fun p => entryOf p.1 p.2) := by
  induction devs with
  | nil => rfl
  | cons dev r ih => cases dev <;> simp [entriesOf, writesOf, DEv.toEv, entryOf, ih]

theorem ok_of_fits (devs : List DEv) (hfit : ∀ p ∈ writesOf devs, DeltaFits p.1 p.2) :
    ∀ ev ∈ devs.map DEv.toEv, ev.Ok .v2 crc32 := by
  intro ev hev
  obtain ⟨dev, hdev, rfl⟩ := List.mem_map.mp hev
  cases dev with
  | write id d ts =>
    have hg := entryOf_good d ts (hfit (d, ts) (mem_writesOf_write (Or.inl hdev)))
    exact ⟨hg.1, hg.2.2⟩
  | forget id d ts =>
    have hg := entryOf_good d ts (hfit (d, ts) (mem_writesOf_write (Or.inr hdev)))
    exact ⟨hg.1, hg.2.2⟩
  | tick => trivial
  | truncate T => trivial
  | flush => trivial
  | reopen c => rfl

/-! ## `recover_entries_after` over entries that were all made by `from_delta` -/

theorem deDelta_entryOf (d : WDelta) (ts : Nat) (h : DeltaFits d ts) : deDelta (entryOf d ts).data = some d :=
  deDelta_enc d h.1

/-! ## the acks are the acks of the `write_durable` calls -/

/-- every ack sent or pending belongs to a `write_durable` call of the history: same id, and the
    entry recorded for it is `from_delta` of that call's delta and stamp -/
def AckSrc (devs : List DEv) (a : Actor) : Prop :=
  (∀ r ∈ a.acks, ∃ q ∈ durableWritesOf devs, r.id = q.1 ∧ r.entry = entryOf q.2.1 q.2.2) ∧
  (∀ p ∈ a.pending, ∃ q ∈ durableWritesOf devs, p.1 = q.1 ∧ p.2 = entryOf q.2.1 q.2.2)

theorem mem_durableWritesOf {devs : List DEv} {id : Nat} {d : WDelta} {ts : Nat}
    (h : DEv.write id d ts ∈ devs) : (id, d, ts) ∈ durableWritesOf devs := by
  induction devs with
  | nil => cases h
  | cons ev r ih =>
    rcases List.mem_cons.mp h with rfl | h'
    · simp [durableWritesOf]
    · have := ih h'
      cases ev <;> simp only [durableWritesOf, List.mem_cons] <;> first | exact Or.inr this | exact this

theorem AckSrc.answered {devs : List DEv} {a : Actor} (h : AckSrc devs a) (r : Rot) (res : Ack) :
    AckSrc devs (a.answered r res) := by
  refine ⟨fun x hx => ?_, fun p hp => by cases hp⟩
  rcases List.mem_append.mp hx with hx | hx
  · rw [List.mem_reverse, List.mem_map] at hx
    obtain ⟨p, hp, rfl⟩ := hx
    exact h.2 p hp
  · exact h.1 x hx

theorem ackSrc_moved {devs : List DEv} {fix tk : Bool} {φ : Nat → Outcome} {a a' : Actor} {ev : Ev}
    (hm : Moved fix tk φ .v2 crc32 a ev a') (h : AckSrc devs a)
    (hev : ∀ w, ev = .write w → ∃ q ∈ durableWritesOf devs, w.id = q.1 ∧ Entry.mk' .v2 crc32 w.data w.ts = entryOf q.2.1 q.2.2) :
    AckSrc devs a' := by
  induction hm with
  | queued w =>
    refine ⟨h.1, fun p hp => ?_⟩
    rcases List.mem_append.mp hp with hp | hp
    · exact h.2 p hp
    · rw [List.mem_singleton.mp hp]; exact hev w rfl
  | refused w =>
    refine ⟨fun x hx => ?_, h.2⟩
    rcases List.mem_cons.mp hx with rfl | hx
    · exact hev w rfl
    · exact h.1 x hx
  | counted | lost | idle | ticked | truncated => exact h
  | flushed | crashed => exact h.answered ..
  | restarted _ _ ih => exact ih fun w hw => by cases hw

theorem ackSrc_step (devs : List DEv) (fix tk : Bool) (φ : Nat → Outcome) (a : Actor) (h : AckSrc devs a)
    (dev : DEv) (hdev : dev ∈ devs) : AckSrc devs (Actor.step fix tk φ .v2 crc32 a dev.toEv) := by
  refine ackSrc_moved (step_moved a dev.toEv) h fun w hw => ?_
  cases dev <;> cases hw
  exact ⟨_, mem_durableWritesOf hdev, rfl, rfl⟩

theorem ackSrc_run (devs : List DEv) (fix tk : Bool) (φ : Nat → Outcome) (maxSize : Nat) :
    AckSrc devs (Actor.run fix tk φ .v2 crc32 maxSize (devs.map DEv.toEv)) := by
  unfold Actor.run
  have h0 : AckSrc devs (Actor.init maxSize) := ⟨(fun r hr => by cases hr), (fun p hp => by cases hp)⟩
  generalize Actor.init maxSize = a0 at h0
  suffices ∀ (l : List DEv), (∀ x ∈ l, x ∈ devs) → ∀ a, AckSrc devs a →
      AckSrc devs ((l.map DEv.toEv).foldl (Actor.step fix tk φ .v2 crc32) a) from
    this devs (fun _ h => h) a0 h0
  intro l
  induction l with
  | nil => intro _ a ha; exact ha
  | cons x xs ih =>
    intro hl a ha
    simp only [List.map_cons, List.foldl_cons]
    exact ih (fun y hy => hl y (List.mem_cons_of_mem _ hy)) _ (ackSrc_step devs fix tk φ a ha x (hl x (by simp)))

/-! ## `recover_entries_after` along histories: a sublist of what was written, in order -/

/-- at every instant of every history `recover_entries_after(T)` on the crash image succeeds, and what it
    returns is, in order, a sublist of the deltas of the `Write` messages stamped `≥ T` -/
theorem recoverAfter_sublist_written (φ : Nat → Outcome) (maxSize : Nat) (devs : List DEv)
    (hfit : ∀ p ∈ writesOf devs, DeltaFits p.1 p.2) (t : Nat) (st : Store)
    (hst : (Actor.run true false φ .v2 crc32 maxSize (devs.map DEv.toEv)).rot.w.storeAt t = some st) (T : Nat) :
    ∃ ds, recoverAfter .v2 crc32 deDelta T (crashImage st) = some ds ∧
      List.Sublist ds (((writesOf devs).filter (fun p => decide (T ≤ p.2))).map (·.1)) ∧
      ∀ d ts, entryOf d ts ∈ durable .v2 crc32 st → DeltaFits d ts → T ≤ ts → d ∈ ds := by
  obtain ⟨g0, h0, hL⟩ := orot_run true false φ maxSize _ (ok_of_fits devs hfit)
  have hsub := orot_recovered h0 t st hst
  rw [hL, entriesOf_devs] at hsub
  unfold durable at hsub
  -- the decoded delta of an entry
  let g : Entry → WDelta := fun e => (deDelta e.data).getD default
  have hg : ∀ p ∈ writesOf devs, deDelta (entryOf p.1 p.2).data = some p.1 := fun p hp => deDelta_entryOf p.1 p.2 (hfit p hp)
  refine ⟨((recoverAll .v2 crc32 (crashImage st)).filter (fun e => decide (T ≤ e.ts))).map g, ?_, ?_⟩
  · unfold recoverAfter
    apply allSome_eq_map
    intro e he
    obtain ⟨p, hp, rfl⟩ := List.mem_map.mp (hsub.subset (List.mem_filter.mp he).1)
    show deDelta (entryOf p.1 p.2).data = some ((deDelta (entryOf p.1 p.2).data).getD default)
    rw [hg p hp]; rfl
  · -- on the written entries the stamp filter is the filter on message stamps, and decoding returns the delta
    have hl : (((writesOf devs).map fun p => entryOf p.1 p.2).filter (fun e => decide (T ≤ e.ts))).map g
        = ((writesOf devs).filter (fun p => decide (T ≤ p.2))).map (·.1) := by
      rw [List.filter_map, List.map_map]
      exact List.map_congr_left fun p hp => by
        show (deDelta (entryOf p.1 p.2).data).getD default = p.1
        rw [hg p (List.mem_filter.mp hp).1]; rfl
    refine ⟨hl ▸ (hsub.filter (fun e => decide (T ≤ e.ts))).map g, fun d ts hm hf hT => ?_⟩
    refine List.mem_map.mpr ⟨_, List.mem_filter.mpr ⟨hm, decide_eq_true hT⟩, ?_⟩
    show (deDelta (entryOf d ts).data).getD default = d
    rw [deDelta_entryOf d ts hf]; rfl

end C09
end RedisVerif
