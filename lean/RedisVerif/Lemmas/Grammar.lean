import RedisVerif.Model.Grammar

/-
  Lemmas about the grammar model: the keyword normalisation ignores ASCII letter case
  (`kw_congr`), option scans and the bodies with keyword positions cannot tell keyword-case
  variants apart (`Sound.*`, used as the proof fields of the `CustomBody`s in the tables).  First the `Except` lemmas
  (`bind_ok`, `bind_err`, `ok_of_toOption`) with which the proofs of this area take the `do` block of a body apart.
-/
namespace RedisVerif.Grammar

theorem toOption_bind {ε α β : Type} (x : Except ε α) (f : α → Except ε β) :
    (x >>= f).toOption = x.toOption.bind fun a => (f a).toOption := by
  cases x <;> rfl

theorem ok_of_toOption {ε ε' α : Type} {x : Except ε α} {y : Except ε' α} (h : x.toOption = y.toOption) {a : α}
    (hx : x = .ok a) : y = .ok a := by
  subst hx
  cases y with
  | ok b => cases h; rfl
  | error e => cases h

theorem bind_ok {ε α β : Type} {x : Except ε α} {f : α → Except ε β} {b : β} (h : x >>= f = .ok b) :
    ∃ a, x = .ok a ∧ f a = .ok b := by
  cases x with
  | error e' => simp [bind, Except.bind] at h
  | ok a => exact ⟨a, rfl, by simpa [bind, Except.bind] using h⟩

theorem bind_err {ε α β : Type} {x : Except ε α} {f : α → Except ε β} {e : ε} (h : x >>= f = .error e) :
    x = .error e ∨ ∃ a, x = .ok a ∧ f a = .error e := by
  cases x with
  | error e' => exact Or.inl (by simpa [bind, Except.bind] using h)
  | ok a => exact Or.inr ⟨a, rfl, by simpa [bind, Except.bind] using h⟩

theorem uA_idem (b : Nat) : upperAscii (upperAscii b) = upperAscii b := by
  unfold upperAscii; split <;> simp_all <;> omega

theorem uA_lt (b : Nat) : (upperAscii b < 0x80) = (b < 0x80) := by
  unfold upperAscii; split <;> simp_all <;> omega

theorem uA_big {b : Nat} (h : ¬ b < 0x80) : upperAscii b = b := by
  unfold upperAscii; split <;> simp_all
  omega

theorem uA_small {b : Nat} (h : b < 0x80) : upperAscii b < 0x80 := by
  rw [uA_lt]; exact h

theorem uA_congr {p : Nat → Bool} (hp : ∀ c, c < 0x80 → p c = false) (c : Nat) : p (upperAscii c) = p c := by
  by_cases h : c < 0x80
  · rw [hp _ (uA_small h), hp _ h]
  · rw [uA_big h]

theorem isCont_uA (c : Nat) : isCont (upperAscii c) = isCont c :=
  uA_congr (fun c h => by unfold isCont; simp; omega) c

theorem ok3_uA (b c : Nat) : ok3 b (upperAscii c) = ok3 b c :=
  uA_congr (p := ok3 b) (fun c h => by unfold ok3; simp; omega) c

theorem ok4_uA (b c : Nat) : ok4 b (upperAscii c) = ok4 b c :=
  uA_congr (p := ok4 b) (fun c h => by unfold ok4; simp; omega) c

theorem chunk_map (a : Bytes) : chunk (a.map upperAscii) = chunk a := by
  match a with
  | [] => rfl
  | b :: rest =>
    by_cases hb : b < 0x80
    · have := uA_small hb
      simp [chunk, hb, this]
    · have e := uA_big hb
      simp only [List.map_cons, e]
      unfold chunk
      simp only [hb, if_false]
      match rest with
      | [] => rfl
      | c :: r =>
        simp only [List.map_cons, isCont_uA, ok3_uA, ok4_uA]
        match r with
        | [] => rfl
        | d :: r' =>
          simp only [List.map_cons, isCont_uA]
          match r' with
          | [] => rfl
          | e :: r'' => simp only [List.map_cons, isCont_uA]

theorem lossyF_map (fuel : Nat) (a : Bytes) : lossyF fuel (a.map upperAscii) = (lossyF fuel a).map upperAscii := by
  induction fuel generalizing a with
  | zero => simp [lossyF]
  | succ n ih =>
    match a with
    | [] => simp [lossyF]
    | b :: rest =>
      have hc := chunk_map (b :: rest)
      simp only [List.map_cons] at hc
      simp only [List.map_cons, lossyF, hc, List.map_append]
      rw [← List.map_cons, ← List.map_drop, ih, ← List.map_take]
      split <;> simp [fffd, upperAscii]

theorem lossy_map (a : Bytes) : lossy (a.map upperAscii) = (lossy a).map upperAscii := by
  simp [lossy, lossyF_map]

theorem isPrefix_map (p x : Bytes) (hp : ∀ y ∈ p, ¬ y < 0x80) : isPrefix p (x.map upperAscii) = isPrefix p x := by
  induction p generalizing x with
  | nil => simp [isPrefix]
  | cons q qs ih =>
    match x with
    | [] => simp [isPrefix]
    | y :: ys =>
      have hq : ¬ q < 0x80 := hp q (by simp)
      have : (q == upperAscii y) = (q == y) := uA_congr (p := (q == ·)) (fun c h => by simp; omega) y
      simp only [List.map_cons, isPrefix, this]
      rw [ih _ (fun y hy => hp y (by simp [hy]))]

theorem findSpecial_map (tbl : List (Bytes × Bytes)) (x : Bytes)
    (h : ∀ pe ∈ tbl, ∀ y ∈ pe.1, ¬ y < 0x80) :
    findSpecial tbl (x.map upperAscii) = findSpecial tbl x := by
  induction tbl with
  | nil => rfl
  | cons pe t ih =>
    obtain ⟨p, e⟩ := pe
    simp only [findSpecial]
    rw [isPrefix_map p x (h (p, e) (by simp)), ih (fun pe hpe => h pe (by simp [hpe]))]

theorem specials_high : ∀ pe ∈ specials, ∀ y ∈ pe.1, ¬ y < 0x80 := by decide
theorem specials_fixed : ∀ pe ∈ specials, pe.2.map upperAscii = pe.2 := by decide

theorem findSpecial_mem {tbl : List (Bytes × Bytes)} {x : Bytes} {p e : Bytes}
    (h : findSpecial tbl x = some (p, e)) : (p, e) ∈ tbl := by
  induction tbl with
  | nil => simp [findSpecial] at h
  | cons pe t ih =>
    obtain ⟨p', e'⟩ := pe
    simp only [findSpecial] at h
    split at h
    · simp at h; simp [h]
    · simp [ih h]


theorem upperSpecialF_map (fuel : Nat) (x : Bytes) :
    upperSpecialF fuel (x.map upperAscii) = (upperSpecialF fuel x).map upperAscii := by
  induction fuel generalizing x with
  | zero => simp [upperSpecialF]
  | succ n ih =>
    match x with
    | [] => simp [upperSpecialF]
    | b :: r =>
      have hf := findSpecial_map specials (b :: r) specials_high
      simp only [List.map_cons] at hf
      simp only [List.map_cons, upperSpecialF, hf]
      cases hfs : findSpecial specials (b :: r) with
      | none => simp [ih]
      | some pe =>
        obtain ⟨p, e⟩ := pe
        have hfix := specials_fixed (p, e) (findSpecial_mem hfs)
        simp only at hfix
        simp only [List.map_append, hfix]
        rw [← List.map_cons, ← List.map_drop, ih]

theorem upper_map (x : Bytes) : upper (x.map upperAscii) = upper x := by
  simp [upper, upperSpecial, upperSpecialF_map, uA_idem]

theorem kw_map (a : Bytes) : kw (a.map upperAscii) = kw a := by
  simp [kw, lossy_map, upper_map]

theorem kw_congr {a b : Bytes} (h : caseVariant a b = true) : kw a = kw b := by
  have h' : a.map upperAscii = b.map upperAscii := by simpa [caseVariant] using h
  rw [← kw_map a, ← kw_map b, h']

theorem lossyF_ascii : ∀ (fuel : Nat) (a : Bytes), a.length ≤ fuel → (∀ b ∈ a, b < 0x80) → lossyF fuel a = a
  | _, [], _, _ => by cases ‹Nat› <;> rfl
  | 0, _ :: _, hl, _ => by simp at hl
  | fuel + 1, b :: r, hl, h => by
    have hb : b < 0x80 := h b (by simp)
    simp only [lossyF, chunk, hb, if_true, List.take_succ_cons, List.take_zero, List.drop_succ_cons, List.drop_zero,
      List.cons_append, List.nil_append]
    rw [lossyF_ascii fuel r (by simpa using hl) (fun x hx => h x (by simp [hx]))]

/-- every special character starts with a byte above 0x7F -/
theorem findSpecial_ascii {b : Nat} (hb : b < 0x80) (r : Bytes) : findSpecial specials (b :: r) = none := by
  simp only [specials, findSpecial, isPrefix, Bool.and_eq_true, beq_iff_eq]
  repeat' rw [if_neg (by omega)]

theorem upperSpecialF_ascii : ∀ (fuel : Nat) (a : Bytes), a.length ≤ fuel → (∀ b ∈ a, b < 0x80) →
    upperSpecialF fuel a = a
  | _, [], _, _ => by cases ‹Nat› <;> rfl
  | 0, _ :: _, hl, _ => by simp at hl
  | fuel + 1, b :: r, hl, h => by
    simp only [upperSpecialF, findSpecial_ascii (h b (by simp))]
    rw [upperSpecialF_ascii fuel r (by simpa using hl) (fun x hx => h x (by simp [hx]))]

theorem kw_ascii {a : Bytes} (h : ∀ b ∈ a, b < 0x80) : kw a = a.map upperAscii := by
  rw [kw, lossy, lossyF_ascii _ a (Nat.le_refl _) h, upper, upperSpecial, upperSpecialF_ascii _ a (Nat.le_refl _) h]

theorem kw_of_upper {a : Bytes} (h : a.all (· < 97) = true) : kw a = a := by
  have h' : ∀ b ∈ a, b < 97 := by simpa using h
  rw [kw_ascii (fun b hb => Nat.lt_trans (h' b hb) (by decide))]
  conv => rhs; rw [← List.map_id a]
  exact List.map_congr_left fun b hb => by
    have := h' b hb
    simp only [upperAscii, id]
    rw [if_neg (by simp; omega)]


/-- `scanOpts` consumes one, two or three words per step, so the induction is on a bound `n` of the length; the case
    tree below is that of `scanOpts` (word found or not, refused, zero / one / two values, values present or missing). -/
theorem scanOpts_variant_aux (tbl : List OptSpec) (unk : Bytes → Option BErr) :
    ∀ (n : Nat) (x y : List Bytes), x.length ≤ n → optVariant tbl x y = true →
      scanOpts tbl unk x = scanOpts tbl unk y := by
  intro n
  induction n with
  | zero =>
    intro x y hl h
    match x, y with
    | [], [] => rfl
    | [], _ :: _ => simp [optVariant] at h
    | _ :: _, _ => simp at hl
  | succ n ih =>
    intro x y hl h
    match x, y with
    | [], [] => rfl
    | [], _ :: _ => simp [optVariant] at h
    | _ :: _, [] => simp [optVariant] at h
    | a :: r, a' :: r' =>
      have hr : r.length ≤ n := by simp at hl; omega
      unfold optVariant at h
      rw [Bool.and_eq_true] at h
      obtain ⟨hcv, h⟩ := h
      have hk : kw a' = kw a := (kw_congr hcv).symm
      rw [scanOpts, scanOpts, hk]
      cases hf : findOpt tbl (kw a) 0 with
      | none =>
        rw [hf] at h
        simp only
        rw [ih r r' hr h]
      | some io =>
        obtain ⟨idx, o⟩ := io
        rw [hf] at h
        simp only at h ⊢
        cases o.reject with
        | some f => rfl
        | none =>
          simp only
          match hv : o.vals with
          | [] =>
            rw [hv] at h
            simp only at h ⊢
            rw [ih r r' hr h]
          | [k1] =>
            rw [hv] at h
            simp only at h ⊢
            match r, r' with
            | [], [] => rfl
            | [], _ :: _ => simp at h
            | _ :: _, [] => simp at h
            | v :: s, v' :: s' =>
              simp only [Bool.and_eq_true, beq_iff_eq] at h
              obtain ⟨hv', hs⟩ := h
              subst hv'
              have : s.length ≤ n := by simp at hr; omega
              simp only
              rw [ih s s' this hs]
          | [k1, k2] =>
            rw [hv] at h
            simp only at h ⊢
            match r, r' with
            | [], [] => rfl
            | [], _ :: _ => simp at h
            | [_], [] => simp at h
            | [v], [v'] => simp at h; subst h; rfl
            | [_], _ :: _ :: _ => simp at h
            | _ :: _ :: _, [] => simp at h
            | _ :: _ :: _, [_] => simp at h
            | v :: w :: s, v' :: w' :: s' =>
              simp only [Bool.and_eq_true, beq_iff_eq] at h
              obtain ⟨⟨hv', hw'⟩, hs⟩ := h
              subst hv'; subst hw'
              have : s.length ≤ n := by simp at hr; omega
              simp only
              rw [ih s s' this hs]
          | _ :: _ :: _ :: _ =>
            rfl

theorem scanOpts_variant (tbl : List OptSpec) (unk : Bytes → Option BErr) (x y : List Bytes)
    (h : optVariant tbl x y = true) : scanOpts tbl unk x = scanOpts tbl unk y :=
  scanOpts_variant_aux tbl unk x.length x y (Nat.le_refl _) h


theorem prefixV_sound {n : Nat} {tail : List Bytes → List Bytes → Bool} {f : List Bytes → BRes}
    (h : ∀ pre o o', pre.length = n → tail o o' = true → f (pre ++ o) = f (pre ++ o')) :
    ∀ a b, prefixV n tail a b = true → f a = f b := by
  intro a b hv
  simp only [prefixV, Bool.and_eq_true, beq_iff_eq] at hv
  obtain ⟨ht, htl⟩ := hv
  by_cases hl : n ≤ a.length
  · have h1 := h (a.take n) (a.drop n) (b.drop n) (by simp [List.length_take]; omega) htl
    rw [List.take_append_drop] at h1
    rw [h1, ht, List.take_append_drop]
  · have hl' : a.length < n := by omega
    have ha : a.take n = a := List.take_of_length_le (by omega)
    have hb : (b.take n).length = a.length := by rw [← ht, ha]
    have hb' : b.length < n := by
      rw [List.length_take] at hb
      omega
    have : b.take n = b := List.take_of_length_le (by omega)
    rw [ha, this] at ht
    rw [ht]

theorem takeFlags_variant (flags : List Bytes) : ∀ x y, flagsVariant flags x y = true →
    takeFlags flags x = takeFlags flags y := by
  intro x
  induction x with
  | nil =>
    intro y h
    match y with
    | [] => rfl
    | _ :: _ => simp [flagsVariant] at h
  | cons a r ih =>
    intro y h
    match y with
    | [] => simp [flagsVariant] at h
    | a' :: r' =>
      unfold flagsVariant at h
      by_cases hc : flags.contains (kw a) = true
      · rw [if_pos hc, Bool.and_eq_true] at h
        have hk := kw_congr h.1
        have hc' : flags.contains (kw a') = true := by rw [← hk]; exact hc
        simp only [takeFlags, hc, hc', if_true]
        rw [ih r' h.2, hk]
      · rw [if_neg hc] at h
        simp only [beq_iff_eq] at h
        rw [h]

theorem wordsVariant_length : ∀ x y, wordsVariant x y = true → x.length = y.length := by
  intro x
  induction x with
  | nil => intro y h; match y with
    | [] => rfl
    | _ :: _ => simp [wordsVariant] at h
  | cons a r ih => intro y h; match y with
    | [] => simp [wordsVariant] at h
    | a' :: r' =>
      simp only [wordsVariant, Bool.and_eq_true] at h
      simp [ih r' h.2]

namespace Sound
open Bodies

theorem set : ∀ a b, prefixV 2 (optVariant setOpts) a b = true → Bodies.set a = Bodies.set b :=
  prefixV_sound (fun pre o o' hl ht => by
    match pre, hl with
    | [k, v], _ => simp only [List.cons_append, List.nil_append, Bodies.set, scanOpts_variant _ _ _ _ ht])

theorem luaSet : ∀ a b, prefixV 2 (optVariant luaSetOpts) a b = true → Bodies.luaSet a = Bodies.luaSet b :=
  prefixV_sound (fun pre o o' hl ht => by
    match pre, hl with
    | [k, v], _ => simp only [List.cons_append, List.nil_append, Bodies.luaSet, scanOpts_variant _ _ _ _ ht])

theorem expire (c : Bytes) : ∀ a b, prefixV 2 (optVariant expireOpts) a b = true →
    Bodies.expire c a = Bodies.expire c b :=
  prefixV_sound (fun pre o o' hl ht => by
    match pre, hl with
    | [k, v], _ => simp only [List.cons_append, List.nil_append, Bodies.expire, scanOpts_variant _ _ _ _ ht])

theorem getex : ∀ a b, prefixV 1 (optVariant getexOpts) a b = true → Bodies.getex a = Bodies.getex b :=
  prefixV_sound (fun pre o o' hl ht => by
    match pre, hl with
    | [k], _ => simp only [List.cons_append, List.nil_append, Bodies.getex, scanOpts_variant _ _ _ _ ht])

theorem zrangebyscore (off cnt : Arg) (m : Lit) (u : Fmt) :
    ∀ a b, prefixV 3 (optVariant (zrbsOpts off cnt m)) a b = true →
      Bodies.zrangebyscore off cnt m u a = Bodies.zrangebyscore off cnt m u b :=
  prefixV_sound (fun pre o o' hl ht => by
    match pre, hl with
    | [k, x, y], _ =>
      simp only [List.cons_append, List.nil_append, Bodies.zrangebyscore, scanOpts_variant _ _ _ _ ht])

theorem scan (c : Bytes) (withKey : Bool) (u : Fmt) :
    ∀ a b, prefixV (if withKey then 2 else 1) (optVariant scanOptTbl) a b = true →
      Bodies.scan c withKey u a = Bodies.scan c withKey u b :=
  prefixV_sound (fun pre o o' hl ht => by
    cases withKey with
    | false =>
      match pre, hl with
      | [k], _ => simp only [List.cons_append, List.nil_append, Bodies.scan, scanOpts_variant _ _ _ _ ht]
    | true =>
      match pre, hl with
      | [k, x], _ => simp only [List.cons_append, List.nil_append, Bodies.scan, scanOpts_variant _ _ _ _ ht])

theorem sort : ∀ a b, prefixV 1 (optVariant sortOpts) a b = true → Bodies.sort a = Bodies.sort b :=
  prefixV_sound (fun pre o o' hl ht => by
    match pre, hl with
    | [k], _ => simp only [List.cons_append, List.nil_append, Bodies.sort, scanOpts_variant _ _ _ _ ht])

theorem zadd (score : Arg) : ∀ a b, prefixV 1 (flagsVariant zaddFlags) a b = true →
    Bodies.zadd score a = Bodies.zadd score b :=
  prefixV_sound (fun pre o o' hl ht => by
    match pre, hl with
    | [k], _ => simp only [List.cons_append, List.nil_append, Bodies.zadd, takeFlags_variant _ _ _ ht])

theorem lmove : ∀ a b, prefixV 2 wordsVariant a b = true → Bodies.lmove a = Bodies.lmove b :=
  prefixV_sound (fun pre o o' hl ht => by
    match pre, hl with
    | [s, d], _ =>
      match o, o' with
      | [f, t], [f', t'] =>
        simp only [wordsVariant, Bool.and_eq_true, and_true] at ht
        simp only [List.cons_append, List.nil_append, Bodies.lmove, kw_congr ht.1, kw_congr ht.2]
      | [], [] => rfl
      | [_], [_] => rfl
      | _ :: _ :: _ :: _, _ :: _ :: _ :: _ => rfl
      | [], _ :: _ => simp [wordsVariant] at ht
      | _ :: _, [] => simp [wordsVariant] at ht
      | [_], _ :: _ :: _ => simp [wordsVariant] at ht
      | _ :: _ :: _, [_] => simp [wordsVariant] at ht
      | [_, _], _ :: _ :: _ :: _ => simp [wordsVariant] at ht
      | _ :: _ :: _ :: _, [_, _] => simp [wordsVariant] at ht)

theorem zrange (c : Bytes) : ∀ a b, prefixV 3 wordsVariant a b = true → Bodies.zrange c a = Bodies.zrange c b :=
  prefixV_sound (fun pre o o' hl ht => by
    match pre, hl with
    | [k, x, y], _ =>
      match o, o' with
      | [], [] => rfl
      | [w], [w'] =>
        simp only [wordsVariant, Bool.and_eq_true, and_true] at ht
        simp only [List.cons_append, List.nil_append, Bodies.zrange, kw_congr ht]
      | _ :: _ :: _, _ :: _ :: _ => rfl
      | [], _ :: _ => simp [wordsVariant] at ht
      | _ :: _, [] => simp [wordsVariant] at ht
      | [_], _ :: _ :: _ => simp [wordsVariant] at ht
      | _ :: _ :: _, [_] => simp [wordsVariant] at ht)

theorem command : ∀ a b, headVariant a b = true → Bodies.command a = Bodies.command b := by
  intro a b h
  match a, b with
  | [], [] => rfl
  | x :: r, y :: s =>
    simp only [headVariant, Bool.and_eq_true] at h
    simp only [Bodies.command, kw_congr h.1]
  | [], _ :: _ => simp [headVariant] at h
  | _ :: _, [] => simp [headVariant] at h

theorem aclDryrun : ∀ a b, prefixV 1 headVariant a b = true → Bodies.aclDryrun a = Bodies.aclDryrun b :=
  prefixV_sound (fun pre o o' hl ht => by
    match pre, hl with
    | [u], _ =>
      match o, o' with
      | [], [] => rfl
      | c :: r, c' :: r' =>
        simp only [headVariant, Bool.and_eq_true, beq_iff_eq] at ht
        obtain ⟨h1, h2⟩ := ht
        subst h2
        simp only [List.cons_append, List.nil_append, Bodies.aclDryrun, kw_congr h1]
      | [], _ :: _ => simp [headVariant] at ht
      | _ :: _, [] => simp [headVariant] at ht)

theorem aclLog : ∀ a b, wordsVariant a b = true → Bodies.aclLog a = Bodies.aclLog b := by
  intro a b h
  match a, b with
  | [], [] => rfl
  | [x], [y] =>
    simp only [wordsVariant, Bool.and_eq_true, and_true] at h
    simp only [Bodies.aclLog, kw_congr h]
  | _ :: _ :: _, _ :: _ :: _ => rfl
  | [], _ :: _ => simp [wordsVariant] at h
  | _ :: _, [] => simp [wordsVariant] at h
  | [_], _ :: _ :: _ => simp [wordsVariant] at h
  | _ :: _ :: _, [_] => simp [wordsVariant] at h

end Sound

end RedisVerif.Grammar
