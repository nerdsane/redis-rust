/-
  A run is a left fold of a step function over a list of operations: an invariant that every step
  preserves holds after every run (`run_inv`; `run_inv_of` when only the operations of the list need
  to preserve it), hence after every prefix of a run (`prefix_inv`: a crash between two operations).
-/
namespace RedisVerif
namespace TraceInv

variable {σ ι : Type}

theorem run_inv (step : σ → ι → σ) (I : σ → Prop)
    (hstep : ∀ s i, I s → I (step s i)) (s0 : σ) (h0 : I s0) (ops : List ι) :
    I (ops.foldl step s0) := by
  induction ops generalizing s0 with
  | nil => exact h0
  | cons i ops ih => exact ih (step s0 i) (hstep s0 i h0)

theorem run_inv_of (step : σ → ι → σ) (I : σ → Prop) (ok : ι → Prop)
    (hstep : ∀ s i, ok i → I s → I (step s i)) (s0 : σ) (h0 : I s0) (ops : List ι)
    (hops : ∀ i ∈ ops, ok i) : I (ops.foldl step s0) := by
  induction ops generalizing s0 with
  | nil => exact h0
  | cons i ops ih =>
    exact ih (step s0 i) (hstep s0 i (hops i (by simp)) h0) (fun j hj => hops j (by simp [hj]))

/-- every prefix of a run satisfies the invariant too (crash = stop after any prefix of the
    operations; crashes *inside* an operation are environments of the step function) -/
theorem prefix_inv (step : σ → ι → σ) (I : σ → Prop)
    (hstep : ∀ s i, I s → I (step s i)) (s0 : σ) (h0 : I s0) (ops : List ι) (n : Nat) :
    I ((ops.take n).foldl step s0) :=
  run_inv step I hstep s0 h0 (ops.take n)

end TraceInv
end RedisVerif
