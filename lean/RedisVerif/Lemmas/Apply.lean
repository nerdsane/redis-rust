import RedisVerif.Model.Apply
import RedisVerif.Lemmas.Stream

/-!
  Lemmas about `applyRecoveredState`: key by key, for every router, the value a node holds after
  the application is the checkpoint value of the key (if any; the last one if the list had
  several) with the key's deltas merged in, in order.
-/
namespace RedisVerif
namespace Stream

open FoldACI

theorem shard_upd (n : Node) (i : Nat) (s : Shard) (j : Nat) :
    (n.upd i s).shard j = if j = i then s else n.shard j := by
  unfold Node.upd Node.shard
  simp only [NMap.get_insert]
  split <;> rfl

theorem value_upd_insert (route : Nat → Nat) (n : Node) (k' : Nat) (x : RV) (s' : Shard)
    (hs' : s'.keys = NMap.insert k' x (n.shard (route k')).keys) (k : Nat) :
    (n.upd (route k') s').value route k = if k = k' then some x else n.value route k := by
  unfold Node.value
  rw [shard_upd]
  by_cases hk : k = k'
  · subst hk
    simp [hs', NMap.get_insert]
  · by_cases hr : route k = route k'
    · simp [hr, hk, hs', NMap.get_insert]
    · simp [hr, hk]

theorem value_applyChkEntry (route : Nat → Nat) (n : Node) (d : Delta) (k : Nat) :
    (applyChkEntry route n d).value route k = if k = d.1 then some d.2 else n.value route k :=
  value_upd_insert route n d.1 d.2 _ rfl k

theorem value_applyDeltaNode (route : Nat → Nat) (n : Node) (d : Delta) (k : Nat) :
    (applyDeltaNode route n d).value route k =
      if k = d.1 then optMerge RV.merge (n.value route k) (some d.2) else n.value route k := by
  rw [applyDeltaNode, value_upd_insert route n d.1 _ _ rfl k]
  by_cases hk : k = d.1
  · rw [if_pos hk, if_pos hk, hk]
    unfold Node.value
    cases NMap.get (n.shard (route d.1)).keys d.1 <;> rfl
  · rw [if_neg hk, if_neg hk]

/-- after the checkpoint entries: the last checkpoint value of the key, else what was there -/
theorem value_foldl_chk (route : Nat → Nat) (n : Node) (chk : List Delta) (k : Nat) :
    (chk.foldl (applyChkEntry route) n).value route k =
      match (vals k chk).getLast? with
      | some c => some c
      | none => n.value route k := by
  induction chk generalizing n with
  | nil => simp [vals]
  | cons d chk ih =>
    obtain ⟨k', v⟩ := d
    simp only [List.foldl_cons]
    rw [ih, value_applyChkEntry]
    by_cases hk : k = k'
    · subst hk
      rw [vals_cons_eq]
      simp only [if_true]
      cases h : vals k chk with
      | nil => simp
      | cons x xs =>
        cases hgl : (x :: xs).getLast? with
        | none => simp at hgl
        | some c => rw [List.getLast?_cons_cons, hgl]
    · have hk' : k' ≠ k := fun h => hk h.symm
      rw [vals_cons_ne hk']
      simp [hk]

/-- after the deltas: the key's deltas merged, in order, into what was there -/
theorem value_foldl_deltas (route : Nat → Nat) (n : Node) (ds : List Delta) (k : Nat) :
    (ds.foldl (applyDeltaNode route) n).value route k =
      ((vals k ds).map some).foldl (optMerge RV.merge) (n.value route k) := by
  induction ds generalizing n with
  | nil => rfl
  | cons d ds ih =>
    obtain ⟨k', v⟩ := d
    rw [List.foldl_cons, ih, value_applyDeltaNode]
    by_cases hk : k = k'
    · subst hk
      rw [if_pos rfl, vals_cons_eq]
      rfl
    · rw [if_neg hk, vals_cons_ne (Ne.symm hk)]

/-- in a canonical map a key has at most one value -/
theorem vals_of_wf {m : NMap RV} (h : NMap.WF m) (k : Nat) :
    vals k m = match NMap.get m k with
      | some c => [c]
      | none => [] := by
  induction m with
  | nil => rfl
  | cons p m ih =>
    obtain ⟨k', v⟩ := p
    have ⟨hlb, hw⟩ := NMap.wf_cons.mp h
    by_cases hk : k = k'
    · subst hk
      rw [vals_cons_eq, ih hw, NMap.get_eq_none_of_LB hlb (Nat.le_refl _)]
      simp [NMap.get]
    · have hk' : k' ≠ k := fun h => hk h.symm
      rw [vals_cons_ne hk', ih hw]
      simp [NMap.get, hk]

end Stream
end RedisVerif
