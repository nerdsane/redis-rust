import RedisVerif.Model.GrammarTable
import RedisVerif.Lemmas.GrammarOpts

/-
  The redis.call translator against the RESP grammar: where a translator entry accepts a frame,
  the RESP grammar's entry of the same name builds the same command (slot kinds are the same,
  only the error texts differ; the translator's arity rule is at most as permissive).  For SET the converse as well
  (`scan_super`, `set_ok_lua`): a SET the RESP grammar accepts is accepted by the translator or refused at the first
  option word the translator lacks.
-/
namespace RedisVerif.Grammar

theorem extract_kind {a b : Arg} (hk : a.kind = b.kind) (v : Bytes) :
    (a.extract v).toOption = (b.extract v).toOption := by
  unfold Arg.extract
  rw [hk]
  cases b.kind <;> dsimp only
  · cases parseI64 v <;> rfl
  · cases parseUnsigned u64Max v <;> rfl
  · cases parseF64 v <;> rfl
  · cases parseUnsigned u64Max v <;> rfl
  · cases parseUnsigned u32Max (lossy v) <;> rfl
  · cases parseI64 v <;> rfl

def sameKinds : List Arg → List Arg → Bool
  | [], [] => true
  | a :: as, b :: bs => a.kind == b.kind && sameKinds as bs
  | _, _ => false

theorem extractFixed_kind : ∀ (as bs : List Arg), sameKinds as bs = true → ∀ vs : List Bytes,
    (extractFixed as vs).toOption = (extractFixed bs vs).toOption
  | [], [], _, _ => by cases ‹List Bytes› <;> rfl
  | _ :: _, _ :: _, _, [] => rfl
  | a :: as, b :: bs, h, v :: vs => by
    simp only [sameKinds, Bool.and_eq_true, beq_iff_eq] at h
    simp only [extractFixed, toOption_bind, extract_kind h.1, extractFixed_kind as bs h.2]
  | [], _ :: _, h, _ => by simp [sameKinds] at h
  | _ :: _, [], h, _ => by simp [sameKinds] at h

theorem extractAll_kind {a b : Arg} (hk : a.kind = b.kind) : ∀ vs : List Bytes,
    (extractAll a vs).toOption = (extractAll b vs).toOption
  | [] => rfl
  | v :: vs => by simp only [extractAll, toOption_bind, extract_kind hk, extractAll_kind hk vs]

theorem extractPairs_kind {a b a' b' : Arg} (hk : a.kind = a'.kind) (hk' : b.kind = b'.kind) : ∀ vs : List Bytes,
    (extractPairs a b vs).toOption = (extractPairs a' b' vs).toOption
  | [] => rfl
  | [_] => rfl
  | x :: y :: vs => by
    simp only [extractPairs, toOption_bind, extract_kind hk, extract_kind hk', extractPairs_kind hk hk' vs]

/-- two DSL bodies that build the same command from the same slot kinds -/
def bodyOkSub : Body → Body → Bool
  | .const c, .const c' => c == c'
  | .fixed c sl, .fixed c' sl' => c == c' && sameKinds sl sl'
  | .many c p e, .many c' p' e' => c == c' && sameKinds p p' && e.kind == e'.kind
  | .pairs c p a b, .pairs c' p' a' b' => c == c' && sameKinds p p' && a.kind == a'.kind && b.kind == b'.kind
  | _, _ => false

theorem sameKinds_length : ∀ (as bs : List Arg), sameKinds as bs = true → as.length = bs.length
  | [], [], _ => rfl
  | a :: as, b :: bs, h => by
    simp only [sameKinds, Bool.and_eq_true] at h
    simp [sameKinds_length as bs h.2]
  | [], _ :: _, h => by simp [sameKinds] at h
  | _ :: _, [], h => by simp [sameKinds] at h

theorem sameKinds_symm : ∀ {as bs : List Arg}, sameKinds as bs = true → sameKinds bs as = true
  | [], [], _ => rfl
  | a :: as, b :: bs, h => by
    simp only [sameKinds, Bool.and_eq_true, beq_iff_eq] at h ⊢
    exact ⟨h.1.symm, sameKinds_symm h.2⟩
  | [], _ :: _, h => by simp [sameKinds] at h
  | _ :: _, [], h => by simp [sameKinds] at h

theorem body_kind {l m : Body} (h : bodyOkSub l m = true) (args : List Bytes) :
    (l.run args).toOption = (m.run args).toOption := by
  cases l <;> cases m <;> simp only [bodyOkSub, Bool.and_eq_true, beq_iff_eq, Bool.false_eq_true] at h
  case const.const => rw [h]
  case fixed.fixed x sl y sl' =>
    simp only [Body.run, toOption_bind, h.1, extractFixed_kind sl sl' h.2]
  case many.many x p e y p' e' =>
    simp only [Body.run, toOption_bind, h.1.1, ← sameKinds_length p p' h.1.2, extractFixed_kind p p' h.1.2,
      extractAll_kind h.2]
  case pairs.pairs x p a b y p' a' b' =>
    simp only [Body.run, toOption_bind, h.1.1.1, ← sameKinds_length p p' h.1.1.2, extractFixed_kind p p' h.1.1.2,
      extractPairs_kind h.1.2 h.2]

/-- a decidable sufficient test for "every count the first rule accepts, the second accepts" -/
def aritySub : Arity → Arity → Bool
  | _, .any => true
  | .exact n, .exact m => n == m
  | .exact n, .atLeast m => m ≤ n
  | .exact n, .between lo hi => lo ≤ n && n ≤ hi
  | .atLeast n, .atLeast m => m ≤ n
  | .oddAtLeast n, .oddAtLeast m => m ≤ n
  | .evenAtLeast n, .evenAtLeast m => m ≤ n
  | .between lo hi, .between lo' hi' => lo' ≤ lo && hi ≤ hi'
  | _, _ => false

theorem arity_sub {a b : Arity} (h : aritySub a b = true) (k : Nat) (hk : a.ok k = true) : b.ok k = true := by
  cases a <;> cases b <;> simp_all [aritySub, Arity.ok] <;> omega


/-- every option of `T` is an option of `T'` at the same index, with the same value kinds -/
def OptSub (T T' : List OptSpec) : Prop :=
  ∀ k i o, findOpt T k 0 = some (i, o) →
    o.reject = none ∧ o.missing ≠ .ignore ∧
    ∃ o', findOpt T' k 0 = some (i, o') ∧ o'.reject = none ∧ sameKinds o.vals o'.vals = true

/-- Both scans walk the same case tree (that of `scanOpts`); `hsub` makes them take the same branch at every word.  The
    index bound says that the result mentions options of `T` only. -/
theorem scan_sub (T T' : List OptSpec) (unk unk' : Bytes → Option BErr) (hsub : OptSub T T')
    (hunk : ∀ k, (unk k).isSome = true) :
    ∀ (opts : List Bytes) (s : Seen), scanOpts T unk opts = .ok s →
      scanOpts T' unk' opts = .ok s ∧ ∀ p ∈ s, p.1 < T.length
  | [], s, h => by simp only [scanOpts, Except.ok.injEq] at h; subst h; simp [scanOpts]
  | a :: rest, s, h => by
    cases hf : findOpt T (kw a) 0 with
    | none =>
      rw [scanOpts, hf] at h
      have := hunk (kw a)
      cases hu : unk (kw a) <;> simp_all
    | some io =>
      obtain ⟨idx, o⟩ := io
      obtain ⟨hrej, hmiss, o', hf', hrej', hk⟩ := hsub (kw a) idx o hf
      have hidx : idx < T.length := by obtain ⟨-, hlt, -, -⟩ := findOpt_spec T (kw a) 0 idx o hf; omega
      have hlen := sameKinds_length _ _ hk
      by_cases hv : o.vals.length ≤ 2
      · rw [scanOpts_found hf hrej hv] at h
        rw [scanOpts_found hf' hrej' (hlen ▸ hv), ← hlen]
        split at h
        · cases hm : o.missing <;> simp_all [Missing.result]
        · rename_i hge
          rw [if_neg hge]
          cases hx : extractFixed o.vals (rest.take o.vals.length) with
          | error e => rw [hx] at h; cases h
          | ok ts =>
            rw [hx] at h
            rw [ok_of_toOption (extractFixed_kind _ _ hk _) hx]
            cases hs : scanOpts T unk (rest.drop o.vals.length) with
            | error e => rw [hs] at h; cases h
            | ok s' =>
              rw [hs] at h
              obtain ⟨h1, h2⟩ := scan_sub T T' unk unk' hsub hunk _ s' hs
              cases h
              rw [h1]
              exact ⟨rfl, List.forall_mem_cons.mpr ⟨hidx, h2⟩⟩
      · rw [scanOpts_found_long hf hrej (by omega)] at h
        cases h
termination_by opts => opts.length
decreasing_by all_goals simp <;> omega

/-- `T'` (the RESP grammar's option table) against `T` (the translator's): every option of `T'`
    that is not refused is an option of `T` at the same index with the same value kinds, or is one
    of the `extra` words `T` does not have -/
def OptSuper (T' T : List OptSpec) (extra : List Bytes) : Prop :=
  ∀ k i o', findOpt T' k 0 = some (i, o') → o'.reject = none →
    o'.missing ≠ .ignore ∧
    ((∃ o, findOpt T k 0 = some (i, o) ∧ o.reject = none ∧ sameKinds o.vals o'.vals = true) ∨
     (findOpt T k 0 = none ∧ k ∈ extra))

/-- The converse walk: the scans agree until the first word of `extra`, where `T` answers its unknown-word error. -/
theorem scan_super (T' T : List OptSpec) (unk' : Bytes → Option BErr) (mk : Bytes → BErr) (extra : List Bytes)
    (hsup : OptSuper T' T extra) (hunk' : ∀ k, (unk' k).isSome = true) :
    ∀ (opts : List Bytes) (s : Seen), scanOpts T' unk' opts = .ok s →
      scanOpts T (fun w => some (mk w)) opts = .ok s ∨
      ∃ w ∈ extra, scanOpts T (fun w => some (mk w)) opts = .error (mk w)
  | [], s, h => Or.inl (by simpa [scanOpts] using h)
  | a :: rest, s, h => by
    cases hf' : findOpt T' (kw a) 0 with
    | none =>
      rw [scanOpts, hf'] at h
      have := hunk' (kw a)
      cases hu : unk' (kw a) <;> simp_all
    | some io =>
      obtain ⟨idx, o'⟩ := io
      cases hrej' : o'.reject with
      | some f => rw [scanOpts, hf'] at h; simp [hrej'] at h
      | none =>
        obtain ⟨hmiss, hcase⟩ := hsup (kw a) idx o' hf' hrej'
        rcases hcase with ⟨o, hf, hrej, hk⟩ | ⟨hf, hex⟩
        · have hlen := sameKinds_length _ _ hk
          by_cases hv : o'.vals.length ≤ 2
          · rw [scanOpts_found hf' hrej' hv] at h
            rw [scanOpts_found hf hrej (hlen ▸ hv), hlen]
            split at h
            · cases hm : o'.missing <;> simp_all [Missing.result]
            · rename_i hge
              rw [if_neg hge]
              cases hx : extractFixed o'.vals (rest.take o'.vals.length) with
              | error e => rw [hx] at h; cases h
              | ok ts =>
                rw [hx] at h
                rw [ok_of_toOption (extractFixed_kind _ _ (sameKinds_symm hk) _) hx]
                cases hs : scanOpts T' unk' (rest.drop o'.vals.length) with
                | error e => rw [hs] at h; cases h
                | ok s' =>
                  rw [hs] at h
                  cases h
                  rcases scan_super T' T unk' mk extra hsup hunk' _ s' hs with h1 | ⟨w, hw, h1⟩
                  · exact Or.inl (by rw [h1]; rfl)
                  · exact Or.inr ⟨w, hw, by rw [h1]; rfl⟩
          · rw [scanOpts_found_long hf' hrej' (by omega)] at h
            cases h
        · exact Or.inr ⟨kw a, hex, by rw [scanOpts, hf]⟩
termination_by opts => opts.length
decreasing_by all_goals simp <;> omega

theorem has_false_of_bound {s : Seen} {n i : Nat} (h : ∀ p ∈ s, p.1 < n) (hi : n ≤ i) : s.has i = false := by
  rw [← Bool.not_eq_true, Seen.has_iff]
  rintro ⟨p, hp, rfl⟩
  have := h p hp
  omega

theorem opt1_none_of_bound {s : Seen} {n i : Nat} (h : ∀ p ∈ s, p.1 < n) (hi : n ≤ i) : s.opt1 i = .none := by
  unfold Seen.opt1
  rw [Seen.last_eq_none_of_ne fun p hp => by have := h p hp; omega]

/-- `T` is, option by option, an initial part of `T'`: the same keyword at the same index, nothing refused, a
    missing value never ignored, the same value kinds -/
def optPrefix : List OptSpec → List OptSpec → Bool
  | [], _ => true
  | o :: T, o' :: T' =>
    o.kw == o'.kw && o.reject.isNone && o'.reject.isNone && o.missing != .ignore && o'.missing != .ignore &&
      sameKinds o.vals o'.vals && optPrefix T T'
  | _ :: _, [] => false

theorem optSub_of_prefix {T T' : List OptSpec} (h : optPrefix T T' = true) : OptSub T T' := by
  intro k
  suffices ∀ T T' n i o, optPrefix T T' = true → findOpt T k n = some (i, o) →
      o.reject = none ∧ o.missing ≠ .ignore ∧
        ∃ o', findOpt T' k n = some (i, o') ∧ o'.reject = none ∧ sameKinds o.vals o'.vals = true from
    fun i o => this T T' 0 i o h
  intro T
  induction T with
  | nil => intro T' n i o _ hf; simp [findOpt] at hf
  | cons x T ih =>
    intro T' n i o h hf
    match T' with
    | [] => simp [optPrefix] at h
    | x' :: T' =>
      simp only [optPrefix, Bool.and_eq_true, beq_iff_eq, Option.isNone_iff_eq_none, bne_iff_ne, ne_eq] at h
      obtain ⟨⟨⟨⟨⟨⟨hkw, hr⟩, hr'⟩, hm⟩, _⟩, hk⟩, hT⟩ := h
      simp only [findOpt, ← hkw] at hf ⊢
      by_cases hx : x.kw = k
      · simp only [hx, if_true, Option.some.injEq, Prod.mk.injEq] at hf ⊢
        obtain ⟨rfl, rfl⟩ := hf
        exact ⟨hr, hm, x', ⟨rfl, rfl⟩, hr', hk⟩
      · simp only [hx, if_false] at hf ⊢
        exact ih T' (n + 1) i o hT hf

theorem optSuper_of_prefix {T T' : List OptSpec} {extra : List Bytes} (h : optPrefix T T' = true)
    (hrest : ∀ o' ∈ T'.drop T.length, o'.reject = none → o'.missing ≠ .ignore ∧ o'.kw ∈ extra) :
    OptSuper T' T extra := by
  intro k
  suffices ∀ T T' n i o', optPrefix T T' = true →
      (∀ o' ∈ T'.drop T.length, o'.reject = none → o'.missing ≠ .ignore ∧ o'.kw ∈ extra) →
      findOpt T' k n = some (i, o') → o'.reject = none →
      o'.missing ≠ .ignore ∧
        ((∃ o, findOpt T k n = some (i, o) ∧ o.reject = none ∧ sameKinds o.vals o'.vals = true) ∨
         (findOpt T k n = none ∧ k ∈ extra)) from
    fun i o' => this T T' 0 i o' h hrest
  intro T
  induction T with
  | nil =>
    intro T' n i o' _ hrest hf hr
    obtain ⟨-, -, hm, hk⟩ := findOpt_spec T' k n i o' hf
    have := hrest o' hm hr
    rw [hk] at this
    exact ⟨this.1, Or.inr ⟨rfl, this.2⟩⟩
  | cons x T ih =>
    intro T' n i o' h hrest hf hr
    match T' with
    | [] => simp [optPrefix] at h
    | x' :: T' =>
      simp only [optPrefix, Bool.and_eq_true, beq_iff_eq, Option.isNone_iff_eq_none, bne_iff_ne, ne_eq] at h
      obtain ⟨⟨⟨⟨⟨⟨hkw, hrx⟩, _⟩, _⟩, hm'⟩, hk⟩, hT⟩ := h
      simp only [findOpt, hkw] at hf ⊢
      by_cases hx : x'.kw = k
      · simp only [hx, if_true, Option.some.injEq, Prod.mk.injEq] at hf ⊢
        obtain ⟨rfl, rfl⟩ := hf
        exact ⟨hm', Or.inl ⟨x, ⟨rfl, rfl⟩, hrx, hk⟩⟩
      · simp only [hx, if_false] at hf ⊢
        exact ih T' (n + 1) i o' hT (by simpa using hrest) hf hr

theorem optPrefix_luaSet : optPrefix Bodies.luaSetOpts Bodies.setOpts = true := by decide

/-- `5 = luaSetOpts.length`; positions 5, 6, 7 of `setOpts` are EXAT, PXAT, KEEPTTL, which a scan of `luaSetOpts` never
    records -/
theorem set_eq_luaSet_of_scan {k v : Bytes} {opts : List Bytes} {s : Seen}
    (h1 : scanOpts Bodies.luaSetOpts (fun w => some (.fmt .luaUnknownSet w)) opts = .ok s)
    (h2 : scanOpts Bodies.setOpts (fun _ => some (.lit .syntax)) opts = .ok s) (hb : ∀ p ∈ s, p.1 < 5) :
    Bodies.set (k :: v :: opts) = Bodies.luaSet (k :: v :: opts) := by
  simp only [Bodies.set, Bodies.luaSet, h1, h2, bind, Except.bind, has_false_of_bound hb (i := 7) (by omega),
    Bool.false_and, opt1_none_of_bound hb (i := 5) (by omega), opt1_none_of_bound hb (i := 6) (by omega)]
  cases s.has 0 && s.has 1 <;> rfl

theorem luaSet_ok (args : List Bytes) (c : Cmd) (h : Bodies.luaSet args = .ok c) :
    Bodies.set args = .ok c := by
  match args with
  | [] => simp [Bodies.luaSet] at h
  | [_] => simp [Bodies.luaSet] at h
  | k :: v :: opts =>
    cases hs : scanOpts Bodies.luaSetOpts (fun w => some (.fmt .luaUnknownSet w)) opts with
    | error e => simp [Bodies.luaSet, hs, bind, Except.bind] at h
    | ok s =>
      obtain ⟨h1, hb⟩ := scan_sub Bodies.luaSetOpts Bodies.setOpts _ (fun _ => some (.lit .syntax))
        (optSub_of_prefix optPrefix_luaSet) (fun _ => rfl) opts s hs
      rw [set_eq_luaSet_of_scan hs h1 hb]
      exact h

theorem optSub_zrbs (off cnt off' cnt' : Arg) (m m' : Lit) (ho : off.kind = off'.kind) (hc : cnt.kind = cnt'.kind) :
    OptSub (Bodies.zrbsOpts off cnt m) (Bodies.zrbsOpts off' cnt' m') :=
  optSub_of_prefix (by simp [optPrefix, Bodies.zrbsOpts, sameKinds, ho, hc])

theorem zrangebyscore_ok (off cnt off' cnt' : Arg) (m m' : Lit) (u u' : Fmt)
    (ho : off.kind = off'.kind) (hc : cnt.kind = cnt'.kind) (args : List Bytes) (c : Cmd)
    (h : Bodies.zrangebyscore off cnt m u args = .ok c) : Bodies.zrangebyscore off' cnt' m' u' args = .ok c := by
  match args with
  | [] => simp [Bodies.zrangebyscore] at h
  | [_] => simp [Bodies.zrangebyscore] at h
  | [_, _] => simp [Bodies.zrangebyscore] at h
  | k :: mn :: mx :: opts =>
    simp only [Bodies.zrangebyscore, bind, Except.bind] at h ⊢
    cases hs : scanOpts (Bodies.zrbsOpts off cnt m) (fun w => some (.fmt u w)) opts with
    | error e => rw [hs] at h; simp at h
    | ok s =>
      rw [hs] at h
      obtain ⟨h1, _⟩ := scan_sub _ (Bodies.zrbsOpts off' cnt' m') _ (fun w => some (.fmt u' w))
        (optSub_zrbs off cnt off' cnt' m m' ho hc) (fun _ => rfl) opts s hs
      rw [h1]
      exact h

theorem zadd_kind {a b : Arg} (hk : a.kind = b.kind) : ∀ args : List Bytes,
    (Bodies.zadd a args).toOption = (Bodies.zadd b args).toOption
  | [] => rfl
  | k :: rest => by
    simp only [Bodies.zadd]
    split
    · rfl
    · simp only [toOption_bind, extractPairs_kind hk rfl]

theorem luaZrange_kind : ∀ args : List Bytes, args.length = 3 →
    (Bodies.luaZrange args).toOption = (Bodies.zrange (s2b "ZRange") args).toOption
  | [k, a, b], _ => by
    simp only [Bodies.luaZrange, Bodies.zrange, toOption_bind,
      extractFixed_kind [aIntE .luaZrangeStart, aIntE .luaZrangeStop] [aInt, aInt] (by decide)]

theorem luaExpire_kind : ∀ args : List Bytes, args.length = 2 →
    (Bodies.luaExpire args).toOption = (Bodies.expire (s2b "Expire") args).toOption
  | [k, n], _ => by
    simp only [Bodies.luaExpire, Bodies.expire, toOption_bind, extract_kind (a := aIntE .luaExpireInt) (b := aInt) rfl]
    rfl

/-- the options of `setOpts` that are not refused and that `luaSetOpts` lacks (IFEQ / IFGT are refused by SET itself) -/
def setExtra : List Bytes := [s2b "EXAT", s2b "PXAT", s2b "KEEPTTL"]

theorem optSuper_set : OptSuper Bodies.setOpts Bodies.luaSetOpts setExtra :=
  optSuper_of_prefix optPrefix_luaSet (by decide)

theorem set_ok_lua (args : List Bytes) (c : Cmd) (h : Bodies.set args = .ok c) :
    Bodies.luaSet args = .ok c ∨ ∃ w ∈ setExtra, Bodies.luaSet args = .error (.fmt .luaUnknownSet w) := by
  match args with
  | [] => simp [Bodies.set] at h
  | [_] => simp [Bodies.set] at h
  | k :: v :: opts =>
    cases hs : scanOpts Bodies.setOpts (fun _ => some (.lit .syntax)) opts with
    | error e => simp [Bodies.set, hs, bind, Except.bind] at h
    | ok s =>
      rcases scan_super Bodies.setOpts Bodies.luaSetOpts _ (fun w => .fmt .luaUnknownSet w) setExtra optSuper_set
          (fun _ => rfl) opts s hs with h1 | ⟨w, hw, h1⟩
      · obtain ⟨_, hb⟩ := scan_sub Bodies.luaSetOpts Bodies.setOpts _ (fun _ => some (.lit .syntax))
          (optSub_of_prefix optPrefix_luaSet) (fun _ => rfl) opts s h1
        exact Or.inl (set_eq_luaSet_of_scan h1 hs hb ▸ h)
      · exact Or.inr ⟨w, hw, by simp only [Bodies.luaSet, h1, bind, Except.bind]⟩

end RedisVerif.Grammar
