import RedisVerif.Model.SimRng
import RedisVerif.Model.SimKernel
import RedisVerif.Model.SimHarness
import RedisVerif.Lemmas.InsertSort

/-!
Helper lemmas for C20: sampling bounds, shuffles are permutations, sorted timer list.
-/
namespace RedisVerif
namespace SimLemmas
open SimRng SimKernel

/-! ## widening-multiply sampling -/

/-- the high half of the product of a word `v < m` with `range` lies below `range` -/
theorem mulhi_lt {m v range : Nat} (hv : v < m) (hr : 0 < range) : v * range / m < range :=
  Nat.div_lt_of_lt_mul (Nat.mul_lt_mul_of_pos_right hv hr)

theorem sampleLoop64_bounds (low range : Nat) (hr : 0 < range) :
    ∀ (fuel : Nat) (r r' : Rng) (v : Nat),
      sampleLoop64 low range fuel r = (.ok v, r') → low ≤ v ∧ v < low + range := by
  intro fuel
  induction fuel with
  | zero => intro r r' v h; simp [sampleLoop64] at h
  | succ n ih =>
    intro r r' v h
    simp only [sampleLoop64] at h
    split at h
    · simp only [Prod.mk.injEq, Draw.ok.injEq] at h
      obtain ⟨hv, _⟩ := h
      have := mulhi_lt (range := range) (UInt64.toNat_lt r.nextU64.1) hr
      omega
    · exact ih _ _ _ h

theorem sampleLoop32_bounds (low range : Nat) (hr : 0 < range) :
    ∀ (fuel : Nat) (r r' : Rng) (v : Nat),
      sampleLoop32 low range fuel r = (.ok v, r') → low ≤ v ∧ v < low + range := by
  intro fuel
  induction fuel with
  | zero => intro r r' v h; simp [sampleLoop32] at h
  | succ n ih =>
    intro r r' v h
    simp only [sampleLoop32] at h
    split at h
    · simp only [Prod.mk.injEq, Draw.ok.injEq] at h
      obtain ⟨hv, _⟩ := h
      have := mulhi_lt (range := range) (UInt32.toNat_lt r.nextU32.1) hr
      omega
    · exact ih _ _ _ h

/-- `n` consecutive words of the stream are all rejected for `range` -/
def rejects64 (range : Nat) : Nat → Rng → Prop
  | 0, _ => True
  | n + 1, r => ¬ (r.nextU64.1.toNat * range % 2 ^ 64 ≤ zone 64 range) ∧ rejects64 range n r.nextU64.2

theorem sampleLoop64_fuel_iff (low range : Nat) :
    ∀ (fuel : Nat) (r : Rng), (sampleLoop64 low range fuel r).1 = .fuel ↔ rejects64 range fuel r := by
  intro fuel
  induction fuel with
  | zero => intro r; simp [sampleLoop64, rejects64]
  | succ n ih =>
    intro r
    simp only [sampleLoop64, rejects64]
    split
    · rename_i h; simp [h]
    · rename_i h; simp [h, ih]

/-! ## the acceptance zone covers at least half of the words -/

theorem zone_ge_half (range : Nat) (h0 : 0 < range) (h : range < 2 ^ 64) :
    2 ^ 63 ≤ zone 64 range + 1 ∧ zone 64 range < 2 ^ 64 := by
  have hb : 2 ^ range.log2 ≤ range ∧ range < 2 ^ (range.log2 + 1) :=
    ⟨Nat.log2_self_le (by omega), Nat.lt_log2_self⟩
  have hlog : range.log2 < 64 := by
    rcases Nat.lt_or_ge range.log2 64 with h' | h'
    · exact h'
    · have : 2 ^ 64 ≤ 2 ^ range.log2 := Nat.pow_le_pow_right (by omega) h'
      omega
  unfold zone lz
  have e : 2 ^ 63 = 2 ^ range.log2 * 2 ^ (64 - 1 - range.log2) := by
    rw [← Nat.pow_add]; congr 1; omega
  have e2 : 2 ^ 64 = 2 ^ (range.log2 + 1) * 2 ^ (64 - 1 - range.log2) := by
    rw [← Nat.pow_add]; congr 1; omega
  have hp : 0 < 2 ^ (64 - 1 - range.log2) := Nat.pow_pos (by omega)
  have h1 : 2 ^ range.log2 * 2 ^ (64 - 1 - range.log2) ≤ range * 2 ^ (64 - 1 - range.log2) :=
    Nat.mul_le_mul_right _ hb.1
  have h2 : range * 2 ^ (64 - 1 - range.log2) < 2 ^ (range.log2 + 1) * 2 ^ (64 - 1 - range.log2) :=
    Nat.mul_lt_mul_of_pos_right hb.2 hp
  omega

/-! ## shuffles are permutations -/

theorem swapAt_perm {α} (a : Array α) (i j : Nat) : (swapAt a i j).Perm a := by
  unfold swapAt
  rw [Array.swapIfInBounds_def]
  split
  · split
    · exact Array.swap_perm _ _
    · exact Array.Perm.refl _
  · exact Array.Perm.refl _

theorem detShuffleLoop_perm {α} : ∀ (n : Nat) (a : Array α) (r : Rng), (detShuffleLoop n a r).1.Perm a := by
  intro n
  induction n with
  | zero => intro a r; exact Array.Perm.refl _
  | succ n ih =>
    intro a r
    simp only [detShuffleLoop]
    exact Array.Perm.trans (ih _ _) (swapAt_perm _ _ _)

theorem simShuffleLoop_perm {α} : ∀ (n : Nat) (a b : Array α) (r r' : Rng),
    simShuffleLoop n a r = (.ok b, r') → b.Perm a := by
  intro n
  induction n with
  | zero =>
    intro a b r r' h
    simp only [simShuffleLoop, Prod.mk.injEq, Draw.ok.injEq] at h
    rw [← h.1]
  | succ n ih =>
    intro a b r r' h
    simp only [simShuffleLoop] at h
    split at h
    · simp at h
    · exact Array.Perm.trans (ih _ _ _ _ h) (swapAt_perm _ _ _)

/-! ## the timer list -/

def keyLe (a b : Nat × Nat) : Prop := a.1 < b.1 ∨ (a.1 = b.1 ∧ a.2 ≤ b.2)

theorem keyLt_false_le (x y : Nat × Nat) (h : keyLt x y = false) : keyLe y x := by
  unfold keyLt at h
  unfold keyLe
  simp only [Bool.or_eq_false_iff, decide_eq_false_iff_not, Bool.and_eq_false_imp, beq_iff_eq] at h
  omega

theorem keyLt_true_le (x y : Nat × Nat) (h : keyLt x y = true) : keyLe x y := by
  unfold keyLt at h
  unfold keyLe
  simp only [Bool.or_eq_true, decide_eq_true_eq, Bool.and_eq_true, beq_iff_eq] at h
  omega

theorem keyLe_trans (a b c : Nat × Nat) (h1 : keyLe a b) (h2 : keyLe b c) : keyLe a c := by
  unfold keyLe at *; omega

theorem keyLe_antisymm {a b : Nat × Nat} (h1 : keyLe a b) (h2 : keyLe b a) : a = b := by
  unfold keyLe at *
  have : a.1 = b.1 ∧ a.2 = b.2 := by omega
  exact Prod.ext this.1 this.2

theorem insertSorted_eq : insertSorted = HB.insertBy keyLt := HB.eq_insertBy (fun _ => rfl) (fun _ _ _ => rfl)

theorem insertSorted_perm (x : Nat × Nat) (l : List (Nat × Nat)) : (insertSorted x l).Perm (x :: l) :=
  insertSorted_eq ▸ HB.insertBy_perm keyLt x l

theorem insertSorted_mem (x y : Nat × Nat) (l) : y ∈ insertSorted x l ↔ y = x ∨ y ∈ l := by
  rw [(insertSorted_perm x l).mem_iff]; simp

/-- `keyLt` is strict; what it keeps sorted is its reflexive closure `keyLe` -/
theorem insertSorted_sorted (x : Nat × Nat) (l : List (Nat × Nat)) (h : l.Pairwise keyLe) :
    (insertSorted x l).Pairwise keyLe :=
  insertSorted_eq ▸ HB.pairwise_insertBy keyLt_true_le keyLt_false_le keyLe_trans h

/-- the timer list built by inserting `l` one by one -/
def buildTimers (l : List (Nat × Nat)) : List (Nat × Nat) := l.foldl (fun acc x => insertSorted x acc) []

theorem buildTimers_eq (l : List (Nat × Nat)) : buildTimers l = HB.isort keyLt l.reverse := by
  unfold buildTimers
  rw [insertSorted_eq]
  exact HB.foldl_insertBy keyLt l

theorem buildTimers_perm_invariant (l l' : List (Nat × Nat)) (h : l.Perm l') :
    buildTimers l = buildTimers l' := by
  rw [buildTimers_eq, buildTimers_eq]
  exact HB.isort_eq_of_perm_of_antisymm keyLt_true_le keyLt_false_le keyLe_trans
    ((List.reverse_perm l).trans (h.trans (List.reverse_perm l').symm)) (fun _ _ _ _ => keyLe_antisymm)

/-! ## sorting node ids -/

open SimHarness in
theorem sortNat_eq : sortNat = HB.isort fun a b => decide (a ≤ b) := by
  have h : insNat = HB.insertBy fun a b => decide (a ≤ b) :=
    HB.eq_insertBy (fun _ => rfl) (fun _ _ _ => by simp only [insNat, decide_eq_true_eq])
  funext l
  rw [sortNat, h]; rfl

open SimHarness in
theorem sortNat_perm (l : List Nat) : (sortNat l).Perm l := sortNat_eq ▸ HB.isort_perm _ l

open SimHarness in
theorem sortNat_sorted (l : List Nat) : (sortNat l).Pairwise (· ≤ ·) :=
  sortNat_eq ▸ HB.pairwise_isort (le := fun a b => decide (a ≤ b)) (R := (· ≤ ·)) (fun _ _ => of_decide_eq_true)
    (fun a b h => by have := of_decide_eq_false h; omega) (fun _ _ _ => Nat.le_trans) l

open SimHarness in
/-- sorting forgets the order of its input -/
theorem sortNat_perm_invariant (l l' : List Nat) (h : l.Perm l') : sortNat l = sortNat l' :=
  List.Perm.eq_of_pairwise (le := (· ≤ ·)) (fun _ _ _ _ h1 h2 => Nat.le_antisymm h1 h2)
    (sortNat_sorted l) (sortNat_sorted l') ((sortNat_perm l).trans (h.trans (sortNat_perm l').symm))

end SimLemmas
end RedisVerif
