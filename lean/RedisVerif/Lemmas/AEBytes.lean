import RedisVerif.Lemmas.AntiEntropy

/-!
  The byte stream `canonical_hash` feeds to the value hasher (`AE.byteStream`) is uniquely
  decodable: fixed-width little-endian integers, length-prefixed vectors and byte strings,
  `0xff`-terminated UTF-8 strings, one-byte tags.  Hence distinct (canonical, UTF-8) values feed
  distinct streams, and the `Ideal`-hash assumption of C18 reduces to an assumption about the
  64-bit hash function alone (`SipIdeal`).
-/
namespace RedisVerif
namespace AE

open HB

/-! ## relative prefix-injectivity -/

/-- `f` is prefix-injective on the values satisfying `P` -/
def PIOn {α : Type} (P : α → Prop) (f : α → List Nat) : Prop :=
  ∀ (a b : α) (r r' : List Nat), P a → P b → f a ++ r = f b ++ r' → a = b ∧ r = r'

theorem PIOn_of_PI {α : Type} {f : α → List Nat} (h : PI f) (P : α → Prop) : PIOn P f :=
  fun a b r r' _ _ e => h a b r r' e

/-- a length-prefixed list whose elements lie where `f` is prefix-injective -/
theorem PIOn_lenTag {α : Type} {t : Nat → List Nat} (ht : PI t) {P : α → Prop} {f : α → List Nat} (hf : PIOn P f) :
    PIOn (fun l : List α => ∀ x ∈ l, P x) (fun l => t l.length ++ l.flatMap f) := by
  intro a b r r' ha hb h
  simp only [List.append_assoc] at h
  obtain ⟨h1, h2⟩ := ht _ _ _ _ h
  exact flatMap_prefix_inj_of a b r r' h1 (fun x hx y hy r r' => hf x y r r' (ha x hx) (hb y hy)) h2

/-- what is serialised is an image `e x` that determines `x` (a sorted copy, a decoded key) -/
theorem PIOn.comp {α β : Type} {Q : α → Prop} {f : α → List Nat} (hf : PIOn Q f) {P : β → Prop} {e : β → α}
    (he : ∀ x y, P x → P y → e x = e y → x = y) (hQ : ∀ x, P x → Q (e x)) : PIOn P (fun x => f (e x)) :=
  fun a b _ _ ha hb h =>
    ⟨he a b ha hb (hf _ _ _ _ (hQ a ha) (hQ b hb) h).1, (hf _ _ _ _ (hQ a ha) (hQ b hb) h).2⟩

/-! ## fixed-width integers -/

theorem PI_leBytes (w : Nat) : PI (leBytes (w + 1)) := fun _ _ _ _ h => leBytes_prefix_inj w h

theorem PI_le64 : PI le64 := PI_leBytes 7
theorem PI_le32 : PI le32 := PI_leBytes 3

theorem leBytes_lt : ∀ (w n : Nat), n < 256 ^ (w + 1) → ∀ x ∈ leBytes (w + 1) n, x < 256
  | 0, n, h, x, hx => by
    rw [List.mem_singleton.mp hx]; exact h
  | w + 1, n, h, x, hx => by
    rcases List.mem_cons.mp hx with rfl | hx
    · exact Nat.mod_lt _ (by decide)
    · exact leBytes_lt w (n / 256) (Nat.div_lt_of_lt_mul (by rw [Nat.mul_comm, ← Nat.pow_succ]; exact h)) x hx

/-- exactly `to_le_bytes` below `2^64`: every byte is a byte -/
theorem le64_bytes {n : Nat} (h : n < 2 ^ 64) : ∀ x ∈ le64 n, x < 256 :=
  leBytes_lt 7 n h

/-- `Vec<T>::hash`: the length as a word, then every element -/
theorem PI_lenList {α : Type} {f : α → List Nat} (hf : PI f) :
    PI (fun l : List α => le64 l.length ++ l.flatMap f) := PI_lenTag PI_le64 hf

/-- `[u8]::hash`: the elements are the bytes themselves -/
theorem PI_lenBytes : PI (fun b : List Nat => le64 b.length ++ b) := by
  simpa only [List.flatMap_singleton'] using PI_lenList PI_single

theorem PI_pairsBytes : PI pairsBytes := PI_lenList (PI_le64.append PI_le64)

/-- a tag code `replica * 2^64 + sequence` goes out as two words -/
theorem PI_bTags : PI bTags :=
  PI_lenList ((PI_le64.append PI_le64).comp (e := fun c : Nat => (c / 2 ^ 64, c % 2 ^ 64)) fun a b h => by
    have ea := Nat.div_add_mod a (2 ^ 64)
    rw [(Prod.mk.inj h).1, (Prod.mk.inj h).2, Nat.div_add_mod] at ea
    exact ea.symm)

/-- `Option<T>::hash`: the discriminant as a word, then the payload -/
theorem PI_optLe64 {α : Type} {f : α → List Nat} (hf : PI f) {s : Option α → List Nat} (h0 : s none = le64 0)
    (h1 : ∀ a, s (some a) = le64 1 ++ f a) : PI s := PI_optTag PI_le64 hf h0 h1

theorem PI_optU64 : PI optU64 := PI_optLe64 PI_le64 rfl fun _ => rfl
theorem PI_optU8 : PI optU8 := PI_optLe64 PI_single rfl fun _ => rfl

theorem PI_bLww : PI bLww :=
  ((PI_optLe64 PI_lenBytes
      (s := fun o => match o with
        | none => le64 0
        | some b => le64 1 ++ (le64 b.length ++ b)) rfl fun _ => rfl).append
    (PI_le64.append (PI_le64.append PI_boolWord))).comp
    (e := fun r : Lww => (r.value, r.ts.time, r.ts.rid, r.tomb)) fun ⟨_, ⟨_, _⟩, _⟩ ⟨_, ⟨_, _⟩, _⟩ h => by
      cases h; rfl

/-! ## `0xff`-terminated strings -/

theorem PIOn_str : PIOn (fun b : List Nat => noFF b = true) (fun b => b ++ [255]) := by
  intro a
  induction a with
  | nil =>
    intro b r r' _ hb h
    cases b with
    | nil => exact ⟨rfl, List.cons.inj h |>.2⟩
    | cons y ys =>
      simp only [noFF, List.all_cons, Bool.and_eq_true, bne_iff_ne] at hb
      exact absurd (List.cons.inj h).1.symm hb.1
  | cons x xs ih =>
    intro b r r' ha hb h
    simp only [noFF, List.all_cons, Bool.and_eq_true, bne_iff_ne] at ha
    cases b with
    | nil => exact absurd (List.cons.inj h).1 ha.1
    | cons y ys =>
      simp only [noFF, List.all_cons, Bool.and_eq_true] at hb
      obtain ⟨h1, h2⟩ := ih ys r r' ha.2 hb.2 (List.cons.inj h).2
      exact ⟨by rw [(List.cons.inj h).1, h1], h2⟩

/-- a string-keyed entry: the string, `0xff`, the payload -/
theorem PIOn_strKeyed {β : Type} {g : β → List Nat} (hg : PI g) :
    PIOn (fun p : List Nat × β => noFF p.1 = true) (strEntry g) := by
  intro a b r r' ha hb h
  simp only [strEntry, List.append_assoc] at h
  obtain ⟨h1, h2⟩ := PIOn_str a.1 b.1 _ _ ha hb (by simpa only [List.append_assoc] using h)
  obtain ⟨h3, h4⟩ := hg _ _ _ _ h2
  exact ⟨Prod.ext h1 h3, h4⟩

/-! ## sorted containers -/

theorem mem_iff_of_isort_map_eq {α β : Type} {g : α → β} (hg : ∀ x y, g x = g y → x = y) (le : β → β → Bool)
    {l l' : List α} (h : isort le (l.map g) = isort le (l'.map g)) (p : α) : p ∈ l ↔ p ∈ l' :=
  mem_iff_of_map_perm hg ((isort_perm le _).symm.trans (h ▸ isort_perm le _)) p

def KbInj (kb : Nat → List Nat) : Prop := ∀ a b, kb a = kb b → a = b

/-- `Vec<&String>` of a set's elements, `sort_unstable`d by their bytes, behind its length -/
theorem PIOn_strSet {kb : Nat → List Nat} (hkb : KbInj kb) :
    PIOn (fun s : NSet => NSet.WF s ∧ (s.all fun k => noFF (kb k)) = true)
      (fun s => le64 (isort bytesLe (s.map kb)).length ++ (isort bytesLe (s.map kb)).flatMap fun b => b ++ [255]) :=
  (PIOn_lenTag PI_le64 PIOn_str).comp
    (fun _ _ hx hy h => eq_of_sorted_of_mem_iff id hx.1 hy.1 (mem_iff_of_isort_map_eq hkb bytesLe h))
    fun s hs b hb => by
      obtain ⟨k, hk, rfl⟩ := List.mem_map.mp (mem_isort.mp hb)
      exact List.all_eq_true.mp hs.2 k hk

/-- a string-keyed canonical map, its entries `sort_unstable`d by the strings' bytes, behind its length -/
theorem PIOn_strMap {kb : Nat → List Nat} (hkb : KbInj kb) {β : Type} {g : β → List Nat} (hg : PI g) :
    PIOn (fun m : NMap β => NMap.WF m ∧ (m.all fun p => noFF (kb p.1)) = true)
      (fun m => le64 (sortByStr kb m).length ++ (sortByStr kb m).flatMap (strEntry g)) :=
  (PIOn_lenTag PI_le64 (PIOn_strKeyed hg)).comp
    (fun _ _ hx hy h => eq_of_sorted_of_mem_iff Prod.fst hx.1 hy.1 (mem_iff_of_isort_map_eq
      (fun p q hpq => Prod.ext (hkb _ _ (Prod.mk.inj hpq).1) (Prod.mk.inj hpq).2) _ h))
    fun m hm p hp => by
      obtain ⟨q, hq, rfl⟩ := List.mem_map.mp (mem_isort.mp hp)
      exact List.all_eq_true.mp hm.2 q hq

/-! ## the value stream -/

/-- every string inside the value (set elements, hash field names) is free of `0xff` — true of
    every Rust `String` (UTF-8) -/
def strSafeCrdt (kb : Nat → List Nat) : Crdt → Bool
  | .gset s => s.all fun k => noFF (kb k)
  | .orset e _ => e.all fun p => noFF (kb p.1)
  | .hash h => h.all fun p => noFF (kb p.1)
  | _ => true

def StrSafe (kb : Nat → List Nat) (v : RV) : Prop := strSafeCrdt kb v.crdt = true

instance (kb : Nat → List Nat) (v : RV) : Decidable (StrSafe kb v) := by unfold StrSafe; infer_instance

theorem PIOn_bCrdt {kb : Nat → List Nat} (hkb : KbInj kb) :
    PIOn (fun c : Crdt => c.WF ∧ strSafeCrdt kb c = true) (bCrdt kb) := by
  intro a b r r' ha hb h
  cases a <;> cases b <;> simp only [bCrdt, List.cons_append, List.cons.injEq] at h <;>
    first | exact absurd h.1 (by decide) | skip
  · obtain ⟨h1, h2⟩ := PI_bLww _ _ _ _ h.2
    exact ⟨by rw [h1], h2⟩
  · obtain ⟨h1, h2⟩ := PI_pairsBytes _ _ _ _ h.2
    exact ⟨by rw [h1], h2⟩
  · obtain ⟨h1, h2⟩ := (PI_pairsBytes.append PI_pairsBytes) (_, _) (_, _) _ _ h.2
    cases h1; exact ⟨rfl, h2⟩
  · obtain ⟨h1, h2⟩ := PIOn_strSet hkb _ _ _ _ ha hb h.2
    exact ⟨by rw [h1], h2⟩
  · rename_i x nx y ny
    obtain ⟨h1, h2⟩ := PIOn_strMap hkb PI_bTags x y (pairsBytes nx ++ r) (pairsBytes ny ++ r')
      ⟨ha.1.1, ha.2⟩ ⟨hb.1.1, hb.2⟩ (by simpa only [List.append_assoc] using h.2)
    obtain ⟨h3, h4⟩ := PI_pairsBytes _ _ _ _ h2
    exact ⟨by rw [h1, h3], h4⟩
  · obtain ⟨h1, h2⟩ := PIOn_strMap hkb PI_bLww _ _ _ _ ha hb h.2
    exact ⟨by rw [h1], h2⟩

/-- **two canonical UTF-8 values that differ anywhere feed different BYTE streams to the value
    hasher** -/
theorem byteStream_inj {kb : Nat → List Nat} (hkb : KbInj kb) {v w : RV} (hv : v.WF) (hw : w.WF)
    (sv : StrSafe kb v) (sw : StrSafe kb w) (h : byteStream kb v = byteStream kb w) : v = w := by
  obtain ⟨cv, vcv, ev, ⟨tv, rv⟩, rfv⟩ := v
  obtain ⟨cw, vcw, ew, ⟨tw, rw'⟩, rfw⟩ := w
  obtain ⟨h1, h2⟩ := PI_le64 _ _ _ _ h
  obtain ⟨h3, h4⟩ := PI_le64 _ _ _ _ h2
  obtain ⟨h5, h6⟩ := PIOn_bCrdt hkb _ _ _ _ ⟨hv.1, sv⟩ ⟨hw.1, sw⟩ h4
  have h7 := ((PI_opt PI_pairsBytes
      (s := fun o : Option (NMap Nat) => match o with
        | none => [0]
        | some m => 1 :: pairsBytes m) rfl fun _ => rfl).append
    (PI_optU64.append PI_optU8)).inj (a := (vcv, ev, rfv)) (b := (vcw, ew, rfw)) h6
  cases h1; cases h3; cases h5; cases h7
  rfl

/-- the hypothesis `StrSafe` is necessary: strings are `0xff`-TERMINATED, not length-prefixed;
    with a `0xff` byte inside a string two different sets feed the same bytes
    (`{"a", "\xffb"}` and `{"a\xff", "b"}`) — unreachable with Rust `String`s, which are UTF-8 -/
def ffA : RV := { crdt := .gset [code [97], code [255, 98]], vc := none, expiry := none, ts := ⟨1, 1⟩, rf := none }
def ffB : RV := { crdt := .gset [code [98], code [97, 255]], vc := none, expiry := none, ts := ⟨1, 1⟩, rf := none }

theorem byteStream_ff_ambiguous :
    ffA ≠ ffB ∧ ffA.WF ∧ ffB.WF ∧ byteStream keyStr ffA = byteStream keyStr ffB
    ∧ ¬ StrSafe keyStr ffA := by
  decide +kernel

/-! ## the decoder of the drivers -/

theorem digitsAux_lt : ∀ (fuel n : Nat) (acc : List Nat), (∀ x ∈ acc, x < 256) →
    ∀ x ∈ digitsAux fuel n acc, x < 256 := by
  intro fuel
  induction fuel with
  | zero => intro n acc h; exact h
  | succ f ih =>
    intro n acc h
    unfold digitsAux
    split
    · exact h
    · apply ih
      intro x hx
      simp only [List.mem_cons] at hx
      rcases hx with rfl | hx
      · exact Nat.mod_lt _ (by decide)
      · exact h x hx

theorem keyStr_inj : KbInj keyStr := by
  intro a b h
  unfold keyStr at h
  by_cases ha : code (digits a) = a <;> by_cases hb : code (digits b) = b
  · rw [if_pos ha, if_pos hb] at h
    rw [← ha, ← hb, h]
  · rw [if_pos ha, if_neg hb] at h
    have := digitsAux_lt a a [] (by simp) 256 (by rw [show digitsAux a a [] = digits a from rfl, h]; simp)
    omega
  · rw [if_neg ha, if_pos hb] at h
    have := digitsAux_lt b b [] (by simp) 256 (by rw [show digitsAux b b [] = digits b from rfl, ← h]; simp)
    omega
  · rw [if_neg ha, if_neg hb] at h
    simp only [List.cons.injEq, and_true, true_and] at h
    exact h

theorem code_pos (b : List Nat) : 1 ≤ code b := by
  unfold code
  have : ∀ (l : List Nat) (acc : Nat), 1 ≤ acc → 1 ≤ l.foldl (fun acc x => acc * 256 + x) acc := by
    intro l
    induction l with
    | nil => intro acc h; exact h
    | cons x xs ih =>
      intro acc h
      rw [List.foldl_cons]
      apply ih
      omega
  exact this b 1 (Nat.le_refl 1)

theorem code_append_single (b : List Nat) (x : Nat) : code (b ++ [x]) = code b * 256 + x := by
  unfold code
  rw [List.foldl_append]
  rfl

theorem digitsAux_code_rev : ∀ (r acc : List Nat) (fuel : Nat), code r.reverse ≤ fuel → (∀ x ∈ r, x < 256) →
    digitsAux fuel (code r.reverse) acc = r.reverse ++ acc := by
  intro r
  induction r with
  | nil =>
    intro acc fuel _ _
    cases fuel with
    | zero => rfl
    | succ f => simp [digitsAux, code]
  | cons x r ih =>
    intro acc fuel hf hb
    have hx : x < 256 := hb x (by simp)
    have hcb := code_pos r.reverse
    rw [List.reverse_cons, code_append_single] at hf ⊢
    cases fuel with
    | zero => omega
    | succ f =>
      unfold digitsAux
      rw [if_neg (by omega)]
      have h1 : (code r.reverse * 256 + x) / 256 = code r.reverse := by omega
      have h2 : (code r.reverse * 256 + x) % 256 = x := by omega
      rw [h1, h2, ih (x :: acc) f (by omega) (fun y hy => hb y (by simp [hy]))]
      simp

theorem digitsAux_code (b acc : List Nat) (fuel : Nat) (hf : code b ≤ fuel) (hb : ∀ x ∈ b, x < 256) :
    digitsAux fuel (code b) acc = b ++ acc := by
  have := digitsAux_code_rev b.reverse acc fuel (by rw [List.reverse_reverse]; exact hf)
    (fun x hx => hb x (List.mem_reverse.mp hx))
  rw [List.reverse_reverse] at this
  exact this

theorem keyStr_code {b : List Nat} (hb : ∀ x ∈ b, x < 256) : keyStr (code b) = b := by
  have hd : digits (code b) = b := by
    unfold digits
    rw [digitsAux_code b [] (code b) (Nat.le_refl _) hb, List.append_nil]
  unfold keyStr
  rw [hd, if_pos rfl]

/-! ## the key order of `get_keys_in_buckets` -/

theorem bytesLe_iff : ∀ a b : List Nat, bytesLe a b = true ↔ a ≤ b
  | [], b => by simp [bytesLe, List.nil_le]
  | _ :: _, [] => by simp [bytesLe, List.le_nil]
  | x :: xs, y :: ys => by
    rw [List.cons_le_cons_iff, ← bytesLe_iff xs ys, bytesLe]
    by_cases h1 : x < y
    · simp [h1]
    · by_cases h2 : y < x
      · simp only [h1, h2, if_false, false_or]
        exact ⟨fun h => (nomatch h), fun h => absurd h.1 (by omega)⟩
      · have : x = y := by omega
        simp [this]

theorem bytesLe_refl : ∀ a : List Nat, bytesLe a a = true :=
  fun a => (bytesLe_iff a a).mpr (List.le_refl a)

/-- the order the driver sorts by — byte-wise `String::cmp` on the decoded keys — is a total
    order on key codes: the hypothesis `TotalOrder le` of `sim_response_order_independent` /
    `sim_round_order_independent` is discharged for the instance that is actually run -/
theorem totalOrder_keyLe : TotalOrder (fun a b => bytesLe (keyStr a) (keyStr b)) :=
  ⟨fun a b => (List.le_total (keyStr a) (keyStr b)).imp (bytesLe_iff _ _).mpr (bytesLe_iff _ _).mpr,
   fun a b c h1 h2 => (bytesLe_iff _ _).mpr (List.le_trans ((bytesLe_iff _ _).mp h1) ((bytesLe_iff _ _).mp h2)),
   fun a b h1 h2 => keyStr_inj a b (List.le_antisymm ((bytesLe_iff _ _).mp h1) ((bytesLe_iff _ _).mp h2))⟩

/-! ## an ideal byte-stream hash -/

/-- the idealised 64-bit hash: no collisions, never `0` (`MerkleNode::empty`'s hash) -/
structure SipIdeal (sip : List Nat → Nat) : Prop where
  inj : ∀ a b, sip a = sip b → a = b
  ne0 : ∀ a, sip a ≠ 0

/-- the `Ideal` hasher assumption of the C18 theorems follows from an ideal BYTE hash: what is
    assumed about SipHash is stated about the one function, not about its three uses -/
theorem ideal_sipHasher {sip : List Nat → Nat} {kb : Nat → List Nat} (hs : SipIdeal sip) (hkb : KbInj kb) :
    Ideal (sipHasher sip kb) := by
  refine ⟨?_, fun a b h => hs.inj a b h, ?_, fun a => hs.ne0 _⟩
  · intro a b h
    have := hs.inj _ _ h
    simp only [strBytes] at this
    exact hkb _ _ (List.append_cancel_right this)
  · intro a b h
    exact flatMap_inj PI_le64 (fun _ => List.cons_ne_nil _ _) a b (hs.inj _ _ h)

/-- `KeyDigest.timestamp` can be read off the byte stream (its first 8 bytes) -/
def tsOfBytes (l : List Nat) : Nat :=
  (l.take 8).foldr (fun b acc => b + 256 * acc) 0

theorem decode_leBytes : ∀ (w n : Nat), (leBytes (w + 1) n).foldr (fun b acc => b + 256 * acc) 0 = n := by
  intro w
  induction w with
  | zero => intro n; simp [leBytes]
  | succ w ih =>
    intro n
    simp only [leBytes, List.foldr_cons, ih]
    have := Nat.div_add_mod n 256
    omega

theorem streamOK_byteStream (kb : Nat → List Nat) : StreamOK (byteStream kb) := by
  refine ⟨tsOfBytes, fun v => ?_⟩
  unfold tsOfBytes byteStream
  rw [List.take_left' (le64_length _)]
  exact decode_leBytes 7 _

end AE
end RedisVerif
