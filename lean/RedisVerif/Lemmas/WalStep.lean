import RedisVerif.Model.WalActor

/-!
  What one event can do to the actor, listed once (`Moved`, `step_moved`): the bookkeeping on `pending`, `esync`,
  `acks`, `tbound` around at most one call of the rotator.  Facts about runs case on `Moved`, not on `Actor.step`;
  a clean shutdown is a flush followed by a new rotator (`restarted`), so what holds of a flush is the induction
  hypothesis there.
-/
namespace RedisVerif.Wal

/-- everybody waiting is answered with `res`; the rotator is now `r` -/
def Actor.answered (a : Actor) (r : Rot) (res : Ack) : Actor :=
  { rot := r, pending := [], esync := 0,
    acks := (a.pending.map (fun p => (⟨p.1, p.2, res, r.w.io⟩ : AckRec))).reverse ++ a.acks, tbound := a.tbound }

theorem Actor.flush_eq (fix : Bool) (φ : Nat → Outcome) (a : Actor) :
    Actor.flush fix φ a = if a.esync = 0 then a else
      a.answered (Rot.sync fix φ a.rot).1 (if (Rot.sync fix φ a.rot).2 then .ok else .err .fsync) := rfl

variable (fix tk : Bool) (φ : Nat → Outcome) (fmt : Format) (crc : Bytes → Nat)

inductive Moved (a : Actor) : Ev → Actor → Prop
  | queued (w : Write) {r : Rot} (h : Rot.append fix fmt φ a.rot (Entry.mk' fmt crc w.data w.ts) = (r, none)) :
      Moved a (.write w)
        { a with rot := r, esync := a.esync + 1, pending := a.pending ++ [(w.id, Entry.mk' fmt crc w.data w.ts)] }
  | refused (w : Write) {r : Rot} {x : Err} (h : Rot.append fix fmt φ a.rot (Entry.mk' fmt crc w.data w.ts) = (r, some x)) :
      Moved a (.write w) { a with rot := r, acks := ⟨w.id, Entry.mk' fmt crc w.data w.ts, .err x, r.w.io⟩ :: a.acks }
  | counted (w : Write) {r : Rot} (h : Rot.append fix fmt φ a.rot (Entry.mk' fmt crc w.data w.ts) = (r, none)) :
      Moved a (.forget w) { a with rot := r, esync := a.esync + 1 }
  | lost (w : Write) {r : Rot} {x : Err} (h : Rot.append fix fmt φ a.rot (Entry.mk' fmt crc w.data w.ts) = (r, some x)) :
      Moved a (.forget w) { a with rot := r }
  | idle (ev : Ev) (h : ev = .tick ∨ ev = .flush ∧ a.esync = 0) : Moved a ev a
  | ticked (h : tk = true) : Moved a .tick { a with rot := (Rot.sync fix φ a.rot).1 }
  | truncated (T : Nat) :
      Moved a (.truncate T) { a with rot := Rot.truncate fmt crc φ T a.rot, tbound := Nat.max a.tbound (T + 1) }
  | flushed (h : a.esync ≠ 0) :
      Moved a .flush (a.answered (Rot.sync fix φ a.rot).1 (if (Rot.sync fix φ a.rot).2 then .ok else .err .fsync))
  | crashed (reuse : Bool) :
      Moved a (.reopen true reuse)
        (a.answered (Rot.reopen reuse { a.rot with w := a.rot.w.push (crashStore a.rot.w.store) .crash }) (.err .io))
  | restarted (reuse : Bool) {a1 : Actor} (h : Moved a .flush a1) :
      Moved a (.reopen false reuse) { a1 with rot := Rot.reopen reuse a1.rot }

variable {fix tk φ fmt crc}

theorem flush_moved (a : Actor) : Moved fix tk φ fmt crc a .flush (Actor.flush fix φ a) := by
  rw [Actor.flush_eq]
  split
  · exact .idle _ (Or.inr ⟨rfl, ‹_›⟩)
  · exact .flushed ‹_›

theorem step_moved (a : Actor) (ev : Ev) : Moved fix tk φ fmt crc a ev (Actor.step fix tk φ fmt crc a ev) := by
  cases ev with
  | write w =>
    show Moved _ _ _ _ _ a _ (Actor.handleWrite fix φ fmt crc a w)
    unfold Actor.handleWrite
    cases h : Rot.append fix fmt φ a.rot (Entry.mk' fmt crc w.data w.ts) with
    | mk r oe =>
      simp only [h]
      cases oe with
      | none => exact .queued w h
      | some x => exact .refused w h
  | forget w =>
    show Moved _ _ _ _ _ a _ (Actor.handleForget fix φ fmt crc a w)
    unfold Actor.handleForget
    cases h : Rot.append fix fmt φ a.rot (Entry.mk' fmt crc w.data w.ts) with
    | mk r oe =>
      cases oe with
      | none => exact .counted w h
      | some x => exact .lost w h
  | tick =>
    show Moved _ _ _ _ _ a _ (Actor.handleTick fix tk φ a)
    unfold Actor.handleTick
    split
    · exact .ticked (by cases tk <;> simp_all)
    · exact .idle _ (Or.inl rfl)
  | truncate T => exact .truncated T
  | flush => exact flush_moved a
  | reopen crash reuse =>
    show Moved _ _ _ _ _ a _ (Actor.reopen fix φ crash reuse a)
    unfold Actor.reopen
    cases crash with
    | true => exact .crashed reuse
    | false => exact .restarted reuse (flush_moved a)

/-! ## what needs no invariant of the rotator -/

theorem Moved.pending_len {a a' : Actor} {ev : Ev} (h : Moved fix tk φ fmt crc a ev a')
    (hl : a.pending.length ≤ a.esync) : a'.pending.length ≤ a'.esync := by
  induction h with
  | queued => simp only [List.length_append, List.length_singleton]; omega
  | counted => exact Nat.le_succ_of_le hl
  | refused | lost | idle | ticked | truncated => exact hl
  | flushed | crashed => exact Nat.le_refl _
  | restarted _ _ ih => exact ih

/-- after a flush nobody waits, provided at most as many waited as entries were appended since the last fsync -/
theorem Moved.flush_pending {a a1 : Actor} (h : Moved fix tk φ fmt crc a .flush a1) (hl : a.pending.length ≤ a.esync) :
    a1.pending = [] := by
  cases h with
  | idle _ h =>
    rcases h with h | ⟨-, h0⟩
    · cases h
    · exact List.length_eq_zero_iff.mp (by omega)
  | flushed => rfl

theorem Moved.tbound {a a' : Actor} {ev : Ev} (h : Moved fix tk φ fmt crc a ev a') (hn : ∀ T, ev ≠ .truncate T) :
    a'.tbound = a.tbound := by
  induction h with
  | truncated T => exact absurd rfl (hn T)
  | restarted _ _ ih => exact ih fun T h => by cases h
  | _ => rfl

end RedisVerif.Wal
