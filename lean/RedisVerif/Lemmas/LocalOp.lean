import RedisVerif.Lemmas.Absorb
import RedisVerif.Model.Cluster

/-! Facts about one local operation of a shard, as used by the cluster invariant (C06). -/
namespace RedisVerif
namespace Shard

/-- the value `record_hash_write` stores and emits -/
def hwriteValue (s : Shard) (k : Nat) (fs : List (Nat × Bytes)) : RV :=
  (recordHashWrite s k fs).2

theorem recordHashWrite_fst (s : Shard) (k : Nat) (fs : List (Nat × Bytes)) :
    (recordHashWrite s k fs).1 =
      { s with
        clock := (fs.foldl hashSetStep (s.clock,
          ((NMap.get s.keys k).getD { RV.new s.rid with crdt := .hash [] }).crdt.hashOf)).1
        keys := NMap.insert k (recordHashWrite s k fs).2 s.keys } := rfl

theorem recordWrite_fst (s : Shard) (k : Nat) (v : Bytes) (e : Option Nat) :
    (recordWrite s k v e).1 =
      { s with
        clock := s.clock.tick
        vclock := if s.causal then vcIncrement s.vclock s.rid else s.vclock
        keys := NMap.insert k (recordWrite s k v e).2 s.keys } := rfl

/-! ### the forms of one local step

`step s op.toOp`, operation by operation, with the `match`es of the `record_*` functions resolved.
A fact about a local step is proved by `cases` on this view (`local_cases`): no unfolding, one
goal per form. -/

inductive Local (s : Shard) : LOp → Shard × Option RV → Prop
  /-- `DEL` / `HDEL` of a key the shard does not hold, `HDEL` on a value that is no hash -/
  | skip (op : LOp) : Local s op (s, none)
  | write (k : Nat) (v : Bytes) (e : Option Nat) :
      Local s (.write k v e) ((recordWrite s k v e).1, some (recordWrite s k v e).2)
  | hwrite (k : Nat) (fs : List (Nat × Bytes)) :
      Local s (.hwrite k fs) ((recordHashWrite s k fs).1, some (recordHashWrite s k fs).2)
  | delLww {k : Nat} {rv : RV} {r : Lww} (hg : NMap.get s.keys k = some rv) (hc : rv.crdt = .lww r) :
      Local s (.delete k)
        ({ s with clock := s.clock.tick,
                  keys := NMap.insert k
                    { rv with crdt := .lww (Lww.delete s.clock.tick), ts := s.clock.tick } s.keys },
         some { rv with crdt := .lww (Lww.delete s.clock.tick), ts := s.clock.tick })
  | delHash {k : Nat} {rv : RV} {h : NMap Lww} (hg : NMap.get s.keys k = some rv) (hc : rv.crdt = .hash h) :
      Local s (.delete k)
        ({ s with clock := s.clock.tick, keys := NMap.insert k (delHashValue s rv h) s.keys },
         some (delHashValue s rv h))
  /-- `DEL` of another CRDT kind: nothing changes, the stored value is handed back -/
  | delOther {k : Nat} {rv : RV} (hg : NMap.get s.keys k = some rv) (h0 : rv.crdt.kind ≠ 0)
      (h5 : rv.crdt.kind ≠ 5) : Local s (.delete k) (s, some rv)
  | hdel {k : Nat} (fs : List Nat) {rv : RV} {h : NMap Lww} (hg : NMap.get s.keys k = some rv)
      (hc : rv.crdt = .hash h) :
      Local s (.hdelete k fs)
        ({ s with clock := (fs.foldl hashDelStep (s.clock, h)).1,
                  keys := NMap.insert k (hdelValue s rv h fs) s.keys },
         some (hdelValue s rv h fs))

theorem local_cases (s : Shard) (op : LOp) : Local s op (step s op.toOp) := by
  cases op with
  | write k v e => exact .write k v e
  | hwrite k fs => exact .hwrite k fs
  | delete k =>
    simp only [LOp.toOp, step]
    cases hg : NMap.get s.keys k with
    | none => rw [recordDelete_none hg]; exact .skip _
    | some rv =>
      by_cases hc : rv.crdt.kind = 0
      · obtain ⟨r, hr⟩ := kind_lww hc
        rw [recordDelete_lww hg hr]; exact .delLww hg hr
      · by_cases hc5 : rv.crdt.kind = 5
        · obtain ⟨m, hm⟩ := kind_hash hc5
          rw [recordDelete_hash hg hm]; exact .delHash hg hm
        · rw [recordDelete_other hg hc hc5]; exact .delOther hg hc hc5
  | hdelete k fs =>
    simp only [LOp.toOp, step]
    cases hg : NMap.get s.keys k with
    | none => rw [recordHashDelete_none hg]; exact .skip _
    | some rv =>
      by_cases hc : rv.crdt.kind = 5
      · obtain ⟨m, hm⟩ := kind_hash hc
        rw [recordHashDelete_hash hg hm]; exact .hdel fs hg hm
      · rw [recordHashDelete_other hg hc]; exact .skip _

theorem local_shape (s : Shard) (op : LOp) :
    step s op.toOp = (s, none) ∨
    (∃ d, NMap.get s.keys op.key = some d ∧ step s op.toOp = (s, some d)) ∨
    ∃ c vc d, step s op.toOp =
      ({ s with clock := c, vclock := vc, keys := NMap.insert op.key d s.keys }, some d) := by
  have h := local_cases s op
  generalize step s op.toOp = r at h
  cases h with
  | skip => exact Or.inl rfl
  | delOther hg => exact Or.inr (Or.inl ⟨_, hg, rfl⟩)
  | _ => exact Or.inr (Or.inr ⟨_, _, _, rfl⟩)

theorem local_none (s : Shard) (op : LOp) (h : (step s op.toOp).2 = none) :
    (step s op.toOp).1 = s := by
  rcases local_shape s op with h1 | ⟨d, _, h1⟩ | ⟨c, vc, d, h1⟩ <;> rw [h1] at h ⊢ <;> cases h

theorem local_get (s : Shard) (op : LOp) (d : RV) (h : (step s op.toOp).2 = some d) :
    NMap.get (step s op.toOp).1.keys op.key = some d := by
  rcases local_shape s op with h1 | ⟨d', hg, h1⟩ | ⟨c, vc, d', h1⟩ <;> rw [h1] at h ⊢ <;> cases h
  · exact hg
  · simp [NMap.get_insert]

theorem keys_step_other (s : Shard) (op : LOp) (k' : Nat) (hk : k' ≠ op.key) :
    NMap.get (step s op.toOp).1.keys k' = NMap.get s.keys k' := by
  rcases local_shape s op with h1 | ⟨d, _, h1⟩ | ⟨c, vc, d, h1⟩ <;> rw [h1]
  simp [NMap.get_insert, hk]

/-- `Dominated` read over the registers (`Crdt.slots`) -/
theorem slots_le {v : RV} (h : v.Dominated) : ∀ p ∈ v.crdt.slots, p.2.ts.time ≤ v.ts.time := by
  intro p hp
  have : v.innerStamps = v.crdt.slots.map (·.2.ts) := by unfold RV.innerStamps; cases v.crdt <;> rfl
  exact h _ (this ▸ List.mem_map_of_mem hp)

theorem not_lt_of_time_lt {a b : Stamp} (h : a.time < b.time) : b.lt a = false :=
  Stamp.lt_asymm (Stamp.lt_of_time_lt h)

theorem stamp_eq_of_time_eq {a b : Stamp} (ht : a.time = b.time) (hr : a.rid = b.rid) : a = b := by
  cases a; cases b; simp only at ht hr; rw [ht, hr]

/-! ### the outer stamp of an emitted delta -/

/-- The delta is the stored value handed back (clock unmoved); or it is stamped with the new clock
    value, later than the old one; or it is stamped with the unmoved clock and keeps the kind of the
    value it replaces (`HDEL` naming only fields that are not there); or it is an `HSET` without a
    pair, which leaves clock and outer stamp where they were. -/
theorem local_stamp (s : Shard) (op : LOp) (d : RV) (hd : (step s op.toOp).2 = some d) :
    (NMap.get s.keys op.key = some d ∧ (step s op.toOp).1.clock = s.clock) ∨
    (d.ts = (step s op.toOp).1.clock ∧ s.clock.time < d.ts.time) ∨
    (d.ts = s.clock ∧ (step s op.toOp).1.clock = s.clock ∧
      ∃ old, NMap.get s.keys op.key = some old ∧ old.crdt.kind = d.crdt.kind) ∨
    (op = .hwrite op.key [] ∧ (step s op.toOp).1.clock = s.clock ∧
      d.ts = ((NMap.get s.keys op.key).getD (RV.new s.rid)).ts) := by
  have h := local_cases s op
  generalize step s op.toOp = r at h hd
  cases h with
  | skip => cases hd
  | write k v e => cases hd; exact Or.inr (Or.inl (by simp [recordWrite]))
  | delLww hg hc => cases hd; exact Or.inr (Or.inl (by simp))
  | delHash hg hc => cases hd; exact Or.inr (Or.inl (by simp [delHashValue]))
  | delOther hg => cases hd; exact Or.inl ⟨hg, rfl⟩
  | hwrite k fs =>
    cases hd
    cases fs with
    | nil =>
      refine Or.inr (Or.inr (Or.inr ⟨rfl, rfl, ?_⟩))
      cases hg : NMap.get s.keys k <;> simp [recordHashWrite, LOp.key, hg, RV.new]
    | cons f fs =>
      have hc := C08.hwrite_clock s k (f :: fs)
      refine Or.inr (Or.inl ⟨hc.2.2 rfl, ?_⟩)
      rw [hc.2.2 rfl, hc.1, List.length_cons]
      omega
  | @hdel k fs rv m hg hc =>
    cases hd
    cases fs with
    | nil =>
      -- no field named: the stored value is emitted unchanged
      refine Or.inl ⟨?_, rfl⟩
      show NMap.get s.keys k = _
      rw [hg]
      cases rv
      simp_all [hdelValue]
    | cons f fs =>
      -- the outer stamp is the (possibly unticked) clock
      have hfc := hashDel_fold_clock (f :: fs) s.clock m
      by_cases hlt : s.clock.time < ((f :: fs).foldl hashDelStep (s.clock, m)).1.time
      · exact Or.inr (Or.inl ⟨rfl, hlt⟩)
      · have heq := stamp_eq_of_time_eq (a := ((f :: fs).foldl hashDelStep (s.clock, m)).1)
          (b := s.clock) (by omega) hfc.2.2
        exact Or.inr (Or.inr (Or.inl ⟨heq, heq, rv, hg, by simp only [hdelValue, Crdt.kind, hc]⟩))

/-- the delta's outer stamp is not behind that of the value it replaces -/
theorem local_ts (s : Shard) (op : LOp) (old d : RV) (hinv : s.Inv) (h2 : s.Inv2)
    (hg : NMap.get s.keys op.key = some old) (hd : (step s op.toOp).2 = some d) :
    d.ts.lt old.ts = false := by
  have ho := (dominated_of_get hinv hg).1
  rcases local_stamp s op d hd with ⟨hA, _⟩ | ⟨hB, hlt⟩ | ⟨hC, _, _⟩ | ⟨_, _, hD⟩
  · rw [hg] at hA; cases hA; exact Stamp.lt_irrefl _
  · exact not_lt_of_time_lt (by omega)
  · rw [hC]; exact h2 _ (NMap.mem_of_get hg)
  · rw [hD, hg]; exact Stamp.lt_irrefl _

theorem local_below (s : Shard) (op : LOp) (old d : RV) (hinv : s.Inv) (h2 : s.Inv2)
    (hwf : ∀ p ∈ s.keys, p.2.WF) (hg : NMap.get s.keys op.key = some old)
    (hd : (step s op.toOp).2 = some d) (hk : old.crdt.kind = d.crdt.kind) : Below old d := by
  have ⟨hot, hod⟩ := dominated_of_get hinv hg
  have holdwf : old.WF := hwf _ (NMap.mem_of_get hg)
  have hts := local_ts s op old d hinv h2 hg hd
  have hreg : ∀ p ∈ old.crdt.slots, p.2.ts.time ≤ s.clock.time :=
    fun p hp => Nat.le_trans (slots_le hod p hp) hot
  have hhash : ∀ h0, old.crdt = .hash h0 → NMap.WF h0 ∧ ∀ p ∈ h0, p.2.ts.time ≤ s.clock.time :=
    fun h0 hc => ⟨by have := holdwf.1; rw [hc] at this; exact this, by rw [hc] at hreg; exact hreg⟩
  have hlww : ∀ r, old.crdt = .lww r → r.ts.time ≤ s.clock.time :=
    fun r hc => hreg (0, r) (by rw [hc]; exact List.mem_singleton.mpr rfl)
  have h := local_cases s op
  generalize step s op.toOp = r at h hd
  -- the registers of `d` are those of `old` or newer than all of them: the clock dominates them
  cases h with
  | skip => cases hd
  | write k v e =>
    cases hd
    obtain ⟨r, hc⟩ := kind_lww (c := old.crdt) (by rw [hk]; rfl)
    exact lww_absorb old _ r (Lww.set v s.clock.tick) hc rfl
      (Stamp.lt_of_time_lt (by have := hlww r hc; simp [Lww.set]; omega)) hts
  | hwrite k fs =>
    cases hd
    obtain ⟨h0, hc⟩ := kind_hash (c := old.crdt) (by rw [hk]; rfl)
    have hhash0 : ((NMap.get s.keys k).getD { RV.new s.rid with crdt := .hash [] }).crdt.hashOf
        = h0 := by simp [LOp.key] at hg; simp [hg, hc, Crdt.hashOf]
    exact hash_absorb old _ h0 (fs.foldl hashSetStep (s.clock, h0)).2 hc
      (by simp only [recordHashWrite]; rw [hhash0]) (hhash h0 hc).1
      (tick_fold_newer0 tick_hashSet fs s.clock h0 (hhash h0 hc).1) (hhash h0 hc).2 hts
  | @delLww k rv r hg' hc =>
    cases hd
    obtain rfl : old = rv := Option.some.inj (hg.symm.trans hg')
    exact lww_absorb old _ r (Lww.delete s.clock.tick) hc rfl
      (Stamp.lt_of_time_lt (by have := hlww r hc; simp [Lww.delete]; omega)) hts
  | @delHash k rv h0 hg' hc =>
    cases hd
    obtain rfl : old = rv := Option.some.inj (hg.symm.trans hg')
    exact hash_absorb old _ h0 _ hc rfl (hhash h0 hc).1 (newer_delAll s.clock (hhash h0 hc).1)
      (hhash h0 hc).2 hts
  | @delOther k rv hg' =>
    cases hd
    obtain rfl : old = d := Option.some.inj (hg.symm.trans hg')
    exact below_self old holdwf
  | @hdel k fs rv h0 hg' hc =>
    cases hd
    obtain rfl : old = rv := Option.some.inj (hg.symm.trans hg')
    exact hash_absorb old _ h0 (fs.foldl hashDelStep (s.clock, h0)).2 hc rfl (hhash h0 hc).1
      (tick_fold_newer0 tick_hashDel fs s.clock h0 (hhash h0 hc).1) (hhash h0 hc).2 hts

theorem vcIncrement_wf {vc : NMap Nat} (rid : Nat) (h : NMap.WF vc) :
    NMap.WF (vcIncrement vc rid) := NMap.wf_insert h

theorem hashSet_fold_wf (fs : List (Nat × Bytes)) (c : Stamp) (h : NMap Lww) (hw : NMap.WF h) :
    NMap.WF (fs.foldl hashSetStep (c, h)).2 :=
  (tick_fold_newer0 tick_hashSet fs c h hw).1

theorem hashDel_fold_wf (fs : List Nat) (c : Stamp) (h : NMap Lww) (hw : NMap.WF h) :
    NMap.WF (fs.foldl hashDelStep (c, h)).2 :=
  (tick_fold_newer0 tick_hashDel fs c h hw).1

/-- node-level well-formedness: canonical vector clock, canonical values -/
def NodeWF (s : Shard) : Prop := NMap.WF s.vclock ∧ ∀ p ∈ s.keys, p.2.WF

theorem hashOf_wf {c : Crdt} (h : c.WF) : NMap.WF c.hashOf := by
  cases c <;> simp only [Crdt.hashOf] <;> first | exact h | exact NMap.wf_nil

theorem nodewf_step (s : Shard) (op : LOp) (h : s.NodeWF) : (step s op.toOp).1.NodeWF := by
  have hins : ∀ (c : Stamp) (vc : NMap Nat) (k : Nat) (d : RV), NMap.WF vc → d.WF →
      ({ s with clock := c, vclock := vc, keys := NMap.insert k d s.keys } : Shard).NodeWF := by
    intro c vc k d hvc hd
    refine ⟨hvc, fun p hp => ?_⟩
    rcases NMap.mem_insert hp with rfl | hp
    · exact hd
    · exact h.2 p hp
  have hget : ∀ {k rv}, NMap.get s.keys k = some rv → rv.WF := fun hg => h.2 _ (NMap.mem_of_get hg)
  have hc := local_cases s op
  generalize step s op.toOp = r at hc
  cases hc with
  | skip => exact h
  | delOther => exact h
  | write k v e =>
    have hvc : NMap.WF (if s.causal then vcIncrement s.vclock s.rid else s.vclock) := by
      split
      · exact vcIncrement_wf _ h.1
      · exact h.1
    apply hins _ _ _ _ hvc
    refine ⟨trivial, ?_⟩
    split
    · exact vcIncrement_wf _ h.1
    · cases hg : NMap.get s.keys k with
      | none => simp [RV.new, RV.vcWF]
      | some rv => simp; exact (hget hg).2
  | hwrite k fs =>
    have hrv0 : ((NMap.get s.keys k).getD { RV.new s.rid with crdt := .hash [] }).WF := by
      cases hg : NMap.get s.keys k with
      | none => exact ⟨NMap.wf_nil, by simp [RV.new, RV.vcWF]⟩
      | some rv => simpa using hget hg
    exact hins _ _ _ _ h.1 ⟨hashSet_fold_wf fs _ _ (hashOf_wf hrv0.1), hrv0.2⟩
  | delLww hg hc => exact hins _ _ _ _ h.1 ⟨trivial, (hget hg).2⟩
  | delHash hg hc =>
    refine hins _ _ _ _ h.1 ⟨?_, (hget hg).2⟩
    simp only [delHashValue, Crdt.WF]
    exact NMap.wf_mapVal _ (by have := (hget hg).1; rw [hc] at this; exact this)
  | hdel fs hg hc =>
    exact hins _ _ _ _ h.1
      ⟨hashDel_fold_wf fs _ _ (by have := (hget hg).1; rw [hc] at this; exact this), (hget hg).2⟩

theorem nodewf_remote (s : Shard) (k : Nat) (d : RV) (h : s.NodeWF) (hd : d.WF) :
    (applyRemote s k d).NodeWF := by
  refine ⟨h.1, ?_⟩
  intro p hp
  simp only [applyRemote] at hp
  rcases NMap.mem_insert hp with hp | hp
  · subst hp
    simp only
    split
    · rename_i l hg
      exact C07.rv_merge_wf (h.2 _ (NMap.mem_of_get hg)) hd
    · exact hd
  · exact h.2 p hp

theorem inv2_insert {s : Shard} {k : Nat} {rv : RV} {c : Stamp} {vc : NMap Nat}
    (hinv : s.Inv) (h2 : s.Inv2) (hrid : c.rid = s.clock.rid) (hc : s.clock.time ≤ c.time)
    (h1 : c.lt rv.ts = false) :
    ({ s with clock := c, vclock := vc, keys := NMap.insert k rv s.keys } : Shard).Inv2 := by
  intro p hp
  rcases NMap.mem_insert hp with hp | hp
  · subst hp; exact h1
  · have ht := (hinv.2 p hp).1
    have hold := h2 p hp
    by_cases hlt : s.clock.time < c.time
    · apply Stamp.lt_asymm
      apply Stamp.lt_of_time_lt
      simp only; omega
    · have : c = s.clock := stamp_eq_of_time_eq (by omega) hrid
      simp only [this]; exact hold

theorem inv2_step (s : Shard) (op : LOp) (hinv : s.Inv) (h2 : s.Inv2)
    (hrid : s.clock.rid = s.rid) : (step s op.toOp).1.Inv2 := by
  have hm := C08.clock_monotone s op.toOp
  rcases local_shape s op with h1 | ⟨d, _, h1⟩ | ⟨c, vc, d, h1⟩
  · rw [h1]; exact h2
  · rw [h1]; exact h2
  have hs := local_stamp s op d (by rw [h1])
  rw [h1] at hm hs ⊢
  refine inv2_insert hinv h2 hm.2 hm.1 ?_
  rcases hs with ⟨hg, hc⟩ | ⟨hB, _⟩ | ⟨hC, hc, _⟩ | ⟨_, hc, hD⟩
  · simp only at hc; rw [hc]; exact h2 _ (NMap.mem_of_get hg)
  · rw [hB]; exact Stamp.lt_irrefl _
  · simp only at hc; rw [hC, hc]; exact Stamp.lt_irrefl _
  · simp only at hc; rw [hc, hD]
    cases hg : NMap.get s.keys op.key with
    | some old => exact h2 _ (NMap.mem_of_get hg)
    | none => rw [Stamp.not_lt_iff]; simp [RV.new, ← hrid]

theorem inv2_remote (s : Shard) (k : Nat) (d : RV) (hinv : s.Inv) :
    (applyRemote s k d).Inv2 := by
  intro p hp
  simp only [applyRemote] at hp ⊢
  apply Stamp.lt_asymm
  apply Stamp.lt_of_time_lt
  simp only [Stamp.update_time]
  rcases NMap.mem_insert hp with hp | hp
  · subst hp
    simp only
    split
    · rename_i l hg
      rw [merge_ts_time]
      have := (hinv.2 _ (NMap.mem_of_get hg)).1
      simp only at this
      omega
    · omega
  · have := (hinv.2 p hp).1
    omega

theorem rid_step (s : Shard) (op : Op) : (step s op).1.rid = s.rid := by
  rcases C08.step_spec s op with ⟨h, _⟩ | ⟨_, _, _, _, h, _⟩ <;> rw [h]

end Shard
end RedisVerif
