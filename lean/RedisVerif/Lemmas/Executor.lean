import RedisVerif.Model.Executor
import RedisVerif.Lemmas.NMap
import RedisVerif.Lemmas.Redis

/-!
  The abstraction from the executor's own state (`Model.Executor.CState`: two maps + clock) to the
  reference model's state, and the three notions the per-command refinement proofs run on: the code rewrites
  the two maps at one key (`At`); M7 then sees `absP` changed by one `setAt` there, up to `purge` (`Wrote`);
  and a command begins with a lazy-expiry preamble that changes nothing visible (`After`).
-/
set_option linter.unusedSimpArgs false

namespace RedisVerif.Executor
open RedisVerif RedisVerif.Redis

/-- Unix time in ms as the executor sees it = M7's `now` -/
def unix (cs : CState) : Nat := cs.epoch + cs.now

def absEntry (cs : CState) (k : Nat) (v : Value) : Entry :=
  ⟨v, (NMap.get cs.exp k).map (· + cs.epoch)⟩

/-- every physically present key with its value and its absolute (Unix) deadline -/
def abs (cs : CState) : State := cs.data.map (fun p => (p.1, absEntry cs p.1 p.2))

/-- the state M7's `exec` works on -/
def absP (cs : CState) : State := purge (abs cs) (unix cs)

/-- the executor's invariant (`verify_invariants` of mod.rs, debug builds only) + the number ranges
    in which `as i64` / `saturating_*` are the identity -/
structure CInv (cs : CState) : Prop where
  wfd : NMap.WF cs.data
  wfe : NMap.WF cs.exp
  sub : ∀ k, (NMap.get cs.exp k).isSome = true → (NMap.get cs.data k).isSome = true
  ok : ∀ p ∈ cs.data, ValueOk p.2
  timeOk : cs.epoch + cs.now ≤ 9223372036854775807
  dlOk : ∀ k d, NMap.get cs.exp k = some d → cs.epoch + d ≤ 9223372036854775807

/-- what a client can see at key `k` -/
def entryAt (cs : CState) (k : Nat) : Option Entry :=
  if isExpired cs k then none else (NMap.get cs.data k).map (absEntry cs k)

def setAt (k : Nat) : Option Entry → State → State
  | none, s => NMap.erase k s
  | some e, s => NMap.insert k e s


theorem get_setAt {s : State} (hw : NMap.WF s) (k : Nat) (o : Option Entry) (k' : Nat) :
    NMap.get (setAt k o s) k' = if k' = k then o else NMap.get s k' := by
  cases o with
  | none => simp [setAt, NMap.get_erase hw]
  | some e => simp [setAt, NMap.get_insert]

theorem wf_setAt {s : State} (hw : NMap.WF s) (k : Nat) (o : Option Entry) : NMap.WF (setAt k o s) := by
  cases o with
  | none => exact NMap.wf_erase hw
  | some e => exact NMap.wf_insert hw


theorem get_abs (cs : CState) (k : Nat) :
    NMap.get (abs cs) k = (NMap.get cs.data k).map (absEntry cs k) :=
  NMap.get_mapKV (absEntry cs) cs.data k

theorem wf_abs {cs : CState} (h : NMap.WF cs.data) : NMap.WF (abs cs) := NMap.wf_mapKV _ h

theorem wf_absP {cs : CState} (h : NMap.WF cs.data) : NMap.WF (absP cs) := wf_purge _ (wf_abs h)

theorem live_absEntry (cs : CState) (k : Nat) (v : Value) :
    live (unix cs) (absEntry cs k v) = !isExpired cs k := by
  unfold live absEntry isExpired unix
  cases h : NMap.get cs.exp k with
  | none => simp
  | some d =>
    simp only [Option.map_some]
    by_cases hd : d ≤ cs.now
    · have : ¬ (cs.epoch + cs.now < d + cs.epoch) := by omega
      simp [hd, this]
    · have : cs.epoch + cs.now < d + cs.epoch := by omega
      simp [hd, this]

theorem get_absP {cs : CState} (h : NMap.WF cs.data) (k : Nat) :
    NMap.get (absP cs) k = entryAt cs k := by
  unfold absP entryAt
  rw [get_purge (wf_abs h), get_abs]
  cases hg : NMap.get cs.data k with
  | none => simp
  | some v =>
    simp only [Option.map_some, Option.filter, live_absEntry]
    cases isExpired cs k <;> simp

/-- nothing visible changes when `entryAt` agrees with `cs` on every key (e.g. a lazy drop) -/
theorem absP_congr {cs cs' : CState}
    (hw : NMap.WF cs.data) (hw' : NMap.WF cs'.data)
    (h : ∀ k, entryAt cs' k = entryAt cs k) : absP cs' = absP cs := by
  apply NMap.ext (wf_absP hw') (wf_absP hw)
  intro k
  rw [get_absP hw', get_absP hw, h]

theorem setAt_self {s : State} (hw : NMap.WF s) (k : Nat) :
    setAt k (NMap.get s k) s = s := by
  apply NMap.ext (wf_setAt hw _ _) hw
  intro k'
  rw [get_setAt hw]
  split
  · rename_i h; subst h; rfl
  · rfl


theorem insert_self {s : State} (hw : NMap.WF s) {k : Nat} {e : Entry} (h : NMap.get s k = some e) :
    NMap.insert k e s = s := by
  have := setAt_self hw k
  rw [h] at this
  exact this


theorem purge_insert {s : State} (hw : NMap.WF s) (k : Nat) (e : Entry) (now : Nat) :
    purge (NMap.insert k e s) now = setAt k (if live now e then some e else none) (purge s now) := by
  apply NMap.ext (wf_purge _ (NMap.wf_insert hw)) (wf_setAt (wf_purge _ hw) _ _)
  intro k'
  rw [get_purge (NMap.wf_insert hw), NMap.get_insert, get_setAt (wf_purge _ hw), get_purge hw]
  by_cases hk : k' = k
  · simp only [hk, if_true, Option.filter]
  · simp only [hk, if_false]

theorem purge_erase {s : State} (hw : NMap.WF s) (k : Nat) (now : Nat) :
    purge (NMap.erase k s) now = NMap.erase k (purge s now) := by
  apply NMap.ext (wf_purge _ (NMap.wf_erase hw)) (NMap.wf_erase (wf_purge _ hw))
  intro k'
  rw [get_purge (NMap.wf_erase hw), NMap.get_erase hw, NMap.get_erase (wf_purge _ hw), get_purge hw]
  split <;> simp

theorem purge_absP (cs : CState) : purge (absP cs) (unix cs) = absP cs := purge_idem _ _

theorem live_of_get_absP {cs : CState} {k : Nat} {e : Entry}
    (h : NMap.get (absP cs) k = some e) : live (unix cs) e = true := by
  have := NMap.mem_of_get h
  exact (mem_purge.mp this).2


theorem inv_abs {cs : CState} (h : CInv cs) : Inv (abs cs) := by
  refine ⟨wf_abs h.wfd, ?_⟩
  intro p hp
  unfold abs at hp
  obtain ⟨q, hq, rfl⟩ := List.mem_map.mp hp
  exact h.ok q hq

theorem inv_absP {cs : CState} (h : CInv cs) : Inv (absP cs) := inv_purge _ (inv_abs h)


/-- what a client sees of a key whose entries in `data` and `expirations` are `v` and `d` -/
def cell (now epoch : Nat) : Option Value → Option Nat → Option Entry
  | none, _ => none
  | some w, none => some ⟨w, none⟩
  | some w, some t => if t ≤ now then none else some ⟨w, some (t + epoch)⟩

theorem entryAt_eq_cell (c : CState) (k : Nat) :
    entryAt c k = cell c.now c.epoch (NMap.get c.data k) (NMap.get c.exp k) := by
  unfold entryAt isExpired absEntry
  cases NMap.get c.data k <;> cases NMap.get c.exp k <;> simp [cell]

/-- `c'` is `c` rewritten at key `k` only, where it now holds `v` with deadline entry `d`: the shape of every
    write of a single-key command -/
structure At (c : CState) (k : Nat) (v : Option Value) (d : Option Nat) (c' : CState) : Prop where
  now : c'.now = c.now
  epoch : c'.epoch = c.epoch
  wfd : NMap.WF c'.data
  wfe : NMap.WF c'.exp
  data : ∀ k', k' ≠ k → NMap.get c'.data k' = NMap.get c.data k'
  exp : ∀ k', k' ≠ k → NMap.get c'.exp k' = NMap.get c.exp k'
  val : NMap.get c'.data k = v
  dl : NMap.get c'.exp k = d

section atKey
variable {c c' : CState} {k : Nat} {v : Option Value} {d : Option Nat}

theorem At.refl (h : CInv c) (k : Nat) : At c k (NMap.get c.data k) (NMap.get c.exp k) c :=
  ⟨rfl, rfl, h.wfd, h.wfe, fun _ _ => rfl, fun _ _ => rfl, rfl, rfl⟩

/-- `data.insert(k, w)` -/
theorem At.put (u : At c k v d c') (w : Value) : At c k (some w) d { c' with data := NMap.insert k w c'.data } :=
  ⟨u.now, u.epoch, NMap.wf_insert u.wfd, u.wfe,
    fun k' hk => by rw [← u.data k' hk]; simp only [NMap.get_insert, hk, if_false], u.exp,
    by simp only [NMap.get_insert, if_true], u.dl⟩

/-- `expirations.insert(k, t)` -/
theorem At.putDl (u : At c k v d c') (t : Nat) : At c k v (some t) { c' with exp := NMap.insert k t c'.exp } :=
  ⟨u.now, u.epoch, u.wfd, NMap.wf_insert u.wfe, u.data,
    fun k' hk => by rw [← u.exp k' hk]; simp only [NMap.get_insert, hk, if_false], u.val,
    by simp only [NMap.get_insert, if_true]⟩

/-- `expirations.remove(k)` -/
theorem At.noDl (u : At c k v d c') : At c k v none { c' with exp := NMap.erase k c'.exp } :=
  ⟨u.now, u.epoch, u.wfd, NMap.wf_erase u.wfe, u.data,
    fun k' hk => by rw [← u.exp k' hk]; simp only [NMap.get_erase u.wfe, hk, if_false], u.val,
    by simp only [NMap.get_erase u.wfe, if_true]⟩

/-- `data.remove(k); expirations.remove(k)` -/
theorem At.drop (u : At c k v d c') : At c k none none (dropKey c' k) :=
  ⟨u.now, u.epoch, NMap.wf_erase u.wfd, NMap.wf_erase u.wfe,
    fun k' hk => by rw [← u.data k' hk]; simp only [dropKey, NMap.get_erase u.wfd, hk, if_false],
    fun k' hk => by rw [← u.exp k' hk]; simp only [dropKey, NMap.get_erase u.wfe, hk, if_false],
    by simp only [dropKey, NMap.get_erase u.wfd, if_true], by simp only [dropKey, NMap.get_erase u.wfe, if_true]⟩

/-- the visible keyspace changes at `k` only, to what the new entries show -/
theorem At.absP (u : At c k v d c') (h : CInv c) :
    absP c' = setAt k (cell c.now c.epoch v d) (absP c) := by
  have hw := wf_absP h.wfd
  apply NMap.ext (wf_absP u.wfd) (wf_setAt hw _ _)
  intro k'
  rw [get_setAt hw, get_absP u.wfd, get_absP h.wfd]
  by_cases hk : k' = k
  · rw [if_pos hk, hk, entryAt_eq_cell, u.val, u.dl, u.now, u.epoch]
  · rw [if_neg hk]
    unfold entryAt isExpired absEntry
    rw [u.data k' hk, u.exp k' hk, u.now, u.epoch]

/-- the invariant is left to check on the new entries -/
theorem At.inv (u : At c k v d c') (h : CInv c) (hsub : d.isSome = true → v.isSome = true)
    (hok : ∀ w, v = some w → ValueOk w) (hdl : ∀ t, d = some t → c.epoch + t ≤ 9223372036854775807) :
    CInv c' where
  wfd := u.wfd
  wfe := u.wfe
  sub := fun k' hk' => by
    by_cases e : k' = k
    · subst e; rw [u.val]; rw [u.dl] at hk'; exact hsub hk'
    · rw [u.data k' e]; rw [u.exp k' e] at hk'; exact h.sub k' hk'
  ok := fun p hp => by
    have hg := NMap.get_of_mem u.wfd hp
    by_cases e : p.1 = k
    · rw [e, u.val] at hg; exact hok p.2 hg
    · rw [u.data p.1 e] at hg; exact h.ok p (NMap.mem_of_get hg)
  timeOk := by rw [u.now, u.epoch]; exact h.timeOk
  dlOk := fun k' t ht => by
    rw [u.epoch]
    by_cases e : k' = k
    · subst e; rw [u.dl] at ht; exact hdl t ht
    · rw [u.exp k' e] at ht; exact h.dlOk k' t ht

end atKey

section updates
variable {c : CState} {k : Nat}

theorem entryAt_live (hx : isExpired c k = false) :
    entryAt c k = (NMap.get c.data k).map (absEntry c k) := by
  simp [entryAt, hx]

theorem entryAt_expired (hx : isExpired c k = true) : entryAt c k = none := by
  simp [entryAt, hx]

/-- `data.insert(k, v); expirations.insert(k, d)` -/
theorem upd_data_dl (h : CInv c) (v : Value) (d : Nat) :
    absP { c with data := NMap.insert k v c.data, exp := NMap.insert k d c.exp } =
      setAt k (if d ≤ c.now then none else some ⟨v, some (d + c.epoch)⟩) (absP c) :=
  (((At.refl h k).put v).putDl d).absP h

/-- dropping a key that is past its deadline changes nothing visible -/
theorem upd_drop_expired (h : CInv c) (hx : isExpired c k = true) : absP (dropKey c k) = absP c := by
  rw [(At.refl h k).drop.absP h]
  exact NMap.erase_of_get_none (wf_absP h.wfd) (by rw [get_absP h.wfd, entryAt_expired hx])

theorem cinv_data_dl (h : CInv c) {v : Value} (hv : ValueOk v) {d : Nat}
    (hd : c.epoch + d ≤ 9223372036854775807) :
    CInv { c with data := NMap.insert k v c.data, exp := NMap.insert k d c.exp } :=
  ((At.refl h k).put v).putDl d |>.inv h (fun _ => rfl) (fun _ e => Option.some.inj e ▸ hv)
    (fun _ e => Option.some.inj e ▸ hd)

end updates


theorem valueOk_get {c : CState} (h : CInv c) {k : Nat} {v : Value} (hv : NMap.get c.data k = some v) :
    ValueOk v := h.ok (k, v) (NMap.mem_of_get hv)

theorem live_of_notExp {c : CState} {k : Nat} (hx : isExpired c k = false) (v : Value) :
    live (unix c) ⟨v, (NMap.get c.exp k).map (· + c.epoch)⟩ = true := by
  have := live_absEntry c k v
  simpa [absEntry, hx] using this

theorem purge_setAt {s : State} (hw : NMap.WF s) (k : Nat) (e : Option Entry) (now : Nat) :
    purge (setAt k e s) now = setAt k (e.filter (live now)) (purge s now) := by
  cases e with
  | none => exact purge_erase hw k now
  | some e => rw [setAt, purge_insert hw]; simp only [Option.filter]

theorem setAt_setAt {s : State} (hw : NMap.WF s) (k : Nat) (e e' : Option Entry) :
    setAt k e' (setAt k e s) = setAt k e' s := by
  apply NMap.ext (wf_setAt (wf_setAt hw _ _) _ _) (wf_setAt hw _ _)
  intro k'
  rw [get_setAt (wf_setAt hw _ _), get_setAt hw, get_setAt hw]
  split <;> rfl

/-- `c'` is `c` rewritten at key `k` only, and shows what M7 shows once it has put `e` at `k` (`none`: removed it) -/
structure Wrote (c : CState) (k : Nat) (e : Option Entry) (c' : CState) : Prop where
  inv : CInv c'
  now : c'.now = c.now
  epoch : c'.epoch = c.epoch
  data : ∀ k', k' ≠ k → NMap.get c'.data k' = NMap.get c.data k'
  exp : ∀ k', k' ≠ k → NMap.get c'.exp k' = NMap.get c.exp k'
  shows : absP c' = purge (setAt k e (absP c)) (unix c)

/-! ### the writes of the code at one key, as M7 sees them
    (`execute_set` after its `data.insert`, `execute_getex`, `execute_expire*`, `persist`, the collections' store-back) -/

section deadline
variable {c : CState} {k : Nat} {w : Value}

/-- from what the code did to the two maps at `k` to what M7 sees: the new entries satisfy the invariant and
    show `e` (or nothing, when `e` is past its deadline) -/
theorem At.wrote {c' : CState} {v : Option Value} {d : Option Nat} {e : Option Entry} (u : At c k v d c')
    (h : CInv c) (hsub : d.isSome = true → v.isSome = true) (hok : ∀ w, v = some w → ValueOk w)
    (hdl : ∀ t, d = some t → c.epoch + t ≤ 9223372036854775807)
    (he : cell c.now c.epoch v d = e.filter (live (unix c))) : Wrote c k e c' :=
  ⟨u.inv h hsub hok hdl, u.now, u.epoch, u.data, u.exp,
    by rw [u.absP h, purge_setAt (wf_absP h.wfd), purge_absP, he]⟩

/-- two writes, at any two keys, show what M7 shows after both -/
theorem Wrote.andThen {c1 c2 : CState} {k2 : Nat} {e1 e2 : Option Entry} (h1 : Wrote c k e1 c1)
    (h2 : Wrote c1 k2 e2 c2) (h : CInv c) :
    absP c2 = purge (setAt k2 e2 (setAt k e1 (absP c))) (unix c) := by
  have hu : unix c1 = unix c := by simp only [unix, h1.now, h1.epoch]
  have hw := wf_setAt (wf_absP h.wfd) k e1
  rw [h2.shows, h1.shows, hu, purge_setAt (wf_purge _ hw), purge_idem, ← purge_setAt hw]

/-- … at the same key, the second -/
theorem Wrote.trans {c1 c2 : CState} {e1 e2 : Option Entry} (h1 : Wrote c k e1 c1) (h2 : Wrote c1 k e2 c2)
    (h : CInv c) : Wrote c k e2 c2 :=
  ⟨h2.inv, h2.now.trans h1.now, h2.epoch.trans h1.epoch, fun k' hk => (h2.data k' hk).trans (h1.data k' hk),
    fun k' hk => (h2.exp k' hk).trans (h1.exp k' hk), by rw [h1.andThen h2 h, setAt_setAt (wf_absP h.wfd)]⟩

/-- an entry that is not past its deadline is shown as it is -/
theorem Wrote.absP_live {c' : CState} {e : Option Entry} (hd : Wrote c k e c') (h : CInv c)
    (he : e.filter (live (unix c)) = e) : absP c' = setAt k e (absP c) := by
  rw [hd.shows, purge_setAt (wf_absP h.wfd), purge_absP, he]

/-- `data.insert(k, v)` on a key that is not past its deadline: created without a deadline, or replaced in
    place with the deadline kept -/
theorem Wrote.store (h : CInv c) (hx : isExpired c k = false) {v : Value} (hv : ValueOk v) :
    Wrote c k (some ⟨v, (NMap.get c.exp k).map (· + c.epoch)⟩) { c with data := NMap.insert k v c.data } :=
  ((At.refl h k).put v).wrote h (fun _ => rfl) (fun _ e => Option.some.inj e ▸ hv) (h.dlOk k) (by
    rw [Option.filter, live_of_notExp hx, if_pos rfl]
    unfold isExpired at hx
    cases hd : NMap.get c.exp k with
    | none => rfl
    | some t => rw [hd] at hx; simp only [cell, Option.map_some]; rw [if_neg (by simpa using hx)])

/-- `data.insert(k, v); expirations.remove(k)`, whatever was there -/
theorem Wrote.fresh (h : CInv c) {v : Value} (hv : ValueOk v) :
    Wrote c k (some ⟨v, none⟩) { c with data := NMap.insert k v c.data, exp := NMap.erase k c.exp } :=
  ((At.refl h k).put v).noDl.wrote h nofun (fun _ e => Option.some.inj e ▸ hv) nofun rfl

theorem cell_dl (now epoch : Nat) (w : Value) (d : Nat) :
    cell now epoch (some w) (some d) = (some ⟨w, some (d + epoch)⟩ : Option Entry).filter (live (epoch + now)) := by
  by_cases hd : d ≤ now
  · have : ¬ (epoch + now < d + epoch) := by omega
    simp [cell, Option.filter, live, hd, this]
  · have : epoch + now < d + epoch := by omega
    simp [cell, Option.filter, live, hd, this]

/-- `expirations.insert(k, d)`, whether or not `d` has been reached -/
theorem Wrote.dl (h : CInv c) (hv : NMap.get c.data k = some w) {d : Nat}
    (hd : c.epoch + d ≤ 9223372036854775807) :
    Wrote c k (some ⟨w, some (d + c.epoch)⟩) { c with exp := NMap.insert k d c.exp } :=
  (hv ▸ (At.refl h k).putDl d).wrote h (fun _ => rfl) (fun _ e => valueOk_get h (hv.trans e))
    (fun _ e => Option.some.inj e ▸ hd) (cell_dl ..)

/-- `data.insert(k, v); expirations.insert(k, d)`, whatever was there -/
theorem Wrote.withDl (h : CInv c) {v : Value} (hv : ValueOk v) {d : Nat} (hd : c.epoch + d ≤ 9223372036854775807) :
    Wrote c k (some ⟨v, some (d + c.epoch)⟩)
      { c with data := NMap.insert k v c.data, exp := NMap.insert k d c.exp } :=
  (((At.refl h k).put v).putDl d).wrote h (fun _ => rfl) (fun _ e => Option.some.inj e ▸ hv)
    (fun _ e => Option.some.inj e ▸ hd) (cell_dl ..)

/-- `data.remove(k); expirations.remove(k)`: M7 has removed the key, or given it a deadline that has been reached -/
theorem Wrote.drop (h : CInv c) {e : Option Entry} (he : e.filter (live (unix c)) = none) :
    Wrote c k e (dropKey c k) := (At.refl h k).drop.wrote h nofun nofun nofun he.symm

/-- … in particular a deadline that has been reached -/
theorem Wrote.dead (h : CInv c) {t : Nat} (ht : t ≤ unix c) : Wrote c k (some ⟨w, some t⟩) (dropKey c k) :=
  Wrote.drop h (by have : ¬ unix c < t := by omega
                   simp [Option.filter, live, this])

/-- `expirations.remove(k)` -/
theorem Wrote.noDl (h : CInv c) (hv : NMap.get c.data k = some w) :
    Wrote c k (some ⟨w, none⟩) { c with exp := NMap.erase k c.exp } :=
  (hv ▸ (At.refl h k).noDl).wrote h nofun (fun _ e => valueOk_get h (hv.trans e)) nofun rfl

theorem dl_keep (h : CInv c) (hv : NMap.get c.data k = some w) (hx : isExpired c k = false) :
    absP c = purge (NMap.insert k ⟨w, (NMap.get c.exp k).map (· + c.epoch)⟩ (absP c)) (unix c) := by
  have hg : NMap.get (absP c) k = some ⟨w, (NMap.get c.exp k).map (· + c.epoch)⟩ := by
    rw [get_absP h.wfd, entryAt_live hx, hv]; rfl
  rw [insert_self (wf_absP h.wfd) hg, purge_absP]

/-- nothing is written: M7 sees the entry it would put back -/
theorem Wrote.keep (h : CInv c) (hv : NMap.get c.data k = some w) (hx : isExpired c k = false) :
    Wrote c k (some ⟨w, (NMap.get c.exp k).map (· + c.epoch)⟩) c :=
  ⟨h, rfl, rfl, fun _ _ => rfl, fun _ _ => rfl, dl_keep h hv hx⟩

end deadline


/-- what the lazy-expiry preamble on key `k` of `cs` (`get_value`, or `is_expired` + remove) establishes of
    the state `c` it leaves and of the value `o` found there -/
structure After (cs : CState) (k : Nat) (c : CState) (o : Option Value) : Prop where
  inv : CInv c
  same : absP c = absP cs
  now : c.now = cs.now
  epoch : c.epoch = cs.epoch
  notExp : isExpired c k = false
  val : NMap.get c.data k = o

/-- … and M7 finds it there as it is stored -/
theorem After.look {cs c : CState} {k : Nat} {o : Option Value} (g : After cs k c o) :
    NMap.get (absP c) k = o.map (fun v => ⟨v, (NMap.get c.exp k).map (· + c.epoch)⟩) := by
  rw [get_absP g.inv.wfd, entryAt_live g.notExp, g.val]; rfl

/-- a key that is not past its deadline needs no preamble -/
theorem After.of_notExp {cs : CState} (h : CInv cs) {k : Nat} (hx : isExpired cs k = false) :
    After cs k cs (NMap.get cs.data k) := ⟨h, rfl, rfl, rfl, hx, rfl⟩

theorem after_getValue {cs : CState} (h : CInv cs) (k : Nat) :
    After cs k (getValue cs k).1 (getValue cs k).2 := by
  unfold getValue
  by_cases hx : isExpired cs k = true
  · simp only [hx, if_true]
    have u := (At.refl h k).drop
    exact ⟨u.inv h nofun nofun nofun, upd_drop_expired h hx, rfl, rfl, by unfold isExpired; rw [u.dl], u.val⟩
  · rw [Bool.not_eq_true] at hx
    simp only [hx, Bool.false_eq_true, if_false]
    exact After.of_notExp h hx

theorem after_lazyDrop {cs : CState} (h : CInv cs) (k : Nat) :
    After cs k (lazyDrop cs k) (NMap.get (lazyDrop cs k).data k) := by
  have g := after_getValue h k
  rw [show (getValue cs k).1 = lazyDrop cs k by unfold getValue lazyDrop; split <;> rfl] at g
  exact ⟨g.inv, g.same, g.now, g.epoch, g.notExp, rfl⟩

theorem liveKey_eq {cs : CState} (h : CInv cs) (k : Nat) :
    liveKey cs k = (NMap.get (absP cs) k).isSome := by
  rw [get_absP h.wfd]
  unfold liveKey entryAt
  cases isExpired cs k <;> simp


theorem i64Max_eq : i64Max = 9223372036854775807 := rfl
theorem i64Min_eq : i64Min = -9223372036854775808 := rfl
theorem i64MaxDiv1000_eq : i64MaxDiv1000 = 9223372036854775 := rfl
theorem i64MinDiv1000_eq : i64MinDiv1000 = -9223372036854775 := rfl

theorem asI64_small {n : Nat} (h : n ≤ 9223372036854775807) : asI64 n = (n : Int) := by
  unfold asI64
  have e := i64Max_eq
  rw [if_pos (by omega)]

theorem sat_id {i : Int} (h1 : -9223372036854775808 ≤ i) (h2 : i ≤ 9223372036854775807) : sat i = i := by
  unfold sat
  have e := i64Max_eq
  have e' := i64Min_eq
  rw [if_neg (by omega), if_neg (by omega)]

theorem asU64_nonneg {i : Int} (h : 0 ≤ i) : asU64 i = i.toNat := by
  unfold asU64
  simp [h]

theorem basetime_eq {cs : CState} (h : CInv cs) : basetimeMs cs = ((unix cs : Nat) : Int) := by
  unfold basetimeMs unix
  have := h.timeOk
  rw [asI64_small (by omega), sat_id (by omega) (by omega)]
  omega

/-- an integer argument of a command is an i64 (the `Command` fields are) -/
def I64 (v : Int) : Prop := -9223372036854775808 ≤ v ∧ v ≤ 9223372036854775807

instance (v : Int) : Decidable (I64 v) := by unfold I64; infer_instance

/-- M7's Boolean test `inI64` is `I64` (written out, for `omega`) -/
theorem inI64_iff (i : Int) : inI64 i = true ↔ (-9223372036854775808 ≤ i ∧ i ≤ 9223372036854775807) :=
  Redis.inI64_iff i


theorem erase_insert {s : State} (hw : NMap.WF s) (k : Nat) (e : Entry) :
    NMap.erase k (NMap.insert k e s) = NMap.erase k s := NMap.erase_insert hw k e


end RedisVerif.Executor
