import RedisVerif.Model.InsertSort

/-! Insertion sort under an arbitrary comparison `le` (`HB.insertBy`, `HB.isort`): permutation,
    sortedness, filtering, independence of the input order.  Sortedness is stated for any relation
    `R` that `le` decides one way or the other, so that a strict comparison (`R` its reflexive
    closure) is an instance like a total one (`R` the comparison itself). -/
namespace RedisVerif
namespace HB

variable {α : Type} {le : α → α → Bool}

abbrev SortedLe (le : α → α → Bool) (l : List α) : Prop := l.Pairwise (fun a b => le a b = true)

theorem insertBy_cons_pos {e x : α} (h : le e x = true) (xs : List α) :
    insertBy le e (x :: xs) = e :: x :: xs := by
  show (if le e x = true then _ else _) = _
  rw [if_pos h]

theorem insertBy_cons_neg {e x : α} (h : le e x = false) (xs : List α) :
    insertBy le e (x :: xs) = x :: insertBy le e xs := by
  show (if le e x = true then _ else _) = _
  rw [h, if_neg Bool.false_ne_true]

/-- a function with the two equations of `insertBy` is `insertBy`: how a sort that a model writes out
    for its own key is recognised as an instance -/
theorem eq_insertBy {ins : α → List α → List α} (hnil : ∀ e, ins e [] = [e])
    (hcons : ∀ e x xs, ins e (x :: xs) = if le e x = true then e :: x :: xs else x :: ins e xs) :
    ins = insertBy le := by
  funext e l
  induction l with
  | nil => exact hnil e
  | cons x xs ih => rw [hcons, ih]; rfl

theorem insertBy_perm (le : α → α → Bool) (e : α) (l : List α) : (insertBy le e l).Perm (e :: l) := by
  induction l with
  | nil => exact List.Perm.refl _
  | cons x xs ih =>
    cases h : le e x with
    | true => rw [insertBy_cons_pos h]
    | false =>
      rw [insertBy_cons_neg h]
      exact (List.Perm.cons x ih).trans (List.Perm.swap e x xs)

theorem isort_perm (le : α → α → Bool) (l : List α) : (isort le l).Perm l := by
  induction l with
  | nil => exact List.Perm.refl _
  | cons x xs ih => exact (insertBy_perm le x _).trans (List.Perm.cons x ih)

theorem mem_isort {l : List α} {x : α} : x ∈ isort le l ↔ x ∈ l := (isort_perm le l).mem_iff

/-- inserting one by one from the left sorts the reversed list -/
theorem foldl_insertBy (le : α → α → Bool) (l : List α) :
    l.foldl (fun acc x => insertBy le x acc) [] = isort le l.reverse := List.foldl_eq_foldr_reverse

theorem insertBy_of_le_all {e : α} {l : List α} (h : ∀ b ∈ l, le e b = true) : insertBy le e l = e :: l := by
  cases l with
  | nil => rfl
  | cons x xs => exact insertBy_cons_pos (h x List.mem_cons_self) xs

theorem isort_of_sorted {l : List α} (h : SortedLe le l) : isort le l = l := by
  induction l with
  | nil => rfl
  | cons x xs ih =>
    have h := List.pairwise_cons.mp h
    show insertBy le x (isort le xs) = x :: xs
    rw [ih h.2, insertBy_of_le_all h.1]

section relation
variable {R : α → α → Prop} (hpos : ∀ a b, le a b = true → R a b) (hneg : ∀ a b, le a b = false → R b a)
  (htr : ∀ a b c, R a b → R b c → R a c)
include hpos hneg htr

theorem pairwise_insertBy {e : α} {l : List α} (h : l.Pairwise R) : (insertBy le e l).Pairwise R := by
  induction l with
  | nil => exact List.pairwise_singleton _ _
  | cons x xs ih =>
    have h := List.pairwise_cons.mp h
    cases hle : le e x with
    | true =>
      rw [insertBy_cons_pos hle]
      refine List.pairwise_cons.mpr ⟨fun b hb => ?_, List.pairwise_cons.mpr h⟩
      rcases List.mem_cons.mp hb with rfl | hb
      · exact hpos _ _ hle
      · exact htr _ _ _ (hpos _ _ hle) (h.1 b hb)
    | false =>
      rw [insertBy_cons_neg hle]
      refine List.pairwise_cons.mpr ⟨fun b hb => ?_, ih h.2⟩
      rcases List.mem_cons.mp ((insertBy_perm le e xs).subset hb) with rfl | hb
      · exact hneg _ _ hle
      · exact h.1 b hb

theorem pairwise_isort (l : List α) : (isort le l).Pairwise R := by
  induction l with
  | nil => exact List.Pairwise.nil
  | cons x xs ih => exact pairwise_insertBy hpos hneg htr ih

/-- sorting forgets the order of its input wherever `R` tells the elements apart -/
theorem isort_eq_of_perm_of_antisymm {l l' : List α} (hp : l.Perm l')
    (hanti : ∀ a ∈ l, ∀ b ∈ l, R a b → R b a → a = b) : isort le l = isort le l' := by
  have p1 := isort_perm le l
  have p2 := isort_perm le l'
  refine List.Perm.eq_of_pairwise (le := R) ?_ (pairwise_isort hpos hneg htr l)
    (pairwise_isort hpos hneg htr l') (p1.trans (hp.trans p2.symm))
  intro a b ha hb
  exact hanti a (p1.subset ha) b (hp.symm.subset (p2.subset hb))

end relation

section order
variable (htot : ∀ a b, le a b = true ∨ le b a = true)
  (htr : ∀ a b c, le a b = true → le b c = true → le a c = true)
include htr

theorem filter_insertBy (p : α → Bool) (e : α) {l : List α} (hs : SortedLe le l) :
    (insertBy le e l).filter p = if p e then insertBy le e (l.filter p) else l.filter p := by
  induction l with
  | nil => show [e].filter p = _; cases h : p e <;> simp [h, insertBy]
  | cons x xs ih =>
    have hs := List.pairwise_cons.mp hs
    cases hle : le e x with
    | true =>
      -- `e` is below everything that survives the filter
      have hall : ∀ b ∈ (x :: xs).filter p, le e b = true := by
        intro b hb
        rcases List.mem_cons.mp (List.mem_filter.mp hb).1 with rfl | hb'
        · exact hle
        · exact htr _ _ _ hle (hs.1 b hb')
      rw [insertBy_cons_pos hle, insertBy_of_le_all hall, List.filter_cons]
    | false =>
      rw [insertBy_cons_neg hle, List.filter_cons, ih hs.2, List.filter_cons]
      cases p e <;> cases hpx : p x <;> simp only [if_true, if_false, Bool.false_eq_true]
      rw [insertBy_cons_neg hle]

include htot

theorem sorted_isort (l : List α) : SortedLe le (isort le l) :=
  pairwise_isort (fun _ _ h => h) (fun a b h => (htot a b).resolve_left (by rw [h]; exact Bool.false_ne_true)) htr l

theorem filter_isort (p : α → Bool) (l : List α) : (isort le l).filter p = isort le (l.filter p) := by
  induction l with
  | nil => rfl
  | cons x xs ih =>
    show (insertBy le x (isort le xs)).filter p = _
    rw [filter_insertBy htr p x (sorted_isort htot htr xs), ih, List.filter_cons]
    cases p x <;> rfl

theorem isort_eq_of_perm {l l' : List α} (hp : l.Perm l')
    (hanti : ∀ a ∈ l, ∀ b ∈ l, le a b = true → le b a = true → a = b) : isort le l = isort le l' :=
  isort_eq_of_perm_of_antisymm (fun _ _ h => h)
    (fun a b h => (htot a b).resolve_left (by rw [h]; exact Bool.false_ne_true)) htr hp hanti

end order

end HB
end RedisVerif
