import RedisVerif.Lemmas.SkipListUpdate

/-! `insert_internal`: its two loops as instances of `perLevel`, the arrays and the header it extends when the new node
    is taller than the list, `spans_after_insert` (`spans_splice` with the tail `new :: drop c`), and
    `insertInternal_spec`: `Wf` of the result. -/
namespace RedisVerif.SkipList
open RedisVerif RedisVerif.Redis

/-! ## the loops of `insert_internal` as instances of `perLevel` -/

def fBump : SL → Nat → Nat → Nat → Option Nat := fun sl u _ j => (spanAt sl u j).map (· + 1)

theorem bumpLevels_eq : ∀ (l : List (Nat × Nat)) (i : Nat) (sl : SL), bumpLevels l i sl = perLevel fBump l i sl
  | [], _, _ => rfl
  | (u, r) :: rest, i, sl => by
    simp only [bumpLevels, perLevel, fBump]
    cases spanAt sl u i with
    | none => rfl
    | some s => simp only [Option.map_some]; exact bumpLevels_eq rest (i + 1) _

theorem fBump_cong : ∀ a b u r j, Agree j a b → fBump a u r j = fBump b u r j := by
  intro a b u r j h; simp only [fBump, h.1 u]

def fLink (r0 : Nat) : SL → Nat → Nat → Nat → Option Nat := fun sl u r j =>
  match spanAt sl u j with
  | none => none
  | some old => if r0 < r ∨ old < r0 - r then none else some (r0 - r + 1)

theorem fLink_cong (r0 : Nat) : ∀ a b u r j, Agree j a b → fLink r0 a u r j = fLink r0 b u r j := by
  intro a b u r j h; simp only [fLink, h.1 u]

/-- the first loop of `insert_internal` is `perLevel (fLink r0)`; the spans it hands to the new node are
    computed from the slots as they were before the loop (level `i` is read before it is written, and
    the writes at other levels do not touch it) -/
theorem linkLevels_spec (r0 : Nat) : ∀ (l : List (Nat × Nat)) (i : Nat) (sl sl' : SL),
    perLevel (fLink r0) l i sl = some sl' →
    ∃ sp, linkLevels r0 l i sl = some (sl', sp) ∧ sp.length = l.length ∧
      ∀ k u r, l[k]? = some (u, r) → sp[k]? = some ((spanAt sl u (i + k)).getD 0 - (r0 - r))
  | [], _, sl, sl', h => ⟨[], by cases h; rfl, rfl, fun k u r hk => by cases hk⟩
  | (u, r) :: rest, i, sl, sl', h => by
    simp only [perLevel, fLink] at h
    simp only [linkLevels]
    cases hs : spanAt sl u i with
    | none => rw [hs] at h; cases h
    | some old =>
      rw [hs] at h
      by_cases hc : r0 < r ∨ old < r0 - r
      · simp only [if_pos hc] at h; cases h
      · simp only [if_neg hc] at h ⊢
        obtain ⟨sp, h1, h2, h3⟩ := linkLevels_spec r0 rest (i + 1) _ sl' h
        refine ⟨(old - (r0 - r)) :: sp, by rw [h1], by rw [List.length_cons, h2, List.length_cons],
          fun k u' r' hk => ?_⟩
        cases k with
        | zero => cases hk; rw [Nat.add_zero, hs]; rfl
        | succ k =>
          rw [List.getElem?_cons_succ, h3 k u' r' hk, spanAt_setSpan, if_neg (fun e => by omega),
            Nat.add_right_comm, Nat.add_assoc]

/-! ## the arrays -/

theorem getElem?_initHdr : ∀ (n : Nat) (hdr : List Nat) (len i j : Nat),
    (initHdr hdr len i n)[j]? = if i ≤ j ∧ j < i + n ∧ j < hdr.length then some len else hdr[j]?
  | 0, hdr, len, i, j => by simp [initHdr]; omega
  | n + 1, hdr, len, i, j => by
    simp only [initHdr]
    rw [getElem?_initHdr n (hdr.set i len) len (i + 1) j]
    simp only [List.length_set, List.getElem?_set]
    by_cases h1 : i + 1 ≤ j ∧ j < i + 1 + n ∧ j < hdr.length
    · rw [if_pos h1, if_pos (by omega)]
    · rw [if_neg h1]
      by_cases h2 : i = j
      · subst h2
        by_cases h3 : i < hdr.length
        · simp [h3]
        · simp [h3]
      · simp only [h2, if_false]
        rw [if_neg (by omega)]

theorem length_initHdr : ∀ (n : Nat) (hdr : List Nat) (len i : Nat), (initHdr hdr len i n).length = hdr.length
  | 0, _, _, _ => rfl
  | n + 1, hdr, len, i => by simp [initHdr, length_initHdr n]

theorem getElem?_resetSlots (ur : List (Nat × Nat)) (lo hi j : Nat) (hlo : lo ≤ hi) (hhi : hi ≤ ur.length) :
    (resetSlots ur lo hi)[j]? = if lo ≤ j ∧ j < hi then some (0, 0) else ur[j]? := by
  have hlen : (ur.take lo).length = lo := List.length_take_of_le (Nat.le_trans hlo hhi)
  unfold resetSlots
  rw [List.append_assoc]
  by_cases h1 : j < lo
  · rw [List.getElem?_append_left (hlen.symm ▸ h1), List.getElem?_take_of_lt h1, if_neg (by omega)]
  · rw [List.getElem?_append_right (hlen.symm ▸ Nat.le_of_not_lt h1), hlen]
    by_cases h2 : j < hi
    · rw [List.getElem?_append_left (by rw [List.length_replicate]; omega), List.getElem?_replicate,
        if_pos (by omega), if_pos (by omega)]
    · rw [List.getElem?_append_right (by rw [List.length_replicate]; omega), List.length_replicate,
        List.getElem?_drop, if_neg (by omega)]
      congr 1; omega

theorem length_resetSlots (ur : List (Nat × Nat)) (lo hi : Nat) (hlo : lo ≤ hi) (hhi : hi ≤ ur.length) :
    (resetSlots ur lo hi).length = ur.length := by
  simp [resetSlots]; omega

/-! ## `Spans` after the span writes and the splice of the new tower -/

/-- the spans after `insert_internal`'s loops, with the new node linked in at index `c`, are again
    the distances -/
theorem spans_after_insert {sl0 sl2 : SL} {L c h : Nat} {us : Nat → Nat} {new : Tower}
    (hs : Spans sl0 L) (hc : c ≤ sl0.towers.length)
    (hus : ∀ j, j < L → IsUpd sl0.towers c j (us j))
    (hh1 : 1 ≤ h) (hhL : h ≤ L)
    (hsame : Same sl0 sl2)
    (hsp : ∀ q j, j < L → spanAt sl2 q j =
      if q = us j then (spanAt sl0 q j).map (fun _ => if j < h then c - q + 1 else distTo j (sl0.towers.drop q) + 1)
      else spanAt sl0 q j)
    (hnew : new.ht = h ∧ ∀ j, j < h → new.spans[j]? = some (distTo j (sl0.towers.drop c)))
    (len' : Nat) :
    Spans { sl2 with towers := insertAt new sl2.towers c, length := len' } L := by
  have hkeep : ∀ q j, j < L → q ≠ us j → spanAt sl2 q j = spanAt sl0 q j :=
    fun q j hj hq => by rw [hsp q j hj, if_neg hq]
  rw [insertAt_eq new _ c (hsame.towers_length ▸ hc)]
  refine spans_splice hs hc hus hsame (fun j hj => ?_) hkeep
    (towersOk_cons (fun j hj => by rw [hnew.2 j (hnew.1 ▸ hj), hsame.distTo_drop])
      (towersOk_behind hs (fun j hj => (hus j hj).1) hsame hkeep (Nat.le_refl c)))
    (fun t ht => ?_) _ _
  · -- the value the two loops wrote is `c - us j + distTo j (new :: _)`
    rw [hsp _ j hj, if_pos rfl, dist_isUpd hc (hus j hj), ← hsame.distTo_drop]
    simp only [distTo, hnew.1]
    split <;> congr 1 <;> funext _ <;> omega
  · rcases List.mem_cons.mp ht with rfl | hm
    · rw [hnew.1]; exact ⟨hh1, hhL⟩
    · obtain ⟨t0, h0, e⟩ := hsame.ht_mem (List.mem_of_mem_drop hm)
      exact e ▸ hs.hts t0 h0

/-! ## `insert_internal` as a whole -/

/-- the part of `insert_internal` after the level was drawn and the header / arrays extended -/
def insertTail (sl : SL) (m : BS) (sc : Score) (h : Nat) (ur : List (Nat × Nat)) : Option SL :=
  match slot ur 0 with
  | none => none
  | some (u0, r0) =>
    match linkLevels r0 (ur.take h) 0 sl with
    | none => none
    | some (sl, sp) =>
      match bumpLevels ((ur.take sl.level).drop h) h sl with
      | none => none
      | some sl =>
        some { sl with towers := insertAt ⟨m, sc, sp⟩ sl.towers u0, length := sl.length + 1 }

theorem insertInternal_eq (lv : LevelGen) (sl : SL) (m : BS) (sc : Score) (ur : List (Nat × Nat)) :
    insertInternal lv sl m sc ur =
      if (lv sl.rng).1 = 0 ∨ (lv sl.rng).1 > maxLevel then none
      else if (lv sl.rng).1 > sl.level then
        insertTail { sl with rng := (lv sl.rng).2,
                             hdr := initHdr sl.hdr sl.length sl.level ((lv sl.rng).1 - sl.level),
                             level := (lv sl.rng).1 } m sc (lv sl.rng).1 (resetSlots ur sl.level (lv sl.rng).1)
      else insertTail { sl with rng := (lv sl.rng).2 } m sc (lv sl.rng).1 ur := by
  unfold insertInternal insertTail
  simp only
  by_cases h1 : (lv sl.rng).1 = 0 ∨ (lv sl.rng).1 > maxLevel
  · rw [if_pos h1, if_pos h1]
  · rw [if_neg h1, if_neg h1]
    by_cases h2 : (lv sl.rng).1 > sl.level
    · simp only [h2, if_true]; rfl
    · simp only [h2, if_false]; rfl

/-- `insert_internal` after the level has been drawn (`h`) and `update` / `rank` are known (`ur`, both = the
    positions `us j`).  The two loops (link levels `< h`, bump the spans of levels `≥ h`) are each one
    `perLevel_slice` writing `val j` into slot `j` of `update[j]`; `linkLevels_spec` gives the new tower's spans;
    `spans_after_insert` turns these into `Spans` of the result, the other `Wf` fields are read off `Same`. -/
theorem insertTail_spec {sl0 : SL} {m : BS} {sc : Score} {h c : Nat} {ur : List (Nat × Nat)}
    (hs : Spans sl0 sl0.level) (hh1 : 1 ≤ h) (hhL : h ≤ sl0.level)
    (htight : sl0.level = 1 ∨ h = sl0.level ∨ ∃ t ∈ sl0.towers, t.ht = sl0.level)
    (hlen0 : sl0.length = sl0.towers.length)
    (hsorted : sl0.towers.Pairwise (fun a b => zLt a.key b.key = true))
    (hc : c ≤ sl0.towers.length)
    (hur : ∀ j, j < sl0.level → ∃ u, ur[j]? = some (u, u) ∧ IsUpd sl0.towers c j u)
    (hbelow : ∀ p ∈ (sl0.towers.map Tower.key).take c, zLt p (m, sc) = true)
    (habove : ∀ p ∈ (sl0.towers.map Tower.key).drop c, zLt (m, sc) p = true) :
    ∃ sl', insertTail sl0 m sc h ur = some sl' ∧ Wf sl' ∧
      sl'.towers.map Tower.key = insertAt (m, sc) (sl0.towers.map Tower.key) c ∧
      sl'.rng = sl0.rng := by
  obtain ⟨us, hus⟩ := exists_us hur
  have hus0 : us 0 = c :=
    isUpd_zero hc (fun t ht => (hs.hts t ht).1) (hus 0 (by omega)).2
  have hsu : ∀ j, j < sl0.level →
      spanAt sl0 (us j) j = some ((c - us j) + distTo j (sl0.towers.drop c)) :=
    fun j hj => by rw [spanAt_of_level hs hj (hus j hj).2.2.1, dist_isUpd hc (hus j hj).2]
  -- what the two loops write into the slot of `update[j]`
  let val : Nat → Nat := fun j =>
    if j < h then c - us j + 1 else distTo j (sl0.towers.drop (us j)) + 1
  obtain ⟨sl1, hsl1, hsame1, hsp1⟩ := perLevel_slice (fLink c) (fLink_cong c) (us := us) (val := val)
    (a := 0) (b := h) (sl := sl0) (fun j hj => (hus j (by omega)).1)
    (fun j _ hj => by
      have := (hus j (by omega)).2.1
      simp only [fLink, hsu j (by omega), val, if_pos hj]
      rw [if_neg (by omega)])
  obtain ⟨sl2, hsl2, hsame2, hsp2⟩ := perLevel_slice fBump fBump_cong (us := us) (val := val)
    (a := h) (b := sl0.level) (sl := sl1) (fun j hj => (hus j hj).1)
    (fun j hhj hj => by
      show (spanAt sl1 (us j) j).map (· + 1) = some (val j)
      rw [hsp1, if_neg (by omega), spanAt_of_level hs hj (hus j hj).2.2.1]
      simp only [Option.map_some, val, if_neg (Nat.not_lt.mpr hhj)])
  have hsame := hsame1.trans hsame2
  have hsp : ∀ q j, j < sl0.level → spanAt sl2 q j =
      if q = us j then (spanAt sl0 q j).map (fun _ => if j < h then c - q + 1 else distTo j (sl0.towers.drop q) + 1)
      else spanAt sl0 q j := by
    intro q j hj
    rw [hsp2, hsp1]
    by_cases hq : q = us j
    · subst hq
      by_cases hjh : j < h
      · simp only [hjh, Nat.not_le.mpr hjh, Nat.zero_le, false_and, true_and, if_true, if_false, val]
      · simp only [hjh, Nat.le_of_not_lt hjh, hj, false_and, and_false, true_and, if_true, if_false, val]
    · simp only [hq, and_false, if_false]
  have hurlen : sl0.level ≤ ur.length := by
    have := (List.getElem?_eq_some_iff.mp (hus (sl0.level - 1) (by omega)).1).1
    omega
  rw [List.drop_zero] at hsl1
  obtain ⟨sp, hlink, hsplen, hspk⟩ := linkLevels_spec c (ur.take h) 0 sl0 sl1 hsl1
  have hnew : sp.length = h ∧ ∀ j, j < h → sp[j]? = some (distTo j (sl0.towers.drop c)) := by
    refine ⟨by rw [hsplen, List.length_take_of_le (by omega)], fun j hjh => ?_⟩
    rw [hspk j (us j) (us j) (by rw [List.getElem?_take_of_lt hjh]; exact (hus j (by omega)).1),
      Nat.zero_add, hsu j (by omega), Option.getD_some, Nat.add_sub_cancel_left]
  have hc2 : c ≤ sl2.towers.length := hsame.towers_length ▸ hc
  have hkeys : (insertAt (⟨m, sc, sp⟩ : Tower) sl2.towers c).map Tower.key =
      insertAt (m, sc) (sl0.towers.map Tower.key) c := by
    rw [map_insertAt _ _ _ _ hc2, hsame.keys]; rfl
  rw [← hsame1.level] at hsl2
  refine ⟨{ sl2 with towers := insertAt ⟨m, sc, sp⟩ sl2.towers c,
                     length := sl2.length + 1 }, ?_, ⟨?_, ?_, ?_, ?_, ?_⟩, hkeys, hsame.rng⟩
  · simp only [insertTail, slot, (hus 0 (by omega)).1, hus0, hlink, bumpLevels_eq, hsl2]
  · have hsp' := spans_after_insert (new := ⟨m, sc, sp⟩) hs hc
      (fun j hj => (hus j hj).2) hh1 hhL hsame hsp hnew (sl2.length + 1)
    rw [← hsame.level] at hsp'
    exact hsp'
  · show 1 ≤ sl2.level
    rw [hsame.level]; omega
  · -- the level is attained
    show sl2.level = 1 ∨ ∃ t ∈ insertAt _ sl2.towers c, t.ht = sl2.level
    rw [hsame.level]
    rcases htight with h1 | h1 | ⟨t, ht, hht⟩
    · exact Or.inl h1
    · exact Or.inr ⟨_, (mem_insertAt hc2).mpr (Or.inl rfl), hnew.1.trans h1⟩
    · obtain ⟨t2, ht2, e⟩ := exists_mem_of_map_eq hsame.hts.symm ht
      exact Or.inr ⟨t2, (mem_insertAt hc2).mpr (Or.inr ht2), e.trans hht⟩
  · show sl2.length + 1 = (insertAt _ sl2.towers c).length
    rw [length_insertAt _ _ _ hc2, hsame.length, hlen0, hsame.towers_length]
  · show (insertAt _ sl2.towers c).Pairwise (fun a b => zLt a.key b.key = true)
    rw [← List.pairwise_map (f := Tower.key) (R := fun a b => zLt a b = true), hkeys,
      insertAt_eq _ _ _ (by rw [List.length_map]; exact hc)]
    exact pairwise_splice (List.pairwise_map.mpr hsorted) hbelow habove

/-- `insert_internal` on a well-formed list, after a search that found the target's place `c` and
    the target is not in the list: no panic, the structure invariant holds again, the new node sits
    at index `c`, one level was drawn -/
theorem insertInternal_spec {lv : LevelGen} {sl : SL} (hw : Wf sl) (m : BS) (sc : Score)
    (hlv : 1 ≤ (lv sl.rng).1 ∧ (lv sl.rng).1 ≤ maxLevel)
    {ur : List (Nat × Nat)} {c : Nat} (hc : c ≤ sl.towers.length)
    (hlen : ur.length = maxLevel)
    (hur : ∀ j, j < sl.level → ∃ u, ur[j]? = some (u, u) ∧ IsUpd sl.towers c j u)
    (hur0 : ∀ j, sl.level ≤ j → j < maxLevel → ur[j]? = some (0, 0))
    (hbelow : ∀ k t, sl.towers[k]? = some t → k < c → zLt t.key (m, sc) = true)
    (habove : ∀ k t, sl.towers[k]? = some t → c ≤ k → zLt (m, sc) t.key = true) :
    ∃ sl', insertInternal lv sl m sc ur = some sl' ∧ Wf sl' ∧
      sl'.towers.map Tower.key = insertAt (m, sc) (sl.towers.map Tower.key) c ∧
      sl'.rng = (lv sl.rng).2 := by
  obtain ⟨hh1, hh32⟩ := hlv
  have hsp := hw.spans
  have hbelow : ∀ p ∈ (sl.towers.map Tower.key).take c, zLt p (m, sc) = true := fun p hp => by
    obtain ⟨k, hk, rfl⟩ := List.mem_take_iff_getElem.mp hp
    rw [List.getElem_map]
    exact hbelow k _ (List.getElem?_eq_getElem _) (by omega)
  have habove : ∀ p ∈ (sl.towers.map Tower.key).drop c, zLt (m, sc) p = true := fun p hp => by
    obtain ⟨k, hk, rfl⟩ := List.mem_drop_iff_getElem.mp hp
    rw [List.getElem_map]
    exact habove (c + k) _ (List.getElem?_eq_getElem _) (Nat.le_add_right ..)
  rw [insertInternal_eq, if_neg (by omega)]
  generalize (lv sl.rng).1 = h at *
  by_cases hgt : h > sl.level
  · rw [if_pos hgt]
    have hsmall : ∀ j, sl.level ≤ j → ∀ t ∈ sl.towers, t.ht ≤ j :=
      fun j hj t ht => by have := (hsp.hts t ht).2; omega
    refine insertTail_spec (sl0 := ⟨initHdr sl.hdr sl.length sl.level (h - sl.level), sl.towers, h,
        sl.length, (lv sl.rng).2⟩)
      ?_ hh1 (Nat.le_refl _) (Or.inr (Or.inl rfl)) hw.len hw.sorted hc ?_ hbelow habove
    · refine ⟨by simp only [length_initHdr]; exact hsp.hdrLen, hh32, ?_, hsp.tw, ?_⟩
      · intro j (hj : j < h)
        show (initHdr sl.hdr sl.length sl.level (h - sl.level))[j]? = some (distTo j sl.towers)
        rw [getElem?_initHdr]
        by_cases hjl : j < sl.level
        · rw [if_neg (by omega)]; exact hsp.hdr j hjl
        · rw [if_pos ⟨by omega, by omega, by rw [hsp.hdrLen]; omega⟩,
            distTo_all_small (hsmall j (by omega)), hw.len]
      · intro t ht
        have := hsp.hts t ht
        exact ⟨this.1, by show t.ht ≤ h; omega⟩
    · intro j (hj : j < h)
      rw [getElem?_resetSlots ur sl.level h j (by omega) (by omega)]
      by_cases hjl : j < sl.level
      · rw [if_neg (by omega)]; exact hur j hjl
      · rw [if_pos ⟨by omega, hj⟩]
        exact ⟨0, rfl, Nat.zero_le _, Or.inl rfl, fun q t _ _ hq =>
          hsmall j (by omega) t (List.mem_of_getElem? hq)⟩
  · rw [if_neg hgt]
    refine insertTail_spec (sl0 := ⟨sl.hdr, sl.towers, sl.level, sl.length, (lv sl.rng).2⟩)
      ⟨hsp.hdrLen, hsp.L_le, hsp.hdr, hsp.tw, hsp.hts⟩ hh1 (by show h ≤ sl.level; omega) ?_
      hw.len hw.sorted hc hur hbelow habove
    rcases hw.tight with h1 | h1
    · exact Or.inl h1
    · exact Or.inr (Or.inr h1)

end RedisVerif.SkipList
