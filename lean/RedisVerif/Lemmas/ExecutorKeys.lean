import RedisVerif.Lemmas.ExecutorSet

/-! Refinement of the key / expiry functions of `Model.Executor` (key_ops.rs, mod.rs) to M7. -/
set_option linter.unusedSimpArgs false

namespace RedisVerif.Executor
open RedisVerif RedisVerif.Redis

theorem liveKey_false {cs : CState} (h : CInv cs) {k : Nat} (hl : liveKey cs k = false) :
    NMap.get (absP cs) k = none := by
  have := liveKey_eq h k
  rw [hl] at this
  cases hg : NMap.get (absP cs) k with
  | none => rfl
  | some e => simp [hg] at this

/-- a key that passes `liveKey` is seen by M7 as after `get_value`, in `cs` itself -/
theorem liveKey_after {cs : CState} (h : CInv cs) {k : Nat} (hl : liveKey cs k = true) :
    ∃ v, After cs k cs (some v) := by
  unfold liveKey at hl
  simp only [Bool.and_eq_true, Bool.not_eq_true'] at hl
  cases hv : NMap.get cs.data k with
  | none => simp [hv] at hl
  | some v => exact ⟨v, hv ▸ After.of_notExp h hl.1⟩

/-- the test `!liveKey cs k` in place of a preamble: a key that fails it is absent for M7 and stays where it is -/
theorem simF_ifLive {cs : CState} (h : CInv cs) (k : Nat) {f : State → State × Reply} {r : Reply}
    {L : CState × Reply} (hN : NMap.get (absP cs) k = none → f (absP cs) = (absP cs, r))
    (hL : liveKey cs k = true → SimF cs f L) : SimF cs f (if !liveKey cs k then (cs, r) else L) := by
  by_cases hl : liveKey cs k = true
  · rw [hl]; exact hL hl
  · rw [Bool.not_eq_true] at hl
    rw [hl]
    exact simF_refl h (hN (liveKey_false h hl))

/-- … against an M7 function that begins by looking the key up -/
theorem simF_live {cs : CState} (h : CInv cs) (k : Nat) {r : Reply}
    {fL : Entry → State → State × Reply} {L : CState × Reply}
    (hL : ∀ v, After cs k cs (some v) →
      SimF cs (fL ⟨v, (NMap.get cs.exp k).map (· + cs.epoch)⟩) L) :
    SimF cs (fun s => match NMap.get s k with
        | none => (s, r)
        | some e => fL e s) (if !liveKey cs k then (cs, r) else L) :=
  simF_ifLive h k (fun hg => by simp only [hg]) fun hl => by
    obtain ⟨v, g⟩ := liveKey_after h hl
    have := hL v g
    simp only [SimF, g.look_some] at this ⊢
    exact this

theorem cExists_sim {cs : CState} (h : CInv cs) (ks : List Nat) : Sim cs (.exists ks) (cExists cs ks) :=
  simF_refl h (by rw [liveKey_fun h]; rfl)

theorem cType_sim {cs : CState} (h : CInv cs) (k : Nat) : Sim cs (.type k) (cType cs k) := by
  show SimF cs (fun s => execType s k) _
  unfold cType
  gv h k
  refine g.simF ?_
  rcases o with _ | v
  · exact g.keep (by simp only [execType, g.look_none])
  · exact g.keep (by simp only [execType, g.look_some])

theorem cFlush_sim {cs : CState} (h : CInv cs) : Sim cs .flushdb (cFlush cs) := by
  unfold cFlush
  simp only [Sim, SimF, exec, execFlush]
  refine ⟨by triv, by triv, ?_, by triv, by triv⟩
  exact ⟨NMap.wf_nil, NMap.wf_nil, (fun k hk => by simp at hk), (fun p hp => by cases hp), h.timeOk,
    (fun k d hd => by simp at hd)⟩

theorem cFlushAll_sim {cs : CState} (h : CInv cs) : Sim cs .flushall (cFlush cs) := cFlush_sim h

/-- the live keys of `data` that match = the matching keys of `absP` -/
theorem liveKeysPat_eq (cs : CState) (f : Nat → Bool) :
    (cs.data.filter (fun p => !isExpired cs p.1 && f p.1)).map (fun p => p.1) =
      ((absP cs).filter (fun p => f p.1)).map (fun p => p.1) := by
  unfold absP abs purge
  generalize cs.data = d
  induction d with
  | nil => rfl
  | cons q d ih =>
    obtain ⟨kq, vq⟩ := q
    simp only [List.filter, List.map, live_absEntry]
    cases isExpired cs kq
    · simp only [Bool.not_false, Bool.true_and, List.filter]
      cases f kq
      · simp only []; exact ih
      · simp only [List.map]; rw [ih]
    · simp only [Bool.not_true, Bool.false_and]
      exact ih

/-- the live keys of `data`, in order, are the keys of `absP` -/
theorem liveKeys_eq (cs : CState) :
    (cs.data.filter (fun p => !isExpired cs p.1)).map (fun p => p.1) = (absP cs).map (fun p => p.1) := by
  have h := liveKeysPat_eq cs (fun _ => true)
  simp only [Bool.and_true] at h
  rwa [List.filter_eq_self.mpr (fun _ _ => rfl)] at h

theorem cKeys_sim {cs : CState} (h : CInv cs) : Sim cs .keys (cKeys cs) :=
  simF_refl h (by
    have := congrArg (List.map Elem.key) (liveKeys_eq cs)
    simp only [List.map_map] at this
    exact congrArg (fun l => (absP cs, Reply.arr l)) this.symm)

theorem cDbSize_sim {cs : CState} (h : CInv cs) : Sim cs .dbsize (cDbSize cs) :=
  simF_refl h (by
    have := congrArg List.length (liveKeys_eq cs)
    simp only [List.length_map] at this
    exact congrArg (fun n : Nat => (absP cs, Reply.int n)) this.symm)

/-- RANDOMKEY reads the physically present keys that are not expired; their key list is that of `absP cs`
    (`liveKeys_eq`), so both are empty together and have the same head, and `liveKey_eq` gives the same
    membership test for a chosen key. -/
theorem cRandomKey_sim {cs : CState} (h : CInv cs) (ch : Option Nat) :
    Sim cs (.randomkey ch) (cRandomKey cs ch) := by
  show SimF cs (fun s => execRandomKey s ch) _
  unfold cRandomKey
  have hk := liveKeys_eq cs
  cases hl : cs.data.filter (fun p => !isExpired cs p.1) with
  | nil =>
    rw [hl] at hk
    exact simF_refl h (by unfold execRandomKey; rw [List.map_eq_nil_iff.mp hk.symm])
  | cons p r =>
    rw [hl] at hk
    cases ha : absP cs with
    | nil => rw [ha] at hk; cases hk
    | cons q r' =>
      rw [ha] at hk
      have hpq : p.1 = q.1 := (List.cons.inj hk).1
      cases ch with
      | none => exact simF_refl h (by unfold execRandomKey; rw [ha, hpq])
      | some c =>
        dsimp only
        rw [liveKey_eq h, hpq]
        split
        · rename_i hc; exact simF_refl h (by unfold execRandomKey; rw [ha] at hc ⊢; simp only [hc, if_true])
        · rename_i hc; exact simF_refl h (by unfold execRandomKey; rw [ha] at hc ⊢; simp only [hc, Bool.false_eq_true, if_false])


/-- the loop of DEL is one `Wrote.drop` after the other (`Wrote.seq`); the code removes also what M7 does not see -/
theorem cDelLoop_sim (ks : List Nat) : ∀ {cs : CState} (n : Int), CInv cs →
    SimF cs (fun s => ((delKeys s ks).1, .int (n + ((delKeys s ks).2 : Int))))
      ((cDelLoop cs ks n).1, .int (cDelLoop cs ks n).2) := by
  induction ks with
  | nil => intro cs n h; exact simF_refl h (by simp [delKeys, cDelLoop])
  | cons k ks ih =>
    intro cs n h
    have hw := Wrote.drop (k := k) (e := none) h rfl
    refine simF_of_eq ?_ (hw.seq h rfl (ih _ hw.inv))
    have hlive : ((NMap.get cs.data k).isSome && !isExpired cs k) = (NMap.get (absP cs) k).isSome := by
      rw [← liveKey_eq h k, liveKey, Bool.and_comm]
    simp only [delKeys, hlive, setAt]
    cases hg : NMap.get (absP cs) k with
    | none => rw [NMap.erase_of_get_none (wf_absP h.wfd) hg]; rfl
    | some e =>
      simp only [Option.isSome_some, if_true, Prod.mk.injEq, Reply.int.injEq, true_and]
      push_cast
      omega

theorem cDel_sim {cs : CState} (h : CInv cs) (ks : List Nat) : Sim cs (.del ks) (cDel cs ks) :=
  simF_congr (fun s => by simp [exec, execDel]) (cDelLoop_sim ks 0 h)

/-- the common part of RENAME / RENAMENX is two writes: the source is removed, then the destination is given
    the value and the deadline entry the source had -/
theorem renameMove_wrote {cs : CState} (h : CInv cs) {a : Nat} {v : Value} (hv : NMap.get cs.data a = some v)
    (b : Nat) :
    Wrote cs a none (dropKey cs a) ∧
      Wrote (dropKey cs a) b (some ⟨v, (NMap.get cs.exp a).map (· + cs.epoch)⟩) (renameMove cs a b v) := by
  have h1 := Wrote.drop (k := a) (e := none) h rfl
  refine ⟨h1, ?_⟩
  unfold renameMove
  cases he : NMap.get cs.exp a with
  | none => exact Wrote.fresh h1.inv (valueOk_get h hv)
  | some t => exact Wrote.withDl h1.inv (valueOk_get h hv) (h.dlOk a t he)

/-- the head of `Command::Rename` / `RenameNx`: "no such key" unless the source is present and not past its
    deadline, which is the test `liveKey` written out -/
theorem simF_source {cs : CState} (h : CInv cs) (a : Nat) {r : Reply}
    {fL : Entry → State → State × Reply} {L : Value → CState × Reply}
    (hL : ∀ v, After cs a cs (some v) → SimF cs (fL ⟨v, (NMap.get cs.exp a).map (· + cs.epoch)⟩) (L v)) :
    SimF cs (fun s => match NMap.get s a with
        | none => (s, r)
        | some e => fL e s)
      (if isExpired cs a then (cs, r)
       else match NMap.get cs.data a with
        | none => (cs, r)
        | some v => L v) := by
  have e : (if isExpired cs a then (cs, r) else match NMap.get cs.data a with
      | none => (cs, r)
      | some v => L v) = if !liveKey cs a then (cs, r) else match NMap.get cs.data a with
      | none => (cs, r)
      | some v => L v := by
    unfold liveKey; cases isExpired cs a <;> cases NMap.get cs.data a <;> rfl
  rw [e]
  exact simF_live h a fun v g => by rw [g.val]; exact hL v g

theorem cRename_sim {cs : CState} (h : CInv cs) (a b : Nat) : Sim cs (.rename a b) (cRename cs a b) :=
  simF_source h a fun v g => by
    obtain ⟨h1, h2⟩ := renameMove_wrote h g.val b
    by_cases hab : a = b
    · subst hab
      exact (h1.trans h2 h).simF (by rw [if_pos rfl, setAt, insert_self (wf_absP h.wfd) g.look_some])
    · exact simF_congr (fun _ => if_neg hab) (h1.simF₂ h2 h rfl)

theorem cRenameNx_sim {cs : CState} (h : CInv cs) (a b : Nat) : Sim cs (.renamenx a b) (cRenameNx cs a b) :=
  simF_source h a fun v g => by
    obtain ⟨h1, h2⟩ := renameMove_wrote h g.val b
    rw [liveKey_eq h b]
    by_cases hb : (NMap.get (absP cs) b).isSome = true
    · rw [if_pos hb]
      exact simF_refl h (if_pos hb)
    · rw [if_neg hb]
      exact simF_of_eq (g := fun s => (NMap.insert b _ (NMap.erase a s), .int 1)) (if_neg hb) (h1.simF₂ h2 h rfl)

end RedisVerif.Executor
