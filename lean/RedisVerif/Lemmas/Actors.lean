import RedisVerif.Model.Actors
import RedisVerif.Lemmas.NMap

/-! Lemmas about logs, replay and the linearizability checker (`Model/Actors.lean`): one event of a log as
    a relation (`EvStep`) and induction along a replayed log (`replay_cons`, `replay_ind`), on which every
    proof about logs below and in `ActorsKey` rests; the invariant `Inv` that ties a reachable system to its
    replayed log; refinement along a log (`LinMonoK`, `replay_sim`); sequential histories. -/
namespace RedisVerif
namespace Actors

open NMap

section replay
variable {σ Req Resp : Type} (step : σ → Req → σ × Resp)

/-- `stepEv` as a relation: an event that `stepEv` accepts, its side condition, and the state it leads to.
    Proofs about logs take a step apart by `cases` on it and build one with its constructors; only
    `stepEv_iff` unfolds `stepEv`. -/
inductive EvStep (r : RState σ Req Resp) : Ev Req Resp → RState σ Req Resp → Prop
  | inv (id : Nat) (req : Req) (h : r.next ≤ id) :
      EvStep r (.inv id req) { r with pend := insert id req r.pend, next := id + 1 }
  | lin (id : Nat) (req : Req) (resp : Resp) (hg : get r.pend id = some req) (hr : (step r.s req).2 = resp) :
      EvStep r (.lin id resp)
        { r with s := (step r.s req).1, pend := erase id r.pend, done := insert id resp r.done }
  | res (id : Nat) (resp : Resp) (hg : get r.done id = some resp) :
      EvStep r (.res id resp) { r with done := erase id r.done }

variable {step} {r r' : RState σ Req Resp} {e : Ev Req Resp}

theorem EvStep.wf (h : EvStep step r e r') : (WF r.pend → WF r'.pend) ∧ (WF r.done → WF r'.done) := by
  cases h with
  | inv => exact ⟨wf_insert, id⟩
  | lin => exact ⟨wf_erase, wf_insert⟩
  | res => exact ⟨id, wf_erase⟩

/-- what is pending after an event was pending before or has just been invoked -/
theorem EvStep.pend_of (h : EvStep step r e r') (hp : WF r.pend) {id : Nat} {req : Req}
    (hg : get r'.pend id = some req) : get r.pend id = some req ∨ e = .inv id req := by
  cases h with
  | inv id' req' _ =>
    rw [get_insert] at hg
    split at hg
    · cases hg; exact .inr (by rw [‹id = id'›])
    · exact .inl hg
  | lin id' _ _ _ _ =>
    rw [get_erase hp] at hg
    split at hg
    · cases hg
    · exact .inl hg
  | res => exact .inl hg

/-- a response that is ready after an event was ready before or has just been computed -/
theorem EvStep.done_of (h : EvStep step r e r') (hd : WF r.done) {id : Nat} {resp : Resp}
    (hg : get r'.done id = some resp) : get r.done id = some resp ∨ e = .lin id resp := by
  cases h with
  | inv => exact .inl hg
  | lin id' _ resp' _ _ =>
    rw [get_insert] at hg
    split at hg
    · cases hg; exact .inr (by rw [‹id = id'›])
    · exact .inl hg
  | res id' _ _ =>
    rw [get_erase hd] at hg
    split at hg
    · cases hg
    · exact .inl hg

variable [DecidableEq Resp] (step)

theorem stepEv_iff : stepEv step r e = some r' ↔ EvStep step r e r' := by
  constructor
  · intro h
    cases e with
    | inv id req =>
      simp only [stepEv] at h
      split at h
      · cases h; exact .inv id req ‹_›
      · cases h
    | lin id resp =>
      simp only [stepEv] at h
      split at h
      · cases h
      · split at h
        · cases h; exact .lin id _ resp ‹_› ‹_›
        · cases h
    | res id resp =>
      simp only [stepEv] at h
      split at h
      · cases h; exact .res id resp ‹_›
      · cases h
  · intro h
    cases h with
    | inv id req h => simp only [stepEv, if_pos h]
    | lin id req resp hg hr => simp only [stepEv, hg, if_pos hr]
    | res id resp hg => simp only [stepEv, if_pos hg]

theorem replay_cons {es : List (Ev Req Resp)} :
    replay step r (e :: es) = some r' ↔ ∃ r1, EvStep step r e r1 ∧ replay step r1 es = some r' := by
  show (match stepEv step r e with | none => none | some r1 => replay step r1 es) = some r' ↔ _
  cases h : stepEv step r e with
  | none => exact ⟨nofun, fun ⟨r1, h1, _⟩ => nomatch h.symm.trans ((stepEv_iff step).mpr h1)⟩
  | some r1 =>
    exact ⟨fun h2 => ⟨r1, (stepEv_iff step).mp h, h2⟩,
      fun ⟨r2, h1, h2⟩ => by cases h.symm.trans ((stepEv_iff step).mpr h1); exact h2⟩

/-- induction along a log that replays to `r'`, from the front: `induction h using replay_ind step` -/
theorem replay_ind {r' : RState σ Req Resp}
    {motive : (r : RState σ Req Resp) → (log : List (Ev Req Resp)) → replay step r log = some r' → Prop}
    (nil : motive r' [] rfl)
    (cons : ∀ r e r1 es (he : EvStep step r e r1) (h1 : replay step r1 es = some r'),
      motive r1 es h1 → motive r (e :: es) ((replay_cons step).mpr ⟨r1, he, h1⟩))
    {r : RState σ Req Resp} {log : List (Ev Req Resp)} (h : replay step r log = some r') : motive r log h := by
  induction log generalizing r with
  | nil => cases h; exact nil
  | cons e es ih =>
    obtain ⟨r1, he, h1⟩ := (replay_cons step).mp h
    exact cons r e r1 es he h1 (ih h1)

theorem replay_append {a b : List (Ev Req Resp)} :
    replay step r (a ++ b) = some r' ↔ ∃ r1, replay step r a = some r1 ∧ replay step r1 b = some r' := by
  induction a generalizing r with
  | nil => exact ⟨fun h => ⟨r, rfl, h⟩, fun ⟨_, h1, h2⟩ => by cases h1; exact h2⟩
  | cons e es ih =>
    simp only [List.cons_append, replay_cons, ih]
    exact ⟨fun ⟨r1, he, r2, h1, h2⟩ => ⟨r2, ⟨r1, he, h1⟩, h2⟩, fun ⟨r2, ⟨r1, he, h1⟩, h2⟩ => ⟨r1, he, r2, h1, h2⟩⟩

theorem replay_snoc {r'' : RState σ Req Resp} {log : List (Ev Req Resp)} (h : replay step r log = some r')
    (he : EvStep step r' e r'') : replay step r (log ++ [e]) = some r'' :=
  (replay_append step).mpr ⟨r', h, (replay_cons step).mpr ⟨r'', he, rfl⟩⟩

omit [DecidableEq Resp] in
theorem history_cons_lin (id : Nat) (resp : Resp) (log : List (Ev Req Resp)) :
    history (.lin id resp :: log) = history log := rfl

omit [DecidableEq Resp] in
theorem history_cons_of_not_lin (e : Ev Req Resp) (he : e.isLin = false) (log : List (Ev Req Resp)) :
    history (e :: log) = e :: history log := by
  unfold history
  rw [List.filter_cons]; simp [he]

theorem validLog_iff {s0 : σ} {log : List (Ev Req Resp)} :
    ValidLog step s0 log ↔ ∃ r, replay step (initR s0) log = some r := Option.isSome_iff_exists

/-- **soundness of the search**: a successful search has found where every operation takes effect -/
theorem search_sound (exp : NMap Resp) (fuel : Nat) (r : RState σ Req Resp) (h : List (Ev Req Resp))
    (hnl : ∀ e ∈ h, e.isLin = false) (hs : search step exp fuel r h = true) :
    ∃ log, history log = h ∧ ∃ r', replay step r log = some r' := by
  induction fuel generalizing r h with
  | zero => simp [search] at hs
  | succ fuel ih =>
    unfold search at hs
    cases h with
    | nil => exact ⟨[], rfl, r, rfl⟩
    | cons e es =>
      simp only at hs
      cases he : stepEv step r e with
      | some r1 =>
        rw [he] at hs
        obtain ⟨log, hl, r', hv⟩ := ih r1 es (fun x hx => hnl x (by simp [hx])) hs
        exact ⟨e :: log, by rw [history_cons_of_not_lin e (hnl e (by simp)), hl],
          r', (replay_cons step).mpr ⟨r1, (stepEv_iff step).mp he, hv⟩⟩
      | none =>
        rw [he] at hs
        simp only at hs
        rw [List.any_eq_true] at hs
        obtain ⟨p, _, hp⟩ := hs
        rw [Bool.and_eq_true] at hp
        have hp2 := hp.2
        cases hl1 : stepEv step r (.lin p.1 (step r.s p.2).2) with
        | none => rw [hl1] at hp2; cases hp2
        | some r1 =>
          rw [hl1] at hp2
          obtain ⟨log, hl, r', hv⟩ := ih r1 (e :: es) hnl hp2
          exact ⟨.lin p.1 (step r.s p.2).2 :: log, by rw [history_cons_lin, hl],
            r', (replay_cons step).mpr ⟨r1, (stepEv_iff step).mp hl1, hv⟩⟩

theorem checkLinOne_sound (s0 : σ) (h : List (Ev Req Resp)) (hc : checkLinOne step s0 h = true) :
    Linearizable step s0 h := by
  unfold checkLinOne at hc
  rw [Bool.and_eq_true] at hc
  have hnl : ∀ e ∈ h, e.isLin = false := by
    intro e he
    have := List.all_eq_true.mp hc.1 e he
    simpa using this
  obtain ⟨log, hl, hv⟩ := search_sound step _ _ _ h hnl hc.2
  exact ⟨log, hl, (validLog_iff step).mpr hv⟩

theorem linearizable_nil (s0 : σ) : Linearizable step s0 ([] : List (Ev Req Resp)) :=
  ⟨[], rfl, rfl⟩

end replay

section perkey
variable {σ Req Resp : Type} [DecidableEq Resp] (step : σ → Req → σ × Resp) (keyOf : Req → Nat)

/-- **the checker is sound**: it only accepts per-key linearizable histories -/
theorem lin_check_sound (s0 : σ) (h : List (Ev Req Resp)) (hc : checkLin step keyOf s0 h = true) :
    PerKeyLinearizable step keyOf s0 h := by
  intro k
  unfold checkLin at hc
  by_cases hk : k ∈ (keyMap keyOf h).map (·.2)
  · have := List.all_eq_true.mp hc k (List.mem_eraseDups.mpr hk)
    exact checkLinOne_sound step s0 _ this
  · have : projKey (keyMap keyOf h) k h = [] := by
      unfold projKey
      rw [List.filter_eq_nil_iff]
      intro e _ he
      have hg : NMap.get (keyMap keyOf h) e.id = some k := by simpa using he
      exact hk (List.mem_map.mpr ⟨(e.id, k), mem_of_get hg, rfl⟩)
    rw [this]
    exact linearizable_nil step s0

end perkey

section sysinv
variable {σ Req Resp : Type} [DecidableEq Resp] (step : σ → Req → σ × Resp) (route : Req → Nat) (s0 : σ)

theorem upd_same {α : Type} (f : Nat → α) (i : Nat) (v : α) : upd f i v i = v := by simp [upd]
theorem upd_other {α : Type} (f : Nat → α) (i j : Nat) (v : α) (h : j ≠ i) : upd f i v j = f j := by
  simp [upd, h]

/-- two messages of one mailbox with the same id are the same message -/
theorem msg_eq_of_nodup {l : List (Msg Req)} (hnd : (l.map (·.id)).Nodup) {m m' : Msg Req}
    (hm : m ∈ l) (hm' : m' ∈ l) (he : m.id = m'.id) : m = m' := by
  induction l with
  | nil => cases hm
  | cons x l ih =>
    rw [List.map_cons, List.nodup_cons] at hnd
    rcases List.mem_cons.mp hm with e | e <;> rcases List.mem_cons.mp hm' with e' | e'
    · rw [e, e']
    · subst e; exact absurd (List.mem_map.mpr ⟨m', e', he.symm⟩) hnd.1
    · subst e'; exact absurd (List.mem_map.mpr ⟨m, e, he⟩) hnd.1
    · exact ih hnd.2 e e'

theorem upd_eq {α : Type} {f : Nat → α} {i j : Nat} {v w : α} (h : upd f i v j = w) :
    (j = i ∧ v = w) ∨ (j ≠ i ∧ f j = w) := by
  by_cases hj : j = i
  · subst hj; rw [upd_same] at h; exact .inl ⟨rfl, h⟩
  · rw [upd_other _ _ _ _ hj] at h; exact .inr ⟨hj, h⟩

theorem waiting_of_upd_idle {client : Nat → CState Req} {c c' id sid : Nat} {req : Req}
    (h : upd client c .idle c' = .waiting id req sid) : c' ≠ c ∧ client c' = .waiting id req sid :=
  (upd_eq h).resolve_left fun h => nomatch h.2

/-- messages with one id are one pending request, so they sit in one mailbox: `Inv.cross` from `Inv.msg` -/
theorem cross_of_msg {mail : Nat → List (Msg Req)} {pend : NMap Req} {n f : Nat} {pool : List Nat}
    (hmsg : ∀ i m, m ∈ mail i →
      route m.req = i ∧ m.id < n ∧ m.slot < f ∧ m.slot ∉ pool ∧ get pend m.id = some m.req) :
    ∀ i j m m', m ∈ mail i → m' ∈ mail j → m.id = m'.id → i = j := by
  intro i j m m' hm hm' he
  obtain ⟨a1, _, _, _, a2⟩ := hmsg i m hm
  obtain ⟨b1, _, _, _, b2⟩ := hmsg j m' hm'
  rw [he, b2] at a2
  rw [← a1, ← b1, Option.some.inj a2]

/-- what ties the concrete state (mailboxes, clients, slots, pool) to the replayed log -/
structure Inv (s : Sys σ Req Resp) (r : RState σ Req Resp) : Prop where
  rep : replay step (initR s0) s.log = some r
  st : r.s = s.st
  next : r.next = s.nextId
  wfp : WF r.pend
  wfd : WF r.done
  /-- a waiting client: its request is either still in the mailbox of its shard (slot empty), or
      has been executed, no message mentions it any more, and its slot holds exactly the
      response computed for it -/
  cl : ∀ c id req sid, s.client c = .waiting id req sid →
    id < s.nextId ∧ sid < s.fresh ∧ sid ∉ s.pool ∧ (.inv id req) ∈ s.log ∧
    ((⟨id, sid, req⟩ ∈ s.mail (route req) ∧ s.slot sid = none ∧ get r.pend id = some req) ∨
     ((∀ i m, m ∈ s.mail i → m.id ≠ id) ∧
      ∃ resp, s.slot sid = some resp ∧ get r.done id = some resp ∧ (.lin id resp) ∈ s.log))
  distinct : ∀ c c' id req sid id' req' sid', c ≠ c' →
    s.client c = .waiting id req sid → s.client c' = .waiting id' req' sid' → id ≠ id' ∧ sid ≠ sid'
  /-- every message in flight — whether its client still waits or has ABANDONED it — sits in the
      right mailbox, is a pending operation of the log, and references a slot that is allocated
      and NOT in the pool -/
  msg : ∀ i m, m ∈ s.mail i →
    route m.req = i ∧ m.id < s.nextId ∧ m.slot < s.fresh ∧ m.slot ∉ s.pool ∧
    get r.pend m.id = some m.req
  /-- a message that references a waiting client's slot is that client's own request -/
  owner : ∀ c id req sid i m, s.client c = .waiting id req sid → m ∈ s.mail i → m.slot = sid →
    m.id = id
  cross : ∀ i j m m', m ∈ s.mail i → m' ∈ s.mail j → m.id = m'.id → i = j
  nodup : ∀ i, ((s.mail i).map (·.id)).Nodup
  /-- a slot in the pool (or never allocated) is empty -/
  slots_free : ∀ sid, (sid ∈ s.pool ∨ s.fresh ≤ sid) → s.slot sid = none
  pool_nodup : s.pool.Nodup
  pool_lt : ∀ sid ∈ s.pool, sid < s.fresh

theorem inv_init (pool : Nat) : Inv step route s0 (Sys.init s0 pool) (initR s0) where
  rep := rfl
  st := rfl
  next := rfl
  wfp := wf_nil
  wfd := wf_nil
  cl := by intro c id req sid h; cases h
  distinct := by intro c c' id req sid id' req' sid' _ h; cases h
  msg := by intro i m h; cases h
  owner := by intro c id req sid i m h; cases h
  cross := by intro i j m m' h; cases h
  nodup := by intro i; exact List.Pairwise.nil
  slots_free := by intro sid _; rfl
  pool_nodup := List.nodup_range
  pool_lt := by intro sid h; exact List.mem_range.mp h

/-- invocation: a slot that is free (popped from the pool, or never allocated) is handed out -/
theorem inv_invoke {s : Sys σ Req Resp} {r : RState σ Req Resp} (h : Inv step route s0 s r)
    (c : Nat) (req : Req) (sid : Nat) (pool' : List Nat) (fresh' : Nat)
    (hc : s.client c = .idle) (h1 : sid < fresh') (h2 : sid ∉ pool') (h3 : ∀ x ∈ pool', x ∈ s.pool)
    (h4 : s.fresh ≤ fresh') (h5 : sid ∈ s.pool ∨ s.fresh ≤ sid) (h6 : pool'.Nodup) :
    Inv step route s0
      { s with
        client := upd s.client c (.waiting s.nextId req sid)
        pool := pool'
        fresh := fresh'
        mail := upd s.mail (route req) (s.mail (route req) ++ [⟨s.nextId, sid, req⟩])
        nextId := s.nextId + 1
        log := s.log ++ [.inv s.nextId req] }
      { r with pend := insert s.nextId req r.pend, next := s.nextId + 1 } := by
  -- the slot handed out is referenced by no waiting client and no message in flight
  have hslot_ne : ∀ c' id' req' sid', s.client c' = .waiting id' req' sid' → sid' ≠ sid := by
    intro c' id' req' sid' hw he
    obtain ⟨_, hlt, hnp, _⟩ := h.cl c' id' req' sid' hw
    subst he
    rcases h5 with hp | hf
    · exact hnp hp
    · omega
  have hmsg_ne : ∀ i m, m ∈ s.mail i → m.slot ≠ sid := by
    intro i m hm he
    obtain ⟨_, _, hlt, hnp, _⟩ := h.msg i m hm
    rw [he] at hlt hnp
    rcases h5 with hp | hf
    · exact hnp hp
    · omega
  -- membership in the new mailboxes
  have hmem : ∀ i m, m ∈ upd s.mail (route req) (s.mail (route req) ++ [⟨s.nextId, sid, req⟩]) i →
      m ∈ s.mail i ∨ (m = ⟨s.nextId, sid, req⟩ ∧ i = route req) := by
    intro i m hm
    by_cases hi : i = route req
    · subst hi
      rw [upd_same] at hm
      rcases List.mem_append.mp hm with e | e
      · exact Or.inl e
      · exact Or.inr ⟨by simpa using e, rfl⟩
    · rw [upd_other _ _ _ _ hi] at hm; exact Or.inl hm
  have hmsg' : ∀ i m, m ∈ upd s.mail (route req) (s.mail (route req) ++ [⟨s.nextId, sid, req⟩]) i →
      route m.req = i ∧ m.id < s.nextId + 1 ∧ m.slot < fresh' ∧ m.slot ∉ pool' ∧
      get (insert s.nextId req r.pend) m.id = some m.req := by
    intro i m hm
    rcases hmem i m hm with e | ⟨e, ei⟩
    · obtain ⟨g1, g2, g3, g4, g5⟩ := h.msg i m e
      refine ⟨g1, Nat.lt_succ_of_lt g2, Nat.lt_of_lt_of_le g3 h4, fun hx => g4 (h3 _ hx), ?_⟩
      rw [get_insert, if_neg (by omega)]; exact g5
    · subst e; subst ei
      refine ⟨rfl, Nat.lt_succ_self _, h1, h2, ?_⟩
      rw [get_insert]; simp
  refine
    { rep := replay_snoc step h.rep (.inv s.nextId req (Nat.le_of_eq h.next))
      st := h.st, next := rfl, wfp := wf_insert h.wfp, wfd := h.wfd, cl := ?cl,
      distinct := ?distinct, msg := hmsg', owner := ?owner, cross := cross_of_msg route hmsg', nodup := ?nodup,
      slots_free := ?slots_free, pool_nodup := h6, pool_lt := ?pool_lt }
  case cl =>
    intro c' id' req' sid' hw
    dsimp only
    rcases upd_eq hw with ⟨rfl, e⟩ | ⟨_, hw'⟩
    · cases e
      refine ⟨Nat.lt_succ_self _, h1, h2, by simp, Or.inl ⟨?_, ?_, ?_⟩⟩
      · rw [upd_same]; simp
      · exact h.slots_free _ h5
      · show get (insert s.nextId req r.pend) s.nextId = _
        rw [get_insert]; simp
    · obtain ⟨a1, a2, a3, a4, a5⟩ := h.cl c' id' req' sid' hw'
      refine ⟨Nat.lt_succ_of_lt a1, Nat.lt_of_lt_of_le a2 h4, fun hx => a3 (h3 _ hx),
        by simp [a4], ?_⟩
      rcases a5 with ⟨b1, b2, b3⟩ | ⟨b1, resp, b2, b3, b4⟩
      · refine Or.inl ⟨?_, b2, ?_⟩
        · by_cases hr : route req' = route req
          · rw [hr, upd_same]; rw [hr] at b1; simp [b1]
          · rw [upd_other _ _ _ _ hr]; exact b1
        · show get (insert s.nextId req r.pend) id' = _
          rw [get_insert, if_neg (by omega)]; exact b3
      · refine Or.inr ⟨?_, resp, b2, b3, by simp [b4]⟩
        intro i m hm
        rcases hmem i m hm with e | ⟨e, _⟩
        · exact b1 i m e
        · subst e; show s.nextId ≠ id'; omega
  case distinct =>
    intro c1 c2 id1 req1 sid1 id2 req2 sid2 hne hw1 hw2
    rcases upd_eq hw1 with ⟨rfl, e1⟩ | ⟨_, h1'⟩ <;> rcases upd_eq hw2 with ⟨rfl, e2⟩ | ⟨_, h2'⟩
    · exact absurd rfl hne
    · cases e1
      have := (h.cl c2 id2 req2 sid2 h2').1
      exact ⟨by omega, fun e => hslot_ne c2 id2 req2 sid2 h2' e.symm⟩
    · cases e2
      have := (h.cl c1 id1 req1 sid1 h1').1
      exact ⟨by omega, hslot_ne c1 id1 req1 sid1 h1'⟩
    · exact h.distinct c1 c2 _ _ _ _ _ _ hne h1' h2'
  case owner =>
    intro c' id' req' sid' i m hw hm hs
    rcases upd_eq hw with ⟨rfl, e'⟩ | ⟨_, hw'⟩ <;> rcases hmem i m hm with e | ⟨rfl, _⟩
    · cases e'; exact absurd hs (hmsg_ne i m e)
    · cases e'; rfl
    · exact h.owner c' id' req' sid' i m hw' e hs
    · exact absurd hs.symm (hslot_ne c' id' req' sid' hw')
  case nodup =>
    intro i
    dsimp only
    by_cases hi : i = route req
    · subst hi
      rw [upd_same, List.map_append, List.nodup_append]
      refine ⟨h.nodup _, by simp, ?_⟩
      intro a ha b hb
      have hb' : b = s.nextId := by simpa using hb
      obtain ⟨m, hm, rfl⟩ := List.mem_map.mp ha
      have := (h.msg _ m hm).2.1
      omega
    · rw [upd_other _ _ _ _ hi]
      exact h.nodup i
  case slots_free =>
    intro x hx
    apply h.slots_free
    rcases hx with hx | hx
    · exact Or.inl (h3 x hx)
    · exact Or.inr (Nat.le_trans h4 hx)
  case pool_lt =>
    intro x hx
    exact Nat.lt_of_lt_of_le (h.pool_lt x (h3 x hx)) h4

/-- a shard actor pops the head of its mailbox, runs the executor, answers into the message's
    slot — whether or not the client still waits -/
theorem inv_exec {s : Sys σ Req Resp} {r : RState σ Req Resp} (h : Inv step route s0 s r)
    (i : Nat) (m : Msg Req) (rest : List (Msg Req)) (hm : s.mail i = m :: rest) :
    Inv step route s0
      { s with
        st := (step s.st m.req).1
        mail := upd s.mail i rest
        slot := upd s.slot m.slot (some (step s.st m.req).2)
        log := s.log ++ [.lin m.id (step s.st m.req).2] }
      { r with s := (step s.st m.req).1, pend := erase m.id r.pend,
               done := insert m.id (step s.st m.req).2 r.done } := by
  have hmem : m ∈ s.mail i := by rw [hm]; simp
  obtain ⟨g1, g2, g3, g4, g5⟩ := h.msg i m hmem
  -- no other message carries this id
  have hno : ∀ j m', m' ∈ upd s.mail i rest j → m'.id ≠ m.id := by
    intro j m' hm' he
    by_cases hj : j = i
    · subst hj
      rw [upd_same] at hm'
      have hnd := h.nodup j
      rw [hm, List.map_cons, List.nodup_cons] at hnd
      exact hnd.1 (List.mem_map.mpr ⟨m', hm', he⟩)
    · rw [upd_other _ _ _ _ hj] at hm'
      exact hj (h.cross j i m' m hm' hmem he)
  have hsub : ∀ j m', m' ∈ upd s.mail i rest j → m' ∈ s.mail j := by
    intro j m' hm'
    by_cases hj : j = i
    · subst hj; rw [upd_same] at hm'; rw [hm]; simp [hm']
    · rw [upd_other _ _ _ _ hj] at hm'; exact hm'
  refine
    { rep := h.st ▸ replay_snoc step h.rep (.lin m.id m.req _ g5 rfl)
      st := rfl, next := h.next, wfp := wf_erase h.wfp, wfd := wf_insert h.wfd, cl := ?cl,
      distinct := h.distinct, msg := ?msg
      owner := fun c' id' req' sid' j m' hw hm' hs => h.owner c' id' req' sid' j m' hw (hsub j m' hm') hs
      cross := fun j k m1 m2 h1 h2 => h.cross j k m1 m2 (hsub j m1 h1) (hsub k m2 h2)
      nodup := ?nodup, slots_free := ?slots_free, pool_nodup := h.pool_nodup, pool_lt := h.pool_lt }
  case cl =>
    intro c' id' req' sid' hw
    dsimp only at hw ⊢
    obtain ⟨a1, a2, a3, a4, a5⟩ := h.cl c' id' req' sid' hw
    refine ⟨a1, a2, a3, by simp [a4], ?_⟩
    by_cases hid : id' = m.id
    · -- the executed message is this client's own request
      rcases a5 with ⟨b1, _, _⟩ | ⟨b1, _⟩
      · have hi : route req' = i := h.cross _ _ _ _ b1 hmem hid
        rw [hi] at b1
        have hmm : (⟨id', sid', req'⟩ : Msg Req) = m := msg_eq_of_nodup (h.nodup i) b1 hmem hid
        have e2 : sid' = m.slot := congrArg Msg.slot hmm
        refine Or.inr ⟨fun j m' hm' => by rw [hid]; exact hno j m' hm', (step s.st m.req).2, ?_, ?_, ?_⟩
        · rw [e2]; exact upd_same _ _ _
        · show get (insert m.id _ r.done) id' = _
          rw [get_insert, if_pos hid]
        · rw [hid]; simp
      · exact absurd hid.symm (b1 i m hmem)
    · have hsid : sid' ≠ m.slot := fun e => hid (h.owner c' id' req' sid' i m hw hmem e.symm).symm
      rcases a5 with ⟨b1, b2, b3⟩ | ⟨b1, resp, b2, b3, b4⟩
      · refine Or.inl ⟨?_, ?_, ?_⟩
        · by_cases hj : route req' = i
          · rw [hj, upd_same]
            rw [hj, hm] at b1
            rcases List.mem_cons.mp b1 with e | e
            · exact absurd (congrArg Msg.id e) hid
            · exact e
          · rw [upd_other _ _ _ _ hj]; exact b1
        · rw [upd_other _ _ _ _ hsid]; exact b2
        · show get (erase m.id r.pend) id' = _
          rw [get_erase h.wfp, if_neg hid]; exact b3
      · refine Or.inr ⟨fun j m' hm' => b1 j m' (hsub j m' hm'), resp, ?_, ?_, by simp [b4]⟩
        · rw [upd_other _ _ _ _ hsid]; exact b2
        · show get (insert m.id _ r.done) id' = _
          rw [get_insert, if_neg hid]; exact b3
  case msg =>
    intro j m' hm'
    dsimp only at hm' ⊢
    obtain ⟨k1, k2, k3, k4, k5⟩ := h.msg j m' (hsub j m' hm')
    refine ⟨k1, k2, k3, k4, ?_⟩
    show get (erase m.id r.pend) m'.id = _
    rw [get_erase h.wfp, if_neg (hno j m' hm')]; exact k5
  case nodup =>
    intro j
    dsimp only
    by_cases hj : j = i
    · subst hj
      rw [upd_same]
      have := h.nodup j
      rw [hm, List.map_cons, List.nodup_cons] at this
      exact this.2
    · rw [upd_other _ _ _ _ hj]; exact h.nodup j
  case slots_free =>
    intro x hx
    dsimp only at hx ⊢
    have : x ≠ m.slot := by
      intro e; subst e
      rcases hx with hx | hx
      · exact g4 hx
      · omega
    rw [upd_other _ _ _ _ this]
    exact h.slots_free x hx

/-- the client's future resolves: the value is taken out of the slot, the slot goes back to the
    pool (or is dropped) -/
theorem inv_ret {s : Sys σ Req Resp} {r : RState σ Req Resp} (h : Inv step route s0 s r)
    (c id : Nat) (req : Req) (sid : Nat) (resp : Resp) (pool' : List Nat)
    (hc : s.client c = .waiting id req sid) (hs : s.slot sid = some resp)
    (hp1 : ∀ x ∈ pool', x ∈ s.pool ∨ x = sid) (hp2 : pool'.Nodup) :
    Inv step route s0
      { s with
        client := upd s.client c .idle
        slot := upd s.slot sid none
        pool := pool'
        log := s.log ++ [.res id resp] }
      { r with done := erase id r.done } := by
  obtain ⟨c1, c2, c3, c4, c5⟩ := h.cl c _ _ _ hc
  -- the request has been executed and the slot holds ITS response
  have hex : (∀ i m, m ∈ s.mail i → m.id ≠ id) ∧ get r.done id = some resp := by
    rcases c5 with ⟨_, b2, _⟩ | ⟨b1, resp', b2, b3, _⟩
    · rw [hs] at b2; cases b2
    · rw [hs] at b2; injection b2 with e; subst e; exact ⟨b1, b3⟩
  -- … so no message in flight references the slot that goes back to the pool
  have hmsg_ne : ∀ i m, m ∈ s.mail i → m.slot ≠ sid := fun i m hm he =>
    hex.1 i m hm (h.owner c id req sid i m hc hm he)
  refine
    { rep := replay_snoc step h.rep (.res id resp hex.2)
      st := h.st, next := h.next, wfp := h.wfp, wfd := wf_erase h.wfd, cl := ?cl,
      distinct := fun x y _ _ _ _ _ _ hne hw1 hw2 =>
        h.distinct x y _ _ _ _ _ _ hne (waiting_of_upd_idle hw1).2 (waiting_of_upd_idle hw2).2
      msg := ?msg
      owner := fun c' id' req' sid' i m hw hm hs' =>
        h.owner c' id' req' sid' i m (waiting_of_upd_idle hw).2 hm hs'
      cross := h.cross, nodup := h.nodup, slots_free := ?slots_free,
      pool_nodup := hp2, pool_lt := ?pool_lt }
  case cl =>
    intro c' id' req' sid' hw
    obtain ⟨hcc, hw⟩ := waiting_of_upd_idle hw
    obtain ⟨a1, a2, a3, a4, a5⟩ := h.cl c' id' req' sid' hw
    obtain ⟨hid, hsid⟩ := h.distinct c' c _ _ _ _ _ _ hcc hw hc
    refine ⟨a1, a2, fun hx => (hp1 _ hx).elim a3 hsid, by simp [a4], ?_⟩
    dsimp only
    rw [upd_other _ _ _ _ hsid]
    rcases a5 with ⟨b1, b2, b3⟩ | ⟨b1, resp', b2, b3, b4⟩
    · exact Or.inl ⟨b1, b2, b3⟩
    · refine Or.inr ⟨b1, resp', b2, ?_, by simp [b4]⟩
      show get (erase id r.done) id' = _
      rw [get_erase h.wfd, if_neg hid]; exact b3
  case msg =>
    intro i m hm
    obtain ⟨k1, k2, k3, k4, k5⟩ := h.msg i m hm
    exact ⟨k1, k2, k3, fun hx => (hp1 _ hx).elim k4 (hmsg_ne i m hm), k5⟩
  case slots_free =>
    intro x hx
    dsimp only at hx ⊢
    by_cases e : x = sid
    · subst e; exact upd_same _ _ _
    · rw [upd_other _ _ _ _ e]
      exact h.slots_free x (hx.imp_left fun hx => (hp1 _ hx).resolve_right e)
  case pool_lt =>
    intro x hx
    rcases hp1 _ hx with e | e
    · exact h.pool_lt x e
    · subst e; exact c2

/-- the client gives up: its slot leaks (stays out of the pool), a queued message keeps it -/
theorem inv_abandon {s : Sys σ Req Resp} {r : RState σ Req Resp} (h : Inv step route s0 s r)
    (c : Nat) : Inv step route s0 { s with client := upd s.client c .idle } r :=
  { h with
    cl := fun c' id req sid hw => h.cl c' id req sid (waiting_of_upd_idle hw).2
    distinct := fun c1 c2 _ _ _ _ _ _ hne hw1 hw2 =>
      h.distinct c1 c2 _ _ _ _ _ _ hne (waiting_of_upd_idle hw1).2 (waiting_of_upd_idle hw2).2
    owner := fun c' id req sid i m hw hm hs => h.owner c' id req sid i m (waiting_of_upd_idle hw).2 hm hs }

/-- a batched call: the items are posted one after the other, each with a fresh channel -/
theorem inv_batch (items : List (Nat × Req)) {s : Sys σ Req Resp} {r : RState σ Req Resp}
    (h : Inv step route s0 s r) (hidle : ∀ p ∈ items, s.client p.1 = .idle)
    (hnd : (items.map (·.1)).Nodup) :
    ∃ r', Inv step route s0 (items.foldl (fun s p => postFresh route s p.1 p.2) s) r' := by
  induction items generalizing s r with
  | nil => exact ⟨r, h⟩
  | cons p items ih =>
    rw [List.map_cons, List.nodup_cons] at hnd
    have h1 := inv_invoke step route s0 h p.1 p.2 s.fresh s.pool (s.fresh + 1) (hidle p (by simp))
      (Nat.lt_succ_self _) (fun hx => Nat.lt_irrefl _ (h.pool_lt _ hx)) (fun x hx => hx)
      (Nat.le_succ _) (Or.inr (Nat.le_refl _)) h.pool_nodup
    rw [List.foldl_cons]
    apply ih h1 _ hnd.2
    intro q hq
    have hne : q.1 ≠ p.1 := fun e => hnd.1 (e ▸ List.mem_map.mpr ⟨q, hq, rfl⟩)
    show upd s.client p.1 _ q.1 = .idle
    rw [upd_other _ _ _ _ hne]
    exact hidle q (by simp [hq])

/-- the invariant is inductive -/
theorem inv_step {s s' : Sys σ Req Resp} {r : RState σ Req Resp} (h : Inv step route s0 s r)
    (hs : Step step route s s') : ∃ r', Inv step route s0 s' r' := by
  cases hs with
  | invokePooled c req sid rest hc hp =>
    have hnd := h.pool_nodup
    rw [hp, List.nodup_cons] at hnd
    exact ⟨_, inv_invoke step route s0 h c req sid rest s.fresh hc
      (h.pool_lt sid (by rw [hp]; simp)) hnd.1 (fun x hx => by rw [hp]; simp [hx])
      (Nat.le_refl _) (Or.inl (by rw [hp]; simp)) hnd.2⟩
  | invokeFresh c req hc =>
    exact ⟨_, inv_invoke step route s0 h c req s.fresh s.pool (s.fresh + 1) hc
      (Nat.lt_succ_self _) (fun hx => Nat.lt_irrefl _ (h.pool_lt _ hx)) (fun x hx => hx)
      (Nat.le_succ _) (Or.inr (Nat.le_refl _)) h.pool_nodup⟩
  | exec i m rest hm => exact ⟨_, inv_exec step route s0 h i m rest hm⟩
  | retRelease c id req sid resp hc hsl =>
    refine ⟨_, inv_ret step route s0 h c id req sid resp (s.pool ++ [sid]) hc hsl ?_ ?_⟩
    · intro x hx
      rcases List.mem_append.mp hx with e | e
      · exact Or.inl e
      · exact Or.inr (by simpa using e)
    · rw [List.nodup_append]
      refine ⟨h.pool_nodup, by simp, ?_⟩
      intro a ha b hb
      have : b = sid := by simpa using hb
      subst this
      intro e; subst e
      exact (h.cl c _ _ _ hc).2.2.1 ha
  | retDrop c id req sid resp hc hsl =>
    exact ⟨_, inv_ret step route s0 h c id req sid resp s.pool hc hsl (fun x hx => Or.inl hx)
      h.pool_nodup⟩
  | abandon c id req sid hc => exact ⟨r, inv_abandon step route s0 h c⟩
  | invokeBatch items hidle hnd => exact inv_batch step route s0 items h hidle hnd

theorem reach_inv {pool : Nat} {s : Sys σ Req Resp} (hr : Reach step route s0 pool s) :
    ∃ r, Inv step route s0 s r := by
  induction hr with
  | init => exact ⟨_, inv_init step route s0 pool⟩
  | step _ hs ih =>
    obtain ⟨r, hi⟩ := ih
    exact inv_step step route s0 hi hs

end sysinv

section order
variable {σ Req Resp : Type} [DecidableEq Resp] (step : σ → Req → σ × Resp)

/-- an operation that is pending was invoked earlier; an operation whose response is ready has taken
    effect earlier, with that response -/
theorem get_of_replay {pre : List (Ev Req Resp)} {r0 r1 : RState σ Req Resp}
    (h : replay step r0 pre = some r1) (hp : WF r0.pend) (hd : WF r0.done) :
    (∀ id req, get r1.pend id = some req → get r0.pend id = some req ∨ (.inv id req) ∈ pre) ∧
    (∀ id resp, get r1.done id = some resp → get r0.done id = some resp ∨ (.lin id resp) ∈ pre) := by
  induction h using replay_ind step with
  | nil => exact ⟨fun _ _ hg => .inl hg, fun _ _ hg => .inl hg⟩
  | cons r0 e r es he _ ih =>
    obtain ⟨i1, i2⟩ := ih (he.wf.1 hp) (he.wf.2 hd)
    exact ⟨fun id req hg => (i1 id req hg).elim
        (fun h1 => (he.pend_of hp h1).imp_right (fun e => by rw [e]; exact List.mem_cons_self ..))
        (fun h1 => .inr (List.mem_cons_of_mem _ h1)),
      fun id resp hg => (i2 id resp hg).elim
        (fun h1 => (he.done_of hd h1).imp_right (fun e => by rw [e]; exact List.mem_cons_self ..))
        (fun h1 => .inr (List.mem_cons_of_mem _ h1))⟩

theorem replay_split {pre post : List (Ev Req Resp)} {e : Ev Req Resp} {s0 : σ}
    (h : ValidLog step s0 (pre ++ e :: post)) :
    ∃ r1 r2, replay step (initR s0) pre = some r1 ∧ EvStep step r1 e r2 := by
  obtain ⟨_, h⟩ := (validLog_iff step).mp h
  obtain ⟨r1, h1, h2⟩ := (replay_append step).mp h
  obtain ⟨r2, he, _⟩ := (replay_cons step).mp h2
  exact ⟨r1, r2, h1, he⟩

/-- **every linearization point lies after the invocation of its operation** -/
theorem lin_after_inv (s0 : σ) (pre post : List (Ev Req Resp)) (id : Nat) (resp : Resp)
    (h : ValidLog step s0 (pre ++ .lin id resp :: post)) : ∃ req, (.inv id req) ∈ pre := by
  obtain ⟨r1, _, h1, he⟩ := replay_split step h
  cases he with
  | lin _ req _ hg _ => exact ⟨req, ((get_of_replay step h1 wf_nil wf_nil).1 id req hg).resolve_left nofun⟩

/-- **every response is delivered after the linearization point of its operation, and is the
    response computed there** -/
theorem res_after_lin (s0 : σ) (pre post : List (Ev Req Resp)) (id : Nat) (resp : Resp)
    (h : ValidLog step s0 (pre ++ .res id resp :: post)) : (.lin id resp) ∈ pre := by
  obtain ⟨r1, _, h1, he⟩ := replay_split step h
  cases he with
  | res _ _ hg => exact ((get_of_replay step h1 wf_nil wf_nil).2 id resp hg).resolve_left nofun

end order

/-! ## refinement along a log

  The specifications with time (`LinMono` of `Model/Script7`, `LinMonoG` / `LinMonoT` of `Model/Node7`)
  all say: every operation takes effect at a moment its clock condition holds, and the clock advances
  with the operations that took effect.  They differ in what is remembered of an invoked request
  (`key`: its time, or the request itself).  `LinMonoK` is that predicate. -/

section sim
variable {σA σB Req Resp κ τ : Type}

def LinMonoK (key : Req → κ) (okT : τ → κ → Prop) (adv : τ → κ → τ) (pend : NMap κ) (t : τ) :
    List (Ev Req Resp) → Prop
  | [] => True
  | .inv id req :: es => LinMonoK key okT adv (NMap.insert id (key req) pend) t es
  | .lin id _ :: es =>
    match NMap.get pend id with
    | some k => okT t k ∧ LinMonoK key okT adv pend (adv t k) es
    | none => LinMonoK key okT adv pend t es
  | .res _ _ :: es => LinMonoK key okT adv pend t es

def decLinMonoK (key : Req → κ) (okT : τ → κ → Prop) [∀ t k, Decidable (okT t k)] (adv : τ → κ → τ) :
    (pend : NMap κ) → (t : τ) → (l : List (Ev Req Resp)) → Decidable (LinMonoK key okT adv pend t l)
  | _, _, [] => isTrue trivial
  | pend, t, .inv id req :: es => decLinMonoK key okT adv (NMap.insert id (key req) pend) t es
  | pend, t, .lin id _ :: es =>
    match h : NMap.get pend id with
    | some k =>
      match (inferInstance : Decidable (okT t k)), decLinMonoK key okT adv pend (adv t k) es with
      | isTrue h1, isTrue h2 => isTrue (by simp only [LinMonoK, h]; exact ⟨h1, h2⟩)
      | isFalse h1, _ => isFalse (by simp only [LinMonoK, h]; exact fun x => h1 x.1)
      | _, isFalse h2 => isFalse (by simp only [LinMonoK, h]; exact fun x => h2 x.2)
    | none =>
      match decLinMonoK key okT adv pend t es with
      | isTrue h2 => isTrue (by simp only [LinMonoK, h]; exact h2)
      | isFalse h2 => isFalse (by simp only [LinMonoK, h]; exact h2)
  | pend, t, .res _ _ :: es => decLinMonoK key okT adv pend t es

instance (key : Req → κ) (okT : τ → κ → Prop) [∀ t k, Decidable (okT t k)] (adv : τ → κ → τ)
    (pend : NMap κ) (t : τ) (l : List (Ev Req Resp)) : Decidable (LinMonoK key okT adv pend t l) :=
  decLinMonoK key okT adv pend t l

theorem linMonoK_of_forall (key : Req → κ) {okT : τ → κ → Prop} (adv : τ → κ → τ) (h : ∀ t k, okT t k)
    (pend : NMap κ) (t : τ) (l : List (Ev Req Resp)) : LinMonoK key okT adv pend t l := by
  induction l generalizing pend t with
  | nil => trivial
  | cons e es ih =>
    cases e with
    | inv id req => exact ih _ _
    | lin id resp =>
      unfold LinMonoK
      split
      · exact ⟨h _ _, ih _ _⟩
      · exact ih _ _
    | res id resp => exact ih _ _

variable [DecidableEq Resp]
  (stepA : σA → Req → σA × Resp) (stepB : σB → Req → σB × Resp)
  (key : Req → κ) (okT : τ → κ → Prop) (adv : τ → κ → τ) (Ok : Req → Prop) (Rel : σA → σB → τ → Prop)

/-- if every OK request whose clock condition holds is answered alike by `stepA` and `stepB` on
    `Rel`-related states and keeps them related, a log that replays on `stepA` replays on `stepB`.
    `tm` remembers the key of every pending request. -/
theorem replay_sim
    (href : ∀ a b t req, Rel a b t → okT t (key req) → Ok req →
      (stepA a req).2 = (stepB b req).2 ∧ Rel (stepA a req).1 (stepB b req).1 (adv t (key req)))
    (log : List (Ev Req Resp)) (t : τ) (tm : NMap κ)
    (rA rA' : RState σA Req Resp) (rB : RState σB Req Resp)
    (hrel : Rel rA.s rB.s t) (hp : rA.pend = rB.pend) (hd : rA.done = rB.done) (hn : rA.next = rB.next)
    (hwf : WF rA.pend)
    (hok : ∀ id req, get rA.pend id = some req → Ok req ∧ get tm id = some (key req))
    (hlog : ∀ id req, (.inv id req) ∈ log → Ok req)
    (hmono : LinMonoK key okT adv tm t log)
    (h : replay stepA rA log = some rA') :
    ∃ rB', replay stepB rB log = some rB' := by
  induction h using replay_ind stepA generalizing rB t tm with
  | nil => exact ⟨rB, rfl⟩
  | cons rA e rA1 es he _ ih =>
    -- one event: `stepB` takes it too, to a state that is related again
    suffices ∃ rB1 t1 tm1, EvStep stepB rB e rB1 ∧ Rel rA1.s rB1.s t1 ∧ rA1.pend = rB1.pend ∧
        rA1.done = rB1.done ∧ rA1.next = rB1.next ∧
        (∀ id req, get rA1.pend id = some req → Ok req ∧ get tm1 id = some (key req)) ∧
        LinMonoK key okT adv tm1 t1 es by
      obtain ⟨rB1, t1, tm1, hb, a1, a2, a3, a4, a5, a6⟩ := this
      obtain ⟨rB', hB⟩ := ih t1 tm1 rB1 a1 a2 a3 a4 (he.wf.1 hwf) a5
        (fun id req hm => hlog id req (List.mem_cons_of_mem _ hm)) a6
      exact ⟨rB', (replay_cons stepB).mpr ⟨rB1, hb, hB⟩⟩
    have hpend := fun id req => he.pend_of hwf (id := id) (req := req)
    cases he with
    | inv id req hle =>
      refine ⟨_, t, NMap.insert id (key req) tm, .inv id req (hn ▸ hle), hrel, by rw [hp], hd, rfl, ?_, hmono⟩
      intro id' req' hg
      dsimp only at hg
      rw [get_insert] at hg ⊢
      split at hg
      · cases hg; exact ⟨hlog id req (List.mem_cons_self ..), if_pos ‹_›⟩
      · rw [if_neg ‹_›]; exact hok id' req' hg
    | lin id req resp hg hr =>
      obtain ⟨hokr, htm⟩ := hok id req hg
      simp only [LinMonoK, htm] at hmono
      obtain ⟨s2, s1⟩ := href _ _ _ req hrel hmono.1 hokr
      exact ⟨_, adv t (key req), tm, .lin id req resp (hp ▸ hg) (s2 ▸ hr), s1, by rw [hp], by rw [hd], hn,
        fun id' req' hg' => hok id' req' ((hpend id' req' hg').resolve_right nofun), hmono.2⟩
    | res id resp hg =>
      exact ⟨_, t, tm, .res id resp (hd ▸ hg), hrel, hp, by rw [hd], hn, hok, hmono⟩

end sim

section seq
variable {σ Req Resp : Type} [DecidableEq Resp] (step : σ → Req → σ × Resp)

/-- the history of one client issuing operations one after the other -/
def seqHist : List (Nat × Req × Resp) → List (Ev Req Resp)
  | [] => []
  | (id, req, resp) :: rest => .inv id req :: .res id resp :: seqHist rest

/-- the responses are those of the specification run in program order -/
def seqLegal : σ → List (Nat × Req × Resp) → Prop
  | _, [] => True
  | s, (_, req, resp) :: rest => (step s req).2 = resp ∧ seqLegal (step s req).1 rest

/-- `seq_phase` walks a valid log whose history is the rest of a sequential history; with one client
    the log can only go invoke, linearize, respond, one operation at a time.  `Phase` = where the walk
    stands inside the current operation (`resp` the response of the history, `resp'` the one the log
    gave), `remaining` = the history still ahead, `PhaseOk` = what `pend` / `done` then hold,
    `PhaseGoal` = the rest of `seqLegal` from there.  Every event that does not fit the phase either
    contradicts the history or has a side condition (`EvStep`) that `PhaseOk` refutes. -/
inductive Phase (Req Resp : Type)
  | idle
  | invoked (id : Nat) (req : Req) (resp : Resp)
  | linearized (id : Nat) (resp' resp : Resp)

def remaining : Phase Req Resp → List (Nat × Req × Resp) → List (Ev Req Resp)
  | .idle, rest => seqHist rest
  | .invoked id _ resp, rest => .res id resp :: seqHist rest
  | .linearized id _ resp, rest => .res id resp :: seqHist rest

def PhaseOk : Phase Req Resp → RState σ Req Resp → Prop
  | .idle, r => r.pend = [] ∧ r.done = []
  | .invoked id req _, r => r.pend = [(id, req)] ∧ r.done = []
  | .linearized id resp' _, r => r.pend = [] ∧ r.done = [(id, resp')]

def PhaseGoal : Phase Req Resp → RState σ Req Resp → List (Nat × Req × Resp) → Prop
  | .idle, r, rest => seqLegal step r.s rest
  | .invoked _ req resp, r, rest => (step r.s req).2 = resp ∧ seqLegal step (step r.s req).1 rest
  | .linearized _ resp' resp, r, rest => resp' = resp ∧ seqLegal step r.s rest

omit [DecidableEq Resp] in
theorem get_singleton {α : Type} {k k' : Nat} {v v' : α} (h : get [(k, v)] k' = some v') : k' = k ∧ v' = v := by
  simp only [NMap.get] at h
  split at h
  · cases h; exact ⟨‹_›, rfl⟩
  · cases h

theorem seq_phase {log : List (Ev Req Resp)} {r r' : RState σ Req Resp} (hv : replay step r log = some r')
    (ph : Phase Req Resp) (rest : List (Nat × Req × Resp)) (hh : history log = remaining ph rest)
    (hp : PhaseOk ph r) : PhaseGoal step ph r rest := by
  induction hv using replay_ind step generalizing ph rest with
  | nil =>
    match ph, rest, hh with
    | .idle, [], _ => trivial
  | cons r e r1 es he _ ih =>
    cases he with
    | lin id' req' resp' hg hr =>
      rw [history_cons_lin] at hh
      cases ph with
      | idle | linearized => rw [hp.1] at hg; cases hg
      | invoked id req resp =>
        rw [hp.1] at hg
        obtain ⟨rfl, rfl⟩ := get_singleton hg
        have := ih (.linearized id' resp' resp) rest hh
          ⟨by show NMap.erase id' r.pend = []; rw [hp.1]; simp [NMap.erase],
           by show NMap.insert id' resp' r.done = _; rw [hp.2]; rfl⟩
        exact ⟨hr.trans this.1, this.2⟩
    | inv id' req' hle =>
      rw [history_cons_of_not_lin _ rfl] at hh
      match ph, rest, hh with
      | .idle, (id, req, resp) :: rest', hh =>
        injection hh with e1 e2; cases e1
        exact ih (.invoked id' req' resp) rest' e2
          ⟨by show NMap.insert id' req' r.pend = _; rw [hp.1]; rfl, hp.2⟩
    | res id' resp'' hg =>
      rw [history_cons_of_not_lin _ rfl] at hh
      match ph, rest, hh with
      | .idle, (_, _, _) :: _, hh => injection hh with e1; cases e1
      | .invoked id req resp, _, _ => rw [hp.2] at hg; cases hg
      | .linearized id resp' resp, rest, hh =>
        injection hh with e1 e2; cases e1
        rw [hp.2] at hg
        obtain ⟨_, rfl⟩ := get_singleton hg
        exact ⟨rfl, ih .idle rest e2
          ⟨hp.1, by show NMap.erase id' r.done = []; rw [hp.2]; simp [NMap.erase]⟩⟩

/-- **a sequential history is linearizable only if every response is the one the specification
    gives in program order** -/
theorem seq_lin_legal (s0 : σ) (ops : List (Nat × Req × Resp))
    (h : Linearizable step s0 (seqHist ops)) : seqLegal step s0 ops := by
  obtain ⟨log, hl, hv⟩ := h
  obtain ⟨_, hv⟩ := (validLog_iff step).mp hv
  exact seq_phase step hv .idle ops hl ⟨rfl, rfl⟩

end seq

end Actors
end RedisVerif
