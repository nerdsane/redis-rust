import RedisVerif.Lemmas.Lub

/-!
# Pairwise exchanges in a join-semilattice

`n` parties each hold an element of a carrier on which `m` is ACI.  An *exchange* between `a` and
`b` leaves both with `m (v a) (v b)` (what one round of anti-entropy with a limit that covers the
difference does, key by key).  Facts:

* every value only grows, and stays below every upper bound of the initial values;
* after the pairs of `allPairs n` — `for i in 0..n { for j in i+1..n { exchange(i, j) } }`, the
  order of `run_full_anti_entropy` — every party holds the join of all initial values, for every
  `n` (`allPairs_agree`): ONE pass suffices;
* for an arbitrary list of pairs the same holds when the knowledge flow it induces is complete
  (`flow_agree`; `knows` is computable, so the hypothesis is decidable for a concrete list);
  `flowComplete_allPairs`: the flow of `allPairs n` is complete for every `n`.
-/
namespace RedisVerif
namespace Flow

variable {α : Type}

/-- one exchange -/
def xch (m : α → α → α) (v : Nat → α) (a b : Nat) : Nat → α :=
  fun i => if i = a ∨ i = b then m (v a) (v b) else v i

def pass (m : α → α → α) (v : Nat → α) (ps : List (Nat × Nat)) : Nat → α :=
  ps.foldl (fun v p => xch m v p.1 p.2) v

/-- `for j in (i+1)..n` -/
def rowPairs (i n : Nat) : List (Nat × Nat) := (List.range' (i + 1) (n - (i + 1))).map (fun j => (i, j))

/-- `for i in 0..n { for j in (i+1)..n }` -/
def allPairs (n : Nat) : List (Nat × Nat) := (List.range n).flatMap (fun i => rowPairs i n)

variable {m : α → α → α} {P : α → Prop}

/-- what every reachable vector satisfies relative to the initial vector `v0` -/
structure Inv (m : α → α → α) (P : α → Prop) (n : Nat) (v0 v : Nat → α) : Prop where
  car : ∀ i, i < n → P (v i)
  /-- values only grow -/
  grow : ∀ i, i < n → ACI.le m (v0 i) (v i)
  /-- … and stay below every upper bound of the initial values -/
  bound : ∀ u, P u → (∀ s, s < n → ACI.le m (v0 s) u) → ∀ i, i < n → ACI.le m (v i) u

theorem inv_init (h : ACI m P) (n : Nat) (v0 : Nat → α) (hv : ∀ i, i < n → P (v0 i)) : Inv m P n v0 v0 :=
  ⟨hv, fun i hi => h.le_refl (hv i hi), fun _ _ hu i hi => hu i hi⟩

theorem inv_xch (h : ACI m P) {n : Nat} {v0 v : Nat → α} (hv0 : ∀ i, i < n → P (v0 i)) (hi : Inv m P n v0 v)
    {a b : Nat} (ha : a < n) (hb : b < n) : Inv m P n v0 (xch m v a b) := by
  have hca := hi.car a ha
  have hcb := hi.car b hb
  have hcm := h.closed _ _ hca hcb
  refine ⟨?_, ?_, ?_⟩
  · intro i hin
    simp only [xch]; split
    · exact hcm
    · exact hi.car i hin
  · intro i hin
    simp only [xch]; split
    · rename_i hc
      rcases hc with rfl | rfl
      · exact h.le_trans (hv0 i hin) hca hcm (hi.grow i hin) (h.le_merge_left hca hcb)
      · exact h.le_trans (hv0 i hin) hcb hcm (hi.grow i hin) (h.le_merge_right hca hcb)
    · exact hi.grow i hin
  · intro u hu hub i hin
    simp only [xch]; split
    · exact h.merge_le hca hcb hu (hi.bound u hu hub a ha) (hi.bound u hu hub b hb)
    · exact hi.bound u hu hub i hin

/-- `s`'s initial value is below `i`'s current value -/
def Has (m : α → α → α) (v0 v : Nat → α) (s i : Nat) : Prop := ACI.le m (v0 s) (v i)

theorem has_mono (h : ACI m P) {n : Nat} {v0 v : Nat → α} (hv0 : ∀ i, i < n → P (v0 i)) (hi : Inv m P n v0 v)
    {a b : Nat} (ha : a < n) (hb : b < n) {s i : Nat} (hs : s < n) (hin : i < n) (hh : Has m v0 v s i) :
    Has m v0 (xch m v a b) s i := by
  unfold Has at *
  simp only [xch]; split
  · rename_i hc
    have hca := hi.car a ha
    have hcb := hi.car b hb
    rcases hc with rfl | rfl
    · exact h.le_trans (hv0 s hs) hca (h.closed _ _ hca hcb) hh (h.le_merge_left hca hcb)
    · exact h.le_trans (hv0 s hs) hcb (h.closed _ _ hca hcb) hh (h.le_merge_right hca hcb)
  · exact hh

theorem has_xch (h : ACI m P) {n : Nat} {v0 v : Nat → α} (hv0 : ∀ i, i < n → P (v0 i)) (hi : Inv m P n v0 v)
    {a b : Nat} (ha : a < n) (hb : b < n) {s : Nat} (hs : s < n) (hh : Has m v0 v s a ∨ Has m v0 v s b) :
    Has m v0 (xch m v a b) s a ∧ Has m v0 (xch m v a b) s b := by
  have hca := hi.car a ha
  have hcb := hi.car b hb
  have : ACI.le m (v0 s) (m (v a) (v b)) := by
    rcases hh with hh | hh
    · exact h.le_trans (hv0 s hs) hca (h.closed _ _ hca hcb) hh (h.le_merge_left hca hcb)
    · exact h.le_trans (hv0 s hs) hcb (h.closed _ _ hca hcb) hh (h.le_merge_right hca hcb)
  unfold Has
  simp only [xch, true_or, or_true, if_true]
  exact ⟨this, this⟩

theorem eq_of_complete (h : ACI m P) {n : Nat} {v0 v : Nat → α} (hi : Inv m P n v0 v) {i j : Nat}
    (hin : i < n) (hjn : j < n) (ci : ∀ s, s < n → Has m v0 v s i) (cj : ∀ s, s < n → Has m v0 v s j) :
    v i = v j :=
  h.le_antisymm (hi.car i hin) (hi.car j hjn) (hi.bound _ (hi.car j hjn) cj i hin)
    (hi.bound _ (hi.car i hin) ci j hjn)

/-! ### an arbitrary list of pairs: computable knowledge flow -/

/-- whose initial value each party is known to have -/
def knowStep (K : Nat → List Nat) (a b : Nat) : Nat → List Nat :=
  fun i => if i = a ∨ i = b then K a ++ K b else K i

def knows (ps : List (Nat × Nat)) : Nat → List Nat :=
  ps.foldl (fun K p => knowStep K p.1 p.2) (fun i => [i])

/-- the flow of `ps` on top of what is known already; `knows ps` is `kfold (fun i => [i]) ps` -/
def kfold (K : Nat → List Nat) (ps : List (Nat × Nat)) : Nat → List Nat :=
  ps.foldl (fun K p => knowStep K p.1 p.2) K

theorem pass_inv (h : ACI m P) {n : Nat} {v0 : Nat → α} (hv0 : ∀ i, i < n → P (v0 i)) (ps : List (Nat × Nat))
    (hps : ∀ p ∈ ps, p.1 < n ∧ p.2 < n) : ∀ v, Inv m P n v0 v → Inv m P n v0 (pass m v ps) := by
  induction ps with
  | nil => intro v hi; exact hi
  | cons p ps ih =>
    intro v hi
    exact ih (fun q hq => hps q (List.mem_cons_of_mem _ hq)) _
      (inv_xch h hv0 hi (hps p (by simp)).1 (hps p (by simp)).2)

theorem pass_knows (h : ACI m P) {n : Nat} {v0 : Nat → α} (hv0 : ∀ i, i < n → P (v0 i)) (ps : List (Nat × Nat))
    (hps : ∀ p ∈ ps, p.1 < n ∧ p.2 < n) : ∀ (v : Nat → α) (K : Nat → List Nat), Inv m P n v0 v →
    (∀ i, i < n → ∀ s ∈ K i, s < n ∧ Has m v0 v s i) →
    ∀ i, i < n → ∀ s ∈ kfold K ps i, s < n ∧ Has m v0 (pass m v ps) s i := by
  induction ps with
  | nil => intro v K _ hK; exact hK
  | cons p ps ih =>
    intro v K hi hK
    have hp := hps p (by simp)
    simp only [kfold, List.foldl_cons, pass]
    apply ih (fun q hq => hps q (List.mem_cons_of_mem _ hq)) _ _ (inv_xch h hv0 hi hp.1 hp.2)
    intro i hin s hs
    simp only [knowStep] at hs
    split at hs
    · rename_i hc
      have hsn : s < n ∧ (Has m v0 v s p.1 ∨ Has m v0 v s p.2) := by
        rcases List.mem_append.mp hs with h1 | h1
        · exact ⟨(hK p.1 hp.1 s h1).1, Or.inl (hK p.1 hp.1 s h1).2⟩
        · exact ⟨(hK p.2 hp.2 s h1).1, Or.inr (hK p.2 hp.2 s h1).2⟩
      have := has_xch h hv0 hi hp.1 hp.2 hsn.1 hsn.2
      rcases hc with rfl | rfl
      · exact ⟨hsn.1, this.1⟩
      · exact ⟨hsn.1, this.2⟩
    · exact ⟨(hK i hin s hs).1, has_mono h hv0 hi hp.1 hp.2 (hK i hin s hs).1 hin (hK i hin s hs).2⟩

/-- the flow of `ps` among `n` parties is complete: in the end everybody is known to have
    everybody's initial value (decidable) -/
def FlowComplete (n : Nat) (ps : List (Nat × Nat)) : Prop :=
  (∀ p ∈ ps, p.1 < n ∧ p.2 < n) ∧ ∀ i, i < n → ∀ s, s < n → s ∈ knows ps i

instance (n : Nat) (ps : List (Nat × Nat)) : Decidable (FlowComplete n ps) := by
  unfold FlowComplete; infer_instance

/-- **complete flow ⇒ agreement** -/
theorem flow_agree (h : ACI m P) (n : Nat) (v0 : Nat → α) (hv0 : ∀ i, i < n → P (v0 i)) (ps : List (Nat × Nat))
    (hf : FlowComplete n ps) (i j : Nat) (hin : i < n) (hjn : j < n) : pass m v0 ps i = pass m v0 ps j := by
  have hinv := pass_inv h hv0 ps hf.1 v0 (inv_init h n v0 hv0)
  have hk := pass_knows h hv0 ps hf.1 v0 (fun i => [i]) (inv_init h n v0 hv0)
    (by
      intro i hin s hs
      simp only [List.mem_singleton] at hs
      subst hs
      exact ⟨hin, h.le_refl (hv0 s hin)⟩)
  exact eq_of_complete h hinv hin hjn (fun s hs => (hk i hin s (hf.2 i hin s hs)).2)
    (fun s hs => (hk j hjn s (hf.2 j hjn s hs)).2)

/-! ### the order of `run_full_anti_entropy`: its knowledge flow is complete

Row 0 gathers everything at party 0 and, with its last pair, at party `n-1`; every later row `r`
meets `n-1`, which is complete.  A statement about lists of indices: no carrier, no values. -/

theorem kfold_append (K : Nat → List Nat) (ps qs : List (Nat × Nat)) :
    kfold K (ps ++ qs) = kfold (kfold K ps) qs := by simp [kfold, List.foldl_append]

theorem mem_knowStep {K : Nat → List Nat} {a b i s : Nat} (h : s ∈ K i) : s ∈ knowStep K a b i := by
  unfold knowStep
  split
  · rename_i hc
    rcases hc with rfl | rfl <;> simp [h]
  · exact h

theorem mem_knowStep_pair {K : Nat → List Nat} {a b s : Nat} (h : s ∈ K a ∨ s ∈ K b) :
    s ∈ knowStep K a b a ∧ s ∈ knowStep K a b b := by
  simp [knowStep, List.mem_append, h]

theorem mem_kfold {K : Nat → List Nat} {i s : Nat} (ps : List (Nat × Nat)) (h : s ∈ K i) : s ∈ kfold K ps i := by
  induction ps generalizing K with
  | nil => exact h
  | cons p ps ih => exact ih (mem_knowStep h)

theorem row0_knows : ∀ t s, s ≤ t →
    s ∈ knows ((List.range' 1 t).map (fun j => (0, j))) 0 ∧
    s ∈ knows ((List.range' 1 t).map (fun j => (0, j))) t := by
  intro t
  induction t with
  | zero =>
    intro s hs
    obtain rfl : s = 0 := by omega
    simp [knows]
  | succ t ih =>
    intro s hs
    have hrange : List.range' 1 (t + 1) = List.range' 1 t ++ [t + 1] := by
      rw [List.range'_concat]; simp [Nat.add_comm]
    rw [hrange, List.map_append]
    show s ∈ kfold _ (_ ++ _) 0 ∧ s ∈ kfold _ (_ ++ _) (t + 1)
    rw [kfold_append]
    show s ∈ knowStep _ 0 (t + 1) 0 ∧ s ∈ knowStep _ 0 (t + 1) (t + 1)
    apply mem_knowStep_pair
    by_cases hst : s ≤ t
    · exact Or.inl (ih s hst).1
    · obtain rfl : s = t + 1 := by omega
      exact Or.inr (mem_kfold _ (by simp))

theorem row_knows {x y s : Nat} (js : List Nat) (hy : y ∈ js) : ∀ K : Nat → List Nat, s ∈ K y →
    s ∈ kfold K (js.map (fun j => (x, j))) x := by
  induction js with
  | nil => cases hy
  | cons j js ih =>
    intro K hc
    rcases List.mem_cons.mp hy with rfl | hy'
    · exact mem_kfold (K := knowStep K x y) _ (mem_knowStep_pair (Or.inr hc)).1
    · exact ih hy' (knowStep K x j) (mem_knowStep hc)

theorem rowPairs_lt {i n : Nat} : ∀ p ∈ rowPairs i n, p.1 < n ∧ p.2 < n := by
  intro p hp
  simp only [rowPairs, List.mem_map, List.mem_range'_1] at hp
  obtain ⟨j, hj, rfl⟩ := hp
  simp only
  omega

theorem flowComplete_allPairs (n : Nat) : FlowComplete n (allPairs n) := by
  refine ⟨fun p hp => ?_, ?_⟩
  · obtain ⟨i, _, hp⟩ := List.mem_flatMap.mp hp
    exact rowPairs_lt p hp
  -- after the rows `0 … r-1` (`1 ≤ r ≤ n`): the parties `< r` and the party `n-1` know everybody
  have key : ∀ r, 1 ≤ r → r ≤ n → ∀ x, (x < r ∨ x = n - 1) → ∀ s, s < n →
      s ∈ knows ((List.range r).flatMap (fun i => rowPairs i n)) x := by
    intro r hr1
    induction r with
    | zero => omega
    | succ r ih =>
      intro hrn x hx s hs
      by_cases hr0 : r = 0
      · -- row 0 ends with the pair `(0, n-1)`
        subst hr0
        simp only [List.range_one, List.flatMap_cons, List.flatMap_nil, List.append_nil, rowPairs, Nat.zero_add]
        rcases hx with hx | rfl
        · obtain rfl : x = 0 := by omega
          exact (row0_knows (n - 1) s (by omega)).1
        · exact (row0_knows (n - 1) s (by omega)).2
      · have hK := ih (by omega) (by omega)
        rw [List.range_succ, List.flatMap_append]
        show s ∈ kfold _ (_ ++ _) x
        rw [kfold_append]
        simp only [List.flatMap_cons, List.flatMap_nil, List.append_nil]
        by_cases hxr : x = r ∧ x ≠ n - 1
        · obtain ⟨rfl, _⟩ := hxr
          exact row_knows _ (List.mem_range'_1.mpr (by omega)) _ (hK (n - 1) (Or.inr rfl) s hs)
        · exact mem_kfold _ (hK x (by omega) s hs)
  intro i hi s hs
  exact key n (by omega) (Nat.le_refl n) i (Or.inl hi) s hs

/-- **one pass of all pairs in the order of `run_full_anti_entropy` makes everybody agree** -/
theorem allPairs_agree (h : ACI m P) (n : Nat) (v0 : Nat → α) (hv0 : ∀ i, i < n → P (v0 i)) (i j : Nat)
    (hin : i < n) (hjn : j < n) : pass m v0 (allPairs n) i = pass m v0 (allPairs n) j :=
  flow_agree h n v0 hv0 _ (flowComplete_allPairs n) i j hin hjn

end Flow
end RedisVerif
