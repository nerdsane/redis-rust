import RedisVerif.Lemmas.Concrete

/-
  Byte positions of a WAL file image (`split_pos`: which entry a position falls into), and ONE overwritten byte as a
  relation, `Dmg1`: the position lies in one part of a concatenation (`Dmg1.append`), CRC-32 notices it (`Dmg1.crc`),
  a little-endian field becomes the field of another value (`Dmg1.le_eq`), a checksummed block no longer verifies
  (`Dmg1.seal`).  The one-byte theorems of `Props/C10Bytes`, `Props/C14Bytes`, `Props/C14Length` are case analyses by
  these rules.
-/
namespace RedisVerif
namespace WalBytes

open Wal Concrete

/-- a position inside the encoded entries falls into exactly one entry -/
theorem split_pos (es : List Entry) (q : Nat) (hq : q < (encs es).length) :
    ∃ es₁ e es₂ o, es = es₁ ++ e :: es₂ ∧ q = (encs es₁).length + o ∧ o < e.encode.length := by
  induction es generalizing q with
  | nil => simp [encs] at hq
  | cons e es ih =>
    by_cases h : q < e.encode.length
    · exact ⟨[], e, es, q, rfl, by simp [encs], h⟩
    · rw [encs_cons, List.length_append] at hq
      obtain ⟨es₁, e', es₂, o, he, hq', ho⟩ := ih (q - e.encode.length) (by omega)
      refine ⟨e :: es₁, e', es₂, o, by rw [he]; rfl, ?_, ho⟩
      rw [encs_cons, List.length_append]; omega

theorem encs_set (es₁ : List Entry) (e : Entry) (es₂ : List Entry) (o v : Nat) (ho : o < e.encode.length) :
    (encs (es₁ ++ e :: es₂)).set ((encs es₁).length + o) v = encs es₁ ++ (e.encode.set o v ++ encs es₂) := by
  rw [encs_append, encs_cons, set_append_right, set_append_left _ _ _ _ ho]

theorem le_bytes (k n : Nat) : ∀ x ∈ le k n, x < 256 := bytes_of_allBytes (Bincode.allBytes_le k n)

theorem set_ne_of_getElem_ne {l : Bytes} {i v : Nat} (hi : i < l.length) (hne : l[i] ≠ v) : l.set i v ≠ l :=
  fun h => hne (by have := List.getElem_set_self (l := l) (a := v) (by rwa [List.length_set]); rwa [List.getElem_of_eq h] at this)

/-! ### one overwritten byte, as a relation -/

/-- `y` is `x` with at most one position overwritten by a byte value -/
def Dmg1 (x y : Bytes) : Prop := ∃ i v, v < 256 ∧ y = x.set i v

theorem Dmg1.refl (x : Bytes) : Dmg1 x x :=
  ⟨x.length, 0, by decide, (List.set_eq_of_length_le (Nat.le_refl _)).symm⟩

theorem Dmg1.length {x y : Bytes} (h : Dmg1 x y) : y.length = x.length := by
  obtain ⟨i, v, -, rfl⟩ := h; exact List.length_set

theorem Dmg1.bytes {x y : Bytes} (h : Dmg1 x y) (hb : ∀ b ∈ x, b < 256) : ∀ b ∈ y, b < 256 := by
  obtain ⟨i, v, hv, rfl⟩ := h
  intro b hm
  rcases List.mem_or_eq_of_mem_set hm with h | h
  · exact hb b h
  · rw [h]; exact hv

theorem Dmg1.take {x y : Bytes} (h : Dmg1 x y) (n : Nat) : Dmg1 (x.take n) (y.take n) := by
  obtain ⟨i, v, hv, rfl⟩ := h
  exact ⟨i, v, hv, List.take_set⟩

theorem Dmg1.append_left (a : Bytes) {b b' : Bytes} (h : Dmg1 b b') : Dmg1 (a ++ b) (a ++ b') := by
  obtain ⟨i, v, hv, rfl⟩ := h
  exact ⟨a.length + i, v, hv, (set_append_right a b i v).symm⟩

theorem Dmg1.append_right {a a' : Bytes} (h : Dmg1 a a') (b : Bytes) : Dmg1 (a ++ b) (a' ++ b) := by
  obtain ⟨i, v, hv, rfl⟩ := h
  by_cases hi : i < a.length
  · exact ⟨i, v, hv, (set_append_left a b i v hi).symm⟩
  · rw [List.set_eq_of_length_le (by omega)]; exact Dmg1.refl _

/-- the overwritten position of a concatenation lies in one of its two parts: the case rule that hands over the
    damaged image already cut the same way -/
theorem Dmg1.append {a b y : Bytes} (h : Dmg1 (a ++ b) y) :
    (∃ a', Dmg1 a a' ∧ y = a' ++ b) ∨ ∃ b', Dmg1 b b' ∧ y = a ++ b' := by
  obtain ⟨i, v, hv, rfl⟩ := h
  rw [List.set_append]
  split
  · exact .inl ⟨_, ⟨i, v, hv, rfl⟩, rfl⟩
  · exact .inr ⟨_, ⟨_, v, hv, rfl⟩, rfl⟩

/-- back to a position: nothing changed, or a position inside `x` now holds another value -/
theorem Dmg1.pos {x y : Bytes} (h : Dmg1 x y) :
    y = x ∨ ∃ i v, ∃ hi : i < x.length, v < 256 ∧ x[i] ≠ v ∧ y = x.set i v := by
  obtain ⟨i, v, hv, rfl⟩ := h
  by_cases hs : x.set i v = x
  · exact .inl hs
  · have hi : i < x.length := Nat.lt_of_not_le fun hi => hs (List.set_eq_of_length_le hi)
    exact .inr ⟨i, v, hi, hv, fun heq => hs (by rw [← heq]; exact List.set_getElem_self hi), rfl⟩

/-- CRC-32 tells a string of bytes from the same string with one byte changed -/
theorem Dmg1.crc {x y : Bytes} (h : Dmg1 x y) (hb : ∀ b ∈ x, b < 256) : y = x ∨ Driver.crc32 y ≠ Driver.crc32 x :=
  h.pos.imp id fun ⟨i, v, hi, hv, hne, e⟩ => e ▸ Crc.crc32_detects_set x i v hi hb hv hne

/-- a little-endian field with one byte overwritten is the field of some value: another one, unless nothing changed -/
theorem Dmg1.le_eq {k c : Nat} {y : Bytes} (h : Dmg1 (Wal.le k c) y) :
    ∃ c', y = Wal.le k c' ∧ c' < 256 ^ k ∧ (y = Wal.le k c ∨ c' ≠ c) := by
  have hb := h.bytes (le_bytes k c)
  have hle := Codec.le_leVal _ hb
  have hlt := leVal_lt _ hb
  rw [h.length, le_length] at hle hlt
  exact ⟨_, hle.symm, hlt, (Classical.em _).imp id fun hs heq => hs (by rw [← hle, heq])⟩

/-- so a stored field reads as another value once one of its bytes changes -/
theorem Dmg1.le {k c : Nat} {y : Bytes} (h : Dmg1 (Wal.le k c) y) : y = Wal.le k c ∨ leVal y ≠ c := by
  obtain ⟨c', rfl, hc', h⟩ := h.le_eq
  rwa [leVal_le k c' hc']

/-- a checksummed block `cov ‖ le 4 (crc32 cov)` with one byte overwritten, among the covered bytes or in the
    stored checksum, no longer verifies, unless nothing changed -/
theorem Dmg1.seal {cov y : Bytes} (hb : ∀ b ∈ cov, b < 256) (h : Dmg1 (cov ++ Wal.le 4 (Driver.crc32 cov)) y) :
    y = cov ++ Wal.le 4 (Driver.crc32 cov) ∨
      Driver.crc32 (y.take cov.length) ≠ leVal ((y.drop cov.length).take 4) := by
  have hc := leVal_le 4 _ (by simpa using Crc.crc32_lt cov hb)
  rcases h.append with ⟨cov', hd, rfl⟩ | ⟨c', hd, rfl⟩
  · rw [List.take_left' hd.length, List.drop_left' hd.length, List.take_of_length_le (by rw [le_length]; exact Nat.le_refl 4), hc]
    exact (hd.crc hb).imp (fun h => by rw [h]) id
  · rw [List.take_left' rfl, List.drop_left' rfl, List.take_of_length_le (by rw [hd.length, le_length]; exact Nat.le_refl 4)]
    exact hd.le.imp (fun h => by rw [h]) fun h e => h e.symm

end WalBytes
end RedisVerif
