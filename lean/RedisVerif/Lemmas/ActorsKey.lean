import RedisVerif.Lemmas.Actors
import RedisVerif.Lemmas.Shards

/-!
  Per-key composition: a log that is valid for ONE local executor on one store stays valid when
  restricted to the operations of one key (the easy direction of the locality of linearizability).
-/
namespace RedisVerif
namespace Actors

open NMap Shards

/-! ## request ids grow along a valid log; `keyMap` finds every invocation's key -/

section ids
variable {σ Req Resp : Type}

def IncIds : Nat → List (Ev Req Resp) → Prop
  | _, [] => True
  | n, .inv id _ :: es => n ≤ id ∧ IncIds (id + 1) es
  | n, .lin _ _ :: es => IncIds n es
  | n, .res _ _ :: es => IncIds n es

theorem incIds_mono {n m : Nat} (l : List (Ev Req Resp)) (h : IncIds n l) (hm : m ≤ n) : IncIds m l := by
  induction l generalizing n m with
  | nil => trivial
  | cons e es ih =>
    cases e with
    | inv id req => exact ⟨Nat.le_trans hm h.1, h.2⟩
    | lin id resp | res id resp => exact ih h hm

theorem incIds_mem {n : Nat} (l : List (Ev Req Resp)) (h : IncIds n l) (id : Nat) (req : Req)
    (hm : (.inv id req) ∈ l) : n ≤ id := by
  induction l generalizing n with
  | nil => cases hm
  | cons e es ih =>
    cases e with
    | inv id' req' =>
      rcases List.mem_cons.mp hm with e1 | e1
      · injection e1 with e2 _; rw [e2]; exact h.1
      · exact Nat.le_trans (Nat.le_succ_of_le h.1) (ih h.2 e1)
    | lin id' resp' | res id' resp' =>
      rcases List.mem_cons.mp hm with e1 | e1
      · cases e1
      · exact ih h e1

theorem incIds_history {n : Nat} (l : List (Ev Req Resp)) (h : IncIds n l) : IncIds n (history l) := by
  induction l generalizing n with
  | nil => trivial
  | cons e es ih =>
    cases e with
    | inv id req => exact ⟨h.1, ih h.2⟩
    | lin id resp | res id resp => exact ih h

theorem incIds_of_replay [DecidableEq Resp] (step : σ → Req → σ × Resp) {log : List (Ev Req Resp)}
    {r r' : RState σ Req Resp} (h : replay step r log = some r') : IncIds r.next log := by
  induction h using replay_ind step with
  | nil => trivial
  | cons r e r1 es he _ ih =>
    cases he with
    | inv id req hle => exact ⟨hle, ih⟩
    | lin | res => exact ih

theorem keyMap_get (keyOf : Req → Nat) {n : Nat} (h : List (Ev Req Resp)) (hi : IncIds n h)
    (id : Nat) (req : Req) (hm : (.inv id req) ∈ h) :
    get (keyMap keyOf h) id = some (keyOf req) := by
  induction h generalizing n with
  | nil => cases hm
  | cons e es ih =>
    cases e with
    | inv id' req' =>
      show get (insert id' (keyOf req') (keyMap keyOf es)) id = _
      rw [get_insert]
      rcases List.mem_cons.mp hm with e1 | e1
      · injection e1 with e2 e3; subst e2; subst e3; simp
      · have := incIds_mem es hi.2 id req e1
        rw [if_neg (by omega)]
        exact ih hi.2 e1
    | lin id' resp' | res id' resp' =>
      rcases List.mem_cons.mp hm with e1 | e1
      · cases e1
      · exact ih hi e1

theorem mem_history_of_inv (log : List (Ev Req Resp)) (id : Nat) (req : Req)
    (h : (.inv id req) ∈ log) : (.inv id req) ∈ history log :=
  List.mem_filter.mpr ⟨h, rfl⟩

end ids

section restr
variable {α : Type} (km : NMap Nat) (k : Nat)

/-- `mk` is `m` restricted to the ids of key `k` -/
def Restr (mk m : NMap α) : Prop := ∀ id, get mk id = if get km id = some k then get m id else none

variable {km k} {mk m : NMap α}

theorem Restr.insert (h : Restr km k mk m) (id : Nat) (v : α) :
    Restr km k (if get km id = some k then insert id v mk else mk) (insert id v m) := by
  intro id'
  rw [get_insert]
  by_cases hs : get km id = some k <;> by_cases e : id' = id
  · subst e; rw [if_pos hs, get_insert, if_pos rfl, if_pos hs, if_pos rfl]
  · rw [if_pos hs, get_insert, if_neg e, if_neg e]; exact h id'
  · subst e; rw [if_neg hs, h id', if_neg hs, if_neg hs]
  · rw [if_neg hs, if_neg e]; exact h id'

theorem Restr.erase (h : Restr km k mk m) (wk : WF mk) (w : WF m) (id : Nat) :
    Restr km k (if get km id = some k then erase id mk else mk) (erase id m) := by
  intro id'
  rw [get_erase w]
  by_cases hs : get km id = some k <;> by_cases e : id' = id
  · subst e; rw [if_pos hs, get_erase wk, if_pos rfl, if_pos rfl, ite_self]
  · rw [if_pos hs, get_erase wk, if_neg e, if_neg e]; exact h id'
  · subst e; rw [if_neg hs, h id', if_neg hs, if_neg hs]
  · rw [if_neg hs, if_neg e]; exact h id'

end restr

/-! ## projection of a valid log to one key -/

section proj
variable {S : Sig} {E : Exec S}

theorem singleKey_keyed : ∀ (c : Cmd S), SingleKey c = true → Keyed c = true ∧ keyList c = [cmdKey c]
  | .single _ _, _ | .fastGet _, _ | .fastSet _ _, _ | .batchGet [_], _ | .batchSet [_], _
  | .mget [_], _ | .mset [_], _ | .del [_], _ => ⟨rfl, rfl⟩

/-- what relates the replay of the whole log to the replay of key `k`'s part -/
structure PRel (km : NMap Nat) (k : Nat) (r rk : RState (Store S.Val) (Cmd S) Reply) : Prop where
  wfs : WF r.s
  wfsk : WF rk.s
  agree : get r.s k = get rk.s k
  wfp : WF r.pend
  wfd : WF r.done
  wfpk : WF rk.pend
  wfdk : WF rk.done
  pend : Restr km k rk.pend r.pend
  done : Restr km k rk.done r.done
  next : rk.next ≤ r.next
  ok : ∀ id req, get r.pend id = some req → get km id = some (cmdKey req) ∧ SingleKey req = true

theorem proj_step (hL : E.Local) (km : NMap Nat) (k : Nat) (e : Ev (Cmd S) Reply)
    (r r1 rk : RState (Store S.Val) (Cmd S) Reply) (hrel : PRel km k r rk)
    (hkm : ∀ id req, e = .inv id req → get km id = some (cmdKey req) ∧ SingleKey req = true)
    (he : EvStep E.exec r e r1) :
    if get km e.id = some k then ∃ rk1, EvStep E.exec rk e rk1 ∧ PRel km k r1 rk1
    else PRel km k r1 rk := by
  have hok : ∀ id req, get r1.pend id = some req → get km id = some (cmdKey req) ∧ SingleKey req = true :=
    fun id req hg => (he.pend_of hrel.wfp hg).elim (hrel.ok id req) (hkm id req)
  cases he with
  | inv id req hle =>
    have hp := hrel.pend.insert id req
    show if get km id = some k then _ else _
    split
    · rename_i hs
      rw [if_pos hs] at hp
      exact ⟨_, .inv id req (Nat.le_trans hrel.next hle),
        { hrel with wfp := wf_insert hrel.wfp, wfpk := wf_insert hrel.wfpk, pend := hp,
                    next := Nat.le_refl _, ok := hok }⟩
    · rename_i hs
      rw [if_neg hs] at hp
      exact { hrel with wfp := wf_insert hrel.wfp, pend := hp,
                        next := Nat.le_succ_of_le (Nat.le_trans hrel.next hle), ok := hok }
  | lin id req resp hg hr =>
    obtain ⟨hk1, hk2⟩ := hrel.ok id req hg
    obtain ⟨hkd, hkl⟩ := singleKey_keyed req hk2
    have hp := hrel.pend.erase hrel.wfpk hrel.wfp id
    have hd := hrel.done.insert id resp
    show if get km id = some k then _ else _
    split
    · rename_i hs
      rw [if_pos hs] at hp hd
      -- the command's one key is `k`: both stores answer alike and stay alike on `k`
      have hkk : cmdKey req = k := Option.some.inj (hk1.symm.trans hs)
      have hloc := exec_local hL req hkd r.s rk.s hrel.wfs hrel.wfsk
        (by rw [hkl, hkk]; intro k' hk'; rw [List.mem_singleton.mp hk']; exact hrel.agree)
      exact ⟨_, .lin id req resp ((hrel.pend id).trans ((if_pos hs).trans hg)) (hloc.1 ▸ hr),
        { wfs := exec_wf hL req _ hrel.wfs, wfsk := exec_wf hL req _ hrel.wfsk,
          agree := hloc.2 k (by rw [hkl, hkk]; exact List.mem_singleton.mpr rfl),
          wfp := wf_erase hrel.wfp, wfd := wf_insert hrel.wfd, wfpk := wf_erase hrel.wfpk,
          wfdk := wf_insert hrel.wfdk, pend := hp, done := hd, next := hrel.next, ok := hok }⟩
    · rename_i hs
      rw [if_neg hs] at hp hd
      -- another key: the frame of a keyed command leaves `k` alone
      have hkk : k ∉ keyList req := by rw [hkl, List.mem_singleton]; exact fun e1 => hs (e1 ▸ hk1)
      exact { wfs := exec_wf hL req _ hrel.wfs, wfsk := hrel.wfsk,
              agree := (exec_frame hL req hkd r.s hrel.wfs k hkk).trans hrel.agree,
              wfp := wf_erase hrel.wfp, wfd := wf_insert hrel.wfd, wfpk := hrel.wfpk,
              wfdk := hrel.wfdk, pend := hp, done := hd, next := hrel.next, ok := hok }
  | res id resp hg =>
    have hd := hrel.done.erase hrel.wfdk hrel.wfd id
    show if get km id = some k then _ else _
    split
    · rename_i hs
      rw [if_pos hs] at hd
      exact ⟨_, .res id resp (by rw [hrel.done id, if_pos hs]; exact hg),
        { hrel with wfd := wf_erase hrel.wfd, wfdk := wf_erase hrel.wfdk, done := hd }⟩
    · rename_i hs
      rw [if_neg hs] at hd
      exact { hrel with wfd := wf_erase hrel.wfd, done := hd }

theorem proj_replay (hL : E.Local) (km : NMap Nat) (k : Nat) {log : List (Ev (Cmd S) Reply)}
    {r r' : RState (Store S.Val) (Cmd S) Reply} (h : replay E.exec r log = some r')
    (rk : RState (Store S.Val) (Cmd S) Reply) (hrel : PRel km k r rk)
    (hkm : ∀ id req, (.inv id req) ∈ log → get km id = some (cmdKey req) ∧ SingleKey req = true) :
    ∃ rk', replay E.exec rk (log.filter (fun e => get km e.id == some k)) = some rk' := by
  induction h using replay_ind E.exec generalizing rk with
  | nil => exact ⟨rk, rfl⟩
  | cons r e r1 es he _ ih =>
    have hstep := proj_step hL km k e r r1 rk hrel (fun id req e1 => hkm id req (by simp [e1])) he
    have hkm' : ∀ id req, (.inv id req) ∈ es → get km id = some (cmdKey req) ∧ SingleKey req = true :=
      fun id req hm => hkm id req (by simp [hm])
    rw [List.filter_cons]
    by_cases hs : get km e.id = some k
    · rw [if_pos hs] at hstep
      obtain ⟨rk1, hk1, hrel1⟩ := hstep
      obtain ⟨rk', h'⟩ := ih rk1 hrel1 hkm'
      rw [if_pos (by simp [hs])]
      exact ⟨rk', (replay_cons E.exec).mpr ⟨rk1, hk1, h'⟩⟩
    · rw [if_neg hs] at hstep
      rw [if_neg (by simp [hs])]
      exact ih rk hstep hkm'

/-- **per-key composition**: a log valid for one local executor on one store yields, for every
    key, a valid log of that key's operations (started on the empty store) -/
theorem perKey_of_valid (hL : E.Local) (log : List (Ev (Cmd S) Reply))
    (hv : ValidLog E.exec ([] : Store S.Val) log)
    (hsk : ∀ id req, (.inv id req) ∈ log → SingleKey req = true) :
    PerKeyLinearizable E.exec cmdKey ([] : Store S.Val) (history log) := by
  intro k
  obtain ⟨r', hrep⟩ := (validLog_iff E.exec).mp hv
  have hinc := incIds_history log (incIds_of_replay E.exec hrep)
  let km := keyMap cmdKey (history log)
  have hkm : ∀ id req, (.inv id req) ∈ log → get km id = some (cmdKey req) ∧ SingleKey req = true :=
    fun id req hm => ⟨keyMap_get cmdKey (history log) hinc id req (mem_history_of_inv log id req hm),
      hsk id req hm⟩
  have hrel : PRel km k (initR ([] : Store S.Val)) (initR ([] : Store S.Val)) :=
    { wfs := wf_nil, wfsk := wf_nil, agree := rfl, wfp := wf_nil, wfd := wf_nil, wfpk := wf_nil,
      wfdk := wf_nil, pend := by intro id; simp [initR], done := by intro id; simp [initR],
      next := Nat.le_refl _, ok := by intro id req hg; cases hg }
  refine ⟨log.filter (fun e => get km e.id == some k), ?_, (validLog_iff E.exec).mpr (proj_replay hL km k hrep _ hrel hkm)⟩
  unfold history projKey
  rw [List.filter_filter, List.filter_filter]
  apply List.filter_congr
  intro e _
  exact Bool.and_comm _ _

end proj

end Actors
end RedisVerif
