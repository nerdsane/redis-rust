import RedisVerif.Model.Wal
import RedisVerif.Lemmas.HashBytes

/-!
  `Model/Wal.lean`: the little-endian fields (`le` / `leVal` are inverse on `k` bytes), the entry codec
  (`decode (encode e ++ rest)`), what `fileEntries` reads from a clean, cut or damaged image (always a
  prefix of the appended entries), recovery / truncation over a directory of files, and file names
  (listing order is sequence order for sequences below `2^32`).
-/
namespace RedisVerif.Wal

/-! ## little-endian fields, the entry codec -/

theorem le_length (k v : Nat) : (le k v).length = k := by
  induction k generalizing v with
  | zero => rfl
  | succ k ih => simp [le, ih]

theorem leVal_le (k v : Nat) (h : v < 256 ^ k) : leVal (le k v) = v := by
  induction k generalizing v with
  | zero => simp at h; subst h; rfl
  | succ k ih =>
    simp only [le, leVal]
    have : v / 256 < 256 ^ k := by
      rw [Nat.div_lt_iff_lt_mul (by decide)]; rw [Nat.pow_succ] at h; exact h
    rw [ih _ this]; omega

theorem leVal_lt (bs : Bytes) (hb : ∀ b ∈ bs, b < 256) : leVal bs < 256 ^ bs.length := by
  induction bs with
  | nil => simp [leVal]
  | cons b bs ih =>
    have h0 := hb b (by simp)
    have h1 := ih (fun x hx => hb x (by simp [hx]))
    simp only [leVal, List.length_cons, Nat.pow_succ]
    omega

theorem leVal_replicate_zero (n : Nat) : leVal (List.replicate n 0) = 0 := by
  induction n with
  | zero => rfl
  | succ n ih => simp [List.replicate_succ, leVal, ih]

theorem encode_length (e : Entry) : e.encode.length = overhead + e.data.length := by
  simp [Entry.encode, le_length, overhead]; omega

theorem hdr_fields (n t c : Nat) (rest : Bytes) :
    let bs := le 4 n ++ (le 8 t ++ (le 4 c ++ rest))
    bs.take 4 = le 4 n ∧ (bs.drop 4).take 8 = le 8 t ∧ (bs.drop 12).take 4 = le 4 c ∧
      bs.drop 16 = rest ∧ bs.length = 16 + rest.length := by
  intro bs
  have h4 : (le 4 n).length = 4 := le_length _ _
  have h8 : (le 8 t).length = 8 := le_length _ _
  have h4c : (le 4 c).length = 4 := le_length _ _
  have d4 : bs.drop 4 = le 8 t ++ (le 4 c ++ rest) := List.drop_left' h4
  have d12 : bs.drop 12 = le 4 c ++ rest := by
    have : bs.drop 12 = (bs.drop 4).drop 8 := by rw [List.drop_drop]
    rw [this, d4]; exact List.drop_left' h8
  have d16 : bs.drop 16 = rest := by
    have : bs.drop 16 = (bs.drop 12).drop 4 := by rw [List.drop_drop]
    rw [this, d12]; exact List.drop_left' h4c
  refine ⟨List.take_left' h4, ?_, ?_, d16, ?_⟩
  · rw [d4]; exact List.take_left' h8
  · rw [d12]; exact List.take_left' h4c
  · simp [bs, h4, h8, h4c]; omega

theorem decode_hdr (fmt : Format) (crc : Bytes → Nat) (n t c : Nat) (body : Bytes)
    (hn : n < 2 ^ 32) (ht : t < 2 ^ 64) (hc : c < 2 ^ 32) :
    decode fmt crc (le 4 n ++ (le 8 t ++ (le 4 c ++ body))) =
      if fmt = .v2 ∧ n = 0 then none
      else if body.length < n then none
      else if crc (covered fmt n t (body.take n)) = c
        then some (⟨body.take n, t, c⟩, overhead + n) else none := by
  obtain ⟨f1, f2, f3, f4, f5⟩ := hdr_fields n t c body
  unfold decode
  simp only [f1, f2, f3, f4, f5, overhead]
  rw [leVal_le 4 _ (by simpa using hn), leVal_le 8 _ (by simpa using ht), leVal_le 4 _ (by simpa using hc)]
  rw [if_neg (by omega)]
  by_cases hz : fmt = .v2 ∧ n = 0
  · rw [if_pos hz, if_pos hz]
  · rw [if_neg hz, if_neg hz]
    by_cases h : body.length < n
    · rw [if_pos (by omega), if_pos h]
    · rw [if_neg (by omega), if_neg h]

/-- an entry as `from_delta` makes them: fits the field widths, carries the checksum of what
    the format covers, and (v2) is not empty -/
def Entry.Good (fmt : Format) (crc : Bytes → Nat) (e : Entry) : Prop :=
  e.Fits ∧ e.Valid fmt crc ∧ (fmt = .v2 → e.data.length ≠ 0)

instance (fmt : Format) (crc : Bytes → Nat) : DecidablePred (Entry.Good fmt crc) := fun e => by
  unfold Entry.Good; infer_instance

theorem decode_encode (fmt : Format) (crc : Bytes → Nat) (e : Entry) (rest : Bytes)
    (hg : e.Good fmt crc) :
    decode fmt crc (e.encode ++ rest) = some (e, e.size) := by
  obtain ⟨⟨hl, ht, hc⟩, hv, hne⟩ := hg
  have heq : e.encode ++ rest = le 4 e.data.length ++ (le 8 e.ts ++ (le 4 e.crc ++ (e.data ++ rest))) := by
    simp [Entry.encode]
  rw [heq, decode_hdr fmt crc _ _ _ _ hl ht hc, if_neg (fun h => hne h.1 h.2), if_neg (by simp),
    List.take_left' rfl]
  unfold Entry.Valid at hv
  rw [if_pos hv]; rfl

theorem encode_take (e : Entry) (k : Nat) :
    e.encode.take (16 + k) = le 4 e.data.length ++ (le 8 e.ts ++ (le 4 e.crc ++ e.data.take k)) := by
  have h16 : (le 4 e.data.length ++ (le 8 e.ts ++ le 4 e.crc)).length = 16 := by simp [le_length]
  have henc : e.encode = (le 4 e.data.length ++ (le 8 e.ts ++ le 4 e.crc)) ++ e.data := by
    simp [Entry.encode]
  rw [henc, ← h16, List.take_length_add_append]
  simp only [List.append_assoc]

theorem decode_torn (fmt : Format) (crc : Bytes → Nat) (e : Entry) (k : Nat) (hf : e.Fits)
    (hk : k < e.encode.length) : decode fmt crc (e.encode.take k) = none := by
  obtain ⟨hl, ht, hc⟩ := hf
  by_cases h16 : k < 16
  · unfold decode
    rw [if_pos (by simp [overhead]; omega)]
  · have hk' : k < 16 + e.data.length := by rw [encode_length] at hk; simpa [overhead] using hk
    rw [show k = 16 + (k - 16) by omega, encode_take, decode_hdr fmt crc _ _ _ _ hl ht hc]
    split
    · rfl
    · rw [if_pos (by rw [List.length_take]; omega)]

/-! ## the reader loop -/

def AllOk (fmt : Format) (crc : Bytes → Nat) (es : List Entry) : Prop := ∀ e ∈ es, e.Good fmt crc

instance (fmt : Format) (crc : Bytes → Nat) (es : List Entry) : Decidable (AllOk fmt crc es) := by
  unfold AllOk; infer_instance

theorem encs_nil : encs [] = [] := rfl
theorem encs_cons (e : Entry) (es : List Entry) : encs (e :: es) = e.encode ++ encs es := rfl
theorem encs_append (a b : List Entry) : encs (a ++ b) = encs a ++ encs b := by
  simp [encs]

theorem decode_size_pos {fmt : Format} {crc : Bytes → Nat} {bs : Bytes} {e : Entry} {n : Nat}
    (h : decode fmt crc bs = some (e, n)) : overhead ≤ n ∧ n ≤ bs.length := by
  unfold decode at h
  split at h
  · cases h
  · simp only at h
    split at h
    · cases h
    · split at h
      · cases h
      · split at h
        · cases h; constructor <;> omega
        · cases h

theorem entriesAux_fuel (fmt : Format) (crc : Bytes → Nat) (f : Nat) (bs : Bytes) (h : bs.length ≤ f) :
    entriesAux fmt crc f bs = entriesAux fmt crc bs.length bs := by
  induction f using Nat.strongRecOn generalizing bs with
  | _ f ih =>
    cases f with
    | zero =>
      have : bs.length = 0 := by omega
      rw [this]
    | succ f =>
      cases hb : bs.length with
      | zero =>
        have hnil : bs = [] := List.length_eq_zero_iff.mp hb
        subst hnil
        simp [entriesAux, decode, overhead]
      | succ m =>
        simp only [entriesAux]
        cases hd : decode fmt crc bs with
        | none => rfl
        | some p =>
          obtain ⟨e, n⟩ := p
          have ⟨h1, h2⟩ := decode_size_pos hd
          simp only
          have hl : (bs.drop n).length ≤ m := by rw [List.length_drop]; unfold overhead at h1; omega
          rw [ih f (by omega) _ (by omega), ih m (by omega) _ hl]

theorem entries_step (fmt : Format) (crc : Bytes → Nat) (bs : Bytes) :
    entries fmt crc bs =
      match decode fmt crc bs with
      | none => []
      | some (e, n) => e :: entries fmt crc (bs.drop n) := by
  unfold entries
  cases hb : bs.length with
  | zero =>
    have hnil : bs = [] := List.length_eq_zero_iff.mp hb
    subst hnil
    simp [entriesAux, decode, overhead]
  | succ m =>
    simp only [entriesAux]
    cases hd : decode fmt crc bs with
    | none => rfl
    | some p =>
      obtain ⟨e, n⟩ := p
      have ⟨h1, h2⟩ := decode_size_pos hd
      simp only
      rw [entriesAux_fuel fmt crc m _ (by rw [List.length_drop]; unfold overhead at h1; omega)]

theorem entries_encs_append (fmt : Format) (crc : Bytes → Nat) (es : List Entry) (tail : Bytes)
    (hok : AllOk fmt crc es) : entries fmt crc (encs es ++ tail) = es ++ entries fmt crc tail := by
  induction es with
  | nil => simp [encs]
  | cons e es ih =>
    have he := hok e (by simp)
    rw [encs_cons, List.append_assoc, entries_step, decode_encode fmt crc e _ he]
    simp only
    rw [Entry.size, ← encode_length, List.drop_left' rfl, ih (fun x hx => hok x (by simp [hx]))]
    rfl

theorem entries_of_decode_none (fmt : Format) (crc : Bytes → Nat) (bs : Bytes) (h : decode fmt crc bs = none) :
    entries fmt crc bs = [] := by
  rw [entries_step, h]

theorem entries_encs (fmt : Format) (crc : Bytes → Nat) (es : List Entry) (hok : AllOk fmt crc es) :
    entries fmt crc (encs es) = es := by
  have := entries_encs_append fmt crc es [] hok
  simpa [entries_of_decode_none fmt crc [] (by simp [decode, overhead])] using this


/-- a cut image reads as the first `k` entries, and those lie within the cut -/
theorem entries_take_encs (fmt : Format) (crc : Bytes → Nat) (es : List Entry) (hok : AllOk fmt crc es) (n : Nat) :
    ∃ k, entries fmt crc ((encs es).take n) = es.take k ∧ (encs (es.take k)).length ≤ n := by
  induction es generalizing n with
  | nil => exact ⟨0, by simp [encs, entries_of_decode_none fmt crc [] (by simp [decode, overhead])], Nat.zero_le _⟩
  | cons e es ih =>
    have he := hok e (by simp)
    rw [encs_cons, List.take_append]
    by_cases hn : n < e.encode.length
    · refine ⟨0, ?_, Nat.zero_le _⟩
      have h0 : n - e.encode.length = 0 := by omega
      rw [h0, List.take_zero, List.append_nil,
        entries_of_decode_none fmt crc _ (decode_torn fmt crc e n he.1 hn)]
      rfl
    · obtain ⟨k, hk, hl⟩ := ih (fun x hx => hok x (by simp [hx])) (n - e.encode.length)
      refine ⟨k + 1, ?_, by rw [List.take_succ_cons, encs_cons, List.length_append]; omega⟩
      rw [List.take_of_length_le (by omega), entries_step, decode_encode fmt crc e _ he]
      simp only
      rw [Entry.size, ← encode_length, List.drop_left' rfl, hk]
      rfl

/-- … and a longer cut reads at least as much -/
theorem entries_take_mono (fmt : Format) (crc : Bytes → Nat) (es : List Entry) (hok : AllOk fmt crc es) {m n : Nat}
    (hmn : m ≤ n) : ∀ x ∈ entries fmt crc ((encs es).take m), x ∈ entries fmt crc ((encs es).take n) := by
  obtain ⟨k, hk, hl⟩ := entries_take_encs fmt crc es hok m
  rw [hk]
  have : (encs es).take n = encs (es.take k) ++ (encs (es.drop k)).take (n - (encs (es.take k)).length) := by
    rw [← List.take_append_drop k es, encs_append, List.take_append,
      List.take_of_length_le (Nat.le_trans hl hmn), List.take_append_drop]
  rw [this, entries_encs_append fmt crc _ _ fun x hx => hok x (List.mem_of_mem_take hx)]
  exact fun x hx => List.mem_append_left _ hx

/-! ## file header, what a file contributes -/

theorem header_length (fmt : Format) (seq : Nat) : (header fmt seq).length = overhead := by
  simp [header, magic, le_length, overhead]

theorem openFile_header (fmt : Format) (seq : Nat) (rest : Bytes) (hs : seq < 2 ^ 64) :
    openFile fmt (header fmt seq ++ rest) = some seq := by
  unfold openFile
  have hl : (header fmt seq ++ rest).length = 16 + rest.length := by
    rw [List.length_append, header_length, overhead]
  rw [if_neg (by rw [hl]; unfold overhead; omega)]
  have h1 : (header fmt seq ++ rest).take 4 = magic := by
    unfold header; rw [List.append_assoc]; exact List.take_left' rfl
  have h2 : ((header fmt seq ++ rest).drop 4).head? = some fmt.version := by
    unfold header; rw [List.append_assoc, List.drop_left' (by rfl)]; rfl
  have h3 : ((header fmt seq ++ rest).drop 8).take 8 = le 8 seq := by
    have : header fmt seq ++ rest = (magic ++ [fmt.version, 0, 0, 0]) ++ (le 8 seq ++ rest) := by
      simp [header]
    rw [this, List.drop_left' (by rfl)]
    exact List.take_left' (le_length _ _)
  rw [if_neg (by rw [h1]; simp), if_neg (by rw [h2]; simp), h3, leVal_le 8 _ (by simpa using hs)]

theorem openFile_short (fmt : Format) (bs : Bytes) (h : bs.length < overhead) : openFile fmt bs = none := by
  unfold openFile; rw [if_pos h]

theorem fileEntries_hdr (fmt : Format) (crc : Bytes → Nat) (h body : Bytes) (hl : h.length = 16) :
    fileEntries fmt crc (h ++ body) =
      if h.take 4 = magic ∧ (h.drop 4).head? = some fmt.version then entries fmt crc body else [] := by
  unfold fileEntries readFile openFile
  have h1 : (h ++ body).take 4 = h.take 4 := by
    rw [List.take_append_of_le_length (by omega)]
  have h2 : ((h ++ body).drop 4).head? = (h.drop 4).head? := by
    rw [List.drop_append_of_le_length (by omega)]
    cases hd : h.drop 4 with
    | nil => have := congrArg List.length hd; simp at this; omega
    | cons x xs => rfl
  rw [if_neg (by simp [overhead]; omega), h1, h2]
  by_cases hm : h.take 4 = magic
  · by_cases hv : (h.drop 4).head? = some fmt.version
    · rw [if_neg (by simp [hm]), if_neg (by simp [hv]), if_pos ⟨hm, hv⟩]
      simp only
      have : overhead = h.length := by rw [hl]; rfl
      rw [this, List.drop_left' rfl]
    · rw [if_neg (by simp [hm]), if_pos hv, if_neg (fun h => hv h.2)]
  · rw [if_pos hm, if_neg (fun h => hm h.1)]

/-- the reader does not look at the sequence field -/
theorem fileEntries_image (fmt : Format) (crc : Bytes → Nat) (seq : Nat) (tail : Bytes) :
    fileEntries fmt crc (header fmt seq ++ tail) = entries fmt crc tail := by
  rw [fileEntries_hdr fmt crc _ _ (header_length fmt seq), if_pos ⟨rfl, rfl⟩]

theorem fileEntries_clean (fmt : Format) (crc : Bytes → Nat) (seq : Nat) (es : List Entry) (hok : AllOk fmt crc es) :
    fileEntries fmt crc (header fmt seq ++ encs es) = es := by
  rw [fileEntries_image, entries_encs fmt crc es hok]

theorem fileEntries_nil (fmt : Format) (crc : Bytes → Nat) : fileEntries fmt crc [] = [] := by
  unfold fileEntries readFile openFile; rfl

theorem fileEntries_take_eq (fmt : Format) (crc : Bytes → Nat) (seq : Nat) (es : List Entry) (n : Nat) :
    fileEntries fmt crc ((header fmt seq ++ encs es).take n) =
      if n < overhead then [] else entries fmt crc ((encs es).take (n - overhead)) := by
  split
  · unfold fileEntries readFile
    rw [openFile_short fmt _ (by rw [List.length_take]; omega)]
  · rw [List.take_append, List.take_of_length_le (by rw [header_length]; omega),
      fileEntries_image, header_length]

theorem fileEntries_take (fmt : Format) (crc : Bytes → Nat) (seq : Nat) (es : List Entry)
    (hok : AllOk fmt crc es) (n : Nat) :
    ∃ k, fileEntries fmt crc ((header fmt seq ++ encs es).take n) = es.take k := by
  rw [fileEntries_take_eq]
  split
  · exact ⟨0, rfl⟩
  · exact (entries_take_encs fmt crc es hok _).imp fun _ h => h.1

/-- what a cut of a clean image yields, a longer cut yields too -/
theorem fileEntries_take_mono (fmt : Format) (crc : Bytes → Nat) (seq : Nat) (es : List Entry)
    (hok : AllOk fmt crc es) {m n : Nat} (hmn : m ≤ n) :
    ∀ x ∈ fileEntries fmt crc ((header fmt seq ++ encs es).take m),
      x ∈ fileEntries fmt crc ((header fmt seq ++ encs es).take n) := by
  rw [fileEntries_take_eq, fileEntries_take_eq]
  split
  · exact fun x hx => by cases hx
  · rw [if_neg (by omega)]
    exact entries_take_mono fmt crc es hok (by omega)

/-! ## recovery and truncation over an image -/

theorem le_maxTs {es : List Entry} {e : Entry} (h : e ∈ es) : e.ts ≤ maxTs es := by
  induction es with
  | nil => cases h
  | cons x xs ih =>
    simp only [maxTs, List.foldr_cons]
    rcases List.mem_cons.mp h with rfl | h'
    · exact Nat.le_max_left _ _
    · exact Nat.le_trans (ih h') (Nat.le_max_right _ _)

theorem deletable_ts (fmt : Format) (crc : Bytes → Nat) (thr : Nat) (bs : Bytes)
    (h : deletable fmt crc thr bs = true) : ∀ e ∈ fileEntries fmt crc bs, e.ts ≤ thr := by
  intro e he
  unfold deletable at h
  unfold fileEntries at he
  cases hr : readFile fmt crc bs with
  | none => rw [hr] at he; cases he
  | some es =>
    rw [hr] at h he
    simp only [Bool.or_eq_true, List.isEmpty_iff, decide_eq_true_eq] at h he
    rcases h with h | h
    · subst h; cases he
    · exact Nat.le_trans (le_maxTs he) h

theorem deletable_filter (fmt : Format) (crc : Bytes → Nat) (T : Nat) (bs : Bytes)
    (h : deletable fmt crc T bs = true) :
    (fileEntries fmt crc bs).filter (fun e => decide (T < e.ts)) = [] := by
  rw [List.filter_eq_nil_iff]
  intro e he
  have := deletable_ts fmt crc T bs h e he
  simp only [decide_eq_true_eq]
  omega

theorem recoverAll_cons (fmt : Format) (crc : Bytes → Nat) (p : Nat × Bytes) (img : Image) :
    recoverAll fmt crc (p :: img) = fileEntries fmt crc p.2 ++ recoverAll fmt crc img := rfl

theorem recoverAll_append (fmt : Format) (crc : Bytes → Nat) (a b : Image) :
    recoverAll fmt crc (a ++ b) = recoverAll fmt crc a ++ recoverAll fmt crc b := by
  simp [recoverAll]

/-! ### `allSome`: every element decodes, or the call fails -/

theorem allSome_eq_map {α β : Type} (f : α → Option β) (g : α → β) (l : List α) (h : ∀ a ∈ l, f a = some (g a)) :
    allSome f l = some (l.map g) := by
  induction l with
  | nil => rfl
  | cons x xs ih =>
    simp only [allSome, h x (by simp), ih (fun a ha => h a (List.mem_cons_of_mem _ ha)), List.map_cons]

theorem allSome_of_forall {α β : Type} (f : α → Option β) (l : List α) (h : ∀ a ∈ l, ∃ b, f a = some b) :
    ∃ bs, allSome f l = some bs ∧ (∀ a ∈ l, ∀ b, f a = some b → b ∈ bs) ∧ (∀ b ∈ bs, ∃ a ∈ l, f a = some b) := by
  induction l with
  | nil => exact ⟨[], rfl, (fun _ ha => by cases ha), (fun _ hb => by cases hb)⟩
  | cons x xs ih =>
    obtain ⟨b, hb⟩ := h x (by simp)
    obtain ⟨bs, hbs, h1, h2⟩ := ih (fun a ha => h a (List.mem_cons_of_mem _ ha))
    refine ⟨b :: bs, by simp only [allSome, hb, hbs], ?_, ?_⟩
    · intro a ha b' hb'
      rcases List.mem_cons.mp ha with rfl | ha
      · rw [hb] at hb'; cases hb'; simp
      · exact List.mem_cons_of_mem _ (h1 a ha b' hb')
    · intro b' hb'
      rcases List.mem_cons.mp hb' with rfl | hb'
      · exact ⟨x, by simp, hb⟩
      · obtain ⟨a, ha, hfa⟩ := h2 b' hb'
        exact ⟨a, List.mem_cons_of_mem _ ha, hfa⟩

theorem allSome_none_of_mem {α β : Type} (f : α → Option β) (l : List α) (a : α)
    (ha : a ∈ l) (hf : f a = none) : allSome f l = none := by
  induction l with
  | nil => cases ha
  | cons x xs ih =>
    simp only [allSome]
    rcases List.mem_cons.mp ha with rfl | h
    · rw [hf]
    · cases f x with
      | none => rfl
      | some v => simp only; rw [ih h]

/-! ## names: listing order vs sequence order -/

theorem hexChar_mono {a b : Nat} (hb : b < 16) (h : a < b) : hexChar a < hexChar b := by
  unfold hexChar
  split <;> split <;> omega

theorem hexChar_lt {a b : Nat} (ha : a < 16) (hb : b < 16) : (hexChar a < hexChar b ↔ a < b) ∧ (hexChar a = hexChar b ↔ a = b) := by
  have hlt : ∀ {x y : Nat}, x < 16 → y < 16 → hexChar x < hexChar y → x < y := fun {x y} hx hy h =>
    Nat.lt_of_not_le fun hle => by
      rcases Nat.lt_or_eq_of_le hle with h' | h'
      · exact Nat.lt_asymm h (hexChar_mono hx h')
      · rw [h'] at h; exact Nat.lt_irrefl _ h
  refine ⟨⟨hlt ha hb, hexChar_mono hb⟩, fun h => ?_, fun h => by rw [h]⟩
  rcases Nat.lt_trichotomy a b with h' | h' | h'
  · exact absurd h (Nat.ne_of_lt (hexChar_mono hb h'))
  · exact h'
  · exact absurd h.symm (Nat.ne_of_lt (hexChar_mono ha h'))

theorem nameLt_irrefl (s : Name) : nameLt s s = false := by
  induction s with
  | nil => rfl
  | cons a s ih => simp [nameLt, ih]

theorem lt_iff_div_mod (a b m : Nat) (hm : 0 < m) :
    a < b ↔ a / m < b / m ∨ (a / m = b / m ∧ a % m < b % m) := by
  have ha := Nat.div_add_mod a m
  have hb := Nat.div_add_mod b m
  have hra := Nat.mod_lt a hm
  have hrb := Nat.mod_lt b hm
  constructor
  · intro h
    by_cases hq : a / m < b / m
    · exact Or.inl hq
    · right
      have hqe : a / m = b / m := by
        apply Nat.le_antisymm
        · exact Nat.div_le_div_right (Nat.le_of_lt h)
        · omega
      refine ⟨hqe, ?_⟩
      rw [hqe] at ha
      omega
  · rintro (h | ⟨h1, h2⟩)
    · have := Nat.mul_le_mul_left m (Nat.succ_le_of_lt h)
      rw [Nat.mul_succ] at this
      omega
    · rw [h1] at ha; omega

theorem nameLt_hexW (w a b : Nat) (ha : a < 16 ^ w) (hb : b < 16 ^ w) :
    nameLt (hexW w a) (hexW w b) = decide (a < b) := by
  induction w generalizing a b with
  | zero => simp at ha hb; subst ha; subst hb; rfl
  | succ w ih =>
    have hm : 0 < 16 ^ w := Nat.pow_pos (by decide)
    have hqa : a / 16 ^ w < 16 := by
      rw [Nat.div_lt_iff_lt_mul hm]; rw [Nat.pow_succ] at ha; omega
    have hqb : b / 16 ^ w < 16 := by
      rw [Nat.div_lt_iff_lt_mul hm]; rw [Nat.pow_succ] at hb; omega
    simp only [hexW, nameLt, Nat.mod_eq_of_lt hqa, Nat.mod_eq_of_lt hqb]
    rw [ih _ _ (Nat.mod_lt a hm) (Nat.mod_lt b hm)]
    have hc := hexChar_lt hqa hqb
    have key := lt_iff_div_mod a b (16 ^ w) hm
    by_cases h1 : a / 16 ^ w < b / 16 ^ w
    · have : a < b := key.mpr (Or.inl h1)
      simp [hc.1.mpr h1, this]
    · by_cases h2 : a / 16 ^ w = b / 16 ^ w
      · have heq : hexChar (a / 16 ^ w) = hexChar (b / 16 ^ w) := hc.2.mpr h2
        simp only [heq, Nat.lt_irrefl, decide_false, Bool.false_or, beq_self_eq_true, Bool.true_and]
        by_cases h3 : a % 16 ^ w < b % 16 ^ w
        · simp [h3, key.mpr (Or.inr ⟨h2, h3⟩)]
        · have : ¬ a < b := fun h => by
            rcases key.mp h with h | h
            · exact h1 h
            · exact h3 h.2
          simp [h3, this]
      · have hne : ¬ hexChar (a / 16 ^ w) < hexChar (b / 16 ^ w) := fun h => h1 (hc.1.mp h)
        have hne2 : ¬ hexChar (a / 16 ^ w) = hexChar (b / 16 ^ w) := fun h => h2 (hc.2.mp h)
        have : ¬ a < b := fun h => by
          rcases key.mp h with h | h
          · exact h1 h
          · exact h2 h.1
        simp [hne, hne2, this]

theorem nameLt_append_left (p x y : Name) : nameLt (p ++ x) (p ++ y) = nameLt x y := by
  induction p with
  | nil => rfl
  | cons a p ih => simp [nameLt, ih]

theorem nameLt_append_right (x y s : Name) (hl : x.length = y.length) :
    nameLt (x ++ s) (y ++ s) = nameLt x y := by
  induction x generalizing y with
  | nil =>
    cases y with
    | nil => simp [nameLt_irrefl, nameLt]
    | cons b y => simp at hl
  | cons a x ih =>
    cases y with
    | nil => simp at hl
    | cons b y =>
      simp only [List.length_cons, Nat.add_right_cancel_iff] at hl
      simp only [List.cons_append, nameLt, ih y hl]

theorem hexW_length (w n : Nat) : (hexW w n).length = w := by
  induction w generalizing n with
  | zero => rfl
  | succ w ih => simp [hexW, ih]

theorem walName_small (a : Nat) (ha : a < 2 ^ 32) : walName a = walPrefix ++ (hexW 8 a ++ walSuffix) := by
  unfold walName
  have : Nat.max 8 (hexDigits a) = 8 := by
    unfold hexDigits
    split
    · rfl
    · rename_i h0
      have := (Nat.log2_lt h0 (k := 32)).mpr ha
      apply Nat.max_eq_left
      omega
  rw [this]

/-! ## directories -/

theorem sortBySeq_eq_isort (l : List (Nat × Bytes)) :
    sortBySeq l = HB.isort (fun x y => decide (x.1 ≤ y.1)) l := by
  rw [sortBySeq, HB.eq_insertBy (ins := insertBySeq) (le := fun x y => decide (x.1 ≤ y.1)) (fun _ => rfl)
    (fun _ _ _ => by simp only [insertBySeq, decide_eq_true_eq])]; rfl

theorem mem_sortBySeq (y : Nat × Bytes) (l : List (Nat × Bytes)) : y ∈ sortBySeq l ↔ y ∈ l := by
  rw [sortBySeq_eq_isort]; exact HB.mem_isort

theorem mem_recoverAllD (fmt : Format) (crc : Bytes → Nat) (dir : Dir) (e : Entry) :
    e ∈ recoverAllD fmt crc dir ↔
      ∃ p ∈ dir, (parseSeq p.1).isSome ∧ e ∈ fileEntries fmt crc p.2 := by
  unfold recoverAllD recoverAll
  rw [List.mem_flatMap]
  constructor
  · rintro ⟨q, hq, he⟩
    rw [mem_sortBySeq] at hq
    unfold walFiles at hq
    rw [List.mem_filterMap] at hq
    obtain ⟨p, hp, hpq⟩ := hq
    cases hs : parseSeq p.1 with
    | none => rw [hs] at hpq; cases hpq
    | some s =>
      rw [hs] at hpq
      simp only [Option.map_some, Option.some.injEq] at hpq
      subst hpq
      exact ⟨p, hp, by rw [hs]; rfl, he⟩
  · rintro ⟨p, hp, hs, he⟩
    cases hs' : parseSeq p.1 with
    | none => rw [hs'] at hs; cases hs
    | some s =>
      refine ⟨(s, p.2), ?_, he⟩
      rw [mem_sortBySeq]
      unfold walFiles
      rw [List.mem_filterMap]
      exact ⟨p, hp, by rw [hs']; rfl⟩

end RedisVerif.Wal
