import RedisVerif.Model.Stream
import RedisVerif.Lemmas.NMap
import RedisVerif.Lemmas.RVCarrier
import RedisVerif.Lemmas.HashBytes

/-!
  Lemmas about M4 that C11, C12 and C13 share:
  * the stable sort `sortBy` keeps exactly the elements;
  * `foldState` is, key by key, the `fold1` of `RV.merge` over the values of that key;
  * a `Carrier` assigns to every key a carrier of `RVCarrier`; `InCar c l`: every update of `l`
    lives in the carrier of its key; there `foldState` depends only on the set of updates (that
    `InCar` survives "replace some updates of a key by their merge", which is what compaction
    does, is `replaced_inCar` in `Lemmas/StreamFold.lean`);
  * `Coherent l` (decidable) induces such a carrier (`carrierOf`).
-/
namespace RedisVerif
namespace Stream

open FoldACI

/-- `sort_by_key` is the generic insertion sort under `key a ≤ key b` -/
theorem insertBy_eq {α : Type} (key : α → Nat) :
    insertBy key = HB.insertBy (fun a b => decide (key a ≤ key b)) := by
  funext x l
  induction l with
  | nil => rfl
  | cons y ys ih =>
    simp only [insertBy, HB.insertBy, ih, decide_eq_true_eq]
    by_cases hlt : key y < key x
    · rw [if_pos hlt, if_neg (by omega)]
    · rw [if_neg hlt, if_pos (by omega)]

theorem sortBy_eq_isort {α : Type} (key : α → Nat) (l : List α) :
    sortBy key l = HB.isort (fun a b => decide (key a ≤ key b)) l := by
  rw [sortBy, insertBy_eq]; rfl

theorem mem_insertBy {α : Type} (key : α → Nat) (x y : α) (l : List α) :
    y ∈ insertBy key x l ↔ y = x ∨ y ∈ l := by
  rw [insertBy_eq]
  exact (HB.insertBy_perm _ x l).mem_iff.trans List.mem_cons

theorem mem_sortBy {α : Type} (key : α → Nat) (y : α) (l : List α) :
    y ∈ sortBy key l ↔ y ∈ l :=
  sortBy_eq_isort key l ▸ HB.mem_isort

theorem length_sortBy {α : Type} (key : α → Nat) (l : List α) : (sortBy key l).length = l.length :=
  sortBy_eq_isort key l ▸ (HB.isort_perm _ l).length_eq

theorem sortBy_sorted {α : Type} (key : α → Nat) (l : List α) :
    (sortBy key l).Pairwise (fun a b => key a ≤ key b) := by
  rw [sortBy_eq_isort]
  refine (HB.sorted_isort (le := fun a b => decide (key a ≤ key b)) ?_ ?_ l).imp of_decide_eq_true
  · intro a b; simp only [decide_eq_true_eq]; omega
  · intro a b c h1 h2; simp only [decide_eq_true_eq] at *; omega

/-- `add_segment`'s sorted insert is the stable insert by id -/
theorem insertSeg_eq_insertBy (info : SegInfo) (l : List SegInfo) :
    Manifest.insertSeg info l = insertBy (·.id) info l := by
  induction l with
  | nil => rfl
  | cons s l ih => simp only [Manifest.insertSeg, insertBy, ih]

theorem mem_insertSeg (info : SegInfo) (l : List SegInfo) (s : SegInfo) :
    s ∈ Manifest.insertSeg info l ↔ s = info ∨ s ∈ l := by
  rw [insertSeg_eq_insertBy]
  exact mem_insertBy _ _ _ _

theorem pairwise_insertSeg {info : SegInfo} {l : List SegInfo}
    (hl : l.Pairwise (fun a b => a.id < b.id)) (hne : ∀ s ∈ l, s.id ≠ info.id) :
    (Manifest.insertSeg info l).Pairwise (fun a b => a.id < b.id) := by
  induction l with
  | nil => simp [Manifest.insertSeg]
  | cons t l ih =>
    have ⟨ht, hl'⟩ := List.pairwise_cons.mp hl
    simp only [Manifest.insertSeg]
    split
    · rename_i hlt
      apply List.pairwise_cons.mpr
      refine ⟨?_, ih hl' (fun s hs => hne s (by simp [hs]))⟩
      intro s hs
      rcases (mem_insertSeg info l s).mp hs with h | h
      · subst h; exact hlt
      · exact ht s h
    · rename_i hnlt
      have hne_t := hne t (by simp)
      have hlt : info.id < t.id := by omega
      apply List.pairwise_cons.mpr
      refine ⟨?_, hl⟩
      intro s hs
      cases hs with
      | head => exact hlt
      | tail _ hs' => exact Nat.lt_trans hlt (ht s hs')

/-! ### per-key view of `foldState` -/

/-- the values a list of updates carries for key `k`, in order -/
def vals (k : Nat) (l : List Delta) : List RV :=
  l.filterMap (fun p => if p.1 = k then some p.2 else none)

theorem mem_vals {k : Nat} {l : List Delta} {v : RV} : v ∈ vals k l ↔ (k, v) ∈ l := by
  unfold vals
  rw [List.mem_filterMap]
  constructor
  · rintro ⟨⟨k', v'⟩, hm, h⟩
    by_cases hk : k' = k
    · simp [hk] at h; subst hk; subst h; exact hm
    · simp [hk] at h
  · intro h
    exact ⟨(k, v), h, by simp⟩

theorem vals_append (k : Nat) (l l' : List Delta) : vals k (l ++ l') = vals k l ++ vals k l' := by
  simp [vals, List.filterMap_append]

theorem vals_cons_eq (k : Nat) (v : RV) (l : List Delta) : vals k ((k, v) :: l) = v :: vals k l := by
  simp [vals]

theorem vals_cons_ne {k k' : Nat} (h : k' ≠ k) (v : RV) (l : List Delta) :
    vals k ((k', v) :: l) = vals k l := by
  simp [vals, h]

theorem wf_applyDelta {m : NMap RV} (hm : NMap.WF m) (d : Delta) : NMap.WF (applyDelta m d) :=
  NMap.wf_insertWith hm

theorem wf_applyAll {m : NMap RV} (hm : NMap.WF m) (l : List Delta) : NMap.WF (applyAll m l) := by
  induction l generalizing m with
  | nil => exact hm
  | cons d l ih => exact ih (wf_applyDelta hm d)

theorem wf_foldState (l : List Delta) : NMap.WF (foldState l) := wf_applyAll NMap.wf_nil l

theorem get_applyDelta {m : NMap RV} (hm : NMap.WF m) (d : Delta) (k : Nat) :
    NMap.get (applyDelta m d) k = if k = d.1 then optMerge RV.merge (NMap.get m k) (some d.2) else NMap.get m k := by
  unfold applyDelta
  rw [NMap.get_insertWith hm]
  split
  · rename_i hk
    rw [hk]
    cases NMap.get m d.1 <;> rfl
  · rfl

/-- a key absorbs a list of updates: the fold of the lifted merge (an absent key takes the value)
    over the key's values -/
theorem get_applyAll {m : NMap RV} (hm : NMap.WF m) (l : List Delta) (k : Nat) :
    NMap.get (applyAll m l) k = ((vals k l).map some).foldl (optMerge RV.merge) (NMap.get m k) := by
  induction l generalizing m with
  | nil => rfl
  | cons d l ih =>
    obtain ⟨k', v⟩ := d
    rw [show applyAll m ((k', v) :: l) = applyAll (applyDelta m (k', v)) l from rfl, ih (wf_applyDelta hm _),
      get_applyDelta hm]
    by_cases hk : k = k'
    · subst hk
      rw [if_pos rfl, vals_cons_eq]
      rfl
    · rw [if_neg hk, vals_cons_ne (Ne.symm hk)]

theorem get_foldState (l : List Delta) (k : Nat) :
    NMap.get (foldState l) k = fold1 RV.merge (vals k l) :=
  (get_applyAll NMap.wf_nil l k).trans (fold1_eq_foldl RV.merge _).symm

/-! ### coherence: every key's values live in one carrier -/

/-- decidable hypothesis on a list of updates: all values well-formed and, per key, of one
    CRDT kind and pairwise tie-consistent (what replicas produce when C08 holds and a key
    never changes its type) -/
def Coherent (l : List Delta) : Prop :=
  ∀ p ∈ l, p.2.WF ∧ ∀ q ∈ l, p.1 = q.1 → p.2.crdt.kind = q.2.crdt.kind ∧ C07.TieConsistent p.2 q.2

instance (l : List Delta) : Decidable (Coherent l) := by unfold Coherent; infer_instance

/-- the registers occurring in the values of key `k` -/
def regUniverse (k : Nat) (l : List Delta) : List (Nat × Lww) :=
  (vals k l).flatMap (fun v => v.crdt.slots)

theorem ucons_universe {l : List Delta} (hc : Coherent l) (k : Nat) : RegsConsistent (regUniverse k l) := by
  intro p hp q hq
  unfold regUniverse at hp hq
  rw [List.mem_flatMap] at hp hq
  obtain ⟨a, ha, hpa⟩ := hp
  obtain ⟨b, hb, hqb⟩ := hq
  have ha' := mem_vals.mp ha
  have hb' := mem_vals.mp hb
  have h := ((hc (k, a) ha').2 (k, b) hb' rfl)
  have ht : C07.tieOk a.crdt b.crdt a.ts b.ts = true := h.2
  rw [RV.tieOk_iff_slots a.ts b.ts h.1] at ht
  exact ht p hpa q hqb

theorem car_of_coherent {l : List Delta} (hc : Coherent l) {k : Nat} {v0 v : RV}
    (h0 : v0 ∈ vals k l) (hv : v ∈ vals k l) : InCarrier v0.crdt.kind (regUniverse k l) v := by
  have hv' := mem_vals.mp hv
  have h0' := mem_vals.mp h0
  refine ⟨(hc (k, v) hv').1, ((hc (k, v) hv').2 (k, v0) h0' rfl).1, ?_⟩
  intro p hp
  unfold regUniverse
  rw [List.mem_flatMap]
  exact ⟨v, hv, hp⟩

theorem coherent_of_subset {l l' : List Delta} (hc : Coherent l) (h : ∀ d ∈ l', d ∈ l) :
    Coherent l' := by
  intro p hp
  refine ⟨(hc p (h p hp)).1, ?_⟩
  intro q hq
  exact (hc p (h p hp)).2 q (h q hq)

/-! ### carriers -/

/-- per key `k` a carrier `InCarrier (kd k) (U k)` of `RVCarrier`: `U k` the register universe, `kd k`
    the CRDT kind of the key -/
structure Carrier where
  U : Nat → List (Nat × Lww)
  kd : Nat → Nat
  cons : ∀ k, RegsConsistent (U k)

def InCar (c : Carrier) (l : List Delta) : Prop := ∀ p ∈ l, InCarrier (c.kd p.1) (c.U p.1) p.2

theorem inCar_vals {c : Carrier} {l : List Delta} (h : InCar c l) (k : Nat) :
    ∀ y ∈ vals k l, InCarrier (c.kd k) (c.U k) y :=
  fun y hy => h (k, y) (mem_vals.mp hy)

theorem Carrier.aci (c : Carrier) (k : Nat) : ACI RV.merge (InCarrier (c.kd k) (c.U k)) :=
  aci_rv (c.kd k) (c.U k) (c.cons k)

def kindOf (l : List Delta) (k : Nat) : Nat :=
  match vals k l with
  | v :: _ => v.crdt.kind
  | [] => 0

/-- the carrier assignment a coherent list of updates induces -/
def carrierOf (l : List Delta) (hc : Coherent l) : Carrier :=
  { U := fun k => regUniverse k l, kd := kindOf l, cons := ucons_universe hc }

theorem inCar_of_coherent {l : List Delta} (hc : Coherent l) : InCar (carrierOf l hc) l := by
  intro p hp
  obtain ⟨k, v⟩ := p
  have hv : v ∈ vals k l := mem_vals.mpr hp
  show InCarrier (kindOf l k) (regUniverse k l) v
  unfold kindOf
  cases hl : vals k l with
  | nil => rw [hl] at hv; cases hv
  | cons v0 rest =>
    have h0 : v0 ∈ vals k l := by simp [hl]
    exact car_of_coherent hc h0 hv

theorem foldState_eq_of_same_set_inCar (c : Carrier) {l l' : List Delta} (hcar : InCar c l)
    (hset : ∀ d, d ∈ l ↔ d ∈ l') : foldState l = foldState l' := by
  apply NMap.ext (wf_foldState l) (wf_foldState l')
  intro k
  rw [get_foldState, get_foldState]
  exact (c.aci k).fold1_eq_of_same_set (inCar_vals hcar k)
    (fun y => by rw [mem_vals, mem_vals]; exact hset (k, y))

theorem absorbed_of_mem_inCar (c : Carrier) {l : List Delta} (hcar : InCar c l) {k : Nat} {v : RV}
    (h : (k, v) ∈ l) : ∃ u, NMap.get (foldState l) k = some u ∧ RV.merge v u = u := by
  rw [get_foldState]
  exact (c.aci k).le_fold1 (inCar_vals hcar k) (mem_vals.mpr h)

/-- **`foldState` depends only on the set of updates** (order and multiplicity are irrelevant) -/
theorem foldState_eq_of_same_set {l l' : List Delta} (hc : Coherent l)
    (hset : ∀ d, d ∈ l ↔ d ∈ l') : foldState l = foldState l' :=
  foldState_eq_of_same_set_inCar (carrierOf l hc) (inCar_of_coherent hc) hset

theorem absorbed_of_mem {l : List Delta} (hc : Coherent l) {k : Nat} {v : RV} (h : (k, v) ∈ l) :
    ∃ u, NMap.get (foldState l) k = some u ∧ RV.merge v u = u :=
  absorbed_of_mem_inCar (carrierOf l hc) (inCar_of_coherent hc) h

theorem foldState_append_sub {l dups : List Delta} (hc : Coherent l) (hd : ∀ d ∈ dups, d ∈ l) :
    foldState (l ++ dups) = foldState l :=
  (foldState_eq_of_same_set hc
    (fun d => by rw [List.mem_append]; exact ⟨Or.inl, fun h => h.elim id (hd d)⟩)).symm

theorem foldState_append (l b : List Delta) : foldState (l ++ b) = applyAll (foldState l) b := by
  unfold foldState applyAll
  rw [List.foldl_append]

/-! ### recovery reads exactly the listed segments -/

/-- deltas of the complete segment objects a list of segment infos points to -/
def segDeltas (st : Store) (l : List SegInfo) : List Delta :=
  l.flatMap (fun s => match NMap.get st (segName s.id) with
    | some (.segment ds) => ds
    | _ => [])

theorem loadSegments_ok {st : Store} {l : List SegInfo} {ds : List Delta}
    (h : loadSegments st l = .ok ds) : ds = segDeltas st l := by
  induction l generalizing ds with
  | nil => simp [loadSegments] at h; subst h; rfl
  | cons s rest ih =>
    simp only [loadSegments] at h
    split at h
    · rename_i ds0 hg
      split at h
      · rename_i r hr
        cases h
        simp only [segDeltas, List.flatMap_cons, hg]
        rw [ih hr]
        rfl
      · cases h
    · cases h
    · cases h

theorem loadSegments_ok_iff {st : Store} {l : List SegInfo} :
    (∃ ds, loadSegments st l = .ok ds) ↔
      ∀ s ∈ l, ∃ ds, NMap.get st (segName s.id) = some (.segment ds) := by
  induction l with
  | nil => simp [loadSegments]
  | cons s rest ih =>
    constructor
    · rintro ⟨ds, h⟩
      simp only [loadSegments] at h
      split at h
      · rename_i ds0 hg
        split at h
        · rename_i r hr
          intro t ht
          cases ht with
          | head => exact ⟨ds0, hg⟩
          | tail _ ht' => exact (ih.mp ⟨r, hr⟩) t ht'
        · cases h
      · cases h
      · cases h
    · intro h
      obtain ⟨ds0, hg⟩ := h s (by simp)
      obtain ⟨r, hr⟩ := ih.mpr (fun t ht => h t (by simp [ht]))
      exact ⟨ds0 ++ r, by simp [loadSegments, hg, hr]⟩

theorem mem_segDeltas {st : Store} {l : List SegInfo} {d : Delta} :
    d ∈ segDeltas st l ↔
      ∃ s ∈ l, ∃ ds, NMap.get st (segName s.id) = some (.segment ds) ∧ d ∈ ds := by
  unfold segDeltas
  rw [List.mem_flatMap]
  constructor
  · rintro ⟨s, hs, hd⟩
    split at hd
    · rename_i ds hg; exact ⟨s, hs, ds, hg, hd⟩
    · cases hd
  · rintro ⟨s, hs, ds, hg, hd⟩
    exact ⟨s, hs, by rw [hg]; exact hd⟩

theorem mem_segDeltas_congr {st : Store} {l l' : List SegInfo} (h : ∀ s, s ∈ l ↔ s ∈ l') (d : Delta) :
    d ∈ segDeltas st l ↔ d ∈ segDeltas st l' := by
  rw [mem_segDeltas, mem_segDeltas]
  constructor
  · rintro ⟨s, hs, r⟩; exact ⟨s, (h s).mp hs, r⟩
  · rintro ⟨s, hs, r⟩; exact ⟨s, (h s).mpr hs, r⟩

/-! ### decidable "recovery succeeds and its result satisfies P" (for `decide`d examples) -/

def OkAnd {ε α : Type} (x : Except ε α) (P : α → Prop) : Prop :=
  match x with
  | .ok r => P r
  | .error _ => False

instance {ε α : Type} (x : Except ε α) (P : α → Prop) [DecidablePred P] : Decidable (OkAnd x P) := by
  unfold OkAnd
  cases x <;> infer_instance

theorem okAnd_iff {ε α : Type} {x : Except ε α} {P : α → Prop} : OkAnd x P ↔ ∃ r, x = .ok r ∧ P r := by
  unfold OkAnd
  cases x <;> simp

end Stream
end RedisVerif
