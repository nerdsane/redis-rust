import RedisVerif.Lemmas.SortedSetZ
import RedisVerif.Lemmas.DataStructs

/-! The reads of `RedisSortedSet` (rank, range, reverse range, `is_sorted`) against M7's list operations. -/
namespace RedisVerif.SkipList
open RedisVerif RedisVerif.Redis RedisVerif.DataStructs

theorem zrank_spec {z : ZS} (hz : ZInv z) (m : BS) : zrank z m = some (zRankAux (keys z.sl) m 0) := by
  unfold zrank
  rw [hz.agree m]
  cases hsc : zScore (keys z.sl) m with
  | none => simp only; rw [zRankAux_none (zScore_none hsc)]
  | some sc =>
    simp only
    obtain ⟨i, hi⟩ := zScore_some_mem hsc
    have hfacts := zfacts_of_getElem hz.canon.2 hi
    obtain ⟨t, ht, hk⟩ : ∃ t, z.sl.towers[i]? = some t ∧ t.key = (m, sc) := by
      rwa [List.getElem?_map, Option.map_eq_some_iff] at hi
    have hc : cntLt (m, sc) z.sl.towers = i := by rw [← hk]; exact cntLt_of_key hz.wf.sorted ht
    rw [rank_spec hz.wf, hc, ht, hfacts.2 0]
    have : t.member = m ∧ t.score = sc := by simpa [Tower.key] using hk
    simp [this]

theorem normRange_unfold (n : Nat) (a b : Int) :
    normRange n a b = if n = 0 then none
      else if normStart n a > normStop n b ∨ normStart n a ≥ n then none
      else some ((normStart n a).toNat, (normStop n b).toNat) := rfl

/-- the index normalisation of `RedisSortedSet::range` is the one of `LRANGE` / `ZRANGE` -/
theorem normRange_eq (n : Nat) (a b : Int) :
    lrangeNorm n a b = (normRange n a b).map (fun p => (p.1, p.2 - p.1 + 1)) := by
  rw [lrangeNorm_eq, normRange_unfold]
  have h1 := normStart_nonneg n a
  have h2 := normStop_lt n b
  generalize normStart n a = S at *
  generalize normStop n b = E at *
  by_cases hn : n = 0
  · subst hn
    rw [if_pos rfl, if_pos (by omega)]; rfl
  · rw [if_neg hn]
    by_cases hc : S > E ∨ S ≥ n
    · rw [if_pos hc, if_pos hc]; rfl
    · rw [if_neg hc, if_neg hc]
      simp only [Option.map_some, Option.some.injEq, Prod.mk.injEq, true_and]
      omega

theorem normRange_bounds {n : Nat} {a b : Int} {s e : Nat} (h : normRange n a b = some (s, e)) :
    s ≤ e ∧ e < n := by
  rw [normRange_unfold] at h
  have h1 := normStart_nonneg n a
  have h2 := normStop_lt n b
  generalize normStart n a = S at *
  generalize normStop n b = E at *
  by_cases hn : n = 0
  · rw [if_pos hn] at h; cases h
  · rw [if_neg hn] at h
    by_cases hc : S > E ∨ S ≥ n
    · rw [if_pos hc] at h; cases h
    · rw [if_neg hc] at h
      simp only [Option.some.injEq, Prod.mk.injEq] at h
      omega

/-- `range` / `rev_range` of `RedisSortedSet`: normalise, then take the slice `f` yields on ranks in range -/
theorem ranged_spec {z : ZS} (hz : ZInv z) (a b : Int)
    (f : SL → Nat → Nat → Option (List (BS × Score))) (K : List (BS × Score))
    (hf : ∀ s e, s ≤ e → e < z.sl.towers.length → f z.sl s e = some ((K.drop s).take (e - s + 1))) :
    (match normRange z.sl.length a b with
      | none => some []
      | some (s, e) => f z.sl s e) = some (slice K (lrangeNorm (keys z.sl).length a b)) := by
  have hn : (keys z.sl).length = z.sl.length := by rw [hz.wf.len]; exact List.length_map ..
  rw [normRange_eq, hn]
  cases h : normRange z.sl.length a b with
  | none => rfl
  | some p =>
    have hb := normRange_bounds (s := p.1) (e := p.2) h
    rw [hz.wf.len] at hb
    exact hf p.1 p.2 hb.1 hb.2

theorem zrange_spec {z : ZS} (hz : ZInv z) (a b : Int) :
    zrange z a b = some (slice (keys z.sl) (lrangeNorm (keys z.sl).length a b)) :=
  ranged_spec hz a b range (keys z.sl) (fun _ _ => range_of_bounds hz.wf)

theorem zrevRange_spec {z : ZS} (hz : ZInv z) (a b : Int) :
    zrevRange z a b = some (slice (keys z.sl).reverse (lrangeNorm (keys z.sl).length a b)) :=
  ranged_spec hz a b revRange (keys z.sl).reverse (fun _ _ => revRange_of_bounds hz.wf)

theorem isSortedAux_of_sorted : ∀ (l : List (BS × Score)) (ps : Score) (pm : BS),
    l.Pairwise (fun a b => zLt a b = true) → (∀ p ∈ l, zLt p (pm, ps) = false) →
    isSortedAux l ps pm = true
  | [], _, _, _, _ => rfl
  | (m, s) :: r, ps, pm, hs, hp => by
    rw [List.pairwise_cons] at hs
    have h0 := hp (m, s) (List.mem_cons_self ..)
    simp only [zLt] at h0
    simp only [isSortedAux, h0, Bool.false_eq_true, if_false]
    exact isSortedAux_of_sorted r s m hs.2 (fun p hpm => zLt_asymm (hs.1 p hpm))

theorem isSorted_spec {z : ZS} (hz : ZInv z) : isSorted z = true := by
  unfold isSorted
  apply isSortedAux_of_sorted _ _ _ hz.canon.1
  intro p _
  obtain ⟨m, s⟩ := p
  simp only [zLt]
  cases s <;> cases m <;> simp [Score.lt, bsLt]

end RedisVerif.SkipList
