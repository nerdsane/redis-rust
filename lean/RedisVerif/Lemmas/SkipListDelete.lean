import RedisVerif.Lemmas.SkipListUpdate

/-! `delete_node`: `fwdPos`, the unlink loop as an instance of `perLevel`, `spans_splice` with the tail `drop (c + 1)`,
    the level shrink, and `deleteNode_spec`: `Wf` of the result. -/
namespace RedisVerif.SkipList
open RedisVerif RedisVerif.Redis

theorem fwdPos_ge {j : Nat} : ∀ {l : List Tower} {p r : Nat}, fwdPos j l p = some r → p ≤ r
  | [], _, _, h => by simp [fwdPos] at h
  | t :: ts, p, r, h => by
    simp only [fwdPos] at h
    split at h
    · simp at h; omega
    · have := fwdPos_ge h; omega

theorem fwdPos_append_small {j : Nat} : ∀ {xs : List Tower} (_ : ∀ t ∈ xs, t.ht ≤ j) (ys : List Tower) (p : Nat),
    fwdPos j (xs ++ ys) p = fwdPos j ys (p + xs.length)
  | [], _, ys, p => by simp
  | t :: ts, h, ys, p => by
    have h1 : ¬ j < t.spans.length := by have := h t (List.mem_cons_self ..); simp only [Tower.ht] at this; omega
    simp only [List.cons_append, fwdPos, h1, if_false, List.length_cons]
    rw [fwdPos_append_small (fun t' ht' => h t' (List.mem_cons_of_mem _ ht')) ys (p + 1)]
    congr 1; omega

theorem fwdPos_congr {j : Nat} : ∀ {xs ys : List Tower} (p : Nat), xs.map Tower.ht = ys.map Tower.ht →
    fwdPos j xs p = fwdPos j ys p
  | [], [], _, _ => rfl
  | [], _ :: _, _, h => by simp at h
  | _ :: _, [], _, h => by simp at h
  | x :: xs, y :: ys, p, h => by
    simp only [List.map_cons, List.cons.injEq, Tower.ht] at h
    simp only [fwdPos, h.1]
    rw [fwdPos_congr (p + 1) (by simpa [Tower.ht] using h.2)]

/-- the body of `delete_node`'s loop at level `j` -/
def fUnlink (q : Nat) : SL → Nat → Nat → Nat → Option Nat := fun sl u _ j =>
  match spanAt sl u j with
  | none => none
  | some su =>
    if fwdPos j (sl.towers.drop u) (u + 1) = some q then
      match spanAt sl q j with
      | none => none
      | some sq => if su + sq = 0 then none else some (su + sq - 1)
    else if su = 0 then none
    else some (su - 1)

theorem unlinkLevels_eq (q : Nat) : ∀ (l : List (Nat × Nat)) (i : Nat) (sl : SL),
    unlinkLevels q l i sl = perLevel (fUnlink q) l i sl
  | [], _, _ => rfl
  | (u, r) :: rest, i, sl => by
    simp only [unlinkLevels, perLevel, fUnlink]
    cases spanAt sl u i with
    | none => rfl
    | some su =>
      simp only
      split
      · cases spanAt sl q i with
        | none => rfl
        | some sq =>
          simp only
          split
          · rfl
          · exact unlinkLevels_eq q rest (i + 1) _
      · split
        · rfl
        · exact unlinkLevels_eq q rest (i + 1) _

theorem fUnlink_cong (q : Nat) : ∀ a b u r j, Agree j a b → fUnlink q a u r j = fUnlink q b u r j := by
  intro a b u r j h
  have hf : fwdPos j (a.towers.drop u) (u + 1) = fwdPos j (b.towers.drop u) (u + 1) :=
    fwdPos_congr _ (by rw [List.map_drop, List.map_drop, h.2])
  simp only [fUnlink, h.1 u, h.1 q, hf]

/-- `self.level` after the `while` of `delete_node` is again `max(1, tallest node)` -/
theorem shrinkLevel_spec (T : List Tower) : ∀ (L : Nat), 1 ≤ L → (∀ t ∈ T, t.ht ≤ L) →
    1 ≤ shrinkLevel T L ∧ shrinkLevel T L ≤ L ∧ (∀ t ∈ T, t.ht ≤ shrinkLevel T L) ∧
    (shrinkLevel T L = 1 ∨ ∃ t ∈ T, t.ht = shrinkLevel T L)
  | 0, h, _ => by omega
  | 1, _, hT => ⟨Nat.le_refl _, Nat.le_refl _, hT, Or.inl rfl⟩
  | l + 2, _, hT => by
    simp only [shrinkLevel]
    split
    · rename_i hany
      obtain ⟨t, ht, hlt⟩ := List.any_eq_true.mp hany
      have hlt' : l + 1 < t.ht := by simpa using hlt
      exact ⟨by omega, Nat.le_refl _, hT, Or.inr ⟨t, ht, by have := hT t ht; omega⟩⟩
    · rename_i hany
      have hsmall : ∀ t ∈ T, t.ht ≤ l + 1 := by
        intro t ht
        rcases Nat.lt_or_ge (l + 1) t.ht with h | h
        · exact absurd (List.any_eq_true.mpr ⟨t, ht, by simpa using h⟩) hany
        · exact h
      have ih := shrinkLevel_spec T (l + 1) (by omega) hsmall
      exact ⟨ih.1, by omega, ih.2.2.1, ih.2.2.2⟩


/-- `delete_node` of the tower at index `c` (position `c + 1`), after a search for that tower's own
    key: no panic, the invariant holds again, the list lost exactly that tower -/
theorem deleteNode_spec {sl : SL} (hw : Wf sl) {ur : List (Nat × Nat)} {c : Nat}
    (hc : c < sl.towers.length)
    (hur : ∀ j, j < sl.level → ∃ u, ur[j]? = some (u, u) ∧ IsUpd sl.towers c j u) :
    ∃ sl', deleteNode sl (c + 1) ur = some sl' ∧ Wf sl' ∧
      sl'.towers.map Tower.key = (sl.towers.map Tower.key).eraseIdx c ∧ sl'.rng = sl.rng := by
  have hs := hw.spans
  have hc' : c ≤ sl.towers.length := Nat.le_of_lt hc
  obtain ⟨us, hus⟩ := exists_us hur
  have hdropc : sl.towers.drop c = sl.towers[c] :: sl.towers.drop (c + 1) := List.drop_eq_getElem_cons hc
  have htq : sl.towers[c]? = some sl.towers[c] := List.getElem?_eq_getElem hc
  -- value written at level `j`: the slot of `update[j]` spans the unlinked tower or ends at it
  have hf : ∀ j, j < sl.level →
      fUnlink (c + 1) sl (us j) (us j) j = some ((c - us j) + distTo j (sl.towers.drop (c + 1))) := by
    intro j hj
    have hupd := (hus j hj).2
    have hle := hupd.1
    have hfw : fwdPos j (sl.towers.drop (us j)) (us j + 1) =
        if j < sl.towers[c].ht then some (c + 1) else fwdPos j (sl.towers.drop (c + 1)) (c + 2) := by
      rw [drop_eq_take_drop_append _ hle hc', fwdPos_append_small (all_small_of_isUpd hupd), hdropc,
        List.length_drop, List.length_take_of_le hc',
        show us j + 1 + (c - us j) = c + 1 by omega]
      rfl
    have hd : distTo j (sl.towers.drop c) =
        if j < sl.towers[c].ht then 1 else 1 + distTo j (sl.towers.drop (c + 1)) := by rw [hdropc]; rfl
    simp only [fUnlink, spanAt_of_level hs hj hupd.2.1, dist_isUpd hc' hupd, hfw, hd]
    by_cases hjt : j < sl.towers[c].ht
    · simp only [hjt, if_true, spanAt_succ htq j, hs.tw c _ htq j hjt]
      rw [if_neg (by omega)]
      congr 1; omega
    · have hne : fwdPos j (sl.towers.drop (c + 1)) (c + 2) ≠ some (c + 1) :=
        fun h => absurd (fwdPos_ge h) (by omega)
      simp only [hjt, if_false, hne]
      rw [if_neg (by omega)]
      congr 1; omega
  obtain ⟨sl1, hsl1, hsame, hsp1⟩ := perLevel_slice (fUnlink (c + 1)) (fUnlink_cong (c + 1))
    (a := 0) (b := sl.level) (sl := sl) (fun j hj => (hus j hj).1) (fun j _ hj => hf j hj)
  rw [List.drop_zero] at hsl1
  have hkeep : ∀ q j, j < sl.level → q ≠ us j → spanAt sl1 q j = spanAt sl q j :=
    fun q j _ hq => by rw [hsp1, if_neg (fun e => hq e.2.2)]
  have hspans := spans_splice hs hc' (fun j hj => (hus j hj).2) hsame
    (fun j hj => by rw [hsp1, if_pos ⟨Nat.zero_le _, hj, rfl⟩, hsame.distTo_drop]) hkeep
    (towersOk_behind hs (fun j hj => (hus j hj).2.1) hsame hkeep (Nat.le_succ c))
    (fun t ht => by
      obtain ⟨t0, h0, e⟩ := hsame.ht_mem (List.mem_of_mem_drop ht)
      exact e ▸ hs.hts t0 h0)
    (shrinkLevel (sl1.towers.eraseIdx c) sl1.level) (sl1.length - 1)
  rw [← List.eraseIdx_eq_take_drop_succ] at hspans
  have hshr := shrinkLevel_spec (sl1.towers.eraseIdx c) sl1.level
    (by rw [hsame.level]; exact hw.level_pos)
    (fun t ht => by rw [hsame.level]; exact (hspans.hts t ht).2)
  refine ⟨{ sl1 with towers := sl1.towers.eraseIdx c,
                     level := shrinkLevel (sl1.towers.eraseIdx c) sl1.level,
                     length := sl1.length - 1 }, ?_, ?_, ?_, hsame.rng⟩
  · have hl0 : ¬ (c + 1 = 0 ∨ sl1.length = 0) := by
      rw [hsame.length, hw.len]; omega
    simp only [deleteNode, unlinkLevels_eq, hsl1, hl0, if_false, Nat.add_sub_cancel]
  · refine ⟨spans_mono hspans (by rw [← hsame.level]; exact hshr.2.1) hshr.2.2.1, hshr.1, hshr.2.2.2, ?_,
      (hsame.sorted hw.sorted).sublist (List.eraseIdx_sublist _ _)⟩
    show sl1.length - 1 = (sl1.towers.eraseIdx c).length
    rw [List.length_eraseIdx_of_lt (hsame.towers_length ▸ hc), hsame.length, hw.len, hsame.towers_length]
  · show (sl1.towers.eraseIdx c).map Tower.key = _
    rw [← hsame.keys, List.eraseIdx_eq_take_drop_succ, List.eraseIdx_eq_take_drop_succ,
      List.map_append, List.map_take, List.map_drop]

end RedisVerif.SkipList
