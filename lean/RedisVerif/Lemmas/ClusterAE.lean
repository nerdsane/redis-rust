import RedisVerif.Lemmas.RegsUnique
import RedisVerif.Model.ClusterAE

/-!
The invariants of layer 1 with state transfers (`Model/ClusterAE.lean`).

* `AInv`: `RInv` (a (key, slot, stamp) triple names one register; clocks dominate) of the base
  cluster, every register held by a node or travelling in a transfer is a register of an issued
  delta, every transfer is well formed and dominated.  Independent of any key: `Compat`'s
  `RegsConsistent` half is a theorem of every execution with state transfers too.
* `JA`: the value invariant `J` of the base cluster, and every transfer for key `k` is the
  merge-fold of the deltas it carries (all of them issued deltas of `k`).
-/
namespace RedisVerif

namespace ACI
variable {α : Type} {m : α → α → α} {P : α → Prop}

theorem merge_fold (h : ACI m P) (l : List α) (x b : α) (hx : P x) (hb : P b) (hl : ∀ a ∈ l, P a) :
    m x (l.foldl m b) = l.foldl m (m x b) := by
  induction l generalizing b with
  | nil => rfl
  | cons a l ih =>
    simp only [List.foldl_cons]
    rw [ih (m b a) (h.closed b a hb (hl a (by simp))) (fun c hc => hl c (by simp [hc])),
      h.assoc x b a hx hb (hl a (by simp))]

end ACI

namespace Cluster

theorem foldOpt_append_list {K : Nat} {R : List (Nat × Lww)} (hR : RegsConsistent R)
    {l l' : List RV} (hl : ∀ a ∈ l, InCarrier K R a) (hl' : ∀ a ∈ l', InCarrier K R a) :
    foldOpt (l ++ l') = optMerge RV.merge (foldOpt l) (foldOpt l') := by
  cases l with
  | nil => cases l' <;> simp [foldOpt, optMerge]
  | cons a l =>
    cases l' with
    | nil => simp [foldOpt, optMerge]
    | cons b l' =>
      simp only [List.cons_append, foldOpt, optMerge, List.foldl_append, List.foldl_cons, Option.some.injEq]
      have hx := (aci_rv K R hR).fold_closed l a (hl a (by simp)) (fun c hc => hl c (by simp [hc]))
      rw [(aci_rv K R hR).merge_fold l' _ b hx (hl' b (by simp)) (fun c hc => hl' c (by simp [hc]))]

end Cluster

namespace ACluster
open Cluster

/-- an execution without state transfers is a layer-1 execution on `base` -/
theorem runA_ev (es : List Ev) : ∀ (c : ACluster), c.run (es.map AEv.ev) = { c with base := c.base.run es } := by
  induction es with
  | nil => intro c; rfl
  | cons e es ih =>
    intro c
    simp only [List.map_cons, ACluster.run, List.foldl_cons] at ih ⊢
    rw [ih (c.step (.ev e))]
    rfl

/-! ### registers: `AInv` -/

structure AInv (c : ACluster) : Prop where
  rinv : RInv c.base
  /-- every register a node holds is a register of an issued delta -/
  node_sub : ∀ s ∈ c.base.nodes, ∀ a ∈ shardRegs s, a ∈ sentRegs c.base
  snap_ok : ∀ sn ∈ c.snaps, sn.val.WF ∧ sn.val.Dominated ∧ ∀ a ∈ valRegs sn.key sn.val, a ∈ sentRegs c.base

theorem AInv_init (n : Nat) (causal : Bool) : AInv (init n causal) where
  rinv := RInv_init n causal
  node_sub := fun s hs a ha => absurd (Or.inl ⟨s, hs, ha⟩) (not_inCluster_init (a := a))
  snap_ok := by intro sn hsn; cases hsn

theorem sentRegs_mono_step (c : Cluster) (e : Ev) : ∀ a ∈ sentRegs c, a ∈ sentRegs (c.step e) := by
  intro a ha
  simp only [sentRegs, List.mem_flatMap] at ha ⊢
  obtain ⟨m, hm, ha⟩ := ha
  exact ⟨m, sent_mono_step c e m hm, ha⟩

/-- `Cluster.RInv_apply` for a value that need not be an issued delta, in the shape the state
    transfer below has -/
theorem RInv_apply_value {c : Cluster} (h : RInv c) (j k : Nat) (v : RV) (s : Shard)
    (hs : c.nodes[j]? = some s) (hvw : v.WF) (hvd : v.Dominated)
    (hvr : ∀ a ∈ valRegs k v, InCluster c a) (log' : List Absorbed) :
    RInv { c with nodes := c.nodes.set j (Shard.applyRemote s k v), log := log' } :=
  RInv_apply h hs k v hvw hvd hvr log'

theorem node_sub_applyRemote {c : Cluster}
    (hn : ∀ s ∈ c.nodes, ∀ a ∈ shardRegs s, a ∈ sentRegs c) {j : Nat} {s : Shard} (hs : c.nodes[j]? = some s)
    (k : Nat) (v : RV) (hvr : ∀ a ∈ valRegs k v, a ∈ sentRegs c) :
    ∀ s' ∈ c.nodes.set j (Shard.applyRemote s k v), ∀ a ∈ shardRegs s', a ∈ sentRegs c := by
  have hsmem : s ∈ c.nodes := List.mem_of_getElem? hs
  intro s' hs' a ha
  rcases mem_set hs' with rfl | h1
  · exact (remote_shard_regs s k v a ha).elim (hn _ hsmem a) (hvr a)
  · exact hn _ h1 a ha

theorem node_sub_step {c : Cluster} (h : RInv c)
    (hn : ∀ s ∈ c.nodes, ∀ a ∈ shardRegs s, a ∈ sentRegs c) (e : Ev) :
    ∀ s ∈ (c.step e).nodes, ∀ a ∈ shardRegs s, a ∈ sentRegs (c.step e) := by
  cases e with
  | loc i op =>
    rcases step_loc_cases c i op with h' | ⟨s, d, hs, hd, h'⟩ <;> rw [h']
    · exact hn
    have hsmem := List.mem_of_getElem? hs
    have hinv' : (Shard.step s op.toOp).1.Inv :=
      Shard.inv_local s op (h.wf s hsmem).2
    intro s' hs' a ha
    simp only [sentRegs, List.flatMap_append, List.mem_append, List.flatMap_cons, List.flatMap_nil,
      List.append_nil]
    rcases mem_set hs' with rfl | h1
    · exact (local_shard_sub s op d hd hinv'.1 a ha).imp_left (hn _ hsmem a)
    · exact Or.inl (hn _ h1 a ha)
  | deliver j idx =>
    rcases step_deliver_cases c j idx with h' | ⟨s, m, hs, hm, h'⟩ <;> rw [h']
    · exact hn
    have hmmem := List.mem_of_getElem? hm
    exact node_sub_applyRemote hn hs m.key m.val
      fun a ha => List.mem_flatMap.mpr ⟨m, hmmem, ha⟩

theorem AInv_step {c : ACluster} (h : AInv c) (e : AEv) : AInv (c.step e) := by
  cases e with
  | ev e =>
    refine ⟨?_, node_sub_step h.rinv h.node_sub e, ?_⟩
    · cases e with
      | loc i op => exact RInv_step_loc h.rinv i op
      | deliver j idx => exact RInv_step_deliver h.rinv j idx
    · intro sn hsn
      obtain ⟨h1, h2, h3⟩ := h.snap_ok sn hsn
      exact ⟨h1, h2, fun a ha => sentRegs_mono_step c.base e a (h3 a ha)⟩
  | snapshot i k =>
    cases hs : c.base.nodes[i]? with
    | none => simp only [step, hs]; exact h
    | some s =>
      cases hg : NMap.get s.keys k with
      | none => simp only [step, hs, hg]; exact h
      | some v =>
        simp only [step, hs, hg]
        have hsmem : s ∈ c.base.nodes := List.mem_of_getElem? hs
        have ⟨hnwf, hinv⟩ := h.rinv.wf s hsmem
        have hvmem := NMap.mem_of_get hg
        refine ⟨h.rinv, h.node_sub, ?_⟩
        intro sn hsn
        rcases List.mem_append.mp hsn with h1 | h1
        · exact h.snap_ok sn h1
        · simp only [List.mem_singleton] at h1
          subst h1
          refine ⟨hnwf.2 _ hvmem, (hinv.2 _ hvmem).2, ?_⟩
          intro a ha
          have := mem_valRegs.mp ha
          exact h.node_sub s hsmem a (mem_shardRegs.mpr ⟨v, by rw [this.1]; exact hvmem, this.2⟩)
  | applySnap j idx =>
    cases hs : c.base.nodes[j]? with
    | none => simp only [step, hs]; exact h
    | some s =>
      cases hn : c.snaps[idx]? with
      | none => simp only [step, hs, hn]; exact h
      | some sn =>
        simp only [step, hs, hn]
        obtain ⟨hvw, hvd, hvr⟩ := h.snap_ok sn (List.mem_of_getElem? hn)
        exact ⟨RInv_apply_value h.rinv j sn.key sn.val s hs hvw hvd (fun a ha => Or.inr (hvr a ha)) _,
          node_sub_applyRemote h.node_sub hs sn.key sn.val hvr, h.snap_ok⟩

theorem AInv_run (c : ACluster) (evs : List AEv) (h : AInv c) : AInv (c.run evs) := by
  induction evs generalizing c with
  | nil => exact h
  | cons e evs ih => exact ih (c.step e) (AInv_step h e)

/-- **a (key, slot, stamp) triple identifies one register** in every execution with state
    transfers -/
theorem regs_consistent_of_runA (n : Nat) (causal : Bool) (evs : List AEv) (k : Nat) :
    RegsConsistent (regsOf ((init n causal).run evs).base.sent k) :=
  UniqRegs.consistent (AInv_run _ evs (AInv_init n causal)).rinv.uniq k

theorem sent_wf_of_runA (n : Nat) (causal : Bool) (evs : List AEv) :
    ∀ m ∈ ((init n causal).run evs).base.sent, m.val.WF :=
  fun m hm => ((AInv_run _ evs (AInv_init n causal)).rinv.sent_wf m hm).1

/-! ### values: `JA` -/

structure JA (U : List Msg) (k K : Nat) (c : ACluster) : Prop where
  base : J U k K c.base
  snap_ok : ∀ sn ∈ c.snaps, sn.val.Dominated ∧ sn.val.WF ∧
    (∀ v ∈ sn.carried, ∃ m ∈ c.base.sent, m.key = sn.key ∧ m.val = v) ∧
    (sn.key = k → foldOpt (sn.carried.map RV.strip) = some sn.val.strip)

theorem JA_init (U : List Msg) (k K n : Nat) (causal : Bool) : JA U k K (init n causal) :=
  ⟨J_init U k K n causal, by intro sn hsn; cases hsn⟩

theorem absorbed_eq_carried (c : Cluster) (i k : Nat) :
    absorbed c i k = (carriedOf c.log i k).map RV.strip := by
  simp only [absorbed, carriedOf, List.map_map]
  induction c.log with
  | nil => rfl
  | cons a l ih =>
    simp only [List.filterMap_cons, List.filter_cons]
    by_cases hc : a.node = i ∧ a.key = k
    · simp [hc, ih]
    · simp [hc, ih]

theorem JA_step {U : List Msg} {k K : Nat} {c : ACluster} (hc : Compat U k K) (hj : JA U k K c)
    (e : AEv) (hsub : ∀ m ∈ (c.step e).base.sent, m ∈ U) : JA U k K (c.step e) := by
  cases e with
  | ev e =>
    refine ⟨?_, ?_⟩
    · cases e with
      | loc i op => exact J_step_loc hc hj.base i op hsub
      | deliver j idx => exact J_step_deliver hj.base j idx
    · intro sn hsn
      obtain ⟨h1, h2, h3, h4⟩ := hj.snap_ok sn hsn
      refine ⟨h1, h2, ?_, h4⟩
      intro v hv
      obtain ⟨m, hm, hmk, hmv⟩ := h3 v hv
      exact ⟨m, sent_mono_step c.base e m hm, hmk, hmv⟩
  | snapshot i k' =>
    cases hs : c.base.nodes[i]? with
    | none => simp only [step, hs]; exact hj
    | some s =>
      cases hg : NMap.get s.keys k' with
      | none => simp only [step, hs, hg]; exact hj
      | some v =>
        simp only [step, hs, hg]
        have hsmem : s ∈ c.base.nodes := List.mem_of_getElem? hs
        have ⟨hinv, _, hnwf, _⟩ := hj.base.nodes_inv s hsmem
        have hvmem := NMap.mem_of_get hg
        refine ⟨hj.base, ?_⟩
        intro sn hsn
        rcases List.mem_append.mp hsn with h1 | h1
        · exact hj.snap_ok sn h1
        · simp only [List.mem_singleton] at h1
          subst h1
          refine ⟨(hinv.2 _ hvmem).2, hnwf.2 _ hvmem, ?_, ?_⟩
          · intro w hw
            simp only [carriedOf, List.mem_map, List.mem_filter, decide_eq_true_eq] at hw
            obtain ⟨a, ⟨ha, hcond⟩, rfl⟩ := hw
            obtain ⟨m, hm, hmk, hmv⟩ := hj.base.log_sent a ha
            exact ⟨m, hm, by rw [hmk]; exact hcond.2, hmv⟩
          · intro hk
            simp only at hk
            subst hk
            rw [← absorbed_eq_carried, ← hj.base.value i s hs, hg]
            rfl
  | applySnap j idx =>
    cases hs : c.base.nodes[j]? with
    | none => simp only [step, hs]; exact hj
    | some s =>
      cases hn : c.snaps[idx]? with
      | none => simp only [step, hs, hn]; exact hj
      | some sn =>
        simp only [step, hs, hn]
        obtain ⟨hvd, hvw, hcar, hfold⟩ := hj.snap_ok sn (List.mem_of_getElem? hn)
        -- the transfer stands for the deltas it carries: their fold is the value, and all lie in the carrier of `k`
        refine ⟨J_absorb hj.base hs sn.key sn.val sn.carried hvd hvw hcar fun hkk => ?_, hj.snap_ok⟩
        rw [foldOpt_append_list hc.1 (absorbed_in_carrier hc hj.base j) ?_, hfold hkk]
        intro a ha
        obtain ⟨w, hw, rfl⟩ := List.mem_map.mp ha
        obtain ⟨m, hm, hmk, rfl⟩ := hcar w hw
        exact strip_carrier (compat_carrier hc (hj.base.sub m hm) (hmk.trans hkk))

theorem sent_mono_stepA (c : ACluster) (e : AEv) : ∀ m ∈ c.base.sent, m ∈ (c.step e).base.sent := by
  intro m hm
  cases e with
  | ev e => exact sent_mono_step c.base e m hm
  | snapshot i k =>
    simp only [step]
    split
    · exact hm
    · split <;> exact hm
  | applySnap j idx =>
    simp only [step]
    split <;> exact hm

theorem sent_mono_runA (c : ACluster) (evs : List AEv) : ∀ m ∈ c.base.sent, m ∈ (c.run evs).base.sent := by
  induction evs generalizing c with
  | nil => intro m hm; exact hm
  | cons e evs ih =>
    intro m hm
    exact ih (c.step e) m (sent_mono_stepA c e m hm)

theorem JA_run {U : List Msg} {k K : Nat} (hc : Compat U k K) (c : ACluster) (evs : List AEv)
    (hj : JA U k K c) (hsub : ∀ m ∈ (c.run evs).base.sent, m ∈ U) : JA U k K (c.run evs) := by
  induction evs generalizing c with
  | nil => exact hj
  | cons e evs ih =>
    have hsub' : ∀ m ∈ (c.step e).base.sent, m ∈ U :=
      fun m hm => hsub m (sent_mono_runA (c.step e) evs m hm)
    exact ih (c.step e) (JA_step hc hj e hsub') hsub

/-- a node has absorbed every delta it issued itself -/
theorem sentLog_stepA {c : ACluster} (h : SentLog c.base) (e : AEv) : SentLog (c.step e).base := by
  cases e with
  | ev e => exact sentLog_step h e
  | snapshot i k =>
    simp only [step]
    split
    · exact h
    · split <;> exact h
  | applySnap j idx =>
    simp only [step]
    split
    · intro m hm; exact List.mem_append_left _ (h m hm)
    · exact h

theorem sentLog_runA (c : ACluster) (evs : List AEv) (h : SentLog c.base) : SentLog (c.run evs).base := by
  induction evs generalizing c with
  | nil => exact h
  | cons e evs ih => exact ih (c.step e) (sentLog_stepA h e)

end ACluster
end RedisVerif
