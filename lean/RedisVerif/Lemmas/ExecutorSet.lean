import RedisVerif.Lemmas.ExecutorStr

/-! Refinement of `execute_set` / `execute_getex` (option handling and deadline arithmetic). -/
set_option linter.unusedSimpArgs false

namespace RedisVerif.Executor
open RedisVerif RedisVerif.Redis

/-- `getExpireMillisecondsOrReply` in closed form -/
theorem absDeadline_eq (now : Nat) (us rel : Bool) (v : Int) :
    absDeadline now us rel v =
      if v ≤ 0 ∨ (us = true ∧ v > 9223372036854775) ∨
          (if us then v * 1000 else v) + (if rel then (now : Int) else 0) > 9223372036854775807 then none
      else some ((if us then v * 1000 else v) + (if rel then (now : Int) else 0)).toNat := by
  unfold absDeadline
  have e := i64Max_eq
  have e2 := i64MaxDiv1000_eq
  by_cases h1 : v ≤ 0
  · simp [h1]
  · cases us <;> cases rel <;> simp [h1, e, e2]
    all_goals
      by_cases h2 : 9223372036854775 < v
      · simp [h2]
      · simp [h2]

/-- `checked_add` fails exactly when the sum leaves i64 -/
theorem checkedAdd_isNone (a b : Int) :
    (checkedAdd a b).isNone = true ↔ (a + b < -9223372036854775808 ∨ a + b > 9223372036854775807) := by
  rw [checkedAdd_eq]
  by_cases h : inI64 (a + b) = true
  · have := (inI64_iff _).mp h
    simp only [h, if_true, Option.isNone_some, Bool.false_eq_true, false_iff]
    omega
  · have : ¬ (-9223372036854775808 ≤ a + b ∧ a + b ≤ 9223372036854775807) :=
      fun hh => h ((inI64_iff _).mpr hh)
    simp only [h, Bool.false_eq_true, if_false, Option.isNone_none, true_iff]
    omega

theorem two64_eq : two64 = 18446744073709551616 := rfl

theorem u64Mul1000_eq {n : Nat} (h : n * 1000 < 18446744073709551616) : u64Mul1000 n = some (n * 1000) := by
  unfold u64Mul1000
  rw [if_pos (by rw [two64_eq]; exact h)]

theorem u64Add_eq {a b : Nat} (h : a + b < 18446744073709551616) : u64Add a b = some (a + b) := by
  unfold u64Add
  rw [if_pos (by rw [two64_eq]; exact h)]

def SetExpOk : SetExp → Prop
  | .ex v | .px v | .exat v | .pxat v => I64 v
  | _ => True

instance : DecidablePred SetExpOk := fun e => by cases e <;> unfold SetExpOk <;> infer_instance

/-! closed forms of the four deadline plans (`planOfOpt ∘ absDeadline`), positive condition first -/

theorem plan_ex (U : Nat) (s : Int) : planOfOpt (absDeadline U true true s) =
    if 0 < s ∧ s ≤ 9223372036854775 ∧ s * 1000 + (U : Int) ≤ 9223372036854775807
    then .at (s * 1000 + (U : Int)).toNat else .invalid := by
  rw [absDeadline_eq]
  by_cases hc : 0 < s ∧ s ≤ 9223372036854775 ∧ s * 1000 + (U : Int) ≤ 9223372036854775807
  · rw [if_pos hc, if_neg (by simp only [if_true, true_and]; omega)]; simp [planOfOpt]
  · rw [if_neg hc, if_pos (by simp only [if_true, true_and]; omega)]; rfl

theorem plan_px (U : Nat) (s : Int) : planOfOpt (absDeadline U false true s) =
    if 0 < s ∧ s + (U : Int) ≤ 9223372036854775807 then .at (s + (U : Int)).toNat else .invalid := by
  rw [absDeadline_eq]
  by_cases hc : 0 < s ∧ s + (U : Int) ≤ 9223372036854775807
  · rw [if_pos hc, if_neg (by simp only [if_true, Bool.false_eq_true, false_and, false_or, if_false]; omega)]
    simp [planOfOpt]
  · rw [if_neg hc, if_pos (by simp only [if_true, Bool.false_eq_true, false_and, false_or, if_false]; omega)]
    rfl

theorem plan_exat (U : Nat) (s : Int) : planOfOpt (absDeadline U true false s) =
    if 0 < s ∧ s ≤ 9223372036854775 then .at (s * 1000).toNat else .invalid := by
  rw [absDeadline_eq]
  by_cases hc : 0 < s ∧ s ≤ 9223372036854775
  · rw [if_pos hc, if_neg (by simp only [if_true, true_and, Bool.false_eq_true, if_false]; omega)]
    simp [planOfOpt]
  · rw [if_neg hc, if_pos (by simp only [if_true, true_and, Bool.false_eq_true, if_false]; omega)]
    rfl

theorem plan_pxat (U : Nat) (s : Int) : planOfOpt (absDeadline U false false s) =
    if 0 < s ∧ s ≤ 9223372036854775807 then .at s.toNat else .invalid := by
  rw [absDeadline_eq]
  by_cases hc : 0 < s ∧ s ≤ 9223372036854775807
  · rw [if_pos hc, if_neg (by simp only [Bool.false_eq_true, false_and, false_or, if_false]; omega)]
    simp [planOfOpt]
  · rw [if_neg hc, if_pos (by simp only [Bool.false_eq_true, false_and, false_or, if_false]; omega)]
    rfl

theorem at_of_valid {C : Prop} [Decidable C] {T : Nat} {p : DlPlan}
    (hp : p = if C then .at T else .invalid) (hv : p ≠ .invalid) : C ∧ p = .at T := by
  by_cases hc : C
  · exact ⟨hc, by rw [hp, if_pos hc]⟩
  · exact absurd (by rw [hp, if_neg hc]) hv

section validation
variable {c : CState}

theorem exInvalid_iff (h : CInv c) (s : Int) :
    (decide (s ≤ 0) || decide (s > i64MaxDiv1000) || (checkedAdd (s * 1000) (basetimeMs c)).isNone) = true ↔
      ¬ (0 < s ∧ s ≤ 9223372036854775 ∧ s * 1000 + ((unix c : Nat) : Int) ≤ 9223372036854775807) := by
  rw [Bool.or_eq_true, Bool.or_eq_true, decide_eq_true_eq, decide_eq_true_eq, checkedAdd_isNone, basetime_eq h,
    i64MaxDiv1000_eq]
  omega

theorem pxInvalid_iff (h : CInv c) (m : Int) :
    (decide (m ≤ 0) || (checkedAdd m (basetimeMs c)).isNone) = true ↔
      ¬ (0 < m ∧ m + ((unix c : Nat) : Int) ≤ 9223372036854775807) := by
  rw [Bool.or_eq_true, decide_eq_true_eq, checkedAdd_isNone, basetime_eq h]
  omega

theorem exatInvalid_iff (t : Int) :
    (decide (t ≤ 0) || decide (t > i64MaxDiv1000)) = true ↔ ¬ (0 < t ∧ t ≤ 9223372036854775) := by
  rw [Bool.or_eq_true, decide_eq_true_eq, decide_eq_true_eq, i64MaxDiv1000_eq]
  omega

theorem pxatInvalid_iff {t : Int} (ht : I64 t) :
    decide (t ≤ 0) = true ↔ ¬ (0 < t ∧ t ≤ 9223372036854775807) := by
  have := ht.2
  rw [decide_eq_true_eq]
  omega

end validation

/-- validation block of `execute_set` = M7's "invalid expire time" -/
theorem setArgsInvalid_iff {cs : CState} (h : CInv cs) (c : SetCond) (e : SetExp) (g : Bool)
    (he : SetExpOk e) :
    setArgsInvalid cs (setArgsOf c e g) = true ↔ setPlan (unix cs) e = .invalid := by
  have hplan : ∀ {C : Prop} [Decidable C] {T : Nat}, (if C then DlPlan.at T else .invalid) = .invalid ↔ ¬ C := by
    intro C _ T; split <;> simp [*]
  cases e with
  | none => simp [setArgsInvalid, setArgsOf, setPlan]
  | keepttl => simp [setArgsInvalid, setArgsOf, setPlan]
  | ex v =>
    rw [setPlan, plan_ex, hplan, ← exInvalid_iff h]
    simp only [setArgsInvalid, setArgsOf, Bool.or_false]
  | px v =>
    rw [setPlan, plan_px, hplan, ← pxInvalid_iff h]
    simp only [setArgsInvalid, setArgsOf, Bool.or_false, Bool.false_or]
  | exat v =>
    rw [setPlan, plan_exat, hplan, ← exatInvalid_iff]
    simp only [setArgsInvalid, setArgsOf, Bool.or_false, Bool.false_or]
  | pxat v =>
    rw [setPlan, plan_pxat, hplan, ← pxatInvalid_iff he]
    simp only [setArgsInvalid, setArgsOf, Bool.or_false, Bool.false_or]

/-- … against an M7 function that stores the deadline up to `purge` -/
theorem Wrote.simF_purge {c c' : CState} {k : Nat} {e : Option Entry} (hd : Wrote c k e c')
    {f : State → State × Reply} {r : Reply} (hr : (f (absP c)).2 = r)
    (hf : purge (f (absP c)).1 (unix c) = purge (setAt k e (absP c)) (unix c)) : SimF c f (c', r) :=
  ⟨hr.symm, hd.shows.trans hf.symm, hd.inv, hd.now, hd.epoch⟩

theorem u64Mul1000_secs {s : Int} (h0 : 0 < s) (h1 : s ≤ 9223372036854775) :
    u64Mul1000 (asU64 s) = some (asU64 (s * 1000)) := by
  rw [asU64_nonneg (by omega), asU64_nonneg (by omega), u64Mul1000_eq (by omega)]
  congr 1; omega

section dlSet
variable {c : CState} {k : Nat} {w : Value}

/-- a deadline `m` ms from now (EX / PX, EXPIRE / PEXPIRE): the u64 sum does not trap -/
theorem dlSet_rel (h : CInv c) (hv : NMap.get c.data k = some w) {m : Int} (h0 : 0 < m)
    (h1 : m + ((unix c : Nat) : Int) ≤ 9223372036854775807) :
    u64Add c.now (asU64 m) = some (c.now + m.toNat) ∧
      Wrote c k (some ⟨w, some (m + ((unix c : Nat) : Int)).toNat⟩)
        { c with exp := NMap.insert k (c.now + m.toNat) c.exp } := by
  have hu : ((unix c : Nat) : Int) = (c.epoch : Int) + (c.now : Int) := by simp [unix]
  have e : c.now + m.toNat + c.epoch = (m + ((unix c : Nat) : Int)).toNat := by omega
  exact ⟨by rw [asU64_nonneg (by omega)]; exact u64Add_eq (by omega), e ▸ Wrote.dl h hv (by omega)⟩

/-- a deadline at Unix time `T` ms (EXAT / PXAT): stored relative to the epoch, or the key is dropped
    when that is not positive -/
theorem dlSet_abs (h : CInv c) (hv : NMap.get c.data k = some w) {T : Int} (h0 : 0 < T)
    (h1 : T ≤ 9223372036854775807) :
    Wrote c k (some ⟨w, (some T.toNat)⟩)
      (if sat (T - (c.epoch : Int)) ≤ 0 then dropKey c k
       else { c with exp := NMap.insert k (asU64 (sat (T - (c.epoch : Int)))) c.exp }) := by
  have ht := h.timeOk
  rw [sat_id (i := T - (c.epoch : Int)) (by omega) (by omega)]
  split
  · exact Wrote.dead h (by simp only [unix]; omega)
  · rw [asU64_nonneg (by omega)]
    have e : (T - (c.epoch : Int)).toNat + c.epoch = T.toNat := by omega
    exact e ▸ Wrote.dl h hv (by omega)

theorem sat_secs {s : Int} (h0 : 0 < s) (h1 : s ≤ 9223372036854775) : sat (s * 1000) = s * 1000 :=
  sat_id (by omega) (by omega)

end dlSet

/-- "Handle expiration" of `execute_set` on a key that holds `w` and is not past its deadline -/
theorem setExpiry_spec {c : CState} (h : CInv c) {k : Nat} {w : Value} (hv : NMap.get c.data k = some w)
    (hx : isExpired c k = false) (cnd : SetCond) (e : SetExp) (g : Bool)
    (hvalid : setPlan (unix c) e ≠ .invalid) :
    ∃ c', setExpiry c k (setArgsOf cnd e g) = some c' ∧
      Wrote c k (some ⟨w, planDl (setPlan (unix c) e) ((NMap.get c.exp k).map (· + c.epoch))⟩) c' := by
  cases e with
  | none => exact ⟨_, rfl, Wrote.noDl h hv⟩
  | keepttl => exact ⟨_, rfl, Wrote.keep h hv hx⟩
  | ex s =>
    obtain ⟨⟨p1, p2, p3⟩, hp⟩ := at_of_valid (plan_ex (unix c) s) hvalid
    obtain ⟨ha, hd⟩ := dlSet_rel h hv (m := s * 1000) (by omega) p3
    refine ⟨_, ?_, by rw [setPlan, hp]; exact hd⟩
    show (u64Mul1000 (asU64 s)).bind _ = _
    rw [u64Mul1000_secs p1 p2, Option.bind_some, ha]
    rfl
  | px s =>
    obtain ⟨⟨p1, p3⟩, hp⟩ := at_of_valid (plan_px (unix c) s) hvalid
    obtain ⟨ha, hd⟩ := dlSet_rel h hv p1 p3
    refine ⟨_, ?_, by rw [setPlan, hp]; exact hd⟩
    show (u64Add c.now (asU64 s)).map _ = _
    rw [ha]
    rfl
  | exat s =>
    obtain ⟨⟨p1, p2⟩, hp⟩ := at_of_valid (plan_exat (unix c) s) hvalid
    have hd := dlSet_abs h hv (T := s * 1000) (by omega) (by omega)
    refine ⟨_, ?_, by rw [setPlan, hp]; exact hd⟩
    show (if sat (sat (s * 1000) - (c.epoch : Int)) ≤ 0 then _ else _) = _
    rw [sat_secs p1 p2]
    split <;> rfl
  | pxat s =>
    obtain ⟨⟨p1, p2⟩, hp⟩ := at_of_valid (plan_pxat (unix c) s) hvalid
    have hd := dlSet_abs h hv p1 p2
    refine ⟨_, ?_, by rw [setPlan, hp]; exact hd⟩
    show (if sat (s - (c.epoch : Int)) ≤ 0 then _ else _) = _
    split <;> rfl

/-- the part of `execute_set` after the NX / XX tests: `data.insert`, then "Handle expiration" -/
theorem setStore_spec {c : CState} (h : CInv c) (k : Nat) (v : BS) (cnd : SetCond) (e : SetExp) (g : Bool)
    (hx : isExpired c k = false) (hvalid : setPlan (unix c) e ≠ .invalid) :
    ∃ c', setExpiry { c with data := NMap.insert k (.str v) c.data } k (setArgsOf cnd e g) = some c' ∧
      Wrote c k (some ⟨.str v, planDl (setPlan (unix c) e) ((NMap.get c.exp k).map (· + c.epoch))⟩) c' := by
  obtain ⟨c', h1, hw⟩ := setExpiry_spec (Wrote.store h hx (valueOk_str v)).inv (k := k) (w := .str v)
    (show NMap.get (NMap.insert k (Value.str v) c.data) k = some (.str v) by simp [NMap.get_insert])
    hx cnd e g hvalid
  exact ⟨c', h1, (Wrote.store h hx (valueOk_str v)).trans hw h⟩

theorem getValue_of_notExp {c : CState} {k : Nat} (hx : isExpired c k = false) :
    getValue c k = (c, NMap.get c.data k) := by simp [getValue, hx]

/-- `execute_set` from the NX / XX tests on: `old` is what GET found, `A` / `S` what M7 replies when the
    command is aborted / carried out -/
theorem setTail_sim {cs c : CState} {k : Nat} {o : Option Value} (g : After cs k c o) (v : BS)
    (cnd : SetCond) (e : SetExp) (gg : Bool) (hp : setPlan (unix c) e ≠ .invalid)
    (old : Option BS) {A S : Reply} (h1 : o.isSome = true → oldReply old = A) (h2 : o = none → Reply.nil = A)
    {f : State → State × Reply}
    (hf : f (absP c) =
      if (cnd == .nx && (NMap.get (absP c) k).isSome) || (cnd == .xx && !(NMap.get (absP c) k).isSome)
      then (absP c, A)
      else (NMap.insert k ⟨.str v, planDl (setPlan (unix c) e) (oldDl (absP c) k)⟩ (absP c), S)) :
    ∃ res, (if (cnd == .nx) && o.isSome then some (c, oldReply old)
        else if (cnd == .xx) && !o.isSome then some (c, .nil)
        else (setExpiry { c with data := NMap.insert k (.str v) c.data } k (setArgsOf cnd e gg)).map
          fun c' => (c', S)) = some res ∧ SimF c f res := by
  have hsome : (NMap.get (absP c) k).isSome = o.isSome := by rw [g.look]; cases o <;> rfl
  have hold : oldDl (absP c) k = (NMap.get c.exp k).map (· + c.epoch) := by
    unfold oldDl
    rw [g.look]
    cases ho : o with
    | none => rw [exp_none_of_data_none g.inv (ho ▸ g.val)]; rfl
    | some w => rfl
  rw [hsome, hold] at hf
  by_cases hn : ((cnd == .nx) && o.isSome) = true
  · rw [if_pos hn]
    rw [hn, Bool.true_or, if_pos rfl, ← h1 (Bool.and_eq_true _ _ ▸ hn).2] at hf
    exact ⟨_, rfl, g.keep hf⟩
  · rw [Bool.not_eq_true] at hn
    rw [hn, Bool.false_or] at hf
    rw [if_neg (by rw [hn]; exact Bool.false_ne_true)]
    by_cases hx : ((cnd == .xx) && !o.isSome) = true
    · have ho : o = none := by
        cases o with
        | none => rfl
        | some w => rw [Bool.and_eq_true] at hx; exact absurd hx.2 (by simp)
      rw [if_pos hx]
      rw [hx, if_pos rfl, ← h2 ho] at hf
      exact ⟨_, rfl, g.keep hf⟩
    · rw [Bool.not_eq_true] at hx
      obtain ⟨c', hc', hd⟩ := setStore_spec g.inv k v cnd e gg g.notExp hp
      rw [hx, if_neg Bool.false_ne_true] at hf
      rw [if_neg (by rw [hx]; exact Bool.false_ne_true), hc']
      exact ⟨_, rfl, hd.simF hf⟩

/-- SET: invalid options answer before anything is read (`setArgsInvalid_iff`; state untouched).  Otherwise,
    after `get_value(k)`, the reply of the GET option is fixed by what is stored (absent, a string, or
    WRONGTYPE), and `setTail_sim` covers condition, expiry plan and store for that old reply. -/
theorem cSet_sim {cs : CState} (h : CInv cs) (k : Nat) (v : BS) (cnd : SetCond) (e : SetExp) (gg : Bool)
    (he : SetExpOk e) :
    ∃ res, cSet cs k v (setArgsOf cnd e gg) = some res ∧ Sim cs (.set k v cnd e gg) res := by
  show ∃ res, _ ∧ SimF cs (fun s => execSet s (unix cs) k v cnd e gg) res
  unfold cSet
  by_cases hinv : setArgsInvalid cs (setArgsOf cnd e gg) = true
  · have hp := (setArgsInvalid_iff h cnd e gg he).mp hinv
    rw [if_pos hinv]
    exact ⟨_, rfl, simF_refl h (by simp only [execSet, hp, if_true])⟩
  · have hp : setPlan (unix cs) e ≠ .invalid := fun hh => hinv ((setArgsInvalid_iff h cnd e gg he).mpr hh)
    rw [if_neg hinv]
    gv h k
    have hc2 : getValue c k = (c, o) := by rw [getValue_of_notExp g.notExp, g.val]
    rw [unix_eq g.now g.epoch] at hp ⊢
    suffices ∃ res, _ = some res ∧ SimF c (fun s => execSet s (unix c) k v cnd e gg) res from
      this.imp fun _ hr => ⟨hr.1, g.simF hr.2⟩
    have hf : ∀ {A S : Reply}, (gg && wrongStr (absP c) k) = false →
        (if gg then oldStrReply (absP c) k else .nil) = A → (if gg then oldStrReply (absP c) k else .ok) = S →
        execSet (absP c) (unix c) k v cnd e gg = _ := fun hw hA hS => by
      rw [execSet, if_neg hp, setCore, hw, if_neg Bool.false_ne_true, hA, hS]
    cases gg
    · simp only [setArgsOf, Bool.false_eq_true, if_false, hr]
      exact setTail_sim g v cnd e false hp none (fun _ => rfl) (fun _ => rfl) (hf rfl rfl rfl)
    · simp only [setArgsOf, if_true]
      rcases o with _ | w
      · have ho : (if true then oldStrReply (absP c) k else .nil) = oldReply none := by
          simp only [if_true, oldStrReply, lookupStr, g.look_none]; rfl
        simp only [hc2]
        exact setTail_sim g v cnd e true hp none (fun _ => rfl) (fun _ => rfl)
          (hf (by simp only [wrongStr, lookupStr, g.look_none]; rfl) ho ho)
      · cases w
        case str b =>
          have ho : (if true then oldStrReply (absP c) k else .nil) = oldReply (some b) := by
            simp only [if_true, oldStrReply, lookupStr, g.look_some]; rfl
          simp only [hc2]
          exact setTail_sim g v cnd e true hp (some b) (fun _ => rfl) (fun ho => nomatch ho)
            (hf (by simp only [wrongStr, lookupStr, g.look_some]; rfl) ho ho)
        all_goals
          exact ⟨_, rfl, g.wrong (by
            simp only [execSet, if_neg hp, setCore, wrongStr, lookupStr, g.look_some, Bool.and_self, if_true])⟩

def GetExOk : GetExOpt → Prop
  | .ex v | .px v | .exat v | .pxat v => I64 v
  | _ => True

instance : DecidablePred GetExOk := fun e => by cases e <;> unfold GetExOk <;> infer_instance

/-- GETEX handles the deadline as SET does: no option = KEEPTTL, PERSIST = no option of SET -/
def getExAsSet : GetExOpt → SetExp
  | .none => .keepttl
  | .persist => .none
  | .ex v => .ex v
  | .px v => .px v
  | .exat v => .exat v
  | .pxat v => .pxat v

theorem getExPlan_eq (now : Nat) (o : GetExOpt) : getExPlan now o = setPlan now (getExAsSet o) := by
  cases o <;> rfl

/-- `execute_getex` on a string: the validation of `execute_set`, then its "Handle expiration" -/
theorem cGetEx_str {cs c : CState} {k : Nat} {b : BS} (hg : getValue cs k = (c, some (.str b)))
    (o : GetExOpt) :
    cGetEx cs k (getExArgsOf o) =
      if setArgsInvalid c (setArgsOf .always (getExAsSet o) false) then some (c, .err .invalidExpire)
      else (setExpiry c k (setArgsOf .always (getExAsSet o) false)).map (·, .bulk b) := by
  unfold cGetEx
  rw [hg]
  -- both sides are the same tests and the same writes; only where the reply is paired differs
  cases o <;>
    simp only [getExArgsOf, getExAsSet, setArgsInvalid, setArgsOf, setExpiry, Bool.or_false, Bool.false_or,
      Bool.false_eq_true, if_false]
  case none | persist => rfl
  case ex s =>
    congr 1
    cases u64Mul1000 (asU64 s) with
    | none => rfl
    | some d => simp only [Option.bind_some, Option.map_map]; rfl
  case px s => congr 1; cases u64Add c.now (asU64 s) <;> rfl
  case exat s | pxat s => congr 1; split <;> rfl

theorem cGetEx_sim {cs : CState} (h : CInv cs) (k : Nat) (opt : GetExOpt) (he : GetExOk opt) :
    ∃ res, cGetEx cs k (getExArgsOf opt) = some res ∧ Sim cs (.getex k opt) res := by
  show ∃ res, _ ∧ SimF cs (fun s => execGetEx s (unix cs) k opt) res
  gv h k
  rw [unix_eq g.now g.epoch]
  suffices ∃ res, _ = some res ∧ SimF c (fun s => execGetEx s (unix c) k opt) res from
    this.imp fun _ hr => ⟨hr.1, g.simF hr.2⟩
  rcases o with _ | w
  · exact ⟨(c, .nil), by unfold cGetEx; rw [hr], g.keep (by simp only [execGetEx, lookupStr, g.look_none])⟩
  · cases w
    case str b =>
      have heo : SetExpOk (getExAsSet opt) := by cases opt <;> first | exact he | trivial
      have hf : execGetEx (absP c) (unix c) k opt = match setPlan (unix c) (getExAsSet opt) with
          | .invalid => (absP c, .err .invalidExpire)
          | .keep => (absP c, .bulk b)
          | .clear => (NMap.insert k ⟨.str b, none⟩ (absP c), .bulk b)
          | .at d => (NMap.insert k ⟨.str b, some d⟩ (absP c), .bulk b) := by
        simp only [execGetEx, lookupStr, g.look_some, getExPlan_eq]
        cases setPlan (unix c) (getExAsSet opt) <;> rfl
      rw [cGetEx_str hr]
      by_cases hinv : setArgsInvalid c (setArgsOf .always (getExAsSet opt) false) = true
      · rw [if_pos hinv]
        rw [(setArgsInvalid_iff g.inv _ _ _ heo).mp hinv] at hf
        exact ⟨_, rfl, g.keep hf⟩
      · have hp := fun hh => hinv ((setArgsInvalid_iff g.inv .always _ false heo).mpr hh)
        obtain ⟨c', hc', hd⟩ := setExpiry_spec g.inv g.val g.notExp .always _ false hp
        rw [if_neg hinv, hc']
        refine ⟨_, rfl, hd.simF ?_⟩
        rw [hf]
        cases hpl : setPlan (unix c) (getExAsSet opt) with
        | invalid => exact absurd hpl hp
        | keep => simp only [planDl, setAt]; rw [insert_self (wf_absP g.inv.wfd) g.look_some]
        | clear => rfl
        | «at» d => rfl
    all_goals
      exact ⟨(c, wrongType), by unfold cGetEx; rw [hr],
        g.wrong (by simp only [execGetEx, lookupStr, g.look_some])⟩


end RedisVerif.Executor
