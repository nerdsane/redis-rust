import RedisVerif.Model.AntiEntropy
import RedisVerif.Lemmas.NMap
import RedisVerif.Lemmas.Crdt
import RedisVerif.Lemmas.HashBytes

/-! Lemmas for C18 (`Model/AntiEntropy.lean`).  The digest is a function of the projection `proj vs s`
(per key, the value stream): the sorted fold makes it independent of the iteration order, an ideal
hasher makes the root determine every bucket of the projection (`projBucket`), and the canonical
stream, being prefix-injective (`PI`), determines the value, which carries that back to the state;
then one exchange, and the response arranged in key order. -/
namespace RedisVerif
namespace AE

variable {vs : ValueStream} {arr : Arrange}

/-! ## sorting `(key_hash, value_hash)` pairs -/

theorem pairLe_total (a b : Nat × Nat) : pairLe a b = true ∨ pairLe b a = true := by
  unfold pairLe
  simp only [Bool.or_eq_true, Bool.and_eq_true, decide_eq_true_eq, beq_iff_eq]
  omega

theorem pairLe_trans {a b c : Nat × Nat} (h1 : pairLe a b = true) (h2 : pairLe b c = true) :
    pairLe a c = true := by
  unfold pairLe at *
  simp only [Bool.or_eq_true, Bool.and_eq_true, decide_eq_true_eq, beq_iff_eq] at *
  omega

theorem pairLe_antisymm {a b : Nat × Nat} (h1 : pairLe a b = true) (h2 : pairLe b a = true) : a = b := by
  unfold pairLe at *
  simp only [Bool.or_eq_true, Bool.and_eq_true, decide_eq_true_eq, beq_iff_eq] at *
  obtain ⟨a1, a2⟩ := a
  obtain ⟨b1, b2⟩ := b
  simp only [Prod.mk.injEq] at *
  omega

theorem sortPairs_eq_isort (l : List (Nat × Nat)) : sortPairs l = HB.isort pairLe l := by
  rw [sortPairs, HB.eq_insertBy (ins := insertPair) (le := pairLe) (fun _ => rfl) (fun _ _ _ => rfl)]; rfl

theorem sortPairs_perm (l : List (Nat × Nat)) : (sortPairs l).Perm l :=
  sortPairs_eq_isort l ▸ HB.isort_perm pairLe l

theorem sortPairs_eq_of_perm {l l' : List (Nat × Nat)} (h : l.Perm l') : sortPairs l = sortPairs l' := by
  rw [sortPairs_eq_isort, sortPairs_eq_isort]
  exact HB.isort_eq_of_perm pairLe_total (fun _ _ _ => pairLe_trans) h (fun _ _ _ _ => pairLe_antisymm)

/-! ## iteration order -/

theorem iter_perm {π π' : List Nat} (s : NMap RV) (h : π.Perm π') : (iter π s).Perm (iter π' s) :=
  h.filterMap _

theorem mem_iter {π : List Nat} {s : NMap RV} {q : Nat × RV} (h : q ∈ iter π s) : NMap.get s q.1 = some q.2 := by
  unfold iter at h
  rw [List.mem_filterMap] at h
  obtain ⟨k, _, hk⟩ := h
  cases hg : NMap.get s k with
  | none => rw [hg] at hk; simp at hk
  | some v => rw [hg] at hk; simp at hk; subst hk; exact hg

theorem bucketDigests_perm (H : Hasher) (depth : Nat) {π π' : List Nat} (s : NMap RV) (b : Nat)
    (h : π.Perm π') : (bucketDigests H vs depth π s b).Perm (bucketDigests H vs depth π' s b) :=
  ((iter_perm s h).map _).filter _

theorem foldl_maxTs_perm {ds ds' : List KeyDigest} (h : ds.Perm ds') (m : Nat) :
    ds.foldl (fun m d => max m d.timestamp) m = ds'.foldl (fun m d => max m d.timestamp) m := by
  apply h.foldl_eq'
  intro x _ y _ z
  simp only [Nat.max_assoc, Nat.max_comm x.timestamp y.timestamp]

theorem fromDigests_sorted_perm (H : Hasher) {ds ds' : List KeyDigest} (h : ds.Perm ds') :
    fromDigests H true ds = fromDigests H true ds' := by
  simp only [fromDigests, hashedPairs, if_true]
  rw [h.isEmpty_eq, sortPairs_eq_of_perm (h.map _), h.length_eq, foldl_maxTs_perm h]

theorem fromState_congr {H : Hasher} {sb : Bool} {vs' : ValueStream} {depth : Nat} {π π' : List Nat} {s t : NMap RV}
    (h : ∀ b, b < 2 ^ depth → fromDigests H sb (bucketDigests H vs depth π s b)
      = fromDigests H sb (bucketDigests H vs' depth π' t b)) :
    fromState H sb vs depth π s = fromState H sb vs' depth π' t := by
  unfold fromState
  rw [List.map_congr_left fun b hb => h b (List.mem_range.mp hb)]

theorem fromState_sorted_perm (H : Hasher) (depth : Nat) {π π' : List Nat} (s : NMap RV)
    (h : π.Perm π') : fromState H true vs depth π s = fromState H true vs depth π' s :=
  fromState_congr fun b _ => fromDigests_sorted_perm H (bucketDigests_perm H depth s b h)

/-! ## what the digest looks at -/

/-- the outer time can be read off the value stream (`pinnedStream` and `canonicalStream` start
    with it, `byteStream` with its 8 little-endian bytes): `KeyDigest.timestamp` is then a function
    of the stream -/
def StreamOK (vs : ValueStream) : Prop := ∃ tsOf : List Nat → Nat, ∀ v : RV, tsOf (vs v) = v.ts.time

theorem streamOK_pinned : StreamOK pinnedStream := ⟨fun l => l.headD 0, fun _ => rfl⟩
theorem streamOK_canonical : StreamOK canonicalStream := ⟨fun l => l.headD 0, fun _ => rfl⟩

/-- the projection of a state that the digest is a function of: per key, the value stream -/
def proj (vs : ValueStream) (s : NMap RV) : NMap (List Nat) := s.map fun p => (p.1, vs p.2)

/-- `keyDigest` as a function of an entry of the projection (`tsOf` reads the timestamp off the stream) -/
def kdOf (H : Hasher) (tsOf : List Nat → Nat) (p : Nat × List Nat) : KeyDigest :=
  { keyHash := H.key p.1, valueHash := H.val p.2, timestamp := tsOf p.2 }

/-- the entries of the projection that fall into bucket `b` -/
def projBucket (H : Hasher) (vs : ValueStream) (depth b : Nat) (s : NMap RV) : NMap (List Nat) :=
  (proj vs s).filter fun p => H.key p.1 % 2 ^ depth == b

theorem keyDigest_eq_kdOf (H : Hasher) {tsOf : List Nat → Nat} (hvs : ∀ v : RV, tsOf (vs v) = v.ts.time)
    (k : Nat) (v : RV) : keyDigest H vs k v = kdOf H tsOf (k, vs v) := by
  simp only [keyDigest, kdOf, hvs v]

theorem wf_proj {s : NMap RV} (h : NMap.WF s) : NMap.WF (proj vs s) := NMap.wf_mapVal vs h

theorem wf_projBucket {s : NMap RV} (H : Hasher) (depth b : Nat) (h : NMap.WF s) :
    NMap.WF (projBucket H vs depth b s) := List.Pairwise.filter _ (wf_proj h)

theorem eq_of_sorted_of_mem_iff {α : Type} (key : α → Nat) {a b : List α}
    (ha : a.Pairwise fun x y => key x < key y) (hb : b.Pairwise fun x y => key x < key y)
    (h : ∀ p, p ∈ a ↔ p ∈ b) : a = b := by
  have nd : ∀ {m : List α}, (m.Pairwise fun x y => key x < key y) → m.Nodup := fun hm =>
    List.Pairwise.imp (S := (· ≠ ·)) (fun hlt e => Nat.lt_irrefl _ (e ▸ hlt)) hm
  refine List.Perm.eq_of_pairwise ?_ ha hb ((List.perm_ext_iff_of_nodup (nd ha) (nd hb)).mpr h)
  intro x y _ _ h1 h2
  exact absurd h1 (Nat.lt_asymm h2)

theorem filterMap_eq_self {α : Type} {f : α → Option α} : ∀ {l : List α}, (∀ p ∈ l, f p = some p) → l.filterMap f = l
  | [], _ => rfl
  | x :: xs, h => by
    rw [List.filterMap_cons, h x List.mem_cons_self, filterMap_eq_self fun p hp => h p (List.mem_cons_of_mem _ hp)]

theorem iter_keys {s : NMap RV} (h : NMap.WF s) : iter (NMap.keys s) s = s := by
  unfold iter NMap.keys
  rw [List.filterMap_map]
  refine filterMap_eq_self fun p hp => ?_
  simp only [Function.comp, NMap.get_of_mem h hp, Option.map_some]

theorem iter_valid_perm {π : List Nat} {s : NMap RV} (hs : NMap.WF s) (hπ : ValidOrder π s) :
    (iter π s).Perm s := by
  have := iter_perm s hπ
  rw [iter_keys hs] at this
  exact this

theorem bucketDigests_perm_proj (H : Hasher) {tsOf : List Nat → Nat} (hvs : ∀ v : RV, tsOf (vs v) = v.ts.time)
    (depth : Nat) {π : List Nat} {s : NMap RV}
    (b : Nat) (hs : NMap.WF s) (hπ : ValidOrder π s) :
    (bucketDigests H vs depth π s b).Perm ((projBucket H vs depth b s).map (kdOf H tsOf)) := by
  unfold bucketDigests projBucket proj
  have h1 := ((iter_valid_perm hs hπ).map (fun p => keyDigest H vs p.1 p.2)).filter (fun d => bucketOf depth d == b)
  refine h1.trans ?_
  have hk : (fun p : Nat × RV => keyDigest H vs p.1 p.2) = (kdOf H tsOf ∘ fun p : Nat × RV => (p.1, vs p.2)) := by
    funext p; exact keyDigest_eq_kdOf H hvs p.1 p.2
  rw [hk]
  simp only [List.filter_map, List.map_map]
  exact List.Perm.of_eq rfl

/-! ## the canonical value stream determines the value

  Every serialiser below is *prefix-injective*: `f a ++ r = f b ++ r'` forces `a = b` and
  `r = r'` (tags and length prefixes make the stream uniquely decodable), and such serialisers
  compose. -/

def PI {α : Type} (f : α → List Nat) : Prop :=
  ∀ (a b : α) (r r' : List Nat), f a ++ r = f b ++ r' → a = b ∧ r = r'

theorem PI.inj {α : Type} {f : α → List Nat} (hf : PI f) {a b : α} (h : f a = f b) : a = b :=
  (hf a b [] [] (by rw [h])).1

theorem PI_single : PI (fun n : Nat => [n]) := fun _ _ _ _ h => List.cons.inj h

theorem PI.append {α β : Type} {f : α → List Nat} {g : β → List Nat} (hf : PI f) (hg : PI g) :
    PI (fun p : α × β => f p.1 ++ g p.2) := by
  intro a b r r' h
  simp only [List.append_assoc] at h
  obtain ⟨h1, h2⟩ := hf _ _ _ _ h
  obtain ⟨h3, h4⟩ := hg _ _ _ _ h2
  exact ⟨Prod.ext h1 h3, h4⟩

theorem PI.comp {α β : Type} {f : α → List Nat} (hf : PI f) {e : β → α} (he : ∀ x y, e x = e y → x = y) :
    PI (fun x => f (e x)) :=
  fun _ _ _ _ h => ⟨he _ _ (hf _ _ _ _ h).1, (hf _ _ _ _ h).2⟩

/-- `Option<T>`: a prefix-injective tag of the discriminant (`t 0` / `t 1`), then the payload -/
theorem PI_optTag {α : Type} {t : Nat → List Nat} (ht : PI t) {f : α → List Nat} (hf : PI f)
    {s : Option α → List Nat} (h0 : s none = t 0) (h1 : ∀ a, s (some a) = t 1 ++ f a) : PI s := by
  intro a b r r' h
  cases a <;> cases b <;> simp only [h0, h1, List.append_assoc] at h
  · exact ⟨rfl, (ht _ _ _ _ h).2⟩
  · exact absurd (ht _ _ _ _ h).1 (by decide)
  · exact absurd (ht _ _ _ _ h).1 (by decide)
  · obtain ⟨h2, h3⟩ := hf _ _ _ _ (ht _ _ _ _ h).2
    exact ⟨by rw [h2], h3⟩

theorem PI_opt {α : Type} {f : α → List Nat} (hf : PI f) {s : Option α → List Nat} (h0 : s none = [0])
    (h1 : ∀ a, s (some a) = 1 :: f a) : PI s := PI_optTag PI_single hf h0 h1

theorem flatMap_prefix_inj_of {α : Type} {f : α → List Nat} :
    ∀ (l l' : List α) (r r' : List Nat), l.length = l'.length →
      (∀ a ∈ l, ∀ b ∈ l', ∀ r r', f a ++ r = f b ++ r' → a = b ∧ r = r') →
      l.flatMap f ++ r = l'.flatMap f ++ r' → l = l' ∧ r = r' := by
  intro l
  induction l with
  | nil =>
    intro l' r r' hl _ h
    cases l' with
    | nil => exact ⟨rfl, h⟩
    | cons _ _ => cases hl
  | cons x xs ih =>
    intro l' r r' hl hf h
    cases l' with
    | nil => cases hl
    | cons y ys =>
      simp only [List.flatMap_cons, List.append_assoc] at h
      obtain ⟨h1, h2⟩ := hf x List.mem_cons_self y List.mem_cons_self _ _ h
      obtain ⟨h3, h4⟩ := ih ys r r' (Nat.succ.inj hl)
        (fun a ha b hb => hf a (List.mem_cons_of_mem _ ha) b (List.mem_cons_of_mem _ hb)) h2
      exact ⟨by rw [h1, h3], h4⟩

theorem flatMap_prefix_inj {α : Type} {f : α → List Nat} (hf : PI f) (l l' : List α) (r r' : List Nat)
    (hl : l.length = l'.length) (h : l.flatMap f ++ r = l'.flatMap f ++ r') : l = l' ∧ r = r' :=
  flatMap_prefix_inj_of l l' r r' hl (fun a _ b _ => hf a b) h

theorem flatMap_inj {α : Type} {f : α → List Nat} (hf : PI f) (hne : ∀ a, f a ≠ []) :
    ∀ l l' : List α, l.flatMap f = l'.flatMap f → l = l'
  | [], [], _ => rfl
  | [], y :: ys, h => absurd (List.append_eq_nil_iff.mp h.symm).1 (hne y)
  | x :: xs, [], h => absurd (List.append_eq_nil_iff.mp h).1 (hne x)
  | x :: xs, y :: ys, h => by
    obtain ⟨h1, h2⟩ := hf x y _ _ h
    rw [h1, flatMap_inj hf hne xs ys h2]

/-- `Vec<T>`: a prefix-injective code of the length, then every element -/
theorem PI_lenTag {α : Type} {t : Nat → List Nat} (ht : PI t) {f : α → List Nat} (hf : PI f) :
    PI (fun l : List α => t l.length ++ l.flatMap f) := by
  intro a b r r' h
  simp only [List.append_assoc] at h
  obtain ⟨h1, h2⟩ := ht _ _ _ _ h
  exact flatMap_prefix_inj hf a b r r' h1 h2

theorem PI_serList {α : Type} {f : α → List Nat} (hf : PI f) : PI (serList f) := PI_lenTag PI_single hf

theorem PI_serBytes : PI serBytes := PI_serList PI_single
theorem PI_serCounts : PI serCounts := PI_serList (PI_single.append PI_single)
theorem PI_serNSet : PI serNSet := PI_serList PI_single

theorem PI_serOptBytes : PI serOptBytes := PI_opt PI_serBytes rfl fun _ => rfl
theorem PI_serOptNat : PI serOptNat := PI_opt PI_single rfl fun _ => rfl
theorem PI_serOptCounts : PI serOptCounts := PI_opt PI_serCounts rfl fun _ => rfl

theorem PI_serStamp : PI serStamp :=
  (PI_single.append PI_single).comp (e := fun s : Stamp => (s.time, s.rid)) fun ⟨_, _⟩ ⟨_, _⟩ h => by
    cases h; rfl

theorem PI_boolWord : PI (fun b : Bool => [if b then 1 else 0]) := PI_single.comp (by decide)

theorem PI_serLww : PI serLww :=
  (PI_serOptBytes.append (PI_serStamp.append PI_boolWord)).comp (e := fun r : Lww => (r.value, r.ts, r.tomb))
    fun ⟨_, _, _⟩ ⟨_, _, _⟩ h => by cases h; rfl

theorem PI_serCrdt : PI serCrdt := by
  intro a b r r' h
  cases a <;> cases b <;> simp only [serCrdt, List.cons_append, List.cons.injEq] at h <;>
    first | exact absurd h.1 (by decide) | skip
  · obtain ⟨h1, h2⟩ := PI_serLww _ _ _ _ h.2
    exact ⟨by rw [h1], h2⟩
  · obtain ⟨h1, h2⟩ := PI_serCounts _ _ _ _ h.2
    exact ⟨by rw [h1], h2⟩
  · obtain ⟨h1, h2⟩ := (PI_serCounts.append PI_serCounts) (_, _) (_, _) _ _ h.2
    cases h1; exact ⟨rfl, h2⟩
  · obtain ⟨h1, h2⟩ := PI_serNSet _ _ _ _ h.2
    exact ⟨by rw [h1], h2⟩
  · obtain ⟨h1, h2⟩ := ((PI_serList (PI_single.append PI_serNSet)).append PI_serCounts) (_, _) (_, _) _ _ h.2
    cases h1; exact ⟨rfl, h2⟩
  · obtain ⟨h1, h2⟩ := PI_serList (PI_single.append PI_serLww) _ _ _ _ h.2
    exact ⟨by rw [h1], h2⟩

theorem PI_canonicalStream : PI canonicalStream :=
  (PI_serStamp.append (PI_serCrdt.append (PI_serOptCounts.append (PI_serOptNat.append PI_serOptNat)))).comp
    (e := fun v : RV => (v.ts, v.crdt, v.vc, v.expiry, v.rf)) fun ⟨_, _, _, _, _⟩ ⟨_, _, _, _, _⟩ h => by
      cases h; rfl

/-- **two values that differ anywhere feed different streams to the value hasher** -/
theorem canonicalStream_inj {v w : RV} (h : canonicalStream v = canonicalStream w) : v = w :=
  PI_canonicalStream.inj h

theorem pinnedStream_inj {v w : RV} (h : pinnedStream v = pinnedStream w) :
    v.ts = w.ts ∧ v.get = w.get := by
  obtain ⟨hts, h⟩ := PI_serStamp _ _ _ _ h
  refine ⟨hts, ?_⟩
  cases hv : v.get <;> cases hw : w.get <;> simp only [hv, hw] at h
  · rfl
  · cases h
  · cases h
  · rw [PI_serBytes.inj h]

/-! ## ideal hash -/

/-- the idealised hasher: no collisions, and no stream hashes to the value `0` that
    `MerkleNode::empty` uses -/
structure Ideal (H : Hasher) : Prop where
  keyInj : ∀ a b, H.key a = H.key b → a = b
  valInj : ∀ a b, H.val a = H.val b → a = b
  wordsInj : ∀ a b, H.words a = H.words b → a = b
  wordsNe0 : ∀ a, H.words a ≠ 0

theorem mem_iff_of_map_perm {α β : Type} {g : α → β} (hg : ∀ x y, g x = g y → x = y) {l l' : List α}
    (h : (l.map g).Perm (l'.map g)) (p : α) : p ∈ l ↔ p ∈ l' := by
  have key : ∀ m : List α, g p ∈ m.map g ↔ p ∈ m := fun m =>
    ⟨fun hm => by obtain ⟨q, hq, e⟩ := List.mem_map.mp hm; exact hg q p e ▸ hq, List.mem_map_of_mem⟩
  rw [← key l, ← key l', h.mem_iff]

theorem pair_kdOf_injective {H : Hasher} (hI : Ideal H) (tsOf : List Nat → Nat) (x y : Nat × List Nat)
    (h : ((kdOf H tsOf x).keyHash, (kdOf H tsOf x).valueHash) = ((kdOf H tsOf y).keyHash, (kdOf H tsOf y).valueHash)) :
    x = y := by
  obtain ⟨k, st⟩ := x
  obtain ⟨k', st'⟩ := y
  simp only [kdOf, Prod.mk.injEq] at h
  obtain ⟨h1, h2⟩ := h
  rw [hI.keyInj _ _ h1, hI.valInj _ _ h2]

theorem pairs_perm_of_hash_eq {H : Hasher} (hI : Ideal H) (sb : Bool) {ds ds' : List KeyDigest}
    (h : (fromDigests H sb ds).hash = (fromDigests H sb ds').hash) :
    (ds.map fun d => (d.keyHash, d.valueHash)).Perm (ds'.map fun d => (d.keyHash, d.valueHash)) := by
  cases ds <;> cases ds' <;>
    simp only [fromDigests, List.isEmpty_nil, List.isEmpty_cons, if_true, Bool.false_eq_true, if_false,
      MerkleNode.empty] at h
  · exact List.Perm.refl _
  · exact absurd h.symm (hI.wordsNe0 _)
  · exact absurd h (hI.wordsNe0 _)
  · have h1 := flatMap_inj (PI_single.append PI_single) (fun _ => List.cons_ne_nil _ _) _ _ (hI.wordsInj _ _ h)
    cases sb <;> simp only [hashedPairs, Bool.false_eq_true, if_false, if_true] at h1
    · rw [h1]
    · exact (sortPairs_perm _).symm.trans (h1 ▸ sortPairs_perm _)

theorem projBucket_eq_of_hash_eq {H : Hasher} (hI : Ideal H) (hvs : StreamOK vs) (sb : Bool) (depth : Nat) {π π' : List Nat}
    {s t : NMap RV} (b : Nat) (hs : NMap.WF s) (ht : NMap.WF t) (hπ : ValidOrder π s)
    (hπ' : ValidOrder π' t)
    (h : (fromDigests H sb (bucketDigests H vs depth π s b)).hash
        = (fromDigests H sb (bucketDigests H vs depth π' t b)).hash) :
    projBucket H vs depth b s = projBucket H vs depth b t := by
  obtain ⟨tsOf, hvs⟩ := hvs
  have p1 := (bucketDigests_perm_proj H hvs depth b hs hπ).map fun d => (d.keyHash, d.valueHash)
  have p2 := (bucketDigests_perm_proj H hvs depth b ht hπ').map fun d => (d.keyHash, d.valueHash)
  have h2 := p1.symm.trans ((pairs_perm_of_hash_eq hI sb h).trans p2)
  rw [List.map_map, List.map_map] at h2
  exact eq_of_sorted_of_mem_iff Prod.fst (wf_projBucket H depth b hs) (wf_projBucket H depth b ht)
    (mem_iff_of_map_perm (pair_kdOf_injective hI tsOf) h2)

theorem node_eq_of_projBucket_eq (H : Hasher) (hvs : StreamOK vs) (depth : Nat) {π π' : List Nat}
    {s t : NMap RV} (b : Nat) (hs : NMap.WF s) (ht : NMap.WF t) (hπ : ValidOrder π s)
    (hπ' : ValidOrder π' t) (h : projBucket H vs depth b s = projBucket H vs depth b t) :
    fromDigests H true (bucketDigests H vs depth π s b) = fromDigests H true (bucketDigests H vs depth π' t b) := by
  obtain ⟨tsOf, hvs⟩ := hvs
  rw [fromDigests_sorted_perm H (bucketDigests_perm_proj H hvs depth b hs hπ),
    fromDigests_sorted_perm H (bucketDigests_perm_proj H hvs depth b ht hπ'), h]

/-! ## the root hash determines every bucket hash (ideal hash) -/

/-- nodes built by `from_digests` / `combine`: the hash is `0` exactly for the empty node -/
def NodeOK (n : MerkleNode) : Prop := (n.count = 0 ↔ n.hash = 0)

theorem nodeOK_fromDigests {H : Hasher} (hI : Ideal H) (sb : Bool) (ds : List KeyDigest) :
    NodeOK (fromDigests H sb ds) := by
  unfold fromDigests NodeOK
  cases ds with
  | nil => simp [MerkleNode.empty]
  | cons d ds => exact ⟨fun h => (nomatch h), fun h => absurd h (hI.wordsNe0 _)⟩

theorem nodeOK_combine {H : Hasher} (hI : Ideal H) (l r : MerkleNode) : NodeOK (combine H l r) := by
  unfold combine NodeOK
  split
  · simp [MerkleNode.empty]
  · rename_i hc
    exact ⟨fun h => absurd (by dsimp only at h; omega) hc, fun h => absurd h (hI.wordsNe0 _)⟩

theorem combine_hash_inj {H : Hasher} (hI : Ideal H) {l r l' r' : MerkleNode}
    (hl : NodeOK l) (hr : NodeOK r) (hl' : NodeOK l') (hr' : NodeOK r')
    (h : (combine H l r).hash = (combine H l' r').hash) : l.hash = l'.hash ∧ r.hash = r'.hash := by
  unfold combine at h
  by_cases h1 : l.count = 0 ∧ r.count = 0 <;> by_cases h2 : l'.count = 0 ∧ r'.count = 0
  · rw [hl.mp h1.1, hr.mp h1.2, hl'.mp h2.1, hr'.mp h2.2]; exact ⟨rfl, rfl⟩
  · rw [if_pos h1, if_neg h2] at h
    exact absurd h.symm (hI.wordsNe0 _)
  · rw [if_neg h1, if_pos h2] at h
    exact absurd h (hI.wordsNe0 _)
  · rw [if_neg h1, if_neg h2] at h
    obtain ⟨e1, e2⟩ := List.cons.inj (hI.wordsInj _ _ h)
    exact ⟨e1, (List.cons.inj e2).1⟩

theorem foldl_combine_hash_inj {H : Hasher} (hI : Ideal H) :
    ∀ (rest rest' : List MerkleNode) (c c' : MerkleNode), rest.length = rest'.length →
      NodeOK c → NodeOK c' → (∀ n ∈ rest, NodeOK n) → (∀ n ∈ rest', NodeOK n) →
      (rest.foldl (combine H) c).hash = (rest'.foldl (combine H) c').hash →
      (c :: rest).map (·.hash) = (c' :: rest').map (·.hash)
  | [], [], _, _, _, _, _, _, _, h => congrArg (· :: []) h
  | [], _ :: _, _, _, hlen, _, _, _, _, _ => nomatch hlen
  | _ :: _, [], _, _, hlen, _, _, _, _, _ => nomatch hlen
  | b :: bs, b' :: bs', c, c', hlen, hc, hc', hok, hok', h => by
    obtain ⟨hb, hbs⟩ := List.forall_mem_cons.mp hok
    obtain ⟨hb', hbs'⟩ := List.forall_mem_cons.mp hok'
    have ih := foldl_combine_hash_inj hI bs bs' _ _ (Nat.succ.inj hlen) (nodeOK_combine hI c b)
      (nodeOK_combine hI c' b') hbs hbs' h
    simp only [List.map_cons, List.cons.injEq] at ih ⊢
    obtain ⟨h1, h2⟩ := combine_hash_inj hI hc hb hc' hb' ih.1
    exact ⟨h1, h2, ih.2⟩

theorem rootOf_hash_inj {H : Hasher} (hI : Ideal H) :
    ∀ {bs bs' : List MerkleNode}, bs.length = bs'.length → (∀ n ∈ bs, NodeOK n) → (∀ n ∈ bs', NodeOK n) →
      (rootOf H bs).hash = (rootOf H bs').hash → bs.map (·.hash) = bs'.map (·.hash)
  | [], [], _, _, _, _ => rfl
  | [], _ :: _, hlen, _, _, _ => nomatch hlen
  | _ :: _, [], hlen, _, _, _ => nomatch hlen
  | b :: rest, b' :: rest', hlen, hok, hok', h =>
    foldl_combine_hash_inj hI rest rest' b b' (Nat.succ.inj hlen) (List.forall_mem_cons.mp hok).1
      (List.forall_mem_cons.mp hok').1 (List.forall_mem_cons.mp hok).2 (List.forall_mem_cons.mp hok').2 h

/-! ## a map is determined by its buckets -/

theorem proj_eq_of_buckets (H : Hasher) (depth : Nat) {s t : NMap RV} (hs : NMap.WF s) (ht : NMap.WF t)
    (h : ∀ b, b < 2 ^ depth → projBucket H vs depth b s = projBucket H vs depth b t) : proj vs s = proj vs t := by
  refine eq_of_sorted_of_mem_iff Prod.fst (wf_proj hs) (wf_proj ht) fun p => ?_
  -- `p` is in the projection iff it is in the projected bucket of its key
  have key : ∀ u : NMap RV, p ∈ proj vs u ↔ p ∈ projBucket H vs depth (H.key p.1 % 2 ^ depth) u := fun u => by
    simp only [projBucket, List.mem_filter, beq_self_eq_true, and_true]
  rw [key s, key t, h _ (Nat.mod_lt _ (Nat.two_pow_pos depth))]

theorem fromState_buckets_length (H : Hasher) (sb : Bool) (depth : Nat) (π : List Nat) (s : NMap RV) :
    (fromState H sb vs depth π s).buckets.length = 2 ^ depth := by
  simp [fromState]

theorem fromState_bucket_get (H : Hasher) (sb : Bool) (depth : Nat) (π : List Nat) (s : NMap RV)
    (b : Nat) (hb : b < 2 ^ depth) :
    (fromState H sb vs depth π s).buckets[b]? = some (fromDigests H sb (bucketDigests H vs depth π s b)) := by
  simp [fromState, hb]

theorem nodeOK_buckets {H : Hasher} (hI : Ideal H) (sb : Bool) (depth : Nat) (π : List Nat) (s : NMap RV) :
    ∀ n ∈ (fromState H sb vs depth π s).buckets, NodeOK n := by
  intro n hn
  obtain ⟨_, _, rfl⟩ := List.mem_map.mp hn
  exact nodeOK_fromDigests hI _ _

/-- **completeness**: with an ideal hash equal root hashes force equal projections -/
theorem proj_eq_of_root_eq {H : Hasher} (hI : Ideal H) (hvs : StreamOK vs) (sb : Bool) (depth : Nat) {π π' : List Nat} {s t : NMap RV}
    (hs : NMap.WF s) (ht : NMap.WF t) (hπ : ValidOrder π s) (hπ' : ValidOrder π' t)
    (h : (fromState H sb vs depth π s).rootHash = (fromState H sb vs depth π' t).rootHash) :
    proj vs s = proj vs t := by
  apply proj_eq_of_buckets H depth hs ht
  intro b hb
  apply projBucket_eq_of_hash_eq hI hvs sb depth b hs ht hπ hπ'
  have hmap := rootOf_hash_inj hI (by rw [fromState_buckets_length, fromState_buckets_length])
    (nodeOK_buckets hI sb depth π s) (nodeOK_buckets hI sb depth π' t) h
  have h1 := congrArg (·[b]?) hmap
  simp only [List.getElem?_map, fromState_bucket_get _ _ _ _ _ _ hb, Option.map_some, Option.some.injEq] at h1
  exact h1

/-- **soundness**: equal projections give equal digests, whatever the two iteration orders -/
theorem fromState_eq_of_proj_eq (H : Hasher) (hvs : StreamOK vs) (depth : Nat) {π π' : List Nat} {s t : NMap RV}
    (hs : NMap.WF s) (ht : NMap.WF t) (hπ : ValidOrder π s) (hπ' : ValidOrder π' t)
    (h : proj vs s = proj vs t) : fromState H true vs depth π s = fromState H true vs depth π' t :=
  fromState_congr fun b _ => node_eq_of_projBucket_eq H hvs depth b hs ht hπ hπ' (by unfold projBucket; rw [h])

/-! ## divergent buckets -/

theorem mem_divergentBuckets {a b : StateDigest} (h : a.buckets.length = b.buckets.length) (i : Nat) :
    i ∈ divergentBuckets a b ↔ i < a.buckets.length ∧ a.buckets[i]? ≠ b.buckets[i]? := by
  unfold divergentBuckets
  have hdrop : ∀ n : Nat, (List.range n).drop n = [] := by
    intro n; apply List.drop_eq_nil_of_le; simp
  simp only [h, Nat.min_self, hdrop, List.filter_nil, List.append_nil, List.mem_filter, List.mem_range,
    bne_iff_ne, ne_eq]

/-! ## one exchange -/

/-- what a replica holds for a key after merging a received value into it -/
def mergeInto (loc : Option RV) (v : RV) : RV :=
  match loc with
  | some l => RV.merge l v
  | none => v

theorem get_applyDelta {s : NMap RV} (d : Nat × RV) (k : Nat) :
    NMap.get (applyDelta s d) k = if k = d.1 then some (mergeInto (NMap.get s d.1) d.2) else NMap.get s k := by
  unfold applyDelta mergeInto
  cases h : NMap.get s d.1 <;> simp only [NMap.get_insert]

theorem wf_applyDelta {s : NMap RV} (d : Nat × RV) (h : NMap.WF s) : NMap.WF (applyDelta s d) := by
  unfold applyDelta
  cases NMap.get s d.1 <;> exact NMap.wf_insert h

theorem wf_applyDeltas {s : NMap RV} (ds : List (Nat × RV)) (h : NMap.WF s) : NMap.WF (applyDeltas s ds) := by
  unfold applyDeltas
  induction ds generalizing s with
  | nil => exact h
  | cons d ds ih => exact ih (wf_applyDelta d h)

/-! association lists: `List.lookup` is `NMap.get` (on any list, sorted or not) -/

theorem lookup_of_get {ν : Type} {s : NMap ν} (k : Nat) : List.lookup k s = NMap.get s k := by
  induction s with
  | nil => rfl
  | cons x xs ih =>
    obtain ⟨xk, xv⟩ := x
    by_cases hk : k = xk
    · simp [NMap.get, hk]
    · simp [List.lookup_cons, NMap.get, hk, beq_false_of_ne hk, ih]

theorem lookup_filter_key {β : Type} (q : Nat → Bool) (l : List (Nat × β)) (k : Nat) :
    (l.filter fun p => q p.1).lookup k = if q k then l.lookup k else none := by
  rw [lookup_of_get, NMap.get_filter_key, lookup_of_get]

theorem lookup_eq_some_iff_mem {β : Type} {l : List (Nat × β)} (hn : (l.map (·.1)).Nodup) {k : Nat} {v : β} :
    l.lookup k = some v ↔ (k, v) ∈ l := by
  rw [lookup_of_get]
  refine ⟨NMap.mem_of_get, fun h => ?_⟩
  induction l with
  | nil => cases h
  | cons x xs ih =>
    obtain ⟨xk, xv⟩ := x
    rw [List.map_cons, List.nodup_cons] at hn
    rcases List.mem_cons.mp h with e | h
    · cases e; simp [NMap.get]
    · have : k ≠ xk := fun e => hn.1 (e ▸ List.mem_map_of_mem (f := (·.1)) h)
      simp only [NMap.get, if_neg this]
      exact ih hn.2 h

theorem lookup_perm_of_nodup {β : Type} {l l' : List (Nat × β)} (h : l.Perm l')
    (hn : (l.map (·.1)).Nodup) (k : Nat) : l.lookup k = l'.lookup k :=
  Option.ext fun v => by
    rw [lookup_eq_some_iff_mem hn, lookup_eq_some_iff_mem ((h.map _).nodup_iff.mp hn), h.mem_iff]

theorem get_applyDeltas (ds : List (Nat × RV)) :
    ∀ (s : NMap RV) (k : Nat), (ds.map (·.1)).Nodup →
      NMap.get (applyDeltas s ds) k =
        match ds.lookup k with
        | some v => some (mergeInto (NMap.get s k) v)
        | none => NMap.get s k := by
  induction ds with
  | nil => intro s k _; rfl
  | cons d ds ih =>
    intro s k hn
    obtain ⟨dk, dv⟩ := d
    rw [List.map_cons, List.nodup_cons] at hn
    show NMap.get (applyDeltas (applyDelta s (dk, dv)) ds) k = _
    rw [ih _ k hn.2, get_applyDelta, List.lookup_cons]
    by_cases hk : k = dk
    · subst hk
      have hnone : ds.lookup k = none := List.lookup_eq_none_iff.mpr fun p hp =>
        bne_iff_ne.mpr fun e => hn.1 (List.mem_map.mpr ⟨p, hp, e.symm⟩)
      simp [hnone]
    · simp [hk, beq_false_of_ne hk]

theorem merged_eq_optMerge (loc o : Option RV) :
    (match o with
      | some v => some (mergeInto loc v)
      | none => loc) = optMerge RV.merge loc o := by
  cases loc <;> cases o <;> rfl

theorem iter_keys_nodup {π : List Nat} {s : NMap RV} (hs : NMap.WF s) (hπ : ValidOrder π s) :
    ((iter π s).map (·.1)).Nodup :=
  ((iter_valid_perm hs hπ).map _).nodup_iff.mpr (NMap.nodup_keys hs)

theorem lookup_iter {π : List Nat} {s : NMap RV} (hs : NMap.WF s) (hπ : ValidOrder π s) (k : Nat) :
    (iter π s).lookup k = NMap.get s k := by
  rw [lookup_perm_of_nodup (iter_valid_perm hs hπ) (iter_keys_nodup hs hπ), lookup_of_get]

theorem get_applyDeltas_iter {π : List Nat} {p : NMap RV} (r : NMap RV) (hp : NMap.WF p) (hπ : ValidOrder π p)
    (k : Nat) : NMap.get (applyDeltas r (iter π p)) k = optMerge RV.merge (NMap.get r k) (NMap.get p k) := by
  rw [get_applyDeltas _ _ _ (iter_keys_nodup hp hπ), lookup_iter hp hπ]
  exact merged_eq_optMerge _ _

/-- the keys a side would send for the divergent buckets with no limit -/
def candidates (H : Hasher) (depth : Nat) (π : List Nat) (s : NMap RV) (div : List Nat) : List (Nat × RV) :=
  (iter π s).filter fun p => div.contains (H.key p.1 % 2 ^ depth)

/-- an arrangement only reorders -/
def ArrOK (arr : Arrange) : Prop := ∀ l, (arr l).Perm l

theorem arrOK_id : ArrOK (fun l => l) := fun l => List.Perm.refl l

theorem sortByKey_eq_isort (le : Nat → Nat → Bool) (l : List (Nat × RV)) :
    sortByKey le l = HB.isort (fun a b => le a.1 b.1) l := by
  rw [sortByKey, HB.eq_insertBy (ins := insertByKey le) (le := fun a b => le a.1 b.1) (fun _ => rfl) (fun _ _ _ => rfl)]; rfl

theorem arrOK_sortByKey (le : Nat → Nat → Bool) : ArrOK (sortByKey le) :=
  fun l => sortByKey_eq_isort le l ▸ HB.isort_perm _ l

theorem arrOK_arrangeOf (so : SimOrder) (le : Nat → Nat → Bool) : ArrOK (arrangeOf so le) := by
  cases so
  · exact arrOK_id
  · exact arrOK_sortByKey le

theorem getKeysInBuckets_eq_take (H : Hasher) (depth limit : Nat) (π : List Nat) (s : NMap RV)
    (div : List Nat) :
    getKeysInBuckets arr H vs depth limit π s div = (arr (candidates H depth π s div)).take limit := rfl

theorem getKeysInBuckets_full {H : Hasher} {depth limit : Nat} {π : List Nat} {s : NMap RV}
    {div : List Nat} (harr : ArrOK arr) (h : (candidates H depth π s div).length ≤ limit) :
    getKeysInBuckets arr H vs depth limit π s div = arr (candidates H depth π s div) := by
  rw [getKeysInBuckets_eq_take, List.take_of_length_le (by rw [(harr _).length_eq]; exact h)]

/-- what a side sends is an entry of its state whose key lies in a requested bucket, whatever the arrangement and the limit -/
theorem mem_getKeysInBuckets {H : Hasher} {depth limit : Nat} {π : List Nat} {s : NMap RV} {div : List Nat}
    (harr : ArrOK arr) {q : Nat × RV} (h : q ∈ getKeysInBuckets arr H vs depth limit π s div) :
    div.contains (H.key q.1 % 2 ^ depth) = true ∧ NMap.get s q.1 = some q.2 := by
  have := List.mem_filter.mp ((harr _).mem_iff.mp (List.mem_of_mem_take h))
  exact ⟨this.2, mem_iter this.1⟩

theorem lookup_candidates {H : Hasher} {depth : Nat} {π : List Nat} {s : NMap RV} (div : List Nat)
    (hs : NMap.WF s) (hπ : ValidOrder π s) (k : Nat) :
    (candidates H depth π s div).lookup k
      = if div.contains (H.key k % 2 ^ depth) then NMap.get s k else none := by
  unfold candidates
  rw [lookup_filter_key (fun k => div.contains (H.key k % 2 ^ depth)), lookup_iter hs hπ]

theorem candidates_keys_nodup {H : Hasher} {depth : Nat} {π : List Nat} {s : NMap RV} (div : List Nat)
    (hs : NMap.WF s) (hπ : ValidOrder π s) : ((candidates H depth π s div).map (·.1)).Nodup := by
  unfold candidates
  have := iter_keys_nodup hs hπ
  rw [List.Nodup, List.pairwise_map] at this ⊢
  exact List.Pairwise.filter _ this

theorem arr_candidates_keys_nodup {H : Hasher} {depth : Nat} {π : List Nat} {s : NMap RV} (div : List Nat)
    (harr : ArrOK arr) (hs : NMap.WF s) (hπ : ValidOrder π s) :
    ((arr (candidates H depth π s div)).map (·.1)).Nodup :=
  ((harr _).map (·.1)).nodup_iff.mpr (candidates_keys_nodup div hs hπ)

theorem lookup_arr_candidates {H : Hasher} {depth : Nat} {π : List Nat} {s : NMap RV} (div : List Nat)
    (harr : ArrOK arr) (hs : NMap.WF s) (hπ : ValidOrder π s) (k : Nat) :
    (arr (candidates H depth π s div)).lookup k
      = if div.contains (H.key k % 2 ^ depth) then NMap.get s k else none := by
  rw [lookup_perm_of_nodup (harr _) (arr_candidates_keys_nodup div harr hs hπ), lookup_candidates div hs hπ]

theorem get_apply_arr_candidates {H : Hasher} {depth : Nat} {π : List Nat} {s t : NMap RV} (div : List Nat)
    (harr : ArrOK arr) (hs : NMap.WF s) (hπ : ValidOrder π s) (k : Nat) :
    NMap.get (applyDeltas t (arr (candidates H depth π s div))) k
      = if div.contains (H.key k % 2 ^ depth) then optMerge RV.merge (NMap.get t k) (NMap.get s k)
        else NMap.get t k := by
  rw [get_applyDeltas _ _ _ (arr_candidates_keys_nodup div harr hs hπ), lookup_arr_candidates div harr hs hπ]
  by_cases hd : div.contains (H.key k % 2 ^ depth) = true
  · rw [if_pos hd, if_pos hd]; exact merged_eq_optMerge _ _
  · rw [if_neg hd, if_neg hd]

/-- when the digests differ a round IS the exchange for the divergent buckets (for an empty list
    the exchange sends nothing, which is what the code's `is_empty` test short-cuts) -/
theorem syncRoundWith_eq_exchange (harr : ArrOK arr) (H : Hasher) (sb : Bool) (depth limit : Nat)
    (πa πb : List Nat) (a b : NMap RV)
    (hd : differsFrom (fromState H sb vs depth πa a) (fromState H sb vs depth πb b) = true) :
    syncRoundWith arr H sb vs depth limit πa πb a b
      = exchange arr H vs depth limit πa πb a b
          (divergentBuckets (fromState H sb vs depth πa a) (fromState H sb vs depth πb b)) := by
  unfold syncRoundWith
  simp only [hd, if_true]
  split
  · rfl
  · rename_i hemp
    have hdiv : divergentBuckets (fromState H sb vs depth πa a) (fromState H sb vs depth πb b) = [] :=
      List.isEmpty_iff.mp (by simpa using hemp)
    rw [hdiv]
    have hnil : ∀ π s, getKeysInBuckets arr H vs depth limit π s [] = [] := by
      intro π s
      have : candidates H depth π s [] = [] := List.filter_eq_nil_iff.mpr (by simp)
      rw [getKeysInBuckets_eq_take, this, List.eq_nil_of_length_eq_zero (harr []).length_eq, List.take_nil]
    simp only [exchange, hnil]; rfl

theorem wf_syncRoundWith (H : Hasher) (sb : Bool) (depth limit : Nat) (πa πb : List Nat) {a b : NMap RV}
    (ha : NMap.WF a) (hb : NMap.WF b) :
    NMap.WF (syncRoundWith arr H sb vs depth limit πa πb a b).1
      ∧ NMap.WF (syncRoundWith arr H sb vs depth limit πa πb a b).2 := by
  unfold syncRoundWith
  dsimp only
  split
  · split
    · exact ⟨wf_applyDeltas _ ha, wf_applyDeltas _ hb⟩
    · exact ⟨ha, hb⟩
  · exact ⟨ha, hb⟩

/-! ## key order: the arranged response does not depend on the iteration order -/

/-- the laws of a key order (byte-wise `String::cmp` satisfies them) -/
structure TotalOrder (le : Nat → Nat → Bool) : Prop where
  total : ∀ a b, le a b = true ∨ le b a = true
  trans : ∀ a b c, le a b = true → le b c = true → le a c = true
  antisymm : ∀ a b, le a b = true → le b a = true → a = b

theorem totalOrder_natLe : TotalOrder (fun a b => decide (a ≤ b)) :=
  ⟨fun a b => by simp only [decide_eq_true_eq]; omega,
   fun a b c h1 h2 => by simp only [decide_eq_true_eq] at *; omega,
   fun a b h1 h2 => by simp only [decide_eq_true_eq] at *; omega⟩

theorem eq_of_key_eq_of_nodup {l : List (Nat × RV)} (hn : (l.map (·.1)).Nodup) {a b : Nat × RV}
    (ha : a ∈ l) (hb : b ∈ l) (h : a.1 = b.1) : a = b :=
  Prod.ext h (Option.some.inj (((lookup_eq_some_iff_mem hn).mpr ha).symm.trans
    (h ▸ (lookup_eq_some_iff_mem hn).mpr hb)))

theorem sortByKey_eq_of_perm {le : Nat → Nat → Bool} (hle : TotalOrder le) {l l' : List (Nat × RV)}
    (hp : l.Perm l') (hn : (l.map (·.1)).Nodup) : sortByKey le l = sortByKey le l' := by
  rw [sortByKey_eq_isort, sortByKey_eq_isort]
  exact HB.isort_eq_of_perm (fun a b => hle.total a.1 b.1) (fun a b c => hle.trans a.1 b.1 c.1) hp
    (fun a ha b hb h1 h2 => eq_of_key_eq_of_nodup hn ha hb (hle.antisymm _ _ h1 h2))

theorem candidates_perm (H : Hasher) (depth : Nat) {π π' : List Nat} (s : NMap RV) (div : List Nat)
    (h : π.Perm π') : (candidates H depth π s div).Perm (candidates H depth π' s div) :=
  (iter_perm s h).filter _

theorem getKeysInBuckets_sorted_perm {le : Nat → Nat → Bool} (hle : TotalOrder le) (H : Hasher)
    (depth limit : Nat) {π π' : List Nat} {s : NMap RV} (div : List Nat) (hs : NMap.WF s)
    (hπ : ValidOrder π s) (hπ' : ValidOrder π' s) :
    getKeysInBuckets (sortByKey le) H vs depth limit π s div
      = getKeysInBuckets (sortByKey le) H vs depth limit π' s div := by
  rw [getKeysInBuckets_eq_take, getKeysInBuckets_eq_take,
    sortByKey_eq_of_perm hle (candidates_perm H depth s div (hπ.trans hπ'.symm)) (candidates_keys_nodup div hs hπ)]

theorem get_proj (s : NMap RV) (k : Nat) : NMap.get (proj vs s) k = (NMap.get s k).map vs :=
  NMap.get_mapVal vs s k

theorem get_projBucket (H : Hasher) (depth b : Nat) (s : NMap RV) (k : Nat) :
    NMap.get (projBucket H vs depth b s) k
      = if H.key k % 2 ^ depth == b then (NMap.get s k).map vs else none := by
  unfold projBucket
  rw [← lookup_of_get, lookup_filter_key (fun k => H.key k % 2 ^ depth == b), lookup_of_get, get_proj]

theorem get_map_eq_of_projBucket_eq {H : Hasher} {depth : Nat} {a b : NMap RV} (k : Nat)
    (h : projBucket H vs depth (H.key k % 2 ^ depth) a = projBucket H vs depth (H.key k % 2 ^ depth) b) :
    (NMap.get a k).map vs = (NMap.get b k).map vs := by
  have := congrArg (fun m => NMap.get m k) h
  simpa only [get_projBucket, beq_self_eq_true, if_true] using this

theorem proj_injOn {P : RV → Prop} (hinj : ∀ v w, P v → P w → vs v = vs w → v = w) {s t : NMap RV}
    (hs : ∀ p ∈ s, P p.2) (ht : ∀ p ∈ t, P p.2) (h : proj vs s = proj vs t) : s = t := by
  unfold proj at h
  induction s generalizing t with
  | nil => exact (List.map_eq_nil_iff.mp h.symm).symm
  | cons p ps ih =>
    cases t with
    | nil => cases h
    | cons q qs =>
      simp only [List.map_cons, List.cons.injEq, Prod.mk.injEq] at h
      rw [ih (fun x hx => hs x (List.mem_cons_of_mem _ hx)) (fun x hx => ht x (List.mem_cons_of_mem _ hx)) h.2,
        Prod.ext h.1.1 (hinj _ _ (hs p List.mem_cons_self) (ht q List.mem_cons_self) h.1.2)]

theorem proj_canonical_inj {s t : NMap RV} (h : proj canonicalStream s = proj canonicalStream t) : s = t :=
  proj_injOn (P := fun _ => True) (fun _ _ _ _ => canonicalStream_inj) (fun _ _ => trivial) (fun _ _ => trivial) h

/-! ## a concrete ideal hasher (non-vacuity of `Ideal`, and a hasher the kernel can run) -/

/-- injective code of a list of naturals: `2^x * (2·code(xs) + 1)` -/
def enc : List Nat → Nat
  | [] => 0
  | x :: xs => 2 ^ x * (2 * enc xs + 1)

theorem pow_mul_odd_inj : ∀ (x y a b : Nat), 2 ^ x * (2 * a + 1) = 2 ^ y * (2 * b + 1) → x = y ∧ a = b := by
  intro x
  induction x with
  | zero =>
    intro y a b h
    cases y with
    | zero => simp at h; omega
    | succ y =>
      exfalso
      rw [Nat.pow_succ, Nat.mul_comm (2 ^ y) 2, Nat.mul_assoc] at h
      generalize 2 ^ y * (2 * b + 1) = m at h
      omega
  | succ x ih =>
    intro y a b h
    cases y with
    | zero =>
      exfalso
      rw [Nat.pow_succ, Nat.mul_comm (2 ^ x) 2, Nat.mul_assoc] at h
      generalize 2 ^ x * (2 * a + 1) = m at h
      omega
    | succ y =>
      rw [Nat.pow_succ, Nat.pow_succ, Nat.mul_comm (2 ^ x) 2, Nat.mul_comm (2 ^ y) 2, Nat.mul_assoc,
        Nat.mul_assoc] at h
      have h' : 2 ^ x * (2 * a + 1) = 2 ^ y * (2 * b + 1) := by omega
      obtain ⟨h1, h2⟩ := ih y a b h'
      exact ⟨by omega, h2⟩

theorem enc_pos (x : Nat) (xs : List Nat) : 0 < enc (x :: xs) := by
  simp only [enc]
  exact Nat.mul_pos (Nat.two_pow_pos x) (by omega)

theorem enc_inj : ∀ (l l' : List Nat), enc l = enc l' → l = l' := by
  intro l
  induction l with
  | nil =>
    intro l' h
    cases l' with
    | nil => rfl
    | cons y ys => have := enc_pos y ys; simp only [enc] at h this; omega
  | cons x xs ih =>
    intro l' h
    cases l' with
    | nil => have := enc_pos x xs; simp only [enc] at h this; omega
    | cons y ys =>
      simp only [enc] at h
      obtain ⟨h1, h2⟩ := pow_mul_odd_inj _ _ _ _ h
      rw [h1, ih ys h2]

/-- a pairing function of polynomial growth: `(a+b)² + b` -/
def sqpair (a b : Nat) : Nat := (a + b) * (a + b) + b

theorem sqpair_inj {a b a' b' : Nat} (h : sqpair a b = sqpair a' b') : a = a' ∧ b = b' := by
  unfold sqpair at h
  have key : ∀ s s' c c' : Nat, c ≤ s → s * s + c = s' * s' + c' → ¬ s < s' := by
    intro s s' c c' hc he hlt
    have h1 : (s + 1) * (s + 1) ≤ s' * s' := Nat.mul_le_mul hlt hlt
    have h2 : (s + 1) * (s + 1) = s * s + 2 * s + 1 := by
      rw [Nat.add_mul, Nat.mul_add, Nat.mul_one, Nat.one_mul]; omega
    rw [h2] at h1
    generalize s * s = q at *
    generalize s' * s' = q' at *
    omega
  have hs : a + b = a' + b' := by
    rcases Nat.lt_trichotomy (a + b) (a' + b') with h1 | h1 | h1
    · exact absurd h1 (key _ _ b b' (by omega) h)
    · exact h1
    · exact absurd h1 (key _ _ b' b (by omega) h.symm)
  rw [hs] at h
  generalize (a' + b') * (a' + b') = q at h
  omega

/-- injective code of a list whose elements may be large -/
def encS : List Nat → Nat
  | [] => 0
  | x :: xs => sqpair x (encS xs) + 1

theorem encS_inj : ∀ (l l' : List Nat), encS l = encS l' → l = l' := by
  intro l
  induction l with
  | nil =>
    intro l' h
    cases l' with
    | nil => rfl
    | cons y ys => simp only [encS] at h; omega
  | cons x xs ih =>
    intro l' h
    cases l' with
    | nil => simp only [encS] at h; omega
    | cons y ys =>
      simp only [encS] at h
      obtain ⟨h1, h2⟩ := sqpair_inj (by omega : sqpair x (encS xs) = sqpair y (encS ys))
      rw [h1, ih ys h2]

/-- a collision-free hasher that never returns 0 for a word stream: value streams (many small
    words) are coded by `enc`, word streams (few large words) by `encS` -/
def idealH : Hasher :=
  { key := fun k => k
    val := fun l => enc l
    words := fun l => encS l + 1 }

theorem ideal_idealH : Ideal idealH := by
  refine ⟨fun a b h => h, fun a b h => enc_inj a b h, ?_, ?_⟩
  · intro a b h
    simp only [idealH] at h
    exact encS_inj _ _ (by omega)
  · intro a
    simp only [idealH]
    omega

end AE
end RedisVerif
