import RedisVerif.Lemmas.Json

/-!
  The laws of `Lemmas/Json.lean` for the concrete codecs of `Model/Json.lean`: every serialised type of a
  gossip frame, up to `GossipMessage` itself.
-/
namespace RedisVerif
namespace Json

open Bincode (WLww WMap WCrdt WRv WDelta)

/-- the literal starts with a byte other than `x` -/
def headNe (p : Bytes) (x : Nat) : Bool :=
  match p with
  | h :: _ => h != x
  | [] => false

theorem pre_head_of {α : Type} {c : Codec α} (p : Bytes) (x : Nat) (hp : headNe p x = true) : HeadNe (pre p c) x := by
  cases p with
  | nil => simp [headNe] at hp
  | cons h t =>
    simp only [headNe, bne_iff_ne, ne_eq] at hp
    exact pre_head h t x hp

/-- the two literals differ at a position both have -/
def clash : Bytes → Bytes → Bool
  | a :: p, b :: q => a != b || clash p q
  | _, _ => false

theorem strip_clash (p q y : Bytes) (h : clash p q = true) : strip p (q ++ y) = none := by
  induction p generalizing q with
  | nil => simp [clash] at h
  | cons a p ih =>
    cases q with
    | nil => simp [clash] at h
    | cons b q =>
      simp only [clash, Bool.or_eq_true, bne_iff_ne, ne_eq] at h
      simp only [List.cons_append, strip]
      split
      · rename_i hab
        rcases h with h | h
        · exact absurd hab h
        · exact ih q h
      · rfl

/-- one alternative of an externally tagged enum: `tag ++ body ++ "}"` -/
theorem alt_rt {α : Type} {c : Codec α} (hc : Lawful c) (a : α) (rest : Bytes) (ha : c.ok a) :
    (post c [125]).dec (c.enc a ++ [125] ++ rest) = some (a, rest) :=
  post_rt [125] hc rfl a rest ha

theorem alt_exact {α : Type} {c : Codec α} (hc : Lawful c) (tag bs r : Bytes) (hs : strip tag bs = some r) (x : α)
    (r' : Bytes) (hd : (post c [125]).dec r = some (x, r')) : bs = tag ++ (c.enc x ++ [125]) ++ r' ∧ c.ok x := by
  obtain ⟨e1, o1⟩ := (lawful_post [125] hc rfl).exact r x r' hd
  refine ⟨?_, o1⟩
  rw [strip_exact tag bs r hs, e1]
  show tag ++ ((c.enc x ++ [125]) ++ r') = tag ++ (c.enc x ++ [125]) ++ r'
  simp

/-! ## leaves -/

theorem lawful_sds : Lawful sds := (lawful_seq 91 93 lawful_u8 rfl (by decide) (natBelow_head 256 93 rfl)).1
theorem closed_sds : Closed sds := (lawful_seq 91 93 lawful_u8 rfl (by decide) (natBelow_head 256 93 rfl)).2

theorem lawful_clock : Lawful clock :=
  lawful_pre _ (lawful_post _ (lawful_pairSep _ lawful_u64 lawful_u64 (by decide +kernel)) (by decide +kernel))
theorem closed_clock : Closed clock :=
  closed_pre _ (post_rt _ (lawful_pairSep _ lawful_u64 lawful_u64 (by decide +kernel)) (by decide +kernel))

theorem lawful_tag : Lawful tag :=
  lawful_pre _ (lawful_post _ (lawful_pairSep _ lawful_u64 lawful_u64 (by decide +kernel)) (by decide +kernel))
theorem tag_head : HeadNe tag 93 := pre_head_of _ 93 (by decide +kernel)

theorem lawful_qnat : Lawful (pre [34] (post u64 [34])) := lawful_pre [34] (lawful_post [34] lawful_u64 rfl)

theorem lawful_umapElem : Lawful (pairSep (pre [34] (post u64 [34])) [58] u64) :=
  lawful_pairSep [58] lawful_qnat lawful_u64 rfl

theorem umapElem_head : HeadNe (pairSep (pre [34] (post u64 [34])) [58] u64) 125 :=
  pairSep_head [58] 125 (pre_head 34 [] 125 (by decide))

theorem lawful_umap : Lawful umap := (lawful_seq 123 125 lawful_umapElem rfl (by decide) umapElem_head).1
theorem closed_umap : Closed umap := (lawful_seq 123 125 lawful_umapElem rfl (by decide) umapElem_head).2

theorem lawful_counts (field : String) : Lawful (counts field) :=
  lawful_pre _ (lawful_post _ lawful_umap (by decide +kernel))
theorem closed_counts (field : String) : Closed (counts field) :=
  closed_pre _ (post_rt _ lawful_umap (by decide +kernel))
theorem countsClocks_head : HeadNe (counts "clocks") 110 := pre_head_of _ 110 (by decide +kernel)

theorem sds_head : HeadNe sds 110 := seq_head u8 91 93 110 (by decide)

theorem lawful_lwwBody : Lawful (pairSep (opt sds) (lit ",\"timestamp\":") (pairSep clock (lit ",\"tombstone\":") bool)) :=
  lawful_pairSep _ (lawful_opt lawful_sds sds_head) (lawful_pairSep _ lawful_clock lawful_bool (by decide +kernel))
    (by decide +kernel)

theorem lawful_lww : Lawful lww :=
  lawful_xmap (lawful_pre _ (lawful_post _ lawful_lwwBody (by decide +kernel))) _ _ (fun _ => rfl) (fun _ => rfl)

theorem closed_lww : Closed lww :=
  closed_xmap (closed_pre _ (post_rt _ lawful_lwwBody (by decide +kernel))) _ _ (fun _ => rfl)

theorem lww_head : HeadNe lww 125 := xmap_head _ _ 125 (pre_head_of _ 125 (by decide +kernel))

theorem lawful_tags : Lawful tags := (lawful_seq 91 93 lawful_tag rfl (by decide) tag_head).1

theorem lawful_orElems : Lawful orElems :=
  (lawful_seq 123 125 (lawful_pairSep [58] lawful_str.1 lawful_tags rfl) rfl (by decide)
    (pairSep_head [58] 125 (str_head 125 (by decide)))).1

theorem lawful_hashFields : Lawful hashFields :=
  (lawful_seq 123 125 (lawful_pairSep [58] lawful_str.1 lawful_lww rfl) rfl (by decide)
    (pairSep_head [58] 125 (str_head 125 (by decide)))).1

theorem lawful_gcounterBody : Lawful gcounterBody := lawful_counts "counts"

theorem lawful_pnBody : Lawful pnBody :=
  lawful_pre _ (lawful_post _ (lawful_pairSep _ lawful_gcounterBody lawful_gcounterBody (by decide +kernel)) (by decide +kernel))

theorem lawful_arrStr : Lawful (arr str) := (lawful_seq 91 93 lawful_str.1 rfl (by decide) (str_head 93 (by decide))).1

theorem lawful_gsetBody : Lawful gsetBody := lawful_pre _ (lawful_post _ lawful_arrStr (by decide +kernel))

theorem lawful_orsetBody : Lawful orsetBody :=
  lawful_pre _ (lawful_post _ (lawful_pairSep _ lawful_orElems lawful_umap (by decide +kernel)) (by decide +kernel))

/-! ## `CrdtValue` -/

/- An alternative of a tagged enum is found by its tag: the tags of the earlier alternatives clash with it,
   its own tag is stripped, and the body is `alt_rt`. -/
theorem crdt_rt (v : WCrdt) (rest : Bytes) (hv : crdt.ok v) : crdt.dec (crdt.enc v ++ rest) = some (v, rest) := by
  cases v with
  | lww r =>
    have := alt_rt lawful_lww r rest hv
    simp only [List.append_assoc] at this
    simp only [crdt, List.append_assoc, strip_append, this]
  | gcounter c =>
    have := alt_rt lawful_gcounterBody c rest hv
    simp only [List.append_assoc] at this
    simp only [crdt, List.append_assoc, strip_clash tagLww tagGCounter _ (by decide +kernel), strip_append,
      this]
  | pncounter p n =>
    have := alt_rt lawful_pnBody (p, n) rest hv
    simp only [List.append_assoc] at this
    simp only [crdt, List.append_assoc, strip_clash tagLww tagPNCounter _ (by decide +kernel),
      strip_clash tagGCounter tagPNCounter _ (by decide +kernel), strip_append, this]
  | gset s =>
    have := alt_rt lawful_gsetBody s rest hv
    simp only [List.append_assoc] at this
    simp only [crdt, List.append_assoc, strip_clash tagLww tagGSet _ (by decide +kernel),
      strip_clash tagGCounter tagGSet _ (by decide +kernel),
      strip_clash tagPNCounter tagGSet _ (by decide +kernel), strip_append, this]
  | orset e nx =>
    have := alt_rt lawful_orsetBody (e, nx) rest hv
    simp only [List.append_assoc] at this
    simp only [crdt, List.append_assoc, strip_clash tagLww tagORSet _ (by decide +kernel),
      strip_clash tagGCounter tagORSet _ (by decide +kernel),
      strip_clash tagPNCounter tagORSet _ (by decide +kernel),
      strip_clash tagGSet tagORSet _ (by decide +kernel), strip_append, this]
  | hash h =>
    have := alt_rt lawful_hashFields h rest hv
    simp only [List.append_assoc] at this
    simp only [crdt, List.append_assoc, strip_clash tagLww tagHash _ (by decide +kernel),
      strip_clash tagGCounter tagHash _ (by decide +kernel),
      strip_clash tagPNCounter tagHash _ (by decide +kernel),
      strip_clash tagGSet tagHash _ (by decide +kernel),
      strip_clash tagORSet tagHash _ (by decide +kernel), strip_append, this]

theorem crdt_exact (bs : Bytes) (v : WCrdt) (rest : Bytes) (h : crdt.dec bs = some (v, rest)) :
    bs = crdt.enc v ++ rest ∧ crdt.ok v := by
  unfold crdt at h
  simp only at h
  split at h
  · next r hs =>
    split at h
    · next x _ hd => cases h; exact alt_exact lawful_lww _ _ _ hs x _ hd
    · cases h
  split at h
  · next r hs =>
    split at h
    · next x _ hd => cases h; exact alt_exact lawful_gcounterBody _ _ _ hs x _ hd
    · cases h
  split at h
  · next r hs =>
    split at h
    · next x _ hd => cases h; exact alt_exact lawful_pnBody _ _ _ hs x _ hd
    · cases h
  split at h
  · next r hs =>
    split at h
    · next x _ hd => cases h; exact alt_exact lawful_gsetBody _ _ _ hs x _ hd
    · cases h
  split at h
  · next r hs =>
    split at h
    · next x _ hd => cases h; exact alt_exact lawful_orsetBody _ _ _ hs x _ hd
    · cases h
  split at h
  · next r hs =>
    split at h
    · next x _ hd => cases h; exact alt_exact lawful_hashFields _ _ _ hs x _ hd
    · cases h
  cases h

theorem lawful_crdt : Lawful crdt := ⟨fun a rest ha _ => crdt_rt a rest ha, crdt_exact⟩

theorem append_head (p : Bytes) (x : Nat) (hp : headNe p x = true) (y : Bytes) : ∃ h t, p ++ y = h :: t ∧ h ≠ x := by
  cases p with
  | nil => simp [headNe] at hp
  | cons h t => exact ⟨h, t ++ y, rfl, by simpa [headNe] using hp⟩

theorem crdt_head : HeadNe crdt 110 := by
  intro v
  cases v with
  | lww r => exact append_head tagLww 110 (by decide +kernel) _
  | gcounter c => exact append_head tagGCounter 110 (by decide +kernel) _
  | pncounter p n => exact append_head tagPNCounter 110 (by decide +kernel) _
  | gset s => exact append_head tagGSet 110 (by decide +kernel) _
  | orset e nx => exact append_head tagORSet 110 (by decide +kernel) _
  | hash h => exact append_head tagHash 110 (by decide +kernel) _

/-! ## `ReplicatedValue`, `ReplicationDelta` -/

theorem lawful_rvBody : Lawful
    (pairSep crdt (lit ",\"vector_clock\":") (pairSep (opt (counts "clocks")) (lit ",\"expiry_ms\":")
      (pairSep (opt u64) (lit ",\"timestamp\":") (pairSep clock (lit ",\"replication_factor\":") (opt u8))))) :=
  lawful_pairSep _ lawful_crdt
    (lawful_pairSep _ (lawful_opt (lawful_counts "clocks") countsClocks_head)
      (lawful_pairSep _ (lawful_opt lawful_u64 (natBelow_head _ 110 rfl))
        (lawful_pairSep _ lawful_clock (lawful_opt lawful_u8 (natBelow_head _ 110 rfl)) (by decide +kernel))
        (by decide +kernel))
      (by decide +kernel))
    (by decide +kernel)

theorem lawful_rv : Lawful rv :=
  lawful_xmap (lawful_pre _ (lawful_post _ lawful_rvBody (by decide +kernel))) _ _ (fun _ => rfl) (fun _ => rfl)

theorem lawful_deltaBody : Lawful (pairSep str (lit ",\"value\":") (pairSep rv (lit ",\"source_replica\":") u64)) :=
  lawful_pairSep _ lawful_str.1 (lawful_pairSep _ lawful_rv lawful_u64 (by decide +kernel)) (by decide +kernel)

theorem lawful_delta : Lawful delta :=
  lawful_xmap (lawful_pre _ (lawful_post _ lawful_deltaBody (by decide +kernel))) _ _ (fun _ => rfl) (fun _ => rfl)

theorem delta_head : HeadNe delta 93 := xmap_head _ _ 93 (pre_head_of _ 93 (by decide +kernel))

theorem lawful_deltas : Lawful (arr delta) := (lawful_seq 91 93 lawful_delta rfl (by decide) delta_head).1
theorem closed_deltas : Closed (arr delta) := (lawful_seq 91 93 lawful_delta rfl (by decide) delta_head).2

/-! ## `GossipMessage` -/

theorem lawful_deltaBatchBody : Lawful deltaBatchBody :=
  lawful_pre _ (lawful_post _ (lawful_pairSep _ lawful_u64 (lawful_pairSep _ lawful_deltas lawful_u64 (by decide +kernel))
    (by decide +kernel)) (by decide +kernel))

theorem lawful_targetedBody : Lawful targetedBody :=
  lawful_pre _ (lawful_post _ (lawful_pairSep _ lawful_u64 (lawful_pairSep _ lawful_u64
    (lawful_pairSep _ lawful_deltas lawful_u64 (by decide +kernel)) (by decide +kernel)) (by decide +kernel)) (by decide +kernel))

theorem lawful_known : Lawful (obj (pairSep str [58] u64)) :=
  (lawful_seq 123 125 (lawful_pairSep [58] lawful_str.1 lawful_u64 rfl) rfl (by decide)
    (pairSep_head [58] 125 (str_head 125 (by decide)))).1

theorem lawful_syncRequestBody : Lawful syncRequestBody :=
  lawful_pre _ (lawful_post _ (lawful_pairSep _ lawful_u64 lawful_known (by decide +kernel)) (by decide +kernel))

theorem lawful_syncResponseBody : Lawful syncResponseBody :=
  lawful_pre _ (lawful_post _ (lawful_pairSep _ lawful_u64 lawful_deltas (by decide +kernel)) (by decide +kernel))

theorem lawful_heartbeatBody : Lawful heartbeatBody :=
  lawful_pre _ (lawful_post _ (lawful_pairSep _ lawful_u64 lawful_u64 (by decide +kernel)) (by decide +kernel))

theorem msg_rt (m : WMsg) (rest : Bytes) (hm : msg.ok m) : msg.dec (msg.enc m ++ rest) = some (m, rest) := by
  cases m with
  | deltaBatch s ds e =>
    have := alt_rt lawful_deltaBatchBody (s, ds, e) rest hm
    simp only [List.append_assoc] at this
    simp only [msg, List.append_assoc, strip_append, this]
  | targeted s t ds e =>
    have := alt_rt lawful_targetedBody (s, t, ds, e) rest hm
    simp only [List.append_assoc] at this
    simp only [msg, List.append_assoc, strip_clash tagDeltaBatch tagTargeted _ (by decide +kernel),
      strip_append, this]
  | syncRequest s k =>
    have := alt_rt lawful_syncRequestBody (s, k) rest hm
    simp only [List.append_assoc] at this
    simp only [msg, List.append_assoc, strip_clash tagDeltaBatch tagSyncRequest _ (by decide +kernel),
      strip_clash tagTargeted tagSyncRequest _ (by decide +kernel), strip_append, this]
  | syncResponse s ds =>
    have := alt_rt lawful_syncResponseBody (s, ds) rest hm
    simp only [List.append_assoc] at this
    simp only [msg, List.append_assoc, strip_clash tagDeltaBatch tagSyncResponse _ (by decide +kernel),
      strip_clash tagTargeted tagSyncResponse _ (by decide +kernel),
      strip_clash tagSyncRequest tagSyncResponse _ (by decide +kernel), strip_append, this]
  | heartbeat s e =>
    have := alt_rt lawful_heartbeatBody (s, e) rest hm
    simp only [List.append_assoc] at this
    simp only [msg, List.append_assoc, strip_clash tagDeltaBatch tagHeartbeat _ (by decide +kernel),
      strip_clash tagTargeted tagHeartbeat _ (by decide +kernel),
      strip_clash tagSyncRequest tagHeartbeat _ (by decide +kernel),
      strip_clash tagSyncResponse tagHeartbeat _ (by decide +kernel), strip_append, this]

theorem msg_exact (bs : Bytes) (m : WMsg) (rest : Bytes) (h : msg.dec bs = some (m, rest)) :
    bs = msg.enc m ++ rest ∧ msg.ok m := by
  unfold msg at h
  simp only at h
  split at h
  · next r hs =>
    split at h
    · next x _ hd => cases h; exact alt_exact lawful_deltaBatchBody _ _ _ hs x _ hd
    · cases h
  split at h
  · next r hs =>
    split at h
    · next x _ hd => cases h; exact alt_exact lawful_targetedBody _ _ _ hs x _ hd
    · cases h
  split at h
  · next r hs =>
    split at h
    · next x _ hd => cases h; exact alt_exact lawful_syncRequestBody _ _ _ hs x _ hd
    · cases h
  split at h
  · next r hs =>
    split at h
    · next x _ hd => cases h; exact alt_exact lawful_syncResponseBody _ _ _ hs x _ hd
    · cases h
  split at h
  · next r hs =>
    split at h
    · next x _ hd => cases h; exact alt_exact lawful_heartbeatBody _ _ _ hs x _ hd
    · cases h
  cases h

theorem lawful_msg : Lawful msg := ⟨fun a rest ha _ => msg_rt a rest ha, msg_exact⟩
theorem closed_msg : Closed msg := msg_rt

end Json
end RedisVerif
