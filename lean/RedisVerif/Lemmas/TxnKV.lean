import RedisVerif.Model.Txn
import RedisVerif.Lemmas.NMap

/-
  The concrete store of C05 (`KV`) command by command: every single-key command reads and writes
  only its key (frame + locality), and every command keeps the store canonical.  Used by
  `Props/C05Ext.lean` to discharge the independence hypothesis of
  `exec_serializable_of_independent` for clients that work on other keys.
-/
namespace RedisVerif
namespace KV

/-- the key of a single-key command; `none` for the key-less ones (PING, UNWATCH, unknown,
    connection-level) and for the fan-out commands (MSET / MGET / multi-key DEL: see `single`) -/
def keyOf : Cmd → Option Nat
  | .get k | .set k _ | .incr k | .append k _ | .del k | .rpush k _ | .lrange k | .llen k
  | .lset0 k _ | .lpop k | .hset k _ _ | .hdel k _ | .sadd k _ | .srem k _ | .zadd k _ _
  | .zrem k _ | .expire k | .persist k _ | .evict k => some k
  | _ => none

/-- not a fan-out command -/
def single : Cmd → Bool
  | .mset _ | .mget _ | .delm _ => false
  | _ => true

/-- frame: a single-key command leaves every other key alone -/
theorem exec_frame (s : Store) (hwf : NMap.WF s) (c : Cmd) (k k' : Nat) (hk : keyOf c = some k)
    (hne : k' ≠ k) : NMap.get (exec s c).1 k' = NMap.get s k' := by
  cases c <;> simp [keyOf] at hk <;> subst hk <;> simp only [exec, execWith] <;>
    (repeat' split) <;> simp [NMap.get_insert, NMap.get_erase hwf, hne]

/-- locality: what a single-key command answers, and what it leaves at its key, depends only on
    what was at its key -/
theorem exec_local (s s' : Store) (hwf : NMap.WF s) (hwf' : NMap.WF s') (c : Cmd) (k : Nat)
    (hk : keyOf c = some k) (hg : NMap.get s k = NMap.get s' k) :
    (exec s c).2 = (exec s' c).2 ∧ NMap.get (exec s c).1 k = NMap.get (exec s' c).1 k := by
  -- with the value at `k` named, one `split` decides both sides
  cases c <;> simp [keyOf] at hk <;> subst hk <;> simp only [exec, execWith] <;> (try rw [hg]) <;>
    (try generalize NMap.get s' _ = o) <;>
    (repeat' split) <;> simp [hg, NMap.get_insert, NMap.get_erase hwf, NMap.get_erase hwf']

/-- a key-less single command does not touch the store and answers the same everywhere -/
theorem exec_keyless (s s' : Store) (c : Cmd) (hs : single c = true) (hk : keyOf c = none) :
    (exec s c).1 = s ∧ (exec s c).2 = (exec s' c).2 := by
  cases c <;> simp [keyOf, single] at hk hs <;> simp only [exec, execWith] <;>
    (repeat' split) <;> simp

theorem foldl_insert_wf (ps : List (Nat × Bytes)) : ∀ s : Store, NMap.WF s →
    NMap.WF (ps.foldl (fun s p => NMap.insert p.1 (.str p.2) s) s) := by
  induction ps with
  | nil => intro s h; exact h
  | cons p r ih => intro s h; exact ih _ (NMap.wf_insert h)

theorem foldl_erase_wf (ks : List Nat) : ∀ (a : Store × Int), NMap.WF a.1 →
    NMap.WF (ks.foldl (fun (a : Store × Int) k =>
      match NMap.get a.1 k with
      | some _ => (NMap.erase k a.1, a.2 + 1)
      | none => a) a).1 := by
  induction ks with
  | nil => intro a h; exact h
  | cons k r ih =>
    intro a h
    simp only [List.foldl_cons]
    apply ih
    split
    · exact NMap.wf_erase h
    · exact h

/-- every command keeps the store canonical -/
theorem exec_wf (s : Store) (hwf : NMap.WF s) (c : Cmd) : NMap.WF (exec s c).1 := by
  cases c
  case mset ps => exact foldl_insert_wf ps s hwf
  case delm ks => exact foldl_erase_wf ks (s, 0) hwf
  all_goals
    simp only [exec, execWith]
    (repeat' split) <;> simp_all [NMap.wf_insert, NMap.wf_erase]

end KV
end RedisVerif
