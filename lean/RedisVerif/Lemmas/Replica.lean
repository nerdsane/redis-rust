import RedisVerif.Model.Replica
import RedisVerif.Lemmas.NMap
import RedisVerif.Lemmas.Crdt

/-! Helper lemmas for M2 (shard replication state): the clock domination invariant `Shard.Inv`
with the stamp facts and the clock facts of the hash folds it needs, the equations of the
`record*` functions by case of the stored value (with `delHashValue` / `hdelValue`, the values a
DEL / HDEL of a hash stores, which `Lemmas/LocalOp` uses), and that a merge keeps domination. -/
namespace RedisVerif

namespace Stamp

theorem lt_of_time_lt {a b : Stamp} (h : a.time < b.time) : a.lt b = true := by
  rw [lt_iff]; exact Or.inl h

theorem max_time (a b : Stamp) : (max a b).time = Max.max a.time b.time := by
  unfold max
  cases h : a.lt b
  · have := (not_lt_iff a b).mp h
    show a.time = Max.max a.time b.time
    omega
  · have := (lt_iff a b).mp h
    show b.time = Max.max a.time b.time
    omega

@[simp] theorem tick_time (c : Stamp) : c.tick.time = c.time + 1 := rfl
@[simp] theorem tick_rid (c : Stamp) : c.tick.rid = c.rid := rfl
@[simp] theorem update_time (c o : Stamp) : (c.update o).time = Max.max c.time o.time + 1 := rfl
@[simp] theorem update_rid (c o : Stamp) : (c.update o).rid = c.rid := rfl

end Stamp

/-- stamps carried inside a CRDT (register stamp / per-field stamps) -/
def Crdt.innerStamps : Crdt → List Stamp
  | .lww r => [r.ts]
  | .hash h => h.map (·.2.ts)
  | _ => []

/-- the stamps inside a CRDT are those of its registers -/
theorem Crdt.innerStamps_eq_slots (c : Crdt) : c.innerStamps = c.slots.map (·.2.ts) := by
  cases c <;> rfl

/-- stamps carried inside a value -/
def RV.innerStamps (rv : RV) : List Stamp := rv.crdt.innerStamps

/-- every stamp carried by a value -/
def RV.allStamps (rv : RV) : List Stamp := rv.ts :: rv.innerStamps

/-- the outer stamp of a value dominates (in time) every stamp inside it -/
def RV.Dominated (rv : RV) : Prop := ∀ t ∈ rv.innerStamps, t.time ≤ rv.ts.time

instance (rv : RV) : Decidable rv.Dominated := by unfold RV.Dominated; infer_instance

namespace Shard

/-- clock domination: the shard's Lamport clock is at least the time of every stamp it stores -/
def Inv (s : Shard) : Prop :=
  NMap.WF s.keys ∧ ∀ p ∈ s.keys, p.2.ts.time ≤ s.clock.time ∧ p.2.Dominated

instance (s : Shard) : Decidable s.Inv := by unfold Inv; infer_instance

theorem dominated_of_get {s : Shard} (h : s.Inv) {k : Nat} {rv : RV}
    (hg : NMap.get s.keys k = some rv) : rv.ts.time ≤ s.clock.time ∧ rv.Dominated :=
  h.2 (k, rv) (NMap.mem_of_get hg)

/-- what is assumed of values that come from outside (peers, disk) -/
def OpOk : Op → Prop
  | .remote _ d => d.Dominated
  | .recovered _ v => v.Dominated
  | _ => True

instance (o : Op) : Decidable (OpOk o) := by cases o <;> simp only [OpOk] <;> infer_instance

theorem dominated_lww {rv : RV} {r : Lww} (hc : rv.crdt = .lww r) (h : r.ts.time ≤ rv.ts.time) :
    rv.Dominated := by
  intro t ht
  rw [RV.innerStamps, hc] at ht
  rw [List.mem_singleton.mp ht]; exact h

theorem dominated_hash {rv : RV} {m : NMap Lww} (hc : rv.crdt = .hash m) :
    rv.Dominated ↔ ∀ p ∈ m, p.2.ts.time ≤ rv.ts.time := by
  unfold RV.Dominated
  rw [RV.innerStamps, hc]
  exact ⟨fun h p hp => h _ (List.mem_map.mpr ⟨p, hp, rfl⟩),
    fun h t ht => by obtain ⟨p, hp, rfl⟩ := List.mem_map.mp ht; exact h p hp⟩

theorem effective_delete {s : Shard} {k : Nat} {rv : RV} (hg : NMap.get s.keys k = some rv) :
    effective s (.delete k) = (rv.crdt.kind == 0 || rv.crdt.kind == 5) := by
  simp only [effective, hg]
  cases rv.crdt <;> rfl

theorem effective_hdelete {s : Shard} {k : Nat} {fs : List Nat} {rv : RV}
    (hg : NMap.get s.keys k = some rv) :
    effective s (.hdelete k fs) =
      (rv.crdt.kind == 5 && fs.any (fun f => (NMap.get rv.crdt.hashOf f).isSome)) := by
  simp only [effective, hg]
  cases rv.crdt <;> rfl

theorem inv_init (rid : Nat) (c : Bool) : (init rid c).Inv := by
  refine ⟨NMap.wf_nil, ?_⟩
  intro p hp; cases hp

/-- generic: inserting a dominated value whose stamp the new clock covers keeps the invariant,
    provided the clock did not go back -/
theorem inv_insert {s : Shard} {k : Nat} {rv : RV} {c : Stamp} {vc : NMap Nat}
    (h : s.Inv) (hc : s.clock.time ≤ c.time) (h1 : rv.ts.time ≤ c.time) (h2 : rv.Dominated) :
    ({ s with clock := c, vclock := vc, keys := NMap.insert k rv s.keys } : Shard).Inv := by
  refine ⟨NMap.wf_insert h.1, ?_⟩
  intro p hp
  rcases NMap.mem_insert hp with hp | hp
  · subst hp; exact ⟨h1, h2⟩
  · have := h.2 p hp
    exact ⟨Nat.le_trans this.1 hc, this.2⟩

/-! ### the hash folds -/

theorem hashSet_fold_clock (fs : List (Nat × Bytes)) (c : Stamp) (h : NMap Lww) :
    (fs.foldl hashSetStep (c, h)).1.time = c.time + fs.length ∧
    (fs.foldl hashSetStep (c, h)).1.rid = c.rid := by
  induction fs generalizing c h with
  | nil => exact ⟨rfl, rfl⟩
  | cons f fs ih =>
    have := ih c.tick (NMap.insert f.1 (Lww.set f.2 c.tick) h)
    simp only [List.foldl_cons, hashSetStep, List.length_cons, Stamp.tick_time, Stamp.tick_rid] at this ⊢
    omega

theorem hashSet_fold_dom (fs : List (Nat × Bytes)) (c : Stamp) (h : NMap Lww)
    (hh : ∀ p ∈ h, p.2.ts.time ≤ c.time) :
    ∀ p ∈ (fs.foldl hashSetStep (c, h)).2, p.2.ts.time ≤ (fs.foldl hashSetStep (c, h)).1.time := by
  induction fs generalizing c h with
  | nil => exact hh
  | cons f fs ih =>
    apply ih
    intro p hp
    rcases NMap.mem_insert hp with rfl | hp
    · exact Nat.le_refl _
    · exact Nat.le_succ_of_le (hh p hp)

/-- deleting keeps every entry in the map: presence of a field does not change along the fold -/
theorem hashDelStep_present (acc : Stamp × NMap Lww) (f g : Nat) :
    (NMap.get (hashDelStep acc f).2 g).isSome = (NMap.get acc.2 g).isSome := by
  unfold hashDelStep
  cases hf : NMap.get acc.2 f with
  | none => rfl
  | some x =>
    simp only
    rw [NMap.get_insert]
    by_cases hg : g = f
    · subst hg; simp [hf]
    · simp [hg]

theorem hashDel_fold_stamp (fs : List Nat) (c : Stamp) (h : NMap Lww) :
    (fs.foldl hashDelStep (c, h)).1 = ⟨c.time + fs.countP (fun f => (NMap.get h f).isSome), c.rid⟩ := by
  induction fs generalizing c h with
  | nil => rfl
  | cons f fs ih =>
    show (fs.foldl hashDelStep ((hashDelStep (c, h) f).1, (hashDelStep (c, h) f).2)).1 = _
    rw [ih, List.countP_cons, funext (hashDelStep_present (c, h) f)]
    cases hf : NMap.get h f with
    | none => simp [hashDelStep, hf]
    | some x => simp [hashDelStep, hf]; omega

theorem hashDel_fold_clock (fs : List Nat) (c : Stamp) (h : NMap Lww) :
    c.time ≤ (fs.foldl hashDelStep (c, h)).1.time ∧
    (fs.foldl hashDelStep (c, h)).1.time ≤ c.time + fs.length ∧
    (fs.foldl hashDelStep (c, h)).1.rid = c.rid := by
  rw [hashDel_fold_stamp]
  exact ⟨Nat.le_add_right _ _, Nat.add_le_add_left List.countP_le_length _, rfl⟩

/-- a delete fold ticks at least once when one of the named fields is stored -/
theorem hashDel_fold_ticks (fs : List Nat) (c : Stamp) (h : NMap Lww)
    (hany : fs.any (fun f => (NMap.get h f).isSome) = true) :
    c.time < (fs.foldl hashDelStep (c, h)).1.time := by
  rw [hashDel_fold_stamp]
  exact Nat.lt_add_of_pos_right (List.countP_pos_iff.mpr (List.any_eq_true.mp hany))

theorem hashDel_fold_dom (fs : List Nat) (c : Stamp) (h : NMap Lww)
    (hh : ∀ p ∈ h, p.2.ts.time ≤ c.time) :
    ∀ p ∈ (fs.foldl hashDelStep (c, h)).2, p.2.ts.time ≤ (fs.foldl hashDelStep (c, h)).1.time := by
  induction fs generalizing c h with
  | nil => exact hh
  | cons f fs ih =>
    simp only [List.foldl_cons, hashDelStep]
    split
    · apply ih
      intro p hp
      rcases NMap.mem_insert hp with rfl | hp
      · exact Nat.le_refl _
      · exact Nat.le_succ_of_le (hh p hp)
    · exact ih c h hh

/-! ### equations of the record functions by case -/

theorem kind_lww {c : Crdt} (h : c.kind = 0) : ∃ r, c = .lww r := by
  cases c <;> simp [Crdt.kind] at h; exact ⟨_, rfl⟩

theorem kind_hash {c : Crdt} (h : c.kind = 5) : ∃ m, c = .hash m := by
  cases c <;> simp [Crdt.kind] at h; exact ⟨_, rfl⟩

theorem recordDelete_none {s : Shard} {k : Nat} (hg : NMap.get s.keys k = none) :
    recordDelete s k = (s, none) := by simp [recordDelete, hg]

theorem recordDelete_lww {s : Shard} {k : Nat} {rv : RV} {r : Lww}
    (hg : NMap.get s.keys k = some rv) (hc : rv.crdt = .lww r) :
    recordDelete s k =
      ({ s with clock := s.clock.tick,
                keys := NMap.insert k
                  { rv with crdt := .lww (Lww.delete s.clock.tick), ts := s.clock.tick } s.keys },
       some { rv with crdt := .lww (Lww.delete s.clock.tick), ts := s.clock.tick }) := by
  simp [recordDelete, hg, hc]

/-- the value `record_delete` stores and emits for a hash value -/
def delHashValue (s : Shard) (rv : RV) (h : NMap Lww) : RV :=
  { rv with crdt := .hash (NMap.mapVal (fun _ => Lww.delete s.clock.tick) h), ts := s.clock.tick }

theorem recordDelete_hash {s : Shard} {k : Nat} {rv : RV} {h : NMap Lww}
    (hg : NMap.get s.keys k = some rv) (hc : rv.crdt = .hash h) :
    recordDelete s k =
      ({ s with clock := s.clock.tick, keys := NMap.insert k (delHashValue s rv h) s.keys },
       some (delHashValue s rv h)) := by
  simp [recordDelete, hg, hc, delHashValue]

theorem recordDelete_other {s : Shard} {k : Nat} {rv : RV}
    (hg : NMap.get s.keys k = some rv) (hc : rv.crdt.kind ≠ 0) (hc5 : rv.crdt.kind ≠ 5) :
    recordDelete s k = (s, some rv) := by
  simp only [recordDelete, hg]
  cases h : rv.crdt <;> simp_all [Crdt.kind]

theorem recordHashDelete_none {s : Shard} {k : Nat} {fs : List Nat}
    (hg : NMap.get s.keys k = none) : recordHashDelete s k fs = (s, none) := by
  simp [recordHashDelete, hg]

/-- the value `record_hash_delete` stores and emits for a hash value -/
def hdelValue (s : Shard) (rv : RV) (h : NMap Lww) (fs : List Nat) : RV :=
  { rv with
    crdt := .hash (fs.foldl hashDelStep (s.clock, h)).2
    ts := if fs.isEmpty then rv.ts else (fs.foldl hashDelStep (s.clock, h)).1 }

theorem recordHashDelete_hash {s : Shard} {k : Nat} {fs : List Nat} {rv : RV} {h : NMap Lww}
    (hg : NMap.get s.keys k = some rv) (hc : rv.crdt = .hash h) :
    recordHashDelete s k fs =
      ({ s with clock := (fs.foldl hashDelStep (s.clock, h)).1,
                keys := NMap.insert k (hdelValue s rv h fs) s.keys },
       some (hdelValue s rv h fs)) := by
  simp [recordHashDelete, hg, hc, hdelValue]

theorem recordHashDelete_other {s : Shard} {k : Nat} {fs : List Nat} {rv : RV}
    (hg : NMap.get s.keys k = some rv) (hc : rv.crdt.kind ≠ 5) :
    recordHashDelete s k fs = (s, none) := by
  simp only [recordHashDelete, hg]
  cases h : rv.crdt <;> simp_all [Crdt.kind]

/-! ### merge keeps domination: a merge never invents a stamp -/

theorem inner_mwt (a b : Crdt) (sa sb : Stamp) :
    ∀ t ∈ (Crdt.mergeWithTimestamps a b sa sb).innerStamps,
      t ∈ a.innerStamps ∨ t ∈ b.innerStamps := by
  simp only [Crdt.innerStamps_eq_slots, List.mem_map]
  rintro t ⟨p, hp, rfl⟩
  exact (Crdt.slots_mwt sa sb p hp).imp (fun h => ⟨p, h, rfl⟩) (fun h => ⟨p, h, rfl⟩)

theorem merge_ts_time (a b : RV) : (RV.merge a b).ts.time = Max.max a.ts.time b.ts.time := by
  simp [RV.merge, RV.mergeWith, RV.stampMerge, Stamp.max_time]

theorem dominated_merge {a b : RV} (ha : a.Dominated) (hb : b.Dominated) :
    (RV.merge a b).Dominated := by
  intro t ht
  rw [merge_ts_time]
  have hal : a.ts.time ≤ Max.max a.ts.time b.ts.time := Nat.le_max_left _ _
  have hbl : b.ts.time ≤ Max.max a.ts.time b.ts.time := Nat.le_max_right _ _
  rcases inner_mwt a.crdt b.crdt a.ts b.ts t ht with h | h
  · exact Nat.le_trans (ha t h) hal
  · exact Nat.le_trans (hb t h) hbl

end Shard

namespace C08
open Shard

/-! ### what one step does -/

theorem hwrite_clock (s : Shard) (k : Nat) (fs : List (Nat × Bytes)) :
    (recordHashWrite s k fs).1.clock.time = s.clock.time + fs.length ∧
    (recordHashWrite s k fs).1.clock.rid = s.clock.rid ∧
    (fs.isEmpty = false → (recordHashWrite s k fs).2.ts = (recordHashWrite s k fs).1.clock) := by
  have := hashSet_fold_clock fs s.clock
      ((NMap.get s.keys k).getD { RV.new s.rid with crdt := .hash [] }).crdt.hashOf
  refine ⟨this.1, this.2, ?_⟩
  intro hne
  simp [recordHashWrite, hne]

theorem hashOf_le {s : Shard} (h : s.Inv) (k : Nat) :
    let rv0 := (NMap.get s.keys k).getD { RV.new s.rid with crdt := .hash [] }
    rv0.ts.time ≤ s.clock.time ∧ ∀ p ∈ rv0.crdt.hashOf, p.2.ts.time ≤ rv0.ts.time := by
  cases hg : NMap.get s.keys k with
  | none => exact ⟨Nat.zero_le _, fun _ hp => nomatch hp⟩
  | some rv =>
    refine ⟨(dominated_of_get h hg).1, ?_⟩
    show ∀ p ∈ rv.crdt.hashOf, p.2.ts.time ≤ rv.ts.time
    cases hc : rv.crdt with
    | hash m => exact (dominated_hash hc).mp (dominated_of_get h hg).2
    | _ => exact fun _ hp => absurd hp List.not_mem_nil

/-- **what one step does**: nothing (then it is no effective write), or it stores one value `rv'`
    and moves the clock to `c'`, which keeps the replica id and has not gone back; on a
    clock-dominated shard (given a dominated input) `c'` covers `rv'`, which is dominated; an
    effective write emits `rv'`, stamped `c'`, strictly later than the old clock. -/
theorem step_spec (s : Shard) (op : Op) :
    ((step s op).1 = s ∧ effective s op = false) ∨
    ∃ k c' vc rv',
      (step s op).1 = { s with clock := c', vclock := vc, keys := NMap.insert k rv' s.keys } ∧
      c'.rid = s.clock.rid ∧ s.clock.time ≤ c'.time ∧
      (s.Inv → OpOk op → rv'.ts.time ≤ c'.time ∧ rv'.Dominated) ∧
      (effective s op = true → (step s op).2 = some rv' ∧ rv'.ts = c' ∧ s.clock.time < c'.time) := by
  cases op with
  | write k v e =>
    exact Or.inr ⟨k, s.clock.tick, _, (recordWrite s k v e).2, rfl, rfl, Nat.le_succ _,
      fun _ _ => ⟨Nat.le_refl _, dominated_lww rfl (Nat.le_refl _)⟩,
      fun _ => ⟨rfl, rfl, Nat.lt_succ_self _⟩⟩
  | delete k =>
    simp only [step]
    cases hg : NMap.get s.keys k with
    | none => exact Or.inl ⟨by rw [recordDelete_none hg], by simp [effective, hg]⟩
    | some rv =>
      by_cases hc0 : rv.crdt.kind = 0
      · obtain ⟨r, hr⟩ := kind_lww hc0
        rw [recordDelete_lww hg hr]
        exact Or.inr ⟨k, s.clock.tick, s.vclock, _, rfl, rfl, Nat.le_succ _,
          fun _ _ => ⟨Nat.le_refl _, dominated_lww rfl (Nat.le_refl _)⟩,
          fun _ => ⟨rfl, rfl, Nat.lt_succ_self _⟩⟩
      · by_cases hc5 : rv.crdt.kind = 5
        · obtain ⟨m, hm⟩ := kind_hash hc5
          rw [recordDelete_hash hg hm]
          refine Or.inr ⟨k, s.clock.tick, s.vclock, _, rfl, rfl, Nat.le_succ _,
            fun _ _ => ⟨Nat.le_refl _, (dominated_hash rfl).mpr fun p hp => ?_⟩,
            fun _ => ⟨rfl, rfl, Nat.lt_succ_self _⟩⟩
          obtain ⟨q, _, rfl⟩ := NMap.mem_mapVal hp
          exact Nat.le_refl _
        · exact Or.inl ⟨by rw [recordDelete_other hg hc0 hc5],
            by rw [effective_delete hg]; simp [hc0, hc5]⟩
  | hwrite k fs =>
    have hc := hwrite_clock s k fs
    refine Or.inr ⟨k, (recordHashWrite s k fs).1.clock, s.vclock, (recordHashWrite s k fs).2, rfl,
      hc.2.1, by rw [hc.1]; exact Nat.le_add_right _ _, fun hinv _ => ?_, fun he => ?_⟩
    · have h0 := hashOf_le hinv k
      cases fs with
      | nil => exact ⟨h0.1, (dominated_hash rfl).mpr h0.2⟩
      | cons f fs =>
        exact ⟨Nat.le_refl _, (dominated_hash rfl).mpr (hashSet_fold_dom _ _ _
          fun p hp => Nat.le_trans (h0.2 p hp) h0.1)⟩
    · have he : fs.isEmpty = false := by simpa [effective] using he
      refine ⟨rfl, hc.2.2 he, ?_⟩
      rw [hc.1]
      cases fs with
      | nil => cases he
      | cons _ _ => exact Nat.lt_add_of_pos_right (Nat.succ_pos _)
  | hdelete k fs =>
    simp only [step]
    cases hg : NMap.get s.keys k with
    | none => exact Or.inl ⟨by rw [recordHashDelete_none hg], by simp [effective, hg]⟩
    | some rv =>
      by_cases hc5 : rv.crdt.kind = 5
      · obtain ⟨m, hm⟩ := kind_hash hc5
        have hclk := hashDel_fold_clock fs s.clock m
        rw [recordHashDelete_hash hg hm]
        refine Or.inr ⟨k, _, s.vclock, hdelValue s rv m fs, rfl, hclk.2.2, hclk.1,
          fun hinv _ => ?_, fun he => ?_⟩
        · have hrv := dominated_of_get hinv hg
          have hm' := (dominated_hash hm).mp hrv.2
          cases fs with
          | nil => exact ⟨hrv.1, (dominated_hash rfl).mpr hm'⟩
          | cons f fs =>
            exact ⟨Nat.le_refl _, (dominated_hash rfl).mpr (hashDel_fold_dom _ _ _
              fun p hp => Nat.le_trans (hm' p hp) hrv.1)⟩
        · have he : fs.any (fun f => (NMap.get m f).isSome) = true := by
            simpa [effective_hdelete hg, hm, Crdt.hashOf, Crdt.kind] using he
          have hts : (hdelValue s rv m fs).ts = (fs.foldl hashDelStep (s.clock, m)).1 := by
            cases fs with
            | nil => cases he
            | cons _ _ => rfl
          exact ⟨rfl, hts, hashDel_fold_ticks fs s.clock m he⟩
      · exact Or.inl ⟨by rw [recordHashDelete_other hg hc5],
          by rw [effective_hdelete hg]; simp [hc5]⟩
  | remote k d =>
    refine Or.inr ⟨k, s.clock.update d.ts, s.vclock, _, rfl, rfl,
      Nat.le_succ_of_le (Nat.le_max_left _ _), fun hinv hd => ?_, fun he => nomatch he⟩
    have hm := Nat.le_max_right s.clock.time d.ts.time
    cases hg : NMap.get s.keys k with
    | none => exact ⟨Nat.le_succ_of_le hm, hd⟩
    | some l =>
      have hl := dominated_of_get hinv hg
      refine ⟨?_, dominated_merge hl.2 hd⟩
      show (RV.merge l d).ts.time ≤ Max.max s.clock.time d.ts.time + 1
      rw [merge_ts_time]
      have := hl.1
      omega
  | recovered k v =>
    exact Or.inr ⟨k, s.clock.update v.ts, s.vclock, v, rfl, rfl,
      Nat.le_succ_of_le (Nat.le_max_left _ _),
      fun _ hv => ⟨Nat.le_succ_of_le (Nat.le_max_right _ _), hv⟩, fun he => nomatch he⟩

theorem clock_monotone (s : Shard) (op : Op) :
    s.clock.time ≤ (step s op).1.clock.time ∧ (step s op).1.clock.rid = s.clock.rid := by
  rcases step_spec s op with ⟨h, _⟩ | ⟨_, _, _, _, h, hrid, hle, _⟩ <;> rw [h]
  · exact ⟨Nat.le_refl _, rfl⟩
  · exact ⟨hle, hrid⟩

end C08
end RedisVerif
