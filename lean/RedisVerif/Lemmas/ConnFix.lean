import RedisVerif.Lemmas.ConnJunk

/-
  The repaired recognisers (de38a13): whatever `recogGetR 13` / `recogSetR 13`
  take is a frame the generic decoder decodes to the same command, consuming the same bytes — the
  look-alike class is empty — and they never answer "need more data".  Consequence: the repaired
  fast path and collectors are TRANSPARENT — for every byte stream the connection does what it
  does with the recognisers switched off, up to the path label of the actions.
-/
namespace RedisVerif.Conn
open RedisVerif.Resp

theorem digitsFold_none (l : Bytes) :
    List.foldl (fun (acc : Option Nat) b => match acc with
      | none => none
      | some a => if isDigit b then some (a * 10 + (b - 48)) else none) none l = none := by
  induction l with
  | nil => rfl
  | cons x xs ih => simpa using ih

theorem digitsVal_minus (rest : Bytes) : digitsVal (45 :: rest) = none := by
  unfold digitsVal
  simp only [List.foldl_cons]
  have : isDigit 45 = false := by decide
  simp only [this]
  exact digitsFold_none rest

theorem parseUsize_parseI64 (ds : Bytes) (n : Nat) (h : parseUsize ds = some n) (hn : n ≤ 9223372036854775807) :
    parseI64 ds = some (n : Int) := by
  unfold parseUsize at h
  unfold parseI64
  cases ds with
  | nil => simp at h
  | cons b rest =>
    simp only [] at h ⊢
    by_cases h43 : b = 43
    · simp only [h43, if_true] at h ⊢
      by_cases hr : rest = []
      · simp [hr] at h
      · simp only [hr, if_false] at h ⊢
        cases hd : digitsVal rest with
        | none => simp [hd] at h
        | some m =>
          simp only [hd] at h ⊢
          split at h
          · simp at h; subst h; simp [hn]
          · simp at h
    · simp only [h43, if_false] at h ⊢
      by_cases h45 : b = 45
      · exfalso
        subst h45
        simp [digitsVal_minus] at h
      · simp only [h45, if_false]
        cases hd : digitsVal (b :: rest) with
        | none => simp [hd] at h
        | some m =>
          simp only [hd] at h ⊢
          split at h
          · simp at h; subst h; simp [hn]
          · simp at h

/-- one `$len\r\n<data>` element as a repaired recogniser reads it (the `$`, the first CR after it,
    LF right behind, a usize before, enough bytes) is what `parse_bulk_string` decodes -/
theorem BulkAt.parse {buf : Bytes} {p r n : Nat} (hb : BulkAt buf p r n) (hlen : p + r + n + 5 ≤ buf.length)
    (hs : Small buf) :
    (buf.drop p).head? = some 36 ∧
      (parseBulk codec1 (buf.drop p)).out = .ok (.bulk (dataAt buf p r n)) (r + n + 5) := by
  obtain ⟨hl, hlf⟩ := hb
  obtain ⟨e, h13, hdl, _⟩ := hl.shape
  obtain ⟨ed, hdn⟩ := dataAt_eq buf p r n (by omega)
  rw [drop_cons_of_getElem? buf _ 10 hlf, show p + r + 2 + 1 = p + r + 3 by omega, ed] at e
  unfold Small at hs
  rw [e]
  refine ⟨rfl, ?_⟩
  rw [parseBulk_line codec1 codec1_good _ _ _ h13 (parseUsize_parseI64 _ _ (hdn.symm ▸ hl.2.2) (by omega))
    (by rw [List.length_drop]; omega) (by omega), hdl, hdn]
  congr 1; omega

/-- the same with the element at the front of the buffer -/
theorem bulk_ok (s : Bytes) (r n : Nat) (h36 : s.head? = some 36) (hm : memchrCR (s.drop 1) = some r)
    (hlf : (s.drop 1)[r + 1]? = some 10) (hpu : parseUsize ((s.drop 1).take r) = some n)
    (hlen : 1 + r + 2 + n + 2 ≤ s.length) (hs : Small s) :
    (parseBulk codec1 s).out = .ok (.bulk ((s.take (1 + r + 2 + n)).drop (1 + r + 2))) (1 + r + 2 + n + 2) := by
  have hb : BulkAt s 0 r n := ⟨⟨by rwa [List.head?_eq_getElem?] at h36, hm, hpu⟩, by
    rw [List.getElem?_drop] at hlf; rw [← hlf]; congr 1; omega⟩
  have := (hb.parse (by omega) hs).2
  rw [List.drop_zero] at this
  rw [this, dataAt, show 0 + r + 3 + n = 1 + r + 2 + n by omega, show 0 + r + 3 = 1 + r + 2 by omega,
    show r + n + 5 = 1 + r + 2 + n + 2 by omega]

theorem elems_step (p : Bytes → Res) (n : Nat) (r : Bytes) (v : Val) (k : Nat)
    (h : (p r).out = .ok v k) (hne : r ≠ []) :
    (elems p true (n + 1) r).1 =
      (match (elems p true n (r.drop k)).1 with
       | .ok vs k' => .ok (v :: vs) (k + k')
       | .stop o => .stop o) :=
  congrArg Prod.fst (elems_succ_ok (fun h' => hne h'.2) h (fun h' => h'.2.2 rfl))

/-- `*2\r\n` / `*3\r\n` in front of two / three decodable elements -/
theorem parseArray_lit (mem : Nat) (p : Bytes → Res) (N : Nat) (hN : N = 2 ∨ N = 3) (t : Bytes) (vs : List Val) (k : Nat)
    (h : (elems p true N t).1 = .ok vs k) :
    (parseArray codec1 mem p (42 :: (48 + N) :: 13 :: 10 :: t)).out = .ok (.array vs) (4 + k) :=
  parseArray_line codec1 codec1_good _ codec1_fixed mem p [48 + N] t N vs k (by rcases hN with rfl | rfl <;> decide)
    (by rcases hN with rfl | rfl <;> decide)
    (by rcases hN with rfl | rfl <;> simp [preReq, codec1, asUsize, W, elemSize, isizeMax] <;> omega) h

theorem parseD_bulk (mem d nest : Nat) (s : Bytes) (h36 : s.head? = some 36) :
    parseD codec1 mem (d + 1) nest s = parseBulk codec1 s := by
  cases s with
  | nil => cases h36
  | cons t r => cases h36; exact parseD_of_dollar ..

/-- `$3\r\nabc\r\n` in front of anything -/
theorem bulk3_lit (a b c : Nat) (s : Bytes) :
    (parseBulk codec1 (36 :: 51 :: 13 :: 10 :: a :: b :: c :: 13 :: 10 :: s)).out = .ok (.bulk [a, b, c]) 9 :=
  parseBulk_line codec1 codec1_good [51] [a, b, c] (13 :: 10 :: s) (by decide) (show parseI64 [51] = some 3 by decide) (by simp)
    (show 1 + 3 + 5 ≤ 9223372036854775807 by decide)

theorem frame2_ok (env : Env) (hd : 2 ≤ env.depth) (a b c : Nat) (s : Bytes) (v : Val) (k : Nat)
    (h36 : s.head? = some 36) (hp : (parseBulk codec1 s).out = .ok v k) :
    (parse1 env (42 :: 50 :: 13 :: 10 :: 36 :: 51 :: 13 :: 10 :: a :: b :: c :: 13 :: 10 :: s)).out
      = .ok (.array [.bulk [a, b, c], v]) (13 + k) := by
  obtain ⟨d, hd'⟩ : ∃ d, env.depth = d + 2 := ⟨env.depth - 2, by omega⟩
  unfold parse1 parseG
  rw [hd', parseD_of_star (c := codec1) (nest := 0) rfl]
  have hne : s ≠ [] := by intro h; rw [h] at h36; simp at h36
  refine (parseArray_lit env.mem _ 2 (Or.inl rfl) _ [.bulk [a, b, c], v] (9 + (k + 0)) ?_).trans (by congr 1; omega)
  rw [elems_step _ 1 _ (.bulk [a, b, c]) 9 (by rw [parseD_bulk _ _ _ _ rfl, bulk3_lit]) (by simp),
    elems_step _ 0 _ v k (by rw [parseD_bulk _ _ _ _ (by simpa using h36)]; simpa using hp) (by simpa using hne)]
  simp [elems]

theorem frame3_ok (env : Env) (hd : 2 ≤ env.depth) (a b c : Nat) (s : Bytes) (v1 v2 : Val) (k1 k2 : Nat)
    (h36 : s.head? = some 36) (hp1 : (parseBulk codec1 s).out = .ok v1 k1)
    (h36' : (s.drop k1).head? = some 36) (hp2 : (parseBulk codec1 (s.drop k1)).out = .ok v2 k2) :
    (parse1 env (42 :: 51 :: 13 :: 10 :: 36 :: 51 :: 13 :: 10 :: a :: b :: c :: 13 :: 10 :: s)).out
      = .ok (.array [.bulk [a, b, c], v1, v2]) (13 + k1 + k2) := by
  obtain ⟨d, hd'⟩ : ∃ d, env.depth = d + 2 := ⟨env.depth - 2, by omega⟩
  unfold parse1 parseG
  rw [hd', parseD_of_star (c := codec1) (nest := 0) rfl]
  have hne : s ≠ [] := by intro h; rw [h] at h36; simp at h36
  have hne' : s.drop k1 ≠ [] := by intro h; rw [h] at h36'; simp at h36'
  refine (parseArray_lit env.mem _ 3 (Or.inr rfl) _ [.bulk [a, b, c], v1, v2] (9 + (k1 + (k2 + 0))) ?_).trans
    (by congr 1; omega)
  rw [elems_step _ 2 _ (.bulk [a, b, c]) 9 (by rw [parseD_bulk _ _ _ _ rfl, bulk3_lit]) (by simp),
    elems_step _ 1 _ v1 k1 (by rw [parseD_bulk _ _ _ _ (by simpa using h36)]; simpa using hp1) (by simpa using hne),
    elems_step _ 0 _ v2 k2 (by rw [parseD_bulk _ _ _ _ (by simpa using h36')]; simpa using hp2) (by simpa using hne')]
  simp [elems]

theorem startsWith_split (buf hdr : Bytes) (h : startsWith buf hdr = true) : buf = hdr ++ buf.drop hdr.length := by
  obtain ⟨t, rfl⟩ := List.isPrefixOf_iff_prefix.mp h
  simp

theorem parse_getHdr (env : Env) (hd : 2 ≤ env.depth) (buf : Bytes)
    (hsw : (startsWith buf getHdrU || startsWith buf getHdrL) = true) (v : Val) (k : Nat)
    (h36 : (buf.drop 13).head? = some 36) (hp : (parseBulk codec1 (buf.drop 13)).out = .ok v k) :
    (parse1 env buf).out = .ok (.array [.bulk (nameIn buf), v]) (13 + k) ∧
      (nameIn buf = [71, 69, 84] ∨ nameIn buf = [103, 101, 116]) := by
  rcases Bool.or_eq_true_iff.mp hsw with hU | hL
  · have e := startsWith_split buf getHdrU hU
    have hn : nameIn buf = [71, 69, 84] := by rw [e]; rfl
    rw [hn]
    refine ⟨?_, Or.inl rfl⟩
    rw [e]
    exact frame2_ok env hd 71 69 84 (buf.drop 13) v k h36 hp
  · have e := startsWith_split buf getHdrL hL
    have hn : nameIn buf = [103, 101, 116] := by rw [e]; rfl
    rw [hn]
    refine ⟨?_, Or.inr rfl⟩
    rw [e]
    exact frame2_ok env hd 103 101 116 (buf.drop 13) v k h36 hp

theorem parse_setHdr (env : Env) (hd : 2 ≤ env.depth) (buf : Bytes)
    (hsw : (startsWith buf setHdrU || startsWith buf setHdrL) = true) (v1 v2 : Val) (k1 k2 : Nat)
    (h36 : (buf.drop 13).head? = some 36) (hp1 : (parseBulk codec1 (buf.drop 13)).out = .ok v1 k1)
    (h36' : ((buf.drop 13).drop k1).head? = some 36)
    (hp2 : (parseBulk codec1 ((buf.drop 13).drop k1)).out = .ok v2 k2) :
    (parse1 env buf).out = .ok (.array [.bulk (nameIn buf), v1, v2]) (13 + k1 + k2) ∧
      (nameIn buf = [83, 69, 84] ∨ nameIn buf = [115, 101, 116]) := by
  rcases Bool.or_eq_true_iff.mp hsw with hU | hL
  · have e := startsWith_split buf setHdrU hU
    have hn : nameIn buf = [83, 69, 84] := by rw [e]; rfl
    rw [hn]
    refine ⟨?_, Or.inl rfl⟩
    rw [e]
    exact frame3_ok env hd 83 69 84 (buf.drop 13) v1 v2 k1 k2 h36 hp1 h36' hp2
  · have e := startsWith_split buf setHdrL hL
    have hn : nameIn buf = [115, 101, 116] := by rw [e]; rfl
    rw [hn]
    refine ⟨?_, Or.inr rfl⟩
    rw [e]
    exact frame3_ok env hd 115 101 116 (buf.drop 13) v1 v2 k1 k2 h36 hp1 h36' hp2

/-- what a REPAIRED GET recogniser takes is what the generic decoder decodes, byte for byte -/
theorem recogGetR_decoded (env : Env) (hd : 2 ≤ env.depth) (buf key : Bytes) (total : Nat) (hs : Small buf)
    (h : recogGetR 13 buf = .get key total) :
    ((parse1 env buf).out = .ok (getFrameN buf key) total ∧ 14 ≤ total ∧ total ≤ buf.length ∧ validUtf8 key = true) ∧
      (nameIn buf = [71, 69, 84] ∨ nameIn buf = [103, 101, 116]) := by
  rcases recogGetR_spec 13 buf with e | ⟨r, n, ⟨hsw, hl, hge, _⟩, hlf, hu, e⟩
  · rw [e] at h; cases h
  rw [e] at h
  injection h with hk ht
  subst hk ht
  obtain ⟨h36, hp⟩ := BulkAt.parse ⟨hl, hlf⟩ hge hs
  obtain ⟨hp, hn⟩ := parse_getHdr env hd buf hsw _ _ h36 hp
  exact ⟨⟨by rw [show 13 + r + n + 5 = 13 + (r + n + 5) by omega]; exact hp, by omega, hge, hu⟩, hn⟩

/-- what a REPAIRED SET recogniser takes is what the generic decoder decodes, byte for byte -/
theorem recogSetR_decoded (env : Env) (hd : 2 ≤ env.depth) (buf key val : Bytes) (total : Nat) (hs : Small buf)
    (h : recogSetR 13 buf = .set key val total) :
    ((parse1 env buf).out = .ok (setFrameN buf key val) total ∧ 14 ≤ total ∧ total ≤ buf.length ∧ validUtf8 key = true) ∧
      (nameIn buf = [83, 69, 84] ∨ nameIn buf = [115, 101, 116]) := by
  rcases recogSetR_spec 13 buf with e | ⟨r, n, r', n', hsw, hb, hb', hge, _, hu, e⟩
  · rw [e] at h; cases h
  rw [e] at h
  injection h with hk hv ht
  subst hk hv ht
  obtain ⟨h36, hp⟩ := hb.parse (by omega) hs
  obtain ⟨h36', hp'⟩ := hb'.parse hge hs
  have hdd : (buf.drop 13).drop (r + n + 5) = buf.drop (13 + r + n + 5) := by
    rw [List.drop_drop]; congr 1; omega
  obtain ⟨hp, hn⟩ := parse_setHdr env hd buf hsw _ _ _ _ h36 hp (by rw [hdd]; exact h36') (by rw [hdd]; exact hp')
  exact ⟨⟨by rw [show 13 + r + n + 5 + r' + n' + 5 = 13 + (r + n + 5) + (r' + n' + 5) by omega]; exact hp,
    by omega, hge, hu⟩, hn⟩

/-- `v`, `t` bytes long, is the frame a repaired recogniser (HEADER_LEN = 13) takes from the front of `buf` -/
def TakenR (buf : Bytes) (v : Val) (t : Nat) : Prop :=
  (∃ k, recogGetR 13 buf = .get k t ∧ v = getFrameN buf k) ∨
  (∃ k w, recogSetR 13 buf = .set k w t ∧ v = setFrameN buf k w)

theorem plain_of_name (g : Bool) (n : Bytes) (rest : List Val)
    (hn : (n = [71, 69, 84] ∨ n = [103, 101, 116]) ∨ (n = [83, 69, 84] ∨ n = [115, 101, 116])) :
    namePanics g false (.array (.bulk n :: rest)) = false ∧ txAfter false (.array (.bulk n :: rest)) = false := by
  rcases hn with (rfl | rfl) | (rfl | rfl) <;> simp [namePanics, isWsName, txAfter, cmdName, upper, nameMULTI]

theorem TakenR.generic {buf : Bytes} {v : Val} {t : Nat} (h : TakenR buf v t) (env : Env) (hd : 2 ≤ env.depth)
    (hs : Small buf) (g : Bool) :
    (parse1 env buf).out = .ok v t ∧ 14 ≤ t ∧ t ≤ buf.length ∧
      namePanics g false v = false ∧ txAfter false v = false := by
  rcases h with ⟨k, hr, rfl⟩ | ⟨k, w, hr, rfl⟩
  · obtain ⟨⟨hp, h1, h2, _⟩, hn⟩ := recogGetR_decoded env hd buf k t hs hr
    exact ⟨hp, h1, h2, plain_of_name g _ _ (Or.inl hn)⟩
  · obtain ⟨⟨hp, h1, h2, _⟩, hn⟩ := recogSetR_decoded env hd buf k w t hs hr
    exact ⟨hp, h1, h2, plain_of_name g _ _ (Or.inr hn)⟩

/-- the path label of an action erased -/
def Action.noPath : Action → Action
  | .exec f _ => .exec f .generic
  | a => a

/-- the same configuration for a user WITHOUT unrestricted key access: the repaired code enters
    neither the fast path nor the collectors -/
def Config.off (cfg : Config) : Config := { cfg with unrestricted := false }

/-- the repaired code as the fix leaves it: HEADER_LEN = 13, the decoder after its fixes, two decoder
    frames of stack -/
def Repaired13 (cfg : Config) : Prop :=
  cfg.repaired = true ∧ cfg.headerLen = 13 ∧ cfg.codec = codec1 ∧ 2 ≤ cfg.env.depth

theorem Config.off_of_false (cfg : Config) (h : cfg.unrestricted = false) : cfg.off = cfg := by
  cases cfg
  simp only [Config.off] at *
  simp [h]

theorem seqLoop_fast (cfg : Config) (hrep : cfg.repaired = true) (h13 : cfg.headerLen = 13)
    (hu : cfg.unrestricted = true) (f : Nat) (buf : Bytes) (inTx : Bool) :
    (inTx = false ∧ ∃ v t, TakenR buf v t ∧ seqLoop cfg (f + 1) buf inTx =
      (.exec v .fast :: (seqLoop cfg f (buf.drop t) inTx).1, (seqLoop cfg f (buf.drop t) inTx).2)) ∨
    fastPathC cfg inTx buf = .notFast := by
  have hon : fastPathC cfg inTx buf = fastPathR 13 inTx buf := by simp [fastPathC, hu, hrep, h13]
  rw [seqLoop, hon]
  unfold fastPathR
  cases inTx with
  | true => exact Or.inr rfl
  | false =>
    simp only [Bool.false_eq_true, if_false]
    by_cases h12 : buf.length < 12
    · rw [if_pos h12]; exact Or.inr rfl
    rw [if_neg h12]
    rcases recogGetR_cases 13 buf with ⟨k, t, hg⟩ | hg
    · rw [hg]
      exact Or.inl ⟨trivial, _, t, Or.inl ⟨k, hg, rfl⟩, by simp [getFrameC, hrep]⟩
    rw [hg]
    rcases recogSetR_cases 13 buf with ⟨k, w, t, hs⟩ | hs
    · rw [hs]
      exact Or.inl ⟨trivial, _, t, Or.inr ⟨k, w, hs, rfl⟩, by simp [setFrameC, hrep]⟩
    · exact Or.inr hs

theorem seqLoop_transparent (cfg : Config) (hR : Repaired13 cfg) :
    ∀ (f : Nat) (buf : Bytes) (inTx : Bool), Small buf →
      (seqLoop cfg f buf inTx).1.map Action.noPath = (seqLoop cfg.off f buf inTx).1.map Action.noPath ∧
      (seqLoop cfg f buf inTx).2 = (seqLoop cfg.off f buf inTx).2 := by
  obtain ⟨hrep, h13, hcodec, hdepth⟩ := hR
  intro f
  induction f with
  | zero => intro buf inTx _; simp [seqLoop]
  | succ f ih =>
    intro buf inTx hs
    cases hu : cfg.unrestricted with
    | false => rw [Config.off_of_false cfg hu]; exact ⟨rfl, rfl⟩
    | true =>
      have hoff : fastPathC cfg.off inTx buf = .notFast := by simp [fastPathC, Config.off]
      rcases seqLoop_fast cfg hrep h13 hu f buf inTx with ⟨rfl, v, t, ht, hon⟩ | hnf
      · -- the fast path carried a frame: the generic path decodes the same frame from the same bytes
        obtain ⟨hp, _, _, hnp, htx⟩ := ht.generic cfg.env hdepth hs cfg.nameGuard
        have hoffstep := seqLoop_generic cfg.off f buf false v t hoff (by rw [show cfg.off.codec = codec1 from hcodec]; exact hp) hnp
        rw [htx] at hoffstep
        rw [hon, hoffstep]
        have := ih (buf.drop t) false (hs.drop t)
        exact ⟨by simp only [List.map_cons, Action.noPath, this.1], this.2⟩
      · -- the fast path declined: both go the generic way
        rw [seqLoop, seqLoop, hoff, hnf, show cfg.off.codec = cfg.codec from rfl, show cfg.off.env = cfg.env from rfl,
          show cfg.off.nameGuard = cfg.nameGuard from rfl]
        cases (parseG cfg.codec cfg.env buf).out with
        | ok v k =>
          dsimp only
          by_cases hnp : namePanics cfg.nameGuard inTx v = true
          · simp only [if_pos hnp, and_self]
          · simp only [if_neg hnp]
            have := ih (buf.drop k) (txAfter inTx v) (hs.drop k)
            exact ⟨by simp only [List.map_cons, Action.noPath, this.1], this.2⟩
        | incomplete _ => exact ⟨rfl, rfl⟩
        | error _ => exact ⟨rfl, rfl⟩
        | crash _ => exact ⟨rfl, rfl⟩

/-- with the recognisers off every step of the loop consumes at least one byte: fuel beyond the
    length of the buffer is never used -/
theorem seqLoop_off_fuel (cfg : Config) (hu : cfg.unrestricted = false) (hcodec : cfg.codec = codec1) :
    ∀ (f f' : Nat) (buf : Bytes) (inTx : Bool), Small buf → buf.length < f → buf.length < f' →
      seqLoop cfg f buf inTx = seqLoop cfg f' buf inTx := by
  intro f
  induction f with
  | zero => intro f' buf inTx _ h; omega
  | succ f ih =>
    intro f' buf inTx hs hf hf'
    cases f' with
    | zero => omega
    | succ f' =>
      have hfp : fastPathC cfg inTx buf = .notFast := by simp [fastPathC, hu]
      rw [seqLoop, seqLoop, hfp, hcodec]
      simp only []
      cases hout : (parseG codec1 cfg.env buf).out with
      | ok v k =>
        simp only []
        have hc := parseD_consumed codec1 codec1_good cfg.env.mem cfg.env.depth 0 buf hs v k hout
        split
        · rfl
        · rw [ih f' (buf.drop k) (txAfter inTx v) (hs.drop k) (by simp; omega) (by simp; omega)]
      | incomplete _ => rfl
      | error _ => rfl
      | crash _ => rfl

theorem seqLoop_off_taken (cfg : Config) (hR : Repaired13 cfg) {buf : Bytes} {v : Val} {t : Nat}
    (ht : TakenR buf v t) (F : Nat) (hs : Small buf) (hF : buf.length < F) :
    seqLoop cfg.off F buf false =
      (.exec v .generic :: (seqLoop cfg.off F (buf.drop t) false).1, (seqLoop cfg.off F (buf.drop t) false).2) := by
  obtain ⟨hrep, h13, hcodec, hdepth⟩ := hR
  obtain ⟨hp, h14, htl, hnp, htx⟩ := ht.generic cfg.env hdepth hs cfg.nameGuard
  obtain ⟨F', rfl⟩ : ∃ F', F = F' + 1 := ⟨F - 1, by omega⟩
  have hoff : fastPathC cfg.off false buf = .notFast := by simp [fastPathC, Config.off]
  rw [seqLoop_generic cfg.off F' buf false v t hoff (by rw [show cfg.off.codec = codec1 from hcodec]; exact hp) hnp,
    htx, seqLoop_off_fuel cfg.off rfl hcodec F' (F' + 1) (buf.drop t) false (hs.drop t) (by simp; omega) (by simp; omega)]

/-- what the repaired GET collector consumes is what the loop with the recognisers off executes
    first, frame by frame, on the generic path -/
theorem collectGetR_off (cfg : Config) (hR : Repaired13 cfg) :
    ∀ (cf : Nat) (buf : Bytes) (gets : List Val) (b1 : Bytes) (F : Nat), Small buf → buf.length < F →
      collectGetR 13 cf buf = some (gets, b1) →
      b1.length ≤ buf.length ∧
      (seqLoop cfg.off F buf false).1 = gets.map (fun g => Action.exec g .generic) ++ (seqLoop cfg.off F b1 false).1 ∧
      (seqLoop cfg.off F buf false).2 = (seqLoop cfg.off F b1 false).2 := by
  intro cf
  induction cf with
  | zero =>
    intro buf gets b1 F _ _ h
    obtain ⟨rfl, rfl⟩ := Prod.mk.inj (Option.some.inj h)
    exact ⟨Nat.le_refl _, rfl, rfl⟩
  | succ cf ih =>
    intro buf gets b1 F hs hF h
    rw [collectGetR] at h
    rcases recogGetR_cases 13 buf with ⟨k, t, hg⟩ | hg
    · obtain ⟨ks, r, e1, _⟩ := collectGetR_ok 13 cf (buf.drop t)
      rw [hg] at h
      simp only [e1] at h
      obtain ⟨rfl, rfl⟩ := Prod.mk.inj (Option.some.inj h)
      have hstep := seqLoop_off_taken cfg hR (Or.inl ⟨k, hg, rfl⟩) F hs hF
      obtain ⟨i1, i2, i3⟩ := ih (buf.drop t) ks r F (hs.drop t) (by simp; omega) e1
      rw [hstep]
      exact ⟨by simp at i1; omega, by simp only [List.map_cons, List.cons_append, i2], i3⟩
    · rw [hg] at h
      obtain ⟨rfl, rfl⟩ := Prod.mk.inj (Option.some.inj h)
      exact ⟨Nat.le_refl _, rfl, rfl⟩

theorem collectSetR_off (cfg : Config) (hR : Repaired13 cfg) :
    ∀ (cf : Nat) (buf : Bytes) (sets : List Val) (b1 : Bytes) (F : Nat), Small buf → buf.length < F →
      collectSetR 13 cf buf = some (sets, b1) →
      b1.length ≤ buf.length ∧
      (seqLoop cfg.off F buf false).1 = sets.map (fun g => Action.exec g .generic) ++ (seqLoop cfg.off F b1 false).1 ∧
      (seqLoop cfg.off F buf false).2 = (seqLoop cfg.off F b1 false).2 := by
  intro cf
  induction cf with
  | zero =>
    intro buf sets b1 F _ _ h
    obtain ⟨rfl, rfl⟩ := Prod.mk.inj (Option.some.inj h)
    exact ⟨Nat.le_refl _, rfl, rfl⟩
  | succ cf ih =>
    intro buf sets b1 F hs hF h
    rw [collectSetR] at h
    rcases recogSetR_cases 13 buf with ⟨k, w, t, hg⟩ | hg
    · obtain ⟨ks, r, e1, _⟩ := collectSetR_ok 13 cf (buf.drop t)
      rw [hg] at h
      simp only [e1] at h
      obtain ⟨rfl, rfl⟩ := Prod.mk.inj (Option.some.inj h)
      have hstep := seqLoop_off_taken cfg hR (Or.inr ⟨k, w, hg, rfl⟩) F hs hF
      obtain ⟨i1, i2, i3⟩ := ih (buf.drop t) ks r F (hs.drop t) (by simp; omega) e1
      rw [hstep]
      exact ⟨by simp at i1; omega, by simp only [List.map_cons, List.cons_append, i2], i3⟩
    · rw [hg] at h
      obtain ⟨rfl, rfl⟩ := Prod.mk.inj (Option.some.inj h)
      exact ⟨Nat.le_refl _, rfl, rfl⟩

theorem noPath_batchActs (cfg : Config) (hrep : cfg.repaired = true) (fs : List Val) :
    (batchActs cfg fs).map Action.noPath = fs.map (fun g => Action.exec g .generic) := by
  unfold batchActs
  split
  · simp [Action.noPath, Function.comp_def]
  · simp [hrep, Action.noPath, Function.comp_def]

theorem batchGate_off (cfg : Config) (hR : Repaired13 cfg) (tx : Bool) (F : Nat) (buf : Bytes) (hs : Small buf)
    (hF : buf.length < F) :
    ∃ a b, batchGate cfg tx F buf = some (a, b) ∧ b.length ≤ buf.length ∧
      (seqLoop cfg.off F buf tx).1 = a.map Action.noPath ++ (seqLoop cfg.off F b tx).1 ∧
      (seqLoop cfg.off F buf tx).2 = (seqLoop cfg.off F b tx).2 := by
  have hrep := hR.1
  have h13 := hR.2.1
  unfold batchGate collectGetC collectSetC
  by_cases hgate : buf.length ≥ cfg.minPipeline ∧ ¬ tx = true ∧ (cfg.repaired = true → cfg.unrestricted = true)
  case neg => rw [if_neg hgate]; exact ⟨[], buf, rfl, Nat.le_refl _, rfl, rfl⟩
  obtain rfl : tx = false := by simpa using hgate.2.1
  obtain ⟨gets, b1, eg, _⟩ := collectGetR_ok 13 F buf
  obtain ⟨g1, g2, g3⟩ := collectGetR_off cfg hR _ _ gets b1 F hs hF eg
  rw [if_pos hgate, if_pos hrep, h13, eg]
  dsimp only
  by_cases hmp : b1.length ≥ cfg.minPipeline
  · obtain ⟨sets, b2, es, _⟩ := collectSetR_ok 13 F b1
    obtain ⟨s1, s2, s3⟩ := collectSetR_off cfg hR _ _ sets b2 F (by unfold Small at *; omega) (by omega) es
    rw [if_pos hmp, if_pos hrep, es]
    exact ⟨_, b2, rfl, by omega,
      by rw [g2, s2, List.map_append, noPath_batchActs cfg hrep, noPath_batchActs cfg hrep, List.append_assoc],
      g3.trans s3⟩
  · rw [if_neg hmp]
    exact ⟨_, b1, rfl, g1, by rw [g2, noPath_batchActs cfg hrep], g3⟩

theorem onRead_transparent (cfg : Config) (hR : Repaired13 cfg) (hmax : cfg.maxBuffer < 72057594037927936)
    (st : St) (chunk : Bytes) :
    (onRead cfg st chunk).1 = (onRead cfg.off st chunk).1 ∧
    (onRead cfg st chunk).2.map Action.noPath = (onRead cfg.off st chunk).2.map Action.noPath := by
  obtain ⟨b0, tx, cl⟩ := st
  cases cl with
  | true => exact ⟨rfl, rfl⟩
  | false =>
    by_cases hov : b0.length + chunk.length > cfg.maxBuffer
    · have hcl : ∀ c : Config, c.maxBuffer = cfg.maxBuffer →
          onRead c ⟨b0, tx, false⟩ chunk = (⟨b0, tx, true⟩, [.overflow]) := by
        intro c hc; simp [onRead, hc, hov]
      rw [hcl cfg rfl, hcl cfg.off rfl]
      exact ⟨rfl, rfl⟩
    have hs : Small (b0 ++ chunk) := by unfold Small; simp; omega
    have hoffgate : batchGate cfg.off tx ((b0 ++ chunk).length + 1) (b0 ++ chunk) = some ([], b0 ++ chunk) := by
      unfold batchGate
      simp [Config.off, hR.1]
    obtain ⟨a, b, hg, hbl, h1, h2⟩ := batchGate_off cfg hR tx ((b0 ++ chunk).length + 1) (b0 ++ chunk) hs (Nat.lt_succ_self _)
    obtain ⟨t1, t2⟩ := seqLoop_transparent cfg hR ((b0 ++ chunk).length + 1) b tx (by unfold Small at *; omega)
    rw [onRead_of_gate cfg _ _ _ a b hov hg, onRead_of_gate cfg.off _ _ _ [] _ hov hoffgate, h1, h2, t2]
    refine ⟨rfl, ?_⟩
    rw [List.nil_append, List.map_append, t1, List.map_append, List.map_map]
    congr 1
    exact List.map_congr_left (fun x _ => by cases x <;> rfl)

/-- for every byte stream in every segmentation the repaired connection (HEADER_LEN = 13,
    strict recognisers, collected commands always executed) does exactly what it does with the
    recognisers switched off — the same frames, in the same order, the same protocol errors — up to
    the label of the path that carried a frame -/
theorem run_transparent (cfg : Config) (hR : Repaired13 cfg) (hmax : cfg.maxBuffer < 72057594037927936) (segs : List Bytes) :
    (run cfg segs).map Action.noPath = (run cfg.off segs).map Action.noPath :=
  (List.foldl_rel (r := fun (a b : St × List Action) => a.1 = b.1 ∧ a.2.map Action.noPath = b.2.map Action.noPath)
    ⟨rfl, rfl⟩ fun c _ a b ⟨h1, h2⟩ => by
      obtain ⟨t1, t2⟩ := onRead_transparent cfg hR hmax a.1 c
      rw [h1] at t1 t2
      exact ⟨h1 ▸ t1, by simp only [List.map_append, h2, h1, t2]⟩).2

theorem seqLoop_noDropped (cfg : Config) : ∀ (f : Nat) (buf : Bytes) (inTx : Bool),
    ∀ a ∈ (seqLoop cfg f buf inTx).1, a.isDropped = false := by
  intro f
  induction f with
  | zero => intro buf inTx a ha; cases ha
  | succ f ih =>
    intro buf inTx
    rw [seqLoop]
    cases fastPathC cfg inTx buf with
    | get k t => exact List.forall_mem_cons.mpr ⟨rfl, ih _ _⟩
    | set k v t => exact List.forall_mem_cons.mpr ⟨rfl, ih _ _⟩
    | needMore => exact fun _ h => nomatch h
    | crash => exact List.forall_mem_cons.mpr ⟨rfl, fun _ h => nomatch h⟩
    | notFast =>
      dsimp only
      cases (parseG cfg.codec cfg.env buf).out with
      | ok v k =>
        dsimp only
        split
        · exact List.forall_mem_cons.mpr ⟨rfl, fun _ h => nomatch h⟩
        · exact List.forall_mem_cons.mpr ⟨rfl, ih _ _⟩
      | incomplete _ => exact fun _ h => nomatch h
      | error _ => exact List.forall_mem_cons.mpr ⟨rfl, fun _ h => nomatch h⟩
      | crash _ => exact List.forall_mem_cons.mpr ⟨rfl, fun _ h => nomatch h⟩

theorem batchActs_noDropped (cfg : Config) (hrep : cfg.repaired = true) (fs : List Val) :
    ∀ a ∈ batchActs cfg fs, a.isDropped = false := by
  unfold batchActs
  rw [if_pos hrep]
  split <;> (intro a ha; obtain ⟨g, _, rfl⟩ := List.mem_map.mp ha; rfl)

theorem batchGate_noDropped (cfg : Config) (hrep : cfg.repaired = true) (tx : Bool) (f : Nat) (buf : Bytes)
    (acts : List Action) (b : Bytes) (hg : batchGate cfg tx f buf = some (acts, b)) :
    ∀ a ∈ acts, a.isDropped = false := by
  unfold batchGate at hg
  split at hg
  · cases h1 : collectGetC cfg f buf with
    | none => rw [h1] at hg; cases hg
    | some gb =>
      rw [h1] at hg
      dsimp only at hg
      split at hg
      · cases h2 : collectSetC cfg f gb.2 with
        | none => rw [h2] at hg; cases hg
        | some sb =>
          rw [h2] at hg
          obtain ⟨rfl, _⟩ := Prod.mk.inj (Option.some.inj hg)
          exact List.forall_mem_append.mpr ⟨batchActs_noDropped cfg hrep _, batchActs_noDropped cfg hrep _⟩
      · obtain ⟨rfl, _⟩ := Prod.mk.inj (Option.some.inj hg)
        exact batchActs_noDropped cfg hrep _
  · obtain ⟨rfl, _⟩ := Prod.mk.inj (Option.some.inj hg)
    exact fun _ h => nomatch h

theorem onRead_noDropped (cfg : Config) (hrep : cfg.repaired = true) (st : St) (chunk : Bytes) :
    ∀ a ∈ (onRead cfg st chunk).2, a.isDropped = false := by
  unfold onRead
  split
  · exact fun _ h => nomatch h
  split
  · exact List.forall_mem_cons.mpr ⟨rfl, fun _ h => nomatch h⟩
  dsimp only
  cases hg : batchGate cfg st.inTx ((st.buf ++ chunk).length + 1) (st.buf ++ chunk) with
  | none => exact List.forall_mem_cons.mpr ⟨rfl, fun _ h => nomatch h⟩
  | some ab =>
    exact List.forall_mem_append.mpr ⟨batchGate_noDropped cfg hrep _ _ _ ab.1 ab.2 hg, seqLoop_noDropped cfg _ _ _⟩

theorem run_noDropped (cfg : Config) (hrep : cfg.repaired = true) (segs : List Bytes) :
    ∀ a ∈ run cfg segs, a.isDropped = false :=
  TraceInv.run_inv _ (fun (a : St × List Action) => ∀ x ∈ a.2, x.isDropped = false)
    (fun a c h => List.forall_mem_append.mpr ⟨h, onRead_noDropped cfg hrep a.1 c⟩) (St.init, []) (fun _ h => nomatch h) _

theorem noPath_execAll (cmds : List Cmd) : (execAll cmds).map Action.noPath = execAll cmds := by
  simp [execAll, Action.noPath, Function.comp_def]

theorem replies_noPath : ∀ (acts : List Action) (s : ExSt), replies s (acts.map Action.noPath) = replies s acts := by
  intro acts
  induction acts with
  | nil => intro s; rfl
  | cons a as ih =>
    intro s
    cases a <;> simp [Action.noPath, replies, ih]

theorem hasCrash_noPath : ∀ (acts : List Action), hasCrash (acts.map Action.noPath) = hasCrash acts := by
  intro acts
  induction acts with
  | nil => rfl
  | cons a as ih => cases a <;> simp [Action.noPath, hasCrash, ih]

theorem DeadCfg.off (cfg : Config) (hrep : cfg.repaired = true) : DeadCfg cfg.off :=
  DeadCfg.ofOff ⟨hrep, rfl⟩

end RedisVerif.Conn
