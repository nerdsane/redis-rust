import RedisVerif.Model.GrammarTable
import RedisVerif.Lemmas.GrammarOpts

/-
  Error alphabets: which error literals an argument slot, an option scan, a DSL body and the
  translator's custom bodies can answer.  Used to delimit, per command, the error texts of the
  redis.call translator (`Props/C16.lean`, `lua_error_alphabet`).
-/
namespace RedisVerif.Grammar

/-- the error literals a slot can answer -/
def argErrs (a : Arg) : List Lit :=
  match a.kind with
  | .str => []
  | .sds => []
  | .int => [a.onErr.getD .notInt]
  | .u64 => match a.onErr with
    | some l => [l]
    | none => [.u64Empty, .u64Invalid, .u64Overflow]
  | .flt => [a.onErr.getD .notFloat]
  | .usz => [a.onErr.getD .notInt]
  | .kw => []
  | .u32 => [a.onErr.getD .notInt]
  | .pos => [a.onErr.getD .notInt, .syntax]

theorem extract_err {a : Arg} {v : Bytes} {e : BErr} (h : a.extract v = .error e) :
    ∃ l ∈ argErrs a, e = .lit l := by
  unfold Arg.extract at h
  unfold argErrs
  cases hk : a.kind <;> rw [hk] at h <;> simp only at h ⊢
  · simp at h
  · simp at h
  · cases hp : parseI64 v <;> rw [hp] at h <;> simp at h
    exact ⟨_, by simp, h.symm⟩
  · cases hp : parseUnsigned u64Max v with
    | ok n => rw [hp] at h; simp at h
    | error ie =>
      rw [hp] at h
      simp only [Except.error.injEq] at h
      cases ho : a.onErr with
      | some l => rw [ho] at h; simp only [Option.getD_some] at h; exact ⟨l, by simp, h.symm⟩
      | none =>
        rw [ho] at h
        simp only [Option.getD_none] at h
        refine ⟨u64Err ie, ?_, h.symm⟩
        cases ie <;> simp [u64Err]
  · cases hp : parseF64 v <;> rw [hp] at h <;> simp at h
    exact ⟨_, by simp, h.symm⟩
  · cases hp : parseUnsigned u64Max v <;> rw [hp] at h <;> simp at h
    exact ⟨_, by simp, h.symm⟩
  · simp at h
  · cases hp : parseUnsigned u32Max (lossy v) <;> rw [hp] at h <;> simp at h
    exact ⟨_, by simp, h.symm⟩
  · cases hp : parseI64 v with
    | none => rw [hp] at h; simp at h; exact ⟨_, by simp, h.symm⟩
    | some i =>
      rw [hp] at h
      simp only at h
      split at h
      · simp only [Except.error.injEq] at h; exact ⟨.syntax, by simp, h.symm⟩
      · simp at h

theorem mem_lits {L L' : List Lit} {e : BErr} (hsub : ∀ l ∈ L, l ∈ L') (h : ∃ l ∈ L, e = .lit l) :
    ∃ l ∈ L', e = .lit l :=
  let ⟨l, hl, he⟩ := h
  ⟨l, hsub l hl, he⟩

theorem extractFixed_err : ∀ (as : List Arg) (vs : List Bytes) (e : BErr), as.length = vs.length →
    extractFixed as vs = .error e → ∃ l ∈ as.flatMap argErrs, e = .lit l
  | [], [], _, _, h => by cases h
  | [], _ :: _, _, hl, _ => by cases hl
  | _ :: _, [], _, hl, _ => by cases hl
  | a :: as, v :: vs, e, hl, h => by
    rw [extractFixed] at h
    rcases bind_err h with hx | ⟨t, -, h⟩
    · exact mem_lits (fun l hl => by simp [hl]) (extract_err hx)
    · rcases bind_err h with hy | ⟨ts, -, h⟩
      · exact mem_lits (fun l hl => by simp [hl]) (extractFixed_err as vs e (by simpa using hl) hy)
      · cases h

theorem extractAll_err (a : Arg) : ∀ (vs : List Bytes) (e : BErr),
    extractAll a vs = .error e → ∃ l ∈ argErrs a, e = .lit l
  | [], _, h => by cases h
  | v :: vs, e, h => by
    rw [extractAll] at h
    rcases bind_err h with hx | ⟨t, -, h⟩
    · exact extract_err hx
    · rcases bind_err h with hy | ⟨ts, -, h⟩
      · exact extractAll_err a vs e hy
      · cases h

theorem extractPairs_err (a b : Arg) : ∀ (vs : List Bytes) (e : BErr), extractPairs a b vs = .error e →
    (e = .unreachable ∧ vs.length % 2 = 1) ∨ ∃ l ∈ argErrs a ++ argErrs b, e = .lit l
  | [], e, h => by cases h
  | [_], e, h => Or.inl ⟨(Except.error.inj h).symm, rfl⟩
  | x :: y :: vs, e, h => by
    rw [extractPairs] at h
    rcases bind_err h with hx | ⟨t, -, h⟩
    · exact Or.inr (mem_lits (fun l hl => List.mem_append_left _ hl) (extract_err hx))
    · rcases bind_err h with hy | ⟨u, -, h⟩
      · exact Or.inr (mem_lits (fun l hl => List.mem_append_right _ hl) (extract_err hy))
      · rcases bind_err h with hz | ⟨us, -, h⟩
        · rcases extractPairs_err a b vs e hz with ⟨h1, h2⟩ | h3
          · exact Or.inl ⟨h1, by simp only [List.length_cons]; omega⟩
          · exact Or.inr h3
        · cases h

/-- option tables as the grammars write them: at most two values, a missing value is an explicit error -/
def plainOpts' (tbl : List OptSpec) : Bool :=
  tbl.all fun o => o.vals.length ≤ 2 &&
    (o.vals.isEmpty || match o.missing with
      | .err _ => true
      | _ => false)

/-- the literals an option scan can answer -/
def optErrs (tbl : List OptSpec) : List Lit :=
  tbl.flatMap fun o => o.vals.flatMap argErrs ++
    match o.missing with
    | .err l => [l]
    | _ => []

theorem scan_err (tbl : List OptSpec) (unk : Bytes → Option BErr) (hp : plainOpts' tbl = true) :
    ∀ (opts : List Bytes) (e : BErr), scanOpts tbl unk opts = .error e →
      (∃ l ∈ optErrs tbl, e = .lit l) ∨ (∃ w, unk w = some e) ∨ (∃ f ∈ tbl.filterMap (·.reject), ∃ w, e = .fmt f w)
  | [], e, h => by simp [scanOpts] at h
  | a :: rest, e, h => by
    cases hf : findOpt tbl (kw a) 0 with
    | none =>
      rw [scanOpts, hf] at h
      cases hu : unk (kw a) with
      | some e' => rw [hu] at h; exact Or.inr (Or.inl ⟨_, hu.trans (congrArg some (Except.error.inj h))⟩)
      | none => rw [hu] at h; exact scan_err tbl unk hp rest e h
    | some io =>
      obtain ⟨idx, o⟩ := io
      obtain ⟨-, -, hom, -⟩ := findOpt_spec tbl (kw a) 0 idx o hf
      have hpo := List.all_eq_true.mp hp o hom
      simp only [Bool.and_eq_true, decide_eq_true_eq] at hpo
      have hsub : ∀ l ∈ o.vals.flatMap argErrs ++ (match o.missing with | .err l => [l] | _ => []), l ∈ optErrs tbl :=
        fun l hl => List.mem_flatMap.mpr ⟨o, hom, hl⟩
      cases hrej : o.reject with
      | some f =>
        rw [scanOpts, hf] at h
        simp only [hrej] at h
        exact Or.inr (Or.inr ⟨f, List.mem_filterMap.mpr ⟨o, hom, hrej⟩, kw a, (Except.error.inj h).symm⟩)
      | none =>
        rw [scanOpts_found hf hrej hpo.1] at h
        split at h
        · rename_i hlt
          have hne : o.vals.isEmpty = false := by cases hv : o.vals <;> simp_all
          cases hm : o.missing with
          | err l =>
            rw [hm] at h hsub
            exact Or.inl ⟨l, hsub l (by simp), (Except.error.inj h).symm⟩
          | crash => simp [hm, hne] at hpo
          | ignore => simp [hm, hne] at hpo
        · rename_i hge
          cases hx : extractFixed o.vals (rest.take o.vals.length) with
          | error e' =>
            rw [hx] at h
            obtain ⟨l, hl, he⟩ := extractFixed_err _ _ e' (by simp [List.length_take]; omega) hx
            exact Or.inl ⟨l, hsub l (List.mem_append_left _ hl), he ▸ (Except.error.inj h).symm⟩
          | ok ts =>
            rw [hx] at h
            cases hs : scanOpts tbl unk (rest.drop o.vals.length) with
            | ok s => rw [hs] at h; cases h
            | error e' =>
              rw [hs] at h
              exact Except.error.inj h ▸ scan_err tbl unk hp _ e' hs
termination_by opts => opts.length
decreasing_by all_goals simp <;> omega



/-- the literals a DSL body can answer -/
def Body.lits : Body → List Lit
  | .const _ => []
  | .fixed _ sl => sl.flatMap argErrs
  | .many _ p e => p.flatMap argErrs ++ argErrs e
  | .pairs _ p a b => p.flatMap argErrs ++ (argErrs a ++ argErrs b)
  | .custom _ => []

/-- the arity rule of a DSL entry fits its slots (so the body never runs out of arguments) -/
def dslOk (s : Spec) : Bool :=
  match s.body, s.arity with
  | .const _, _ => true
  | .fixed _ sl, .exact n => n == sl.length
  | .many _ p _, .atLeast n => p.length ≤ n
  | .pairs _ p _ _, .evenAtLeast n => p.length ≤ n && p.length % 2 == 0
  | .pairs _ p _ _, .oddAtLeast n => p.length ≤ n && p.length % 2 == 1
  | _, _ => false

theorem dsl_err {s : Spec} (hd : dslOk s = true) {args : List Bytes} (ha : s.arity.ok args.length = true)
    {e : BErr} (h : s.body.run args = .error e) : ∃ l ∈ s.body.lits, e = .lit l := by
  unfold dslOk at hd
  cases hb : s.body with
  | const c => rw [hb] at h; cases h
  | custom c => rw [hb] at hd; simp at hd
  | fixed c sl =>
    rw [hb] at hd h
    cases har : s.arity <;> rw [har] at hd ha <;> simp only [Bool.false_eq_true, beq_iff_eq] at hd
    simp only [Arity.ok, beq_iff_eq] at ha
    rcases bind_err h with hx | ⟨ts, -, h⟩
    · exact extractFixed_err sl args e (by omega) hx
    · cases h
  | many c p each =>
    rw [hb] at hd h
    cases har : s.arity <;> rw [har] at hd ha <;> simp only [Bool.false_eq_true, decide_eq_true_eq] at hd
    simp only [Arity.ok, decide_eq_true_eq] at ha
    rcases bind_err h with hx | ⟨ts, -, h⟩
    · exact mem_lits (fun l hl => List.mem_append_left _ hl)
        (extractFixed_err p _ e (by rw [List.length_take]; omega) hx)
    · rcases bind_err h with hy | ⟨us, -, h⟩
      · exact mem_lits (fun l hl => List.mem_append_right _ hl) (extractAll_err each _ e hy)
      · cases h
  | pairs c p a b =>
    rw [hb] at hd h
    have key : p.length ≤ args.length ∧ (args.length - p.length) % 2 = 0 := by
      cases har : s.arity <;> rw [har] at hd ha <;>
        simp only [Bool.false_eq_true, Arity.ok, Bool.and_eq_true, decide_eq_true_eq, beq_iff_eq] at hd ha <;> omega
    rcases bind_err h with hx | ⟨ts, -, h⟩
    · exact mem_lits (fun l hl => List.mem_append_left _ hl)
        (extractFixed_err p _ e (by rw [List.length_take]; omega) hx)
    · rcases bind_err h with hy | ⟨us, -, h⟩
      · rcases extractPairs_err a b _ e hy with ⟨-, hodd⟩ | hl
        · rw [List.length_drop] at hodd; omega
        · exact mem_lits (fun l hl => List.mem_append_right _ hl) hl
      · cases h

theorem luaSet_err {args : List Bytes} (hl : 2 ≤ args.length) {e : BErr} (h : Bodies.luaSet args = .error e) :
    (∃ l ∈ [Lit.luaSetExInt, .luaSetEx, .luaSetPxInt, .luaSetPx, .nxxx], e = .lit l) ∨ ∃ w, e = .fmt .luaUnknownSet w := by
  match args, hl with
  | k :: v :: opts, _ =>
    rcases bind_err (show scanOpts Bodies.luaSetOpts _ opts >>= _ = _ from h) with hs | ⟨s, -, h⟩
    · rcases scan_err Bodies.luaSetOpts _ (by decide) opts e hs with hl' | ⟨w, hw⟩ | ⟨f, hf, -⟩
      · exact Or.inl (mem_lits (by decide) hl')
      · exact Or.inr ⟨w, (Option.some.inj hw).symm⟩
      · simp [Bodies.luaSetOpts] at hf
    · split at h
      · exact Or.inl ⟨.nxxx, by simp, (Except.error.inj h).symm⟩
      · cases h

theorem luaExpire_err {args : List Bytes} (hl : args.length = 2) {e : BErr} (h : Bodies.luaExpire args = .error e) :
    ∃ l ∈ [Lit.luaExpireInt], e = .lit l := by
  match args, hl with
  | [k, n], _ =>
    rcases bind_err (show (aIntE .luaExpireInt).extract n >>= _ = _ from h) with hx | ⟨t, -, h⟩
    · exact extract_err hx
    · cases h

theorem lmove_err {args : List Bytes} (hl : args.length = 4) {e : BErr} (h : Bodies.lmove args = .error e) :
    ∃ l ∈ [Lit.lmoveFrom, .lmoveTo], e = .lit l := by
  match args, hl with
  | [s, d, f, t], _ =>
    simp only [Bodies.lmove] at h
    split at h
    · exact ⟨_, by simp, (Except.error.inj h).symm⟩
    · split at h
      · exact ⟨_, by simp, (Except.error.inj h).symm⟩
      · cases h

theorem zadd_err (score : Arg) {args : List Bytes} (hl : 3 ≤ args.length) {e : BErr}
    (h : Bodies.zadd score args = .error e) : ∃ l ∈ Lit.zaddPairs :: argErrs score, e = .lit l := by
  match args, hl with
  | k :: rest, _ =>
    simp only [Bodies.zadd] at h
    split at h
    · exact ⟨_, by simp, (Except.error.inj h).symm⟩
    · rename_i hc
      simp only [Bool.or_eq_true, bne_iff_ne, ne_eq, beq_iff_eq, not_or, Decidable.not_not] at hc
      rcases bind_err h with hx | ⟨us, -, h⟩
      · rcases extractPairs_err score aSds _ e hx with ⟨-, hodd⟩ | hl'
        · omega
        · exact mem_lits (fun l hl => by simpa [argErrs, aSds] using Or.inr hl) hl'
      · cases h

theorem luaZrange_err {args : List Bytes} (hl : args.length = 3) {e : BErr} (h : Bodies.luaZrange args = .error e) :
    ∃ l ∈ [Lit.luaZrangeStart, .luaZrangeStop], e = .lit l := by
  match args, hl with
  | [k, a, b], _ =>
    rcases bind_err (show extractFixed [aIntE .luaZrangeStart, aIntE .luaZrangeStop] [a, b] >>= _ = _ from h)
      with hx | ⟨ts, -, h⟩
    · exact extractFixed_err _ _ e rfl hx
    · cases h

theorem zrbs_err (off cnt : Arg) (m : Lit) (u : Fmt) {args : List Bytes} (hl : 3 ≤ args.length) {e : BErr}
    (h : Bodies.zrangebyscore off cnt m u args = .error e) :
    (∃ l ∈ argErrs off ++ argErrs cnt ++ [m], e = .lit l) ∨ ∃ w, e = .fmt u w := by
  match args, hl with
  | k :: mn :: mx :: opts, _ =>
    rcases bind_err (show scanOpts (Bodies.zrbsOpts off cnt m) _ opts >>= _ = _ from h) with hs | ⟨s, -, h⟩
    · rcases scan_err (Bodies.zrbsOpts off cnt m) _ (by simp [plainOpts', Bodies.zrbsOpts, List.isEmpty]) opts e hs
        with hl' | ⟨w, hw⟩ | ⟨f, hf, -⟩
      · exact Or.inl (mem_lits (fun l hl => by simpa [optErrs, Bodies.zrbsOpts] using hl) hl')
      · exact Or.inr ⟨w, (Option.some.inj hw).symm⟩
      · simp [Bodies.zrbsOpts] at hf
    · cases h

end RedisVerif.Grammar
