import RedisVerif.Model.Node7
import RedisVerif.Lemmas.Shards7

/-!
  Time on the M7 shards.  A shard that gets a message adopts its time (`sweep` = `set_time`: evict what
  has expired); the one store they are compared with purges lazily.  `Rel7V`: shards with one clock each
  against one store with per-key lazy expiry; `Rel7`: the same under one clock for all.  Every timed
  refinement of the node is an instance of ONE step (`Rel7V.step`, under one clock `Rel7.step_local`):
  some shards adopt a time, then a transformer that is local on keys living on swept shards runs on the
  union.
-/
namespace RedisVerif
namespace Shards.M7

open NMap
open Redis (Entry LocalOn cmdKeys exec_localOn live purge)

/-- an entry as seen at time `t`: absent once its deadline has been reached -/
def lv (t : Nat) (o : Option Entry) : Option Entry := o.filter (live t)

theorem lv_lv {a b : Nat} (h : a ≤ b) (o : Option Entry) : lv b (lv a o) = lv b o := by
  cases o with
  | none => rfl
  | some e =>
    by_cases hb : live b e = true
    · have ha := Redis.live_mono h e hb
      simp [lv, Option.filter, ha, hb]
    · by_cases ha : live a e = true <;> simp [lv, Option.filter, ha, hb]

theorem get_purge_lv {s : Redis.State} (hs : WF s) (now k : Nat) : get (purge s now) k = lv now (get s k) :=
  Redis.get_purge hs now k

theorem wf_purgeOn {s : Redis.State} (K : List Nat) (now : Nat) (h : WF s) : WF (purgeOn K s now) :=
  NMap.wf_filter _ h

theorem get_purgeOn {s : Redis.State} (hs : WF s) (K : List Nat) (now k : Nat) :
    get (purgeOn K s now) k = if k ∈ K then lv now (get s k) else get s k := by
  unfold purgeOn
  rw [NMap.get_filter _ hs]
  by_cases hk : k ∈ K
  · simp [hk, lv]
  · have : K.contains k = false := by simpa using hk
    rw [if_neg hk]
    cases get s k with
    | none => rfl
    | some e => simp [Option.filter, hk]

theorem length_sweepFrom (W : Nat → Bool) (now : Nat) (j : Nat) (st : Shards Entry) :
    (sweepFrom W now j st).length = st.length := by
  induction st generalizing j with
  | nil => rfl
  | cons s rest ih => simp [sweepFrom, ih]

theorem shard_sweepFrom (W : Nat → Bool) (now : Nat) (j : Nat) (st : Shards Entry) (i : Nat) :
    shard (sweepFrom W now j st) i = if W (j + i) then purge (shard st i) now else shard st i := by
  induction st generalizing j i with
  | nil => simp [sweepFrom, shard, purge]
  | cons s rest ih =>
    cases i with
    | zero => simp [sweepFrom, shard]
    | succ i =>
      have := ih (j + 1) i
      simp only [shard, sweepFrom, List.getD_cons_succ] at this ⊢
      rw [this]
      have e : j + 1 + i = j + (i + 1) := by omega
      rw [e]

theorem shard_sweep (W : Nat → Bool) (now : Nat) (st : Shards Entry) (i : Nat) :
    shard (sweep W now st) i = if W i then purge (shard st i) now else shard st i := by
  have := shard_sweepFrom W now 0 st i
  simpa [sweep] using this

/-- a sweep keeps homes; the union loses what has expired of the keys that live on swept shards -/
theorem sweep_spec {R : Routes} {st : Shards Entry} (h : Inv R st) (W : Nat → Bool) (now : Nat) :
    Inv R (sweep W now st) ∧ ∀ k, get (abs (sweep W now st)) k =
      if W (R.bytes k) then lv now (get (abs st) k) else get (abs st) k :=
  h.filterOn (fun p => live now p.2) W (by rw [sweep, length_sweepFrom]) (shard_sweep W now st)

theorem inv_sweep {R : Routes} {st : Shards Entry} (h : Inv R st) (W : Nat → Bool) (now : Nat) :
    Inv R (sweep W now st) := (sweep_spec h W now).1

theorem get_abs_sweep {R : Routes} {st : Shards Entry} (h : Inv R st) (W : Nat → Bool) (now k : Nat) :
    get (abs (sweep W now st)) k = if W (R.bytes k) then lv now (get (abs st) k) else get (abs st) k :=
  (sweep_spec h W now).2 k

end Shards.M7

/-- locality of the M7 executor (`Redis.LocalOn`) is locality in the sense of the sharding layer -/
theorem Redis.LocalOn.toShards {K : List Nat} {f : Redis.State → Redis.State × Redis.Reply}
    (L : Redis.LocalOn K f) : Shards.LocalTo K f := ⟨L.wf, L.frame, L.loc⟩

namespace C02
open Shards NMap Shards.M7
open Redis (Entry LocalOn)

/-- from the clock of a key's HOME SHARD on, no reader can tell that key on the shards from the one
    store.  `ts i` = the time of the last message shard `i` adopted. -/
structure Rel7V (R : Routes) (st : Shards Entry) (s1 : Redis.State) (ts : Nat → Nat) : Prop where
  inv : Inv R st
  wf1 : WF s1
  view : ∀ k t', ts (R.bytes k) ≤ t' → lv t' (get (abs st) k) = lv t' (get s1 k)

theorem rel7V_init (R : Routes) : Rel7V R (Shards.init Entry R.N) [] (fun _ => 0) :=
  ⟨inv_init R, wf_nil, fun _ _ _ => by rw [abs_init]⟩

/-- **one timed step**: the shards in `W` adopt `now`; `f` is local on `K`, whose homes are in `W` and
    not ahead of `now`.  Whatever N-shard state `st'` has as its union what `f` makes of the union of
    the swept shards is related to what `f` makes of the one store with `K` judged at `now`, and `f`
    answers the same on both.  How the N shards come to `st'` (one message to one shard, a fan-out)
    and how their reply reads as `f`'s is the caller's untimed refinement (`hi`, `ha`). -/
theorem Rel7V.step {R : Routes} {st st' : Shards Entry} {s1 : Redis.State} {ts : Nat → Nat}
    (h : Rel7V R st s1 ts) (now : Nat) (W : Nat → Bool) {K : List Nat} {ρ : Type}
    {f : Redis.State → Redis.State × ρ} (L : LocalTo K f)
    (hcov : ∀ k ∈ K, W (R.bytes k) = true) (hts : ∀ k ∈ K, ts (R.bytes k) ≤ now)
    (hi : Inv R st') (ha : abs st' = (f (abs (sweep W now st))).1) :
    (f (abs (sweep W now st))).2 = (f (purgeOn K s1 now)).2 ∧
    Rel7V R st' (f (purgeOn K s1 now)).1 (advClock W now ts) := by
  have hwa := (inv_sweep h.inv W now).wf_abs
  have hwp := wf_purgeOn K now h.wf1
  have hget := get_abs_sweep h.inv W now
  obtain ⟨e1, e2⟩ := L.loc _ _ hwa hwp fun k hk => by
    rw [hget, if_pos (hcov k hk), get_purgeOn h.wf1, if_pos hk, h.view k now (hts k hk)]
  refine ⟨e1, hi, L.wf _ hwp, fun k t' ht' => ?_⟩
  rw [ha]
  by_cases hm : k ∈ K
  · rw [e2 k hm]
  · rw [L.frame _ k hwa hm, L.frame _ k hwp hm, get_purgeOn h.wf1, if_neg hm, hget]
    unfold advClock at ht'
    split <;> rename_i hw
    · rw [if_pos hw] at ht'
      rw [lv_lv (by omega)]
      exact h.view k t' (by omega)
    · rw [if_neg hw] at ht'
      exact h.view k t' ht'

end C02

namespace C03
open Shards NMap Shards.M7
open Redis (Entry cmdKeys)

/-- from time `t` on, no reader can tell the `R.N` shards from the one store -/
structure Rel7 (R : Routes) (st : Shards Entry) (s1 : Redis.State) (t : Nat) : Prop where
  inv : Inv R st
  wf1 : WF s1
  view : ∀ t', t ≤ t' → ∀ k, lv t' (get (abs st) k) = lv t' (get s1 k)

theorem rel7_init (R : Routes) : Rel7 R (Shards.init Entry R.N) [] 0 :=
  ⟨inv_init R, wf_nil, fun _ _ _ => by rw [abs_init]⟩

theorem Rel7.mono {R : Routes} {st : Shards Entry} {s1 : Redis.State} {t T : Nat}
    (h : Rel7 R st s1 t) (hT : t ≤ T) : Rel7 R st s1 T :=
  ⟨h.inv, h.wf1, fun t' ht' k => h.view t' (Nat.le_trans hT ht') k⟩

/-- a global clock is every shard at that time -/
theorem Rel7.toV {R : Routes} {st : Shards Entry} {s1 : Redis.State} {t : Nat} (h : Rel7 R st s1 t) :
    C02.Rel7V R st s1 (fun _ => t) := ⟨h.inv, h.wf1, fun k t' ht' => h.view t' ht' k⟩

/-- a swept shard holds of its keys what the purged store holds -/
theorem Rel7.swept {R : Routes} {st : Shards Entry} {s1 : Redis.State} {t now : Nat}
    (h : Rel7 R st s1 t) (ht : t ≤ now) (W : Nat → Bool) (k : Nat) (hk : W (R.bytes k) = true) :
    get (abs (sweep W now st)) k = get (Redis.purge s1 now) k := by
  rw [get_abs_sweep h.inv, if_pos hk, get_purge_lv h.wf1, h.view now ht k]

/-- `C02.Rel7V.step` under ONE clock `t ≤ now`: the one store may as well purge everything, since `f`
    does not look outside `K` and no reader from `now` on sees what the purge removed -/
theorem Rel7.step_local {R : Routes} {st st' : Shards Entry} {s1 : Redis.State} {t now : Nat}
    (h : Rel7 R st s1 t) (ht : t ≤ now) (W : Nat → Bool) {K : List Nat} {ρ : Type}
    {f : Redis.State → Redis.State × ρ} (L : LocalTo K f)
    (hcov : ∀ k ∈ K, W (R.bytes k) = true) (hi : Inv R st') (ha : abs st' = (f (abs (sweep W now st))).1) :
    (f (abs (sweep W now st))).2 = (f (Redis.purge s1 now)).2 ∧ Rel7 R st' (f (Redis.purge s1 now)).1 now := by
  have hwp := Redis.wf_purge now h.wf1
  have hwo := wf_purgeOn K now h.wf1
  obtain ⟨e1, hrel⟩ := h.toV.step now W L hcov (fun _ _ => ht) hi ha
  obtain ⟨e2, e3⟩ := L.loc _ _ hwo hwp fun k hk => by
    rw [get_purgeOn h.wf1, if_pos hk, get_purge_lv h.wf1]
  refine ⟨e1.trans e2, hi, L.wf _ hwp, fun t' ht' k => ?_⟩
  rw [hrel.view k t' (by show (if _ then max t now else t) ≤ t'; rw [Nat.max_eq_right ht]; split <;> omega)]
  by_cases hm : k ∈ K
  · rw [e3 k hm]
  · rw [L.frame _ k hwo hm, L.frame _ k hwp hm, get_purgeOn h.wf1, if_neg hm, get_purge_lv h.wf1, lv_lv ht']

end C03
end RedisVerif
