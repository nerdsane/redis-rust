import RedisVerif.Lemmas.Redis

/-! Sets and hashes: what the invariant says of a collection found, that the bulk operations keep it canonical
    and non-empty, and the reading commands. -/
namespace RedisVerif.Redis
open RedisVerif

variable {s : State}

theorem lookupSet_found {k : Nat} {m : MSet} {dl : Option Nat}
    (hl : lookupSet s k = .found m dl) : NMap.get s k = some ⟨.set m, dl⟩ := by
  unfold lookupSet at hl
  split at hl
  · cases hl
  · rename_i e he
    obtain ⟨v, d⟩ := e
    cases v <;> cases hl
    exact he

theorem lookupSet_wf (h : Inv s) {k : Nat} {m : MSet} {dl : Option Nat}
    (hl : lookupSet s k = .found m dl) : NMap.WF m := (inv_get h (lookupSet_found hl)).2

theorem wf_saddAll {m : MSet} (hm : NMap.WF m) (cs : List Nat) : NMap.WF (saddAll m cs).1 := by
  induction cs generalizing m with
  | nil => exact hm
  | cons c cs ih =>
    simp only [saddAll]
    split
    · exact ih hm
    · exact ih (NMap.wf_insert hm)

theorem wf_sremAll {m : MSet} (hm : NMap.WF m) (cs : List Nat) : NMap.WF (sremAll m cs).1 := by
  induction cs generalizing m with
  | nil => exact hm
  | cons c cs ih =>
    simp only [sremAll]
    split
    · exact ih (NMap.wf_erase hm)
    · exact ih hm

theorem wf_removeChosen {m m' : MSet} (hm : NMap.WF m) {cs : List Nat}
    (h : removeChosen m cs = some m') : NMap.WF m' := by
  induction cs generalizing m with
  | nil => simp [removeChosen] at h; subst h; exact hm
  | cons c cs ih =>
    simp only [removeChosen] at h
    split at h
    · exact ih (NMap.wf_erase hm) h
    · cases h

theorem execSMembers_ro (s : State) (k : Nat) : (execSMembers s k).1 = s := by
  unfold execSMembers; split <;> rfl

theorem execSIsMember_ro (s : State) (k c : Nat) : (execSIsMember s k c).1 = s := by
  unfold execSIsMember; split <;> rfl

theorem execSCard_ro (s : State) (k : Nat) : (execSCard s k).1 = s := by
  unfold execSCard; split <;> rfl

theorem inv_putHash {s : State} (h : Inv s) (k : Nat) {m : MHash} (hm : NMap.WF m) (dl : Option Nat) :
    Inv (putHash s k m dl) := by
  unfold putHash
  split
  · exact inv_erase h
  · exact inv_insert h ⟨by simp, hm⟩

theorem lookupHash_found {k : Nat} {m : MHash} {dl : Option Nat}
    (hl : lookupHash s k = .found m dl) : NMap.get s k = some ⟨.hash m, dl⟩ := by
  unfold lookupHash at hl
  split at hl
  · cases hl
  · rename_i e he
    obtain ⟨v, d⟩ := e
    cases v <;> cases hl
    exact he

theorem lookupHash_wf (h : Inv s) {k : Nat} {m : MHash} {dl : Option Nat}
    (hl : lookupHash s k = .found m dl) : NMap.WF m := (inv_get h (lookupHash_found hl)).2

theorem wf_hsetAll {m : MHash} (hm : NMap.WF m) (fvs : List (Nat × BS)) : NMap.WF (hsetAll m fvs).1 := by
  induction fvs generalizing m with
  | nil => exact hm
  | cons p fvs ih =>
    obtain ⟨f, v⟩ := p
    simp only [hsetAll]
    split
    · exact ih (NMap.wf_insert hm)
    · exact ih (NMap.wf_insert hm)

theorem wf_hdelAll {m : MHash} (hm : NMap.WF m) (fs : List Nat) : NMap.WF (hdelAll m fs).1 := by
  induction fs generalizing m with
  | nil => exact hm
  | cons f fs ih =>
    simp only [hdelAll]
    split
    · exact ih (NMap.wf_erase hm)
    · exact ih hm

theorem execHGet_ro (s : State) (k f : Nat) : (execHGet s k f).1 = s := by
  unfold execHGet
  split
  · rfl
  · rfl
  · split <;> rfl

theorem execHGetAll_ro (s : State) (k : Nat) : (execHGetAll s k).1 = s := by
  unfold execHGetAll; split <;> rfl
theorem execHKeys_ro (s : State) (k : Nat) : (execHKeys s k).1 = s := by
  unfold execHKeys; split <;> rfl
theorem execHVals_ro (s : State) (k : Nat) : (execHVals s k).1 = s := by
  unfold execHVals; split <;> rfl
theorem execHLen_ro (s : State) (k : Nat) : (execHLen s k).1 = s := by
  unfold execHLen; split <;> rfl
theorem execHExists_ro (s : State) (k f : Nat) : (execHExists s k f).1 = s := by
  unfold execHExists; split <;> rfl

theorem saddAll_ne_nil (ms : List Nat) : ∀ (m : MSet), (m ≠ [] ∨ ms ≠ []) → (saddAll m ms).1 ≠ [] := by
  induction ms with
  | nil => intro m h; rcases h with h | h; exact h; exact absurd rfl h
  | cons c cs ih =>
    intro m h
    simp only [saddAll]
    split
    · rename_i hs
      apply ih m
      left
      intro hm; subst hm; simp at hs
    · exact ih _ (Or.inl (NMap.insert_ne_nil c () m))

theorem hsetAll_ne_nil (fvs : List (Nat × BS)) : ∀ (m : MHash), (m ≠ [] ∨ fvs ≠ []) → (hsetAll m fvs).1 ≠ [] := by
  induction fvs with
  | nil => intro m h; rcases h with h | h; exact h; exact absurd rfl h
  | cons p ps ih =>
    intro m h
    obtain ⟨f, v⟩ := p
    simp only [hsetAll]
    split
    · exact ih _ (Or.inl (NMap.insert_ne_nil f v m))
    · exact ih _ (Or.inl (NMap.insert_ne_nil f v m))

end RedisVerif.Redis
