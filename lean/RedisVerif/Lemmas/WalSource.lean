import RedisVerif.Model.WalActor
import RedisVerif.Lemmas.NMap
import RedisVerif.Lemmas.Wal

/-!
  Provenance invariant of the WAL store along every history of the rotator / actor (any faults, torn
  appends, failed creates, crashes, restarts, truncations, either rotator variant):

  every file of every store the history passes through is a PREFIX of a clean image
  `header ++ encode e₁ ++ … ++ encode eₙ` whose entries all satisfy a fixed predicate `P`
  (`P` = "was handed to `WalRotator::append` by a `Write` message").  Hence whatever recovery returns
  from ANY crash image (and from the uncrashed store) satisfies `P`: recovery never invents or alters
  an entry — C10's "only appended entries come back", stated over the reachable stores of the model
  of C09 instead of over abstract damaged images.  That the invariant holds along every history is a
  consequence of the order invariant of `Lemmas/WalOrder.lean`.
-/
namespace RedisVerif.Wal

/-- `data` is a prefix of a clean file image of sequence `k` whose entries all satisfy `P` -/
def DataFrom (fmt : Format) (crc : Bytes → Nat) (P : Entry → Prop) (k : Nat) (data : Bytes) : Prop :=
  ∃ es n, (∀ e ∈ es, P e) ∧ AllOk fmt crc es ∧ data = (header fmt k ++ encs es).take n

def SrcSt (fmt : Format) (crc : Bytes → Nat) (P : Entry → Prop) (st : Store) : Prop :=
  ∀ p ∈ st, DataFrom fmt crc P p.1 p.2.data

/-- the current writer's file is exactly a clean image of `P`-entries -/
def CurSrc (fmt : Format) (crc : Bytes → Nat) (P : Entry → Prop) (st : Store) (c : Nat) : Prop :=
  ∃ es syn, NMap.get st c = some ⟨header fmt c ++ encs es, syn⟩ ∧ (∀ e ∈ es, P e) ∧ AllOk fmt crc es

variable {fmt : Format} {crc : Bytes → Nat} {P : Entry → Prop}

theorem DataFrom.take {k : Nat} {data : Bytes} (h : DataFrom fmt crc P k data) (m : Nat) :
    DataFrom fmt crc P k (data.take m) := by
  obtain ⟨es, n, hp, hok, rfl⟩ := h
  exact ⟨es, min m n, hp, hok, by rw [List.take_take]⟩

/-- what recovery reads from (any prefix of) such a file satisfies `P` -/
theorem DataFrom.entries {k : Nat} {data : Bytes} (h : DataFrom fmt crc P k data) :
    ∀ e ∈ fileEntries fmt crc data, P e := by
  obtain ⟨es, n, hp, hok, rfl⟩ := h
  obtain ⟨j, hj⟩ := fileEntries_take fmt crc k es hok n
  intro e he
  rw [hj] at he
  exact hp e (List.mem_of_mem_take he)

/-- the current store and every store of the history hold only `P`-entries -/
def WSrc (fmt : Format) (crc : Bytes → Nat) (P : Entry → Prop) (w : World) : Prop :=
  SrcSt fmt crc P w.store ∧ ∀ st ∈ w.hist, SrcSt fmt crc P st

structure SrcInv (fmt : Format) (crc : Bytes → Nat) (P : Entry → Prop) (r : Rot) : Prop where
  w : WSrc fmt crc P r.w
  cur : ∀ c, r.cur = some c → CurSrc fmt crc P r.w.store c

/-- what the invariant gives: at EVERY instant of the history, what recovery returns from the crash
    image — and from the store as it stands — satisfies `P` -/
theorem recovered_from {r : Rot} (h : SrcInv fmt crc P r) (t : Nat) (st : Store)
    (hst : r.w.storeAt t = some st) :
    (∀ e ∈ durable fmt crc st, P e) ∧ (∀ e ∈ recoverAll fmt crc (fullImage st), P e) := by
  have hmem : st ∈ r.w.hist := by
    unfold World.storeAt at hst
    exact List.mem_reverse.mp (List.mem_of_getElem? hst)
  have hs := h.w.2 st hmem
  constructor
  · intro e he
    unfold durable recoverAll crashImage at he
    rw [List.mem_flatMap] at he
    obtain ⟨q, hq, heq⟩ := he
    obtain ⟨p, hp, rfl⟩ := List.mem_map.mp hq
    exact ((hs p hp).take _).entries e heq
  · intro e he
    unfold recoverAll fullImage at he
    rw [List.mem_flatMap] at he
    obtain ⟨q, hq, heq⟩ := he
    obtain ⟨p, hp, rfl⟩ := List.mem_map.mp hq
    exact (hs p hp).entries e heq

end RedisVerif.Wal
