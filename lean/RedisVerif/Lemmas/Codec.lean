import RedisVerif.Model.Codec
import RedisVerif.Lemmas.Wal
import RedisVerif.Driver.Crc32

/-!
  Segment and checkpoint framing (`Model/Codec.lean`): what the readers make of the writers' images.
  `segHeaderG` / `segFooterG` / `chkHeaderG` are the written forms with ARBITRARY bytes in the positions
  no checksum covers; `readSegParts_eq_ok` / `readCheckpoint_eq_ok` say what a successful read implies.
  `readChkParts` is the checkpoint reader on the fields it looks at, as the model's `readSegParts` is for a segment:
  `readSegment_append` / `readCheckpoint_append` read an image given as a concatenation of variables through them.
-/
namespace RedisVerif.Codec
open Wal

/-! ### results of a read -/

instance {ε α : Type} [DecidableEq ε] [DecidableEq α] : DecidableEq (Except ε α)
  | .ok a, .ok b => if h : a = b then isTrue (by rw [h]) else isFalse (by intro h'; cases h'; exact h rfl)
  | .error a, .error b => if h : a = b then isTrue (by rw [h]) else isFalse (by intro h'; cases h'; exact h rfl)
  | .ok _, .error _ => isFalse (by intro h; cases h)
  | .error _, .ok _ => isFalse (by intro h; cases h)

def IsErr {α : Type} (r : Res α) : Prop := ∃ e, r = .error e

theorem isErr_error {α : Type} (e : Err) : IsErr (.error e : Res α) := ⟨e, rfl⟩

theorem isErr_of_ne_ok {α : Type} {r : Res α} (h : ∀ a, r ≠ .ok a) : IsErr r := by
  cases r with
  | error e => exact isErr_error e
  | ok a => exact absurd rfl (h a)

theorem guard_eq_ok {α : Type} {c : Prop} [Decidable c] {e : Err} {x : Res α} {a : α} :
    (if c then .error e else x) = .ok a ↔ ¬ c ∧ x = .ok a := by
  by_cases h : c <;> simp [h]

/-! ### a decoder against its encoder: what the round-trip and exactness laws of either wire format give -/

section
variable {α : Type} {enc : α → Bytes} {ok : α → Prop}

/-- no proper prefix of an encoding decodes: the full encoding would be the encoding of what the prefix decodes
    to, followed by something, and decode to that -/
theorem truncated_none_of {dec : Bytes → Option (α × Bytes)}
    (rt : ∀ a rest, ok a → dec (enc a ++ rest) = some (a, rest))
    (exact : ∀ bs a rest, dec bs = some (a, rest) → bs = enc a ++ rest ∧ ok a)
    (a : α) (ha : ok a) (n : Nat) (hn : n < (enc a).length) : dec ((enc a).take n) = none := by
  cases hd : dec ((enc a).take n) with
  | none => rfl
  | some p =>
    obtain ⟨b, r⟩ := p
    obtain ⟨e, ob⟩ := exact _ b r hd
    have h1 := rt b (r ++ (enc a).drop n) ob
    have h2 := rt a [] ha
    rw [List.append_nil] at h2
    rw [← List.append_assoc, ← e, List.take_append_drop, h2] at h1
    have := congrArg List.length (Prod.mk.inj (Option.some.inj h1)).2
    simp at this; omega

theorem enc_injective_of {de : Bytes → Option α} (rt : ∀ a, ok a → de (enc a) = some a) {a b : α} (ha : ok a) (hb : ok b)
    (h : enc a = enc b) : a = b :=
  Option.some.inj (by rw [← rt a ha, h, rt b hb])

end

/-! ### fields and records -/

/-- re-encoding a parsed little-endian field gives the bytes back (byte-valued lists):
    why the model may use the raw header bytes where the Rust code re-serialises the
    parsed fields before hashing them -/
theorem le_leVal (bs : Bytes) (hb : ∀ b ∈ bs, b < 256) : le bs.length (leVal bs) = bs := by
  induction bs with
  | nil => rfl
  | cons b bs ih =>
    have hb0 := hb b (by simp)
    simp only [List.length_cons, le, leVal]
    rw [show (b + 256 * leVal bs) % 256 = b by omega,
      show (b + 256 * leVal bs) / 256 = leVal bs by omega, ih (fun x hx => hb x (by simp [hx]))]

theorem record_length (p : Bytes) : (record p).length = 4 + p.length := by
  simp [record, le_length]

theorem readRecords_record {δ : Type} (strict : Bool) (de : Bytes → Option δ) (r : Nat) (p tail : Bytes)
    (hp : p.length < 2 ^ 32) :
    readRecords strict de (r + 1) (record p ++ tail) =
      match de p with
      | none => .error .ser
      | some d =>
        match readRecords strict de r tail with
        | .ok ds => .ok (d :: ds)
        | .error e => .error e := by
  have hl : (record p ++ tail).length = 4 + p.length + tail.length := by rw [List.length_append, record_length]
  have e1 : (record p ++ tail).take 4 = le 4 p.length := by
    unfold record; rw [List.append_assoc]; exact List.take_left' (le_length _ _)
  have e2 : (record p ++ tail).drop 4 = p ++ tail := by
    unfold record; rw [List.append_assoc]; exact List.drop_left' (le_length _ _)
  simp only [readRecords, e1, e2]
  rw [if_neg (by omega), if_neg (by omega), leVal_le 4 _ (by simpa using hp),
    if_neg (by rw [List.length_append]; omega), List.take_left' rfl, List.drop_left' rfl]
  cases de p with
  | none => rfl
  | some d => cases readRecords strict de r tail <;> rfl

theorem readRecords_records {δ : Type} (strict : Bool) (ser : δ → Bytes) (de : Bytes → Option δ)
    (ds : List δ) (hde : ∀ d ∈ ds, de (ser d) = some d) (hfit : ∀ d ∈ ds, (ser d).length < 2 ^ 32)
    (k : Nat) (hk : strict = false ∨ k = 0) :
    readRecords strict de (ds.length + k) (records (ds.map ser)) = .ok ds := by
  induction ds with
  | nil =>
    cases k with
    | zero => rfl
    | succ k =>
      rcases hk with hk | hk
      · subst hk; simp [readRecords, records]
      · cases hk
  | cons d ds ih =>
    have hd := hde d (by simp)
    have hf := hfit d (by simp)
    have hlen : (d :: ds).length + k = (ds.length + k) + 1 := by simp; omega
    have := ih (fun x hx => hde x (by simp [hx])) (fun x hx => hfit x (by simp [hx]))
    unfold records at this ⊢
    rw [hlen, List.map_cons, List.flatMap_cons, readRecords_record _ _ _ _ _ hf, hd, this]

theorem readRecords_strict_prefix_err {δ : Type} (de : Bytes → Option δ) (ps : List Bytes)
    (hfit : ∀ p ∈ ps, p.length < 2 ^ 32) (m : Nat) (hm : m < (records ps).length) :
    IsErr (readRecords true de ps.length ((records ps).take m)) := by
  induction ps generalizing m with
  | nil => simp [records] at hm
  | cons p ps ih =>
    have hp := hfit p (by simp)
    simp only [records, List.flatMap_cons, List.length_cons] at hm ⊢
    rw [List.take_append]
    by_cases hlt : m < (record p).length
    · have h0 : m - (record p).length = 0 := by omega
      rw [h0, List.take_zero, List.append_nil]
      rw [record_length] at hlt
      unfold readRecords
      simp only [List.length_take, record_length]
      by_cases hz : m = 0
      · subst hz; simp; exact isErr_error _
      · rw [if_neg (by omega)]
        by_cases h4 : m < 4
        · rw [if_pos (by omega)]; exact isErr_error _
        · rw [if_neg (by omega)]
          have e1 : ((record p).take m).take 4 = le 4 p.length := by
            rw [List.take_take, Nat.min_eq_left (by omega)]
            unfold record; exact List.take_left' (le_length _ _)
          have e2 : ((record p).take m).drop 4 = p.take (m - 4) := by
            unfold record
            rw [List.take_append, List.take_of_length_le (by rw [le_length]; omega), le_length,
              List.drop_left' (le_length _ _)]
          simp only [e1, e2]
          rw [leVal_le 4 _ (by simpa using hp), if_pos (by rw [List.length_take]; omega)]
          exact isErr_error _
    · rw [List.take_of_length_le (by omega)]
      have hm' : m - (record p).length < (List.flatMap record ps).length := by
        rw [List.length_append] at hm; omega
      have hrec := ih (fun q hq => hfit q (by simp [hq])) (m - (record p).length) hm'
      rw [readRecords_record _ _ _ _ _ hp]
      cases de p with
      | none => exact isErr_error _
      | some d =>
        obtain ⟨e, he⟩ := hrec
        unfold records at he
        simp only [he]
        exact isErr_error _

/-! ### segment -/

theorem segCovered_length (n a b : Nat) : (segCovered n a b).length = 26 := by
  simp [segCovered, segMagic, le_length]

/-- a segment header with ARBITRARY bytes in the 10 padding positions 30..40 -/
def segHeaderG (crc : Bytes → Nat) (n a b : Nat) (pad : Bytes) : Bytes :=
  segCovered n a b ++ (le 4 (crc (segCovered n a b)) ++ pad)

/-- a segment footer with ARBITRARY bytes in the two size fields (positions 4..20) -/
def segFooterG (crc : Bytes → Nat) (recs sizes : Bytes) : Bytes :=
  le 4 (crc recs) ++ (sizes ++ footMagic)

theorem segHeader_eq (crc : Bytes → Nat) (n a b : Nat) :
    segHeader crc n a b = segHeaderG crc n a b (List.replicate 10 0) := rfl

theorem segFooter_eq (crc : Bytes → Nat) (recs : Bytes) :
    segFooter crc recs = segFooterG crc recs (le 8 recs.length ++ le 8 recs.length) := by
  simp [segFooter, segFooterG]

theorem segHeader_length (crc : Bytes → Nat) (n a b : Nat) (pad : Bytes) (hp : pad.length = 10) :
    (segHeaderG crc n a b pad).length = 40 := by
  simp [segHeaderG, segCovered_length, le_length, hp]

theorem segHeader_fields (crc : Bytes → Nat) (n a b : Nat) (pad : Bytes) :
    let h := (segHeaderG crc n a b pad).take 30
    h.take 4 = segMagic ∧ (h.drop 4).take 1 = [1] ∧ h.take 26 = segCovered n a b ∧
    (h.drop 26).take 4 = le 4 (crc (segCovered n a b)) ∧ (h.drop 5).take 1 = [0] ∧
    (h.drop 6).take 4 = le 4 n := by
  intro h
  have hh : h = segCovered n a b ++ le 4 (crc (segCovered n a b)) := by
    show (segHeaderG crc n a b pad).take 30 = _
    unfold segHeaderG
    rw [← List.append_assoc]
    exact List.take_left' (by rw [List.length_append, segCovered_length, le_length])
  have hc : segCovered n a b = segMagic ++ ([1, 0] ++ (le 4 n ++ (le 8 a ++ le 8 b))) := rfl
  refine ⟨?_, ?_, ?_, ?_, ?_, ?_⟩
  · rw [hh, hc, List.append_assoc]; exact List.take_left' rfl
  · rw [hh, hc, List.append_assoc, List.drop_left' (by rfl)]; rfl
  · rw [hh]; exact List.take_left' (segCovered_length _ _ _)
  · rw [hh, List.drop_left' (segCovered_length _ _ _)]; exact List.take_left' (le_length _ _)
  · rw [hh, hc]; rfl
  · rw [hh, hc]
    have : segMagic ++ ([1, 0] ++ (le 4 n ++ (le 8 a ++ le 8 b))) ++ le 4 (crc (segMagic ++ ([1, 0] ++ (le 4 n ++ (le 8 a ++ le 8 b)))))
        = (segMagic ++ [1, 0]) ++ (le 4 n ++ ((le 8 a ++ le 8 b) ++ le 4 (crc (segMagic ++ ([1, 0] ++ (le 4 n ++ (le 8 a ++ le 8 b))))))) := by
      simp
    rw [this, List.drop_left' (by rfl)]
    exact List.take_left' (le_length _ _)

theorem segFooter_fields (crc : Bytes → Nat) (recs sizes : Bytes) (hs : sizes.length = 16) :
    (segFooterG crc recs sizes).take 4 = le 4 (crc recs) ∧
    ((segFooterG crc recs sizes).drop 20).take 4 = footMagic ∧
    (segFooterG crc recs sizes).length = 24 := by
  unfold segFooterG
  refine ⟨List.take_left' (le_length _ _), ?_, ?_⟩
  · have : le 4 (crc recs) ++ (sizes ++ footMagic) = (le 4 (crc recs) ++ sizes) ++ footMagic := by simp
    rw [this, List.drop_left' (by simp [le_length, hs])]
    rfl
  · simp [le_length, footMagic, hs]

theorem segFooter_written (crc : Bytes → Nat) (recs : Bytes) :
    (segFooter crc recs).take 4 = le 4 (crc recs) ∧ ((segFooter crc recs).drop 20).take 4 = footMagic ∧
    (segFooter crc recs).length = 24 := by
  rw [segFooter_eq]; exact segFooter_fields crc recs _ (by simp [le_length])

theorem seg_parts (hdr recs foot : Bytes) (hh : hdr.length = 40) (hf : foot.length = 24) :
    let data := hdr ++ (recs ++ foot)
    data.length = 64 + recs.length ∧ data.take 40 = hdr ∧
    (data.drop 40).take (data.length - 64) = recs ∧ data.drop (data.length - 24) = foot := by
  intro data
  have hl : data.length = 64 + recs.length := by
    simp only [data, List.length_append, hh, hf]; omega
  refine ⟨hl, List.take_left' hh, ?_, ?_⟩
  · rw [List.drop_left' hh, hl]
    exact List.take_left' (by omega)
  · have : data = (hdr ++ recs) ++ foot := by simp [data]
    rw [this]
    exact List.drop_left' (by rw [← this, hl, List.length_append, hh]; omega)

/-- everything the writer puts into width-limited fields fits -/
def SegFits (crc : Bytes → Nat) (ps : List Bytes) (ts : List Nat) : Prop :=
  ps.length < 2 ^ 32 ∧ (∀ p ∈ ps, p.length < 2 ^ 32) ∧
  crc (segCovered ps.length (minOf ts) (maxOf ts)) < 2 ^ 32 ∧ crc (records ps) < 2 ^ 32

instance (crc : Bytes → Nat) (ps : List Bytes) (ts : List Nat) : Decidable (SegFits crc ps ts) := by
  unfold SegFits; infer_instance

theorem writeSegment_eq_some {crc : Bytes → Nat} {ps : List Bytes} {ts : List Nat} {img : Bytes}
    (h : writeSegment crc ps ts = some img) :
    img = segHeader crc ps.length (minOf ts) (maxOf ts) ++ (records ps ++ segFooter crc (records ps)) := by
  unfold writeSegment at h
  split at h
  · cases h
  · exact (Option.some.inj h).symm

/-- what the reader makes of a written header + arbitrary records + written footer, with
    ARBITRARY bytes in the positions no checksum covers (`pad` = header bytes 30..40, `sizes` =
    footer bytes 4..20) -/
theorem readSegParts_written {δ : Type} (strict : Bool) (crc : Bytes → Nat) (de : Bytes → Option δ)
    (n a b : Nat) (recs pad sizes : Bytes) (hs : sizes.length = 16) (hn : n < 2 ^ 32)
    (hc : crc (segCovered n a b) < 2 ^ 32) (hr : crc recs < 2 ^ 32) :
    readSegParts strict crc de (segHeaderG crc n a b pad) recs (segFooterG crc recs sizes)
      = readRecords strict de n recs := by
  obtain ⟨h1, h2, h3, h4, h5, h6⟩ := segHeader_fields crc n a b pad
  obtain ⟨f1, f2, _⟩ := segFooter_fields crc recs sizes hs
  unfold readSegParts
  simp only [h1, h2, h3, h4, h5, h6, f1, f2]
  rw [leVal_le 4 _ (by simpa using hc), leVal_le 4 _ (by simpa using hr), leVal_le 4 _ (by simpa using hn)]
  simp

theorem readSegment_parts {δ : Type} (strict : Bool) (crc : Bytes → Nat) (de : Bytes → Option δ) (data : Bytes)
    (h : 64 ≤ data.length) :
    readSegment strict crc de data = readSegParts strict crc de (data.take 40)
      ((data.drop 40).take (data.length - 64)) (data.drop (data.length - 24)) := by
  unfold readSegment; rw [if_neg (by omega)]

/-- reading an image given as header, records and footer is reading those three parts -/
theorem readSegment_append {δ : Type} (strict : Bool) (crc : Bytes → Nat) (de : Bytes → Option δ)
    (hdr recs foot : Bytes) (hh : hdr.length = 40) (hf : foot.length = 24) :
    readSegment strict crc de (hdr ++ (recs ++ foot)) = readSegParts strict crc de hdr recs foot := by
  obtain ⟨hl, p1, p2, p3⟩ := seg_parts hdr recs foot hh hf
  rw [readSegment_parts strict crc de _ (by rw [hl]; omega), p1, p2, p3]

theorem readSegment_written {δ : Type} (strict : Bool) (crc : Bytes → Nat) (de : Bytes → Option δ)
    (n a b : Nat) (recs pad sizes : Bytes) (hp : pad.length = 10) (hs : sizes.length = 16)
    (hn : n < 2 ^ 32) (hc : crc (segCovered n a b) < 2 ^ 32) (hr : crc recs < 2 ^ 32) :
    readSegment strict crc de (segHeaderG crc n a b pad ++ (recs ++ segFooterG crc recs sizes))
      = readRecords strict de n recs := by
  rw [readSegment_append _ _ _ _ _ _ (segHeader_length _ _ _ _ _ hp) (segFooter_fields crc recs sizes hs).2.2,
    readSegParts_written strict crc de n a b recs pad sizes hs hn hc hr]

theorem readSegParts_congr {δ : Type} (strict : Bool) (crc : Bytes → Nat) (de : Bytes → Option δ)
    (hdr hdr' recs foot foot' : Bytes) (hh : hdr'.take 30 = hdr.take 30)
    (hf : foot'.take 4 = foot.take 4) (hm : (foot'.drop 20).take 4 = (foot.drop 20).take 4) :
    readSegParts strict crc de hdr' recs foot' = readSegParts strict crc de hdr recs foot := by
  unfold readSegParts
  simp only [hh, hf, hm]

theorem readSegParts_eq_ok {δ : Type} {strict : Bool} {crc : Bytes → Nat} {de : Bytes → Option δ}
    {hdr recs foot : Bytes} {ds : List δ} :
    readSegParts strict crc de hdr recs foot = .ok ds ↔
      (hdr.take 30).take 4 = segMagic ∧ ((hdr.take 30).drop 4).take 1 = [1] ∧
      crc ((hdr.take 30).take 26) = leVal (((hdr.take 30).drop 26).take 4) ∧
      (foot.drop 20).take 4 = footMagic ∧ ((hdr.take 30).drop 5).take 1 = [0] ∧
      crc recs = leVal (foot.take 4) ∧
      readRecords strict de (leVal (((hdr.take 30).drop 6).take 4)) recs = .ok ds := by
  simp only [readSegParts, guard_eq_ok, Decidable.not_not]

theorem readSegParts_err_of_header_crc {δ : Type} (strict : Bool) (crc : Bytes → Nat) (de : Bytes → Option δ)
    (hdr recs foot : Bytes)
    (h : crc ((hdr.take 30).take 26) ≠ leVal (((hdr.take 30).drop 26).take 4)) :
    IsErr (readSegParts strict crc de hdr recs foot) :=
  isErr_of_ne_ok fun _ hok => h (readSegParts_eq_ok.mp hok).2.2.1

theorem readSegParts_err_of_magic {δ : Type} (strict : Bool) (crc : Bytes → Nat) (de : Bytes → Option δ)
    (hdr recs foot : Bytes) (h : (foot.drop 20).take 4 ≠ footMagic) :
    IsErr (readSegParts strict crc de hdr recs foot) :=
  isErr_of_ne_ok fun _ hok => h (readSegParts_eq_ok.mp hok).2.2.2.1

theorem readSegParts_err_of_data_crc {δ : Type} (strict : Bool) (crc : Bytes → Nat) (de : Bytes → Option δ)
    (hdr recs foot : Bytes) (h : crc recs ≠ leVal (foot.take 4)) :
    IsErr (readSegParts strict crc de hdr recs foot) :=
  isErr_of_ne_ok fun _ hok => h (readSegParts_eq_ok.mp hok).2.2.2.2.2.1

theorem readSegParts_isErr_of_records {δ : Type} (strict : Bool) (crc : Bytes → Nat)
    (de : Bytes → Option δ) (hdr recs foot : Bytes)
    (h : IsErr (readRecords strict de (leVal (((hdr.take 30).drop 6).take 4)) recs)) :
    IsErr (readSegParts strict crc de hdr recs foot) :=
  isErr_of_ne_ok fun _ hok => by
    obtain ⟨e, he⟩ := h
    cases he.symm.trans (readSegParts_eq_ok.mp hok).2.2.2.2.2.2

def EndsInFooterMagic (p : Bytes) : Prop := ((p.drop (p.length - 24)).drop 20).take 4 = footMagic

instance (p : Bytes) : Decidable (EndsInFooterMagic p) := by unfold EndsInFooterMagic; infer_instance

/-! ### checkpoint -/

/-- a checkpoint header with ARBITRARY bytes in the padding (6..8) and reserved (32..44)
    positions -/
def chkHeaderG (crc : Bytes → Nat) (k t l : Nat) (pad res : Bytes) : Bytes :=
  chkCoveredA ++ (pad ++ (chkCoveredB k t l ++ (res ++ le 4 (crc (chkCoveredA ++ chkCoveredB k t l)))))

theorem chkHeader_eq (crc : Bytes → Nat) (k t l : Nat) :
    chkHeader crc k t l = chkHeaderG crc k t l [0, 0] (List.replicate 12 0) := rfl

theorem chkCoveredB_length (k t l : Nat) : (chkCoveredB k t l).length = 24 := by
  simp [chkCoveredB, le_length]

theorem chkHeader_length (crc : Bytes → Nat) (k t l : Nat) (pad res : Bytes)
    (hp : pad.length = 2) (hr : res.length = 12) : (chkHeaderG crc k t l pad res).length = 48 := by
  simp [chkHeaderG, chkCoveredA, chkCoveredB_length, chkMagic, le_length, hp, hr]

theorem chkFooter_length (crc : Bytes → Nat) (p : Bytes) : (chkFooter crc p).length = 16 := by
  simp [chkFooter, le_length]

/-- what the reader slices out of a header given by its five fields -/
theorem chkHdr_slices (A pad B res C : Bytes) (hA : A.length = 6) (hp : pad.length = 2) (hB : B.length = 24)
    (hr : res.length = 12) (hC : C.length = 4) :
    (A ++ (pad ++ (B ++ (res ++ C)))).length = 48 ∧ (A ++ (pad ++ (B ++ (res ++ C)))).take 6 = A ∧
    ((A ++ (pad ++ (B ++ (res ++ C)))).drop 8).take 24 = B ∧ (A ++ (pad ++ (B ++ (res ++ C)))).drop 44 = C := by
  refine ⟨by simp [hA, hp, hB, hr, hC], List.take_left' hA, ?_, ?_⟩
  · rw [← List.append_assoc, List.drop_left' (by simp [hA, hp])]; exact List.take_left' hB
  · rw [show A ++ (pad ++ (B ++ (res ++ C))) = (A ++ (pad ++ (B ++ res))) ++ C by simp]
    exact List.drop_left' (by simp [hA, hp, hB, hr])

theorem chkHeader_fields (crc : Bytes → Nat) (k t l : Nat) (pad res : Bytes) (hp : pad.length = 2) (hr : res.length = 12) :
    (chkHeaderG crc k t l pad res).length = 48 ∧ (chkHeaderG crc k t l pad res).take 6 = chkCoveredA ∧
    ((chkHeaderG crc k t l pad res).drop 8).take 24 = chkCoveredB k t l ∧
    (chkHeaderG crc k t l pad res).drop 44 = le 4 (crc (chkCoveredA ++ chkCoveredB k t l)) :=
  chkHdr_slices _ _ _ _ _ rfl hp (chkCoveredB_length k t l) hr (le_length _ _)

theorem chkFooter_fields (crc : Bytes → Nat) (p : Bytes) :
    let f := chkFooter crc p
    f.take 12 = le 4 (crc p) ++ le 8 p.length ∧
    (f.drop 12).take 4 = le 4 (crc (le 4 (crc p) ++ le 8 p.length)) ∧
    f.take 4 = le 4 (crc p) ∧ (f.drop 4).take 8 = le 8 p.length := by
  intro f
  have hl : (le 4 (crc p) ++ le 8 p.length).length = 12 := by simp [le_length]
  refine ⟨List.take_left' hl, ?_, ?_, ?_⟩
  · show (((le 4 (crc p) ++ le 8 p.length) ++ _).drop 12).take 4 = _
    rw [List.drop_left' hl]; exact List.take_of_length_le (by rw [le_length]; omega)
  · show ((le 4 (crc p) ++ le 8 p.length) ++ _).take 4 = _
    rw [List.append_assoc]; exact List.take_left' (le_length _ _)
  · show (((le 4 (crc p) ++ le 8 p.length) ++ _).drop 4).take 8 = _
    rw [List.append_assoc, List.drop_left' (le_length _ _)]; exact List.take_left' (le_length _ _)

/-- the slices the reader takes of an image `hdr ‖ len4 ‖ payload ‖ tail` -/
theorem chk_parts (hdr len4 payload tail : Bytes) (hh : hdr.length = 48) (hl : len4.length = 4) :
    let data := hdr ++ (len4 ++ (payload ++ tail))
    data.length = 52 + payload.length + tail.length ∧ data.take 48 = hdr ∧
    (data.drop 48).take 4 = len4 ∧ (data.drop 52).take payload.length = payload ∧
    data.drop (52 + payload.length) = tail := by
  intro data
  refine ⟨?_, List.take_left' hh, ?_, ?_, ?_⟩
  · simp only [data, List.length_append, hh, hl]; omega
  · rw [List.drop_left' hh]; exact List.take_left' hl
  · have : data = (hdr ++ len4) ++ (payload ++ tail) := by simp [data]
    rw [this, List.drop_left' (by simp [hh, hl])]
    exact List.take_left' rfl
  · have : data = (hdr ++ (len4 ++ payload)) ++ tail := by simp [data]
    rw [this]
    exact List.drop_left' (by simp [hh, hl]; omega)

/-- what `readCheckpoint` decides, in terms of the FIELDS it looks at: the covered header fields `A` (magic,
    version, flags) and `B` (key count, stamp, last segment), the stored header checksum `C`, payload, footer.
    The checkpoint's counterpart of the model's `readSegParts`. -/
def readChkParts {σ : Type} (crc : Bytes → Nat) (de : Bytes → Option σ) (A B C payload foot : Bytes) : Res σ :=
  if A.take 4 ≠ chkMagic then .error .magic
  else if (A.drop 4).take 1 ≠ [1] then .error .version
  else if crc (A ++ B) ≠ leVal C then .error .checksum
  else if crc (foot.take 12) ≠ leVal ((foot.drop 12).take 4) then .error .checksum
  else if ((A.drop 5).take 1).any (fun b => b % 2 = 1) then .error .compression
  else if crc payload ≠ leVal (foot.take 4) then .error .checksum
  else if payload.length ≠ leVal ((foot.drop 4).take 8) then .error .size
  else match de payload with
    | none => .error .ser
    | some s => .ok s

/-- an image whose length field announces the payload that is there reads as its fields; header bytes 6..8
    and 32..44 and what follows the footer are not looked at -/
theorem readCheckpoint_append {σ : Type} (crc : Bytes → Nat) (de : Bytes → Option σ)
    (hdr len4 payload foot trailing : Bytes) (hh : hdr.length = 48) (h4 : len4.length = 4) (hf : foot.length = 16)
    (hl : leVal len4 = payload.length) :
    readCheckpoint crc de (hdr ++ (len4 ++ (payload ++ (foot ++ trailing))))
      = readChkParts crc de (hdr.take 6) ((hdr.drop 8).take 24) (hdr.drop 44) payload foot := by
  obtain ⟨p1, p2, p3, p4, p5⟩ := chk_parts hdr len4 payload (foot ++ trailing) hh h4
  rw [List.length_append (as := foot), hf] at p1
  have t4 : hdr.take 4 = (hdr.take 6).take 4 := by rw [List.take_take]; rfl
  have d4 : (hdr.drop 4).take 1 = ((hdr.take 6).drop 4).take 1 := by rw [List.drop_take, List.take_take]; rfl
  have d5 : (hdr.drop 5).take 1 = ((hdr.take 6).drop 5).take 1 := by rw [List.drop_take, List.take_take]; rfl
  have d44 : (hdr.drop 44).take 4 = hdr.drop 44 := List.take_of_length_le (by rw [List.length_drop]; omega)
  unfold readCheckpoint readChkParts
  simp only [p2, p3, hl, p4, p5, List.take_left' hf, t4, d4, d5, d44]
  rw [if_neg (by rw [p1]; omega)]
  simp only [show ¬ (hdr ++ (len4 ++ (payload ++ (foot ++ trailing)))).length < 52 by rw [p1]; omega,
    show ¬ (hdr ++ (len4 ++ (payload ++ (foot ++ trailing)))).length < 52 + payload.length + 16 by rw [p1]; omega, if_false]
  cases de payload <;> rfl

theorem readChkParts_eq_ok {σ : Type} {crc : Bytes → Nat} {de : Bytes → Option σ} {A B C payload foot : Bytes} {s : σ}
    (h : readChkParts crc de A B C payload foot = .ok s) :
    crc (A ++ B) = leVal C ∧ crc (foot.take 12) = leVal ((foot.drop 12).take 4) ∧ crc payload = leVal (foot.take 4) := by
  simp only [readChkParts, guard_eq_ok, Decidable.not_not] at h
  exact ⟨h.2.2.1, h.2.2.2.1, h.2.2.2.2.2.1⟩

def ChkFits (crc : Bytes → Nat) (k t l : Nat) (payload : Bytes) : Prop :=
  payload.length < 2 ^ 32 ∧ crc (chkCoveredA ++ chkCoveredB k t l) < 2 ^ 32 ∧
  crc payload < 2 ^ 32 ∧ crc (le 4 (crc payload) ++ le 8 payload.length) < 2 ^ 32

instance (crc : Bytes → Nat) (k t l : Nat) (p : Bytes) : Decidable (ChkFits crc k t l p) := by
  unfold ChkFits; infer_instance

/-- reading a written checkpoint whose uncovered bytes (header padding 6..8, reserved 32..44,
    anything after the footer) are ARBITRARY -/
theorem readCheckpoint_written {σ : Type} (crc : Bytes → Nat) (de : Bytes → Option σ)
    (k t l : Nat) (payload pad res trailing : Bytes) (hp : pad.length = 2) (hr : res.length = 12)
    (hfit : ChkFits crc k t l payload) :
    readCheckpoint crc de (chkHeaderG crc k t l pad res ++
        (le 4 payload.length ++ (payload ++ (chkFooter crc payload ++ trailing))))
      = match de payload with
        | none => .error .ser
        | some s => .ok s := by
  obtain ⟨hl, hc, hd, hf⟩ := hfit
  obtain ⟨hh, s1, s2, s3⟩ := chkHeader_fields crc k t l pad res hp hr
  obtain ⟨f1, f2, f3, f4⟩ := chkFooter_fields crc payload
  rw [readCheckpoint_append crc de _ _ _ _ _ hh (le_length _ _) (chkFooter_length _ _)
    (leVal_le 4 _ (by simpa using hl)), s1, s2, s3]
  unfold readChkParts
  rw [if_neg (by decide), if_neg (by decide), if_neg (by rw [leVal_le 4 _ (by simpa using hc)]; simp),
    if_neg (by rw [f1, f2, leVal_le 4 _ (by simpa using hf)]; simp), if_neg (by decide),
    if_neg (by rw [f3, leVal_le 4 _ (by simpa using hd)]; simp),
    if_neg (by rw [f4, leVal_le 8 _ (Nat.lt_trans hl (by decide))]; simp)]

theorem readCheckpoint_eq_ok {σ : Type} {crc : Bytes → Nat} {de : Bytes → Option σ} {data : Bytes} {s : σ} :
    readCheckpoint crc de data = .ok s ↔
      48 ≤ data.length ∧ (data.take 48).take 4 = chkMagic ∧ ((data.take 48).drop 4).take 1 = [1] ∧
      crc ((data.take 48).take 6 ++ ((data.take 48).drop 8).take 24)
        = leVal (((data.take 48).drop 44).take 4) ∧
      52 ≤ data.length ∧ 52 + leVal ((data.drop 48).take 4) + 16 ≤ data.length ∧
      (let foot := (data.drop (52 + leVal ((data.drop 48).take 4))).take 16
       crc (foot.take 12) = leVal ((foot.drop 12).take 4)) ∧
      (((data.take 48).drop 5).take 1).any (fun b => b % 2 = 1) = false ∧
      (let dlen := leVal ((data.drop 48).take 4)
       crc ((data.drop 52).take dlen) = leVal (((data.drop (52 + dlen)).take 16).take 4)) ∧
      ((data.drop 52).take (leVal ((data.drop 48).take 4))).length
        = leVal ((((data.drop (52 + leVal ((data.drop 48).take 4))).take 16).drop 4).take 8) ∧
      de ((data.drop 52).take (leVal ((data.drop 48).take 4))) = some s := by
  simp only [readCheckpoint, guard_eq_ok, Decidable.not_not, Nat.not_lt, Bool.not_eq_true]
  cases de ((data.drop 52).take (leVal ((data.drop 48).take 4))) <;> simp

theorem chk_err_of_short {σ : Type} (crc : Bytes → Nat) (de : Bytes → Option σ) (data : Bytes)
    (h : data.length < 52 ∨ data.length < 52 + leVal ((data.drop 48).take 4) + 16) :
    IsErr (readCheckpoint crc de data) :=
  isErr_of_ne_ok fun _ hok => by
    have := readCheckpoint_eq_ok.mp hok
    omega

theorem chk_err_of_header_crc {σ : Type} (crc : Bytes → Nat) (de : Bytes → Option σ) (data : Bytes)
    (h : crc ((data.take 48).take 6 ++ ((data.take 48).drop 8).take 24)
          ≠ leVal (((data.take 48).drop 44).take 4)) :
    IsErr (readCheckpoint crc de data) :=
  isErr_of_ne_ok fun _ hok => h (readCheckpoint_eq_ok.mp hok).2.2.2.1

theorem chk_err_of_footer_crc {σ : Type} (crc : Bytes → Nat) (de : Bytes → Option σ) (data : Bytes)
    (h : let foot := (data.drop (52 + leVal ((data.drop 48).take 4))).take 16
         crc (foot.take 12) ≠ leVal ((foot.drop 12).take 4)) :
    IsErr (readCheckpoint crc de data) :=
  isErr_of_ne_ok fun _ hok => h (readCheckpoint_eq_ok.mp hok).2.2.2.2.2.2.1

theorem chk_err_of_data_crc {σ : Type} (crc : Bytes → Nat) (de : Bytes → Option σ) (data : Bytes)
    (h : let dlen := leVal ((data.drop 48).take 4)
         crc ((data.drop 52).take dlen) ≠ leVal (((data.drop (52 + dlen)).take 16).take 4)) :
    IsErr (readCheckpoint crc de data) :=
  isErr_of_ne_ok fun _ hok => h (readCheckpoint_eq_ok.mp hok).2.2.2.2.2.2.2.2.1

end RedisVerif.Codec
