import RedisVerif.Lemmas.RVCarrier
import RedisVerif.Lemmas.Lub
import RedisVerif.Lemmas.Replica

/-!
`RV.merge` is an ACI operation (`Lemmas/Lub`) on the carrier "well-formed values of one CRDT kind
whose registers all come from a consistent register universe", the fragment on which replicas
converge (C06).  The carrier facts are those of `Lemmas/RVCarrier`; `RV.strip` is the part of a
value replicas converge on.
-/
namespace RedisVerif

/-! ### what replicas converge on: the value without the fields a local write overwrites -/

/-- drop vector clock, expiry and replication-factor override (kept: CRDT content and stamp) -/
def RV.strip (v : RV) : RV := { v with vc := none, expiry := none, rf := none }

theorem strip_merge (a b : RV) : (RV.merge a b).strip = RV.merge a.strip b.strip := by
  simp [RV.strip, RV.merge, RV.mergeWith, optMerge]

theorem RV.strip_wf {v : RV} (h : v.WF) : v.strip.WF := ⟨h.1, by simp [RV.strip, RV.vcWF]⟩

theorem strip_carrier {K : Nat} {R : List (Nat × Lww)} {v : RV} (h : InCarrier K R v) :
    InCarrier K R v.strip :=
  ⟨RV.strip_wf h.1, h.2.1, h.2.2⟩

theorem strip_strip (v : RV) : v.strip.strip = v.strip := rfl

end RedisVerif
