import RedisVerif.Model.SimCluster
import RedisVerif.Lemmas.ClusterAE
import RedisVerif.Lemmas.GossipSim
import RedisVerif.Lemmas.AntiEntropy

/-!
  The simulation behind `C06.sim_refines_cluster_ae`: every step of the `MultiNodeSimulation`
  model (`Model/SimCluster.lean`) is a run of events of layer 1 with state transfers
  (`Model/ClusterAE.lean`): a client command is its `record_*` calls, a gossip round is the
  deliveries of the flights that came due, an anti-entropy exchange is the snapshots of both delta
  sets (pre-state) followed by their application — under the invariant that every delta in an
  outbox or in flight is an issued delta.
-/
namespace RedisVerif
namespace SimC
open Gossip Cluster ACluster

theorem runA_append (c : ACluster) (a b : List AEv) : c.run (a ++ b) = (c.run a).run b := by
  simp [ACluster.run, List.foldl_append]

def isLocA : AEv → Bool
  | .ev (.loc _ _) => true
  | _ => false

structure SInv (c : Sim) : Prop where
  pend : ∀ nd ∈ c.nodes, ∀ m ∈ nd.ps.pending, m ∈ c.issued
  queue : ∀ f ∈ c.queue, ∀ m ∈ f.deltas, m ∈ c.issued

theorem sinv_init (n : Nat) (causal : Bool) (routers : List (Option Router)) (autoAE : Bool) :
    SInv (Sim.init n causal routers autoAE) := by
  constructor
  · intro nd hnd m hm
    simp only [Sim.init, List.mem_map, List.mem_range] at hnd
    obtain ⟨i, _, rfl⟩ := hnd
    simp [SNode.init, PShard.init] at hm
  · intro f hf; simp [Sim.init] at hf

theorem abs_init (n : Nat) (causal : Bool) (routers : List (Option Router)) (autoAE : Bool) :
    (Sim.init n causal routers autoAE).abs = ACluster.init n causal := by
  simp [Sim.abs, Sim.init, ACluster.init, Cluster.init, List.map_map, SNode.init, PShard.init, Function.comp_def]

/-- the step function folded by `SNode.record` -/
def recF (cap me : Nat) (acc : PShard × List Msg) (op : LOp) : PShard × List Msg :=
  let r := acc.1.localOp cap me op
  (r.1, match r.2 with | some d => acc.2 ++ [⟨me, op.key, d⟩] | none => acc.2)

theorem record_eq (cap me : Nat) (ps : PShard) (ops : List LOp) :
    SNode.record cap me ps ops = ops.foldl (recF cap me) (ps, []) := rfl

/-- the `record_*` calls of one command: the deltas `ds` they emit are the node's own; at layer 1
    they are the run of its local events; the outbox holds nothing but what it held and `ds`, and
    all of that as long as it fits -/
theorem record_spec (cap i : Nat) : ∀ (ops : List LOp) (ps : PShard) (acc : List Msg),
    ∃ ds, (ops.foldl (recF cap i) (ps, acc)).2 = acc ++ ds ∧ (∀ m ∈ ds, m.origin = i) ∧
      (∀ C : Cluster, C.nodes[i]? = some ps.sh →
        C.run (ops.map (Ev.loc i)) =
          { nodes := C.nodes.set i (ops.foldl (recF cap i) (ps, acc)).1.sh
            sent := C.sent ++ ds
            log := C.log ++ ds.map (fun m => ⟨i, m.key, m.val⟩) }) ∧
      (∀ m ∈ (ops.foldl (recF cap i) (ps, acc)).1.pending, m ∈ ps.pending ∨ m ∈ ds) ∧
      (ps.pending.length + ops.length ≤ cap →
        (ops.foldl (recF cap i) (ps, acc)).1.pending = ps.pending ++ ds) := by
  intro ops
  induction ops with
  | nil =>
    intro ps acc
    refine ⟨[], by simp, (fun m hm => by cases hm), fun C hs => ?_, fun m hm => Or.inl hm, fun _ => by simp⟩
    simp only [List.map_nil, Cluster.run, List.foldl_nil, List.append_nil]
    rw [list_set_same hs]
  | cons op ops ih =>
    intro ps acc
    simp only [List.foldl_cons, List.map_cons, Cluster.run, List.length_cons]
    cases hd : (Shard.step ps.sh op.toOp).2 with
    | none =>
      -- nothing emitted, nothing changed, on either side
      have hrec : recF cap i (ps, acc) op = (ps, acc) := by
        simp only [recF, PShard.localOp, hd, Shard.local_none ps.sh op hd]
      rw [hrec]
      obtain ⟨ds, h1, h2, h3, h4, h5⟩ := ih ps acc
      refine ⟨ds, h1, h2, fun C hs => ?_, h4, fun hl => h5 (by omega)⟩
      have hstep : C.step (.loc i op) = C := by
        simp only [Cluster.step, hs, hd, Shard.local_none ps.sh op hd, list_set_same hs]
      rw [hstep]
      exact h3 C hs
    | some d =>
      have hrec : recF cap i (ps, acc) op =
          ({ sh := (Shard.step ps.sh op.toOp).1, pending := enforceCap cap (ps.pending ++ [⟨i, op.key, d⟩]) },
            acc ++ [⟨i, op.key, d⟩]) := by
        simp only [recF, PShard.localOp, hd]
      rw [hrec]
      obtain ⟨ds, h1, h2, h3, h4, h5⟩ := ih
        { sh := (Shard.step ps.sh op.toOp).1, pending := enforceCap cap (ps.pending ++ [⟨i, op.key, d⟩]) }
        (acc ++ [⟨i, op.key, d⟩])
      refine ⟨⟨i, op.key, d⟩ :: ds, by rw [h1]; simp, ?_, fun C hs => ?_, fun m hm => ?_, fun hl => ?_⟩
      · intro m hm
        rcases List.mem_cons.mp hm with h | h
        · rw [h]
        · exact h2 m h
      · have hstep : C.step (.loc i op) =
            { nodes := C.nodes.set i (Shard.step ps.sh op.toOp).1
              sent := C.sent ++ [⟨i, op.key, d⟩]
              log := C.log ++ [⟨i, op.key, d⟩] } := by
          simp only [Cluster.step, hs, hd]
        have := h3 _ (show (C.step (.loc i op)).nodes[i]? = some _ by
          rw [hstep]; exact List.getElem?_set_self (List.getElem?_eq_some_iff.mp hs).1)
        simp only [Cluster.run] at this
        rw [this, hstep]
        simp only [List.set_set, List.append_assoc, List.singleton_append, List.map_cons]
      · rcases h4 m hm with h | h
        · have := mem_enforceCap h
          simp only [List.mem_append, List.mem_singleton] at this
          rcases this with h' | h'
          · exact Or.inl h'
          · exact Or.inr (by rw [h']; simp)
        · exact Or.inr (List.mem_cons_of_mem _ h)
      · have hcap : enforceCap cap (ps.pending ++ [⟨i, op.key, d⟩]) = ps.pending ++ [⟨i, op.key, d⟩] :=
          enforceCap_of_le (by simp; omega)
        rw [h5 (by rw [hcap]; simp; omega), hcap]
        simp

theorem applyOne_sh (nd : SNode) (d : Msg) :
    (nd.applyOne d).ps.sh = nd.ps.sh.applyRemote d.key d.val ∧ (nd.applyOne d).ps.pending = nd.ps.pending := by
  simp [SNode.applyOne]

theorem applyAll_sh (ds : List Msg) : ∀ (nd : SNode),
    (nd.applyAll ds).ps.sh = MCluster.applyAll nd.ps.sh ds ∧ (nd.applyAll ds).ps.pending = nd.ps.pending := by
  induction ds with
  | nil => intro nd; exact ⟨rfl, rfl⟩
  | cons d ds ih =>
    intro nd
    simp only [SNode.applyAll, List.foldl_cons, MCluster.applyAll] at ih ⊢
    have := ih (nd.applyOne d)
    rw [(applyOne_sh nd d).1, (applyOne_sh nd d).2] at this
    exact this

theorem abs_nodes_get (c : Sim) (i : Nat) (nd : SNode) (h : c.nodes[i]? = some nd) :
    c.abs.base.nodes[i]? = some nd.ps.sh := by
  simp [Sim.abs, List.getElem?_map, h]

/-! ## transitions that only apply deltas

A delivered flight and an anti-entropy exchange move the cluster in the same way: some nodes apply
deltas (`SNode.applyAll`), the ghost log grows, nothing else changes.  What such a transition
preserves is proved once, for every invariant, from this description. -/

/-- `c'` is `c` after some nodes applied deltas satisfying `D` -/
structure Applied (D : Msg → Prop) (c c' : Sim) : Prop where
  issued : c'.issued = c.issued
  queue : c'.queue = c.queue
  parts : c'.parts = c.parts
  now : c'.now = c.now
  routers : c'.routers = c.routers
  len : c'.nodes.length = c.nodes.length
  log : ∀ x ∈ c.log, x ∈ c'.log
  node : ∀ (i : Nat) (nd' : SNode), c'.nodes[i]? = some nd' →
    ∃ nd ds, c.nodes[i]? = some nd ∧ nd' = nd.applyAll ds ∧ ∀ d ∈ ds, D d

theorem Applied.refl (D : Msg → Prop) (c : Sim) : Applied D c c :=
  ⟨rfl, rfl, rfl, rfl, rfl, rfl, fun _ h => h, fun _ nd' h => ⟨nd', [], h, rfl, fun _ hd => by cases hd⟩⟩

theorem Applied.trans {D : Msg → Prop} {c c1 c2 : Sim} (h1 : Applied D c c1) (h2 : Applied D c1 c2) :
    Applied D c c2 := by
  refine ⟨h2.issued.trans h1.issued, h2.queue.trans h1.queue, h2.parts.trans h1.parts,
    h2.now.trans h1.now, h2.routers.trans h1.routers, h2.len.trans h1.len,
    fun x hx => h2.log x (h1.log x hx), ?_⟩
  intro i nd2 hnd2
  obtain ⟨nd1, ds2, hnd1, rfl, hd2⟩ := h2.node i nd2 hnd2
  obtain ⟨nd, ds1, hnd, rfl, hd1⟩ := h1.node i nd1 hnd1
  refine ⟨nd, ds1 ++ ds2, hnd, by simp [SNode.applyAll, List.foldl_append], ?_⟩
  intro d hd
  rcases List.mem_append.mp hd with h | h
  · exact hd1 d h
  · exact hd2 d h

theorem Applied.mono {D D' : Msg → Prop} {c c' : Sim} (h : Applied D c c') (hD : ∀ d, D d → D' d) :
    Applied D' c c' :=
  ⟨h.issued, h.queue, h.parts, h.now, h.routers, h.len, h.log, fun i nd' hnd' => by
    obtain ⟨nd, ds, h1, h2, h3⟩ := h.node i nd' hnd'
    exact ⟨nd, ds, h1, h2, fun d hd => hD d (h3 d hd)⟩⟩

theorem applied_deliverFlight (c : Sim) (f : Flight) :
    Applied (fun d => d ∈ f.deltas) c (Sim.deliverFlight c f) := by
  unfold Sim.deliverFlight
  cases hn : c.nodes[f.dst]? with
  | none => exact Applied.refl _ c
  | some nd =>
    refine ⟨rfl, rfl, rfl, rfl, rfl, by simp, fun x hx => List.mem_append_left _ hx, ?_⟩
    intro i nd' hnd'
    rcases getElem?_set_cases hnd' with ⟨rfl, rfl⟩ | ⟨_, h⟩
    · exact ⟨nd, f.deltas, hn, rfl, fun _ hd => hd⟩
    · exact ⟨nd', [], h, rfl, fun _ hd => by cases hd⟩

theorem applied_deliverFlights (fs : List Flight) : ∀ (c : Sim),
    Applied (fun d => ∃ f ∈ fs, d ∈ f.deltas) c (fs.foldl Sim.deliverFlight c) := by
  induction fs with
  | nil => intro c; exact Applied.refl _ c
  | cons f fs ih =>
    intro c
    exact ((applied_deliverFlight c f).mono (fun d hd => ⟨f, by simp, hd⟩)).trans
      ((ih _).mono (fun d ⟨g, hg, hd⟩ => ⟨g, List.mem_cons_of_mem _ hg, hd⟩))

theorem Applied.pending {D : Msg → Prop} {c c' : Sim} (h : Applied D c c') {i : Nat} {nd' : SNode}
    (hnd' : c'.nodes[i]? = some nd') : ∃ nd, c.nodes[i]? = some nd ∧ nd'.ps.pending = nd.ps.pending := by
  obtain ⟨nd, ds, h1, rfl, _⟩ := h.node i nd' hnd'
  exact ⟨nd, h1, (applyAll_sh ds nd).2⟩

theorem SInv.applied {D : Msg → Prop} {c c' : Sim} (hi : SInv c) (h : Applied D c c') : SInv c' := by
  constructor
  · intro nd' hnd' m hm
    obtain ⟨i, hi'⟩ := List.getElem?_of_mem hnd'
    obtain ⟨nd, hnd, hp⟩ := h.pending hi'
    rw [hp] at hm
    rw [h.issued]
    exact hi.pend nd (List.mem_of_getElem? hnd) m hm
  · rw [h.queue, h.issued]; exact hi.queue

theorem deliverFlight_sim (c : Sim) (f : Flight) (hf : ∀ m ∈ f.deltas, m ∈ c.issued) :
    ∃ es : List Ev, (Sim.deliverFlight c f).abs = c.abs.run (es.map AEv.ev) ∧ es.filter isLoc = [] := by
  cases hn : c.nodes[f.dst]? with
  | none => exact ⟨[], by simp only [Sim.deliverFlight, hn]; rfl, rfl⟩
  | some nd =>
    refine ⟨deliverEvs c.issued f.dst f.deltas, ?_, filter_isLoc_deliverEvs _ _ _⟩
    rw [runA_ev]
    have := run_deliverEvs f.deltas c.abs.base f.dst nd.ps.sh (abs_nodes_get c _ nd hn) hf
    simp only [Sim.abs] at this ⊢
    rw [this]
    simp [Sim.deliverFlight, hn, List.map_set, (applyAll_sh f.deltas nd).1]

theorem deliverFlights_sim (fs : List Flight) : ∀ (c : Sim), (∀ f ∈ fs, ∀ m ∈ f.deltas, m ∈ c.issued) →
    ∃ es : List Ev, (fs.foldl Sim.deliverFlight c).abs = c.abs.run (es.map AEv.ev) ∧ es.filter isLoc = [] := by
  induction fs with
  | nil => intro c _; exact ⟨[], rfl, rfl⟩
  | cons f fs ih =>
    intro c hfs
    obtain ⟨es1, h1, l1⟩ := deliverFlight_sim c f (hfs f (by simp))
    obtain ⟨es2, h2, l2⟩ := ih (Sim.deliverFlight c f)
      (fun g hg m hm => by rw [(applied_deliverFlight c f).issued]; exact hfs g (List.mem_cons_of_mem _ hg) m hm)
    refine ⟨es1 ++ es2, ?_, by simp [List.filter_append, l1, l2]⟩
    rw [List.foldl_cons, h2, h1, List.map_append, runA_append]

theorem sendsOf_mem (routers : List (Option Router)) (n src : Nat) (ds : List Msg) :
    ∀ p ∈ Sim.sendsOf routers n src ds, ∀ m ∈ p.2, m ∈ ds := by
  intro p hp m hm
  unfold Sim.sendsOf at hp
  split at hp
  · cases hp
  · have bc : ∀ p ∈ ((List.range n).filter (· ≠ src)).map (fun t => (t, ds)), ∀ m ∈ p.2, m ∈ ds := by
      intro p hp m hm
      simp only [List.mem_map] at hp
      obtain ⟨t, _, rfl⟩ := hp
      exact hm
    split at hp
    · split at hp
      · simp only [List.mem_map] at hp
        obtain ⟨q, hq, rfl⟩ := hp
        rename_i r _ _
        exact routeSelective_mem r ds q hq m hm
      · exact bc p hp m hm
    · exact bc p hp m hm

/-- the sends of a gossip round extend the queue by one flight per send that gets past the
    partition check and is not lost; its delay is an entry of the oracle, or 1 once that is used
    up; when no entry says "lost", every send that gets past the partition check has its flight -/
theorem sendFold_spec (parts : List (Nat × Nat)) (now : Nat) (sends : List (Nat × Nat × List Msg)) :
    ∀ (acc : List Flight × List (Bool × Nat)),
    ∃ new, (sends.foldl (fun acc sp => Sim.sendOne parts now acc sp.1 sp.2) acc).1 = acc.1 ++ new ∧
      (∀ f ∈ new, ∃ sp ∈ sends, ∃ o, (o ∈ acc.2 ∨ o = (false, 1)) ∧ f = ⟨sp.1, sp.2.1, sp.2.2, now + o.2⟩) ∧
      ((∀ o ∈ acc.2, o.1 = false) → ∀ sp ∈ sends, Sim.canComm parts sp.1 sp.2.1 = true →
        ∃ f ∈ new, f.dst = sp.2.1 ∧ f.deltas = sp.2.2) := by
  induction sends with
  | nil => intro acc; exact ⟨[], by simp, (fun f hf => by cases hf), fun _ sp hsp => by cases hsp⟩
  | cons x sends ih =>
    intro acc
    have ho : acc.2.headD (false, 1) ∈ acc.2 ∨ acc.2.headD (false, 1) = (false, 1) := by
      cases acc.2 with
      | nil => exact Or.inr rfl
      | cons p ps => exact Or.inl (by simp)
    -- one send: nothing (partition, or lost), or one flight
    obtain ⟨one, e1, hone, htl, hc⟩ : ∃ one, (Sim.sendOne parts now acc x.1 x.2).1 = acc.1 ++ one ∧
        (∀ f ∈ one, f = ⟨x.1, x.2.1, x.2.2, now + (acc.2.headD (false, 1)).2⟩) ∧
        (∀ o ∈ (Sim.sendOne parts now acc x.1 x.2).2, o ∈ acc.2) ∧
        (Sim.canComm parts x.1 x.2.1 = true → (acc.2.headD (false, 1)).1 = false → one ≠ []) := by
      unfold Sim.sendOne
      split
      · rename_i hc
        exact ⟨[], by simp, (fun f hf => by cases hf), fun _ h => h, fun h => by simp [h] at hc⟩
      · simp only []
        split
        · rename_i hl
          exact ⟨[], by simp, (fun f hf => by cases hf), fun _ => List.mem_of_mem_tail,
            fun _ h => by rw [hl] at h; cases h⟩
        · exact ⟨[_], rfl, fun f hf => List.mem_singleton.mp hf, fun _ => List.mem_of_mem_tail, fun _ _ => by simp⟩
    obtain ⟨new, e2, hnew, hall⟩ := ih (Sim.sendOne parts now acc x.1 x.2)
    simp only [List.foldl_cons]
    refine ⟨one ++ new, by rw [e2, e1, List.append_assoc], ?_, ?_⟩
    · intro f hf
      rcases List.mem_append.mp hf with h | h
      · exact ⟨x, by simp, _, ho, hone f h⟩
      · obtain ⟨sp, hsp, o, ho', hf⟩ := hnew f h
        exact ⟨sp, List.mem_cons_of_mem _ hsp, o, ho'.imp_left (htl o), hf⟩
    · intro hI sp hsp hcc
      rcases List.mem_cons.mp hsp with rfl | h
      · cases hq : one with
        | nil => exact absurd hq (hc hcc (ho.elim (hI _) fun h => by rw [h]))
        | cons f fs =>
          refine ⟨f, by simp, ?_⟩
          rw [hone f (by rw [hq]; simp)]
          exact ⟨rfl, rfl⟩
      · obtain ⟨f, hf, h2⟩ := hall (fun o h => hI o (htl o h)) sp h hcc
        exact ⟨f, List.mem_append_right _ hf, h2⟩

theorem popReady_split (parts : List (Nat × Nat)) (now : Nat) (q : List Flight) :
    (Sim.popReady parts now q).1 ++ (Sim.popReady parts now q).2 = q := by
  induction q with
  | nil => rfl
  | cons m q ih =>
    simp only [Sim.popReady]
    split
    · simp only [List.cons_append, ih]
    · rfl

/-- the queue after the sends of a gossip round -/
def sentQueue (c : Sim) (oracle : List (Bool × Nat)) : List Flight :=
  (((List.range c.nodes.length).flatMap fun src =>
      (Sim.sendsOf c.routers c.nodes.length src ((c.nodes.map fun nd => nd.ps.pending)[src]?.getD [])).map
        fun p => (src, p)).foldl (fun acc sp => Sim.sendOne c.parts c.now acc sp.1 sp.2) (c.queue, oracle)).1

/-- the state the deliveries of a round start from: every outbox drained, `q` left in the queue -/
def drained (c : Sim) (q : List Flight) : Sim :=
  { c with nodes := c.nodes.map (fun nd => { nd with ps := { nd.ps with pending := [] } }), queue := q }

theorem step_gossip (H : AE.Hasher) (cfg : Cfg) (c : Sim) (oracle : List (Bool × Nat)) :
    c.step H cfg (.gossip oracle) =
      (Sim.popReady c.parts c.now (sentQueue c oracle)).1.foldl Sim.deliverFlight
        (drained c (Sim.popReady c.parts c.now (sentQueue c oracle)).2) := rfl

theorem sentQueue_mem (c : Sim) (oracle : List (Bool × Nat)) : ∀ f ∈ sentQueue c oracle,
    f ∈ c.queue ∨ ∃ nd ∈ c.nodes, ∀ m ∈ f.deltas, m ∈ nd.ps.pending := by
  intro f hf
  obtain ⟨new, e, hnew, _⟩ := sendFold_spec c.parts c.now _ (c.queue, oracle)
  rw [sentQueue, e] at hf
  rcases List.mem_append.mp hf with h | h
  · exact Or.inl h
  · obtain ⟨sp, hsp, _, _, rfl⟩ := hnew f h
    simp only [List.mem_flatMap, List.mem_map, List.mem_range] at hsp
    obtain ⟨src, _, p, hp, rfl⟩ := hsp
    cases hsrc : c.nodes[src]? with
    | none => simp [List.getElem?_map, hsrc, Sim.sendsOf] at hp
    | some nd =>
      refine Or.inr ⟨nd, List.mem_of_getElem? hsrc, fun m hm => ?_⟩
      simpa [List.getElem?_map, hsrc] using sendsOf_mem _ _ _ _ p hp m hm

theorem sentQueue_issued {c : Sim} (hi : SInv c) (oracle : List (Bool × Nat)) :
    ∀ f ∈ sentQueue c oracle, ∀ m ∈ f.deltas, m ∈ c.issued := by
  intro f hf m hm
  rcases sentQueue_mem c oracle f hf with h | ⟨nd, hnd, h⟩
  · exact hi.queue f h m hm
  · exact hi.pend nd hnd m (h m hm)

theorem mem_popReady {parts : List (Nat × Nat)} {now : Nat} {q : List Flight} {f : Flight}
    (h : f ∈ (Sim.popReady parts now q).1 ∨ f ∈ (Sim.popReady parts now q).2) : f ∈ q := by
  rw [← popReady_split parts now q]; exact List.mem_append.mpr h

def snapMsg (sn : Snap) : Msg := ⟨sn.src, sn.key, sn.val⟩

theorem snapsOf_msgs (log : List Absorbed) (src : Nat) (ds : List (Nat × RV)) :
    (Sim.snapsOf log src ds).map snapMsg = Sim.toMsgs src ds := by
  simp [Sim.snapsOf, Sim.toMsgs, snapMsg, List.map_map, Function.comp_def]

theorem run_snapshots (i : Nat) (s : Shard) : ∀ (ds : List (Nat × RV)) (C : ACluster),
    C.base.nodes[i]? = some s → (∀ p ∈ ds, NMap.get s.keys p.1 = some p.2) →
    C.run (ds.map (fun p => AEv.snapshot i p.1)) = { C with snaps := C.snaps ++ Sim.snapsOf C.base.log i ds } := by
  intro ds
  induction ds with
  | nil => intro C _ _; simp [ACluster.run, Sim.snapsOf]
  | cons p ds ih =>
    intro C hs hg
    have hstep : C.step (.snapshot i p.1) =
        { C with snaps := C.snaps ++ [⟨i, p.1, p.2, carriedOf C.base.log i p.1⟩] } := by
      simp only [ACluster.step, hs, hg p (by simp)]
    simp only [List.map_cons, ACluster.run, List.foldl_cons]
    rw [hstep]
    have := ih { C with snaps := C.snaps ++ [⟨i, p.1, p.2, carriedOf C.base.log i p.1⟩] } hs
      (fun q hq => hg q (List.mem_cons_of_mem _ hq))
    simp only [ACluster.run] at this
    rw [this]
    simp [Sim.snapsOf]

theorem run_applySnaps (j : Nat) : ∀ (sn : List Snap) (P : Nat) (s : Shard) (C : ACluster),
    C.base.nodes[j]? = some s → (∀ t, t < sn.length → C.snaps[P + t]? = sn[t]?) →
    C.run ((List.range' P sn.length).map (fun p => AEv.applySnap j p)) =
      { C with base := { C.base with
          nodes := C.base.nodes.set j (MCluster.applyAll s (sn.map snapMsg))
          log := C.base.log ++ Sim.absorbedOf j sn } } := by
  intro sn
  induction sn with
  | nil =>
    intro P s C hs _
    simp only [List.length_nil, List.range'_zero, List.map_nil, ACluster.run, List.foldl_nil, MCluster.applyAll,
      Sim.absorbedOf, List.flatMap_nil, List.append_nil]
    rw [list_set_same hs]
  | cons x sn ih =>
    intro P s C hs hsn
    have hjlt : j < C.base.nodes.length := (List.getElem?_eq_some_iff.mp hs).1
    have hx : C.snaps[P]? = some x := by
      have := hsn 0 (by simp)
      simpa using this
    have hstep : C.step (.applySnap j P) =
        { C with base := { C.base with
            nodes := C.base.nodes.set j (Shard.applyRemote s x.key x.val)
            log := C.base.log ++ x.carried.map (fun v => ⟨j, x.key, v⟩) } } := by
      simp only [ACluster.step, hs, hx]
    simp only [List.length_cons, List.range'_succ, List.map_cons, ACluster.run, List.foldl_cons]
    rw [hstep]
    have := ih (P + 1) (Shard.applyRemote s x.key x.val)
      { C with base := { C.base with
            nodes := C.base.nodes.set j (Shard.applyRemote s x.key x.val)
            log := C.base.log ++ x.carried.map (fun v => ⟨j, x.key, v⟩) } }
      (by simp only; exact List.getElem?_set_self hjlt)
      (by
        intro t ht
        have := hsn (t + 1) (by simp; omega)
        simp only [List.getElem?_cons_succ] at this
        rw [← this]
        congr 1
        omega)
    simp only [ACluster.run] at this
    rw [this]
    simp [List.set_set, MCluster.applyAll, Sim.absorbedOf, snapMsg]

theorem syncDeltas_mem (H : AE.Hasher) (cfg : Cfg) (a b : NMap RV) (da db : List (Nat × RV))
    (h : Sim.syncDeltas H cfg a b = some (da, db)) :
    (∀ p ∈ da, NMap.get a p.1 = some p.2) ∧ (∀ p ∈ db, NMap.get b p.1 = some p.2) := by
  unfold Sim.syncDeltas at h
  simp only [] at h
  split at h
  · split at h
    · simp only [Option.some.injEq, Prod.mk.injEq] at h
      obtain ⟨rfl, rfl⟩ := h
      exact ⟨fun _ hp => (AE.mem_getKeysInBuckets (AE.arrOK_arrangeOf _ _) hp).2,
        fun _ hp => (AE.mem_getKeysInBuckets (AE.arrOK_arrangeOf _ _) hp).2⟩
    · cases h
  · cases h

theorem syncDeltas_self (H : AE.Hasher) (cfg : Cfg) (a : NMap RV) : Sim.syncDeltas H cfg a a = none := by
  unfold Sim.syncDeltas
  simp [AE.differsFrom]

theorem filter_isLocA_ev (es : List Ev) : (es.map AEv.ev).filter isLocA = (es.filter isLoc).map AEv.ev := by
  induction es with
  | nil => rfl
  | cons e es ih =>
    cases e <;> simp [List.filter_cons, isLocA, isLoc, ih]

theorem syncStep_cases (H : AE.Hasher) (cfg : Cfg) (c : Sim) (a b : Nat) :
    Sim.syncStep H cfg c a b = c ∨
    ∃ na nb da db, a ≠ b ∧ c.nodes[a]? = some na ∧ c.nodes[b]? = some nb ∧
      Sim.syncDeltas H cfg na.ps.sh.keys nb.ps.sh.keys = some (da, db) ∧
      Sim.syncStep H cfg c a b =
        { c with
          nodes := (c.nodes.set b (nb.applyAll (Sim.toMsgs a da))).set a (na.applyAll (Sim.toMsgs b db))
          syncs := c.syncs + 1
          snaps := c.snaps ++ Sim.snapsOf c.log a da ++ Sim.snapsOf c.log b db
          log := c.log ++ Sim.absorbedOf b (Sim.snapsOf c.log a da) ++ Sim.absorbedOf a (Sim.snapsOf c.log b db) } := by
  cases hna : c.nodes[a]? with
  | none => left; simp only [Sim.syncStep, hna]
  | some na =>
    cases hnb : c.nodes[b]? with
    | none => left; simp only [Sim.syncStep, hna, hnb]
    | some nb =>
      cases hsd : Sim.syncDeltas H cfg na.ps.sh.keys nb.ps.sh.keys with
      | none => left; simp only [Sim.syncStep, hna, hnb, hsd]
      | some dd =>
        obtain ⟨da, db⟩ := dd
        refine Or.inr ⟨na, nb, da, db, ?_, rfl, rfl, hsd, by simp only [Sim.syncStep, hna, hnb, hsd]⟩
        rintro rfl
        rw [hna] at hnb; cases hnb
        rw [syncDeltas_self] at hsd; cases hsd

theorem applied_syncStep (H : AE.Hasher) (cfg : Cfg) (c : Sim) (a b : Nat) :
    Applied (fun d => ∃ nd ∈ c.nodes, NMap.get nd.ps.sh.keys d.key = some d.val) c (Sim.syncStep H cfg c a b) := by
  rcases syncStep_cases H cfg c a b with h | ⟨na, nb, da, db, _, hna, hnb, hsd, h⟩ <;> rw [h]
  · exact Applied.refl _ c
  obtain ⟨hma, hmb⟩ := syncDeltas_mem H cfg _ _ da db hsd
  refine ⟨rfl, rfl, rfl, rfl, rfl, by simp, fun x hx => by
    simp only [List.append_assoc]; exact List.mem_append_left _ hx, ?_⟩
  have hof : ∀ (src : Nat) (nd : SNode) (ds : List (Nat × RV)), nd ∈ c.nodes →
      (∀ p ∈ ds, NMap.get nd.ps.sh.keys p.1 = some p.2) →
      ∀ d ∈ Sim.toMsgs src ds, ∃ nd ∈ c.nodes, NMap.get nd.ps.sh.keys d.key = some d.val := by
    intro src nd ds hnd hds d hd
    simp only [Sim.toMsgs, List.mem_map] at hd
    obtain ⟨p, hp, rfl⟩ := hd
    exact ⟨nd, hnd, hds p hp⟩
  intro i nd' hnd'
  rcases getElem?_set_cases hnd' with ⟨rfl, rfl⟩ | ⟨_, h1⟩
  · exact ⟨na, _, hna, rfl, hof b nb db (List.mem_of_getElem? hnb) hmb⟩
  · rcases getElem?_set_cases h1 with ⟨rfl, rfl⟩ | ⟨_, h2⟩
    · exact ⟨nb, _, hnb, rfl, hof a na da (List.mem_of_getElem? hna) hma⟩
    · exact ⟨nd', [], h2, rfl, fun _ hd => by cases hd⟩

theorem syncStep_sim (H : AE.Hasher) (cfg : Cfg) (c : Sim) (a b : Nat) :
    ∃ es : List AEv, (Sim.syncStep H cfg c a b).abs = c.abs.run es ∧ es.filter isLocA = [] := by
  rcases syncStep_cases H cfg c a b with h | ⟨na, nb, da, db, hab, hna, hnb, hsd, hst⟩
  · rw [h]; exact ⟨[], rfl, rfl⟩
  obtain ⟨hma, hmb⟩ := syncDeltas_mem H cfg _ _ da db hsd
  refine ⟨da.map (fun p => AEv.snapshot a p.1) ++ (db.map (fun p => AEv.snapshot b p.1) ++
    ((List.range' c.snaps.length (Sim.snapsOf c.log a da).length).map (fun p => AEv.applySnap b p) ++
     (List.range' (c.snaps.length + (Sim.snapsOf c.log a da).length) (Sim.snapsOf c.log b db).length).map
       (fun p => AEv.applySnap a p))), ?_, by
    rw [List.filter_append, List.filter_append, List.filter_append,
      filter_map_nil (f := fun p : Nat × RV => AEv.snapshot a p.1) (fun _ => rfl),
      filter_map_nil (f := fun p : Nat × RV => AEv.snapshot b p.1) (fun _ => rfl),
      filter_map_nil (f := fun p => AEv.applySnap b p) (fun _ => rfl),
      filter_map_nil (f := fun p => AEv.applySnap a p) (fun _ => rfl)]
    rfl⟩
  rw [hst, runA_append, runA_append, runA_append]
  have e1 := run_snapshots a na.ps.sh da c.abs (abs_nodes_get c a na hna) hma
  have e2 := run_snapshots b nb.ps.sh db
    { c.abs with snaps := c.abs.snaps ++ Sim.snapsOf c.abs.base.log a da } (abs_nodes_get c b nb hnb) hmb
  have e3 := run_applySnaps b (Sim.snapsOf c.log a da) c.snaps.length nb.ps.sh
    { c.abs with snaps := c.abs.snaps ++ Sim.snapsOf c.abs.base.log a da ++ Sim.snapsOf c.abs.base.log b db }
    (abs_nodes_get c b nb hnb)
    (by
      intro t ht
      show ((c.snaps ++ Sim.snapsOf c.log a da) ++ Sim.snapsOf c.log b db)[c.snaps.length + t]? = _
      rw [List.getElem?_append_left (by simp; omega), List.getElem?_append_right (by omega)]
      congr 1; omega)
  have e4 := run_applySnaps a (Sim.snapsOf c.log b db) (c.snaps.length + (Sim.snapsOf c.log a da).length) na.ps.sh
    { c.abs with
      snaps := c.abs.snaps ++ Sim.snapsOf c.abs.base.log a da ++ Sim.snapsOf c.abs.base.log b db
      base := { c.abs.base with
        nodes := c.abs.base.nodes.set b (MCluster.applyAll nb.ps.sh ((Sim.snapsOf c.log a da).map snapMsg))
        log := c.abs.base.log ++ Sim.absorbedOf b (Sim.snapsOf c.log a da) } }
    (by
      show (c.abs.base.nodes.set b _)[a]? = some na.ps.sh
      rw [List.getElem?_set_ne (Ne.symm hab)]
      exact abs_nodes_get c a na hna)
    (by
      intro t ht
      show ((c.snaps ++ Sim.snapsOf c.log a da) ++ Sim.snapsOf c.log b db)[c.snaps.length + (Sim.snapsOf c.log a da).length + t]? = _
      rw [List.getElem?_append_right (by simp)]
      congr 1; simp)
  rw [e1, e2, e3, e4]
  simp only [Sim.abs, snapsOf_msgs, List.map_set, (applyAll_sh _ nb).1, (applyAll_sh _ na).1,
    List.append_assoc]

theorem step_exec_none (H : AE.Hasher) (cfg : Cfg) {c : Sim} {i : Nat} {op : SOp} (hn : c.nodes[i]? = none) :
    c.step H cfg (.exec i op) = c := by simp only [Sim.step, hn]

theorem step_exec (H : AE.Hasher) (cfg : Cfg) {c : Sim} {i : Nat} {op : SOp} {nd : SNode}
    (hn : c.nodes[i]? = some nd) :
    c.step H cfg (.exec i op) =
      { c with
        nodes := c.nodes.set i { ps := (SNode.record cfg.pendingCap i nd.ps op.lops).1, kv := SNode.kvExec nd.kv op }
        issued := c.issued ++ (SNode.record cfg.pendingCap i nd.ps op.lops).2
        log := c.log ++ (SNode.record cfg.pendingCap i nd.ps op.lops).2.map (fun m => ⟨i, m.key, m.val⟩) } := by
  simp only [Sim.step, hn]

/-- the events that are neither a client command nor a gossip round -/
def SEv.isAE : SEv → Bool
  | .exec _ _ | .gossip _ => false
  | _ => true

/-- such an event is a change of the clock / the partition table followed by anti-entropy
    exchanges: a property that does not read `now` and `parts` and survives an exchange survives it -/
theorem step_ae {P : Sim → Prop} (H : AE.Hasher) (cfg : Cfg)
    (hframe : ∀ (c : Sim) (now : Nat) (parts : List (Nat × Nat)), P c → P { c with now := now, parts := parts })
    (hsync : ∀ (c : Sim) (a b : Nat), P c → P (Sim.syncStep H cfg c a b))
    (c : Sim) (h : P c) (e : SEv) (he : e.isAE = true) : P (c.step H cfg e) := by
  cases e with
  | exec i op => cases he
  | gossip o => cases he
  | advance ms => exact hframe c _ c.parts h
  | partition a b => exact hframe c c.now _ h
  | heal a b =>
    simp only [Sim.step]
    split
    · exact hsync _ a b (hframe c c.now _ h)
    · exact hframe c c.now _ h
  | sync a b => exact hsync c a b h
  | fullSync =>
    simp only [Sim.step]
    generalize Sim.allPairs c.nodes.length = ps
    induction ps generalizing c with
    | nil => exact h
    | cons p ps ih =>
      simp only [List.foldl_cons]
      split
      · exact ih _ (hsync c p.1 p.2 h)
      · exact ih c h

/-- the layer-1 local events of a simulator event -/
def locsOf : SEv → List Ev
  | .exec i op => op.lops.map (Ev.loc i)
  | _ => []

theorem run_loc_no_node (i : Nat) (ops : List LOp) : ∀ (C : Cluster), C.nodes[i]? = none →
    C.run (ops.map (Ev.loc i)) = C := by
  induction ops with
  | nil => intro C _; rfl
  | cons op ops ih =>
    intro C h
    simp only [List.map_cons, Cluster.run, List.foldl_cons]
    have : C.step (.loc i op) = C := by simp only [Cluster.step, h]
    rw [this]
    exact ih C h

theorem filter_isLocA_locs (i : Nat) (ops : List LOp) :
    ((ops.map (Ev.loc i)).map AEv.ev).filter isLocA = (ops.map (Ev.loc i)).map AEv.ev := by
  induction ops with
  | nil => rfl
  | cons o os ih => simp [List.filter_cons, isLocA]

theorem step_sim (H : AE.Hasher) (cfg : Cfg) (c : Sim) (hi : SInv c) (e : SEv) :
    SInv (c.step H cfg e) ∧
    ∃ es : List AEv, (c.step H cfg e).abs = c.abs.run es ∧ es.filter isLocA = (locsOf e).map AEv.ev := by
  cases e with
  | exec i op =>
    cases hn : c.nodes[i]? with
    | none =>
      rw [step_exec_none H cfg hn]
      exact ⟨hi, _, by rw [runA_ev, run_loc_no_node i op.lops c.abs.base (by simp [Sim.abs, List.getElem?_map, hn])],
        filter_isLocA_locs i op.lops⟩
    | some nd =>
      obtain ⟨ds, h1, _, h2, h3, _⟩ := record_spec cfg.pendingCap i op.lops nd.ps []
      have h2 := h2 c.abs.base (abs_nodes_get c i nd hn)
      rw [step_exec H cfg hn, record_eq, List.nil_append] at *
      rw [h1]
      refine ⟨⟨?_, fun f hf m hm => List.mem_append_left _ (hi.queue f hf m hm)⟩, _, ?_,
        filter_isLocA_locs i op.lops⟩
      · intro nd' hnd' m hm
        rcases mem_set hnd' with h | h
        · rw [h] at hm
          rcases h3 m hm with h' | h'
          · exact List.mem_append_left _ (hi.pend nd (List.mem_of_getElem? hn) m h')
          · exact List.mem_append_right _ h'
        · exact List.mem_append_left _ (hi.pend nd' h m hm)
      · rw [runA_ev, h2]
        simp [Sim.abs, List.map_set]
  | gossip oracle =>
    rw [step_gossip]
    have hq := sentQueue_issued hi oracle
    obtain ⟨es, h1, l1⟩ := deliverFlights_sim (Sim.popReady c.parts c.now (sentQueue c oracle)).1
      (drained c (Sim.popReady c.parts c.now (sentQueue c oracle)).2)
      (fun f hf => hq f (mem_popReady (Or.inl hf)))
    have hd : SInv (drained c (Sim.popReady c.parts c.now (sentQueue c oracle)).2) := by
      constructor
      · intro nd hnd m hm
        simp only [drained, List.mem_map] at hnd
        obtain ⟨x, _, rfl⟩ := hnd
        cases hm
      · intro f hf; exact hq f (mem_popReady (Or.inr hf))
    refine ⟨hd.applied (applied_deliverFlights _ _), es.map AEv.ev, ?_, by rw [filter_isLocA_ev, l1]; rfl⟩
    rw [h1]
    congr 1
    simp [Sim.abs, drained, List.map_map, Function.comp_def]
  | _ =>
    -- relative to the state `c` the step starts from
    exact step_ae (P := fun x => SInv x ∧ ∃ es : List AEv, x.abs = c.abs.run es ∧ es.filter isLocA = []) H cfg
      (fun x _ _ ⟨h1, h2⟩ => ⟨⟨h1.pend, h1.queue⟩, h2⟩)
      (fun x a b ⟨h1, es1, h2, l1⟩ => by
        obtain ⟨es2, h3, l2⟩ := syncStep_sim H cfg x a b
        exact ⟨h1.applied (applied_syncStep H cfg x a b), es1 ++ es2, by rw [h3, h2, runA_append],
          by simp [List.filter_append, l1, l2]⟩)
      c ⟨hi, [], rfl, rfl⟩ _ rfl

theorem run_sim (H : AE.Hasher) (cfg : Cfg) (evs : List SEv) : ∀ (c : Sim), SInv c →
    SInv (c.run H cfg evs) ∧
    ∃ es : List AEv, (c.run H cfg evs).abs = c.abs.run es ∧ es.filter isLocA = (evs.flatMap locsOf).map AEv.ev := by
  induction evs with
  | nil => intro c hi; exact ⟨hi, [], rfl, rfl⟩
  | cons e evs ih =>
    intro c hi
    obtain ⟨hi1, es1, h1, f1⟩ := step_sim H cfg c hi e
    obtain ⟨hi2, es2, h2, f2⟩ := ih (c.step H cfg e) hi1
    refine ⟨hi2, es1 ++ es2, ?_, ?_⟩
    · simp only [Sim.run, List.foldl_cons] at h2 ⊢
      rw [h2, h1, runA_append]
    · simp [List.filter_append, f1, f2]

end SimC
end RedisVerif
