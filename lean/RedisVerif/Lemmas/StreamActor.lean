import RedisVerif.Model.StreamActor
import RedisVerif.Lemmas.StreamOps
import RedisVerif.Lemmas.TraceInv
import RedisVerif.Lemmas.ListFacts

/-
  Lemmas about M4b (`Model/StreamActor.lean`).  A flush changes only the world, the write buffer
  and `acked` (`doFlush_eq`), so the books (`Inv`), the quiet state and the mailbox bound survive
  it; a handler is "account for the message in hand, then maybe flush".  `core_run`: the store, the
  buffer and the confirmed set of an actor run are those of a `Stream.run` of pushes and flushes —
  which is why what `push` accepted is always confirmed ++ buffered (`Refines.grows`).
-/
namespace RedisVerif
namespace StreamActor

open _root_.RedisVerif.Stream

theorem current_restores : current.restoreBuffer = true := rfl

theorem flushX_spec (F : Oracle) (sz now : Nat) (w : World) (x : PX) :
    (flushX F sz now w x).1 = (flushWith true F sz w x.p).1 ∧
    (flushX F sz now w x).2.2 = (flushWith true F sz w x.p).2.2 ∧
    (flushX F sz now w x).2.1.p = (flushWith true F sz w x.p).2.1 ∧
    (flushX F sz now w x).2.1.size ≤ x.size := by
  unfold flushX
  rw [current_restores]
  split <;> rename_i heq <;> simp [heq]

theorem pushX_true {cfg : WbCfg} {x x' : PX} {d : SDelta} (h : pushX cfg x d = (x', true)) :
    x'.p.buffer = x.p.buffer ++ [d.1] ∧ x'.p.rid = x.p.rid ∧ x'.size = x.size + estimate d.2 ∧
    x'.last = x.last ∧ x.size < cfg.backpressure := by
  unfold pushX at h
  split at h
  · cases h
  · rename_i hlt
    cases h
    exact ⟨rfl, rfl, rfl, rfl, by omega⟩

theorem pushX_false {cfg : WbCfg} {x x' : PX} {d : SDelta} (h : pushX cfg x d = (x', false)) :
    x' = x ∧ x.size ≥ cfg.backpressure := by
  unfold pushX at h
  split at h
  · rename_i hge; cases h; exact ⟨rfl, hge⟩
  · cases h

theorem pushLoop_spec (cfg : WbCfg) (x : PX) (ds : List SDelta) :
    ds = (pushLoop cfg x ds).accepted ++ (pushLoop cfg x ds).rejected ++ (pushLoop cfg x ds).skipped ∧
    (pushLoop cfg x ds).x.p.buffer = x.p.buffer ++ (pushLoop cfg x ds).accepted.map (·.1) ∧
    (pushLoop cfg x ds).x.p.rid = x.p.rid ∧
    (pushLoop cfg x ds).rejected.length ≤ 1 ∧
    ((pushLoop cfg x ds).rejected = [] → (pushLoop cfg x ds).skipped = []) := by
  induction ds generalizing x with
  | nil => simp [pushLoop]
  | cons d rest ih =>
    unfold pushLoop
    cases h : pushX cfg x d with
    | mk x' ok =>
      cases ok with
      | false => simp
      | true =>
        obtain ⟨hb, hr, _, _, _⟩ := pushX_true h
        obtain ⟨i1, i2, i3, i4, i5⟩ := ih x'
        simp only
        refine ⟨?_, ?_, ?_, i4, i5⟩
        · simp only [List.cons_append]
          exact congrArg (d :: ·) i1
        · rw [i2, hb]; simp
        · rw [i3, hr]

theorem mboxDeltas_append (l : List Msg) (m : Msg) : mboxDeltas (l ++ [m]) = mboxDeltas l ++ deltasOf m := by
  induction l with
  | nil => simp [mboxDeltas]
  | cons a l ih => simp [mboxDeltas, ih]

/-- how often an update occurs among everything that was not lost track of -/
def ledger (a : A) (d : Delta) : Nat :=
  (a.sink.map (·.1)).count d + (mboxDeltas a.mailbox).count d + a.x.p.buffer.count d +
  a.acked.count d + a.rejected.count d + a.skipped.count d + a.dropped.count d

/-- invariant of every run: nothing handed to the sink is unaccounted for, and everything `push`
    accepted is in the buffer or in a confirmed segment -/
def Inv (a : A) : Prop :=
  (∀ d, a.sent.count d = ledger a d) ∧
  (∀ d, a.accepted.count d = a.x.p.buffer.count d + a.acked.count d)

theorem inv_init (st : Store) (rid now : Nat) : Inv (A.init st rid now) := by
  constructor <;> intro d <;> simp [A.init, ledger, mboxDeltas, PX.init]

/-- a flush touches only the world, the write buffer and `acked`: the buffer moves behind the
    confirmed updates (`k` = the buffer) or both stay (`k = []`); `buffer_size` does not grow -/
theorem doFlush_eq (F : Oracle) (sz : Nat) (a : A) :
    ∃ w' x' k, doFlush F sz a = { a with w := w', x := x', acked := a.acked ++ k } ∧
      k ++ x'.p.buffer = a.x.p.buffer ∧ x'.size ≤ a.x.size := by
  have hx := flushX_spec F sz a.now a.w a.x
  have hb := flushWith_buffer true F sz a.w a.x.p
  have hs := hx.2.2.2
  unfold doFlush
  split
  · rename_i w' x' id n heq
    rw [heq] at hx hs
    rw [← hx.2.1] at hb
    exact ⟨w', x', a.x.p.buffer, rfl, by rw [hx.2.2.1, hb, List.append_nil], hs⟩
  · rename_i w' x' out hne heq
    rw [heq] at hx hs
    rw [← hx.2.1] at hb
    refine ⟨w', x', [], by rw [List.append_nil], ?_, hs⟩
    cases out with
    | flushed i n => exact absurd rfl (hne i n)
    | empty => rw [hx.2.2.1, hb.1]; rfl
    | error => rw [hx.2.2.1, hb]; rfl

theorem maybeFlush_eq (F : Oracle) (cfg : WbCfg) (sz : Nat) (a : A) :
    ∃ w' x' k, maybeFlush F cfg sz a = { a with w := w', x := x', acked := a.acked ++ k } ∧
      k ++ x'.p.buffer = a.x.p.buffer ∧ x'.size ≤ a.x.size := by
  unfold maybeFlush
  split
  · exact doFlush_eq F sz a
  · exact ⟨a.w, a.x, [], by rw [List.append_nil], rfl, Nat.le_refl _⟩

theorem trySend_spec (cap : Nat) (a : A) (m : Msg) :
    (trySend cap a m = ({ a with mailbox := a.mailbox ++ [m] }, true) ∧ a.mailbox.length < cap) ∨
    trySend cap a m = (a, false) := by
  unfold trySend
  split
  · rename_i h
    simp only [Bool.and_eq_true, decide_eq_true_eq] at h
    exact Or.inl ⟨rfl, h.2⟩
  · exact Or.inr rfl

theorem doFlush_accepted (F : Oracle) (sz : Nat) (a : A) : (doFlush F sz a).accepted = a.accepted := by
  obtain ⟨_, _, _, he, _⟩ := doFlush_eq F sz a
  rw [he]

/-! ## refinement: the store, the buffer and the confirmed set of an actor run are those of a
`Stream.run` of pushes and flushes -/

theorem core_doFlush (F : Oracle) (sz : Nat) (a : A) :
    core (doFlush F sz a) = stepWith current F (core a) (.flush sz) := by
  have hx := flushX_spec F sz a.now a.w a.x
  unfold doFlush
  simp only [stepWith, core, current_restores]
  split
  · rename_i w' x' id n heq
    rw [heq] at hx
    simp only at hx
    obtain ⟨e1, e2, e3, _⟩ := hx
    have : flushWith true F sz a.w a.x.p = (w', x'.p, .flushed id n) := by
      rw [e1, e3, e2]
    rw [this]
  · rename_i w' x' out hne heq
    rw [heq] at hx
    simp only at hx
    obtain ⟨e1, e2, e3, _⟩ := hx
    have : flushWith true F sz a.w a.x.p = (w', x'.p, out) := by
      rw [e1, e3, e2]
    rw [this]
    cases out with
    | flushed i n => exact absurd rfl (hne i n)
    | empty => rfl
    | error => rfl

/-- what an op list may contain here: pushes and flushes -/
def NoCompact (ops : List Op) : Prop := ∀ o ∈ ops, o.isCompact = false

theorem noCompact_nil : NoCompact [] := by intro o ho; cases ho

theorem run_append (F : Oracle) (s : Sys) (l l' : List Op) :
    Stream.run F s (l ++ l') = Stream.run F (Stream.run F s l) l' := by
  unfold Stream.run runWith
  rw [List.foldl_append]

theorem pushes_append (l l' : List Op) : pushes (l ++ l') = pushes l ++ pushes l' := by
  unfold pushes; rw [List.filterMap_append]

theorem noCompact_append {l l' : List Op} (h : NoCompact l) (h' : NoCompact l') : NoCompact (l ++ l') := by
  intro o ho
  rcases List.mem_append.mp ho with ho | ho
  · exact h o ho
  · exact h' o ho

/-- `b` is reached from `a` by pushes and flushes of the segment writer (no compaction), the
    pushes being exactly what `push` accepted on the way -/
def Refines (F : Oracle) (a b : A) : Prop :=
  ∃ ops, NoCompact ops ∧ core b = Stream.run F (core a) ops ∧ b.accepted = a.accepted ++ pushes ops

theorem refines_same {F : Oracle} {a b : A} (hc : core b = core a) (ha : b.accepted = a.accepted) :
    Refines F a b :=
  ⟨[], noCompact_nil, hc, by rw [ha]; exact (List.append_nil _).symm⟩

theorem Refines.trans {F : Oracle} {a b c : A} (h1 : Refines F a b) (h2 : Refines F b c) : Refines F a c := by
  obtain ⟨o1, n1, c1, p1⟩ := h1
  obtain ⟨o2, n2, c2, p2⟩ := h2
  exact ⟨o1 ++ o2, noCompact_append n1 n2, by rw [c2, c1, run_append],
    by rw [p2, p1, pushes_append, List.append_assoc]⟩

theorem refines_doFlush (F : Oracle) (sz : Nat) (a : A) : Refines F a (doFlush F sz a) :=
  ⟨[.flush sz], fun o ho => by rw [List.mem_singleton.mp ho]; rfl, core_doFlush F sz a,
    by rw [doFlush_accepted]; exact (List.append_nil _).symm⟩

theorem refines_maybeFlush (F : Oracle) (cfg : WbCfg) (sz : Nat) (a : A) : Refines F a (maybeFlush F cfg sz a) := by
  unfold maybeFlush
  split
  · exact refines_doFlush F sz a
  · exact refines_same rfl rfl

theorem pushX_p {cfg : WbCfg} {x x' : PX} {d : SDelta} (h : pushX cfg x d = (x', true)) : x'.p = push x.p d.1 := by
  unfold pushX at h
  split at h <;> cases h
  rfl

theorem core_pushLoop (F : Oracle) (cfg : WbCfg) (x : PX) (ds : List SDelta) (w : World) (acked : List Delta) :
    ({ w := w, p := (pushLoop cfg x ds).x.p, acked := acked } : Sys) =
      Stream.run F { w := w, p := x.p, acked := acked } ((pushLoop cfg x ds).accepted.map (fun d => Op.push d.1)) := by
  induction ds generalizing x with
  | nil => rfl
  | cons d rest ih =>
    unfold pushLoop
    cases h : pushX cfg x d with
    | mk x' ok =>
      cases ok with
      | false => rfl
      | true =>
        simp only [List.map_cons]
        rw [ih x']
        unfold Stream.run runWith
        simp only [List.foldl_cons, stepWith, pushX_p h]

theorem pushes_map_push (l : List SDelta) : pushes (l.map (fun d => Op.push d.1)) = l.map (·.1) := by
  induction l with
  | nil => rfl
  | cons d l ih =>
    simp only [pushes, List.map_cons, List.filterMap_cons, Op.pushed?] at ih ⊢
    rw [ih]

theorem noCompact_map_push (l : List SDelta) : NoCompact (l.map (fun d => Op.push d.1)) := by
  intro o ho
  obtain ⟨d, _, rfl⟩ := List.mem_map.mp ho
  rfl

/-- the update a pipeline event hands in -/
def evDelta : Ev → List Delta
  | .send d => [d.1]
  | .reqPush d => [d.1]
  | _ => []

/-- what a step of the pipeline is to the writer below and to the books above: it refines the
    writer, `sent` grows by the updates `new` handed in, and a mailbox within the capacity stays
    within it -/
def Framed (F : Oracle) (cap : Nat) (a b : A) (new : List Delta) : Prop :=
  Refines F a b ∧ b.sent = a.sent ++ new ∧ (a.mailbox.length ≤ cap → b.mailbox.length ≤ cap)

theorem framed_same {F : Oracle} {cap : Nat} {a b : A} (hc : core b = core a) (ha : b.accepted = a.accepted)
    (hs : b.sent = a.sent) (hm : b.mailbox.length ≤ a.mailbox.length) : Framed F cap a b [] :=
  ⟨refines_same hc ha, by rw [hs, List.append_nil], Nat.le_trans hm⟩

theorem Framed.refl {F : Oracle} {cap : Nat} (a : A) : Framed F cap a a [] :=
  framed_same rfl rfl rfl (Nat.le_refl _)

theorem Framed.trans {F : Oracle} {cap : Nat} {a b c : A} {new : List Delta} (h1 : Framed F cap a b new)
    (h2 : Framed F cap b c []) : Framed F cap a c new :=
  ⟨h1.1.trans h2.1, by rw [h2.2.1, h1.2.1, List.append_nil], fun h => h2.2.2 (h1.2.2 h)⟩

theorem framed_doFlush (F : Oracle) (sz cap : Nat) (a : A) : Framed F cap a (doFlush F sz a) [] := by
  refine ⟨refines_doFlush F sz a, ?_, ?_⟩ <;> obtain ⟨_, _, _, he, _⟩ := doFlush_eq F sz a <;> rw [he]
  · exact (List.append_nil _).symm
  · exact id

theorem framed_maybeFlush (F : Oracle) (cfg : WbCfg) (sz cap : Nat) (a : A) :
    Framed F cap a (maybeFlush F cfg sz a) [] := by
  refine ⟨refines_maybeFlush F cfg sz a, ?_, ?_⟩ <;> obtain ⟨_, _, _, he, _⟩ := maybeFlush_eq F cfg sz a <;> rw [he]
  · exact (List.append_nil _).symm
  · exact id

/-- a handler is pushes (what `push` accepted of the message) followed by at most one flush -/
theorem handle_frame (F : Oracle) (cfg : WbCfg) (sz cap : Nat) (a : A) (m : Msg) :
    Framed F cap a (handle F cfg sz a m) [] := by
  cases m with
  | pushDelta e =>
    cases hp : pushX cfg a.x e with
    | mk x' ok =>
      cases ok with
      | true =>
        simp only [handle, hp]
        refine Framed.trans ?_ (framed_maybeFlush F cfg sz cap _)
        refine ⟨⟨[.push e.1], fun o ho => by rw [List.mem_singleton.mp ho]; rfl, ?_, rfl⟩, (List.append_nil _).symm, id⟩
        show _ = stepWith current F (core a) (.push e.1)
        simp only [core, stepWith, pushX_p hp]
      | false =>
        simp only [handle, hp]
        exact (framed_same rfl rfl rfl (Nat.le_refl _)).trans
          (framed_maybeFlush F cfg sz cap _)
  | pushDeltas ds =>
    simp only [handle]
    refine Framed.trans ?_ (framed_maybeFlush F cfg sz cap _)
    exact ⟨⟨_, noCompact_map_push _, core_pushLoop F cfg a.x ds a.w a.acked, by rw [pushes_map_push]⟩,
      (List.append_nil _).symm, id⟩
  | flush => exact framed_doFlush F sz cap a
  | tick => exact framed_maybeFlush F cfg sz cap a
  | shutdown =>
    exact (framed_doFlush F sz cap a).trans
      (framed_same rfl rfl rfl (Nat.zero_le _))

theorem trySend_frame (F : Oracle) (cap : Nat) (a : A) (m : Msg) : Framed F cap a (trySend cap a m).1 [] := by
  rcases trySend_spec cap a m with ⟨ht, hl⟩ | ht <;> rw [ht]
  · exact ⟨refines_same rfl rfl, (List.append_nil _).symm, fun _ => by simp; omega⟩
  · exact framed_same rfl rfl rfl (Nat.le_refl _)

theorem sendBatch_frame (F : Oracle) (cap : Nat) (a : A) (ds : List SDelta) :
    Framed F cap a (sendBatch cap a ds) [] := by
  unfold sendBatch
  split
  · exact framed_same rfl rfl rfl (Nat.le_refl _)
  · have := trySend_frame F cap a (.pushDeltas ds)
    split <;> rename_i heq <;> rw [heq] at this
    · exact this
    · exact this.trans (framed_same rfl rfl rfl (Nat.le_refl _))

theorem step_frame (F : Oracle) (cfg : WbCfg) (cap : Nat) (a : A) (ev : Ev) :
    Framed F cap a (step F cfg cap a ev) (evDelta ev) := by
  cases ev with
  | send e => simp only [step]; split <;> exact ⟨refines_same rfl rfl, rfl, id⟩
  | drain =>
    simp only [step]; split
    · exact (framed_same rfl rfl rfl (Nat.le_refl _)).trans (sendBatch_frame F cap { a with sink := [] } a.sink)
    · exact .refl a
  | bridgeTick =>
    simp only [step]; split
    · exact trySend_frame F cap a _
    · exact .refl a
  | stopBridge =>
    simp only [step]; split
    · exact ((framed_same rfl rfl rfl (Nat.le_refl _)).trans (sendBatch_frame F cap { a with sink := [] } a.sink)).trans
        (framed_same rfl rfl rfl (Nat.le_refl _))
    · exact .refl a
  | reqPush e =>
    simp only [step]
    have h1 : Framed F cap a { a with sent := a.sent ++ [e.1] } [e.1] := ⟨refines_same rfl rfl, rfl, id⟩
    have := h1.trans (trySend_frame F cap _ (.pushDelta e))
    split <;> rename_i heq <;> rw [heq] at this
    · exact this
    · exact this.trans (framed_same rfl rfl rfl (Nat.le_refl _))
  | reqFlush => exact trySend_frame F cap a _
  | reqShutdown => exact trySend_frame F cap a _
  | actor sz =>
    simp only [step]
    split
    · cases hm : a.mailbox with
      | nil => exact .refl a
      | cons m rest =>
        exact (framed_same (a := a) (b := { a with mailbox := rest }) rfl rfl rfl (by rw [hm]; exact Nat.le_succ _)).trans
          (handle_frame F cfg sz cap _ m)
    · exact .refl a
  | advance ms => exact framed_same rfl rfl rfl (Nat.le_refl _)

theorem core_step (F : Oracle) (cfg : WbCfg) (cap : Nat) (a : A) (ev : Ev) : Refines F a (step F cfg cap a ev) :=
  (step_frame F cfg cap a ev).1

theorem sent_step (F : Oracle) (cfg : WbCfg) (cap : Nat) (a : A) (ev : Ev) :
    (step F cfg cap a ev).sent = a.sent ++ evDelta ev :=
  (step_frame F cfg cap a ev).2.1

theorem bounded_step (F : Oracle) (cfg : WbCfg) (cap : Nat) (a : A) (ev : Ev) (h : a.mailbox.length ≤ cap) :
    (step F cfg cap a ev).mailbox.length ≤ cap :=
  (step_frame F cfg cap a ev).2.2 h

/-- **refinement**: for every configuration, mailbox capacity, fault oracle and event trace the
    world, the buffer and the confirmed set of the actor are those of a `Stream.run` of pushes
    and flushes (no compaction), whose pushes are exactly the updates `push` accepted -/
theorem core_run (F : Oracle) (cfg : WbCfg) (cap : Nat) (a : A) (evs : List Ev) : Refines F a (run F cfg cap a evs) := by
  induction evs generalizing a with
  | nil => exact refines_same rfl rfl
  | cons e evs ih => exact (core_step F cfg cap a e).trans (ih (step F cfg cap a e))

/-! ## the books -/

/-- whatever refines the writer adds the same updates, in the same order, to what `push` accepted
    and to confirmed ++ buffered (`acked_buffer_run`) -/
theorem Refines.grows {F : Oracle} {a b : A} (h : Refines F a b) :
    ∃ P, b.accepted = a.accepted ++ P ∧ b.acked ++ b.x.p.buffer = a.acked ++ a.x.p.buffer ++ P := by
  obtain ⟨ops, _, hcore, hpush⟩ := h
  have := acked_buffer_run current rfl F (core a) ops
  rw [show runWith current F (core a) ops = _ from hcore.symm] at this
  exact ⟨_, hpush, this⟩

/-- accepted = confirmed ++ buffered, in acceptance order -/
theorem Refines.accepted_eq {F : Oracle} {a b : A} (h : Refines F a b) (ha : a.accepted = a.acked ++ a.x.p.buffer) :
    b.accepted = b.acked ++ b.x.p.buffer := by
  obtain ⟨P, hp, hq⟩ := h.grows
  rw [hp, hq, ha]

/-- the second half of `Inv`: the same, counted -/
theorem Refines.accepted_count {F : Oracle} {a b : A} (h : Refines F a b)
    (ha : ∀ d, a.accepted.count d = a.x.p.buffer.count d + a.acked.count d) (d : Delta) :
    b.accepted.count d = b.x.p.buffer.count d + b.acked.count d := by
  obtain ⟨P, hp, hq⟩ := h.grows
  have := congrArg (List.count d) hq
  simp only [List.count_append] at this
  rw [hp, List.count_append, ha d]
  omega

/-- the first half of `Inv` while a message is in hand: the updates `e` it carries are in none of
    the ledger's columns yet -/
def Books (a : A) (e : List Delta) : Prop := ∀ d, a.sent.count d = ledger a d + e.count d

theorem books_nil {a : A} : Books a [] ↔ ∀ d, a.sent.count d = ledger a d := by simp [Books]

theorem books_flushed {a : A} {e : List Delta} (h : Books a e) (w' : World) {x' : PX} {k : List Delta}
    (hk : k ++ x'.p.buffer = a.x.p.buffer) : Books { a with w := w', x := x', acked := a.acked ++ k } e := by
  intro d
  have := h d
  simp only [ledger, ← hk, List.count_append] at this ⊢
  omega

theorem books_doFlush (F : Oracle) (sz : Nat) {a : A} {e : List Delta} (h : Books a e) : Books (doFlush F sz a) e := by
  obtain ⟨w', x', k, he, hk, _⟩ := doFlush_eq F sz a
  rw [he]
  exact books_flushed h w' hk

theorem books_maybeFlush (F : Oracle) (cfg : WbCfg) (sz : Nat) {a : A} {e : List Delta} (h : Books a e) :
    Books (maybeFlush F cfg sz a) e := by
  obtain ⟨w', x', k, he, hk, _⟩ := maybeFlush_eq F cfg sz a
  rw [he]
  exact books_flushed h w' hk

theorem books_sendBatch (cap : Nat) (a : A) (ds : List SDelta) (h : Books a (ds.map (·.1))) :
    Books (sendBatch cap a ds) [] := by
  unfold sendBatch
  split
  · rename_i he
    have : ds = [] := by simpa using he
    subst this
    exact h
  · rcases trySend_spec cap a (.pushDeltas ds) with ⟨ht, _⟩ | ht <;> rw [ht] <;> intro d <;> have := h d
    · simp only [ledger, mboxDeltas_append, deltasOf, List.count_append, List.count_nil] at this ⊢
      omega
    · simp only [ledger, List.count_append, List.count_nil] at this ⊢
      omega

theorem books_handle (F : Oracle) (cfg : WbCfg) (sz : Nat) (a : A) (m : Msg) (h : Books a (deltasOf m)) :
    Books (handle F cfg sz a m) [] := by
  cases m with
  | pushDelta e =>
    cases hp : pushX cfg a.x e with
    | mk x' ok =>
      simp only [handle, hp]
      cases ok <;> refine books_maybeFlush F cfg sz fun d => ?_ <;> have := h d
      · simp only [ledger, deltasOf, List.count_append, List.count_nil] at this ⊢
        omega
      · simp only [ledger, deltasOf, (pushX_true hp).1, List.count_append, List.count_nil] at this ⊢
        omega
  | pushDeltas ds =>
    obtain ⟨hsplit, hbuf, _, _, _⟩ := pushLoop_spec cfg a.x ds
    simp only [handle]
    generalize pushLoop cfg a.x ds = r at hsplit hbuf
    refine books_maybeFlush F cfg sz fun d => ?_
    have := h d
    have hd : (ds.map (·.1)).count d =
        (r.accepted.map (·.1)).count d + (r.rejected.map (·.1)).count d + (r.skipped.map (·.1)).count d := by
      conv => lhs; rw [hsplit]
      simp only [List.map_append, List.count_append]
    simp only [ledger, deltasOf, hbuf, List.count_append, List.count_nil] at this ⊢
    omega
  | flush => exact books_doFlush F sz h
  | tick => exact books_maybeFlush F cfg sz h
  | shutdown =>
    -- the messages still queued go from the mailbox column to `dropped`
    intro d
    have := books_doFlush F sz h d
    simp only [handle, ledger, deltasOf, mboxDeltas, List.count_nil, List.count_append] at this ⊢
    omega

/-- every event keeps the books balanced — for every configuration, capacity and fault oracle.
    The ledger is followed event by event; that everything `push` accepted is buffered or
    confirmed is a fact about the writer the step refines (`Refines.accepted_count`). -/
theorem inv_step (F : Oracle) (cfg : WbCfg) (cap : Nat) (a : A) (ev : Ev) (h : Inv a) :
    Inv (step F cfg cap a ev) := by
  refine ⟨books_nil.mp ?_, (core_step F cfg cap a ev).accepted_count h.2⟩
  have h1 := h.1
  have hb : Books a [] := books_nil.mpr h1
  -- a message without updates is queued, or `try_send` fails and nothing changes
  have hsend : ∀ m, deltasOf m = [] → Books (trySend cap a m).1 [] := by
    intro m hm
    rcases trySend_spec cap a m with ⟨ht, _⟩ | ht <;> rw [ht]
    · intro d
      have := h1 d
      simp only [ledger, mboxDeltas_append, hm, List.count_append, List.count_nil] at this ⊢
      omega
    · exact hb
  -- the bridge hands the whole sink to the actor
  have hdrain : Books (sendBatch cap { a with sink := [] } a.sink) [] := by
    refine books_sendBatch cap _ _ fun d => ?_
    have := h1 d
    simp only [ledger, List.map_nil, List.count_nil] at this ⊢
    omega
  cases ev with
  | send e =>
    simp only [step]
    split <;> intro d <;> have := h1 d
    · simp only [ledger, List.map_append, List.count_append, List.map_cons, List.map_nil, List.count_nil] at this ⊢
      omega
    · simp only [ledger, List.count_append, List.count_nil] at this ⊢
      omega
  | drain =>
    simp only [step]
    split
    · exact hdrain
    · exact hb
  | bridgeTick =>
    simp only [step]
    split
    · exact hsend .tick rfl
    · exact hb
  | stopBridge =>
    simp only [step]
    split
    · exact fun d => by simpa [ledger] using hdrain d
    · exact hb
  | reqPush e =>
    simp only [step]
    rcases trySend_spec cap { a with sent := a.sent ++ [e.1] } (.pushDelta e) with ⟨ht, _⟩ | ht <;> rw [ht] <;>
      intro d <;> have := h1 d
    · simp only [ledger, mboxDeltas_append, deltasOf, List.count_append, List.count_nil] at this ⊢
      omega
    · simp only [ledger, List.count_append, List.count_nil] at this ⊢
      omega
  | reqFlush => exact hsend .flush rfl
  | reqShutdown => exact hsend .shutdown rfl
  | actor sz =>
    simp only [step]
    split
    · cases hm : a.mailbox with
      | nil => exact hb
      | cons m rest =>
        refine books_handle F cfg sz _ m fun d => ?_
        have := h1 d
        simp only [ledger, hm, mboxDeltas, List.count_append] at this ⊢
        omega
    · exact hb
  | advance ms => exact hb

theorem inv_run (F : Oracle) (cfg : WbCfg) (cap : Nat) (a : A) (evs : List Ev) (h : Inv a) :
    Inv (run F cfg cap a evs) :=
  TraceInv.run_inv (step F cfg cap) Inv (fun s e hs => inv_step F cfg cap s e hs) a h evs

/-! ## nothing is lost while the process keeps running below the mailbox capacity and the
back-pressure threshold -/

def estOf (ds : List SDelta) : Nat := (ds.map (fun d => estimate d.2)).foldl (· + ·) 0

theorem estOf_nil : estOf [] = 0 := rfl

theorem estOf_cons (d : SDelta) (ds : List SDelta) : estOf (d :: ds) = estimate d.2 + estOf ds := by
  unfold estOf
  simp only [List.map_cons, List.foldl_cons]
  rw [foldl_add_init]; omega

theorem estOf_append (a b : List SDelta) : estOf (a ++ b) = estOf a + estOf b := by
  induction a with
  | nil => simp [estOf_nil]
  | cons d a ih => simp only [List.cons_append, estOf_cons, ih]; omega

/-- the byte estimates a message carries -/
def msgEst : Msg → Nat
  | .pushDelta d => estimate d.2
  | .pushDeltas ds => estOf ds
  | _ => 0

def mboxEst : List Msg → Nat
  | [] => 0
  | m :: r => msgEst m + mboxEst r

theorem mboxEst_append (l : List Msg) (m : Msg) : mboxEst (l ++ [m]) = mboxEst l + msgEst m := by
  induction l with
  | nil => simp [mboxEst]
  | cons a l ih => simp only [List.cons_append, mboxEst, ih]; omega

/-- what an event adds to the byte budget -/
def evEst : Ev → Nat
  | .send d => estimate d.2
  | .reqPush d => estimate d.2
  | _ => 0

def evsEst : List Ev → Nat
  | [] => 0
  | e :: r => evEst e + evsEst r

/-- the process keeps running: no shutdown of the bridge or of the actor is requested -/
def Ev.keepsRunning : Ev → Bool
  | .stopBridge => false
  | .reqShutdown => false
  | _ => true

theorem pushLoop_all_accepted (cfg : WbCfg) (x : PX) (ds : List SDelta)
    (h : x.size + estOf ds ≤ cfg.backpressure) :
    (pushLoop cfg x ds).rejected = [] ∧ (pushLoop cfg x ds).skipped = [] ∧
    (pushLoop cfg x ds).x.size = x.size + estOf ds := by
  induction ds generalizing x with
  | nil => simp [pushLoop, estOf_nil]
  | cons d rest ih =>
    rw [estOf_cons] at h
    have hlt : x.size < cfg.backpressure := by unfold estimate at h; omega
    unfold pushLoop
    cases hp : pushX cfg x d with
    | mk x' ok =>
      cases ok with
      | false => have := (pushX_false hp).2; omega
      | true =>
        obtain ⟨_, _, hs, _, _⟩ := pushX_true hp
        have := ih x' (by rw [hs]; omega)
        simp only
        refine ⟨this.1, this.2.1, ?_⟩
        rw [this.2.2, hs, estOf_cons]; omega

/-- quiet state: everything alive, no `Shutdown` queued, `k` bounds the mailbox, `E` bounds the
    bytes on their way, and the lists of rejected, skipped and dropped updates are empty -/
def Quiet (a : A) (k E : Nat) : Prop :=
  a.alive = true ∧ a.bridge = true ∧ a.mailbox.length ≤ k ∧
  a.x.size + mboxEst a.mailbox + estOf a.sink ≤ E ∧
  a.rejected = [] ∧ a.skipped = [] ∧ a.dropped = [] ∧ Msg.shutdown ∉ a.mailbox

/-- a flush keeps a state quiet: it takes bytes out of the buffer and touches nothing else `Quiet`
    speaks of -/
theorem quiet_flushed {a : A} {k E : Nat} (h : Quiet a k E) (w' : World) {x' : PX} (acked' : List Delta)
    (hs : x'.size ≤ a.x.size) : Quiet { a with w := w', x := x', acked := acked' } k E := by
  obtain ⟨h1, h2, h3, h4, h5⟩ := h
  exact ⟨h1, h2, h3, by simp only; omega, h5⟩

theorem quiet_doFlush (F : Oracle) (sz : Nat) {a : A} {k E : Nat} (h : Quiet a k E) : Quiet (doFlush F sz a) k E := by
  obtain ⟨w', x', _, he, _, hs⟩ := doFlush_eq F sz a
  rw [he]
  exact quiet_flushed h w' _ hs

theorem quiet_maybeFlush (F : Oracle) (cfg : WbCfg) (sz : Nat) {a : A} {k E : Nat} (h : Quiet a k E) :
    Quiet (maybeFlush F cfg sz a) k E := by
  obtain ⟨w', x', _, he, _, hs⟩ := maybeFlush_eq F cfg sz a
  rw [he]
  exact quiet_flushed h w' _ hs

theorem quiet_trySend {cap : Nat} {a : A} {k E : Nat} (h : Quiet a k E) (hk : k < cap) {m : Msg} (hm : m ≠ .shutdown) :
    trySend cap a m = ({ a with mailbox := a.mailbox ++ [m] }, true) ∧
      Quiet { a with mailbox := a.mailbox ++ [m] } (k + 1) (E + msgEst m) := by
  obtain ⟨hal, hbr, hml, hsz, hr, hs, hd, hns⟩ := h
  constructor
  · have : (a.alive && decide (a.mailbox.length < cap)) = true := by simp [hal]; omega
    simp [trySend, this]
  · refine ⟨hal, hbr, by simp; omega, by simp only [mboxEst_append]; omega, hr, hs, hd, ?_⟩
    intro hc
    rcases List.mem_append.mp hc with hc | hc
    · exact hns hc
    · exact hm (List.mem_singleton.mp hc).symm

/-- every event that keeps the process running puts at most one message into the mailbox (hence
    `k + 1`, and `k < cap` means no `try_send` fails) and at most `evEst ev` more bytes on their way
    (hence `E + evEst ev`, below the back-pressure threshold: nothing is rejected) -/
theorem quiet_step (F : Oracle) (cfg : WbCfg) (cap : Nat) (a : A) (ev : Ev) (k E : Nat)
    (hq : Quiet a k E) (hrun : ev.keepsRunning = true) (hk : k < cap) (hE : E + evEst ev ≤ cfg.backpressure) :
    Quiet (step F cfg cap a ev) (k + 1) (E + evEst ev) := by
  have hq' := hq
  obtain ⟨hal, hbr, hml, hsz, hr, hs, hd, hns⟩ := hq
  cases ev with
  | send e =>
    simp only [step]
    rw [if_pos hbr]
    refine ⟨hal, hbr, by simp only; omega, ?_, hr, hs, hd, hns⟩
    simp only [evEst, estOf_append, estOf_cons, estOf_nil]; omega
  | drain =>
    simp only [step]
    rw [if_pos hbr]
    unfold sendBatch
    split
    · rename_i he
      have : a.sink = [] := by simpa using he
      refine ⟨hal, hbr, by simp only; omega, ?_, hr, hs, hd, hns⟩
      simp only [estOf_nil, evEst]; rw [this] at hsz; simp only [estOf_nil] at hsz; omega
    · -- the bytes move from the sink to the mailbox
      have hq0 : Quiet { a with sink := [] } k (E - estOf a.sink) :=
        ⟨hal, hbr, hml, by simp only [estOf_nil]; omega, hr, hs, hd, hns⟩
      obtain ⟨ht, hq1⟩ := quiet_trySend hq0 hk (m := .pushDeltas a.sink) (by simp)
      rw [ht]
      have e1 : E - estOf a.sink + msgEst (.pushDeltas a.sink) = E + evEst .drain := by
        simp only [msgEst, evEst]; omega
      rw [← e1]
      exact hq1
  | bridgeTick =>
    simp only [step]
    rw [if_pos hbr, (quiet_trySend hq' hk (m := .tick) (by simp)).1]
    exact (quiet_trySend hq' hk (m := .tick) (by simp)).2
  | stopBridge => simp [Ev.keepsRunning] at hrun
  | reqShutdown => simp [Ev.keepsRunning] at hrun
  | reqPush e =>
    simp only [step]
    have hq0 : Quiet { a with sent := a.sent ++ [e.1] } k E := ⟨hal, hbr, hml, hsz, hr, hs, hd, hns⟩
    rw [(quiet_trySend hq0 hk (m := .pushDelta e) (by simp)).1]
    exact (quiet_trySend hq0 hk (m := .pushDelta e) (by simp)).2
  | reqFlush =>
    simp only [step]
    rw [(quiet_trySend hq' hk (m := .flush) (by simp)).1]
    exact (quiet_trySend hq' hk (m := .flush) (by simp)).2
  | advance ms => exact ⟨hal, hbr, by simp only [step]; omega, by simp only [step, evEst]; omega, hr, hs, hd, hns⟩
  | actor sz =>
    simp only [step]
    rw [if_pos hal]
    cases hm : a.mailbox with
    | nil =>
      simp only
      refine ⟨hal, hbr, by rw [hm]; simp, ?_, hr, hs, hd, hns⟩
      rw [hm] at hsz ⊢; simp only [evEst, mboxEst] at hsz ⊢; omega
    | cons m rest =>
      rw [hm] at hml hsz hns
      simp only [List.length_cons, mboxEst] at hml hsz
      simp only [evEst, Nat.add_zero] at hE ⊢
      have hns' : Msg.shutdown ∉ rest := fun h => hns (List.mem_cons_of_mem _ h)
      cases m with
      | pushDelta e =>
        simp only [msgEst] at hsz
        cases hp : pushX cfg a.x e with
        | mk x' ok =>
          cases ok with
          | false => have := (pushX_false hp).2; unfold estimate at hsz; omega
          | true =>
            have hs' := (pushX_true hp).2.2.1
            simp only [handle, hp]
            exact quiet_maybeFlush F cfg sz
              ⟨hal, hbr, by simp only; omega, by simp only [hs']; omega, hr, hs, hd, hns'⟩
      | pushDeltas ds =>
        simp only [msgEst] at hsz
        obtain ⟨r1, r2, r3⟩ := pushLoop_all_accepted cfg a.x ds (by omega)
        simp only [handle]
        exact quiet_maybeFlush F cfg sz
          ⟨hal, hbr, by simp only; omega, by simp only [r3]; omega, by simp [hr, r1], by simp [hs, r2], hd, hns'⟩
      | flush =>
        simp only [msgEst] at hsz
        exact quiet_doFlush F sz ⟨hal, hbr, by simp only; omega, by simp only; omega, hr, hs, hd, hns'⟩
      | tick =>
        simp only [msgEst] at hsz
        exact quiet_maybeFlush F cfg sz ⟨hal, hbr, by simp only; omega, by simp only; omega, hr, hs, hd, hns'⟩
      | shutdown => exact absurd (List.mem_cons_self) hns

theorem quiet_run (F : Oracle) (cfg : WbCfg) (cap : Nat) (evs : List Ev) (a : A) (k E : Nat)
    (hq : Quiet a k E) (hrun : ∀ e ∈ evs, e.keepsRunning = true)
    (hk : k + evs.length ≤ cap) (hE : E + evsEst evs ≤ cfg.backpressure) :
    Quiet (run F cfg cap a evs) (k + evs.length) (E + evsEst evs) := by
  induction evs generalizing a k E with
  | nil => simpa [run, evsEst] using hq
  | cons e rest ih =>
    simp only [List.length_cons, evsEst] at hk hE ⊢
    have h1 := quiet_step F cfg cap a e k E hq (hrun e (by simp)) (by omega) (by omega)
    have := ih (step F cfg cap a e) (k + 1) (E + evEst e) h1 (fun x hx => hrun x (by simp [hx])) (by omega) (by omega)
    have e1 : k + 1 + rest.length = k + (rest.length + 1) := by omega
    have e2 : E + evEst e + evsEst rest = E + (evEst e + evsEst rest) := by omega
    rw [e1, e2] at this
    exact this

end StreamActor
end RedisVerif
