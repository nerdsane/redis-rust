import RedisVerif.Lemmas.WalOrder

/-!
  Durability of acknowledged entries over I/O traces (C09).  The invariant `Inv` stands on the order invariant `ORot`
  of `Lemmas/WalOrder.lean`, which says what the files look like (every file a cut of the clean image of its ghost
  list, the writer's file the whole image, keys bounded by `current_sequence`); `Inv` adds what is durable: synced
  lengths, the history bookkeeping, `Safe` for the acks sent, and where the entries still waiting for their fsync are.
-/
namespace RedisVerif.Wal

variable {T : Nat} {fmt : Format} {crc : Bytes → Nat} {acks : List AckRec} {pend : List Entry} {g : Ghost} {r : Rot}

/-- `e` survives a crash that leaves `st`: some file's synced prefix yields it — or it is
    stamped below the truncation bound `T` (1 + the largest `TruncateUpTo` threshold so far), in
    which case the WAL is allowed to have deleted it -/
def Dur (T : Nat) (fmt : Format) (crc : Bytes → Nat) (st : Store) (e : Entry) : Prop :=
  (∃ k f, NMap.get st k = some f ∧ e ∈ fileEntries fmt crc (f.data.take f.synced)) ∨ e.ts < T

theorem durable_of_dur {st : Store} {e : Entry}
    (h : Dur T fmt crc st e) : e ∈ durable fmt crc st ∨ e.ts < T := by
  rcases h with ⟨k, f, hg, he⟩ | h
  · left
    unfold durable recoverAll crashImage
    rw [List.mem_flatMap]
    exact ⟨(k, f.data.take f.synced), List.mem_map.mpr ⟨(k, f), NMap.mem_of_get hg, rfl⟩, he⟩
  · exact Or.inr h

theorem Dur.mono_T {T T' : Nat} {st : Store} {e : Entry}
    (hT : T ≤ T') (h : Dur T fmt crc st e) : Dur T' fmt crc st e := by
  rcases h with h | h
  · exact Or.inl h
  · exact Or.inr (Nat.lt_of_lt_of_le h hT)

/-! ## world: history bookkeeping -/

/-- the history has one store per call boundary and ends with the current store -/
def WInv (w : World) : Prop :=
  w.hist.length = w.trace.length + 1 ∧ w.hist.head? = some w.store ∧
    -- no `create` ever hit a name that was already there (a successful one would have truncated it)
    ∀ s ok, Call.create s ok true ∉ w.trace

theorem winv_init : WInv World.init := ⟨rfl, rfl, fun _ _ h => by cases h⟩

theorem winv_push {w : World} (h : WInv w) (st : Store) (c : Call)
    (hc : ∀ s ok, c ≠ Call.create s ok true := by intro s ok h; cases h) : WInv (w.push st c) := by
  obtain ⟨h1, _, h3⟩ := h
  refine ⟨by simp [World.push, h1], rfl, fun s ok hm => ?_⟩
  rcases List.mem_cons.mp hm with hm | hm
  · exact hc s ok hm.symm
  · exact h3 s ok hm

theorem io_push (w : World) (st : Store) (c : Call) : (w.push st c).io = w.io + 1 := by
  simp [World.push, World.io]

theorem storeAt_io {w : World} (h : WInv w) : w.storeAt w.io = some w.store := by
  obtain ⟨h1, h2, _⟩ := h
  unfold World.storeAt World.io
  cases hh : w.hist with
  | nil => rw [hh] at h1; simp at h1
  | cons s tl =>
    rw [hh] at h1 h2
    simp only [List.head?_cons, Option.some.injEq] at h2
    simp only [List.length_cons] at h1
    rw [List.reverse_cons, List.getElem?_append_right (by rw [List.length_reverse]; omega),
      List.length_reverse]
    have : w.trace.length - tl.length = 0 := by omega
    rw [this, h2]; rfl

theorem storeAt_push {w : World} (h : WInv w) (st' : Store) (c : Call) (t : Nat) (st : Store)
    (hs : (w.push st' c).storeAt t = some st) :
    (t ≤ w.io ∧ w.storeAt t = some st) ∨ (t = w.io + 1 ∧ st = st') := by
  obtain ⟨h1, _⟩ := h
  unfold World.storeAt World.push at hs
  simp only [List.reverse_cons] at hs
  unfold World.storeAt World.io
  by_cases ht : t < w.hist.reverse.length
  · rw [List.getElem?_append_left ht] at hs
    left
    rw [List.length_reverse] at ht
    exact ⟨by omega, hs⟩
  · rw [List.getElem?_append_right (by omega)] at hs
    right
    rw [List.length_reverse] at ht hs
    cases hd : t - w.hist.length with
    | zero =>
      rw [hd] at hs
      simp only [List.getElem?_cons_zero, Option.some.injEq] at hs
      exact ⟨by omega, hs.symm⟩
    | succ n => rw [hd] at hs; simp at hs

/-- acknowledged-Ok entries are recoverable from every crash image taken at or after the ack -/
def Safe (T : Nat) (fmt : Format) (crc : Bytes → Nat) (acks : List AckRec) (w : World) : Prop :=
  ∀ a ∈ acks, a.res = .ok → ∀ t st, a.io ≤ t → w.storeAt t = some st → Dur T fmt crc st a.entry

theorem safe_push {w : World} (hw : WInv w)
    (hs : Safe T fmt crc acks w) (hat : ∀ a ∈ acks, a.io ≤ w.io) (st' : Store) (c : Call)
    (hmono : ∀ e, Dur T fmt crc w.store e → Dur T fmt crc st' e) : Safe T fmt crc acks (w.push st' c) := by
  intro a ha hok t st hle hst
  rcases storeAt_push hw st' c t st hst with ⟨_, h⟩ | ⟨_, h⟩
  · exact hs a ha hok t st hle h
  · subst h
    exact hmono _ (hs a ha hok w.io w.store (hat a ha) (storeAt_io hw))

/-! ## store updates preserve what is durable -/

theorem dur_insert_fresh {st : Store} {k : Nat} {f : File} {e : Entry}
    (hk : NMap.get st k = none) (h : Dur T fmt crc st e) : Dur T fmt crc (NMap.insert k f st) e := by
  rcases h with ⟨k', g, hg, he⟩ | h
  case inr => exact Or.inr h
  left
  refine ⟨k', g, ?_, he⟩
  rw [NMap.get_insert]
  have : k' ≠ k := by intro hc; subst hc; rw [hk] at hg; cases hg
  rw [if_neg this, hg]

theorem dur_appendData {st : Store} {k : Nat} {bs : Bytes} {e : Entry}
    (hsyn : ∀ f, NMap.get st k = some f → f.synced ≤ f.data.length)
    (h : Dur T fmt crc st e) : Dur T fmt crc (appendData st k bs) e := by
  rcases h with ⟨k', g, hg, he⟩ | h
  case inr => exact Or.inr h
  left
  by_cases hk : k' = k
  · subst hk
    refine ⟨k', { g with data := g.data ++ bs }, by rw [get_appendData, if_pos rfl, hg]; rfl, ?_⟩
    simp only
    rw [List.take_append_of_le_length (hsyn g hg)]
    exact he
  · exact ⟨k', g, by rw [get_appendData, if_neg hk, hg], he⟩

theorem dur_syncFile {st : Store} {k : Nat} {e : Entry} (hcl : ∀ f, NMap.get st k = some f →
      ∀ x ∈ fileEntries fmt crc (f.data.take f.synced), x ∈ fileEntries fmt crc f.data)
    (h : Dur T fmt crc st e) : Dur T fmt crc (syncFile st k) e := by
  rcases h with ⟨k', g, hg, he⟩ | h
  case inr => exact Or.inr h
  left
  by_cases hk : k' = k
  · subst hk
    refine ⟨k', { g with synced := g.data.length }, by rw [get_syncFile, if_pos rfl, hg]; rfl, ?_⟩
    simp only
    rw [List.take_length]
    exact hcl g hg e he
  · exact ⟨k', g, by rw [get_syncFile, if_neg hk, hg], he⟩

theorem dur_of_synced {st : Store} {c : Nat} {f : File} {e : Entry}
    (hg : NMap.get st c = some f) (he : e ∈ fileEntries fmt crc f.data) :
    Dur T fmt crc (syncFile st c) e := by
  left
  refine ⟨c, { f with synced := f.data.length }, by rw [get_syncFile, if_pos rfl, hg]; rfl, ?_⟩
  simp only
  rw [List.take_length]
  exact he

theorem dur_crashStore {st : Store} {e : Entry} (h : Dur T fmt crc st e) : Dur T fmt crc (crashStore st) e := by
  rcases h with ⟨k, f, hg, he⟩ | h
  · left
    refine ⟨k, ⟨f.data.take f.synced, (f.data.take f.synced).length⟩, by rw [get_crashStore, hg]; rfl, ?_⟩
    simp only
    rw [List.take_length]
    exact he
  · exact Or.inr h

/-- what the synced prefix of a file yields the whole file yields: both are cuts of one clean image (needed when a
    file is synced, and when `truncate_before` judges a file by its full contents) -/
theorem OInv.synced_sub {st : Store} (h : OInv fmt crc g st) {k : Nat} {f : File} (hg : NMap.get st k = some f) :
    ∀ x ∈ fileEntries fmt crc (f.data.take f.synced), x ∈ fileEntries fmt crc f.data := by
  obtain ⟨hok, n, hn⟩ := h.files (k, f) (NMap.mem_of_get hg)
  simp only at hn
  rw [hn, List.take_take]
  exact fileEntries_take_mono fmt crc k _ hok (Nat.min_le_right _ _)

/-! ## rotator invariant -/

/-- what is carried besides the shape of the files: synced lengths lie within the files, the history bookkeeping,
    the acks sent are safe -/
structure Base (T : Nat) (fmt : Format) (crc : Bytes → Nat) (acks : List AckRec) (w : World) : Prop where
  syn : ∀ k f, NMap.get w.store k = some f → f.synced ≤ f.data.length
  winv : WInv w
  safe : Safe T fmt crc acks w
  ackio : ∀ a ∈ acks, a.io ≤ w.io

/-- one more call, after which the store is `st'`: everything durable before is durable in `st'` -/
theorem Base.push {w : World} (h : Base T fmt crc acks w) (st' : Store) (c : Call)
    (hsyn : ∀ k f, NMap.get st' k = some f → f.synced ≤ f.data.length)
    (hmono : ∀ e, Dur T fmt crc w.store e → Dur T fmt crc st' e)
    (hc : ∀ s ok, c ≠ Call.create s ok true := by intro s ok h; cases h) :
    Base T fmt crc acks (w.push st' c) ∧ ∀ e, Dur T fmt crc w.store e → Dur T fmt crc st' e :=
  ⟨⟨hsyn, winv_push h.winv _ _ hc, safe_push h.winv h.safe h.ackio st' c hmono,
    fun a ha => by rw [io_push]; exact Nat.le_succ_of_le (h.ackio a ha)⟩, hmono⟩

/-- a call that fails leaves the store as it was -/
theorem Base.same {w : World} (h : Base T fmt crc acks w) (c : Call)
    (hc : ∀ s ok, c ≠ Call.create s ok true := by intro s ok h; cases h) :
    Base T fmt crc acks (w.push w.store c) ∧ ∀ e, Dur T fmt crc w.store e → Dur T fmt crc w.store e :=
  h.push _ _ h.syn (fun _ he => he) hc

theorem storeAt_le {w : World} (h : WInv w) {t : Nat} {st : Store} (hs : w.storeAt t = some st) :
    t ≤ w.io := by
  unfold World.storeAt at hs
  have := (List.getElem?_eq_some_iff.mp hs).1
  rw [List.length_reverse, h.1] at this
  unfold World.io; omega

theorem Base.add_acks {w : World} {new : List AckRec} (h : Base T fmt crc acks w)
    (hn : ∀ a ∈ new, a.io = w.io ∧ (a.res = .ok → Dur T fmt crc w.store a.entry)) :
    Base T fmt crc (new ++ acks) w := by
  refine ⟨h.syn, h.winv, ?_, ?_⟩
  · intro a ha hok t st hle hst
    rcases List.mem_append.mp ha with h1 | h1
    · obtain ⟨hio, hd⟩ := hn a h1
      have ht : t = w.io := by
        have := storeAt_le h.winv hst
        omega
      subst ht
      rw [storeAt_io h.winv] at hst
      cases hst
      exact hd hok
    · exact h.safe a h1 hok t st hle hst
  · intro a ha
    rcases List.mem_append.mp ha with h1 | h1
    · exact Nat.le_of_eq (hn a h1).1
    · exact h.ackio a h1

theorem base_ioAppend {w : World} (φ : Nat → Outcome) (h : Base T fmt crc acks w) (k : Nat) (bs : Bytes) :
    Base T fmt crc acks (ioAppend φ w k bs).1 ∧
      ∀ e, Dur T fmt crc w.store e → Dur T fmt crc (ioAppend φ w k bs).1.store e := by
  have hs : ∀ bs', ∀ k' f, NMap.get (appendData w.store k bs') k' = some f → f.synced ≤ f.data.length := by
    intro bs' k' f hg
    rw [get_appendData] at hg
    split at hg
    · rename_i hk; subst hk
      cases hs : NMap.get w.store k' with
      | none => rw [hs] at hg; cases hg
      | some f0 =>
        rw [hs] at hg; cases hg
        exact Nat.le_trans (h.syn k' f0 hs) (by simp)
    · exact h.syn k' f hg
  unfold ioAppend
  cases φ w.io with
  | ok | torn j => exact h.push _ _ (hs _) fun e he => dur_appendData (h.syn k) he
  | fail | diskFull => exact h.same _

theorem base_ioCreate {w : World} (φ : Nat → Outcome) (h : Base T fmt crc acks w) (s : Nat)
    (hfresh : NMap.get w.store s = none) :
    Base T fmt crc acks (ioCreate φ w s).1 ∧
      ∀ e, Dur T fmt crc w.store e → Dur T fmt crc (ioCreate φ w s).1.store e := by
  have hc : ∀ (b : Bool) s' ok, Call.create s b (NMap.get w.store s).isSome ≠ Call.create s' ok true := by
    intro b s' ok hcc
    rw [hfresh] at hcc
    cases hcc
  unfold ioCreate
  cases φ w.io with
  | ok =>
    refine h.push _ _ (fun k f hk => ?_) (fun e he => dur_insert_fresh hfresh he) (hc true)
    rw [NMap.get_insert] at hk
    split at hk
    · cases hk; exact Nat.le_refl _
    · exact h.syn k f hk
  | fail | torn _ | diskFull => exact h.same _ (hc false)

/-- everything the proof carries through the rotator operations: `e ∈ g.E c` for the writer's file `c` says that `e`
    sits in that file, so the next successful `sync()` covers it -/
structure Inv (T : Nat) (fmt : Format) (crc : Bytes → Nat) (acks : List AckRec) (pend : List Entry) (g : Ghost) (r : Rot) :
    Prop where
  orot : ORot fmt crc g r
  base : Base T fmt crc acks r.w
  pend : r.poisoned = false → ∀ e ∈ pend, (∃ c, r.cur = some c ∧ e ∈ g.E c) ∨ Dur T fmt crc r.w.store e

theorem Inv.mono_T {T T' : Nat} (hT : T ≤ T') (h : Inv T fmt crc acks pend g r) :
    Inv T' fmt crc acks pend g r :=
  ⟨h.orot, ⟨h.base.syn, h.base.winv,
      fun a ha hok t st hle hst => (h.base.safe a ha hok t st hle hst).mono_T hT, h.base.ackio⟩,
    fun hp e he => (h.pend hp e he).imp id (Dur.mono_T hT)⟩

theorem Inv.pend_sub {pend pend' : List Entry} (hs : ∀ e ∈ pend', e ∈ pend) (h : Inv T fmt crc acks pend g r) :
    Inv T fmt crc acks pend' g r :=
  ⟨h.orot, h.base, fun hp e he => h.pend hp e (hs e he)⟩

theorem inv_add_acks {new : List AckRec} (h : Inv T fmt crc acks pend g r)
    (hn : ∀ a ∈ new, a.io = r.w.io ∧ (a.res = .ok → Dur T fmt crc r.w.store a.entry)) :
    Inv T fmt crc (new ++ acks) pend g r :=
  ⟨h.orot, h.base.add_acks hn, h.pend⟩

theorem pend_dur_of_nocur (h : Inv T fmt crc acks pend g r) (hc : r.cur = none) :
    r.poisoned = false → ∀ e ∈ pend, Dur T fmt crc r.w.store e := by
  intro hp e he
  rcases h.pend hp e he with ⟨c, hcc, _⟩ | hd
  · rw [hc] at hcc; cases hcc
  · exact hd

/-! ### `ioSync` on the current file -/

/-- the writer is kept (`cur' = r.cur`, as `sync` does) or dropped (`cur' = none`, as `rotate` does) -/
theorem inv_ioSync {c : Nat} (φ : Nat → Outcome) (h : Inv T fmt crc acks pend g r) (hc : r.cur = some c)
    (cur' : Option Nat) (hcur : cur' = r.cur ∨ cur' = none) :
    Inv T fmt crc acks pend g
      { r with w := (ioSync φ r.w c).1, cur := cur', poisoned := r.poisoned || !(ioSync φ r.w c).2 } ∧
    ((ioSync φ r.w c).2 = true → r.poisoned = false → ∀ e ∈ pend, Dur T fmt crc (ioSync φ r.w c).1.store e) := by
  have ho := orot_ioSync φ h.orot c cur' (r.poisoned || !(ioSync φ r.w c).2) hcur
  obtain ⟨-, f, hg, hd⟩ := h.orot.writer c hc
  have hmono : ∀ e, Dur T fmt crc r.w.store e → Dur T fmt crc (syncFile r.w.store c) e :=
    fun e he => dur_syncFile (fun f hf => h.orot.cur.synced_sub hf) he
  revert ho
  unfold ioSync
  cases φ r.w.io with
  | ok =>
    intro ho
    have hb := h.base.push (syncFile r.w.store c) (.sync c true) (fun k f hk => by
      obtain ⟨f0, hg0, hf | hf⟩ := syncFile_some hk <;> rw [hf]
      · exact h.base.syn k f0 hg0
      · exact Nat.le_refl _) hmono
    -- the writer's file is the whole image of its ghost list: syncing it makes that list durable
    have hpd : r.poisoned = false → ∀ e ∈ pend, Dur T fmt crc (syncFile r.w.store c) e := by
      intro hp e he
      rcases h.pend hp e he with ⟨c', hc', hec⟩ | hdur
      · rw [hc] at hc'; cases hc'
        refine dur_of_synced hg ?_
        rw [hd, fileEntries_clean fmt crc c _ (h.orot.cur.files _ (NMap.mem_of_get hg)).1]
        exact hec
      · exact hmono e hdur
    exact ⟨⟨ho, hb.1, fun hp e he => Or.inr (hpd (by simpa using hp) e he)⟩, fun _ => hpd⟩
  | fail | torn _ | diskFull =>
    intro ho
    exact ⟨⟨ho, (h.base.same _).1, fun hp => by simp at hp⟩, fun hx => by cases hx⟩

/-! ### the four things `append` is made of (`Kept`) -/

theorem inv_opened (fix : Bool) (φ : Nat → Outcome) (h : Inv T fmt crc acks pend g r) (hc : r.cur = none) :
    ∃ g', Inv T fmt crc acks pend g' (Rot.rotate fix fmt φ r).1 := by
  obtain ⟨g', ho, -⟩ := orot_opened fix φ h.orot hc
  have hp := pend_dur_of_nocur h hc
  have hfresh : NMap.get r.w.store (r.seq + 1) = none := by
    cases hg : NMap.get r.w.store (r.seq + 1) with
    | none => rfl
    | some f => have := h.orot.keys _ (NMap.mem_of_get hg); simp only at this; omega
  -- the world after the two calls, and the flag they leave alone
  suffices hs : Base T fmt crc acks (Rot.rotate fix fmt φ r).1.w ∧
      (∀ e, Dur T fmt crc r.w.store e → Dur T fmt crc (Rot.rotate fix fmt φ r).1.w.store e) ∧
      (Rot.rotate fix fmt φ r).1.poisoned = r.poisoned from
    ⟨g', ho, hs.1, fun hz e he => Or.inr (hs.2.1 e (hp (hs.2.2 ▸ hz) e he))⟩
  unfold Rot.rotate
  rw [close_nocur fix φ hc]
  simp only
  obtain ⟨bc, mc⟩ := base_ioCreate φ h.base (r.seq + 1) hfresh
  cases hcr : ioCreate φ r.w (r.seq + 1) with
  | mk w' oe =>
    rw [hcr] at bc mc
    cases oe with
    | some x => exact ⟨bc, mc, rfl⟩
    | none =>
      simp only
      obtain ⟨ba, ma⟩ := base_ioAppend φ bc (r.seq + 1) (header fmt (r.seq + 1))
      cases hap : ioAppend φ w' (r.seq + 1) (header fmt (r.seq + 1)) with
      | mk w'' oe2 =>
        rw [hap] at ba ma
        cases oe2 <;> exact ⟨ba, fun e he => ma e (mc e he), rfl⟩

/-- when the append fails the writer is dropped and the rotator poisoned: nothing is claimed of the pending entries
    until the next `sync()`, so `e` may be counted among them in either case -/
theorem inv_appendTo {c : Nat} (φ : Nat → Outcome) (h : Inv T fmt crc acks pend g r) (hc : r.cur = some c) (e : Entry)
    (he : e.Good fmt crc) :
    Inv T fmt crc acks (pend ++ [e]) ⟨upd g.E c (g.E c ++ [e]), g.L ++ [e]⟩ (Rot.appendTo φ r e).1 := by
  suffices hs : Base T fmt crc acks (Rot.appendTo φ r e).1.w ∧
      ((Rot.appendTo φ r e).1.poisoned = false → ∀ x ∈ pend ++ [e],
        (∃ c', (Rot.appendTo φ r e).1.cur = some c' ∧ x ∈ upd g.E c (g.E c ++ [e]) c') ∨
          Dur T fmt crc (Rot.appendTo φ r e).1.w.store x) from
    ⟨orot_appendTo φ h.orot hc e he, hs.1, hs.2⟩
  obtain ⟨ba, ma⟩ := base_ioAppend φ h.base c e.encode
  unfold Rot.appendTo
  rw [hc]
  simp only
  cases hap : ioAppend φ r.w c e.encode with
  | mk w' oe =>
    rw [hap] at ba ma
    cases oe with
    | some x => exact ⟨ba, fun hp => by cases hp⟩
    | none =>
      refine ⟨ba, fun hp x hx => ?_⟩
      rcases List.mem_append.mp hx with h1 | h1
      · rcases h.pend hp x h1 with ⟨c', hc', hxc⟩ | hd
        · rw [hc] at hc'; cases hc'
          exact Or.inl ⟨c, rfl, by rw [upd_same]; exact List.mem_append_left _ hxc⟩
        · exact Or.inr (ma x hd)
      · exact Or.inl ⟨c, rfl, by rw [upd_same]; exact List.mem_append_right _ h1⟩

theorem inv_kept (φ : Nat → Outcome) :
    Kept fmt φ (Entry.Good fmt crc) (fun es r => ∃ g, Inv T fmt crc acks es g r) where
  synced := fun hc ⟨g, h⟩ => ⟨g, (inv_ioSync φ h hc none (Or.inr rfl)).1⟩
  dropped := fun ⟨g, h⟩ =>
    ⟨g, ⟨h.orot.cur, h.orot.hist, h.orot.keys, fun _ hc => by cases hc⟩, h.base, fun hp => by cases hp⟩
  opened := fun fix hc ⟨_, h⟩ => inv_opened fix φ h hc
  entry := fun e hc he ⟨_, h⟩ => ⟨_, inv_appendTo φ h hc e he⟩

/-- the entry joins the pending ones when `append` reports no error; in either case those pending stay so -/
theorem inv_append (fix : Bool) (φ : Nat → Outcome) (h : Inv T fmt crc acks pend g r) (e : Entry)
    (he : e.Good fmt crc) :
    (∃ g', Inv T fmt crc acks pend g' (Rot.append fix fmt φ r e).1) ∧
    ((Rot.append fix fmt φ r e).2 = none → ∃ g', Inv T fmt crc acks (pend ++ [e]) g' (Rot.append fix fmt φ r e).1) := by
  rcases (inv_kept φ).append fix ⟨g, h⟩ he with ⟨g', h1⟩ | ⟨h1, hx⟩
  · exact ⟨⟨g', h1.pend_sub fun x hx => List.mem_append_left _ hx⟩, fun _ => ⟨g', h1⟩⟩
  · exact ⟨h1, fun h0 => absurd h0 hx⟩

theorem inv_sync (fix : Bool) (φ : Nat → Outcome) (h : Inv T fmt crc acks pend g r)
    (hq : fix = true ∨ r.poisoned = false) :
    Inv T fmt crc acks [] g (Rot.sync fix φ r).1 ∧
    ((Rot.sync fix φ r).2 = true → ∀ e ∈ pend, Dur T fmt crc (Rot.sync fix φ r).1.w.store e) := by
  have ho := orot_sync fix φ h.orot
  revert ho
  unfold Rot.sync
  by_cases hfp : (fix && r.poisoned) = true
  · rw [if_pos hfp]
    exact fun ho => ⟨⟨ho, h.base, (fun _ e he => by cases he)⟩, (fun hx => by cases hx)⟩
  · rw [if_neg hfp]
    have hpz : r.poisoned = false := by
      rcases hq with hq | hq
      · subst hq; simpa using hfp
      · exact hq
    cases hc : r.cur with
    | none =>
      simp only
      exact fun ho => ⟨⟨ho, h.base, (fun _ e he => by cases he)⟩, (fun _ => pend_dur_of_nocur h hc hpz)⟩
    | some c =>
      simp only
      obtain ⟨hk, hd⟩ := inv_ioSync φ h hc (some c) (Or.inl hc.symm)
      exact fun ho => ⟨⟨ho, hk.base, (fun _ e he => by cases he)⟩, (fun hok => hd hok hpz)⟩

/-! ## `truncate_before` on the live store -/

/-- deleting a file that is not the current writer's and whose readable entries are all
    stamped ≤ `thr < T` keeps the invariant (what it held is exempt from the durability claim) -/
theorem inv_ioDelete (φ : Nat → Outcome) (k thr : Nat)
    (h : Inv T fmt crc acks pend g r) (hcur : r.cur ≠ some k) (hT : thr < T)
    (hdel : ∀ f, NMap.get r.w.store k = some f → deletable fmt crc thr f.data = true) :
    Inv T fmt crc acks pend g { r with w := (ioDelete φ r.w k).1 } := by
  suffices hs : Base T fmt crc acks (ioDelete φ r.w k).1 ∧
      ∀ e, Dur T fmt crc r.w.store e → Dur T fmt crc (ioDelete φ r.w k).1.store e from
    ⟨orot_ioDelete φ h.orot hcur, hs.1, fun hp e he => (h.pend hp e he).imp id (hs.2 e)⟩
  unfold ioDelete
  cases φ r.w.io with
  | ok =>
    have hget : ∀ k' f, NMap.get (deleteFile r.w.store k) k' = some f → NMap.get r.w.store k' = some f := by
      intro k' f hk
      rw [get_deleteFile] at hk
      split at hk
      · cases hk
      · exact hk
    refine h.base.push _ _ (fun k' f hk => h.base.syn k' f (hget k' f hk)) fun e he => ?_
    rcases he with ⟨k', f, hg, hx⟩ | he
    · by_cases hk : k' = k
      · subst hk
        right
        have := deletable_ts fmt crc thr f.data (hdel f hg) e (h.orot.cur.synced_sub hg e hx)
        omega
      · exact Or.inl ⟨k', f, by rw [get_deleteFile, if_neg hk, hg], hx⟩
    · exact Or.inr he
  | fail | torn _ | diskFull => exact h.base.same _

theorem inv_truncate (φ : Nat → Outcome) (thr : Nat) (hT : thr < T)
    (h : Inv T fmt crc acks pend g r) : Inv T fmt crc acks pend g (Rot.truncate fmt crc φ thr r) :=
  truncate_kept thr (fun hk hd hi => inv_ioDelete φ _ thr hi hk hT hd) h

/-! ## restart: a new rotator over the store of the previous incarnation -/

/-- the machine crashes and a new rotator (`reuse = false`: `current_sequence` = the highest
    sequence found) is opened over what is left -/
theorem inv_reopen_crash (h : Inv T fmt crc acks pend g r) :
    Inv T fmt crc acks [] g (Rot.reopen false { r with w := r.w.push (crashStore r.w.store) .crash }) := by
  refine ⟨orot_reopen_crash h.orot, (h.base.push _ _ (fun k f hk => ?_) fun e he => dur_crashStore he).1,
    (fun _ e he => by cases he)⟩
  rw [get_crashStore] at hk
  cases hg : NMap.get r.w.store k with
  | none => rw [hg] at hk; cases hk
  | some f0 =>
    rw [hg] at hk
    cases hk
    exact Nat.le_refl _

/-- a clean restart: nothing on disk changes, the new rotator continues after the highest
    existing sequence -/
theorem inv_reopen_clean (h : Inv T fmt crc acks [] g r) : Inv T fmt crc acks [] g (Rot.reopen false r) :=
  ⟨orot_reopen h.orot.cur h.orot.hist, h.base, (fun _ e he => by cases he)⟩

/-! ## the actor -/

def AInv (fmt : Format) (crc : Bytes → Nat) (a : Actor) : Prop :=
  ∃ g, Inv a.tbound fmt crc a.acks (a.pending.map (·.2)) g a.rot

theorem AInv.base {a : Actor} : AInv fmt crc a → Base a.tbound fmt crc a.acks a.rot.w := fun ⟨_, h⟩ => h.base

theorem inv_init (fmt : Format) (crc : Bytes → Nat) (maxSize : Nat) : AInv fmt crc (Actor.init maxSize) :=
  ⟨⟨fun _ => [], []⟩, orot_init maxSize _,
    ⟨(fun k f h => by cases h), winv_init, (fun a ha => by cases ha), (fun a ha => by cases ha)⟩,
    (fun _ e he => by cases he)⟩

/-- one step of the actor with `tickSyncs = false` (the code: a `SyncTick` is a no-op in Always mode) -/
theorem Moved.ainv {fix : Bool} {φ : Nat → Outcome} {a a' : Actor} {ev : Ev} (h : Moved fix false φ fmt crc a ev a')
    (hi : AInv fmt crc a) (hlen : a.pending.length ≤ a.esync) (hw : ev.Ok fmt crc)
    (hq : fix = true ∨ a.quietStep ev = true) : AInv fmt crc a' := by
  obtain ⟨g, hi⟩ := hi
  induction h with
  | queued w h =>
    have := (inv_append fix φ hi _ ⟨hw.1, rfl, hw.2⟩).2 (by rw [h])
    rw [h] at this
    simpa [AInv] using this
  | refused w h =>
    obtain ⟨g', this⟩ := (inv_append fix φ hi _ ⟨hw.1, rfl, hw.2⟩).1
    rw [h] at this
    exact ⟨g', inv_add_acks (new := [_]) this fun a' ha' => by
      rw [List.mem_singleton.mp ha']; exact ⟨rfl, fun hc => by cases hc⟩⟩
  | counted w h | lost w h =>
    have := (inv_append fix φ hi _ ⟨hw.1, rfl, hw.2⟩).1
    rwa [h] at this
  | idle => exact ⟨g, hi⟩
  | ticked h => cases h
  | truncated T =>
    exact ⟨g, inv_truncate φ T (Nat.lt_of_lt_of_le (Nat.lt_succ_self T) (Nat.le_max_right _ _))
      (Inv.mono_T (Nat.le_max_left _ _) hi)⟩
  | flushed h0 =>
    have hq' : fix = true ∨ a.rot.poisoned = false := by
      rcases hq with hq | hq
      · exact Or.inl hq
      · simp only [Actor.quietStep, Bool.or_eq_true, beq_iff_eq, Bool.not_eq_true'] at hq
        exact Or.inr (hq.resolve_left h0)
    obtain ⟨h1, h2⟩ := inv_sync fix φ hi hq'
    refine ⟨g, inv_add_acks h1 fun a' ha' => ?_⟩
    rw [List.mem_reverse, List.mem_map] at ha'
    obtain ⟨p, hp, rfl⟩ := ha'
    refine ⟨rfl, fun hok => ?_⟩
    cases hs : (Rot.sync fix φ a.rot).2 with
    | false => simp [hs] at hok
    | true => exact h2 hs p.2 (List.mem_map.mpr ⟨p, hp, rfl⟩)
  | crashed reuse =>
    cases (hw : reuse = false)
    refine ⟨g, inv_add_acks (inv_reopen_crash hi) fun a' ha' => ?_⟩
    rw [List.mem_reverse, List.mem_map] at ha'
    obtain ⟨p, _, rfl⟩ := ha'
    exact ⟨rfl, fun hc => by cases hc⟩
  | restarted reuse h ih =>
    cases (hw : reuse = false)
    -- after the final flush nothing is pending
    obtain ⟨g1, h1⟩ := ih trivial hq
    refine ⟨g1, ?_⟩
    simp only [h.flush_pending hlen] at h1 ⊢
    exact inv_reopen_clean h1

/-- what every step of the actor maintains: the invariant, and at most as many writers wait as entries were
    appended since the last fsync (so that nothing is pending after the flush of a clean shutdown) -/
def Held (fmt : Format) (crc : Bytes → Nat) (a : Actor) : Prop := AInv fmt crc a ∧ a.pending.length ≤ a.esync

theorem held_init (fmt : Format) (crc : Bytes → Nat) (maxSize : Nat) : Held fmt crc (Actor.init maxSize) :=
  ⟨inv_init fmt crc maxSize, Nat.le_refl _⟩

theorem held_step {a : Actor} (fix : Bool) (φ : Nat → Outcome)
    (h : Held fmt crc a) (ev : Ev) (hw : ev.Ok fmt crc) (hq : fix = true ∨ a.quietStep ev = true) :
    Held fmt crc (Actor.step fix false φ fmt crc a ev) :=
  ⟨(step_moved a ev).ainv h.1 h.2 hw hq, (step_moved a ev).pending_len h.2⟩

theorem held_flush {a : Actor} (φ : Nat → Outcome) (h : Held fmt crc a) :
    Held fmt crc (Actor.flush true φ a) := held_step true φ h .flush trivial (Or.inl rfl)

theorem held_foldl (fix : Bool) (φ : Nat → Outcome) (evs : List Ev) (a : Actor)
    (h : Held fmt crc a) (hw : ∀ ev ∈ evs, ev.Ok fmt crc)
    (hq : fix = true ∨ Actor.quiet φ fmt crc evs a = true) :
    Held fmt crc (evs.foldl (Actor.step fix false φ fmt crc) a) := by
  induction evs generalizing a with
  | nil => exact h
  | cons ev evs ih =>
    have hw' := fun e he => hw e (List.mem_cons_of_mem _ he)
    simp only [List.foldl_cons]
    cases fix with
    | true => exact ih _ (held_step true φ h ev (hw ev (by simp)) (Or.inl rfl)) hw' (Or.inl rfl)
    | false =>
      have hq' : Actor.quiet φ fmt crc (ev :: evs) a = true := hq.resolve_left (by decide)
      simp only [Actor.quiet, Bool.and_eq_true] at hq'
      exact ih _ (held_step false φ h ev (hw ev (by simp)) (Or.inr hq'.1)) hw' (Or.inr hq'.2)

theorem held_runGroup (φ : Nat → Outcome) (m : Nat) (msgs : List Ev) (a : Actor)
    (h : Held fmt crc a) (hw : ∀ ev ∈ msgs, ev.Ok fmt crc) :
    Held fmt crc (Actor.runGroup true false φ fmt crc m a msgs) := by
  unfold Actor.runGroup
  apply held_flush
  induction msgs generalizing a with
  | nil => exact h
  | cons ev msgs ih =>
    simp only [List.foldl_cons]
    have h1 := held_step true φ h ev (hw ev (by simp)) (Or.inl rfl)
    apply ih _ _ (fun x hx => hw x (List.mem_cons_of_mem _ hx))
    split
    · exact held_flush φ h1
    · exact h1

end RedisVerif.Wal
