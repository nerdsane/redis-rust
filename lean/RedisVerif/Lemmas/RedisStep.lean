import RedisVerif.Lemmas.RedisLocal

/-! What C01 and C17 use of a command: `Safe`, for every command of `exec`. -/
namespace RedisVerif.Redis
open RedisVerif

theorem safe_exec {s : State} (now : Nat) (c : Cmd) : Safe s (exec s now c) := by
  cases hk : cmdKeys c with
  | some K => exact (exec_sound now c K hk).safe s
  | none =>
    obtain rfl | rfl | rfl | rfl | ⟨ch, rfl⟩ := keyless_cases hk
    · exact .keep
    · exact .keep
    · exact .ok fun _ => inv_nil
    · exact .ok fun _ => inv_nil
    · exact .keep (execRandomKey_ro ..)

theorem inv_exec {s : State} (h : Inv s) (now : Nat) (c : Cmd) : Inv (exec s now c).1 :=
  (safe_exec now c).inv h

theorem ttlReply_not_err (s : State) (k : Nat) (f : Nat → Nat) : (ttlReply s k f).isError = false := by
  unfold ttlReply
  split
  · rfl
  · split <;> rfl

theorem exec_err {s : State} {now : Nat} {c : Cmd} (he : (exec s now c).2.isError = true) :
    (exec s now c).1 = s :=
  (safe_exec now c).err he

end RedisVerif.Redis
