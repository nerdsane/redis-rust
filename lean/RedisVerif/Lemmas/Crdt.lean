import RedisVerif.Model.Crdt
import RedisVerif.Lemmas.NMap
import RedisVerif.Lemmas.Lub

/-!
Lemmas for M1 (CRDT merge): the stamp order, "the later of two" (what `Stamp.max`, `Lww.merge` and the
cross-kind branch of `mergeWithTimestamps` all compute), the laws of the component lattices, and
`tryMerge` / `mergeWithTimestamps` by kind.  The property theorems are in `Props/C07.lean`.
-/
namespace RedisVerif

namespace Stamp

theorem lt_iff (a b : Stamp) :
    a.lt b = true ↔ a.time < b.time ∨ (a.time = b.time ∧ a.rid < b.rid) := by
  simp [lt]

theorem not_lt_iff (a b : Stamp) :
    a.lt b = false ↔ ¬ (a.time < b.time ∨ (a.time = b.time ∧ a.rid < b.rid)) := by
  rw [← lt_iff]; simp

theorem lt_irrefl (a : Stamp) : a.lt a = false := by
  simp [lt]

theorem lt_trans {a b c : Stamp} (h1 : a.lt b = true) (h2 : b.lt c = true) : a.lt c = true := by
  rw [lt_iff] at *; omega

theorem not_lt_trans {a b c : Stamp} (h1 : a.lt b = false) (h2 : b.lt c = false) :
    a.lt c = false := by
  rw [not_lt_iff] at *; omega

theorem lt_asymm {a b : Stamp} (h : a.lt b = true) : b.lt a = false := by
  cases h' : b.lt a
  · rfl
  · rw [← lt_irrefl a, ← lt_trans h h']

theorem eq_of_not_lt {a b : Stamp} (h1 : a.lt b = false) (h2 : b.lt a = false) : a = b := by
  rw [not_lt_iff] at h1 h2
  cases a; cases b; simp only [mk.injEq] at *; omega

theorem lt_of_not_lt_of_ne {a b : Stamp} (h1 : a.lt b = false) (hne : a ≠ b) : b.lt a = true := by
  cases h : b.lt a
  · exact absurd (eq_of_not_lt h1 h) hne
  · rfl

/-- the later of two things by the stamp `k` gives them, the left one on a tie -/
def later {α : Type} (k : α → Stamp) (a b : α) : α := if (k a).lt (k b) then b else a

section later
variable {α : Type} (k : α → Stamp)

theorem later_idem (a : α) : later k a a = a := by simp [later]

theorem later_eq_or (a b : α) : later k a b = a ∨ later k a b = b := by
  unfold later; split
  · exact Or.inr rfl
  · exact Or.inl rfl

theorem key_later (a b : α) : k (later k a b) = max (k a) (k b) := by
  unfold later max; split <;> rfl

theorem ite_lt_comm {s t : Stamp} (h : s ≠ t) (x y : α) :
    (if s.lt t then y else x) = if t.lt s then x else y := by
  cases h1 : s.lt t <;> cases h2 : t.lt s <;> simp only [Bool.false_eq_true, ↓reduceIte]
  · exact absurd (eq_of_not_lt h1 h2) h
  · rw [lt_asymm h1] at h2; cases h2

theorem later_comm {a b : α} (h : k a = k b → a = b) : later k a b = later k b a := by
  by_cases hk : k a = k b
  · rw [h hk]
  · exact ite_lt_comm hk a b

theorem later_assoc (a b c : α) : later k a (later k b c) = later k (later k a b) c := by
  unfold later
  cases h1 : (k a).lt (k b) <;> cases h2 : (k b).lt (k c) <;>
    simp only [h1, h2, Bool.false_eq_true, ↓reduceIte]
  · rw [not_lt_trans h1 h2]; rfl
  · rw [lt_trans h1 h2]; rfl

end later

theorem max_idem (a : Stamp) : max a a = a := later_idem id a

theorem max_comm (a b : Stamp) : max a b = max b a := later_comm id id

theorem max_assoc (a b c : Stamp) : max a (max b c) = max (max a b) c := later_assoc id a b c

theorem max_ge_right (a b : Stamp) : (max a b).lt b = false := by
  unfold max
  cases h : a.lt b
  · exact h
  · exact lt_irrefl b

end Stamp

namespace Lww

theorem merge_idem (a : Lww) : merge a a = a := Stamp.later_idem Lww.ts a

/-- `LwwRegister::merge` is commutative exactly when equal stamps carry equal registers -/
theorem merge_comm {a b : Lww} (h : a.ts = b.ts → a = b) : merge a b = merge b a :=
  Stamp.later_comm Lww.ts h

theorem merge_assoc (a b c : Lww) : merge a (merge b c) = merge (merge a b) c :=
  Stamp.later_assoc Lww.ts a b c

theorem merge_eq_or (a b : Lww) : merge a b = a ∨ merge a b = b := Stamp.later_eq_or Lww.ts a b

theorem merge_ts (a b : Lww) : (merge a b).ts = Stamp.max a.ts b.ts := Stamp.key_later Lww.ts a b

end Lww

theorem Nat.max_idem' (a : Nat) : Max.max a a = a := Nat.max_self a

namespace Crdt

theorem natmax_comm (a b : Nat) : Max.max a b = Max.max b a := Nat.max_comm a b
theorem natmax_assoc (a b c : Nat) : Max.max a (Max.max b c) = Max.max (Max.max a b) c :=
  (Nat.max_assoc a b c).symm

/-- counters and vector clocks: the pointwise maximum -/
theorem aciCounter : ACI (NMap.merge Max.max) (NMap.WF (ν := Nat)) where
  closed := fun _ _ => NMap.wf_merge
  comm := fun _ _ ha hb => NMap.merge_comm ha hb fun _ u v _ _ => Nat.max_comm u v
  assoc := fun _ _ _ ha hb hc =>
    NMap.merge_assoc ha hb hc fun _ u v w _ _ _ => (Nat.max_assoc u v w).symm
  idem := fun _ ha => NMap.merge_idem ha fun _ u _ => Nat.max_self u

theorem hmerge_idem {a : NMap Lww} (ha : NMap.WF a) : NMap.merge Lww.merge a a = a :=
  NMap.merge_idem ha (fun _ u _ => Lww.merge_idem u)

theorem hmerge_comm {a b : NMap Lww} (ha : NMap.WF a) (hb : NMap.WF b)
    (h : ∀ p ∈ a, ∀ q ∈ b, p.1 = q.1 → p.2.ts = q.2.ts → p.2 = q.2) :
    NMap.merge Lww.merge a b = NMap.merge Lww.merge b a :=
  NMap.merge_comm ha hb fun k _ _ hu hv =>
    Lww.merge_comm (h (k, _) (NMap.mem_of_get hu) (k, _) (NMap.mem_of_get hv) rfl)

theorem hmerge_assoc {a b c : NMap Lww} (ha : NMap.WF a) (hb : NMap.WF b) (hc : NMap.WF c) :
    NMap.merge Lww.merge a (NMap.merge Lww.merge b c)
      = NMap.merge Lww.merge (NMap.merge Lww.merge a b) c :=
  NMap.merge_assoc ha hb hc (fun _ u v w _ _ _ => Lww.merge_assoc u v w)

/-- what `Crdt.WF` asks of the entries of an OR-set -/
abbrev TagsOk (e : NMap NSet) : Prop := ∀ p ∈ e, NSet.WF p.2 ∧ p.2 ≠ []

theorem tagsOk_merge {a b : NMap NSet} (ha : TagsOk a) (hb : TagsOk b) :
    TagsOk (NMap.merge NSet.union a b) :=
  NMap.merge_forall (P := fun p => NSet.WF p.2 ∧ p.2 ≠ [])
    (fun _ _ _ hx hy => ⟨NSet.wf_union hx.1 hy.1, NSet.union_ne_nil_left hx.2⟩) ha hb

/-- the filter of `ORSet::merge` is a no-op: unions of non-empty tag sets are non-empty -/
theorem orsetMergeElems_eq {a b : NMap NSet} (ha : TagsOk a) (hb : TagsOk b) :
    orsetMergeElems a b = NMap.merge NSet.union a b := by
  apply List.filter_eq_self.mpr
  intro p hp
  have := (tagsOk_merge ha hb p hp).2
  cases h : p.2 with
  | nil => exact absurd h this
  | cons _ _ => rfl

theorem orsetMerge_idem {a : NMap NSet} (ha : NMap.WF a) (ta : TagsOk a) : orsetMergeElems a a = a := by
  rw [orsetMergeElems_eq ta ta]
  exact NMap.merge_idem ha fun k _ hu => NSet.union_idem (ta (k, _) (NMap.mem_of_get hu)).1

theorem orsetMerge_comm {a b : NMap NSet} (ha : NMap.WF a) (ta : TagsOk a) (hb : NMap.WF b)
    (tb : TagsOk b) : orsetMergeElems a b = orsetMergeElems b a := by
  rw [orsetMergeElems_eq ta tb, orsetMergeElems_eq tb ta]
  exact NMap.merge_comm ha hb fun k _ _ hu hv =>
    NSet.union_comm (ta (k, _) (NMap.mem_of_get hu)).1 (tb (k, _) (NMap.mem_of_get hv)).1

theorem orsetMerge_assoc {a b c : NMap NSet} (ha : NMap.WF a) (ta : TagsOk a) (hb : NMap.WF b)
    (tb : TagsOk b) (hc : NMap.WF c) (tc : TagsOk c) :
    orsetMergeElems a (orsetMergeElems b c) = orsetMergeElems (orsetMergeElems a b) c := by
  rw [orsetMergeElems_eq tb tc, orsetMergeElems_eq ta tb, orsetMergeElems_eq ta (tagsOk_merge tb tc),
    orsetMergeElems_eq (tagsOk_merge ta tb) tc]
  exact NMap.merge_assoc ha hb hc fun k _ _ _ hu hv hw =>
    NSet.union_assoc (ta (k, _) (NMap.mem_of_get hu)).1 (tb (k, _) (NMap.mem_of_get hv)).1
      (tc (k, _) (NMap.mem_of_get hw)).1

/-- two values of one kind, constructor by constructor (`induction a, b, h using same_kind_cases`) -/
theorem same_kind_cases {motive : (a b : Crdt) → a.kind = b.kind → Prop}
    (lww : ∀ x y, motive (.lww x) (.lww y) rfl)
    (gcounter : ∀ x y, motive (.gcounter x) (.gcounter y) rfl)
    (pncounter : ∀ p n p' n', motive (.pncounter p n) (.pncounter p' n') rfl)
    (gset : ∀ x y, motive (.gset x) (.gset y) rfl)
    (orset : ∀ e s e' s', motive (.orset e s) (.orset e' s') rfl)
    (hash : ∀ x y, motive (.hash x) (.hash y) rfl)
    (a b : Crdt) (h : a.kind = b.kind) : motive a b h := by
  -- off the diagonal the two kinds are different numerals
  cases a <;> cases b <;> first | exact absurd h (Nat.ne_of_beq_eq_false rfl) | skip
  · exact lww _ _
  · exact gcounter _ _
  · exact pncounter _ _ _ _
  · exact gset _ _
  · exact orset _ _ _ _
  · exact hash _ _

theorem tryMerge_of_kind_ne {a b : Crdt} (h : a.kind ≠ b.kind) : tryMerge a b = none := by
  cases a <;> cases b <;> first | rfl | exact absurd rfl h

theorem mwt_of_kind_ne {a b : Crdt} (h : a.kind ≠ b.kind) (sa sb : Stamp) :
    mergeWithTimestamps a b sa sb = if sa.lt sb then b else a := by
  simp only [mergeWithTimestamps, tryMerge_of_kind_ne h]

theorem tryMerge_of_kind_eq {a b : Crdt} (h : a.kind = b.kind) (sa sb : Stamp) :
    tryMerge a b = some (mergeWithTimestamps a b sa sb) := by
  induction a, b, h using same_kind_cases <;> rfl

theorem kind_mwt {a b : Crdt} (h : a.kind = b.kind) (sa sb : Stamp) :
    (mergeWithTimestamps a b sa sb).kind = a.kind := by
  induction a, b, h using same_kind_cases <;> rfl

end Crdt

/-- the registers of a value with the slot they occupy (0 for a plain LWW value, the field code
    for a hash field) -/
def Crdt.slots : Crdt → List (Nat × Lww)
  | .lww r => [(0, r)]
  | .hash h => h
  | _ => []

/-- merging two values creates no new register -/
theorem Crdt.slots_mwt {a b : Crdt} (sa sb : Stamp) :
    ∀ p ∈ (mergeWithTimestamps a b sa sb).slots, p ∈ a.slots ∨ p ∈ b.slots := by
  by_cases hk : a.kind = b.kind
  · induction a, b, hk using same_kind_cases with
    | lww x y =>
      intro p hp
      change p ∈ [(0, Lww.merge x y)] at hp
      rcases Lww.merge_eq_or x y with h | h <;> rw [h] at hp
      · exact Or.inl hp
      · exact Or.inr hp
    | hash x y =>
      exact NMap.merge_forall (f := Lww.merge) (P := fun p => p ∈ x ∨ p ∈ y)
        (fun _ u v hu hv => by rcases Lww.merge_eq_or u v with h | h <;> rw [h] <;> assumption)
        (fun _ => Or.inl) (fun _ => Or.inr)
    | _ => exact fun _ hp => nomatch hp
  · rw [mwt_of_kind_ne hk]
    split
    · exact fun _ hp => Or.inr hp
    · exact fun _ hp => Or.inl hp

end RedisVerif
