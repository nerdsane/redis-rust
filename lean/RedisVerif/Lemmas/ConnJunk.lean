import RedisVerif.Lemmas.Conn

/-
  A malformed frame gets an error reply: the read loop on `stream cmds ++ junk` where `junk` does not
  start like an array (`*`) and the decoder rejects it.
-/
namespace RedisVerif.Conn
open RedisVerif.Resp

theorem startsWith_notStar (p hdr : Bytes) (hp : p.head? ≠ some 42) (hh : hdr.head? = some 42) :
    startsWith p hdr = false := by
  unfold startsWith
  cases hdr with
  | nil => simp at hh
  | cons a as =>
    simp only [List.head?_cons, Option.some.injEq] at hh
    subst hh
    cases p with
    | nil => rfl
    | cons b bs =>
      simp only [List.head?_cons, ne_eq, Option.some.injEq] at hp
      simp [List.isPrefixOf, hp]
      intro h; exact absurd h.symm hp

theorem recogGet_notStar (h : Nat) (ck : Bool) (p : Bytes) (hp : p.head? ≠ some 42) : recogGet h ck p = .notFast := by
  unfold recogGet
  rw [startsWith_notStar p getHdrU hp rfl, startsWith_notStar p getHdrL hp rfl]
  simp

theorem recogSet_notStar (h : Nat) (ck : Bool) (p : Bytes) (hp : p.head? ≠ some 42) : recogSet h ck p = .notFast := by
  unfold recogSet
  rw [startsWith_notStar p setHdrU hp rfl, startsWith_notStar p setHdrL hp rfl]
  simp

theorem fastPath_notStar (h : Nat) (ck inTx : Bool) (p : Bytes) (hp : p.head? ≠ some 42) : fastPath h ck inTx p = .notFast := by
  unfold fastPath
  split
  · rfl
  · split
    · rfl
    · rw [recogGet_notStar h ck p hp, recogSet_notStar h ck p hp]

theorem recogGetR_notStar (h : Nat) (p : Bytes) (hp : p.head? ≠ some 42) : recogGetR h p = .notFast := by
  unfold recogGetR
  rw [startsWith_notStar p getHdrU hp rfl, startsWith_notStar p getHdrL hp rfl]
  simp

theorem recogSetR_notStar (h : Nat) (p : Bytes) (hp : p.head? ≠ some 42) : recogSetR h p = .notFast := by
  unfold recogSetR
  rw [startsWith_notStar p setHdrU hp rfl, startsWith_notStar p setHdrL hp rfl]
  simp

theorem fastPathR_notStar (h : Nat) (inTx : Bool) (p : Bytes) (hp : p.head? ≠ some 42) : fastPathR h inTx p = .notFast := by
  unfold fastPathR
  split
  · rfl
  · split
    · rfl
    · rw [recogGetR_notStar h p hp, recogSetR_notStar h p hp]

/-- the recognisers are switched off altogether: repaired code, user without unrestricted keys -/
def RecogOff (cfg : Config) : Prop := cfg.repaired = true ∧ cfg.unrestricted = false

theorem DeadCfg.ofOff {cfg : Config} (h : RecogOff cfg) : DeadCfg cfg := Or.inr h

/-- bytes every recogniser declines: they do not begin like an array, or the recognisers are off -/
def JunkOK (cfg : Config) (junk : Bytes) : Prop := junk.head? ≠ some 42 ∨ RecogOff cfg

theorem fastPathC_junk (cfg : Config) (inTx : Bool) (p : Bytes) (hp : JunkOK cfg p) : fastPathC cfg inTx p = .notFast := by
  unfold fastPathC
  cases hp with
  | inl hp =>
    split
    · split
      · exact fastPathR_notStar _ _ p hp
      · exact fastPath_notStar _ _ _ p hp
    · rfl
  | inr hp => simp [hp.2]

theorem collectGetC_notStar (cfg : Config) (fuel : Nat) (p : Bytes) (hp : p.head? ≠ some 42) :
    collectGetC cfg fuel p = some ([], p) := by
  unfold collectGetC
  split
  · exact collectGetR_stop _ _ p (recogGetR_notStar _ p hp)
  · exact collectGet_stop _ _ _ p (Or.inl (recogGet_notStar _ _ p hp))

theorem collectSetC_notStar (cfg : Config) (fuel : Nat) (p : Bytes) (hp : p.head? ≠ some 42) :
    collectSetC cfg fuel p = some ([], p) := by
  unfold collectSetC
  split
  · exact collectSetR_stop _ _ p (recogSetR_notStar _ p hp)
  · exact collectSet_stop _ _ _ p (Or.inl (recogSet_notStar _ _ p hp))

theorem batchGate_junk (cfg : Config) (inTx : Bool) (fuel : Nat) (p : Bytes) (hp : JunkOK cfg p) :
    batchGate cfg inTx fuel p = some ([], p) := by
  cases hp with
  | inl hp => exact batchGate_of_stop cfg inTx fuel p (collectGetC_notStar cfg fuel p hp) (collectSetC_notStar cfg fuel p hp)
  | inr hp => unfold batchGate; simp [hp.1, hp.2]

/-- what the loop does with a buffer that holds (a prefix of) the malformed frame only -/
def junkStep (env : Env) (p : Bytes) : List Action × Bytes :=
  if (parse1 env p).out.isIncomplete then ([], p) else ([.protoErr], [])

/-- a prefix of a frame the decoder rejects is either still undecided or rejected the same way -/
theorem parse_junkPrefix (env : Env) (p q junk : Bytes) (h : p ++ q = junk) (hs : Small junk) (e : Err)
    (hj : (parse1 env junk).out = .error e) :
    (parse1 env p).out.isIncomplete = true ∨ (parse1 env p).out = .error e := by
  cases hd : (parse1 env p).out.isIncomplete with
  | true => exact Or.inl rfl
  | false =>
    right
    have := parseD_stable codec1 codec1_good env.mem env.depth 0 p q (by rw [h]; exact hs) hd
    unfold parse1 parseG at hj ⊢
    rw [h] at this
    rw [← this, hj]

theorem head_prefix (p q junk : Bytes) (h : p ++ q = junk) (hj : junk.head? ≠ some 42) : p.head? ≠ some 42 := by
  cases p with
  | nil => simp
  | cons b bs =>
    rw [← h] at hj
    simpa using hj

theorem JunkOK.pre {cfg : Config} (p q junk : Bytes) (h : p ++ q = junk) (hj : JunkOK cfg junk) : JunkOK cfg p := by
  cases hj with
  | inl hj => exact Or.inl (head_prefix p q junk h hj)
  | inr hj => exact Or.inr hj

theorem seqLoop_junkPrefix (cfg : Config) (hcodec : cfg.codec = codec1) (p q junk : Bytes) (h : p ++ q = junk)
    (hh : JunkOK cfg junk) (hs : Small junk) (e : Err) (hj : (parse1 cfg.env junk).out = .error e)
    (f : Nat) (inTx : Bool) :
    seqLoop cfg (f + 1) p inTx = ((junkStep cfg.env p).1, (junkStep cfg.env p).2, inTx, false) := by
  unfold seqLoop
  rw [fastPathC_junk cfg _ p (hh.pre p q junk h), hcodec]
  simp only []
  unfold junkStep
  cases parse_junkPrefix cfg.env p q junk h hs e hj with
  | inl hi =>
    cases hout : (parseG codec1 cfg.env p).out with
    | incomplete k => simp [parse1, hout, Outcome.isIncomplete]
    | ok v k => simp [parse1, hout, Outcome.isIncomplete] at hi
    | error k => simp [parse1, hout, Outcome.isIncomplete] at hi
    | crash k => simp [parse1, hout, Outcome.isIncomplete] at hi
  | inr he =>
    have : (parseG codec1 cfg.env p).out = .error e := he
    simp [parse1, this, Outcome.isIncomplete]

/-- LEMMA S: complete command frames, then a junk prefix, in one buffer -/
theorem seqLoop_cmds_then_junk (cfg : Config) (h14 : DeadCfg cfg) (hcodec : cfg.codec = codec1)
    (p q junk : Bytes) (hpq : p ++ q = junk) (hh : JunkOK cfg junk) (hsj : Small junk) (e : Err)
    (hj : (parse1 cfg.env junk).out = .error e) :
    ∀ (left : List Cmd) (fuel : Nat) (inTx : Bool), (stream left).length < fuel → Small (stream left ++ p) →
      (∀ c ∈ left, CmdOK cfg c) →
      ∃ tx', seqLoop cfg fuel (stream left ++ p) inTx =
        (execAll left ++ (junkStep cfg.env p).1, (junkStep cfg.env p).2, tx', false) := by
  intro left fuel inTx hf hs hok
  have hl := length_le_stream left
  obtain ⟨tx', hseq⟩ := seqLoop_frames cfg h14 hcodec left (fuel - left.length) p inTx hs hok
  obtain ⟨f, hf'⟩ : ∃ f, fuel - left.length = f + 1 := ⟨fuel - left.length - 1, by omega⟩
  rw [show left.length + (fuel - left.length) = fuel by omega, hf',
    seqLoop_junkPrefix cfg hcodec p q junk hpq hh hsj e hj f tx'] at hseq
  exact ⟨tx', hseq⟩

/-- where the read loop stands between two reads of `stream left ++ junk` -/
def JInv (env : Env) (junk : Bytes) (left : List Cmd) (b0 : Bytes) : Prop :=
  match left with
  | c :: _ => b0.length < (encCmd c).length
  | [] => (∃ q, b0 ++ q = junk) ∧ (parse1 env b0).out.isIncomplete = true

theorem junkStep_incomplete (env : Env) (p : Bytes) (h : (parse1 env p).out.isIncomplete = true) : junkStep env p = ([], p) := by
  simp [junkStep, h]

theorem junkStep_decided (env : Env) (p : Bytes) (h : (parse1 env p).out.isIncomplete = false) : junkStep env p = ([.protoErr], []) := by
  simp [junkStep, h]

/-- by induction over the reads of any segmentation of `stream left ++ junk`, with `JInv` between them -/
theorem reads_junk_error (cfg : Config) (h14 : DeadCfg cfg) (hcodec : cfg.codec = codec1)
    (junk : Bytes) (hh : JunkOK cfg junk) (e : Err) (hj : (parse1 cfg.env junk).out = .error e) :
    ∀ (chunks : List Bytes) (left : List Cmd) (b0 : Bytes) (tx : Bool) (acts : List Action),
      b0 ++ chunks.flatten = stream left ++ junk → JInv cfg.env junk left b0 →
      Small (stream left ++ junk) → (stream left ++ junk).length ≤ cfg.maxBuffer → (∀ c ∈ left, CmdOK cfg c) →
      ∃ tail, (pureFold cfg (⟨b0, tx, false⟩, acts) chunks).2
        = acts ++ execAll left ++ Action.protoErr :: tail := by
  intro chunks
  induction chunks with
  | nil =>
    intro left b0 tx acts h hinv _ _ _
    rw [List.flatten_nil, List.append_nil] at h
    exfalso
    cases left with
    | cons c cs =>
      simp only [JInv] at hinv
      rw [h, stream_cons] at hinv
      simp at hinv
      omega
    | nil =>
      rw [show b0 = junk from h] at hinv
      have := hinv.2
      simp [hj, Outcome.isIncomplete] at this
  | cons ch chunks ih =>
    intro left b0 tx acts h hinv hs hmax hok
    rw [List.flatten_cons, ← List.append_assoc] at h
    have hlen := congrArg List.length h
    simp only [List.length_append] at hlen hmax
    have hsj : Small junk := by
      unfold Small at *; simp only [List.length_append] at hs; omega
    have hg : batchGate cfg tx ((b0 ++ ch).length + 1) (b0 ++ ch) = some ([], b0 ++ ch) := by
      cases left with
      | nil => exact batchGate_junk cfg tx _ _ (hh.pre _ chunks.flatten junk h)
      | cons c cs => exact batchGate_dead cfg h14 tx _ _ (dead14_frame (by rw [h, stream_cons, List.append_assoc]))
    obtain ⟨done, left', b', tx', e1, e3, e4, e5⟩ :=
      onRead_stream cfg h14 hcodec left b0 ch chunks.flatten junk tx h hs (by omega) hok hg
    have hl := stream_len_le done left'
    rw [← e1] at hl
    rw [pureFold_cons]
    cases left' with
    | cons c' cs' =>
      -- still inside the commands
      obtain ⟨hlt, hon⟩ := e4 c' cs' rfl
      obtain ⟨tail, ht⟩ := ih (c' :: cs') b' tx' (acts ++ execAll done) e3 hlt
        (by unfold Small at *; simp only [List.length_append] at hs ⊢; omega)
        (by simp only [List.length_append]; omega)
        (fun x hx => hok x (by rw [e1]; exact List.mem_append_right _ hx))
      exact ⟨tail, by rw [hon, ht, e1]; simp [execAll]⟩
    | nil =>
      -- every command is complete and `b'` is a prefix of the malformed frame
      obtain ⟨F, hF, hon⟩ := e5 rfl
      obtain ⟨F', rfl⟩ : ∃ F', F = F' + 1 := ⟨F - 1, by omega⟩
      rw [List.append_nil] at e1
      subst e1
      have e3' : b' ++ chunks.flatten = junk := e3
      rw [hon, seqLoop_junkPrefix cfg hcodec b' chunks.flatten junk e3' hh hsj e hj F' tx']
      cases hi : (parse1 cfg.env b').out.isIncomplete with
      | true =>
        rw [junkStep_incomplete _ _ hi]
        obtain ⟨tail, ht⟩ := ih [] b' tx' (acts ++ execAll left) e3 ⟨⟨chunks.flatten, e3'⟩, hi⟩
          (by simpa [stream] using hsj) (by simp [stream]; omega) nofun
        exact ⟨tail, by rw [List.append_nil, ht]; simp [execAll]⟩
      | false =>
        rw [junkStep_decided _ _ hi]
        obtain ⟨t, ht⟩ := reads_append cfg chunks ⟨[], tx', false⟩ (acts ++ (execAll left ++ [Action.protoErr]))
        exact ⟨t, by rw [ht]; simp⟩

theorem run_junk_error (cfg : Config) (h14 : DeadCfg cfg) (hcodec : cfg.codec = codec1) (hdepth : 1 ≤ cfg.env.depth)
    (cmds : List Cmd) (junk : Bytes) (segs : List Bytes) (h : segs.flatten = stream cmds ++ junk)
    (hh : JunkOK cfg junk) (e : Err) (hj : (parse1 cfg.env junk).out = .error e)
    (hs : Small (stream cmds ++ junk)) (hmax : (stream cmds ++ junk).length ≤ cfg.maxBuffer)
    (hok : ∀ c ∈ cmds, CmdOK cfg c) :
    ∃ tail, run cfg segs = execAll cmds ++ Action.protoErr :: tail := by
  have hinv : JInv cfg.env junk cmds [] := by
    cases cmds with
    | cons c cs => simp only [JInv]; have := encCmd_len_pos c; simp; omega
    | nil =>
      exact ⟨⟨junk, by simp⟩, by rw [parse1, parseG_empty codec1 cfg.env hdepth]; rfl⟩
  obtain ⟨tail, ht⟩ := reads_junk_error cfg h14 hcodec junk hh e hj
    (segs.flatMap (fun s => splitReads cfg.readSize s.length s)) cmds [] false []
    (by simp [flatMap_splitReads_flatten, h]) hinv hs hmax hok
  exact ⟨tail, by simpa [run, feedSegs, St.init, pureFold] using ht⟩

end RedisVerif.Conn
