import RedisVerif.Model.ShardsStr
import RedisVerif.Lemmas.Shards

/-! The small concrete executor satisfies the locality laws (`Exec.Local`). -/
namespace RedisVerif
namespace Shards
namespace Str

open NMap

theorem wf_put (s : St) (k : Key) (o : Option SVal) (h : WF s) : WF (put s k o) := by
  cases o with
  | none => exact wf_erase h
  | some v => exact wf_insert h

theorem get_put (s : St) (k : Key) (o : Option SVal) (h : WF s) (k' : Nat) :
    get (put s k o) k' = if k' = k then o else get s k' := by
  cases o with
  | none => exact get_erase h k'
  | some v => exact get_insert k'

theorem frame1 (s : St) (k : Key) (op : Op1) (k' : Nat) (h : WF s) (hk : k' ≠ k) :
    get (exec1 s k op).1 k' = get s k' := by
  show get (put s k _) k' = _
  rw [get_put s k _ h, if_neg hk]

theorem local1 (s s' : St) (k : Key) (op : Op1) (h : WF s) (h' : WF s') (he : get s k = get s' k) :
    (exec1 s k op).2 = (exec1 s' k op).2 ∧ get (exec1 s k op).1 k = get (exec1 s' k op).1 k := by
  show (slot1 op (get s k)).2 = (slot1 op (get s' k)).2 ∧
    get (put s k (slot1 op (get s k)).1) k = get (put s' k (slot1 op (get s' k)).1) k
  rw [get_put s k _ h, get_put s' k _ h', he]
  exact ⟨rfl, rfl⟩

theorem frame2 (s : St) (a b : Key) (op : Op2) (k' : Nat) (h : WF s) (ha : k' ≠ a) (hb : k' ≠ b) :
    get (exec2 s a b op).1 k' = get s k' := by
  show get (put (put s a _) b _) k' = _
  rw [get_put _ b _ (wf_put s a _ h), get_put s a _ h, if_neg hb, if_neg ha]

theorem local2 (s s' : St) (a b : Key) (op : Op2) (h : WF s) (h' : WF s')
    (hea : get s a = get s' a) (heb : get s b = get s' b) :
    (exec2 s a b op).2 = (exec2 s' a b op).2 ∧
    get (exec2 s a b op).1 a = get (exec2 s' a b op).1 a ∧
    get (exec2 s a b op).1 b = get (exec2 s' a b op).1 b := by
  unfold exec2
  simp only []
  rw [get_put _ b _ (wf_put s a _ h), get_put _ b _ (wf_put s' a _ h'),
    get_put _ b _ (wf_put s a _ h), get_put _ b _ (wf_put s' a _ h'),
    get_put s a _ h, get_put s' a _ h', hea, heb]
  exact ⟨rfl, rfl, by simp⟩

theorem exec_local : Str.exec.Local where
  wf1 := fun s k _ h => wf_put s k _ h
  frame1 := frame1
  local1 := local1
  wf2 := fun s a b _ h => wf_put _ b _ (wf_put s a _ h)
  frame2 := frame2
  local2 := local2

/-! ## the small executor's glob matcher is the reference model's (`RedisX.globMatch`) by definition -/

theorem classScanF_eq (c : Nat) (p : List Nat) : classScanF c p = RedisX.classScan c p := rfl

theorem globFuelF_eq (n : Nat) (p s : List Nat) : globFuelF n p s = RedisX.globFuel n p s := rfl

theorem globB_eq (p k : List Nat) : globB p k = RedisX.globMatch p k := globFuelF_eq _ p k

end Str
end Shards
end RedisVerif
