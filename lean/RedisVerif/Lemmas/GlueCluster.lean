import RedisVerif.Lemmas.GlueNode
import RedisVerif.Lemmas.ClusterInv

/-! C06 layer 2, cluster level: every supported step of a cluster of glue nodes keeps the node
    invariant of all nodes and is a run of steps (none, or one per sub-command the front end sends)
    of the layer-1 cluster of their replication states: the relation `Sim`. -/
namespace RedisVerif.Glue
open Redis

/-! ### from the recorder to the local operations of layer 1 -/

/-- the recorder either leaves the replication state alone (no delta) or performs exactly one
    local operation of the layer-1 model and hands back its delta -/
def RecLop (rs : Shard) (out : Shard × Option Delta) : Prop :=
  out = (rs, none) ∨
  ∃ (op : LOp) (d : RV), Shard.step rs op.toOp = (out.1, some d) ∧ out.2 = some (op.key, d)

theorem reclop_of_step (rs : Shard) (op : LOp) : RecLop rs (lopOut rs op) := by
  cases hd : (Shard.step rs op.toOp).2 with
  | none =>
    left
    simp only [lopOut, hd, Shard.local_none rs op hd]
    rfl
  | some d =>
    right
    refine ⟨op, d, ?_, ?_⟩
    · rw [← hd]; rfl
    · simp only [lopOut, hd]; rfl

theorem Acts.reclop {s s' : State} {rs : Shard} {out : Shard × Option Delta}
    (ha : Acts s rs s' out) : RecLop rs out := by
  rcases ha with ⟨_, rfl⟩ | ⟨op, _, rfl⟩
  · exact Or.inl rfl
  · exact reclop_of_step rs op

/-- a multi-key `DEL` is left out: the shard actor tombstones every key and hands back only the
    last key's delta, which is why `ReplicatedShardedState::execute` sends one `DEL` per key -/
theorem client_reclop {nd : Node} (h : GInv nd) (c : Cmd) (hd : ∀ ks, c = .del ks → ks.length ≤ 1) :
    RecLop nd.rs ((nd.client c).1.rs, (nd.client c).2.2) := by
  rw [client_eq]
  cases hr : recorded c with
  | true => exact (acts_client (ok_of_ginv h) hr hd).reclop
  | false => rw [clientOut_of_not_recorded hr]; exact Or.inl rfl

/-! ### the replication-state layer of a glue cluster is a layer-1 cluster -/

theorem proj_nodes_get (g : GCluster) (i : Nat) :
    g.proj.nodes[i]? = (g.nodes[i]?).map (·.rs) := by
  simp [GCluster.proj]

theorem proj_client_none {g : GCluster} {i : Nat} {nd : Node} {c : Cmd} (hn : g.nodes[i]? = some nd)
    (hrs : (nd.client c).1.rs = nd.rs) (hd : (nd.client c).2.2 = none) :
    (g.clientOne i c).proj = g.proj := by
  simp only [GCluster.clientOne, hn, hd, GCluster.proj, List.map_set, hrs]
  congr 1
  have hi : i < g.nodes.length := (List.getElem?_eq_some_iff.mp hn).1
  have hget : g.nodes[i] = nd := (List.getElem?_eq_some_iff.mp hn).2
  apply List.ext_getElem?
  intro j
  by_cases hj : i = j
  · subst hj
    simp [hi, hget]
  · simp [hj]

theorem proj_client_some {g : GCluster} {i : Nat} {nd : Node} {c : Cmd} {op : LOp} {d : RV}
    (hn : g.nodes[i]? = some nd)
    (hst : Shard.step nd.rs op.toOp = ((nd.client c).1.rs, some d))
    (hd : (nd.client c).2.2 = some (op.key, d)) :
    (g.clientOne i c).proj = g.proj.step (.loc i op) := by
  have hp : g.proj.nodes[i]? = some nd.rs := by rw [proj_nodes_get, hn]; rfl
  simp only [GCluster.clientOne, hn, hd, Cluster.step, hp, hst]
  simp only [GCluster.proj, List.map_set]

theorem proj_deliver (g : GCluster) (j idx : Nat) :
    (g.step (.deliver j idx)).proj = g.proj.step (.deliver j idx) := by
  simp only [GCluster.step, Cluster.step, proj_nodes_get]
  cases hn : g.nodes[j]? with
  | none => simp [GCluster.proj]
  | some nd =>
    have hs : g.proj.sent = g.sent := rfl
    rw [hs]
    cases hm : g.sent[idx]? with
    | none => simp [GCluster.proj]
    | some m =>
      simp only [Option.map_some]
      simp only [GCluster.proj, List.map_set, deliver_eq]

theorem proj_init (n : Nat) (causal : Bool) : (GCluster.init n causal).proj = Cluster.init n causal := by
  simp only [GCluster.proj, GCluster.init, Cluster.init, List.map_map]
  rfl

/-- every node of the cluster satisfies the node invariant -/
def AllInv (g : GCluster) : Prop := ∀ nd ∈ g.nodes, GInv nd

theorem allinv_init (n : Nat) (causal : Bool) : AllInv (GCluster.init n causal) := by
  intro nd hnd
  simp only [GCluster.init, List.mem_map] at hnd
  obtain ⟨i, _, rfl⟩ := hnd
  exact ginv_init _ _

theorem AllInv.set {g : GCluster} (h : AllInv g) (i : Nat) {nd : Node} (hnd : GInv nd) :
    ∀ x ∈ g.nodes.set i nd, GInv x := by
  intro x hx
  rcases Cluster.mem_set hx with hx | hx
  · subst hx; exact hnd
  · exact h x hx

/-- `Sim step g g'`: every node of `g'` satisfies the node invariant, and the replication-state
    layer of `g'` is reached from that of `g` by steps of layer 1 (`step` is `Cluster.step`, or
    `Cluster.stepR` where actors crash) -/
def Sim {β : Type} (step : Cluster → β → Cluster) (g g' : GCluster) : Prop :=
  AllInv g' ∧ ∃ evs : List β, g'.proj = evs.foldl step g.proj

theorem Sim.refl {β : Type} {step : Cluster → β → Cluster} {g : GCluster} (h : AllInv g) :
    Sim step g g := ⟨h, [], rfl⟩

theorem Sim.trans {β : Type} {step : Cluster → β → Cluster} {g g' g'' : GCluster}
    (h1 : Sim step g g') (h2 : Sim step g' g'') : Sim step g g'' :=
  let ⟨_, evs1, p1⟩ := h1
  let ⟨h, evs2, p2⟩ := h2
  ⟨h, evs1 ++ evs2, by rw [p2, p1, List.foldl_append]⟩

/-- a history without crashes is a history of the model with crashes in which none occurs -/
theorem Sim.withCrashes {g g' : GCluster} (h : Sim Cluster.step g g') : Sim Cluster.stepR g g' :=
  let ⟨h, evs, p⟩ := h
  ⟨h, evs.map .ev, by rw [p, List.foldl_map]; rfl⟩

/-- one command at the shard actor of node `i`: zero or one local operation of layer 1 -/
theorem sim_clientOne {g : GCluster} (h : AllInv g) (i : Nat) (c : Cmd)
    (hs : ∀ nd, g.nodes[i]? = some nd → unsupported nd (.client c) = none)
    (hd : ∀ ks, c = .del ks → ks.length ≤ 1) : Sim Cluster.step g (g.clientOne i c) := by
  cases hn : g.nodes[i]? with
  | none => simp only [GCluster.clientOne, hn]; exact .refl h
  | some nd =>
    have hnd := h nd (List.mem_of_getElem? hn)
    refine ⟨?_, ?_⟩
    · simp only [GCluster.clientOne, hn]
      split <;> exact h.set i (ginv_client hnd c (hs nd hn))
    · rcases client_reclop hnd c hd with hl | ⟨op, d, hst, hd⟩
      · simp only [Prod.mk.injEq] at hl
        exact ⟨[], proj_client_none hn hl.1 hl.2⟩
      · exact ⟨[.loc i op], proj_client_some hn hst hd⟩

/-- the sub-commands of a split `DEL` or `MSET`: recorded, one key each -/
theorem sim_fold (i : Nat) (cs : List Cmd) (hrec : ∀ c ∈ cs, recorded c = true)
    (hshort : ∀ c ∈ cs, ∀ ks, c = .del ks → ks.length ≤ 1) : ∀ g : GCluster, AllInv g →
    Sim Cluster.step g (cs.foldl (fun g c' => g.clientOne i c') g) := by
  induction cs with
  | nil => intro g h; exact .refl h
  | cons c cs ih =>
    intro g h
    have h1 := sim_clientOne h i c (fun nd _ => by simp [unsupported, hrec c (by simp)])
      (hshort c (by simp))
    exact h1.trans (ih (fun c' hc' => hrec c' (List.mem_cons_of_mem _ hc'))
      (fun c' hc' => hshort c' (List.mem_cons_of_mem _ hc')) _ h1.1)

theorem mset_ok (g : GCluster) (h : AllInv g) (i : Nat) (kvs : List (Nat × Redis.BS)) :
    Sim Cluster.step g (g.step (.client i (.mset kvs))) := by
  simp only [GCluster.step, splitCmd]
  refine sim_fold i _ ?_ ?_ g h <;> intro c hc <;> obtain ⟨p, _, rfl⟩ := List.mem_map.mp hc
  · rfl
  · intro ks hk; cases hk

theorem splitCmd_cases (c : Cmd) :
    (∃ ks, c = .del ks) ∨ (∃ kvs, c = .mset kvs) ∨ (splitCmd c = [c] ∧ ∀ ks, c ≠ .del ks) := by
  by_cases hd : ∃ ks, c = .del ks
  · exact Or.inl hd
  by_cases hm : ∃ kvs, c = .mset kvs
  · exact Or.inr (Or.inl hm)
  -- the last arm of `splitCmd`, by its own equation: no walk over the commands
  exact Or.inr (Or.inr ⟨splitCmd.eq_3 c (fun ks h => hd ⟨ks, h⟩) (fun kvs h => hm ⟨kvs, h⟩),
    fun ks h => hd ⟨ks, h⟩⟩)

/-- one supported step of the glue cluster keeps every node's invariant and is a (possibly
    empty) sequence of steps of the layer-1 cluster -/
theorem step_ok {g : GCluster} (h : AllInv g) (e : GEv) (hs : gunsupported g e = none) :
    Sim Cluster.step g (g.step e) := by
  cases e with
  | deliver j idx =>
    refine ⟨?_, [.deliver j idx], proj_deliver g j idx⟩
    simp only [GCluster.step]
    cases hn : g.nodes[j]? with
    | none => exact h
    | some nd =>
      cases hm : g.sent[idx]? with
      | none => exact h
      | some m =>
        simp only [gunsupported, hn, hm] at hs
        exact h.set j (ginv_deliver (h nd (List.mem_of_getElem? hn)) _ _ hs)
  | client i c =>
    have hone : ∀ c', c' = c → (∀ ks, c' = .del ks → ks.length ≤ 1) →
        Sim Cluster.step g (g.clientOne i c') := fun c' hc hshort =>
      sim_clientOne h i c' (fun nd hn => by subst hc; simpa only [gunsupported, hn] using hs) hshort
    rcases splitCmd_cases c with ⟨ks, rfl⟩ | ⟨kvs, rfl⟩ | ⟨hsp, hnd⟩
    · simp only [GCluster.step, splitCmd]
      by_cases hl : ks.length > 1
      · simp only [hl, if_true]
        refine sim_fold i _ ?_ ?_ g h <;> intro c hc <;> obtain ⟨k, _, rfl⟩ := List.mem_map.mp hc
        · rfl
        · intro ks hk; cases hk; simp
      · simp only [hl, if_false, List.foldl_cons, List.foldl_nil]
        exact hone (.del ks) rfl (fun ks' hk => by cases hk; omega)
    · exact mset_ok g h i kvs
    · simp only [GCluster.step, hsp, List.foldl_cons, List.foldl_nil]
      exact hone _ rfl (fun ks hk => absurd hk (hnd ks))

/-- a restarted actor satisfies the node invariant (it serves nothing and knows nothing), and the
    replication-state layer of the restarted cluster is the layer-1 restart -/
theorem restart_ok {g : GCluster} (h : AllInv g) (i : Nat) : Sim Cluster.stepR g (g.restart i) := by
  refine ⟨?_, [.restart i], ?_⟩
  · simp only [GCluster.restart]
    cases hn : g.nodes[i]? with
    | none => exact h
    | some nd => exact h.set i (ginv_init _ _)
  · simp only [GCluster.restart, List.foldl_cons, List.foldl_nil, Cluster.stepR, Cluster.restart,
      proj_nodes_get]
    cases hn : g.nodes[i]? with
    | none => rfl
    | some nd => simp [GCluster.proj, List.map_set, Node.init]

theorem run_proj (hist : List GEv) : ∀ (g : GCluster), AllInv g → GSupported g hist →
    Sim Cluster.step g (g.run hist) := by
  induction hist with
  | nil => intro g h _; exact .refl h
  | cons e hist ih =>
    intro g h hs
    have h1 := step_ok h e hs.1
    exact h1.trans (ih (g.step e) h1.1 hs.2)
end RedisVerif.Glue
