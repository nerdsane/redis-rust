import RedisVerif.Lemmas.Converge

/-!
A local write is a merge: the value a node stores after a local operation equals the merge of
the value it stored before with the delta it emits (on the stripped projection and within one
CRDT kind).  This is what lets every node's value be described as a least upper bound of the
deltas it has absorbed, whether it created them or received them.
-/
namespace RedisVerif

namespace Cluster

/-- stamped by this node, after its old clock and not after its new clock -/
def Fresh (c c' : Stamp) (r : Lww) : Prop :=
  r.ts.rid = c.rid ∧ c.time < r.ts.time ∧ r.ts.time ≤ c'.time

theorem fresh_mono {c c' c'' : Stamp} {r : Lww} (h : Fresh c c' r) (hle : c'.time ≤ c''.time) :
    Fresh c c'' r := ⟨h.1, h.2.1, Nat.le_trans h.2.2 hle⟩

end Cluster

namespace Shard

/-- Ord-level clock domination: no stored outer stamp is greater than the clock -/
def Inv2 (s : Shard) : Prop := ∀ p ∈ s.keys, s.clock.lt p.2.ts = false

/-- every stored value is in canonical form -/
def AllWF (s : Shard) : Prop := ∀ p ∈ s.keys, p.2.WF

/-- `new` absorbs `old` -/
def Below (old new : RV) : Prop := RV.merge old.strip new.strip = new.strip

/-- `h'` agrees with `h` except where it holds a register that the node stamped while its clock
    went from `c` to `c'` -/
def NewerMap (c c' : Stamp) (h h' : NMap Lww) : Prop :=
  NMap.WF h' ∧ ∀ k, NMap.get h' k = NMap.get h k ∨ ∃ r', NMap.get h' k = some r' ∧ Cluster.Fresh c c' r'

theorem newer_refl {c c' : Stamp} {h : NMap Lww} (hw : NMap.WF h) : NewerMap c c' h h :=
  ⟨hw, fun _ => Or.inl rfl⟩

theorem newer_insert {c c' : Stamp} {h h' : NMap Lww} (hn : NewerMap c c' h h') (f : Nat) (r : Lww)
    (hr : Cluster.Fresh c c' r) : NewerMap c c' h (NMap.insert f r h') := by
  refine ⟨NMap.wf_insert hn.1, ?_⟩
  intro k
  rw [NMap.get_insert]
  by_cases hk : k = f
  · right; exact ⟨r, by simp [hk], hr⟩
  · simp only [hk, if_false]; exact hn.2 k

theorem newer_mono {c c' c'' : Stamp} {h h' : NMap Lww} (hn : NewerMap c c' h h')
    (hle : c'.time ≤ c''.time) : NewerMap c c'' h h' :=
  ⟨hn.1, fun k => (hn.2 k).imp_right fun ⟨r', hr', hf⟩ => ⟨r', hr', Cluster.fresh_mono hf hle⟩⟩

theorem mem_newer {c c' : Stamp} {h h' : NMap Lww} (hn : NewerMap c c' h h') :
    ∀ p ∈ h', p ∈ h ∨ Cluster.Fresh c c' p.2 := by
  intro p hp
  have hg := NMap.get_of_mem hn.1 hp
  rcases hn.2 p.1 with he | ⟨r', hr', hf⟩
  · exact Or.inl (NMap.mem_of_get (he ▸ hg))
  · rw [hg] at hr'; cases hr'; exact Or.inr hf

/-- one step of `hash_set` / `hash_delete`: nothing, or a tick and a register stamped with it -/
def TickStep {β : Type} (step : Stamp × NMap Lww → β → Stamp × NMap Lww) : Prop :=
  ∀ acc x, step acc x = acc ∨
    ∃ f r, r.ts = acc.1.tick ∧ step acc x = (acc.1.tick, NMap.insert f r acc.2)

theorem tick_hashSet : TickStep hashSetStep :=
  fun _ _ => Or.inr ⟨_, _, rfl, rfl⟩

theorem tick_hashDel : TickStep hashDelStep := by
  intro acc f
  unfold hashDelStep
  split
  · exact Or.inr ⟨_, _, rfl, rfl⟩
  · exact Or.inl rfl

theorem tick_fold_newer {β : Type} {step : Stamp × NMap Lww → β → Stamp × NMap Lww} (hs : TickStep step)
    (xs : List β) (c0 c : Stamp) (h h' : NMap Lww) (hc : c0.time ≤ c.time) (hr : c.rid = c0.rid)
    (hn : NewerMap c0 c h h') :
    NewerMap c0 (xs.foldl step (c, h')).1 h (xs.foldl step (c, h')).2 := by
  induction xs generalizing c h' with
  | nil => exact hn
  | cons x xs ih =>
    rw [List.foldl_cons]
    rcases hs (c, h') x with he | ⟨f, r, hrt, he⟩ <;> rw [he]
    · exact ih c h' hc hr hn
    · exact ih _ _ (by simp; omega) (by simp [hr])
        (newer_insert (newer_mono hn (Nat.le_succ _)) _ _
          ⟨by rw [hrt]; simpa using hr, by rw [hrt]; simp; omega, by rw [hrt]; exact Nat.le_refl _⟩)

/-- the fold started at the node's clock -/
theorem tick_fold_newer0 {β : Type} {step : Stamp × NMap Lww → β → Stamp × NMap Lww} (hs : TickStep step)
    (xs : List β) (c : Stamp) (h : NMap Lww) (hw : NMap.WF h) :
    NewerMap c (xs.foldl step (c, h)).1 h (xs.foldl step (c, h)).2 :=
  tick_fold_newer hs xs c c h h (Nat.le_refl _) rfl (newer_refl hw)

/-- `DEL` of a hash: one tick, every field tombstoned with it -/
theorem newer_delAll (c : Stamp) {h : NMap Lww} (hw : NMap.WF h) :
    NewerMap c c.tick h (NMap.mapVal (fun _ => Lww.delete c.tick) h) := by
  refine ⟨NMap.wf_mapVal _ hw, fun f => ?_⟩
  rw [NMap.get_mapVal]
  cases NMap.get h f with
  | none => exact Or.inl rfl
  | some r => exact Or.inr ⟨_, rfl, rfl, Nat.lt_succ_self _, Nat.le_refl _⟩

theorem merge_newer {c c' : Stamp} {h h' : NMap Lww} (hw : NMap.WF h) (hn : NewerMap c c' h h')
    (hT : ∀ p ∈ h, p.2.ts.time ≤ c.time) : NMap.merge Lww.merge h h' = h' := by
  apply NMap.ext (NMap.wf_merge hw hn.1) hn.1
  intro k
  rw [NMap.get_merge hw hn.1]
  rcases hn.2 k with heq | ⟨r', hr', hf⟩
  · rw [heq]
    exact NMap.optMerge_idem (fun u _ => Lww.merge_idem u)
  · rw [hr']
    cases hg : NMap.get h k with
    | none => rfl
    | some r =>
      simp only [optMerge]
      have : r.ts.time ≤ c.time := hT (k, r) (NMap.mem_of_get hg)
      have hlt' : r.ts.lt r'.ts = true := Stamp.lt_of_time_lt (by have := hf.2.1; omega)
      simp [Lww.merge, hlt']

theorem stamp_max_of_not_lt {a b : Stamp} (h : b.lt a = false) : Stamp.max a b = b := by
  unfold Stamp.max
  cases h1 : a.lt b
  · simp; exact Stamp.eq_of_not_lt h1 h
  · simp

theorem lww_absorb (old new : RV) (r r' : Lww) (ho : old.crdt = .lww r) (hn : new.crdt = .lww r')
    (hr : r.ts.lt r'.ts = true) (hts : new.ts.lt old.ts = false) : Below old new := by
  unfold Below
  obtain ⟨oc, ov, oe, ot, orf⟩ := old
  obtain ⟨nc, nv, ne, nt, nrf⟩ := new
  simp only at ho hn hts
  subst ho hn
  simp [RV.strip, RV.merge, RV.mergeWith, RV.stampMerge, Crdt.mergeWithTimestamps, Crdt.tryMerge,
    Lww.merge, hr, optMerge, stamp_max_of_not_lt hts]

theorem hash_absorb (old new : RV) (h h' : NMap Lww) {c c' : Stamp} (ho : old.crdt = .hash h)
    (hn : new.crdt = .hash h') (hw : NMap.WF h) (hnew : NewerMap c c' h h')
    (hT : ∀ p ∈ h, p.2.ts.time ≤ c.time) (hts : new.ts.lt old.ts = false) : Below old new := by
  unfold Below
  obtain ⟨oc, ov, oe, ot, orf⟩ := old
  obtain ⟨nc, nv, ne, nt, nrf⟩ := new
  simp only at ho hn hts
  subst ho hn
  simp [RV.strip, RV.merge, RV.mergeWith, RV.stampMerge, Crdt.mergeWithTimestamps, Crdt.tryMerge,
    optMerge, stamp_max_of_not_lt hts, merge_newer hw hnew hT]

theorem below_self (v : RV) (hw : v.WF) : Below v v := by
  unfold Below
  exact C07.rv_merge_idem v.strip (RV.strip_wf hw)

end Shard
end RedisVerif
