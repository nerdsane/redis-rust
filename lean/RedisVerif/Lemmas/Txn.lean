import RedisVerif.Model.Txn

/-
  Helper lemmas for C05 about the schedule bookkeeping of `Txn.checkWatch` / `Txn.runQueue`.
-/
namespace RedisVerif
namespace Txn

variable {σ κ γ ρ : Type}

theorem foreign_nil (B : Backend σ κ γ ρ) (s : σ) : foreign B s [] = s := rfl

theorem foreign_append (B : Backend σ κ γ ρ) (s : σ) (a b : List γ) :
    foreign B s (a ++ b) = foreign B (foreign B s a) b := by
  simp [foreign, List.foldl_append]

theorem headD_append_tail_flatten {α : Type} (sc : List (List α)) : sc.headD [] ++ sc.tail.flatten = sc.flatten := by
  cases sc <;> rfl

/-- applying the head slot and then everything that is left = applying the whole schedule -/
theorem foreign_head_tail (B : Backend σ κ γ ρ) (s : σ) (sc : List (List γ)) :
    foreign B (foreign B s (sc.headD [])) sc.tail.flatten = foreign B s sc.flatten := by
  rw [← foreign_append, headD_append_tail_flatten]

theorem noInterleaving_nil : NoInterleaving ([] : List (List γ)) := by
  simp [NoInterleaving]

theorem noInterleaving_flatten {sc : List (List γ)} (h : NoInterleaving sc) : sc.flatten = [] :=
  List.flatten_eq_nil_iff.2 fun l hl => List.isEmpty_iff.1 (List.all_eq_true.1 h l hl)

/-- phase 1 of EXEC contributes nothing of its own to the store: what it has applied plus what is
    left of the schedule is exactly the schedule -/
theorem checkWatch_foreign [DecidableEq ρ] (B : Backend σ κ γ ρ) (ws : List (κ × ρ)) :
    ∀ (sc : List (List γ)) (s : σ),
      foreign B (checkWatch B sc s ws).2.1 (checkWatch B sc s ws).1.flatten = foreign B s sc.flatten := by
  induction ws with
  | nil => intro sc s; rfl
  | cons p rest ih =>
    intro sc s
    obtain ⟨k, old⟩ := p
    simp only [checkWatch]
    split
    · rw [ih]; exact foreign_head_tail B s sc
    · exact foreign_head_tail B s sc

theorem runQueue_length (B : Backend σ κ γ ρ) (q : List γ) :
    ∀ (sc : List (List γ)) (s : σ), (runQueue B sc s q).2.2.length = q.length := by
  induction q with
  | nil => intro sc s; rfl
  | cons c cs ih => intro sc s; simp [runQueue, ih]

theorem runSeq_length (B : Backend σ κ γ ρ) (q : List γ) :
    ∀ (s : σ), (runSeq B s q).2.length = q.length := by
  induction q with
  | nil => intro s; rfl
  | cons c cs ih => intro s; simp [runSeq, ih]

theorem runSeq_append (B : Backend σ κ γ ρ) (a b : List γ) :
    ∀ (s : σ), runSeq B s (a ++ b) =
      ((runSeq B (runSeq B s a).1 b).1, (runSeq B s a).2 ++ (runSeq B (runSeq B s a).1 b).2) := by
  induction a with
  | nil => intro s; rfl
  | cons c cs ih => intro s; simp [runSeq, ih]

/-- `∃ a, o = some a ∧ P a` is decided by looking at `o`.  Not an instance: the examples that enumerate
    a hypothesis of this form make it one locally. -/
@[reducible] def decExistsEqSome {α : Type} {o : Option α} {P : α → Prop} [DecidablePred P] :
    Decidable (∃ a, o = some a ∧ P a) :=
  match o with
  | none => isFalse (fun ⟨_, h, _⟩ => nomatch h)
  | some a => decidable_of_iff (P a) ⟨fun h => ⟨a, rfl, h⟩, fun ⟨_, h, p⟩ => by cases h; exact p⟩

end Txn
end RedisVerif
