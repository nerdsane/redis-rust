import RedisVerif.Lemmas.Redis

/-! Lists: `putList`, the two ends, and the reading commands. -/
namespace RedisVerif.Redis
open RedisVerif

variable {s : State}

theorem putList_of_ne_nil {k : Nat} {l : List BS} {dl : Option Nat} (h : l ≠ []) :
    putList s k l dl = NMap.insert k ⟨.list l, dl⟩ s := by
  cases l with
  | nil => exact absurd rfl h
  | cons _ _ => rfl

theorem popSide_of_ne_nil (side : Side) {l : List BS} (hl : l ≠ []) :
    ∃ x rest, popSide side l = some (x, rest) ∧ rest.length + 1 = l.length := by
  cases side with
  | left =>
    cases l with
    | nil => exact absurd rfl hl
    | cons x xs => exact ⟨x, xs, rfl, rfl⟩
  | right =>
    refine ⟨l.getLast hl, l.dropLast, by simp [popSide, List.getLast?_eq_some_getLast hl], ?_⟩
    have := List.length_pos_iff.mpr hl
    rw [List.length_dropLast]; omega

theorem length_pushOne (side : Side) (l : List BS) (x : BS) :
    (pushOne side l x).length = l.length + 1 := by
  cases side <;> simp [pushOne]

theorem pushOne_ne_nil (side : Side) (l : List BS) (x : BS) : pushOne side l x ≠ [] := by
  cases side <;> simp [pushOne]

theorem execLLen_ro (s : State) (k : Nat) : (execLLen s k).1 = s := by
  unfold execLLen; split <;> rfl

theorem execLIndex_ro (s : State) (k : Nat) (i : Int) : (execLIndex s k i).1 = s := by
  unfold execLIndex
  split
  · rfl
  · rfl
  · split
    · rfl
    · split <;> rfl

theorem execLRange_ro (s : State) (k : Nat) (a b : Int) : (execLRange s k a b).1 = s := by
  unfold execLRange; split <;> rfl

theorem pushMany_ne_nil (side : Side) (l vs : List BS) (h : l ≠ [] ∨ vs ≠ []) : pushMany side l vs ≠ [] := by
  -- `vs.reverse ++ l` and `l ++ vs` are empty only if both parts are
  cases side <;> simp only [pushMany] <;> intro hh <;> simp at hh <;> rcases h with h | h <;> simp_all

end RedisVerif.Redis
