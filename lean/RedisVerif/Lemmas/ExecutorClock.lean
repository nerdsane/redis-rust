import RedisVerif.Lemmas.ExecutorExpire

/-! The clock of the executor: `set_time` (= `evict_expired_keys` after the assignment; also
    `evict_expired_direct`) and `update_time_readonly`, against M7's `purge`. -/
set_option linter.unusedSimpArgs false

namespace RedisVerif.Executor
open RedisVerif RedisVerif.Redis

theorem evict_exp {c : CState} (h : CInv c) (k : Nat) :
    NMap.get (evict c).exp k = if isExpired c k then none else NMap.get c.exp k := by
  unfold evict
  simp only []
  rw [NMap.get_filter (fun p => !decide (p.2 ≤ c.now)) h.wfe]
  unfold isExpired
  cases NMap.get c.exp k with
  | none => simp
  | some d => by_cases hd : d ≤ c.now <;> simp [Option.filter, hd]

theorem evict_data (c : CState) (k : Nat) :
    NMap.get (evict c).data k = if isExpired c k then none else NMap.get c.data k := by
  unfold evict
  simp only []
  rw [NMap.get_filter_key (fun k => !isExpired c k)]
  cases isExpired c k <;> simp

theorem evict_isExpired {c : CState} (h : CInv c) (k : Nat) : isExpired (evict c) k = false := by
  have hn : (evict c).now = c.now := rfl
  unfold isExpired
  rw [evict_exp h, hn]
  by_cases hx : isExpired c k = true
  · simp [hx]
  · have hx' : isExpired c k = false := by simpa using hx
    simp only [hx', Bool.false_eq_true, if_false]
    exact hx'

/-- `evict_expired_keys` keeps the invariant -/
theorem evict_inv {c : CState} (h : CInv c) : CInv (evict c) where
  wfd := NMap.wf_filter _ h.wfd
  wfe := NMap.wf_filter _ h.wfe
  sub := fun k hk => by
    rw [evict_exp h] at hk
    rw [evict_data c]
    by_cases hx : isExpired c k = true
    · simp [hx] at hk
    · have hx' : isExpired c k = false := by simpa using hx
      simp only [hx', Bool.false_eq_true, if_false] at hk ⊢
      exact h.sub k hk
  ok := fun p hp => h.ok p (List.mem_filter.mp hp).1
  timeOk := h.timeOk
  dlOk := fun k d hd => by
    rw [evict_exp h] at hd
    by_cases hx : isExpired c k = true
    · simp [hx] at hd
    · have hx' : isExpired c k = false := by simpa using hx
      simp only [hx', Bool.false_eq_true, if_false] at hd
      exact h.dlOk k d hd

theorem evict_absP {c : CState} (h : CInv c) : absP (evict c) = absP c := by
  apply absP_congr h.wfd (evict_inv h).wfd
  intro k
  have he : (evict c).epoch = c.epoch := rfl
  unfold entryAt absEntry
  rw [evict_isExpired h, evict_data c, evict_exp h, he]
  by_cases hx : isExpired c k = true
  · simp [hx]
  · have hx' : isExpired c k = false := by simpa using hx
    simp [hx']

/-- every entry `evict` leaves is strictly in the future: invariant 2 of `verify_invariants` -/
theorem evict_all_future {c : CState} (h : CInv c) (k d : Nat) (hd : NMap.get (evict c).exp k = some d) :
    c.now < d := by
  rw [evict_exp h] at hd
  by_cases hx : isExpired c k = true
  · simp [hx] at hd
  · have hx' : isExpired c k = false := by simpa using hx
    simp only [hx', Bool.false_eq_true, if_false] at hd
    exact notExp_lt hx' hd

theorem abs_now (cs : CState) (t : Nat) : abs { cs with now := t } = abs cs := rfl

/-- moving the clock forward without eviction: M7's state purged at the new instant -/
theorem clockRO_absP (cs : CState) {t : Nat} (hle : cs.now ≤ t) :
    absP (updateTimeReadonly cs t) = purge (absP cs) (cs.epoch + t) := by
  unfold updateTimeReadonly absP
  rw [abs_now]
  have : unix { cs with now := t } = cs.epoch + t := rfl
  rw [this, purge_purge_le (abs cs) (by unfold unix; omega)]

theorem clockRO_inv {cs : CState} (h : CInv cs) {t : Nat} (ht : cs.epoch + t ≤ 9223372036854775807) :
    CInv (updateTimeReadonly cs t) where
  wfd := h.wfd
  wfe := h.wfe
  sub := h.sub
  ok := h.ok
  timeOk := ht
  dlOk := h.dlOk

theorem setTime_inv {cs : CState} (h : CInv cs) {t : Nat} (ht : cs.epoch + t ≤ 9223372036854775807) :
    CInv (setTime cs t) := evict_inv (clockRO_inv h ht)

theorem setTime_absP {cs : CState} (h : CInv cs) {t : Nat} (hle : cs.now ≤ t)
    (ht : cs.epoch + t ≤ 9223372036854775807) :
    absP (setTime cs t) = purge (absP cs) (cs.epoch + t) := by
  show absP (evict (updateTimeReadonly cs t)) = _
  rw [evict_absP (clockRO_inv h ht)]
  exact clockRO_absP cs hle

end RedisVerif.Executor
