import RedisVerif.Lemmas.ExecutorColl

/-! Refinement of the list commands of `Model.ExecutorColl` (list_ops.rs) to M7. -/
set_option linter.unusedSimpArgs false

namespace RedisVerif.Executor
open RedisVerif RedisVerif.Redis

theorem cPush_sim {cs : CState} (h : CInv cs) (side : Side) (k : Nat) (vs : List BS) (hvs : vs ≠ []) :
    SimF cs (fun s => execPush side s k vs) (cPush side cs k vs) := by
  unfold cPush
  ld h k
  -- M7's `execPush` begins with a `match` on the argument list (`[]` is a syntax error), so `vs` is opened
  obtain ⟨v0, vs0, rfl⟩ : ∃ a b, vs = a :: b := by cases vs with | nil => exact absurd rfl hvs | cons a b => exact ⟨a, b, rfl⟩
  rcases ho : NMap.get c.data k with _ | w <;> rw [ho] at g
  · have hne := pushMany_ne_nil side [] (v0 :: vs0) (Or.inr hvs)
    exact g.putNew (v := .list (pushMany side [] (v0 :: vs0))) hne (by
      simp only [execPush, lookupList, g.look_none, putList_eq])
  · cases w
    case list l =>
      have hne := pushMany_ne_nil side l (v0 :: vs0) (Or.inl (valueOk_get g.inv ho))
      exact g.put (v := .list (pushMany side l (v0 :: vs0))) hne (by
        simp only [execPush, lookupList, g.look_some, putList_eq])
    all_goals exact g.wrong (by simp only [execPush, lookupList, g.look_some])

theorem cLLen_sim {cs : CState} (h : CInv cs) (k : Nat) : Sim cs (.llen k) (cLLen cs k) :=
  simF_list h k (fun _ _ g => g.keep rfl) (fun _ g => g.keep rfl)

theorem cLRange_sim {cs : CState} (h : CInv cs) (k : Nat) (a b : Int) :
    Sim cs (.lrange k a b) (cLRange cs k a b) :=
  simF_list h k (fun _ _ g => g.keep rfl) (fun _ g => g.keep rfl)

theorem lrangeNorm_single (len n : Nat) (hn : n < len) : lrangeNorm len n n = some (n, 1) := by
  unfold lrangeNorm normIdx clampEnd
  have h1 : ¬ ((n : Int) < 0) := by omega
  rw [if_neg h1, if_neg h1]
  rw [if_neg (by omega)]
  rw [if_neg (by omega)]
  have h4 : ((n : Int) - (n : Int) + 1).toNat = 1 := by omega
  have h5 : (n : Int).toNat = n := by omega
  rw [h4, h5]

/-- `range(n, n).first()` is the n-th element -/
theorem listAt_eq (l : List BS) (n : Nat) (hn : n < l.length) :
    listAt l n = (match l[n]? with | none => Reply.nil | some x => Reply.bulk x) := by
  unfold listAt
  rw [lrangeNorm_single l.length n hn]
  simp only [slice]
  have hd : l.drop n = l[n] :: l.drop (n + 1) := (List.drop_eq_getElem_cons hn)
  rw [hd, List.getElem?_eq_getElem hn]
  rfl

theorem listIdx_none {len : Nat} {i : Int}
    (h : (i < 0 ∧ (len : Int) + i < 0) ∨ (¬ i < 0 ∧ i ≥ (len : Int))) : listIdx len i = none := by
  unfold listIdx
  rcases h with ⟨hi, h2⟩ | ⟨hi, h2⟩
  · simp only [hi, if_true]; rw [if_pos (by omega)]
  · simp only [hi, if_false, false_or]; rw [if_pos (by omega)]

theorem listIdx_some {len : Nat} {i : Int} (n : Nat)
    (h : (i < 0 ∧ ¬ (len : Int) + i < 0 ∧ n = ((len : Int) + i).toNat) ∨
         (¬ i < 0 ∧ ¬ i ≥ (len : Int) ∧ n = i.toNat)) : listIdx len i = some n := by
  unfold listIdx
  rcases h with ⟨hi, h2, h3⟩ | ⟨hi, h2, h3⟩
  · simp only [hi, if_true]; rw [if_neg (by omega)]; congr 1; omega
  · simp only [hi, if_false, false_or]; rw [if_neg (by omega)]; congr 1; omega

theorem cLIndex_sim {cs : CState} (h : CInv cs) (k : Nat) (i : Int) :
    Sim cs (.lindex k i) (cLIndex cs k i) :=
  simF_list h k
    (fun c l g => by
      by_cases hi : i < 0
      · simp only [hi, if_true]
        by_cases h2 : (l.length : Int) + i < 0
        · simp only [h2, if_true]
          exact g.keep (by simp only [listIdx_none (Or.inl ⟨hi, h2⟩)])
        · simp only [h2, if_false]
          rw [listAt_eq l _ (by omega)]
          exact g.keep (by
            simp only [listIdx_some ((l.length : Int) + i).toNat (Or.inl ⟨hi, h2, rfl⟩)]
            cases l[((l.length : Int) + i).toNat]? <;> rfl)
      · simp only [hi, if_false]
        by_cases h2 : i ≥ (l.length : Int)
        · simp only [h2, if_true]
          exact g.keep (by simp only [listIdx_none (Or.inr ⟨hi, h2⟩)])
        · simp only [h2, if_false]
          rw [listAt_eq l _ (by omega)]
          exact g.keep (by
            simp only [listIdx_some i.toNat (Or.inr ⟨hi, h2, rfl⟩)]
            cases l[i.toNat]? <;> rfl))
    (fun _ g => g.keep rfl)

theorem cPop_sim {cs : CState} (h : CInv cs) (side : Side) (k : Nat) :
    SimF cs (fun s => execPop side s k) (cPop side cs k) :=
  simF_list h k
    (fun c l g => by
      obtain ⟨x, rest, hp, _⟩ := popSide_of_ne_nil side (valueOk_get g.inv g.val : l ≠ [])
      simp only [hp]
      exact g.putBack (v := .list rest) trivial (by rw [putList_eq]))
    (fun _ g => g.keep rfl)

theorem set_ne_nil {l : List BS} (h : l ≠ []) (n : Nat) (v : BS) : l.set n v ≠ [] := by
  intro hh
  have := congrArg List.length hh
  simp at this
  exact h this

theorem cLSet_sim {cs : CState} (h : CInv cs) (k : Nat) (i : Int) (v : BS) :
    Sim cs (.lset k i v) (cLSet cs k i v) := by
  show SimF cs (fun s => execLSet s k i v) _
  unfold cLSet
  ld h k
  rcases ho : NMap.get c.data k with _ | w <;> rw [ho] at g
  · exact g.keep (by simp only [execLSet, lookupList, g.look_none])
  · cases w
    case list l =>
      cases hi : listIdx l.length i <;> simp only [hi]
      · exact g.keep (by simp only [execLSet, lookupList, g.look_some, hi])
      · rename_i n
        have hne := set_ne_nil (valueOk_get g.inv ho : l ≠ []) n v
        exact g.put (v := .list (l.set n v)) hne (by
          simp only [execLSet, lookupList, g.look_some, hi, putList_eq])
    all_goals exact g.wrong (by simp only [execLSet, lookupList, g.look_some])

theorem cLTrim_sim {cs : CState} (h : CInv cs) (k : Nat) (a b : Int) :
    Sim cs (.ltrim k a b) (cLTrim cs k a b) := by
  show SimF cs (fun s => execLTrim s k a b) _
  unfold cLTrim
  ld h k
  rcases ho : NMap.get c.data k with _ | w <;> rw [ho] at g
  · exact g.keep (by simp only [execLTrim, lookupList, g.look_none])
  · cases w
    case list l =>
      exact g.putBack (v := .list (slice l (lrangeNorm l.length a b))) trivial
        (by simp only [execLTrim, lookupList, g.look_some, putList_eq])
    all_goals exact g.wrong (by simp only [execLTrim, lookupList, g.look_some])

end RedisVerif.Executor
