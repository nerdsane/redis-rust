import RedisVerif.Lemmas.Conn

/-
  The command-name extractor of the shadow proxy (`Resp.proxyName`, src/bin/shadow_proxy.rs) against
  the frames a client writes.
-/
namespace RedisVerif.Resp

theorem splitCrlf_noCR : ∀ (s rest : Bytes), 13 ∉ s → splitCrlf (s ++ 13 :: 10 :: rest) = s :: splitCrlf rest := by
  intro s
  induction s with
  | nil => intro rest _; simp [splitCrlf]
  | cons x xs ih =>
    intro rest h
    simp only [List.mem_cons, not_or] at h
    have hx : x ≠ 13 := fun e => h.1 e.symm
    have := ih rest h.2
    cases hxs : xs ++ 13 :: 10 :: rest with
    | nil => simp at hxs
    | cons y ys =>
      simp only [List.cons_append, hxs]
      rw [splitCrlf]
      simp only [hx, false_and, if_false]
      rw [← hxs, this]

/-- the proxy and the server agree on the NAME of a well-formed command whose name contains no
    CR (and whose buffer is UTF-8 altogether): the upper-cased first argument -/
theorem proxyName_frame (name : Bytes) (args : List Bytes) (rest : Bytes) (hcr : 13 ∉ name)
    (hu : validUtf8 (Conn.encCmd (name :: args) ++ rest) = true) :
    proxyName (Conn.encCmd (name :: args) ++ rest) = some (upperA name) := by
  have henc : Conn.encCmd (name :: args) ++ rest =
      (42 :: dec (args.length + 1)) ++ 13 :: 10 :: ((36 :: dec name.length) ++ 13 :: 10 :: (name ++ 13 :: 10 ::
        (encode2ListS true (args.map Val.bulk) ++ rest))) := by
    simp [Conn.encCmd, Conn.cmdFrame, encode2, encode2S, encode2ListS, crlf]
  unfold proxyName
  rw [hu]
  rw [henc]
  have h1 : 13 ∉ (42 :: dec (args.length + 1)) := by
    simp only [List.mem_cons, not_or]; exact ⟨by decide, dec_noCR _⟩
  have h2 : 13 ∉ (36 :: dec name.length) := by
    simp only [List.mem_cons, not_or]; exact ⟨by decide, dec_noCR _⟩
  rw [splitCrlf_noCR _ _ h1, splitCrlf_noCR _ _ h2, splitCrlf_noCR _ _ hcr]
  simp
end RedisVerif.Resp
