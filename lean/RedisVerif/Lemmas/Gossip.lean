import RedisVerif.Model.Gossip
import RedisVerif.Lemmas.NMap
import RedisVerif.Lemmas.ClusterInv

/-!
  Lemmas for the message-level model (`Model/Gossip.lean`): what sits in a queue or on the wire
  is always a delta of the history, and a received frame is a run of layer-1 `deliver` events.
-/
namespace RedisVerif
namespace Gossip

theorem mem_enforceCap {α : Type} {cap : Nat} {q : List α} {x : α} (h : x ∈ enforceCap cap q) : x ∈ q := by
  unfold enforceCap at h
  split at h
  · exact List.mem_of_mem_drop h
  · exact h

theorem enforceCap_eq_drop {α : Type} (cap : Nat) (q : List α) : enforceCap cap q = q.drop (q.length - cap) := by
  unfold enforceCap
  split
  · rfl
  · rename_i h
    have : q.length - cap = 0 := by omega
    rw [this]; rfl

theorem enforceCap_length_le {α : Type} (cap : Nat) (q : List α) : (enforceCap cap q).length ≤ cap := by
  rw [enforceCap_eq_drop, List.length_drop]; omega

theorem enforceCap_of_le {α : Type} {cap : Nat} {q : List α} (h : q.length ≤ cap) : enforceCap cap q = q := by
  unfold enforceCap
  split
  · omega
  · rfl

theorem overflow_of_le {α : Type} {cap : Nat} {q : List α} (h : q.length ≤ cap) : overflow cap q = [] := by
  unfold overflow
  split
  · omega
  · rfl

theorem overflow_append_enforceCap {α : Type} (cap : Nat) (q : List α) :
    overflow cap q ++ enforceCap cap q = q := by
  unfold overflow enforceCap
  split
  · exact List.take_append_drop _ _
  · rfl

theorem mem_ofList {ν : Type} {l : List (Nat × ν)} {p : Nat × ν} (h : p ∈ NMap.ofList l) : p ∈ l := by
  have gen : ∀ (l : List (Nat × ν)) (m : NMap ν), p ∈ l.foldl (fun m q => NMap.insert q.1 q.2 m) m →
      p ∈ m ∨ p ∈ l := by
    intro l
    induction l with
    | nil => intro m h; exact Or.inl h
    | cons q l ih =>
      intro m h
      simp only [List.foldl_cons] at h
      rcases ih _ h with h | h
      · rcases NMap.mem_insert h with h | h
        · right; rw [h]; exact List.mem_cons_self
        · exact Or.inl h
      · exact Or.inr (List.mem_cons_of_mem _ h)
  rcases gen l [] h with h | h
  · cases h
  · exact h

theorem peerMap_mem {cfg : NodeCfg} {t addr : Nat} (h : NMap.get (peerMap cfg) t = some addr) :
    addr ∈ cfg.peers := by
  have := mem_ofList (NMap.mem_of_get h)
  simp only [peerMap, List.mem_map] at this
  obtain ⟨q, hq, he⟩ := this
  have := (List.of_mem_zip hq).2
  simp only [Prod.mk.injEq] at he
  rw [← he.2]; exact this

/-! ## routing: the row of a target holds the given deltas whose key names it -/

/-- the deltas filed under target `t` -/
def rowOf (tbl : NMap (List Msg)) (t : Nat) : List Msg := (NMap.get tbl t).getD []

/-- `routing_table.entry(tg).or_default().push(d)` -/
def file (tbl : NMap (List Msg)) (tg : Nat) (d : Msg) : NMap (List Msg) := NMap.insert tg (rowOf tbl tg ++ [d]) tbl

theorem mem_rowOf {tbl : NMap (List Msg)} {t : Nat} {m : Msg} :
    m ∈ rowOf tbl t ↔ ∃ row, NMap.get tbl t = some row ∧ m ∈ row := by
  unfold rowOf
  cases NMap.get tbl t <;> simp

theorem rowOf_file (tbl : NMap (List Msg)) (tg : Nat) (d : Msg) (t : Nat) :
    rowOf (file tbl tg d) t = if t = tg then rowOf tbl t ++ [d] else rowOf tbl t := by
  unfold rowOf file
  rw [NMap.get_insert]
  split
  · rename_i h; rw [h]; rfl
  · rfl

/-- filing a list of (target, delta) pairs: a row holds what it held and what was filed under it -/
theorem mem_rowOf_foldl (l : List (Nat × Msg)) : ∀ (tbl : NMap (List Msg)) (t : Nat) (m : Msg),
    m ∈ rowOf (l.foldl (fun tbl x => file tbl x.1 x.2) tbl) t ↔ m ∈ rowOf tbl t ∨ (t, m) ∈ l := by
  induction l with
  | nil => intro tbl t m; simp
  | cons x l ih =>
    intro tbl t m
    rw [List.foldl_cons, ih, rowOf_file]
    obtain ⟨tg, d⟩ := x
    by_cases h : t = tg
    · subst h; simp [or_assoc]
    · simp [h]

theorem wf_foldl_file (l : List (Nat × Msg)) : ∀ (tbl : NMap (List Msg)), NMap.WF tbl →
    NMap.WF (l.foldl (fun tbl x => file tbl x.1 x.2) tbl) := by
  induction l with
  | nil => intro tbl h; exact h
  | cons x l ih => intro tbl h; exact ih _ (NMap.wf_insert h)

/-- `route_selective` files every delta under every target of its key, one pair after the other -/
theorem routeSelective_eq (r : Router) (deltas : List Msg) :
    routeSelective r deltas =
      (deltas.flatMap fun d => (r.targetsOf d.key).map fun tg => (tg, d)).foldl (fun tbl x => file tbl x.1 x.2) [] := by
  rw [List.foldl_flatMap]
  simp only [List.foldl_map]
  rfl

theorem mem_rowOf_routeSelective (r : Router) (deltas : List Msg) (t : Nat) (m : Msg) :
    m ∈ rowOf (routeSelective r deltas) t ↔ m ∈ deltas ∧ t ∈ r.targetsOf m.key := by
  rw [routeSelective_eq, mem_rowOf_foldl]
  simp only [rowOf, NMap.get_nil, Option.getD_none, List.not_mem_nil, false_or, List.mem_flatMap, List.mem_map,
    Prod.mk.injEq]
  constructor
  · rintro ⟨d, hd, tg, htg, rfl, rfl⟩; exact ⟨hd, htg⟩
  · rintro ⟨hd, ht⟩; exact ⟨m, hd, t, ht, rfl, rfl⟩

theorem routeSelective_mem (r : Router) (deltas : List Msg) :
    ∀ p ∈ routeSelective r deltas, ∀ m ∈ p.2, m ∈ deltas := by
  intro p hp m hm
  have hwf : NMap.WF (routeSelective r deltas) := by
    rw [routeSelective_eq]; exact wf_foldl_file _ _ NMap.wf_nil
  exact ((mem_rowOf_routeSelective r deltas p.1 m).mp (mem_rowOf.mpr ⟨p.2, NMap.get_of_mem hwf hp, hm⟩)).1

theorem tableInOrder_mem (order : List Nat) (t : NMap (List Msg)) :
    ∀ p ∈ tableInOrder order t, p ∈ t := by
  intro p hp
  simp only [tableInOrder, List.mem_append, List.mem_filterMap, List.mem_filter] at hp
  rcases hp with ⟨tg, _, h⟩ | ⟨h, _⟩
  · cases hg : NMap.get t tg with
    | none => rw [hg] at h; cases h
    | some ds =>
      rw [hg] at h
      simp only [Option.map_some, Option.some.injEq] at h
      rw [← h]; exact NMap.mem_of_get hg
  · exact h

theorem routedFor_deltas (g : GState) (order : List Nat) (deltas : List Msg) :
    ∀ m ∈ MCluster.deltasOf (g.routedFor order deltas), m ∈ deltas := by
  intro m hm
  simp only [MCluster.deltasOf, List.mem_flatMap] at hm
  obtain ⟨r, hr, hmr⟩ := hm
  unfold GState.routedFor at hr
  split at hr
  · cases hr
  · split at hr
    · rename_i rt _
      split at hr
      · simp only [List.mem_filterMap] at hr
        obtain ⟨p, hp, he⟩ := hr
        split at he
        · cases he
        · simp only [Option.some.injEq] at he
          rw [← he] at hmr
          simp only [GMsg.payload, GMsg.intoDeltas, Option.getD_some] at hmr
          exact routeSelective_mem rt deltas p (tableInOrder_mem _ _ p hp) m hmr
      · simp only [List.mem_singleton] at hr
        rw [hr] at hmr
        simpa [GMsg.payload, GMsg.intoDeltas] using hmr
    · simp only [List.mem_singleton] at hr
      rw [hr] at hmr
      simpa [GMsg.payload, GMsg.intoDeltas] using hmr

theorem deltasOf_append (a b : List Routed) :
    MCluster.deltasOf (a ++ b) = MCluster.deltasOf a ++ MCluster.deltasOf b := by
  simp [MCluster.deltasOf]

theorem deltasOf_enforceCap {cap : Nat} {q : List Routed} {m : Msg}
    (h : m ∈ MCluster.deltasOf (enforceCap cap q)) : m ∈ MCluster.deltasOf q := by
  simp only [MCluster.deltasOf, List.mem_flatMap] at h ⊢
  obtain ⟨r, hr, hm⟩ := h
  exact ⟨r, mem_enforceCap hr, hm⟩

theorem queueDeltas_deltas (cap : Nat) (g : GState) (order : List Nat) (deltas : List Msg) :
    ∀ m ∈ MCluster.deltasOf (g.queueDeltas cap order deltas).outbound,
      m ∈ MCluster.deltasOf g.outbound ∨ m ∈ deltas := by
  intro m hm
  unfold GState.queueDeltas at hm
  split at hm
  · exact Or.inl hm
  · simp only [GState.push] at hm
    have := deltasOf_enforceCap hm
    rw [deltasOf_append, List.mem_append] at this
    rcases this with h | h
    · exact Or.inl h
    · exact Or.inr (routedFor_deltas g order deltas m h)

/-- one destination of one broadcast message: the step of the fold in `sendOne` -/
def bstep (r : Routed) (acc : List Packet × List (Msg × Loss × Option Nat) × List Bool) (addr : Nat) :
    List Packet × List (Msg × Loss × Option Nat) × List Bool :=
  if acc.2.2.headD true then (acc.1 ++ [⟨addr, r.msg⟩], acc.2.1, acc.2.2.tail)
  else (acc.1, acc.2.1 ++ r.msg.payload.map (fun d => (d, Loss.sendFailed, some addr)), acc.2.2.tail)

/-- what a destination got: the frame, or a loss record for each delta of the frame -/
def Got (r : Routed) (a : Nat) (acc : List Packet × List (Msg × Loss × Option Nat) × List Bool) : Prop :=
  (⟨a, r.msg⟩ : Packet) ∈ acc.1 ∨ ∀ d ∈ r.msg.payload, (d, Loss.sendFailed, some a) ∈ acc.2.1

/-- one send attempt: the frame goes on the wire or every delta of it into the ledger; nothing
    that was there goes away -/
theorem bstep_one (r : Routed) (acc : List Packet × List (Msg × Loss × Option Nat) × List Bool) (a : Nat) :
    ((∀ pk ∈ acc.1, pk ∈ (bstep r acc a).1) ∧ (∀ l ∈ acc.2.1, l ∈ (bstep r acc a).2.1)) ∧
    (∀ pk ∈ (bstep r acc a).1, pk ∈ acc.1 ∨ pk = ⟨a, r.msg⟩) ∧ Got r a (bstep r acc a) := by
  unfold Got bstep
  split
  · exact ⟨⟨fun _ h => List.mem_append_left _ h, fun _ h => h⟩,
      fun pk h => (List.mem_append.mp h).imp id List.mem_singleton.mp, Or.inl (by simp)⟩
  · exact ⟨⟨fun _ h => h, fun _ h => List.mem_append_left _ h⟩, fun _ h => Or.inl h,
      Or.inr fun d hd => List.mem_append_right _ (List.mem_map.mpr ⟨d, hd, rfl⟩)⟩

/-- a broadcast: what was on the wire and in the ledger stays; every new frame is the message, to
    one of the peers; every peer got the frame or a loss record for each of its deltas -/
theorem fold_bstep_spec (r : Routed) : ∀ (ps : List Nat) (acc : List Packet × List (Msg × Loss × Option Nat) × List Bool),
    ((∀ pk ∈ acc.1, pk ∈ (ps.foldl (bstep r) acc).1) ∧ (∀ l ∈ acc.2.1, l ∈ (ps.foldl (bstep r) acc).2.1)) ∧
    (∀ pk ∈ (ps.foldl (bstep r) acc).1, pk ∈ acc.1 ∨ (pk.msg = r.msg ∧ pk.to ∈ ps)) ∧
    ∀ a ∈ ps, Got r a (ps.foldl (bstep r) acc) := by
  intro ps
  induction ps with
  | nil => intro acc; exact ⟨⟨fun _ h => h, fun _ h => h⟩, fun _ h => Or.inl h, fun _ h => by cases h⟩
  | cons p ps ih =>
    intro acc
    obtain ⟨⟨m1, m2⟩, s1, g1⟩ := bstep_one r acc p
    obtain ⟨⟨m3, m4⟩, s2, g2⟩ := ih (bstep r acc p)
    simp only [List.foldl_cons]
    refine ⟨⟨fun pk h => m3 pk (m1 pk h), fun l h => m4 l (m2 l h)⟩, fun pk h => ?_, fun a ha => ?_⟩
    · rcases s2 pk h with h | ⟨h1, h2⟩
      · rcases s1 pk h with h | rfl
        · exact Or.inl h
        · exact Or.inr ⟨rfl, List.mem_cons_self⟩
      · exact Or.inr ⟨h1, List.mem_cons_of_mem _ h2⟩
    · rcases List.mem_cons.mp ha with rfl | ha
      · exact g1.imp (m3 _) (fun h d hd => m4 _ (h d hd))
      · exact g2 a ha

theorem sendOne_spec (cfg : NodeCfg) (r : Routed) (oks : List Bool) :
    ∀ pk ∈ (MCluster.sendOne cfg r oks).1, pk.msg = r.msg ∧ pk.to ∈ cfg.peers := by
  unfold MCluster.sendOne
  split
  · rename_i t _
    split
    · rename_i addr hg
      split
      · intro pk hpk
        simp only [List.mem_singleton] at hpk
        rw [hpk]; exact ⟨rfl, peerMap_mem hg⟩
      · intro pk hpk; cases hpk
    · intro pk hpk; cases hpk
  · intro pk hpk
    rcases (fold_bstep_spec r cfg.peers ([], [], oks)).2.1 pk hpk with h | h
    · cases h
    · exact h

/-- the sends of one tick: `sendOne` runs once per message, on the oracle its predecessors left;
    the wire and the ledger get what these runs produce, in order -/
theorem sendAll_runs (cfg : NodeCfg) (rs : List Routed) (oks : List Bool) :
    ∃ runs : List (Routed × List Bool), runs.map (·.1) = rs ∧
      (MCluster.sendAll cfg rs oks).1 = runs.flatMap (fun x => (MCluster.sendOne cfg x.1 x.2).1) ∧
      (MCluster.sendAll cfg rs oks).2 = runs.flatMap (fun x => (MCluster.sendOne cfg x.1 x.2).2.1) := by
  have gen : ∀ (l : List Routed) (acc : List Packet × List (Msg × Loss × Option Nat) × List Bool),
      ∃ (runs : List (Routed × List Bool)) (rest : List Bool), runs.map (·.1) = l ∧
        l.foldl (fun acc r =>
          let s := MCluster.sendOne cfg r acc.2.2
          (acc.1 ++ s.1, acc.2.1 ++ s.2.1, s.2.2)) acc =
        (acc.1 ++ runs.flatMap (fun x => (MCluster.sendOne cfg x.1 x.2).1),
          acc.2.1 ++ runs.flatMap (fun x => (MCluster.sendOne cfg x.1 x.2).2.1), rest) := by
    intro l
    induction l with
    | nil => intro acc; exact ⟨[], acc.2.2, rfl, by simp⟩
    | cons r l ih =>
      intro acc
      obtain ⟨runs, rest, h1, h2⟩ := ih (acc.1 ++ (MCluster.sendOne cfg r acc.2.2).1,
        acc.2.1 ++ (MCluster.sendOne cfg r acc.2.2).2.1, (MCluster.sendOne cfg r acc.2.2).2.2)
      exact ⟨(r, acc.2.2) :: runs, rest, by simp [h1], by simp [h2]⟩
  obtain ⟨runs, _, h1, h2⟩ := gen rs ([], [], oks)
  exact ⟨runs, h1, by simp [MCluster.sendAll, h2], by simp [MCluster.sendAll, h2]⟩

theorem sendAll_spec (cfg : NodeCfg) (rs : List Routed) (oks : List Bool) :
    ∀ pk ∈ (MCluster.sendAll cfg rs oks).1, (∃ r ∈ rs, pk.msg = r.msg) ∧ pk.to ∈ cfg.peers := by
  obtain ⟨runs, h1, h2, _⟩ := sendAll_runs cfg rs oks
  intro pk hpk
  rw [h2, List.mem_flatMap] at hpk
  obtain ⟨x, hx, hpk⟩ := hpk
  have := sendOne_spec cfg x.1 x.2 pk hpk
  exact ⟨⟨x.1, by rw [← h1]; exact List.mem_map_of_mem hx, this.1⟩, this.2⟩

/-! ## a received frame is a run of layer-1 deliveries -/

/-- the layer-1 events of one received frame -/
def deliverEvs (sent : List Msg) (j : Nat) (ds : List Msg) : List Ev :=
  ds.map (fun m => Ev.deliver j (sent.idxOf m))

theorem getElem?_idxOf {l : List Msg} {m : Msg} (h : m ∈ l) : l[l.idxOf m]? = some m := by
  have hlt : l.idxOf m < l.length := List.idxOf_lt_length_iff.mpr h
  rw [List.getElem?_eq_getElem hlt, List.getElem_idxOf hlt]

theorem run_deliverEvs (ds : List Msg) : ∀ (c : Cluster) (j : Nat) (s : Shard),
    c.nodes[j]? = some s → (∀ m ∈ ds, m ∈ c.sent) →
    c.run (deliverEvs c.sent j ds) =
      { nodes := c.nodes.set j (MCluster.applyAll s ds)
        sent := c.sent
        log := c.log ++ ds.map (fun d => ⟨j, d.key, d.val⟩) } := by
  induction ds with
  | nil =>
    intro c j s hs _
    simp only [deliverEvs, List.map_nil, Cluster.run, List.foldl_nil, MCluster.applyAll, List.append_nil]
    rw [list_set_same hs]
  | cons d ds ih =>
    intro c j s hs hall
    have hd := hall d List.mem_cons_self
    have hstep : c.step (.deliver j (c.sent.idxOf d)) =
        { c with nodes := c.nodes.set j (Shard.applyRemote s d.key d.val)
                 log := c.log ++ [⟨j, d.key, d.val⟩] } := by
      simp only [Cluster.step, hs, getElem?_idxOf hd]
    simp only [deliverEvs, List.map_cons, Cluster.run, List.foldl_cons]
    rw [hstep]
    have hjlt : j < c.nodes.length := (List.getElem?_eq_some_iff.mp hs).1
    have := ih { c with nodes := c.nodes.set j (Shard.applyRemote s d.key d.val)
                        log := c.log ++ [⟨j, d.key, d.val⟩] } j (Shard.applyRemote s d.key d.val)
      (by simp only; exact List.getElem?_set_self hjlt)
      (fun m hm => hall m (List.mem_cons_of_mem _ hm))
    simp only [deliverEvs, Cluster.run] at this
    rw [this]
    simp only [List.set_set, MCluster.applyAll, List.foldl_cons, List.map_cons, List.append_assoc,
      List.singleton_append]

end Gossip
end RedisVerif
