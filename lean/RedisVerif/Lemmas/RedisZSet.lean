import RedisVerif.Lemmas.RedisZOrder

/-! Sorted sets: what the invariant says of one found, the reading commands, and that ZADD leaves none empty. -/
namespace RedisVerif.Redis
open RedisVerif

theorem lookupZ_found {s : State} {k : Nat} {z : ZL} {dl : Option Nat}
    (hl : lookupZ s k = .found z dl) : NMap.get s k = some ⟨.zset z, dl⟩ := by
  unfold lookupZ at hl
  split at hl
  · cases hl
  · rename_i e he
    obtain ⟨v, d⟩ := e
    cases v <;> cases hl
    exact he

theorem lookupZ_canon {s : State} (h : Inv s) {k : Nat} {z : ZL} {dl : Option Nat}
    (hl : lookupZ s k = .found z dl) : ZCanon z := (inv_get h (lookupZ_found hl)).2

theorem execZRange_ro (s : State) (k : Nat) (a b : Int) (ws rev : Bool) :
    (execZRange s k a b ws rev).1 = s := by
  unfold execZRange; split <;> rfl

theorem execZScore_ro (s : State) (k : Nat) (m : BS) : (execZScore s k m).1 = s := by
  unfold execZScore
  split
  · rfl
  · rfl
  · split <;> rfl

theorem execZRank_ro (s : State) (k : Nat) (m : BS) : (execZRank s k m).1 = s := by
  unfold execZRank
  split
  · rfl
  · rfl
  · split <;> rfl

theorem execZCard_ro (s : State) (k : Nat) : (execZCard s k).1 = s := by
  unfold execZCard; split <;> rfl

theorem execZCount_ro (s : State) (k : Nat) (lo hi : Option Bound) : (execZCount s k lo hi).1 = s := by
  unfold execZCount
  split
  · split <;> rfl
  · rfl

theorem execZRangeByScore_ro (s : State) (k : Nat) (lo hi : Option Bound) (ws : Bool)
    (lim : Option (Int × Nat)) : (execZRangeByScore s k lo hi ws lim).1 = s := by
  unfold execZRangeByScore
  split
  · split <;> rfl
  · rfl

theorem zaddOne_ne_nil (f : ZFlags) (z : ZL) (m : BS) (sc : Score) (h : z ≠ [] ∨ f.xx = false) :
    (zaddOne f z m sc).1 ≠ [] := by
  unfold zaddOne
  cases hs : zScore z m with
  | none =>
    rcases h with h | h
    · cases f.xx
      · simp only [Bool.false_eq_true, if_false]; exact zInsert_ne_nil m sc z
      · simp only [if_true]; exact h
    · simp only [h, Bool.false_eq_true, if_false]; exact zInsert_ne_nil m sc z
  | some old =>
    have hz : z ≠ [] := by intro e; subst e; simp [zScore] at hs
    -- the guards NX, GT, LT, equal score all answer `z` itself; past them the answer is a `zInsert`
    simp only []
    split
    · exact hz
    · split
      · exact hz
      · split
        · exact hz
        · split
          · exact hz
          · exact zInsert_ne_nil m sc _

theorem zaddAll_ne_nil (f : ZFlags) (ps : List (BS × Score)) : ∀ (z : ZL),
    (z ≠ [] ∨ (f.xx = false ∧ ps ≠ [])) → (zaddAll f z ps).1 ≠ [] := by
  induction ps with
  | nil => intro z h; rcases h with h | h; exact h; exact absurd rfl h.2
  | cons p ps ih =>
    intro z h
    obtain ⟨m, sc⟩ := p
    simp only [zaddAll]
    apply ih
    left
    apply zaddOne_ne_nil
    rcases h with h | h
    · exact Or.inl h
    · exact Or.inr h.1

end RedisVerif.Redis
