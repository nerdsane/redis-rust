import RedisVerif.Lemmas.ExecutorMove
import RedisVerif.Model.ExecutorX
import RedisVerif.Lemmas.RedisX

/-! Refinement of SETBIT / GETBIT / BatchSet / BatchGet / KEYS <pattern> of the executor to `Model.RedisX`,
    and the no-op lemma of the stubs. -/
set_option linter.unusedSimpArgs false

namespace RedisVerif.Executor
open RedisVerif RedisVerif.Redis RedisVerif.RedisX

theorem cSetBit_sim {cs : CState} (h : CInv cs) (k off bit : Nat) :
    SimF cs (fun s => execSetBit s k off bit) (cSetBit cs k off bit) := by
  unfold cSetBit
  by_cases ho : off ≥ maxBitOffset
  · rw [if_pos ho]
    exact simF_refl h (by simp only [execSetBit, ho, if_true])
  · rw [if_neg ho]
    gv h k
    refine g.simF ?_
    rcases o with _ | w
    · exact g.create (valueOk_str _) (by simp only [execSetBit, ho, if_false, lookupStr, g.look_none])
    · cases w
      case str b => exact g.store (valueOk_str _) (by simp only [execSetBit, ho, if_false, lookupStr, g.look_some])
      all_goals exact g.wrong (by simp only [execSetBit, ho, if_false, lookupStr, g.look_some])

theorem cGetBit_sim {cs : CState} (h : CInv cs) (k off : Nat) :
    SimF cs (fun s => execGetBit s k off) (cGetBit cs k off) := by
  unfold cGetBit
  by_cases ho : off ≥ maxBitOffset
  · rw [if_pos ho]
    exact simF_refl h (by simp only [execGetBit, ho, if_true])
  · rw [if_neg ho]
    gv h k
    refine g.simF ?_
    rcases o with _ | w
    · exact g.keep (by simp only [execGetBit, ho, if_false, lookupStr, g.look_none])
    · cases w
      case str b =>
        cases hb : b[off / 8]? <;> simp only [hb] <;>
          exact g.keep (by simp only [execGetBit, ho, if_false, lookupStr, g.look_some, hb])
      all_goals exact g.wrong (by simp only [execGetBit, ho, if_false, lookupStr, g.look_some])

theorem cKeysPat_sim {cs : CState} (h : CInv cs) (pat : BS) :
    SimF cs (fun s => execKeysPat s pat) (cKeysPat cs pat) :=
  simF_refl h (by
    have := congrArg (List.map Elem.key) (liveKeysPat_eq cs (fun k => globMatch pat (codeBytes k)))
    simp only [List.map_map] at this
    exact congrArg (fun l => (absP cs, Reply.arr l)) this.symm)

/-- **the commands of `Model.RedisX` on the executor as it is** -/
theorem execXC_sim {cs : CState} (h : CInv cs) (c : XCmd) :
    SimF cs (fun s => execX s c) (execXC cs c) := by
  cases c
  case setbit k off bit => exact cSetBit_sim h k off bit
  case getbit k off => exact cGetBit_sim h k off
  case batchset kvs => exact cMSet_sim h kvs
  case batchget ks => exact cMGet_sim h ks
  case keys pat => exact cKeysPat_sim h pat

/-- **the stubs** (OBJECT …, DEBUG OBJECT, and every arm that does not mention the keyspace): whatever
    they answer, the visible keyspace and the invariant stay -/
theorem execStub_noop {cs : CState} (h : CInv cs) (c : StubCmd) :
    absP (execStub cs c).1 = absP cs ∧ CInv (execStub cs c).1 ∧
    (execStub cs c).1.now = cs.now ∧ (execStub cs c).1.epoch = cs.epoch := by
  cases c
  case const n => exact ⟨rfl, h, rfl, rfl⟩
  all_goals
    rename_i k
    simp only [execStub]
    gv h k
    cases o <;> exact ⟨g.same, g.inv, g.now, g.epoch⟩

end RedisVerif.Executor
