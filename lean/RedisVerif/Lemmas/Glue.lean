import RedisVerif.Model.Glue
import RedisVerif.Lemmas.LocalOp
import RedisVerif.Lemmas.RedisStep
import RedisVerif.Lemmas.RedisSetHash

/-! Helper lemmas for C06 layer 2 (the command → delta glue): live fields of a replicated hash
    against the executor's hash operations, the entry-level form of `materialise`, the invariant
    `Ok` of a node whose executor holds no dead entry, what a client command does on both sides
    (`Acts`: one lemma per recorded command, then `acts_client`), the delivery of a delta. -/
namespace RedisVerif.Glue
open Redis

/-! ### live fields of a replicated hash -/

theorem liveFields_nil : liveFields [] = [] := rfl

theorem liveFields_cons (p : Nat × Lww) (h : NMap Lww) :
    liveFields (p :: h) =
      (match p.2.get with
       | some v => (p.1, v) :: liveFields h
       | none => liveFields h) := by
  simp only [liveFields, List.filterMap_cons]
  cases p.2.get <;> rfl

theorem liveFields_LB {k : Nat} {h : NMap Lww} (hl : NMap.LB k h) : NMap.LB k (liveFields h) := by
  intro q hq
  simp only [liveFields, List.mem_filterMap] at hq
  obtain ⟨p, hp, hpq⟩ := hq
  cases hg : p.2.get with
  | none => simp [hg] at hpq
  | some v =>
    simp only [hg, Option.map_some, Option.some.injEq] at hpq
    subst hpq
    exact hl p hp

theorem wf_liveFields {h : NMap Lww} (hw : NMap.WF h) : NMap.WF (liveFields h) := by
  induction h with
  | nil => exact NMap.wf_nil
  | cons p h ih =>
    have ⟨hlb, hw'⟩ := NMap.wf_cons.mp hw
    rw [liveFields_cons]
    split
    · exact NMap.wf_cons.mpr ⟨liveFields_LB hlb, ih hw'⟩
    · exact ih hw'

theorem get_liveFields {h : NMap Lww} (hw : NMap.WF h) (f : Nat) :
    NMap.get (liveFields h) f = (NMap.get h f).bind Lww.get := by
  induction h with
  | nil => rfl
  | cons p h ih =>
    obtain ⟨k0, r0⟩ := p
    have ⟨hlb, hw'⟩ := NMap.wf_cons.mp hw
    rw [liveFields_cons, NMap.get_cons]
    by_cases hf : f = k0
    · subst hf
      simp only [if_true, Option.bind_some]
      cases hg : r0.get with
      | none =>
        simp only
        exact NMap.get_eq_none_of_LB (liveFields_LB hlb) (Nat.le_refl _)
      | some v => simp [NMap.get]
    · simp only [hf, if_false]
      cases hg : r0.get with
      | none => simp only; exact ih hw'
      | some v => simp only [NMap.get, hf, if_false]; exact ih hw'

theorem liveFields_insert_set {h : NMap Lww} (hw : NMap.WF h) (f : Nat) (v : Bytes) (c : Stamp) :
    liveFields (NMap.insert f (Lww.set v c) h) = NMap.insert f v (liveFields h) := by
  apply NMap.ext (wf_liveFields (NMap.wf_insert hw)) (NMap.wf_insert (wf_liveFields hw))
  intro f'
  rw [get_liveFields (NMap.wf_insert hw), NMap.get_insert, NMap.get_insert, get_liveFields hw]
  by_cases hf : f' = f
  · simp [hf, Lww.set, Lww.get]
  · simp [hf]

theorem liveFields_insert_delete {h : NMap Lww} (hw : NMap.WF h) (f : Nat) (c : Stamp) :
    liveFields (NMap.insert f (Lww.delete c) h) = NMap.erase f (liveFields h) := by
  apply NMap.ext (wf_liveFields (NMap.wf_insert hw)) (NMap.wf_erase (wf_liveFields hw))
  intro f'
  rw [get_liveFields (NMap.wf_insert hw), NMap.get_insert, NMap.get_erase (wf_liveFields hw),
    get_liveFields hw]
  by_cases hf : f' = f
  · simp [hf, Lww.delete, Lww.get]
  · simp [hf]

theorem liveFields_mapVal_delete (h : NMap Lww) (c : Stamp) :
    liveFields (NMap.mapVal (fun _ => Lww.delete c) h) = [] := by
  induction h with
  | nil => rfl
  | cons p h ih =>
    simp only [NMap.mapVal, List.map_cons] at ih ⊢
    rw [liveFields_cons]
    simp only [Lww.delete, Lww.get, if_true]
    exact ih

/-! ### the executor's hash primitives -/

theorem hsetAll_fst_cons (h : MHash) (f : Nat) (v : BS) (fvs : List (Nat × BS)) :
    (hsetAll h ((f, v) :: fvs)).1 = (hsetAll (NMap.insert f v h) fvs).1 := by
  simp only [hsetAll]
  split <;> rfl

theorem hdelAll_fst_cons (h : MHash) (f : Nat) (fs : List Nat) :
    (hdelAll h (f :: fs)).1 =
      if (NMap.get h f).isSome then (hdelAll (NMap.erase f h) fs).1 else (hdelAll h fs).1 := by
  simp only [hdelAll]
  split <;> rfl

theorem liveFields_hashSet (fs : List (Nat × Bytes)) (c : Stamp) (h : NMap Lww) (hw : NMap.WF h) :
    liveFields (fs.foldl Shard.hashSetStep (c, h)).2 = (hsetAll (liveFields h) fs).1 := by
  induction fs generalizing c h with
  | nil => rfl
  | cons p fs ih =>
    obtain ⟨f, v⟩ := p
    simp only [List.foldl_cons, Shard.hashSetStep]
    rw [ih _ _ (NMap.wf_insert hw), hsetAll_fst_cons, liveFields_insert_set hw]

theorem liveFields_hashDel (fs : List Nat) (c : Stamp) (h : NMap Lww) (hw : NMap.WF h) :
    liveFields (fs.foldl Shard.hashDelStep (c, h)).2 = (hdelAll (liveFields h) fs).1 := by
  induction fs generalizing c h with
  | nil => rfl
  | cons f fs ih =>
    simp only [List.foldl_cons]
    rw [hdelAll_fst_cons]
    cases hg : NMap.get h f with
    | none =>
      have : Shard.hashDelStep (c, h) f = (c, h) := by simp [Shard.hashDelStep, hg]
      rw [this, ih c h hw]
      have : NMap.get (liveFields h) f = none := by rw [get_liveFields hw, hg]; rfl
      simp [this]
    | some r =>
      have : Shard.hashDelStep (c, h) f = (c.tick, NMap.insert f (Lww.delete c.tick) h) := by
        simp [Shard.hashDelStep, hg]
      rw [this, ih _ _ (NMap.wf_insert hw), liveFields_insert_delete hw]
      split
      · rfl
      · rename_i hns
        have hn : NMap.get (liveFields h) f = none := by
          cases hx : NMap.get (liveFields h) f with
          | none => rfl
          | some _ => simp [hx] at hns
        rw [NMap.erase_of_get_none (wf_liveFields hw) hn]

/-! ### entry-level form of `materialise`; dead-entry freedom -/

/-- `materialise` as an executor entry (value, deadline) at instant 0 -/
def matE : Option RV → Option Entry
  | none => none
  | some rv =>
    match rv.crdt with
    | .lww r => r.get.map (fun v => { val := .str v, dl := rv.expiry })
    | .hash h =>
      (match liveFields h with
       | [] => none
       | p :: l => some { val := .hash (p :: l), dl := none })
    | _ => none

theorem toV_zero (e : Entry) : toV 0 e = { val := e.val, ttl := e.dl } := by
  simp only [toV, Nat.sub_zero]
  cases e.dl <;> rfl

theorem materialise_eq (o : Option RV) : materialise o = (matE o).map (toV 0) := by
  cases o with
  | none => rfl
  | some rv =>
    obtain ⟨crdt, vc, expiry, ts, rf⟩ := rv
    cases crdt with
    | lww r =>
      simp only [materialise, matE]
      cases r.get <;> simp [toV_zero]
    | hash h =>
      simp only [materialise, matE]
      cases liveFields h <;> simp [toV_zero]
    | _ => rfl

/-- no entry is dead at instant 0 (then `purge · 0` is the identity) -/
def NoDead (s : State) : Prop := ∀ p ∈ s, live 0 p.2 = true

theorem purge_of_nodead {s : State} (h : NoDead s) : purge s 0 = s := by
  simp only [purge]
  exact List.filter_eq_self.mpr (fun p hp => h p hp)

theorem nodead_purge (s : State) : NoDead (purge s 0) := fun _ hp => (mem_purge.mp hp).2

theorem nodead_insert {s : State} {k : Nat} {e : Entry} (h : NoDead s) (hl : live 0 e = true) :
    NoDead (NMap.insert k e s) := by
  intro p hp
  rcases NMap.mem_insert hp with hp | hp
  · subst hp; exact hl
  · exact h p hp

theorem nodead_erase {s : State} {k : Nat} (h : NoDead s) : NoDead (NMap.erase k s) :=
  fun p hp => h p (NMap.mem_erase hp)

theorem nodead_get {s : State} {k : Nat} {e : Entry} (h : NoDead s) (hg : NMap.get s k = some e) :
    live 0 e = true := h _ (NMap.mem_of_get hg)

theorem live_none (v : Value) : live 0 { val := v, dl := none } = true := rfl

/-- the executor's keyspace against the replication state's keys, entry by entry -/
def SrvK (s : State) (keys : NMap RV) : Prop := ∀ k, NMap.get s k = matE (NMap.get keys k)

/-! ### hashes -/

/-- the hash `record_hash_write` starts from -/
def rsHash (rs : Shard) (k : Nat) : NMap Lww :=
  ((NMap.get rs.keys k).getD { RV.new rs.rid with crdt := .hash [] }).crdt.hashOf

theorem wf_rsHash {rs : Shard} (hW : rs.NodeWF) (k : Nat) : NMap.WF (rsHash rs k) := by
  unfold rsHash
  cases hg : NMap.get rs.keys k with
  | none => exact NMap.wf_nil
  | some rv => exact Shard.hashOf_wf (hW.2 _ (NMap.mem_of_get hg)).1

/-- what the executor holds under a key whose hash has the fields `h`: nothing when there is none -/
def cellEntry (h : MHash) : Option Entry :=
  match h with
  | [] => none
  | p :: l => some { val := .hash (p :: l), dl := none }

theorem matE_hash (rv : RV) (hm : NMap Lww) (hc : rv.crdt = .hash hm) :
    matE (some rv) = cellEntry (liveFields hm) := by
  simp only [matE, hc, cellEntry]
  cases liveFields hm <;> rfl

theorem matE_get {rv : RV} (hc : ∀ h, rv.crdt ≠ .hash h) :
    matE (some rv) = rv.get.map fun x => { val := .str x, dl := rv.expiry } := by
  cases hk : rv.crdt <;> simp_all [matE, RV.get]

theorem cell_view {s : State} {rs : Shard} (h : SrvK s rs.keys) (k : Nat) :
    NMap.get s k = cellEntry (liveFields (rsHash rs k)) ∨ lookupHash s k = .wrong := by
  have hk := h k
  unfold rsHash
  cases hr : NMap.get rs.keys k with
  | none => rw [hr] at hk; exact Or.inl hk
  | some rv =>
    rw [hr] at hk
    simp only [Option.getD_some]
    cases hc : rv.crdt with
    | hash hm => exact Or.inl (hk.trans (matE_hash rv hm hc))
    | lww r =>
      simp only [matE, hc] at hk
      cases hg : r.get with
      | none => rw [hg] at hk; exact Or.inl hk
      | some b => rw [hg] at hk; exact Or.inr (by simp [lookupHash, hk])
    | _ => simp only [matE, hc] at hk; exact Or.inl hk

theorem putHash_cons (s : State) (k : Nat) (p : Nat × BS) (l : MHash) (dl : Option Nat) :
    putHash s k (p :: l) dl = NMap.insert k { val := .hash (p :: l), dl := dl } s := rfl

/-- the commands whose gate looks at more than "no error reply" -/
def condGate : Cmd → Bool
  | .set .. => true
  | _ => false

theorem applied_of_not_set {c : Cmd} (hc : condGate c = false) (r : Reply) :
    applied c r = !r.isError := by
  unfold applied
  cases hr : r.isError
  · cases c <;> first | rfl | cases hc
  · rfl

theorem set_cases (s : State) (k : Nat) (v : BS) (cond : SetCond) (e : SetExp) (g : Bool) :
    (applied (.set k v cond e g) (execSet s 0 k v cond e g).2 = false ∧
      (execSet s 0 k v cond e g).1 = s) ∨
    (applied (.set k v cond e g) (execSet s 0 k v cond e g).2 = true ∧ setPlan 0 e ≠ .invalid ∧
      (execSet s 0 k v cond e g).1 =
        NMap.insert k { val := .str v, dl := planDl (setPlan 0 e) (oldDl s k) } s) := by
  unfold execSet
  by_cases hp : setPlan 0 e = .invalid
  · left; simp [hp, applied, Reply.isError]
  · simp only [hp, if_false]
    unfold setCore
    cases hg : NMap.get s k with
    | none =>
      have hw : wrongStr s k = false := by simp [wrongStr, lookupStr, hg]
      have ho : oldStrReply s k = .nil := by simp [oldStrReply, lookupStr, hg]
      cases cond <;> cases g <;> simp [hw, ho, applied, Reply.isError, Reply.ok, hp]
    | some en =>
      obtain ⟨val, dl⟩ := en
      cases val with
      | str b =>
        have hw : wrongStr s k = false := by simp [wrongStr, lookupStr, hg]
        have ho : oldStrReply s k = .bulk b := by simp [oldStrReply, lookupStr, hg]
        cases cond <;> cases g <;> simp [hw, ho, applied, Reply.isError, Reply.ok, hp]
      | _ =>
        have hw : wrongStr s k = true := by simp [wrongStr, lookupStr, hg]
        have ho : oldStrReply s k = .nil := by simp [oldStrReply, lookupStr, hg]
        cases cond <;> cases g <;> simp [hw, ho, hg, applied, Reply.isError, Reply.ok, hp]

theorem ttlMs_insert (s : State) (k : Nat) (e : Entry) : ttlMs (NMap.insert k e s) k = e.dl := by
  simp [ttlMs, oldDl, NMap.get_insert]

/-- a deadline computed by `getExpireMillisecondsOrReply` at instant 0 is positive -/
theorem plan_pos (unitSec relative : Bool) (v : Int) (old : Option Nat) :
    ∀ d, planDl (planOfOpt (absDeadline 0 unitSec relative v)) old = some d → 0 < d := by
  intro d hpd
  cases hd : absDeadline 0 unitSec relative v with
  | none => rw [hd] at hpd; simp [planOfOpt, planDl] at hpd
  | some d0 =>
    rw [hd] at hpd
    simp only [planOfOpt, planDl, Option.some.injEq] at hpd
    subst hpd
    unfold absDeadline at hd
    by_cases h1 : v ≤ 0
    · simp [h1] at hd
    · simp only [h1, if_false] at hd
      by_cases h2 : (unitSec && decide (v > i64MaxDiv1000)) = true
      · simp [h2] at hd
      · simp only [h2, if_false, Int.natCast_zero, Int.add_zero, ite_self] at hd
        by_cases h3 : (if unitSec = true then v * 1000 else v) > i64Max
        · simp [h3] at hd
        · simp [h3] at hd
          subst hd
          cases unitSec <;> simp <;> omega

theorem setplan_pos (e : SetExp) (old : Option Nat) (hold : ∀ d, old = some d → 0 < d) :
    ∀ d, planDl (setPlan 0 e) old = some d → 0 < d := by
  cases e with
  | none => intro d hd; simp [setPlan, planDl] at hd
  | keepttl => intro d hd; simp only [setPlan, planDl] at hd; exact hold d hd
  | ex v => exact plan_pos true true v old
  | px v => exact plan_pos false true v old
  | exat v => exact plan_pos true false v old
  | pxat v => exact plan_pos false false v old

/-- the node invariant on a dead-entry-free executor state -/
structure Ok (s : State) (rs : Shard) : Prop where
  inv : Inv s
  nodead : NoDead s
  wf : rs.NodeWF
  srv : SrvK s rs.keys

theorem live_some_iff (v : Value) (d : Nat) : live 0 { val := v, dl := some d } = true ↔ 0 < d := by
  simp [live]

theorem oldDl_pos {s : State} (hN : NoDead s) (k : Nat) : ∀ d, oldDl s k = some d → 0 < d := by
  intro d hd
  unfold oldDl at hd
  cases hg : NMap.get s k with
  | none => simp [hg] at hd
  | some e =>
    simp only [hg] at hd
    have := nodead_get hN hg
    obtain ⟨val, dl⟩ := e
    simp only at hd
    subst hd
    exact (live_some_iff val d).mp this

theorem live_of_pos (v : Value) (dl : Option Nat) (h : ∀ d, dl = some d → 0 < d) :
    live 0 { val := v, dl := dl } = true := by
  cases dl with
  | none => rfl
  | some d => exact (live_some_iff v d).mpr (h d rfl)

/-! ### one key of the executor set to what the replication state says

A client command, a delivery and the recovery of a checkpoint value all end the same way: the
replication state changes at one key `k`, and the executor's key `k` becomes `matE` of the new
value (`Ok.put`).  What is left to show per event is an equation `… = setKey k o s` about the
executor. -/

/-- key `k` set to `o` (`none`: removed) -/
def setKey (k : Nat) (o : Option Entry) (s : State) : State :=
  match o with
  | none => NMap.erase k s
  | some e => NMap.insert k e s

theorem wf_setKey {s : State} (hw : NMap.WF s) (k : Nat) (o : Option Entry) : NMap.WF (setKey k o s) := by
  cases o with
  | none => exact NMap.wf_erase hw
  | some e => exact NMap.wf_insert hw

theorem get_setKey {s : State} (hw : NMap.WF s) (k : Nat) (o : Option Entry) (k' : Nat) :
    NMap.get (setKey k o s) k' = if k' = k then o else NMap.get s k' := by
  cases o with
  | none => exact NMap.get_erase hw k'
  | some e => exact NMap.get_insert k'

/-- a state that differs from `s` at key `k` only -/
theorem eq_setKey {s s' : State} (hw : NMap.WF s) (hw' : NMap.WF s') (k : Nat) (o : Option Entry)
    (h : ∀ k', NMap.get s' k' = if k' = k then o else NMap.get s k') : s' = setKey k o s :=
  NMap.ext hw' (wf_setKey hw k o) fun k' => by rw [h, get_setKey hw]

theorem setKey_setKey {s : State} (hw : NMap.WF s) (k : Nat) (o o' : Option Entry) :
    setKey k o' (setKey k o s) = setKey k o' s :=
  eq_setKey hw (wf_setKey (wf_setKey hw k o) k o') k o' fun k' => by
    rw [get_setKey (wf_setKey hw k o), get_setKey hw]; split <;> rfl

theorem setKey_self {s : State} (hw : NMap.WF s) {k : Nat} {o : Option Entry} (hg : NMap.get s k = o) :
    setKey k o s = s :=
  (eq_setKey hw hw k o fun k' => by split <;> simp_all).symm

theorem putHash_eq (s : State) (k : Nat) (h : MHash) : putHash s k h none = setKey k (cellEntry h) s := by
  cases h <;> rfl

theorem cellEntry_ok {h : MHash} (hw : NMap.WF h) {e : Entry} (he : cellEntry h = some e) :
    ValueOk e.val ∧ live 0 e = true := by
  cases h with
  | nil => cases he
  | cons p l => cases he; exact ⟨⟨by simp, hw⟩, rfl⟩

/-- what the replication state says is an entry the executor may hold at instant 0 -/
theorem matE_ok {rv : RV} (hw : rv.WF) (hexp : ∀ x ms, rv.get = some x → rv.expiry = some ms → 0 < ms)
    {e : Entry} (he : matE (some rv) = some e) : ValueOk e.val ∧ live 0 e = true := by
  cases hc : rv.crdt with
  | lww r =>
    simp only [matE, hc] at he
    cases hg : r.get with
    | none => simp [hg] at he
    | some x =>
      simp only [hg, Option.map_some, Option.some.injEq] at he
      subst he
      exact ⟨valueOk_str x, live_of_pos _ _ (hexp x · (by simp [RV.get, hc, hg]))⟩
  | hash hm =>
    rw [matE_hash rv hm hc] at he
    exact cellEntry_ok (wf_liveFields (by have := hw.1; rwa [hc] at this)) he
  | _ => simp [matE, hc] at he

theorem setKey_keeps {s : State} (hI : Inv s) (hN : NoDead s) (k : Nat) {o : Option Entry}
    (hv : ∀ e, o = some e → ValueOk e.val ∧ live 0 e = true) :
    Inv (setKey k o s) ∧ NoDead (setKey k o s) := by
  cases o with
  | none => exact ⟨inv_erase hI, nodead_erase hN⟩
  | some e => exact ⟨inv_insert_entry hI (hv e rfl).1, nodead_insert hN (hv e rfl).2⟩

/-- whatever happened to the replication state at key `k`: once the executor's key `k` is set to what
    the new replication state says, the node serves what its replication state says -/
theorem Ok.put {s : State} {rs rs' : Shard} (h : Ok s rs) (k : Nat) {o : Option Entry} (hW : rs'.NodeWF)
    (hoth : ∀ k', k' ≠ k → NMap.get rs'.keys k' = NMap.get rs.keys k')
    (ho : matE (NMap.get rs'.keys k) = o)
    (hv : ∀ e, o = some e → ValueOk e.val ∧ live 0 e = true) : Ok (setKey k o s) rs' :=
  have ⟨hI, hN⟩ := setKey_keeps h.inv h.nodead k hv
  ⟨hI, hN, hW, fun k' => by
    rw [get_setKey h.inv.1]
    by_cases hk : k' = k
    · rw [if_pos hk, hk, ho]
    · rw [if_neg hk, hoth k' hk]; exact h.srv k'⟩

/-! ### HSET / HDEL on a hash cell; what the replication state says after a local operation -/

theorem hdelAll_nil (fs : List Nat) : (hdelAll [] fs).1 = [] := by
  induction fs with
  | nil => rfl
  | cons f fs ih => rw [hdelAll_fst_cons]; simp [NMap.get, ih]

theorem hset_step {e : State} {k : Nat} {hc : MHash} (hg : NMap.get e k = cellEntry hc)
    (fvs : List (Nat × BS)) (hne : fvs ≠ []) :
    (exec e 0 (.hset k fvs)).1 = putHash e k (hsetAll hc fvs).1 none ∧
      (exec e 0 (.hset k fvs)).2.isError = false := by
  cases fvs with
  | nil => exact absurd rfl hne
  | cons q fvs =>
    simp only [exec, execHSet]
    cases hc with
    | nil => simp only [cellEntry] at hg; simp [lookupHash, hg, Reply.isError]
    | cons p l => simp only [cellEntry] at hg; simp [lookupHash, hg, Reply.isError]

theorem hdel_step {e : State} {k : Nat} {hc : MHash} (hw : NMap.WF e) (hg : NMap.get e k = cellEntry hc)
    (fs : List Nat) :
    (exec e 0 (.hdel k fs)).1 = putHash e k (hdelAll hc fs).1 none ∧
      (exec e 0 (.hdel k fs)).2.isError = false := by
  simp only [exec, execHDel]
  cases hc with
  | nil =>
    simp only [cellEntry] at hg
    simp only [lookupHash, hg, hdelAll_nil, putHash, Reply.isError, and_true]
    exact (NMap.erase_of_get_none hw hg).symm
  | cons p l => simp only [cellEntry] at hg; simp [lookupHash, hg, Reply.isError]

theorem matE_delete (rs : Shard) (k : Nat) :
    matE (NMap.get (rs.recordDelete k).1.keys k) = none := by
  simp only [Shard.recordDelete]
  cases hg : NMap.get rs.keys k with
  | none => simp [hg, matE]
  | some rv =>
    simp only
    cases hc : rv.crdt with
    | lww r => simp [NMap.get_insert, matE, Lww.delete, Lww.get]
    | hash h => simp [NMap.get_insert, matE, liveFields_mapVal_delete]
    | _ => simp [hg, matE, hc]

theorem matE_hwrite {rs : Shard} (hW : rs.NodeWF) (k : Nat) (fvs : List (Nat × Bytes)) :
    matE (NMap.get (rs.recordHashWrite k fvs).1.keys k) =
      cellEntry (hsetAll (liveFields (rsHash rs k)) fvs).1 := by
  rw [show NMap.get (rs.recordHashWrite k fvs).1.keys k = some (rs.recordHashWrite k fvs).2 from
      Shard.local_get rs (.hwrite k fvs) _ rfl,
    matE_hash _ (fvs.foldl Shard.hashSetStep (rs.clock, rsHash rs k)).2 rfl,
    liveFields_hashSet fvs _ _ (wf_rsHash hW k)]

theorem matE_hdelete {rs : Shard} (hW : rs.NodeWF) (k : Nat) (fs : List Nat)
    (hcell : matE (NMap.get rs.keys k) = cellEntry (liveFields (rsHash rs k))) :
    matE (NMap.get (rs.recordHashDelete k fs).1.keys k) =
      cellEntry (hdelAll (liveFields (rsHash rs k)) fs).1 := by
  cases hr : NMap.get rs.keys k with
  | none =>
    have hrs : rsHash rs k = [] := by simp [rsHash, hr, Crdt.hashOf]
    rw [Shard.recordHashDelete_none hr, hr, hrs, liveFields_nil, hdelAll_nil]; rfl
  | some rv =>
    by_cases hc : rv.crdt.kind = 5
    · obtain ⟨hm, hm'⟩ := Shard.kind_hash hc
      have hrs : rsHash rs k = hm := by simp [rsHash, hr, hm', Crdt.hashOf]
      rw [Shard.recordHashDelete_hash hr hm', hrs]
      simp only [NMap.get_insert, if_true]
      rw [matE_hash _ (fs.foldl Shard.hashDelStep (rs.clock, hm)).2 rfl,
        liveFields_hashDel fs rs.clock hm (hrs ▸ wf_rsHash hW k)]
    · -- no hash on the replication side: nothing to delete on either
      have hrs : rsHash rs k = [] := by
        unfold rsHash; rw [hr]
        cases hcc : rv.crdt <;> simp_all [Crdt.hashOf, Crdt.kind]
      rw [Shard.recordHashDelete_other hr hc, hcell, hrs, liveFields_nil, hdelAll_nil]

/-! ### a client command against the local operation it records

`Execute` runs the command, asks the gate, then lets the recorder read the executor's keyspace.
For a recorded command the outcome is one of two: nothing happened on either side, or the executor
and the recorder performed the same local operation of layer 1 (`Mirror`).  `Acts` says so, once
per command; that the node keeps serving what its replication state says (`Acts.ok`) and that the
replication state made at most one layer-1 step (`Acts.reclop`) both follow from it. -/

/-- the recorder's output when it performs the local operation `op` of layer 1 -/
def lopOut (rs : Shard) (op : LOp) : Shard × Option Delta :=
  ((Shard.step rs op.toOp).1, (Shard.step rs op.toOp).2.map fun v => (op.key, v))

/-- the replication side of the Execute arm (gate, then recorder): new state and delta -/
def clientOut (rs : Shard) (s : State) (c : Cmd) : Shard × Option Delta :=
  if applied c (exec s 0 c).2 then record rs (exec s 0 c).1 c else (rs, none)

/-- `Mirror s rs op s'`: `s'` is the executor's keyspace `s` after the executor's counterpart of
    the local operation `op` on the replication state `rs` -/
inductive Mirror (s : State) (rs : Shard) : LOp → State → Prop
  | write (k : Nat) (b : BS) (dl : Option Nat) (hpos : ∀ d, dl = some d → 0 < d) :
      Mirror s rs (.write k b dl) (NMap.insert k { val := .str b, dl := dl } s)
  | delete (k : Nat) : Mirror s rs (.delete k) (NMap.erase k s)
  | hwrite (k : Nat) (fvs : List (Nat × BS)) :
      Mirror s rs (.hwrite k fvs) (putHash s k (hsetAll (liveFields (rsHash rs k)) fvs).1 none)
  /-- `hcell`: `record_hash_delete` leaves a value of another kind alone, the executor's HDEL
      must then have found nothing either -/
  | hdelete (k : Nat) (fs : List Nat)
      (hcell : NMap.get s k = cellEntry (liveFields (rsHash rs k))) :
      Mirror s rs (.hdelete k fs) (putHash s k (hdelAll (liveFields (rsHash rs k)) fs).1 none)

theorem Mirror.ok {s s' : State} {rs : Shard} {op : LOp} (h : Ok s rs) (hm : Mirror s rs op s') :
    Ok s' (Shard.step rs op.toOp).1 := by
  have key := fun o => h.put (rs' := (Shard.step rs op.toOp).1) op.key (o := o)
    (Shard.nodewf_step rs op h.wf) (Shard.keys_step_other rs op)
  cases hm with
  | write k b dl hpos =>
    exact key (some { val := .str b, dl := dl }) (by simp [LOp.key, LOp.toOp, Shard.step, Shard.recordWrite, NMap.get_insert, matE, Lww.set, Lww.get])
      fun e he => by cases he; exact ⟨valueOk_str b, live_of_pos _ _ hpos⟩
  | delete k => exact key none (matE_delete rs k) nofun
  | hwrite k fvs =>
    exact putHash_eq .. ▸ key _ (matE_hwrite h.wf k fvs)
      fun e => cellEntry_ok (wf_hsetAll (wf_liveFields (wf_rsHash h.wf k)) _)
  | hdelete k fs hcell =>
    exact putHash_eq .. ▸ key _ (matE_hdelete h.wf k fs ((h.srv k).symm.trans hcell))
      fun e => cellEntry_ok (wf_hdelAll (wf_liveFields (wf_rsHash h.wf k)) _)

/-- what one `Execute` does: nothing on either side, or one mirrored local operation -/
def Acts (s : State) (rs : Shard) (s' : State) (out : Shard × Option Delta) : Prop :=
  (s' = s ∧ out = (rs, none)) ∨ ∃ op, Mirror s rs op s' ∧ out = lopOut rs op

theorem Acts.ok {s s' : State} {rs : Shard} {out : Shard × Option Delta} (h : Ok s rs)
    (ha : Acts s rs s' out) : Ok s' out.1 := by
  rcases ha with ⟨rfl, rfl⟩ | ⟨op, hm, rfl⟩
  · exact h
  · exact hm.ok h

/-- an error reply: the gate is shut, and `safe_exec` says the executor is where it was -/
theorem acts_of_error {s : State} {rs : Shard} {c : Cmd} (happ : ∀ r, applied c r = !r.isError)
    (he : (exec s 0 c).2.isError = true) : Acts s rs (exec s 0 c).1 (clientOut rs s c) :=
  Or.inl ⟨(safe_exec 0 c).err he, by simp [clientOut, happ, he]⟩

/-- SET with any option: the recorder replicates the deadline the executor holds afterwards -/
theorem acts_set (s : State) (rs : Shard) (hN : NoDead s) (k : Nat) (v : BS) (cond : SetCond)
    (e : SetExp) (g : Bool) :
    Acts s rs (exec s 0 (.set k v cond e g)).1 (clientOut rs s (.set k v cond e g)) := by
  simp only [clientOut, exec]
  rcases set_cases s k v cond e g with ⟨ha, hs⟩ | ⟨ha, hp, hs⟩
  · exact Or.inl ⟨hs, by simp only [ha]; rfl⟩
  · refine Or.inr ⟨.write k v (planDl (setPlan 0 e) (oldDl s k)), ?_, ?_⟩
    · rw [hs]; exact .write k v _ (setplan_pos e _ (oldDl_pos hN k))
    · simp only [ha, if_true]
      rw [hs]
      cases cond <;>
        simp [record, writeDelta, strAt, ttlMs_insert, NMap.get_insert, lopOut, Shard.step, LOp.toOp, LOp.key]

/-! #### INCR / DECR / INCRBY / DECRBY / APPEND / GETSET -/

/-- the command failed and left the executor alone, or wrote a string under `k` with a live
    deadline (what INCR / DECR / INCRBY / DECRBY / APPEND / GETSET do) -/
def StrShape (s : State) (k : Nat) (r : State × Reply) : Prop :=
  (r.2.isError = true ∧ r.1 = s) ∨
  (r.2.isError = false ∧
    ∃ b dl, r.1 = NMap.insert k { val := .str b, dl := dl } s ∧ ∀ d, dl = some d → 0 < d)

/-- INCR / DECR / INCRBY / DECRBY / APPEND / GETSET: the recorder replicates the string and the
    deadline the executor holds afterwards -/
theorem acts_strmod {s : State} {rs : Shard} (c : Cmd) (k : Nat)
    (happ : ∀ r, applied c r = !r.isError)
    (hrec : ∀ post, record rs post c =
      (match strAt post k with
       | some b => writeDelta rs k b (ttlMs post k)
       | none => (rs, none)))
    (hshape : StrShape s k (exec s 0 c)) :
    Acts s rs (exec s 0 c).1 (clientOut rs s c) := by
  rcases hshape with ⟨he, _⟩ | ⟨he, b, dl, hs, hpos⟩
  · exact acts_of_error happ he
  · refine Or.inr ⟨.write k b dl, hs ▸ .write k b dl hpos, ?_⟩
    have hst : strAt (exec s 0 c).1 k = some b := by rw [hs]; simp [strAt, NMap.get_insert]
    have htt : ttlMs (exec s 0 c).1 k = dl := by rw [hs]; exact ttlMs_insert ..
    simp only [clientOut, happ, he, hrec, hst, htt]
    rfl

theorem lookupStr_found_pos {s : State} (hN : NoDead s) {k : Nat} {b : BS} {dl : Option Nat}
    (h : lookupStr s k = .found b dl) : ∀ x, dl = some x → 0 < x := by
  unfold lookupStr at h
  cases hg : NMap.get s k with
  | none => simp [hg] at h
  | some e =>
    obtain ⟨val, dl'⟩ := e
    cases val <;> simp [hg] at h
    obtain ⟨_, rfl⟩ := h
    exact fun x hx => (live_some_iff _ x).mp (hx ▸ nodead_get hN hg)

theorem incrBy_shape {s : State} (hN : NoDead s) (k : Nat) (d : Int) : StrShape s k (execIncrBy s k d) := by
  unfold execIncrBy
  cases hl : lookupStr s k with
  | missing => exact Or.inr ⟨by simp [Reply.isError], _, none, rfl, fun _ hx => by cases hx⟩
  | wrong => exact Or.inl (by simp [Reply.isError])
  | found b dl =>
    simp only
    cases parseCanon b with
    | none => exact Or.inl (by simp [Reply.isError])
    | some v =>
      simp only
      split
      · exact Or.inr ⟨by simp [Reply.isError], _, dl, rfl, lookupStr_found_pos hN hl⟩
      · exact Or.inl (by simp [Reply.isError])

theorem decrBy_shape {s : State} (hN : NoDead s) (k : Nat) (d : Int) : StrShape s k (execDecrBy s k d) := by
  unfold execDecrBy
  split
  · exact Or.inl (by simp [Reply.isError])
  · exact incrBy_shape hN k (-d)

theorem append_shape {s : State} (hN : NoDead s) (k : Nat) (v : BS) : StrShape s k (execAppend s k v) := by
  unfold execAppend
  cases hl : lookupStr s k with
  | missing => exact Or.inr ⟨by simp [Reply.isError], _, none, rfl, fun _ hx => by cases hx⟩
  | wrong => exact Or.inl (by simp [Reply.isError])
  | found b dl => exact Or.inr ⟨by simp [Reply.isError], _, dl, rfl, lookupStr_found_pos hN hl⟩

theorem getset_shape (s : State) (k : Nat) (v : BS) : StrShape s k (execGetSet s k v) := by
  unfold execGetSet
  cases lookupStr s k with
  | wrong => exact Or.inl (by simp [Reply.isError])
  | _ => exact Or.inr ⟨by simp [Reply.isError], _, none, rfl, fun _ hx => by cases hx⟩

/-! #### DEL -/

theorem exec_del1 {s : State} (hw : NMap.WF s) (k : Nat) :
    (exec s 0 (.del [k])).1 = NMap.erase k s := by
  simp only [exec, execDel, delKeys]
  cases hg : NMap.get s k with
  | none => simp only; exact (NMap.erase_of_get_none hw hg).symm
  | some e => rfl

/-- `DEL k` (what the front end sends): the executor erases, the recorder tombstones -/
theorem acts_del1 {s : State} {rs : Shard} (hw : NMap.WF s) (k : Nat) :
    Acts s rs (exec s 0 (.del [k])).1 (clientOut rs s (.del [k])) :=
  Or.inr ⟨.delete k, exec_del1 hw k ▸ .delete k, rfl⟩

theorem delKeys_fst_cons (s : State) (k : Nat) (ks : List Nat) :
    (delKeys s (k :: ks)).1 = (delKeys (NMap.erase k s) ks).1 ∨
    (NMap.get s k = none ∧ (delKeys s (k :: ks)).1 = (delKeys s ks).1) := by
  simp only [delKeys]
  cases hg : NMap.get s k with
  | none => right; exact ⟨rfl, rfl⟩
  | some e => left; rfl

theorem ok_delKeys (ks : List Nat) : ∀ (s : State) (rs : Shard) (d : Option Delta),
    Ok s rs → Ok (delKeys s ks).1 (ks.foldl delStep (rs, d)).1 := by
  induction ks with
  | nil => intro s rs d h; exact h
  | cons k ks ih =>
    intro s rs d h
    simp only [List.foldl_cons, delStep]
    have hstep : Ok (NMap.erase k s) (rs.recordDelete k).1 := (Mirror.delete k).ok h
    rcases delKeys_fst_cons s k ks with he | ⟨hg, he⟩
    · rw [he]; exact ih _ _ _ hstep
    · rw [he]
      have : NMap.erase k s = s := NMap.erase_of_get_none h.inv.1 hg
      rw [this] at hstep
      exact ih _ _ _ hstep

theorem ok_del {s : State} {rs : Shard} (h : Ok s rs) (ks : List Nat) :
    Ok (exec s 0 (.del ks)).1 (clientOut rs s (.del ks)).1 := by
  have : clientOut rs s (.del ks) = ks.foldl delStep (rs, none) := by
    simp [clientOut, applied, exec, execDel, Reply.isError, record]
  rw [this]
  exact ok_delKeys ks s rs none h

/-! #### HSET / HINCRBY / HDEL -/

theorem acts_hset {s : State} {rs : Shard} (h : Ok s rs) (k : Nat) (fvs : List (Nat × BS)) :
    Acts s rs (exec s 0 (.hset k fvs)).1 (clientOut rs s (.hset k fvs)) := by
  have happ : ∀ r, applied (.hset k fvs) r = !r.isError := applied_of_not_set rfl
  by_cases hne : fvs = []
  · subst hne; exact acts_of_error happ rfl
  rcases cell_view h.srv k with hcell | hl
  · obtain ⟨h1, h2⟩ := hset_step hcell fvs hne
    refine Or.inr ⟨.hwrite k fvs, h1 ▸ .hwrite k fvs, ?_⟩
    simp only [clientOut, happ, h2]
    rfl
  · cases fvs with
    | nil => exact absurd rfl hne
    | cons p l => exact acts_of_error happ (by simp [exec, execHSet, hl, Reply.isError])

theorem acts_hincrby {s : State} {rs : Shard} (h : Ok s rs) (k f : Nat) (d : Int) :
    Acts s rs (exec s 0 (.hincrby k f d)).1 (clientOut rs s (.hincrby k f d)) := by
  have happ : ∀ r, applied (.hincrby k f d) r = !r.isError := applied_of_not_set rfl
  rcases cell_view h.srv k with hcell | hl
  · -- a successful HINCRBY writes the field's new value `nv` on both sides
    have hput : ∀ nv, (exec s 0 (.hincrby k f d)).1 = putHash s k (NMap.insert f nv (liveFields (rsHash rs k))) none →
        (exec s 0 (.hincrby k f d)).2.isError = false →
        Acts s rs (exec s 0 (.hincrby k f d)).1 (clientOut rs s (.hincrby k f d)) := by
      intro nv h1 h2
      have hfield : hashFieldAt (putHash s k (NMap.insert f nv (liveFields (rsHash rs k))) none) k f = some nv := by
        cases hi : NMap.insert f nv (liveFields (rsHash rs k)) with
        | nil => exact absurd hi (NMap.insert_ne_nil _ _ _)
        | cons p l =>
          simp only [putHash, hashFieldAt, NMap.get_insert, if_true]
          rw [← hi, NMap.get_insert, if_pos rfl]
      refine Or.inr ⟨.hwrite k [(f, nv)], ?_, ?_⟩
      · have := Mirror.hwrite (s := s) (rs := rs) k [(f, nv)]
        rw [hsetAll_fst_cons] at this
        rw [h1]; exact this
      · simp only [clientOut, happ, h2]
        rw [h1]
        simp only [record, hfield]
        rfl
    cases hx : liveFields (rsHash rs k) with
    | nil =>
      have hlk : lookupHash s k = .missing := by simp [lookupHash, hcell, hx, cellEntry]
      exact hput (showInt d) (by simp [exec, execHIncrBy, hlk, hx]) (by simp [exec, execHIncrBy, hlk, Reply.isError])
    | cons p l =>
      have hlk : lookupHash s k = .found (p :: l) none := by simp [lookupHash, hcell, hx, cellEntry]
      cases hv : hfieldInt (p :: l) f with
      | none => exact acts_of_error happ (by simp [exec, execHIncrBy, hlk, hv, Reply.isError])
      | some v =>
        by_cases hin : inI64 (v + d) = true
        · exact hput (showInt (v + d)) (by simp [exec, execHIncrBy, hlk, hv, hin, hx]) (by simp [exec, execHIncrBy, hlk, hv, hin, Reply.isError])
        · exact acts_of_error happ (by simp [exec, execHIncrBy, hlk, hv, hin, Reply.isError])
  · exact acts_of_error happ (by simp [exec, execHIncrBy, hl, Reply.isError])

theorem acts_hdel {s : State} {rs : Shard} (h : Ok s rs) (k : Nat) (fs : List Nat) :
    Acts s rs (exec s 0 (.hdel k fs)).1 (clientOut rs s (.hdel k fs)) := by
  have happ : ∀ r, applied (.hdel k fs) r = !r.isError := applied_of_not_set rfl
  rcases cell_view h.srv k with hcell | hl
  · obtain ⟨h1, h2⟩ := hdel_step h.inv.1 hcell fs
    refine Or.inr ⟨.hdelete k fs, h1 ▸ .hdelete k fs hcell, ?_⟩
    simp only [clientOut, happ, h2]
    rfl
  · exact acts_of_error happ (by simp [exec, execHDel, hl, Reply.isError])

/-- a recorded command other than a multi-key `DEL` (which the front end splits; the actor would
    tombstone every key and hand back the last delta only) -/
theorem acts_client {s : State} {rs : Shard} (h : Ok s rs) {c : Cmd} (hr : recorded c = true)
    (hd : ∀ ks, c = .del ks → ks.length ≤ 1) : Acts s rs (exec s 0 c).1 (clientOut rs s c) := by
  cases c with
  | set k v cond e g => exact acts_set s rs h.nodead k v cond e g
  | del ks =>
    match ks, hd ks rfl with
    | [], _ => exact Or.inl ⟨rfl, rfl⟩
    | [k], _ => exact acts_del1 h.inv.1 k
  | hset k fvs => exact acts_hset h k fvs
  | hdel k fs => exact acts_hdel h k fs
  | hincrby k f d => exact acts_hincrby h k f d
  | getset k v => exact acts_strmod _ k (applied_of_not_set rfl) (fun _ => rfl) (getset_shape s k v)
  | incr k => exact acts_strmod _ k (applied_of_not_set rfl) (fun _ => rfl) (incrBy_shape h.nodead k 1)
  | decr k => exact acts_strmod _ k (applied_of_not_set rfl) (fun _ => rfl) (incrBy_shape h.nodead k (-1))
  | incrby k d => exact acts_strmod _ k (applied_of_not_set rfl) (fun _ => rfl) (incrBy_shape h.nodead k d)
  | decrby k d => exact acts_strmod _ k (applied_of_not_set rfl) (fun _ => rfl) (decrBy_shape h.nodead k d)
  | append k v => exact acts_strmod _ k (applied_of_not_set rfl) (fun _ => rfl) (append_shape h.nodead k v)
  | _ => cases hr

/-- the multi-key `DEL` included -/
theorem ok_client {s : State} {rs : Shard} (h : Ok s rs) {c : Cmd} (hr : recorded c = true) :
    Ok (exec s 0 c).1 (clientOut rs s c).1 := by
  by_cases hd : ∃ ks, c = .del ks
  · obtain ⟨ks, rfl⟩ := hd; exact ok_del h ks
  · exact (acts_client h hr fun ks hk => absurd ⟨ks, hk⟩ hd).ok h

theorem record_of_not_recorded {c : Cmd} (hr : recorded c = false) (rs : Shard) (post : State) :
    record rs post c = (rs, none) := by
  cases c <;> first | rfl | cases hr

theorem clientOut_of_not_recorded {c : Cmd} (hr : recorded c = false) (rs : Shard) (s : State) :
    clientOut rs s c = (rs, none) := by
  simp only [clientOut, record_of_not_recorded hr, ite_self]

/-! ### delivery: `apply_remote_delta_impl` -/

/-- the merged value `apply_remote_delta` stores -/
def mergedVal (rs : Shard) (k : Nat) (d : RV) : RV :=
  match NMap.get rs.keys k with
  | some l => RV.merge l d
  | none => d

theorem keys_remote (rs : Shard) (k : Nat) (d : RV) :
    (rs.applyRemote k d).keys = NMap.insert k (mergedVal rs k d) rs.keys := rfl

theorem get_remote (rs : Shard) (k : Nat) (d : RV) :
    NMap.get (rs.applyRemote k d).keys k = some (mergedVal rs k d) := by
  rw [keys_remote, NMap.get_insert]; simp

/-- the replication side of a delivery, and what `Ok` then asks of the executor -/
theorem ok_remote {s : State} {rs : Shard} (h : Ok s rs) (k : Nat) (d : RV) (hd : d.WF)
    (hexp : ∀ x ms, (mergedVal rs k d).get = some x → (mergedVal rs k d).expiry = some ms → 0 < ms) :
    Ok (setKey k (matE (some (mergedVal rs k d))) s) (rs.applyRemote k d) :=
  have hW := Shard.nodewf_remote rs k d h.wf hd
  h.put k hW (fun k' hk => by rw [keys_remote, NMap.get_insert, if_neg hk]) (by rw [get_remote])
    fun _ => matE_ok (hW.2 _ (NMap.mem_of_get (get_remote rs k d))) hexp

theorem execStep_of_nodead {s : State} (hN : NoDead s) (c : Cmd) : execStep s c = exec s 0 c := by
  simp only [execStep, step, purge_of_nodead hN]

theorem exec_setCmd (s : State) (k : Nat) (v : BS) :
    (exec s 0 (setCmd k v)).1 = NMap.insert k { val := .str v, dl := none } s := by
  simp [setCmd, exec, execSet, setPlan, setCore, planDl]

theorem exec_setPx (s : State) (k : Nat) (v : BS) (ms : Nat) (h1 : 1 ≤ ms) (h2 : (ms : Int) ≤ i64Max) :
    (exec s 0 (setPxCmd k v ms)).1 = NMap.insert k { val := .str v, dl := some ms } s := by
  have h0 : ¬ ((ms : Int) ≤ 0) := by omega
  have h3 : ¬ ((ms : Int) > i64Max) := by omega
  have h4 : ¬ (ms = 0) := by omega
  simp [setPxCmd, exec, execSet, setPlan, absDeadline, planOfOpt, setCore, planDl, h3, h4]

theorem rematStr_eq {s : State} (hN : NoDead s) (k : Nat) (x : BS) (exp : Option Nat)
    (hexp : ∀ ms, exp = some ms → 1 ≤ ms ∧ (ms : Int) ≤ i64Max) :
    rematStr s k x exp = setKey k (some { val := .str x, dl := exp }) s := by
  cases exp with
  | none => simp only [rematStr]; rw [execStep_of_nodead hN, exec_setCmd]; rfl
  | some ms =>
    obtain ⟨h1, h2⟩ := hexp ms rfl
    simp only [rematStr]; rw [execStep_of_nodead hN, exec_setPx s k x ms h1 h2]; rfl

/-- the string / tombstone branch -/
theorem ok_deliver_lww {s : State} {rs : Shard} (h : Ok s rs) (k : Nat) (d : RV) (hd : d.WF) (r : Lww)
    (hc : (mergedVal rs k d).crdt = .lww r) (hp : Lww.proper r = true)
    (hexp : ∀ v ms, r.get = some v → (mergedVal rs k d).expiry = some ms → 1 ≤ ms ∧ (ms : Int) ≤ i64Max) :
    Ok (rematerialise s k (mergedVal rs k d)) (rs.applyRemote k d) := by
  have hget : (mergedVal rs k d).get = r.get := by simp [RV.get, hc]
  have key := ok_remote h k d hd fun x ms hx hms => by have := (hexp x ms (hget ▸ hx) hms).1; omega
  simp only [rematerialise, hc, rematLww, hget]
  cases hg : r.get with
  | some v =>
    have hm : matE (some (mergedVal rs k d)) = some { val := .str v, dl := (mergedVal rs k d).expiry } := by
      simp [matE, hc, hg]
    simp only
    rw [rematStr_eq h.nodead k v _ (hexp v · hg), ← hm]
    exact key
  | none =>
    have htomb : (mergedVal rs k d).isTombstone = true := by
      cases ht : r.tomb with
      | true => simp [RV.isTombstone, hc, ht]
      | false => simp [Lww.get, ht] at hg; simp [Lww.proper, ht, hg] at hp
    have hm : matE (some (mergedVal rs k d)) = none := by simp [matE, hc, hg]
    simp only [htomb, if_true]
    rw [execStep_of_nodead h.nodead, exec_del1 h.inv.1]
    rwa [hm] at key

/-! #### the hash branch -/

theorem get_hsetAll_wf (fvs : MHash) (hw : NMap.WF fvs) (h : MHash) (f : Nat) :
    NMap.get (hsetAll h fvs).1 f =
      (match NMap.get fvs f with
       | some v => some v
       | none => NMap.get h f) := by
  induction fvs generalizing h with
  | nil => rfl
  | cons p fvs ih =>
    obtain ⟨f0, v0⟩ := p
    have ⟨hlb, hw'⟩ := NMap.wf_cons.mp hw
    rw [hsetAll_fst_cons, ih hw', NMap.get_cons]
    by_cases hf : f = f0
    · subst hf
      have : NMap.get fvs f = none := NMap.get_eq_none_of_LB hlb (Nat.le_refl _)
      simp [this, NMap.get_insert]
    · simp only [hf, if_false]
      cases NMap.get fvs f with
      | some v => rfl
      | none => simp [NMap.get_insert, hf]

theorem get_hdelAll {h : MHash} (hw : NMap.WF h) (fs : List Nat) (f : Nat) :
    NMap.get (hdelAll h fs).1 f = if f ∈ fs then none else NMap.get h f := by
  induction fs generalizing h with
  | nil => simp [hdelAll]
  | cons f0 fs ih =>
    rw [hdelAll_fst_cons]
    split
    · rw [ih (NMap.wf_erase hw), NMap.get_erase hw]
      by_cases hf : f = f0
      · simp [hf]
      · simp [hf]
    · rename_i hns
      have hn : NMap.get h f0 = none := by
        cases hx : NMap.get h f0 with
        | none => rfl
        | some _ => simp [hx] at hns
      rw [ih hw]
      by_cases hf : f = f0
      · subst hf; simp [hn]
      · simp [hf]

theorem mem_tombFields {hm : NMap Lww} (hw : NMap.WF hm) (f : Nat) :
    f ∈ tombFields hm ↔ ∃ r, NMap.get hm f = some r ∧ r.tomb = true := by
  simp only [tombFields, List.mem_map, List.mem_filter]
  constructor
  · rintro ⟨p, ⟨hp, ht⟩, hpf⟩
    subst hpf
    exact ⟨p.2, NMap.get_of_mem hw hp, ht⟩
  · rintro ⟨r, hg, ht⟩
    exact ⟨(f, r), ⟨NMap.mem_of_get hg, ht⟩, rfl⟩

/-- HSET of the live fields then HDEL of the tombstoned ones turns the executor's hash into the
    live fields of the merged hash, provided every register is a tombstone or a value and the
    executor had no field the merged hash does not know -/
theorem remat_fields {hx : MHash} {hm : NMap Lww} (hwx : NMap.WF hx) (hwm : NMap.WF hm)
    (hprop : ∀ p ∈ hm, Lww.proper p.2 = true)
    (hsub : ∀ f, NMap.get hm f = none → NMap.get hx f = none) :
    (hdelAll (hsetAll hx (liveFields hm)).1 (tombFields hm)).1 = liveFields hm := by
  have hw1 : NMap.WF (hsetAll hx (liveFields hm)).1 := wf_hsetAll hwx _
  apply NMap.ext (wf_hdelAll hw1 _) (wf_liveFields hwm)
  intro f
  rw [get_hdelAll hw1, get_hsetAll_wf _ (wf_liveFields hwm), get_liveFields hwm]
  cases hg : NMap.get hm f with
  | none =>
    have : ¬ f ∈ tombFields hm := by
      rw [mem_tombFields hwm]; rintro ⟨r, hr, _⟩; rw [hg] at hr; cases hr
    simp [this, hsub f hg]
  | some r =>
    have hpr := hprop (f, r) (NMap.mem_of_get hg)
    cases ht : r.tomb with
    | true =>
      have : f ∈ tombFields hm := (mem_tombFields hwm f).mpr ⟨r, hg, ht⟩
      simp [this, Lww.get, ht]
    | false =>
      have : ¬ f ∈ tombFields hm := by
        rw [mem_tombFields hwm]; rintro ⟨r', hr', ht'⟩
        rw [hg] at hr'; cases hr'; rw [ht] at ht'; cases ht'
      simp only [Lww.proper, ht, Bool.false_or] at hpr
      cases hv : r.value with
      | none => simp [hv] at hpr
      | some v => simp [this, Lww.get, ht, hv]

theorem hsetAll_nil_right (h : MHash) : (hsetAll h []).1 = h := rfl
theorem hdelAll_nil_right (h : MHash) : (hdelAll h []).1 = h := rfl

/-- `rematHash` after the type check -/
def rematHash2 (e0 : State) (k : Nat) (h : NMap Lww) : State :=
  let e1 := if (liveFields h).isEmpty then e0 else (execStep e0 (.hset k (liveFields h))).1
  if (tombFields h).isEmpty then e1 else (execStep e1 (.hdel k (tombFields h))).1

theorem rematHash_eq (s : State) (k : Nat) (h : NMap Lww) :
    rematHash s k h =
      rematHash2 (if nonHashAt s k then (execStep s (.del [k])).1 else s) k h := rfl

/-- the guarded HSET of `apply_remote_delta_impl` and `ApplyRecoveredState` on a hash cell -/
theorem hsetIf_eq {s : State} {k : Nat} {hx : MHash} (hI : Inv s) (hN : NoDead s)
    (hg : NMap.get s k = cellEntry hx) (fvs : List (Nat × BS)) :
    (if fvs.isEmpty then s else (execStep s (.hset k fvs)).1) = setKey k (cellEntry (hsetAll hx fvs).1) s := by
  split
  · rename_i hl; rw [List.isEmpty_iff.mp hl]; exact (setKey_self hI.1 hg).symm
  · rename_i hl
    rw [execStep_of_nodead hN, (hset_step hg _ fun h => hl (List.isEmpty_iff.mpr h)).1, putHash_eq]

theorem rematHash2_eq {s : State} {k : Nat} {hx : MHash} (hI : Inv s) (hN : NoDead s)
    (hwx : NMap.WF hx) (hg : NMap.get s k = cellEntry hx) (hm : NMap Lww) :
    rematHash2 s k hm =
      setKey k (cellEntry (hdelAll (hsetAll hx (liveFields hm)).1 (tombFields hm)).1) s := by
  simp only [rematHash2]
  rw [hsetIf_eq hI hN hg]
  split
  · rename_i ht; rw [List.isEmpty_iff.mp ht]; rfl
  · -- the state after the HSET is again a cell under `k`
    have ⟨hI1, hN1⟩ := setKey_keeps hI hN k fun e => cellEntry_ok (wf_hsetAll hwx (liveFields hm))
    rw [execStep_of_nodead hN1, (hdel_step hI1.1 (by rw [get_setKey hI.1, if_pos rfl]) _).1, putHash_eq,
      setKey_setKey hI.1]

theorem optMerge_none {ν : Type} {f : ν → ν → ν} {a b : Option ν} (h : optMerge f a b = none) : a = none := by
  cases a <;> cases b <;> simp [optMerge] at h ⊢

theorem merged_hash_sub {rs : Shard} {k : Nat} {d : RV} {hm : NMap Lww} (hW : rs.NodeWF) (hd : d.WF)
    (hc : (mergedVal rs k d).crdt = .hash hm) :
    ∀ f, NMap.get hm f = none → NMap.get (rsHash rs k) f = none := by
  intro f hf
  unfold mergedVal at hc
  unfold rsHash
  cases hg : NMap.get rs.keys k with
  | none => rfl
  | some l =>
    simp only [hg] at hc
    have hlw := hW.2 _ (NMap.mem_of_get hg)
    simp only [Option.getD_some]
    cases hlc : l.crdt with
    | hash hl =>
      simp only [Crdt.hashOf]
      have hwl : NMap.WF hl := by have := hlw.1; rw [hlc] at this; exact this
      simp only [RV.merge, RV.mergeWith, Crdt.mergeWithTimestamps, hlc] at hc
      cases hdc : d.crdt with
      | hash hdh =>
        have hwd : NMap.WF hdh := by have := hd.1; rw [hdc] at this; exact this
        simp only [hdc, Crdt.tryMerge, Crdt.hash.injEq] at hc
        subst hc
        rw [NMap.get_merge hwl hwd] at hf
        exact optMerge_none hf
      | _ =>
        -- another kind on the other side: the greater stamp wins, and the result is a hash
        simp only [hdc, Crdt.tryMerge] at hc
        split at hc
        · cases hc
        · simp only [Crdt.hash.injEq] at hc; subst hc; exact hf
    | _ => rfl

theorem nonHashAt_of_cell {s : State} {k : Nat} {hx : MHash} (hg : NMap.get s k = cellEntry hx) :
    nonHashAt s k = false := by
  cases hx with
  | nil => simp only [cellEntry] at hg; simp [nonHashAt, hg]
  | cons p l => simp only [cellEntry] at hg; simp [nonHashAt, hg]

theorem nonHashAt_of_wrong {s : State} {k : Nat} (h : lookupHash s k = .wrong) :
    nonHashAt s k = true := by
  simp only [lookupHash] at h
  simp only [nonHashAt]
  cases hg : NMap.get s k with
  | none => simp [hg] at h
  | some e =>
    obtain ⟨val, dl⟩ := e
    cases val <;> simp_all

theorem ok_deliver_hash {s : State} {rs : Shard} (h : Ok s rs) (k : Nat) (d : RV) (hd : d.WF)
    (hm : NMap Lww) (hc : (mergedVal rs k d).crdt = .hash hm)
    (hprop : hm.all (fun p => Lww.proper p.2) = true) :
    Ok (rematerialise s k (mergedVal rs k d)) (rs.applyRemote k d) := by
  have key := ok_remote h k d hd fun x ms hx => by simp [RV.get, hc] at hx
  rw [matE_hash _ hm hc] at key
  have hwm : NMap.WF hm := by
    have := ((Shard.nodewf_remote rs k d h.wf hd).2 _ (NMap.mem_of_get (get_remote rs k d))).1
    rw [hc] at this; exact this
  have hpr : ∀ p ∈ hm, Lww.proper p.2 = true :=
    fun p hp => by simpa using (List.all_eq_true.mp hprop) p hp
  simp only [rematerialise, hc, rematHash_eq]
  -- once the executor holds under `k` a hash cell `hx` whose fields the merged hash knows, HSET of
  -- the live and HDEL of the tombstoned fields make it the live fields of the merged hash
  have core : ∀ (e : State) (hx : MHash), Inv e → NoDead e → NMap.WF hx → NMap.get e k = cellEntry hx →
      (∀ f, NMap.get hm f = none → NMap.get hx f = none) →
      rematHash2 e k hm = setKey k (cellEntry (liveFields hm)) e := by
    intro e hx hI hN hwx hcell hsub
    rw [rematHash2_eq hI hN hwx hcell, remat_fields hwx hwm hpr hsub]
  rcases cell_view h.srv k with hcell | hl
  · -- no key, or a hash: merged in place
    rw [nonHashAt_of_cell hcell]
    show Ok (rematHash2 s k hm) _
    rw [core s _ h.inv h.nodead (wf_liveFields (wf_rsHash h.wf k)) hcell fun f hf => by
      rw [get_liveFields (wf_rsHash h.wf k), merged_hash_sub h.wf hd hc f hf]; rfl]
    exact key
  · -- another type: deleted first, then the hash is built from nothing
    rw [nonHashAt_of_wrong hl]
    simp only [if_true]
    rw [execStep_of_nodead h.nodead, exec_del1 h.inv.1,
      core _ [] (inv_erase h.inv) (nodead_erase h.nodead) NMap.wf_nil
        (by rw [NMap.get_erase h.inv.1, if_pos rfl]; rfl) fun _ _ => rfl]
    exact setKey_setKey h.inv.1 k none _ ▸ key

end RedisVerif.Glue
