import RedisVerif.Props.Server
import RedisVerif.Props.C04

/-!
  The connection layer (Model/Conn.lean: byte stream → frames; Model/ConnWrite.lean: replies →
  written bytes) instantiated with the composed node of `Model/Server.lean`.

  `ConnW.Exec σ = σ → Val → Path → σ × Val` is the abstract executor of the connection model.  The
  instance `srvExec R`:
    * state `SrvSt` = the shards + the virtual times at which the NEXT commands will be stamped
      (`ShardedActorState::execute` reads the time source once per command: the clock is an input),
    * frame: `frameOf` reads the decoded RESP value back as the list of bulk strings that
      `Command::from_resp_zero_copy` / `Grammar.parseCmdZc` is defined on (`frameOf_cmdFrame`: the
      frame splitter hands the executor exactly the frames of the pipeline, byte for byte),
    * path ↦ frame class (`generic`, `fast` = the pooled fast path, `batch` = an item of a batch),
    * reply value: `replyOf` = `Server.handle` with the reply as a `RespValue` instead of bytes
      (`handle_replyOf`: `encode3` of it IS what `handle` writes; a rejected frame answers
      `Error(errText text)` = what `encode_error_into` writes, `Resp.encodeErr_eq`).
  The connection theorems of C04 assume NOTHING of the executor (any state type, any function), so
  there are no laws to discharge beyond these definitional links; state threading and one reply
  per frame are `encActs_srv`.
-/
namespace RedisVerif
namespace Server

open Shards Shards.M7 Resp
open Conn (Cmd cmdFrame Path execAll)

structure SrvSt where
  st : Shards Redis.Entry
  /-- the time source's readings for the commands still to come (exhausted: the last one repeats) -/
  ticks : List Nat
  last : Nat

def SrvSt.now (s : SrvSt) : Nat := s.ticks.headD s.last

def SrvSt.next (s : SrvSt) (st' : Shards Redis.Entry) : SrvSt :=
  { st := st', ticks := s.ticks.tail, last := s.now }

def bulksOf : List Val → Option Frame
  | [] => some []
  | .bulk b :: rest => (bulksOf rest).map (b :: ·)
  | _ => none

/-- the decoded frame as the list of bulk strings the command parser is defined on -/
def frameOf : Val → Option Frame
  | .array a => bulksOf a
  | _ => none

def classOfPath : Path → FrameClass
  | .generic => .generic
  | .fast => .getFast       -- `execVia` sends a GET to `pooled_fast_get`, a plain SET to `pooled_fast_set`
  | .batch => .getBatch

/-- the frame class of a path for a given frame: fast/batch GET vs SET -/
def classOf (p : Path) (f : Frame) : FrameClass :=
  match p, f with
  | .generic, _ => .generic
  | .fast, [_, _] => .getFast
  | .fast, _ => .setFast
  | .batch, [_, _] => .getBatch
  | .batch, _ => .setBatch

/-- `Server.handle` with the reply as a value -/
def replyOf (R : Routes) (cls : FrameClass) (st : Shards Redis.Entry) (now : Nat) (f : Frame) :
    Shards Redis.Entry × Val :=
  match Grammar.parseCmdZc f with
  | .error e => (st, .error (match e.text with | some t => errText t | none => []))
  | .ok gc =>
    match toCmd7 gc with
    | none => (st, .error (Grammar.s2b "ERR outside the composed model"))
    | some c =>
      let r := execVia R cls now st c
      (r.1, match toM7 r.2 with | some rr => replyVal rr | none => .error [])

/-- the composed node as the executor of the connection model -/
def srvExec (R : Routes) : ConnW.Exec SrvSt := fun s v p =>
  match frameOf v with
  | some f => let r := replyOf R (classOf p f) s.st s.now f; (s.next r.1, r.2)
  | none => (s.next s.st, .error (errText (Grammar.s2b "Invalid command format")))

theorem bulksOf_map (c : Frame) : bulksOf (c.map Val.bulk) = some c := by
  induction c with
  | nil => rfl
  | cons b bs ih => simp [bulksOf, ih]

/-- **the frame splitter hands the node exactly the frames of the pipeline** -/
theorem frameOf_cmdFrame (c : Cmd) : frameOf (cmdFrame c) = some c := bulksOf_map c

/-- a frame the node ANSWERS with bytes: it parses to a command of the composed model, or is rejected
    with an error text (no parser panic) -/
def Answered (f : Frame) : Bool :=
  match Grammar.parseCmdZc f with
  | .error e => e.text.isSome
  | .ok gc => (toCmd7 gc).isSome

/-- what `handle` writes is `encode3` of `replyOf`'s value; same next state -/
theorem handle_replyOf (R : Routes) (classify : Classify) (st : Shards Redis.Entry) (now : Nat) (f : Frame)
    (b : Bytes) (h : (handle R classify st now f).2 = .bytes b) :
    (replyOf R (classify f) st now f).1 = (handle R classify st now f).1 ∧
    encode3 (replyOf R (classify f) st now f).2 = b := by
  unfold handle replyOf encodeParseErr at *
  cases hp : Grammar.parseCmdZc f with
  | error e =>
    simp only [hp] at h ⊢
    cases ht : e.text with
    | none => simp [ht] at h
    | some t =>
      simp only [ht, Option.map] at h ⊢
      injection h with h
      exact ⟨trivial, by rw [encode3_eq, ← encodeErr_eq]; exact h⟩
  | ok gc =>
    simp only [hp] at h ⊢
    cases hc : toCmd7 gc with
    | none => simp [hc] at h
    | some c =>
      simp only [hc] at h ⊢
      cases hm : toM7 (execVia R (classify f) now st c).2 with
      | none => simp [hm] at h
      | some rr =>
        simp only [hm] at h ⊢
        injection h with h
        exact ⟨trivial, h⟩

/-- the outputs of `Server.run` as one byte string (`none` if some frame has no bytes) -/
def outBytes : List Out → Option Bytes
  | [] => some []
  | .bytes b :: rest => (outBytes rest).map (b ++ ·)
  | _ :: _ => none

theorem outBytes_cons {o : Out} {os : List Out} {bs : Bytes} (h : outBytes (o :: os) = some bs) :
    ∃ b rest, o = .bytes b ∧ outBytes os = some rest ∧ bs = b ++ rest := by
  cases o with
  | bytes b =>
    cases hr : outBytes os with
    | none => rw [outBytes, hr] at h; cases h
    | some rest => rw [outBytes, hr] at h; cases h; exact ⟨b, rest, rfl, rfl, rfl⟩
  | _ => cases h

/-- **state threading, one reply per frame** on the generic path; the clock readings `extra` beyond the
    pipeline are never consulted -/
theorem encActs_srv (R : Routes) : ∀ (frames : List (Nat × Frame)) (st : Shards Redis.Entry) (last : Nat)
    (extra : List Nat) (bs : Bytes), outBytes (run R (fun _ => .generic) st frames).2 = some bs →
    ConnW.replyBytes (srvExec R) ⟨st, frames.map (·.1) ++ extra, last⟩ ((frames.map (·.2)).map cmdFrame) = bs ∧
    (ConnW.encActs (srvExec R) ⟨st, frames.map (·.1) ++ extra, last⟩ (execAll (frames.map (·.2)))).1.st =
      (run R (fun _ => .generic) st frames).1
  | [], _, _, _, _, h => by cases h; exact ⟨rfl, rfl⟩
  | (now, f) :: xs, st, last, extra, bs, h => by
    obtain ⟨b, rest, ho, hr, rfl⟩ := outBytes_cons h
    obtain ⟨e1, e2⟩ := handle_replyOf R (fun _ => .generic) st now f b ho
    obtain ⟨i1, i2⟩ := encActs_srv R xs (handle R (fun _ => .generic) st now f).1 now extra rest hr
    simp only [List.map_cons, List.cons_append, execAll, ConnW.replyBytes, ConnW.encActs, srvExec,
      frameOf_cmdFrame, classOf, SrvSt.now, List.headD_cons, SrvSt.next, List.tail_cons, run]
    rw [e2, e1, i1]
    exact ⟨rfl, i2⟩

end Server
end RedisVerif

/-! ## the final executor state of a whole well-formed pipeline -/

namespace RedisVerif
namespace ConnW
open Conn Resp

theorem stream_cons_len (c : Cmd) (cs : List Cmd) : (encCmd c).length ≤ (stream (c :: cs)).length := by
  rw [stream_cons]; simp

/-- after a whole well-formed pipeline, a peer that never refuses: the loop is still running, the
    read buffer is empty, and the executor is in the state reached by executing every command once,
    in order, on the generic path -/
theorem runW_final {σ : Type} (ex : Exec σ) (s0 : σ) (cfg : Config) (h14 : DeadCfg cfg)
    (hc : cfg.codec = codec1) (hd : 1 ≤ cfg.env.depth) (cmds : List Cmd) (segs : List Bytes) (script : List WEv)
    (h : segs.flatten = stream cmds) (hs : Small (stream cmds)) (hmax : (stream cmds).length ≤ cfg.maxBuffer)
    (hok : ∀ c ∈ cmds, CmdOK cfg c) (hnf : NoFail script = true) :
    (runW cfg ex s0 script segs none).ex = (encActs ex s0 (execAll cmds)).1 ∧
    (runW cfg ex s0 script segs none).ended = false ∧ (runW cfg ex s0 script segs none).wbuf = [] := by
  obtain ⟨done, left, pre, tx', e1, e2, e3, e4⟩ :=
    reads_wf_prefix cfg h14 hc hd (chunksOf cfg segs) cmds [] [] false []
      (by simp [chunksOf, flatMap_splitReads_flatten, h]) hs hmax hok
      (by intro c cs _; have := encCmd_len_pos c; simp; omega)
  have hleft : left = [] := by
    cases left with
    | nil => rfl
    | cons c cs =>
      have h1 := e3 c cs rfl
      have h2 : pre = stream (c :: cs) := by simpa using e2
      have h3 := stream_cons_len c cs
      rw [h2] at h1; omega
  subst hleft
  have hdone : done = cmds := by simpa using e1.symm
  subst hdone
  have hpf : pureFold cfg (St.init, []) (chunksOf cfg segs) = (⟨pre, tx', false⟩, execAll done) := by
    simpa [pureFold, St.init] using e4
  have hnc : anyCrash (pureFold cfg (St.init, []) (chunksOf cfg segs)).2 = false := by
    rw [hpf]; exact anyCrash_execAll done
  have R := fold_relNF cfg ex s0 (chunksOf cfg segs) _ _ (relNF_init ex s0 script hnf) hnc
  rw [hpf] at R
  have hend : (runW cfg ex s0 script segs none).ended = false := by
    cases he : (runW cfg ex s0 script segs none).ended with
    | false => rfl
    | true => exact absurd (R.ended he) (by simp)
  obtain ⟨_, l2, l3, _⟩ := R.live hend
  exact ⟨l2, hend, l3⟩

end ConnW

end RedisVerif
