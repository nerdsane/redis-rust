import RedisVerif.Model.Redis
import RedisVerif.Lemmas.NMap

/-! The reference Redis model: purge / view, the invariant under the map primitives, and what every
    command guarantees of its result (`Safe`). -/
namespace RedisVerif.Redis
open RedisVerif

theorem inI64_iff (i : Int) : inI64 i = true ↔ i64Min ≤ i ∧ i ≤ i64Max := by
  simp [inI64]

theorem wf_purge {s : State} (now : Nat) (h : NMap.WF s) : NMap.WF (purge s now) :=
  NMap.wf_filter _ h

theorem live_mono {now now' : Nat} (hle : now ≤ now') (e : Entry) (hl : live now' e = true) :
    live now e = true := by
  unfold live at *
  cases hd : e.dl with
  | none => rfl
  | some d =>
    rw [hd] at hl
    simp only [decide_eq_true_eq] at hl ⊢
    omega

/-- purging at `now` and then at a later instant is purging at the later instant -/
theorem purge_purge_le (s : State) {now now' : Nat} (hle : now ≤ now') :
    purge (purge s now) now' = purge s now' := by
  unfold purge
  rw [List.filter_filter]
  apply List.filter_congr
  intro p _
  cases hl : live now' p.2
  · simp
  · simp [live_mono hle p.2 hl]

theorem purge_idem (s : State) (now : Nat) : purge (purge s now) now = purge s now :=
  purge_purge_le s (Nat.le_refl _)

theorem mem_purge {s : State} {now : Nat} {p : Nat × Entry} :
    p ∈ purge s now ↔ p ∈ s ∧ live now p.2 = true := by
  simp [purge, List.mem_filter]

theorem get_purge {s : State} (h : NMap.WF s) (now k : Nat) :
    NMap.get (purge s now) k = (NMap.get s k).filter (live now) :=
  NMap.get_filter (fun p => live now p.2) h k

theorem view_purge_le (s : State) {now t : Nat} (h : now ≤ t) :
    view (purge s now) t = view s t := by
  simp [view, purge_purge_le s h]

theorem view_purge (s : State) (now : Nat) : view (purge s now) now = view s now :=
  view_purge_le s (Nat.le_refl _)

/-- what a client sees of an entry -/
def toV (now : Nat) (e : Entry) : VEntry := { val := e.val, ttl := e.dl.map (· - now) }

theorem view_eq (s : State) (now : Nat) :
    view s now = (purge s now).map (fun p => (p.1, toV now p.2)) := rfl

theorem get_view (s : State) (now k : Nat) :
    NMap.get (view s now) k = (NMap.get (purge s now) k).map (toV now) := by
  rw [view_eq]; exact NMap.get_mapVal (toV now) (purge s now) k

theorem toV_inj {now : Nat} {e e' : Entry} (h : toV now e = toV now e')
    (hl : live now e = true) (hl' : live now e' = true) : e = e' := by
  obtain ⟨v, dl⟩ := e
  obtain ⟨v', dl'⟩ := e'
  simp only [toV, VEntry.mk.injEq] at h
  obtain ⟨hv, hd⟩ := h
  subst hv
  cases dl <;> cases dl' <;> simp [live] at hl hl' hd ⊢
  omega

theorem map_toV_inj {now : Nat} : ∀ (a b : State),
    (∀ p ∈ a, live now p.2 = true) → (∀ p ∈ b, live now p.2 = true) →
    a.map (fun p => (p.1, toV now p.2)) = b.map (fun p => (p.1, toV now p.2)) → a = b
  | [], [], _, _, _ => rfl
  | [], _ :: _, _, _, h => by simp at h
  | _ :: _, [], _, _, h => by simp at h
  | p :: a, q :: b, hl, hl', h => by
    simp only [List.map_cons, List.cons.injEq, Prod.mk.injEq] at h
    obtain ⟨⟨hk, hv⟩, ht⟩ := h
    have e1 : p.2 = q.2 := toV_inj hv (hl p (List.mem_cons_self ..)) (hl' q (List.mem_cons_self ..))
    have : p = q := Prod.ext hk e1
    subst this
    congr 1
    exact map_toV_inj a b (fun x hx => hl x (List.mem_cons_of_mem _ hx))
      (fun x hx => hl' x (List.mem_cons_of_mem _ hx)) ht

theorem purge_of_view {s s' : State} {now : Nat} (h : view s now = view s' now) :
    purge s now = purge s' now := by
  rw [view_eq, view_eq] at h
  exact map_toV_inj _ _ (fun p hp => (mem_purge.mp hp).2) (fun p hp => (mem_purge.mp hp).2) h

theorem inv_nil : Inv ([] : State) := ⟨NMap.wf_nil, fun _ h => by cases h⟩

theorem inv_insert_entry {s : State} {k : Nat} {e : Entry}
    (h : Inv s) (hv : ValueOk e.val) : Inv (NMap.insert k e s) := by
  refine ⟨NMap.wf_insert h.1, fun p hp => ?_⟩
  cases NMap.mem_insert hp with
  | inl e => subst e; exact hv
  | inr e => exact h.2 p e

/-- the form for an entry written as `⟨v, dl⟩` (the value need not be recovered by unification) -/
theorem inv_insert {s : State} {k : Nat} {v : Value} {dl : Option Nat}
    (h : Inv s) (hv : ValueOk v) : Inv (NMap.insert k ⟨v, dl⟩ s) := inv_insert_entry h hv

theorem inv_erase {s : State} {k : Nat} (h : Inv s) : Inv (NMap.erase k s) :=
  ⟨NMap.wf_erase h.1, fun p hp => h.2 p (NMap.mem_erase hp)⟩

theorem inv_purge {s : State} (now : Nat) (h : Inv s) : Inv (purge s now) :=
  ⟨wf_purge now h.1, fun p hp => h.2 p (mem_purge.mp hp).1⟩

theorem inv_get {s : State} {k : Nat} {e : Entry} (h : Inv s) (hg : NMap.get s k = some e) :
    ValueOk e.val := h.2 (k, e) (NMap.mem_of_get hg)

theorem valueOk_str (b : BS) : ValueOk (.str b) := trivial

/-- of the result `p` of a command on the state `s`: the invariant is preserved, and an error reply
    means the state is the one the command was given -/
structure Safe (s : State) (p : State × Reply) : Prop where
  inv : Inv s → Inv p.1
  err : p.2.isError = true → p.1 = s

theorem Safe.keep {s : State} {p : State × Reply} (e : p.1 = s := by rfl) : Safe s p :=
  ⟨fun h => e ▸ h, fun _ => e⟩

theorem Safe.ok {s t : State} {r : Reply} (ht : Inv s → Inv t) (hr : r.isError = false := by rfl) :
    Safe s (t, r) :=
  ⟨ht, fun he => by simp [hr] at he⟩

theorem normIdx_nonneg (len : Nat) (i : Int) : 0 ≤ normIdx len i := by
  unfold normIdx; split
  · split <;> omega
  · omega

theorem clampEnd_lt (len : Nat) (e : Int) : len = 0 ∨ clampEnd len e < len := by
  unfold clampEnd; split <;> omega

theorem clampEnd_ge (len : Nat) (e : Int) (h : 0 ≤ e) : len = 0 ∨ 0 ≤ clampEnd len e := by
  unfold clampEnd; split <;> omega

end RedisVerif.Redis
