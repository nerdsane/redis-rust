import RedisVerif.Lemmas.SimCluster

/-!
  Layer 2 of the simulator cluster: a `SimulatedNode` serves what its replication state says.
  For every string key, `GET` on the node's executor = the live value of `replicated_keys`
  (`ReplicatedValue::get`, `None` for a tombstone) — after every client `SET[EX]` / `DEL`, every
  gossip delivery and every anti-entropy transfer (`apply_remote_deltas` writes the MERGED value
  through).
-/
namespace RedisVerif
namespace SimC
open Gossip Cluster

/-- an LWW register as `set` / `delete` leave it: a value, or a tombstone -/
def GoodReg (v : RV) : Prop := ∃ r, v.crdt = .lww r ∧ (r.tomb = true ∨ r.value.isSome = true)

/-- the node-local invariant -/
structure NodeOK (keys : NMap RV) (kv : NMap Bytes) : Prop where
  wf : NMap.WF kv
  served : ∀ k, NMap.get kv k = (NMap.get keys k).bind RV.get
  good : ∀ k v, NMap.get keys k = some v → GoodReg v

theorem merge_good {a b : RV} (ha : GoodReg a) (hb : GoodReg b) : GoodReg (RV.merge a b) := by
  obtain ⟨ra, hra, ga⟩ := ha
  obtain ⟨rb, hrb, gb⟩ := hb
  have hc : (RV.merge a b).crdt = .lww (Lww.merge ra rb) := by
    simp [RV.merge, RV.mergeWith, Crdt.mergeWithTimestamps, Crdt.tryMerge, hra, hrb]
  refine ⟨_, hc, ?_⟩
  have hmm : Lww.merge ra rb = ra ∨ Lww.merge ra rb = rb := by
    unfold Lww.merge; split
    · exact Or.inr rfl
    · exact Or.inl rfl
  rcases hmm with h | h <;> rw [h]
  · exact ga
  · exact gb

theorem NodeOK.store {keys : NMap RV} {kv : NMap Bytes} (h : NodeOK keys kv) (k : Nat) {rv : RV}
    (hg : GoodReg rv) :
    NodeOK (NMap.insert k rv keys)
      (match rv.get with
       | some b => NMap.insert k b kv
       | none => NMap.erase k kv) := by
  have hgood : ∀ k' v, NMap.get (NMap.insert k rv keys) k' = some v → GoodReg v := by
    intro k' v hg'
    rw [NMap.get_insert] at hg'
    split at hg'
    · rw [← Option.some.inj hg']; exact hg
    · exact h.good k' v hg'
  cases hb : rv.get with
  | some b =>
    refine ⟨NMap.wf_insert h.wf, fun k' => ?_, hgood⟩
    rw [NMap.get_insert, NMap.get_insert]
    by_cases hk : k' = k
    · simp [hk, hb]
    · simp only [hk, if_false]; exact h.served k'
  | none =>
    refine ⟨NMap.wf_erase h.wf, fun k' => ?_, hgood⟩
    rw [NMap.get_erase h.wf, NMap.get_insert]
    by_cases hk : k' = k
    · simp [hk, hb]
    · simp only [hk, if_false]; exact h.served k'

theorem GoodReg.get_none_iff {v : RV} (h : GoodReg v) : v.get = none ↔ v.isTombstone = true := by
  obtain ⟨r, hr, hrg⟩ := h
  simp only [RV.get, RV.isTombstone, hr, Lww.get]
  cases ht : r.tomb with
  | true => simp
  | false =>
    rcases hrg with h1 | h1
    · rw [ht] at h1; cases h1
    · obtain ⟨b, hb⟩ := Option.isSome_iff_exists.mp h1
      simp [hb]

/-- one delta of `apply_remote_deltas` -/
theorem nodeOK_applyOne (nd : SNode) (d : Msg) (h : NodeOK nd.ps.sh.keys nd.kv) (hd : GoodReg d.val) :
    NodeOK (nd.applyOne d).ps.sh.keys (nd.applyOne d).kv := by
  -- the merged value
  have hm : ∃ mv, NMap.get (nd.ps.sh.applyRemote d.key d.val).keys d.key = some mv ∧ GoodReg mv ∧
      (nd.ps.sh.applyRemote d.key d.val).keys = NMap.insert d.key mv nd.ps.sh.keys := by
    simp only [Shard.applyRemote]
    cases hg : NMap.get nd.ps.sh.keys d.key with
    | none => exact ⟨d.val, by rw [NMap.get_insert]; simp, hd, rfl⟩
    | some l => exact ⟨RV.merge l d.val, by rw [NMap.get_insert]; simp, merge_good (h.good _ l hg) hd, rfl⟩
  obtain ⟨mv, hmv, hgood, hkeys⟩ := hm
  have := h.store d.key hgood
  simp only [SNode.applyOne, hmv]
  rw [hkeys]
  cases hb : mv.get with
  | some b =>
    have ht : mv.isTombstone = false := by
      cases hx : mv.isTombstone with
      | false => rfl
      | true => rw [(hgood.get_none_iff).mpr hx] at hb; cases hb
    simpa [hb, ht] using this
  | none =>
    simpa [hb, (hgood.get_none_iff).mp hb] using this

theorem nodeOK_applyAll (ds : List Msg) : ∀ (nd : SNode), NodeOK nd.ps.sh.keys nd.kv → (∀ d ∈ ds, GoodReg d.val) →
    NodeOK (nd.applyAll ds).ps.sh.keys (nd.applyAll ds).kv := by
  induction ds with
  | nil => intro nd h _; exact h
  | cons d ds ih =>
    intro nd h hd
    simp only [SNode.applyAll, List.foldl_cons] at ih ⊢
    exact ih _ (nodeOK_applyOne nd d h (hd d (by simp))) (fun x hx => hd x (List.mem_cons_of_mem _ hx))

/-- `SET k v [EX s]` -/
theorem nodeOK_set (cap me : Nat) (ps : PShard) (kv : NMap Bytes) (k : Nat) (v : Bytes) (e : Option Nat)
    (h : NodeOK ps.sh.keys kv) :
    NodeOK (SNode.record cap me ps [.write k v e]).1.sh.keys (NMap.insert k v kv) ∧
    ∀ m ∈ (SNode.record cap me ps [.write k v e]).2, GoodReg m.val := by
  have hrec : SNode.record cap me ps [.write k v e] =
      ({ sh := (Shard.recordWrite ps.sh k v e).1, pending := enforceCap cap (ps.pending ++ [⟨me, k, (Shard.recordWrite ps.sh k v e).2⟩]) },
        [⟨me, k, (Shard.recordWrite ps.sh k v e).2⟩]) := by
    simp [SNode.record, PShard.localOp, LOp.toOp, Shard.step, LOp.key]
  rw [hrec]
  have hgood : GoodReg (Shard.recordWrite ps.sh k v e).2 :=
    ⟨Lww.set v ps.sh.clock.tick, rfl, Or.inr rfl⟩
  refine ⟨by simpa [Shard.recordWrite, RV.get, Lww.get, Lww.set] using h.store k hgood, fun m hm => ?_⟩
  rw [List.mem_singleton.mp hm]; exact hgood

/-- one `record_delete` + the executor's `DEL` of that key -/
theorem nodeOK_del1 (cap me : Nat) (ps : PShard) (kv : NMap Bytes) (k : Nat) (acc : List Msg)
    (h : NodeOK ps.sh.keys kv) :
    NodeOK (recF cap me (ps, acc) (.delete k)).1.sh.keys (NMap.erase k kv) ∧
    ∀ m ∈ (recF cap me (ps, acc) (.delete k)).2, m ∈ acc ∨ GoodReg m.val := by
  simp only [recF, PShard.localOp, LOp.toOp, Shard.step, LOp.key, Shard.recordDelete]
  cases hg : NMap.get ps.sh.keys k with
  | none =>
    simp only []
    refine ⟨⟨NMap.wf_erase h.wf, ?_, h.good⟩, fun m hm => Or.inl hm⟩
    intro k'
    rw [NMap.get_erase h.wf]
    by_cases hk : k' = k
    · simp [hk, hg]
    · simp only [hk, if_false]; exact h.served k'
  | some rv =>
    obtain ⟨r, hr, _⟩ := h.good k rv hg
    simp only [hr]
    have hgood : GoodReg { rv with crdt := .lww (Lww.delete ps.sh.clock.tick), ts := ps.sh.clock.tick } :=
      ⟨Lww.delete ps.sh.clock.tick, rfl, Or.inl rfl⟩
    refine ⟨by simpa [RV.get, Lww.get, Lww.delete] using h.store k hgood, fun m hm => ?_⟩
    simp only [List.mem_append, List.mem_singleton] at hm
    rcases hm with h1 | h1
    · exact Or.inl h1
    · rw [h1]; exact Or.inr hgood

theorem nodeOK_del (cap me : Nat) (ks : List Nat) : ∀ (ps : PShard) (kv : NMap Bytes) (acc : List Msg),
    NodeOK ps.sh.keys kv →
    NodeOK ((ks.map LOp.delete).foldl (recF cap me) (ps, acc)).1.sh.keys (ks.foldl (fun m k => NMap.erase k m) kv) ∧
    ∀ m ∈ ((ks.map LOp.delete).foldl (recF cap me) (ps, acc)).2, m ∈ acc ∨ GoodReg m.val := by
  induction ks with
  | nil => intro ps kv acc h; exact ⟨h, fun m hm => Or.inl hm⟩
  | cons k ks ih =>
    intro ps kv acc h
    simp only [List.map_cons, List.foldl_cons]
    obtain ⟨h1, h2⟩ := nodeOK_del1 cap me ps kv k acc h
    obtain ⟨h3, h4⟩ := ih (recF cap me (ps, acc) (.delete k)).1 (NMap.erase k kv) (recF cap me (ps, acc) (.delete k)).2 h1
    refine ⟨h3, ?_⟩
    intro m hm
    rcases h4 m hm with h5 | h5
    · exact h2 m h5
    · exact Or.inr h5

structure ServedInv (c : Sim) : Prop where
  sinv : SInv c
  node : ∀ nd ∈ c.nodes, NodeOK nd.ps.sh.keys nd.kv
  issued : ∀ m ∈ c.issued, GoodReg m.val

theorem servedInv_init (n : Nat) (causal : Bool) (routers : List (Option Router)) (autoAE : Bool) :
    ServedInv (Sim.init n causal routers autoAE) := by
  refine ⟨sinv_init n causal routers autoAE, ?_, by intro m hm; simp [Sim.init] at hm⟩
  intro nd hnd
  simp only [Sim.init, List.mem_map, List.mem_range] at hnd
  obtain ⟨i, _, rfl⟩ := hnd
  exact ⟨NMap.wf_nil, fun k => by simp [SNode.init, PShard.init, Shard.init], fun k v hg => by simp [SNode.init, PShard.init, Shard.init] at hg⟩

theorem ServedInv.applied {D : Msg → Prop} {c c' : Sim} (h : ServedInv c) (ha : Applied D c c')
    (hD : ∀ d, D d → GoodReg d.val) : ServedInv c' := by
  refine ⟨h.sinv.applied ha, fun nd' hnd' => ?_, by rw [ha.issued]; exact h.issued⟩
  obtain ⟨i, hi⟩ := List.getElem?_of_mem hnd'
  obtain ⟨nd, ds, hnd, rfl, hds⟩ := ha.node i nd' hi
  exact nodeOK_applyAll ds nd (h.node nd (List.mem_of_getElem? hnd)) (fun d hd => hD d (hds d hd))

theorem servedInv_step (H : AE.Hasher) (cfg : Cfg) (c : Sim) (h : ServedInv c) (e : SEv) :
    ServedInv (c.step H cfg e) := by
  cases e with
  | exec i op =>
    have hs := (step_sim H cfg c h.sinv (.exec i op)).1
    cases hn : c.nodes[i]? with
    | none => rw [step_exec_none H cfg hn]; exact h
    | some nd =>
      have hok := h.node nd (List.mem_of_getElem? hn)
      have key : NodeOK (SNode.record cfg.pendingCap i nd.ps op.lops).1.sh.keys (SNode.kvExec nd.kv op) ∧
          ∀ m ∈ (SNode.record cfg.pendingCap i nd.ps op.lops).2, GoodReg m.val := by
        cases op with
        | set k v ex => exact nodeOK_set cfg.pendingCap i nd.ps nd.kv k v _ hok
        | del ks =>
          have := nodeOK_del cfg.pendingCap i ks nd.ps nd.kv [] hok
          simp only [SOp.lops, SNode.kvExec, record_eq]
          exact ⟨this.1, fun m hm => (this.2 m hm).elim (fun h => by cases h) id⟩
      rw [step_exec H cfg hn] at hs ⊢
      refine ⟨hs, ?_, ?_⟩
      · intro nd' hnd'
        rcases mem_set hnd' with h1 | h1
        · rw [h1]; exact key.1
        · exact h.node nd' h1
      · intro m hm
        rcases List.mem_append.mp hm with h1 | h1
        · exact h.issued m h1
        · exact key.2 m h1
  | gossip oracle =>
    rw [step_gossip]
    have hq := sentQueue_issued h.sinv oracle
    -- draining the outboxes changes neither what a node serves nor what it holds
    have hd : ServedInv (drained c (Sim.popReady c.parts c.now (sentQueue c oracle)).2) := by
      refine ⟨⟨?_, fun f hf => hq f (mem_popReady (Or.inr hf))⟩, ?_, h.issued⟩
      · intro nd hnd m hm
        simp only [drained, List.mem_map] at hnd
        obtain ⟨x, _, rfl⟩ := hnd
        cases hm
      · intro nd hnd
        simp only [drained, List.mem_map] at hnd
        obtain ⟨x, hx, rfl⟩ := hnd
        exact h.node x hx
    exact hd.applied (applied_deliverFlights _ _)
      (fun d ⟨f, hf, hdf⟩ => h.issued d (hq f (mem_popReady (Or.inl hf)) d hdf))
  | _ =>
    exact step_ae H cfg (fun x _ _ hx => ⟨⟨hx.sinv.pend, hx.sinv.queue⟩, hx.node, hx.issued⟩)
      (fun x a b hx => hx.applied (applied_syncStep H cfg x a b)
        (fun d ⟨nd, hnd, hg⟩ => (hx.node nd hnd).good _ _ hg)) c h _ rfl

theorem servedInv_run (H : AE.Hasher) (cfg : Cfg) (evs : List SEv) : ∀ (c : Sim), ServedInv c →
    ServedInv (c.run H cfg evs) :=
  fun c h => TraceInv.run_inv (Sim.step H cfg) ServedInv (fun c e h => servedInv_step H cfg c h e) c h evs

end SimC
end RedisVerif
