import RedisVerif.Lemmas.SkipListSearch

/-! What insert and delete share: distances around an update position (`IsUpd`); `perLevel`, the loop that
    writes one span per level (`Same`, `perLevel_spec`); and `spans_splice`, the spans after such a loop once the
    towers from the update positions on have been replaced. -/
namespace RedisVerif.SkipList
open RedisVerif RedisVerif.Redis

theorem ht_getElem?_of_map {T1 T : List Tower} (h : T1.map Tower.ht = T.map Tower.ht) (k : Nat) :
    (T1[k]?).map Tower.ht = (T[k]?).map Tower.ht := by
  rw [← List.getElem?_map, ← List.getElem?_map, h]

/-! ## `update[j]`: what `IsUpd T c j u` says about the distances from `u` and from before `u` -/

theorem all_small_of_isUpd {T : List Tower} {c j u : Nat} (h : IsUpd T c j u) :
    ∀ t ∈ (T.take c).drop u, t.ht ≤ j := by
  intro t ht
  obtain ⟨k, hk⟩ := List.getElem?_of_mem ht
  rw [List.getElem?_drop, List.getElem?_take] at hk
  split at hk
  · exact h.2.2 (u + k) t (Nat.le_add_right ..) (by assumption) hk
  · cases hk

/-- the level-`j` distance from a position `q ≤ c` on level `j`, whatever follows `T.take c`: from
    `u` the pointer skips the rest of `T.take c`; from another position it stops at or before `u` -/
theorem IsUpd.dist_patch {T : List Tower} {c j u q : Nat} (h : IsUpd T c j u) (hc : c ≤ T.length)
    (hq : q ≤ c) (hqj : q = 0 ∨ ∃ t, T[q - 1]? = some t ∧ j < t.ht) (Z : List Tower) :
    distTo j ((T.take c).drop q ++ Z) = if q = u then (c - q) + distTo j Z else distTo j (T.drop q) := by
  have hu := h.1
  by_cases hqu : q = u
  · subst hqu
    rw [if_pos rfl, distTo_append_small (all_small_of_isUpd h), List.length_drop, List.length_take_of_le hc]
  · have hlt : q < u := by
      rcases hqj with rfl | ⟨t, ht, hj⟩
      · omega
      · rcases Nat.lt_or_ge q u with hlt | hge
        · exact hlt
        · have := h.2.2 (q - 1) t (by omega) (by omega) ht
          omega
    obtain ⟨t, ht, hj⟩ : ∃ t, T[u - 1]? = some t ∧ j < t.ht := h.2.1.resolve_left (by omega)
    have hbig : ∃ t ∈ (T.take c).drop q, j < t.ht := by
      refine ⟨t, List.mem_of_getElem? (i := u - 1 - q) ?_, hj⟩
      rw [List.getElem?_drop, List.getElem?_take_of_lt (by omega), ← ht]
      congr 1; omega
    rw [if_neg hqu, distTo_append_big hbig Z (T.drop c), ← drop_eq_take_drop_append T hq hc]

theorem dist_isUpd {T : List Tower} {c j u : Nat} (hc : c ≤ T.length) (hu : IsUpd T c j u) :
    distTo j (T.drop u) = (c - u) + distTo j (T.drop c) := by
  rw [drop_eq_take_drop_append T hu.1 hc, hu.dist_patch hc hu.1 hu.2.1, if_pos rfl]

/-- the `update` array as a function of the level -/
theorem exists_us {ur : List (Nat × Nat)} {n : Nat} {P : Nat → Nat → Prop}
    (h : ∀ j, j < n → ∃ u, ur[j]? = some (u, u) ∧ P j u) :
    ∃ us : Nat → Nat, ∀ j, j < n → ur[j]? = some (us j, us j) ∧ P j (us j) := by
  refine ⟨fun j => ((ur[j]?).getD (0, 0)).1, fun j hj => ?_⟩
  obtain ⟨u, hu, hp⟩ := h j hj
  dsimp only
  rw [hu]; exact ⟨rfl, hp⟩

/-- the distance from a position `q ≤ c` that is on level `j`, after a tower with `h` levels has
    been linked in at index `c` -/
theorem dist_after_insert {T T1 : List Tower} {c j u q h : Nat} {new : Tower}
    (hT1 : T1.map Tower.ht = T.map Tower.ht) (hc : c ≤ T.length) (hupd : IsUpd T c j u)
    (hq : q ≤ c) (hqj : q = 0 ∨ ∃ t, T[q - 1]? = some t ∧ j < t.ht) (hnew : new.ht = h) :
    distTo j ((T1.take c).drop q ++ new :: T1.drop c) =
      if q = u then (if j < h then c - q + 1 else distTo j (T.drop q) + 1) else distTo j (T.drop q) := by
  -- only the heights matter
  rw [distTo_congr (ys := (T.take c).drop q ++ new :: T.drop c)
    (by simp only [List.map_append, List.map_cons, List.map_drop, List.map_take, hT1]),
    hupd.dist_patch hc hq hqj]
  by_cases hqu : q = u
  · subst hqu
    rw [if_pos rfl, if_pos rfl, dist_isUpd hc hupd]
    simp only [distTo, hnew]
    split <;> omega
  · rw [if_neg hqu, if_neg hqu]

/-! ## the per-level loops (`for i in a..b { nodes[update[i]].levels[i].span = … }`) -/

/-- common shape of the three loops: at level `j` the slot of `update[j]` gets `f … j` -/
def perLevel (f : SL → Nat → Nat → Nat → Option Nat) : List (Nat × Nat) → Nat → SL → Option SL
  | [], _, sl => some sl
  | (u, r) :: rest, j, sl =>
    match f sl u r j with
    | none => none
    | some v => perLevel f rest (j + 1) (setSpan sl u j v)

/-- two lists agree on level `j` (and on the shape) -/
def Agree (j : Nat) (a b : SL) : Prop :=
  (∀ q, spanAt a q j = spanAt b q j) ∧ a.towers.map Tower.ht = b.towers.map Tower.ht

/-- everything but the spans is the same -/
structure Same (a b : SL) : Prop where
  keys : b.towers.map Tower.key = a.towers.map Tower.key
  hts : b.towers.map Tower.ht = a.towers.map Tower.ht
  hdrLen : b.hdr.length = a.hdr.length
  level : b.level = a.level
  length : b.length = a.length
  rng : b.rng = a.rng

theorem Same.refl (a : SL) : Same a a := ⟨rfl, rfl, rfl, rfl, rfl, rfl⟩

theorem Same.trans {a b c : SL} (h1 : Same a b) (h2 : Same b c) : Same a c :=
  ⟨h2.keys.trans h1.keys, h2.hts.trans h1.hts, h2.hdrLen.trans h1.hdrLen, h2.level.trans h1.level,
   h2.length.trans h1.length, h2.rng.trans h1.rng⟩

theorem same_setSpan (sl : SL) (p i v : Nat) : Same sl (setSpan sl p i v) :=
  ⟨setSpan_keys sl p i v, setSpan_hts sl p i v, setSpan_hdr_length sl p i v, by simp, by simp, by simp⟩

theorem Same.towers_length {a b : SL} (h : Same a b) : b.towers.length = a.towers.length := by
  simpa only [List.length_map] using congrArg List.length h.hts

/-- the counterpart in `a` of a tower of `b` -/
theorem Same.tower_of {a b : SL} (h : Same a b) {k : Nat} {t : Tower} (hk : b.towers[k]? = some t) :
    ∃ t0, a.towers[k]? = some t0 ∧ t0.ht = t.ht := by
  have := ht_getElem?_of_map h.hts k
  rw [hk] at this
  cases h0 : a.towers[k]? with
  | none => rw [h0] at this; cases this
  | some t0 => rw [h0] at this; exact ⟨t0, rfl, (Option.some.inj this).symm⟩

theorem Same.ht_mem {a b : SL} (h : Same a b) {t : Tower} (ht : t ∈ b.towers) :
    ∃ t0 ∈ a.towers, t0.ht = t.ht :=
  exists_mem_of_map_eq h.hts ht

theorem Same.distTo_drop {a b : SL} (h : Same a b) (j n : Nat) :
    distTo j (b.towers.drop n) = distTo j (a.towers.drop n) :=
  distTo_congr (by rw [List.map_drop, List.map_drop, h.hts])

theorem Same.sorted {a b : SL} (h : Same a b)
    (hs : a.towers.Pairwise (fun x y => zLt x.key y.key = true)) :
    b.towers.Pairwise (fun x y => zLt x.key y.key = true) := by
  rw [← List.pairwise_map (f := Tower.key) (R := fun x y => zLt x y = true)] at hs ⊢
  rwa [h.keys]

theorem agree_setSpan {sl : SL} {p i v j : Nat} (h : j ≠ i) : Agree j sl (setSpan sl p i v) :=
  ⟨fun q => by rw [spanAt_setSpan, if_neg (fun e => h e.2)], (setSpan_hts sl p i v).symm⟩

/-- entry of level `j` in a loop that starts at level `i` -/
def lvlEntry (l : List (Nat × Nat)) (i j : Nat) : Option (Nat × Nat) := if i ≤ j then l[j - i]? else none

theorem lvlEntry_cons (e : Nat × Nat) (rest : List (Nat × Nat)) (i j : Nat) :
    lvlEntry (e :: rest) i j = if j = i then some e else lvlEntry rest (i + 1) j := by
  unfold lvlEntry
  by_cases hji : j = i
  · subst hji; rw [if_pos rfl, if_pos (Nat.le_refl _), Nat.sub_self]; rfl
  · rw [if_neg hji]
    by_cases hlt : i + 1 ≤ j
    · obtain ⟨d, rfl⟩ : ∃ d, j = i + 1 + d := ⟨j - (i + 1), by omega⟩
      rw [if_pos (by omega), if_pos hlt, Nat.add_sub_cancel_left, Nat.add_assoc, Nat.add_sub_cancel_left,
        Nat.add_comm 1 d, List.getElem?_cons_succ]
    · rw [if_neg hlt, if_neg (by omega)]

/-- A loop that writes one slot per level: every value written is `f` on the INITIAL list, because `f` at
    level `j` looks only at level `j` (`hcong`) and the other iterations write other levels. -/
theorem perLevel_spec (f : SL → Nat → Nat → Nat → Option Nat)
    (hcong : ∀ a b u r j, Agree j a b → f a u r j = f b u r j) :
    ∀ (l : List (Nat × Nat)) (i : Nat) (sl : SL),
      (∀ k u r, l[k]? = some (u, r) → (f sl u r (i + k)).isSome) →
      ∃ sl', perLevel f l i sl = some sl' ∧ Same sl sl' ∧
        ∀ q j, spanAt sl' q j =
          match lvlEntry l i j with
          | some (u, r) => spanAt (setSpan sl u j ((f sl u r j).getD 0)) q j
          | none => spanAt sl q j
  | [], i, sl, _ => ⟨sl, rfl, Same.refl sl, fun q j => by simp only [lvlEntry, List.getElem?_nil, ite_self]⟩
  | (u, r) :: rest, i, sl, hok => by
    obtain ⟨v, hv⟩ : ∃ v, f sl u r i = some v := Option.isSome_iff_exists.mp (hok 0 u r rfl)
    -- the levels above `i` do not see the write at level `i`
    have hfr : ∀ u' r' j, j ≠ i → f (setSpan sl u i v) u' r' j = f sl u' r' j :=
      fun u' r' j hj => (hcong sl (setSpan sl u i v) u' r' j (agree_setSpan hj)).symm
    obtain ⟨sl', hsl', hsame, hsp⟩ := perLevel_spec f hcong rest (i + 1) (setSpan sl u i v)
      (fun k u' r' hk => by
        rw [hfr u' r' _ (by omega), Nat.add_right_comm, Nat.add_assoc]
        exact hok (k + 1) u' r' hk)
    refine ⟨sl', by simp only [perLevel, hv, hsl'], (same_setSpan sl u i v).trans hsame, fun q j => ?_⟩
    rw [hsp q j, lvlEntry_cons]
    by_cases hji : j = i
    · subst hji
      have h1 : lvlEntry rest (j + 1) j = none := if_neg (Nat.not_succ_le_self j)
      rw [h1, if_pos rfl]
      show spanAt (setSpan sl u j v) q j = spanAt (setSpan sl u j ((f sl u r j).getD 0)) q j
      rw [hv]; rfl
    · rw [if_neg hji]
      cases lvlEntry rest (i + 1) j with
      | none => exact (agree_setSpan hji).1 q |>.symm
      | some e =>
        show spanAt (setSpan (setSpan sl u i v) e.1 j _) q j = spanAt (setSpan sl e.1 j _) q j
        rw [hfr e.1 e.2 j hji]
        simp only [spanAt_setSpan, hji, and_false, if_false]

/-- `perLevel` over the slots `a ≤ j < b` of arrays whose entry `j` is `(us j, us j)`, when the loop
    body writes `val j` at level `j` -/
theorem perLevel_slice (f : SL → Nat → Nat → Nat → Option Nat)
    (hcong : ∀ a b u r j, Agree j a b → f a u r j = f b u r j)
    {ur : List (Nat × Nat)} {us val : Nat → Nat} {a b : Nat} {sl : SL}
    (hur : ∀ j, j < b → ur[j]? = some (us j, us j))
    (hf : ∀ j, a ≤ j → j < b → f sl (us j) (us j) j = some (val j)) :
    ∃ sl', perLevel f ((ur.take b).drop a) a sl = some sl' ∧ Same sl sl' ∧
      ∀ q j, spanAt sl' q j =
        if a ≤ j ∧ j < b ∧ q = us j then (spanAt sl q j).map (fun _ => val j) else spanAt sl q j := by
  have hent : ∀ j, lvlEntry ((ur.take b).drop a) a j =
      if a ≤ j ∧ j < b then some (us j, us j) else none := by
    intro j
    unfold lvlEntry
    by_cases h1 : a ≤ j
    · rw [if_pos h1, List.getElem?_drop, List.getElem?_take, Nat.add_sub_cancel' h1]
      by_cases h2 : j < b
      · rw [if_pos h2, if_pos ⟨h1, h2⟩, hur j h2]
      · rw [if_neg h2, if_neg (fun h => h2 h.2)]
    · rw [if_neg h1, if_neg (fun h => h1 h.1)]
  obtain ⟨sl', h1, h2, h3⟩ := perLevel_spec f hcong ((ur.take b).drop a) a sl (by
    intro k u r hk
    rw [List.getElem?_drop, List.getElem?_take] at hk
    split at hk
    · rename_i hj
      rw [hur _ hj] at hk
      cases hk
      rw [hf _ (Nat.le_add_right ..) hj]; rfl
    · cases hk)
  refine ⟨sl', h1, h2, fun q j => ?_⟩
  rw [h3, hent]
  by_cases hj : a ≤ j ∧ j < b
  · rw [if_pos hj]
    simp only [hf j hj.1 hj.2, Option.getD_some, spanAt_setSpan, and_true]
    by_cases hq : q = us j
    · rw [if_pos hq, if_pos ⟨hj.1, hj.2, hq⟩]
    · rw [if_neg hq, if_neg (fun h => hq h.2.2)]
  · rw [if_neg hj, if_neg (fun h => hj ⟨h.1, h.2.1⟩)]

/-! ## the spans after the loop and the change of the tower list

`insert_internal` and `delete_node` both rewrite the slot of `update[j]` on every level and then replace the towers
from index `c` on by a new tail `Z` (`new :: drop c`, `drop (c + 1)`). -/

/-- the towers behind the update positions keep their spans through the loop -/
theorem towersOk_behind {sl0 sl1 : SL} {L c k : Nat} {us : Nat → Nat} (hs : Spans sl0 L)
    (hus : ∀ j, j < L → us j ≤ c) (hsame : Same sl0 sl1)
    (hsp : ∀ q j, j < L → q ≠ us j → spanAt sl1 q j = spanAt sl0 q j) (hk : c ≤ k) :
    TowersOk (sl1.towers.drop k) := by
  intro i t hi j hj
  rw [List.getElem?_drop] at hi
  obtain ⟨t0, ht0, hht⟩ := hsame.tower_of hi
  have hjL : j < L := by have := (hs.hts t0 (List.mem_of_getElem? ht0)).2; omega
  rw [← spanAt_succ hi j, hsp _ j hjL (by have := hus j hjL; omega), spanAt_succ ht0 j,
    hs.tw _ t0 ht0 j (by omega), List.drop_drop, hsame.distTo_drop]
  rfl

/-- If the loop left `c - update[j] + distTo j Z` in the slot of `update[j] = us j` on every level and nothing else
    changed, the spans of `take c ++ Z` are again the distances: a slot before `c` sees the new tail only through
    `IsUpd.dist_patch`, and `TowersOk` of an append needs nothing about indices behind `c`. -/
theorem spans_splice {sl0 sl1 : SL} {L c : Nat} {us : Nat → Nat} {Z : List Tower}
    (hs : Spans sl0 L) (hc : c ≤ sl0.towers.length)
    (hus : ∀ j, j < L → IsUpd sl0.towers c j (us j))
    (hsame : Same sl0 sl1)
    (hsp : ∀ j, j < L → spanAt sl1 (us j) j = (spanAt sl0 (us j) j).map (fun _ => c - us j + distTo j Z))
    (hsp' : ∀ q j, j < L → q ≠ us j → spanAt sl1 q j = spanAt sl0 q j)
    (hZ : TowersOk Z) (hZh : ∀ t ∈ Z, 1 ≤ t.ht ∧ t.ht ≤ L) (lvl' len' : Nat) :
    Spans { sl1 with towers := sl1.towers.take c ++ Z, level := lvl', length := len' } L := by
  -- the slots at positions up to `c`: only the heights matter, then `IsUpd.dist_patch`
  have hpre : ∀ q j, q ≤ c → j < L → (q = 0 ∨ ∃ t, sl0.towers[q - 1]? = some t ∧ j < t.ht) →
      spanAt sl1 q j = some (distTo j ((sl1.towers.take c).drop q ++ Z)) := by
    intro q j hq hj hqj
    rw [distTo_congr (ys := (sl0.towers.take c).drop q ++ Z)
        (by simp only [List.map_append, List.map_drop, List.map_take, hsame.hts]),
      (hus j hj).dist_patch hc hq hqj]
    by_cases hqu : q = us j
    · subst hqu; rw [hsp j hj, spanAt_of_level hs hj hqj, if_pos rfl]; rfl
    · rw [hsp' q j hj hqu, spanAt_of_level hs hj hqj, if_neg hqu]
  refine ⟨hsame.hdrLen.trans hs.hdrLen, hs.L_le, fun j hj => hpre 0 j (Nat.zero_le _) hj (Or.inl rfl),
    towersOk_append hZ fun k t hk j hj => ?_, fun t ht => ?_⟩
  · have hkc : k < c := by
      have := (List.getElem?_eq_some_iff.mp hk).1; rw [List.length_take] at this; omega
    rw [List.getElem?_take_of_lt hkc] at hk
    obtain ⟨t0, ht0, hht⟩ := hsame.tower_of hk
    have hjL : j < L := by have := (hs.hts t0 (List.mem_of_getElem? ht0)).2; omega
    rw [← spanAt_succ hk j]
    exact hpre (k + 1) j hkc hjL (Or.inr ⟨t0, ht0, by omega⟩)
  · rcases List.mem_append.mp ht with hm | hm
    · obtain ⟨t0, h0, e⟩ := hsame.ht_mem (List.mem_of_mem_take hm)
      exact e ▸ hs.hts t0 h0
    · exact hZh t hm

end RedisVerif.SkipList
