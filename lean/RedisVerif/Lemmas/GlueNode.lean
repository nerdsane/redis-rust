import RedisVerif.Lemmas.Glue

/-! C06 layer 2: the node invariant `GInv` ("the node serves what its replication state says")
    and its preservation by every supported client command and delivery. -/
namespace RedisVerif.Glue
open Redis

/-- the invariant of a node: canonical executor keyspace, canonical replication state, and the
    node serves (value and TTL) what its replication state says, for every key -/
structure GInv (n : Node) : Prop where
  inv : Inv n.exec
  wf : n.rs.NodeWF
  srv : ∀ k, served n k = materialise (NMap.get n.rs.keys k)

theorem toV_zero_inj {a b : Option Entry} (h : a.map (toV 0) = b.map (toV 0)) : a = b := by
  cases a with
  | none => cases b with
    | none => rfl
    | some y => simp at h
  | some x => cases b with
    | none => simp at h
    | some y =>
      simp only [Option.map_some, Option.some.injEq, toV_zero, VEntry.mk.injEq] at h
      obtain ⟨xv, xd⟩ := x
      obtain ⟨yv, yd⟩ := y
      simp only at h
      rw [h.1, h.2]

theorem served_eq (n : Node) (k : Nat) :
    served n k = (NMap.get (purge n.exec 0) k).map (toV 0) := get_view n.exec 0 k

theorem ok_of_ginv {n : Node} (h : GInv n) : Ok (purge n.exec 0) n.rs :=
  ⟨inv_purge 0 h.inv, nodead_purge _, h.wf, fun k => toV_zero_inj (by
    rw [← served_eq, h.srv k, materialise_eq])⟩

theorem ginv_of_ok {e s' : State} {rs' : Shard} (hv : view e 0 = view s' 0) (hI : Inv e)
    (h : Ok s' rs') : GInv { exec := e, rs := rs' } :=
  ⟨hI, h.wf, fun k => by
    simp only [served]
    rw [hv, get_view, purge_of_nodead h.nodead, h.srv k, materialise_eq]⟩

theorem ginv_of_ok' {s' : State} {rs' : Shard} (h : Ok s' rs') : GInv { exec := s', rs := rs' } :=
  ginv_of_ok rfl h.inv h

theorem ginv_init (rid : Nat) (causal : Bool) : GInv (Node.init rid causal) :=
  ginv_of_ok' (s' := Redis.init) (rs' := Shard.init rid causal)
    { inv := inv_nil
      nodead := fun _ hp => by cases hp
      wf := ⟨NMap.wf_nil, fun _ hp => by cases hp⟩
      srv := fun k => by simp [Redis.init, Shard.init, NMap.get, matE] }

theorem client_eq (n : Node) (c : Cmd) :
    n.client c =
      ({ exec := (exec (purge n.exec 0) 0 c).1, rs := (clientOut n.rs (purge n.exec 0) c).1 },
        (exec (purge n.exec 0) 0 c).2, (clientOut n.rs (purge n.exec 0) c).2) := by
  simp only [Node.client, execStep, step, clientOut]
  by_cases ha : applied c (exec (purge n.exec 0) 0 c).2 = true
  · simp only [ha, if_true]
  · simp only [ha]; rfl

theorem ginv_client {n : Node} (h : GInv n) (c : Cmd) (hs : unsupported n (.client c) = none) :
    GInv (n.client c).1 := by
  rw [client_eq]
  cases hr : recorded c with
  | true => exact ginv_of_ok' (ok_client (ok_of_ginv h) hr)
  | false =>
    -- the recorder ignores the command, and being supported it left the served keyspace alone
    rw [clientOut_of_not_recorded hr]
    have hv : view (exec (purge n.exec 0) 0 c).1 0 = view n.exec 0 := by
      simp only [unsupported, hr, Bool.false_eq_true, if_false] at hs
      split at hs
      · assumption
      · cases hs
    exact ⟨inv_exec (inv_purge 0 h.inv) 0 c, h.wf, fun k => by simp only [served]; rw [hv]; exact h.srv k⟩

theorem execStep_purge (s : State) (c : Cmd) : execStep (purge s 0) c = execStep s c := by
  simp only [execStep, step, purge_idem]

theorem get_purge_cases {s : State} (hw : NMap.WF s) (k : Nat) :
    NMap.get (purge s 0) k = NMap.get s k ∨ NMap.get (purge s 0) k = none := by
  rw [get_purge hw]
  cases NMap.get s k with
  | none => left; rfl
  | some e =>
    by_cases hl : live 0 e = true
    · left; simp [Option.filter, hl]
    · right; simp [Option.filter, hl]

theorem nonHashAt_purge {s : State} (hw : NMap.WF s) (k : Nat) :
    nonHashAt (purge s 0) k = true → nonHashAt s k = true := by
  intro h
  rcases get_purge_cases hw k with hg | hg
  · simpa only [nonHashAt, hg] using h
  · simp [nonHashAt, hg] at h

theorem get_purge_none_of_nonHash {s : State} (hw : NMap.WF s) {k : Nat}
    (h1 : nonHashAt s k = true) (h2 : nonHashAt (purge s 0) k = false) :
    NMap.get (purge s 0) k = none := by
  rcases get_purge_cases hw k with hg | hg
  · simp only [nonHashAt, hg] at h2
    simp only [nonHashAt] at h1
    rw [h1] at h2; cases h2
  · exact hg

theorem rematHash2_purge (s : State) (k : Nat) (h : NMap Lww) :
    (rematHash2 s k h = s ∧ rematHash2 (purge s 0) k h = purge s 0) ∨
    rematHash2 s k h = rematHash2 (purge s 0) k h := by
  simp only [rematHash2]
  cases (liveFields h).isEmpty with
  | true =>
    simp only [if_true]
    cases (tombFields h).isEmpty with
    | true => left; exact ⟨rfl, rfl⟩
    | false => right; simp only [Bool.false_eq_true, if_false, execStep_purge]
  | false => right; simp only [Bool.false_eq_true, if_false, execStep_purge]

/-- re-materialisation starts by purging, unless it does nothing at all -/
theorem remat_purge {s : State} (hI : Inv s) (k : Nat) (m : RV) :
    (rematerialise s k m = s ∧ rematerialise (purge s 0) k m = purge s 0) ∨
    rematerialise s k m = rematerialise (purge s 0) k m := by
  have hl : (rematLww s k m = s ∧ rematLww (purge s 0) k m = purge s 0) ∨
      rematLww s k m = rematLww (purge s 0) k m := by
    simp only [rematLww]
    cases m.get with
    | some v =>
      right
      simp only [rematStr]
      cases m.expiry <;> simp only [execStep_purge]
    | none =>
      simp only
      cases m.isTombstone with
      | true => right; simp only [if_true, execStep_purge]
      | false => left; exact ⟨rfl, rfl⟩
  cases hc : m.crdt with
  | hash h =>
    simp only [rematerialise, hc, rematHash_eq]
    cases h1 : nonHashAt s k with
    | false =>
      have h2 : nonHashAt (purge s 0) k = false := by
        cases hx : nonHashAt (purge s 0) k with
        | false => rfl
        | true => rw [nonHashAt_purge hI.1 k hx] at h1; cases h1
      simp only [h2, Bool.false_eq_true, if_false]
      exact rematHash2_purge s k h
    | true =>
      right
      simp only [if_true]
      cases h2 : nonHashAt (purge s 0) k with
      | true => simp only [if_true, execStep_purge]
      | false =>
        simp only [Bool.false_eq_true, if_false]
        have hnone := get_purge_none_of_nonHash hI.1 h1 h2
        have : (execStep s (.del [k])).1 = purge s 0 := by
          rw [← execStep_purge, execStep_of_nodead (nodead_purge s), exec_del1 (wf_purge 0 hI.1)]
          exact NMap.erase_of_get_none (wf_purge 0 hI.1) hnone
        rw [this]
  | _ => simpa only [rematerialise, hc] using hl

theorem deliver_eq (n : Node) (k : Nat) (d : RV) :
    n.deliver k d = { exec := rematerialise n.exec k (mergedVal n.rs k d), rs := n.rs.applyRemote k d } := by
  simp only [Node.deliver, get_remote]

theorem ginv_deliver {n : Node} (h : GInv n) (k : Nat) (d : RV)
    (hs : unsupported n (.deliver k d) = none) : GInv (n.deliver k d) := by
  have hok := ok_of_ginv h
  rw [deliver_eq]
  -- the purged executor satisfies `Ok` after the delivery
  have hd : d.WF := by
    simp only [unsupported] at hs
    by_cases hd : d.WF
    · exact hd
    · simp [hd] at hs
  have hs' := hs
  simp only [unsupported, hd, not_true_eq_false, if_false, get_remote] at hs'
  have hOk : Ok (rematerialise (purge n.exec 0) k (mergedVal n.rs k d)) (n.rs.applyRemote k d) := by
    cases hc : (mergedVal n.rs k d).crdt with
    | hash hm =>
      simp only [hc] at hs'
      by_cases hp : hm.all (fun p => Lww.proper p.2) = true
      · exact ok_deliver_hash hok k d hd hm hc hp
      · simp [hp] at hs'
    | lww r =>
      simp only [hc] at hs'
      by_cases hp : Lww.proper r = true
      · simp only [hp, not_true_eq_false, if_false] at hs'
        refine ok_deliver_lww hok k d hd r hc hp (fun v ms hv hm => ?_)
        simp only [hv, hm] at hs'
        by_cases hr : 1 ≤ ms ∧ (ms : Int) ≤ i64Max
        · exact hr
        · simp [hr] at hs'
      · simp [hp] at hs'
    | _ => simp [hc] at hs'
  rcases remat_purge h.inv k (mergedVal n.rs k d) with ⟨h1, h2⟩ | h1
  · rw [h1]
    rw [h2] at hOk
    exact ginv_of_ok (view_purge n.exec 0).symm h.inv hOk
  · rw [h1]
    exact ginv_of_ok' hOk

theorem ginv_run {n : Node} (h : GInv n) (evs : List NEv) (hs : Supported n evs) : GInv (n.run evs) := by
  induction evs generalizing n with
  | nil => exact h
  | cons e evs ih =>
    simp only [Node.run, List.foldl_cons]
    refine ih ?_ hs.2
    cases e with
    | client c => exact ginv_client h c hs.1
    | deliver k d => exact ginv_deliver h k d hs.1
/-! ### recovery of a checkpoint value into a node that does not know the key -/

theorem hsetAll_nil_wf {l : MHash} (hw : NMap.WF l) : (hsetAll [] l).1 = l := by
  apply NMap.ext (wf_hsetAll NMap.wf_nil _) hw
  intro f
  rw [get_hsetAll_wf l hw]
  cases NMap.get l f <;> rfl

theorem keys_recovered (rs : Shard) (k : Nat) (v : RV) :
    (rs.applyRecovered k v).keys = NMap.insert k v rs.keys := rfl

theorem nodewf_recovered {rs : Shard} (k : Nat) (v : RV) (h : rs.NodeWF) (hv : v.WF) :
    (rs.applyRecovered k v).NodeWF := by
  refine ⟨h.1, fun p hp => ?_⟩
  rw [keys_recovered] at hp
  rcases NMap.mem_insert hp with hp | hp
  · subst hp; exact hv
  · exact h.2 p hp

/-- in-range expiry of a live string (what `SET … PX` accepts) -/
def ExpiryOk (v : RV) : Prop :=
  match v.get, v.expiry with
  | some _, some ms => 1 ≤ ms ∧ (ms : Int) ≤ i64Max
  | _, _ => True

instance (v : RV) : Decidable (ExpiryOk v) := by
  unfold ExpiryOk; split <;> infer_instance

/-- `ApplyRecoveredState` on a key the executor does not hold sets it to what the value says -/
theorem recoverExec_eq {s : State} (hI : Inv s) (hN : NoDead s) (k : Nat) (v : RV)
    (hsk : NMap.get s k = none) (hv : v.WF) (he : ExpiryOk v) :
    recoverExec s k v = setKey k (matE (some v)) s := by
  have hl : (∀ h, v.crdt ≠ .hash h) → recoverStr s k v = setKey k (matE (some v)) s := by
    intro hnh
    rw [matE_get hnh]
    simp only [recoverStr]
    cases hg : v.get with
    | none => exact (setKey_self hI.1 hsk).symm
    | some x =>
      exact rematStr_eq hN k x _ fun ms hx => by have := he; simp only [ExpiryOk, hg, hx] at this; exact this
  cases hc : v.crdt with
  | hash hm =>
    simp only [recoverExec, hc]
    rw [matE_hash v hm hc, hsetIf_eq (hx := []) hI hN hsk,
      hsetAll_nil_wf (wf_liveFields (by have := hv.1; rwa [hc] at this))]
  | _ => simpa only [recoverExec, hc] using hl (by simp [hc])

theorem ok_recovered {s : State} {rs : Shard} (h : Ok s rs) (k : Nat) (v : RV)
    (hk : NMap.get rs.keys k = none) (hv : v.WF) (he : ExpiryOk v) :
    Ok (recoverExec s k v) (rs.applyRecovered k v) := by
  have hget : NMap.get (rs.applyRecovered k v).keys k = some v := by
    rw [keys_recovered, NMap.get_insert, if_pos rfl]
  rw [recoverExec_eq h.inv h.nodead k v (by rw [h.srv k, hk]; rfl) hv he]
  exact h.put k (nodewf_recovered k v h.wf hv)
    (fun k' hk' => by rw [keys_recovered, NMap.get_insert, if_neg hk']) (by rw [hget])
    fun _ => matE_ok hv fun x ms hx hms => by
      have := he; simp only [ExpiryOk, hx, hms] at this; omega

theorem recover_purge (s : State) (k : Nat) (v : RV) :
    (recoverExec s k v = s ∧ recoverExec (purge s 0) k v = purge s 0) ∨
    recoverExec s k v = recoverExec (purge s 0) k v := by
  have hl : (recoverStr s k v = s ∧ recoverStr (purge s 0) k v = purge s 0) ∨
      recoverStr s k v = recoverStr (purge s 0) k v := by
    simp only [recoverStr]
    cases v.get with
    | none => left; exact ⟨rfl, rfl⟩
    | some x =>
      right
      simp only [rematStr]
      cases v.expiry <;> simp only [execStep_purge]
  cases hc : v.crdt with
  | hash h =>
    simp only [recoverExec, hc]
    cases (liveFields h).isEmpty with
    | true => left; exact ⟨rfl, rfl⟩
    | false => right; simp only [Bool.false_eq_true, if_false, execStep_purge]
  | _ => simpa only [recoverExec, hc] using hl

theorem ginv_recovered {n : Node} (h : GInv n) (k : Nat) (v : RV)
    (hk : NMap.get n.rs.keys k = none) (hv : v.WF) (he : ExpiryOk v) : GInv (n.recovered k v) := by
  have hOk := ok_recovered (ok_of_ginv h) k v hk hv he
  simp only [Node.recovered]
  rcases recover_purge n.exec k v with ⟨h1, h2⟩ | h1
  · rw [h1]
    rw [h2] at hOk
    exact ginv_of_ok (view_purge n.exec 0).symm h.inv hOk
  · rw [h1]
    exact ginv_of_ok' hOk

/-- a checkpoint: recovered values applied one after the other -/
def recoverAll (n : Node) (kvs : List (Nat × RV)) : Node :=
  kvs.foldl (fun n p => n.recovered p.1 p.2) n

theorem ginv_recoverAll (kvs : List (Nat × RV)) : ∀ n : Node, GInv n →
    (∀ p ∈ kvs, NMap.get n.rs.keys p.1 = none) → (kvs.map (·.1)).Nodup →
    (∀ p ∈ kvs, p.2.WF ∧ ExpiryOk p.2) → GInv (recoverAll n kvs) := by
  induction kvs with
  | nil => intro n h _ _ _; exact h
  | cons p kvs ih =>
    intro n h hfresh hnd hok
    simp only [recoverAll, List.foldl_cons]
    simp only [List.map_cons, List.nodup_cons] at hnd
    apply ih _ (ginv_recovered h p.1 p.2 (hfresh p (by simp)) (hok p (by simp)).1 (hok p (by simp)).2)
    · intro q hq
      simp only [Node.recovered, keys_recovered, NMap.get_insert]
      have hne : q.1 ≠ p.1 := fun he => hnd.1 (by rw [← he]; exact List.mem_map_of_mem hq)
      simp only [hne, if_false]
      exact hfresh q (by simp [hq])
    · exact hnd.2
    · intro q hq; exact hok q (by simp [hq])

end RedisVerif.Glue
