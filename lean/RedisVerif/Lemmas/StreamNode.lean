import RedisVerif.Model.StreamNode
import RedisVerif.Lemmas.StreamActor
import RedisVerif.Lemmas.StreamFold

/-
  Lemmas about M4c (`Model/StreamNode.lean`): the invariant of a life (pipeline events +
  compaction passes) — its store holds (`Stream.Holds`) what earlier lives confirmed and what it
  confirmed itself — and from it the invariant of the store between two lives.
-/
namespace RedisVerif
namespace StreamNode

open _root_.RedisVerif.Stream _root_.RedisVerif.StreamActor FoldACI

/-! ## the invariant of a life -/

/-- the books balance; the store holds what earlier lives (`base`) and this one confirmed;
    everything the process ever handed to its pipeline lives in the carrier; accepted = confirmed
    ++ buffered in acceptance order (so the buffer lives in the carrier too) -/
def J (c : Carrier) (base : List Delta) (a : A) : Prop :=
  Inv a ∧ Holds c a.w.store (base ++ a.acked) ∧ InCar c a.sent ∧ a.accepted = a.acked ++ a.x.p.buffer

theorem accepted_sub_sent {a : A} (h : Inv a) {d : Delta} (hd : d ∈ a.accepted) : d ∈ a.sent := by
  have h1 := h.1 d
  have h2 := h.2 d
  have : 0 < a.accepted.count d := List.count_pos_iff.mpr hd
  apply List.count_pos_iff.mp
  unfold ledger at h1
  omega

theorem j_pipe (c : Carrier) (base : List Delta) (F : Oracle) (cfg : WbCfg) (cap : Nat) (a : A) (ev : Ev)
    (hev : InCar c (evDelta ev)) (h : J c base a) : J c base (StreamActor.step F cfg cap a ev) := by
  obtain ⟨hinv, hh, hsent, hacc⟩ := h
  have hinv' := inv_step F cfg cap a ev hinv
  have hsent' : InCar c (StreamActor.step F cfg cap a ev).sent := by
    intro d hd
    rw [sent_step] at hd
    exact (List.mem_append.mp hd).elim (hsent d) (hev d)
  obtain ⟨ops, hno, hcore, hpush⟩ := core_step F cfg cap a ev
  refine ⟨hinv', ?_, hsent', (core_step F cfg cap a ev).accepted_eq hacc⟩
  -- the step is a run of pushes and flushes of the writer, from a store that holds `base ++ a.acked`
  have := Holds.run (c := c) (base := base) current rfl rfl F ops (s := core a) ?_ ?_
    ⟨hh, fun d hd => hsent d (accepted_sub_sent hinv (hacc ▸ List.mem_append_right _ hd))⟩
  · rw [show runWith current F (core a) ops = _ from hcore.symm] at this
    exact this.1
  · intro op hop
    have := hno op hop
    cases op with
    | compact cfg sz => simp [Op.isCompact] at this
    | push d => rfl
    | flush sz => rfl
  · exact fun d hd => hsent' d (accepted_sub_sent hinv' (hpush ▸ List.mem_append_right _ hd))

theorem j_step (c : Carrier) (base : List Delta) (F : Oracle) (cfg : WbCfg) (cap : Nat) (a : A) (ev : NEv)
    (hgc : ev.gcFree = true)
    (hev : ∀ d, ev.delta? = some d → InCarrier (c.kd d.1) (c.U d.1) d.2) (h : J c base a) :
    J c base (step F cfg cap a ev) := by
  cases ev with
  | pipe e =>
    apply j_pipe c base F cfg cap a e _ h
    intro d hd
    apply hev d
    cases e <;> simp [evDelta] at hd <;> simp [NEv.delta?, hd]
  | compactPass ccfg maxSegs sz =>
    exact ⟨h.1, h.2.1.compactIfNeeded F (by simpa [NEv.gcFree] using hgc) maxSegs sz, h.2.2⟩

/-! ## between two lives -/

/-- a life on a store that holds what earlier lives confirmed leaves one that holds that and
    what it confirmed itself -/
theorem holds_life (c : Carrier) (rid : Nat) (h : Hist) (l : Life)
    (hevs : ∀ ev ∈ l.evs, ev.gcFree = true ∧ ∀ d, ev.delta? = some d → InCarrier (c.kd d.1) (c.U d.1) d.2)
    (hi : Holds c h.store h.confirmed) : Holds c (runLife rid h l).store (runLife rid h l).confirmed :=
  (TraceInv.run_inv_of (step l.F l.wcfg l.cap) (J c h.confirmed) _
    (fun s e he hs => j_step c h.confirmed l.F l.wcfg l.cap s e he.1 he.2 hs) (A.init h.store rid l.now)
    ⟨inv_init h.store rid l.now, by simpa [A.init, World.init] using hi, fun _ hd => (nomatch hd), rfl⟩
    l.evs hevs).2.1

/-- every sequence of lives from the empty store, with coherent updates and no tombstone GC,
    leaves a store that holds what the lives confirmed -/
theorem holds_lives (rid : Nat) (lives : List Life)
    (hc : Coherent (lives.flatMap Life.deltas))
    (hgc : ∀ l ∈ lives, ∀ e ∈ l.evs, e.gcFree = true) :
    Holds (carrierOf _ hc) (runLives rid { store := [], confirmed := [] } lives).store
      (runLives rid { store := [], confirmed := [] } lives).confirmed :=
  TraceInv.run_inv_of (runLife rid) (fun h => Holds (carrierOf _ hc) h.store h.confirmed) _
    (fun s l hl hs => holds_life _ rid s l hl hs) _ (holds_nil _) lives
    (fun l hl ev hev => ⟨hgc l hl ev hev, fun d hd => inCar_of_coherent hc d
      (List.mem_flatMap.mpr ⟨l, hl, List.mem_filterMap.mpr ⟨ev, hev, hd⟩⟩)⟩)

end StreamNode
end RedisVerif
