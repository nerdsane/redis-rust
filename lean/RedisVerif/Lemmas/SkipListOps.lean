import RedisVerif.Lemmas.SkipListInsert
import RedisVerif.Lemmas.SkipListDelete
namespace RedisVerif.SkipList
open RedisVerif RedisVerif.Redis

/-! ## the public functions of `SkipList` on a well-formed list -/

/-- keys of the towers = what `iter()` yields -/
abbrev keys (sl : SL) : List (BS × Score) := sl.towers.map Tower.key

theorem iter_eq_keys (sl : SL) : iter sl = keys sl := rfl

theorem wf_new : Wf SL.new := by
  refine ⟨⟨by simp [SL.new, maxLevel], by simp [SL.new, maxLevel], ?_, ?_, ?_⟩, by simp [SL.new], Or.inl rfl, rfl, by simp [SL.new]⟩
  · intro j hj
    have : j = 0 := by simp [SL.new] at hj; omega
    subst this; simp [SL.new, distTo, maxLevel]
  · intro k t hk; simp [SL.new] at hk
  · intro t ht; simp [SL.new] at ht

/-- where a key sits in a sorted list -/
theorem cntLt_of_key {T : List Tower} (hs : T.Pairwise (fun a b => zLt a.key b.key = true))
    {i : Nat} {t : Tower} (hi : T[i]? = some t) : cntLt t.key T = i := by
  have hspec := cntLt_spec t.key hs
  obtain ⟨hil, hit⟩ := List.getElem?_eq_some_iff.mp hi
  have h1 : ¬ i < cntLt t.key T := fun h => by
    have := hspec i t hi
    rw [zLt_irrefl, decide_eq_true h] at this; cases this
  have h2 : ¬ cntLt t.key T < i := fun h => by
    have hlt : cntLt t.key T < T.length := Nat.lt_trans h hil
    have hp := List.pairwise_iff_getElem.mp hs _ _ hlt hil h
    rw [hit, hspec _ _ (List.getElem?_eq_getElem hlt), decide_eq_false (Nat.lt_irrefl _)] at hp
    cases hp
  omega

/-- `insert` of a member that is not in the list -/
theorem insert_spec {lv : LevelGen} {sl : SL} (hw : Wf sl) (m : BS) (sc : Score)
    (hlv : 1 ≤ (lv sl.rng).1 ∧ (lv sl.rng).1 ≤ maxLevel)
    (hfresh : ∀ t ∈ sl.towers, t.member ≠ m) :
    ∃ sl', insert lv sl m sc = some (sl', true) ∧ Wf sl' ∧
      keys sl' = insertAt (m, sc) (keys sl) (cntLt (m, sc) sl.towers) ∧ sl'.rng = (lv sl.rng).2 := by
  have hc := cntLt_le (m, sc) sl.towers
  obtain ⟨l, hl, hlen, hu0, hur, hur0⟩ := descend_wf hw (goLess m sc) hc (goLess_iff hw m sc)
  have hbelow : ∀ k t, sl.towers[k]? = some t → k < cntLt (m, sc) sl.towers → zLt t.key (m, sc) = true := by
    intro k t hk hlt
    rw [cntLt_spec (m, sc) hw.sorted k t hk]; simp [hlt]
  have habove : ∀ k t, sl.towers[k]? = some t → cntLt (m, sc) sl.towers ≤ k → zLt (m, sc) t.key = true := by
    intro k t hk hle
    apply zLt_total_of_ne
    · exact hfresh t (List.mem_of_getElem? hk)
    · rw [cntLt_spec (m, sc) hw.sorted k t hk]; simp; omega
  obtain ⟨sl', hins, hwf, hkeys, hrng⟩ :=
    insertInternal_spec (lv := lv) hw m sc hlv hc hlen hur hur0 hbelow habove
  refine ⟨sl', ?_, hwf, hkeys, hrng⟩
  simp only [insert, search, hl, Option.map_some, hu0]
  cases ht : sl.towers[cntLt (m, sc) sl.towers]? with
  | none => simp [hins]
  | some t =>
    have : t.member ≠ m := hfresh t (List.mem_of_getElem? ht)
    simp [this, hins]

/-- `remove_with_score`: removes the tower with exactly this key when there is one -/
theorem removeWithScore_spec {sl : SL} (hw : Wf sl) (m : BS) (sc : Score) :
    ∃ sl' b, removeWithScore sl m sc = some (sl', b) ∧ Wf sl' ∧ sl'.rng = sl.rng ∧
      ((∃ i t, sl.towers[i]? = some t ∧ t.key = (m, sc) ∧ b = true ∧ keys sl' = (keys sl).eraseIdx i) ∨
       ((∀ t ∈ sl.towers, t.key ≠ (m, sc)) ∧ b = false ∧ sl' = sl)) := by
  obtain ⟨l, hl, _, hu0, hur, _⟩ := descend_wf hw (goLess m sc) (cntLt_le _ _) (goLess_iff hw m sc)
  -- if the key is in the list it is at index `cntLt`
  have hat : ∀ t' ∈ sl.towers, t'.key = (m, sc) → sl.towers[cntLt (m, sc) sl.towers]? = some t' := by
    intro t' htm hk
    obtain ⟨i, hi⟩ := List.getElem?_of_mem htm
    rw [← hk, cntLt_of_key hw.sorted hi]; exact hi
  simp only [removeWithScore, search, hl, Option.map_some, hu0]
  cases ht : sl.towers[cntLt (m, sc) sl.towers]? with
  | none =>
    refine ⟨sl, false, rfl, hw, rfl, Or.inr ⟨fun t' htm hk => ?_, rfl, rfl⟩⟩
    have := hat t' htm hk
    rw [ht] at this; cases this
  | some t =>
    by_cases hmatch : t.member = m ∧ t.score = sc
    · have hclt : cntLt (m, sc) sl.towers < sl.towers.length := (List.getElem?_eq_some_iff.mp ht).1
      obtain ⟨sl', hdel, hwf, hkeys, hrng⟩ := deleteNode_spec hw hclt hur
      exact ⟨sl', true, by simp [hmatch, hdel], hwf, hrng,
        Or.inl ⟨_, t, ht, by simp [Tower.key, hmatch.1, hmatch.2], rfl, hkeys⟩⟩
    · refine ⟨sl, false, by simp [hmatch], hw, rfl, Or.inr ⟨fun t' htm hk => ?_, rfl, rfl⟩⟩
      have := hat t' htm hk
      rw [ht] at this; cases this
      exact hmatch ⟨congrArg Prod.fst hk, congrArg Prod.snd hk⟩

theorem goRank_eq (m : BS) (sc : Score) : goRank m sc = goLess m sc := by
  funext t a
  simp only [goRank, goLess]
  cases h : zLt t.key (m, sc) with
  | true => rfl
  | false =>
    simp only [Bool.false_or, Bool.and_eq_false_iff]
    by_cases he : t.key = (m, sc)
    · right
      have : t.member = m := by simpa [Tower.key] using (congrArg Prod.fst he)
      rw [this]; exact bsLt_irrefl m
    · left; simpa using he

/-- `rank(member, score)` = the index of that key -/
theorem rank_spec {sl : SL} (hw : Wf sl) (m : BS) (sc : Score) :
    rank sl m sc = some (match sl.towers[cntLt (m, sc) sl.towers]? with
      | some t => if t.member = m ∧ t.score = sc then some (cntLt (m, sc) sl.towers) else none
      | none => none) := by
  obtain ⟨l, hl, _, hu0, _⟩ := descend_wf hw (goLess m sc) (cntLt_le _ _) (goLess_iff hw m sc)
  simp only [rank, goRank_eq, hl, hu0]
  cases sl.towers[cntLt (m, sc) sl.towers]? with
  | none => rfl
  | some t => by_cases h : t.member = m ∧ t.score = sc <;> simp [h]

/-- `range(start, end)` = the slice of `iter()` -/
theorem range_spec {sl : SL} (hw : Wf sl) (start stop : Nat) :
    range sl start stop = some (
      if start > stop ∨ start ≥ sl.towers.length then []
      else ((keys sl).drop start).take (min stop (sl.towers.length - 1) - start + 1)) := by
  unfold range
  rw [hw.len]
  by_cases h : start > stop ∨ start ≥ sl.towers.length
  · simp only [h, if_true]
  · obtain ⟨l, hl, _, hu0, _⟩ := descend_wf hw (fun _ a => decide (a ≤ start)) (c := start) (by omega)
      (fun _ _ _ => rfl)
    simp only [h, if_false, hl, hu0, keys]
    rw [List.map_take, List.map_drop]
    rfl

theorem range_of_bounds {sl : SL} (hw : Wf sl) {s e : Nat} (hse : s ≤ e) (hen : e < sl.towers.length) :
    range sl s e = some (((keys sl).drop s).take (e - s + 1)) := by
  rw [range_spec hw, if_neg (by omega), Nat.min_eq_left (by omega)]

theorem reverse_slice {α : Type} (K : List α) (s e : Nat) (hs : s ≤ e) (he : e < K.length) :
    ((K.drop (K.length - 1 - e)).take (e - s + 1)).reverse = (K.reverse.drop s).take (e - s + 1) := by
  rw [List.drop_reverse, List.take_reverse, List.length_take, Nat.min_eq_left (Nat.sub_le _ _),
    List.drop_take, show K.length - s - (e - s + 1) = K.length - 1 - e by omega,
    show K.length - s - (K.length - 1 - e) = e - s + 1 by omega]

theorem revRange_spec {sl : SL} (hw : Wf sl) (start stop : Nat) :
    revRange sl start stop = some (
      if start > stop ∨ start ≥ sl.towers.length then []
      else ((((keys sl).reverse).drop start).take (min stop (sl.towers.length - 1) - start + 1))) := by
  unfold revRange
  rw [hw.len]
  by_cases h : start > stop ∨ start ≥ sl.towers.length
  · simp only [h, if_true]
  · simp only [h, if_false]
    rw [range_spec hw]
    have hn : (keys sl).length = sl.towers.length := List.length_map ..
    -- the clamped stop as a variable
    obtain ⟨e, he, hse, hen⟩ : ∃ e, min stop (sl.towers.length - 1) = e ∧ start ≤ e ∧ e < sl.towers.length :=
      ⟨_, rfl, by omega, by omega⟩
    rw [he, ← hn] at *
    generalize hN : (keys sl).length = N at *
    have h1 : ¬ (N - 1 - e > N - 1 - start ∨ N - 1 - e ≥ N) := by omega
    have e1 : N - 1 - start - (N - 1 - e) + 1 = e - start + 1 := by omega
    rw [if_neg h1, Option.map_some, Nat.min_eq_left (Nat.sub_le _ _), e1]
    subst hN
    exact congrArg some (reverse_slice (keys sl) start e hse hen)

theorem revRange_of_bounds {sl : SL} (hw : Wf sl) {s e : Nat} (hse : s ≤ e) (hen : e < sl.towers.length) :
    revRange sl s e = some ((((keys sl).reverse).drop s).take (e - s + 1)) := by
  rw [revRange_spec hw, if_neg (by omega), Nat.min_eq_left (by omega)]

end RedisVerif.SkipList
