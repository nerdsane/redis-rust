import RedisVerif.Lemmas.ClusterInv

/-!
Convergence without kind stability, for keys with at most two distinct deltas: only
commutativity and idempotence of `RV.merge` (both proved for ALL kinds, cross-kind included, in
`Props/C07.lean`) are needed — the three-way associativity that fails across a type change
(`C07:assoc:cross-kind`) never comes into play.

* a local write absorbs the value it replaces also ACROSS a type change (fresh, greater stamp);
* `{a, b, a ⊔ b}` is closed under merge and merge is ACI on it, for any two canonical,
  tie-consistent stripped values `a`, `b` of any kinds.
-/
namespace RedisVerif

theorem Shard.cross_below (old d : RV) (hk : old.crdt.kind ≠ d.crdt.kind)
    (hlt : old.ts.lt d.ts = true) : Shard.Below old d := by
  unfold Shard.Below
  obtain ⟨oc, ov, oe, ot, orf⟩ := old
  obtain ⟨nc, nv, ne, nt, nrf⟩ := d
  simp only at hk hlt
  simp [RV.strip, RV.merge, RV.mergeWith, RV.stampMerge, Crdt.mergeWithTimestamps,
    Crdt.tryMerge_of_kind_ne hk, hlt, optMerge, Stamp.max]

namespace Shard

/-- a local write that changes the CRDT kind of the key (SET over a hash, HSET with at least one
    pair over a string) absorbs the old value: its stamp is the fresh clock value -/
theorem local_below_cross (s : Shard) (op : LOp) (old d : RV) (hinv : s.Inv)
    (hg : NMap.get s.keys op.key = some old) (hd : (step s op.toOp).2 = some d)
    (hk : old.crdt.kind ≠ d.crdt.kind) (hne : ∀ k, op ≠ .hwrite k []) : Below old d := by
  apply cross_below _ _ hk
  have ho := (dominated_of_get hinv hg).1
  -- `DEL` / `HDEL` keep the kind of the value they find; what is left is stamped with the new clock
  rcases local_stamp s op d hd with ⟨hA, _⟩ | ⟨hB, hlt⟩ | ⟨_, _, old', hg', hk'⟩ | ⟨hD, _⟩
  · rw [hg] at hA; cases hA; exact absurd rfl hk
  · exact Stamp.lt_of_time_lt (by omega)
  · rw [hg] at hg'; cases hg'; exact absurd hk' hk
  · exact absurd hD (hne _)

end Shard

namespace TwoDeltas

/-- a stripped value (what replicas converge on) -/
def Stripped (a : RV) : Prop := a.vc = none ∧ a.expiry = none ∧ a.rf = none

theorem stripped_strip (v : RV) : Stripped v.strip := ⟨rfl, rfl, rfl⟩

theorem merge_cross {a b : RV} (ha : Stripped a) (hb : Stripped b)
    (hk : a.crdt.kind ≠ b.crdt.kind) : RV.merge a b = if a.ts.lt b.ts then b else a := by
  obtain ⟨ac, av, ae, at', arf⟩ := a
  obtain ⟨bc, bv, be, bt, brf⟩ := b
  obtain ⟨h1, h2, h3⟩ := ha
  obtain ⟨h4, h5, h6⟩ := hb
  simp only at h1 h2 h3 h4 h5 h6 hk
  subst h1 h2 h3 h4 h5 h6
  simp only [RV.merge, RV.mergeWith, RV.stampMerge, Crdt.mergeWithTimestamps,
    Crdt.tryMerge_of_kind_ne hk, optMerge, Stamp.max]
  split <;> rfl

/-- the operation table of merge on `{a, b, a ⊔ b}` -/
structure Table (a b : RV) : Prop where
  aa : RV.merge a a = a
  bb : RV.merge b b = b
  ba : RV.merge b a = RV.merge a b
  mm : RV.merge (RV.merge a b) (RV.merge a b) = RV.merge a b
  am : RV.merge a (RV.merge a b) = RV.merge a b
  bm : RV.merge b (RV.merge a b) = RV.merge a b
  ma : RV.merge (RV.merge a b) a = RV.merge a b
  mb : RV.merge (RV.merge a b) b = RV.merge a b

theorem table {a b : RV} (ha : a.WF) (hb : b.WF) (hsa : Stripped a) (hsb : Stripped b)
    (ht : C07.TieConsistent a b) : Table a b := by
  have aa := C07.rv_merge_idem a ha
  have bb := C07.rv_merge_idem b hb
  have ab := C07.rv_merge_comm a b ha hb ht
  have mm := C07.rv_merge_idem _ (C07.rv_merge_wf ha hb)
  by_cases hk : a.crdt.kind = b.crdt.kind
  · -- one kind: associativity is available
    have as1 := C07.rv_merge_assoc_partial a a b ha ha hb ⟨rfl, hk⟩
    have as2 := C07.rv_merge_assoc_partial b b a hb hb ha ⟨rfl, hk.symm⟩
    have as3 := C07.rv_merge_assoc_partial a b a ha hb ha ⟨hk, hk.symm⟩
    have as4 := C07.rv_merge_assoc_partial a b b ha hb hb ⟨hk, rfl⟩
    have am : RV.merge a (RV.merge a b) = RV.merge a b := by rw [as1, aa]
    have bm : RV.merge b (RV.merge a b) = RV.merge a b := by rw [ab, as2, bb]
    refine ⟨aa, bb, ab.symm, mm, am, bm, ?_, ?_⟩
    · rw [← as3, ← ab, am]
    · rw [← as4, bb]
  · -- two kinds: the merge is one of the two
    have hne : a.ts ≠ b.ts := by
      have ht' := ht
      rw [C07.TieConsistent, C07.tieOk_of_kind_ne hk] at ht'
      simpa using ht'
    have hm := merge_cross hsa hsb hk
    by_cases hlt : a.ts.lt b.ts = true
    · have hmb : RV.merge a b = b := by rw [hm]; simp [hlt]
      refine ⟨aa, bb, ab.symm, mm, ?_, ?_, ?_, ?_⟩ <;> rw [hmb]
      · exact hmb
      · exact bb
      · rw [← ab]; exact hmb
      · exact bb
    · have hma : RV.merge a b = a := by rw [hm]; simp [hlt]
      refine ⟨aa, bb, ab.symm, mm, ?_, ?_, ?_, ?_⟩ <;> rw [hma]
      · exact aa
      · rw [← ab]; exact hma
      · exact aa
      · exact hma

/-- the carrier `{a, b, a ⊔ b}` -/
def In (a b x : RV) : Prop := x = a ∨ x = b ∨ x = RV.merge a b

/-- merge is ACI on `{a, b, a ⊔ b}` — by the table, no general associativity needed -/
theorem aci {a b : RV} (t : Table a b) : ACI RV.merge (In a b) where
  closed := by
    rintro x y (rfl | rfl | rfl) (rfl | rfl | rfl) <;>
      simp only [In, t.aa, t.bb, t.ba, t.mm, t.am, t.bm, t.ma, t.mb, true_or, or_true]
  comm := by
    rintro x y (rfl | rfl | rfl) (rfl | rfl | rfl) <;>
      simp only [t.aa, t.bb, t.ba, t.mm, t.am, t.bm, t.ma, t.mb]
  assoc := by
    rintro x y z (rfl | rfl | rfl) (rfl | rfl | rfl) (rfl | rfl | rfl) <;>
      simp only [t.aa, t.bb, t.ba, t.mm, t.am, t.bm, t.ma, t.mb]
  idem := by
    rintro x (rfl | rfl | rfl) <;> simp only [t.aa, t.bb, t.mm]

end TwoDeltas

namespace Cluster

/-- the cluster invariant ("a node's value is the merge-fold of what it absorbed, in absorption
    order") needs no hypothesis on kinds: a local write absorbs the old value within a kind
    (`local_below`) and across kinds (`local_below_cross`) -/
theorem J_step_loc_any {U : List Msg} {k K : Nat} {c : Cluster} (hj : J U k K c)
    (i : Nat) (op : LOp) (hsub : ∀ m ∈ (c.step (.loc i op)).sent, m ∈ U)
    (hne : ∀ k', op ≠ .hwrite k' []) : J U k K (c.step (.loc i op)) := by
  apply J_step_loc_gen hj i op hsub
  intro s old d hs hgo hkk hd _
  obtain ⟨hinv, hinv2, hnwf, _⟩ := hj.nodes_inv s (List.mem_of_getElem? hs)
  by_cases hkind : old.crdt.kind = d.crdt.kind
  · exact Shard.local_below s op old d hinv hinv2 hnwf.2 (by rw [hkk]; exact hgo) hd hkind
  · exact Shard.local_below_cross s op old d hinv (by rw [hkk]; exact hgo) hd hkind hne

theorem J_run_any {U : List Msg} {k K : Nat} (c : Cluster) (evs : List Ev)
    (hne : ∀ e ∈ evs, ∀ i k', e ≠ .loc i (.hwrite k' []))
    (hj : J U k K c) (hsub : ∀ m ∈ (c.run evs).sent, m ∈ U) : J U k K (c.run evs) := by
  rw [run_eq_runR] at hsub ⊢
  refine J_runR_of (fun op => ∀ k', op ≠ .hwrite k' []) (fun _ i op h hj hs => J_step_loc_any hj i op hs h)
    c _ (fun i op h k' he => ?_) hj hsub
  obtain ⟨e, he', heq⟩ := List.mem_map.mp h
  cases heq
  exact hne _ he' i k' (by rw [he])

end Cluster
end RedisVerif
