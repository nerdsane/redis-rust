import RedisVerif.Lemmas.WalActor
import RedisVerif.Lemmas.WalSource

/-!
  ORDER: along every history of the rotator / actor, what recovery returns from any crash image is a
  SUBSEQUENCE of the entries handed to `WalRotator::append`, in the order they were handed over — nothing
  invented, nothing altered, nothing duplicated, nothing reordered (within a file AND across files).

  Ghost state: `E k` = the entries appended (or attempted) to file `k` since it was last created, `L` = all
  entries handed to `append` so far.  Invariant (`OInv`): the store is a canonical map (keys strictly
  increasing = recovery order); every file `k` is a PREFIX of the clean image of `E k`; and the concatenation of
  the `E k` in key order is a sublist of `L`.  A new file always gets a key above every existing one, an append
  always goes to the file with the highest key, deletions and crashes only shorten.
-/
namespace RedisVerif.Wal

structure Ghost where
  E : Nat → List Entry
  L : List Entry

def upd (E : Nat → List Entry) (k : Nat) (v : List Entry) : Nat → List Entry := fun j => if j = k then v else E j

/-- file `p` (key, contents) is a prefix of the clean image of `E key` -/
def FileAt (fmt : Format) (crc : Bytes → Nat) (E : Nat → List Entry) (p : Nat × File) : Prop :=
  AllOk fmt crc (E p.1) ∧ ∃ n, p.2.data = (header fmt p.1 ++ encs (E p.1)).take n

def keysOf (st : Store) : List Nat := st.map (·.1)

structure OInv (fmt : Format) (crc : Bytes → Nat) (g : Ghost) (st : Store) : Prop where
  wf : NMap.WF st
  files : ∀ p ∈ st, FileAt fmt crc g.E p
  sub : List.Sublist ((keysOf st).flatMap g.E) g.L

variable {fmt : Format} {crc : Bytes → Nat} {g : Ghost} {st : Store} {r : Rot}

/-! ## lists -/

theorem flatMap_sublist {α β : Type} (E' E : α → List β) {K' K : List α} (h : List.Sublist K' K)
    (hE : ∀ k ∈ K', List.Sublist (E' k) (E k)) : List.Sublist (K'.flatMap E') (K.flatMap E) := by
  induction h with
  | slnil => exact List.Sublist.slnil
  | cons a _ ih =>
    rw [List.flatMap_cons]
    exact List.Sublist.trans (ih hE) (List.sublist_append_right _ _)
  | cons_cons a _ ih =>
    rw [List.flatMap_cons, List.flatMap_cons]
    exact List.Sublist.append (hE a (by simp)) (ih (fun k hk => hE k (List.mem_cons_of_mem _ hk)))

theorem flatMap_upd_notin (E : Nat → List Entry) (k : Nat) (v : List Entry) (K : List Nat) (hk : k ∉ K) :
    K.flatMap (upd E k v) = K.flatMap E := by
  induction K with
  | nil => rfl
  | cons a K ih =>
    rw [List.flatMap_cons, List.flatMap_cons, ih (fun h => hk (List.mem_cons_of_mem _ h))]
    have : a ≠ k := fun h => hk (by rw [h]; simp)
    simp [upd, this]

theorem upd_same (E : Nat → List Entry) (k : Nat) (v : List Entry) : upd E k v k = v := by simp [upd]
theorem upd_other (E : Nat → List Entry) (k j : Nat) (v : List Entry) (h : j ≠ k) : upd E k v j = E j := by simp [upd, h]

/-! ## canonical maps: where `insert` puts things -/

theorem keys_insert_above {ν : Type} (st : NMap ν) (k : Nat) (v : ν) (h : ∀ p ∈ st, p.1 < k) :
    (NMap.insert k v st).map (·.1) = st.map (·.1) ++ [k] := by
  induction st with
  | nil => rfl
  | cons q st ih =>
    obtain ⟨kq, vq⟩ := q
    have hq : kq < k := h (kq, vq) (by simp)
    simp only [NMap.insert]
    rw [if_neg (by omega), if_neg (by omega)]
    simp only [List.map_cons, List.cons_append]
    rw [ih (fun p hp => h p (List.mem_cons_of_mem _ hp))]

theorem keys_insert_present {ν : Type} (st : NMap ν) (k : Nat) (v : ν) (hwf : NMap.WF st)
    (h : k ∈ st.map (·.1)) : (NMap.insert k v st).map (·.1) = st.map (·.1) := by
  induction st with
  | nil => cases h
  | cons q st ih =>
    obtain ⟨kq, vq⟩ := q
    have ⟨hlb, hw⟩ := NMap.wf_cons.mp hwf
    simp only [NMap.insert]
    by_cases h1 : k < kq
    · -- impossible: k is a key, all keys are ≥ kq
      exfalso
      simp only [List.map_cons, List.mem_cons] at h
      rcases h with h | h
      · omega
      · obtain ⟨p, hp, hpk⟩ := List.mem_map.mp h
        have := hlb p hp
        simp only at this
        omega
    · rw [if_neg h1]
      by_cases h2 : k = kq
      · rw [if_pos h2]; simp [h2]
      · rw [if_neg h2]
        simp only [List.map_cons]
        simp only [List.map_cons, List.mem_cons] at h
        rcases h with h | h
        · exact absurd h h2
        · rw [ih hw h]

theorem mem_insert_wf {ν : Type} {st : NMap ν} {k : Nat} {v : ν} {p : Nat × ν} (hwf : NMap.WF st)
    (h : p ∈ NMap.insert k v st) : p = (k, v) ∨ (p ∈ st ∧ p.1 ≠ k) := by
  by_cases hk : p.1 = k
  · -- the only pair with key `k` is the inserted one: look it up
    have := NMap.get_of_mem (NMap.wf_insert hwf) h
    rw [NMap.get_insert, if_pos hk] at this
    exact Or.inl (Prod.ext hk (Option.some.inj this).symm)
  · rcases NMap.mem_insert h with rfl | hp
    · exact absurd rfl hk
    · exact Or.inr ⟨hp, hk⟩

theorem keys_last {ν : Type} (st : NMap ν) (c : Nat) (hwf : NMap.WF st) (hc : c ∈ st.map (·.1))
    (hmax : ∀ p ∈ st, p.1 ≤ c) : ∃ K0, st.map (·.1) = K0 ++ [c] ∧ c ∉ K0 := by
  induction st with
  | nil => cases hc
  | cons q st ih =>
    obtain ⟨kq, vq⟩ := q
    have ⟨hlb, hw⟩ := NMap.wf_cons.mp hwf
    cases st with
    | nil =>
      simp only [List.map_cons, List.map_nil, List.mem_singleton] at hc
      exact ⟨[], by simp [hc], by simp⟩
    | cons q2 st2 =>
      have hc' : c ∈ (q2 :: st2).map (·.1) := by
        simp only [List.map_cons, List.mem_cons] at hc ⊢
        rcases hc with h | h
        · -- c = kq is not the maximum: q2.1 > kq
          exfalso
          have h1 := hlb q2 (by simp)
          have h2 := hmax q2 (by simp)
          simp only at h1
          omega
        · exact h
      obtain ⟨K0, hK, hn⟩ := ih hw hc' (fun p hp => hmax p (List.mem_cons_of_mem _ hp))
      refine ⟨kq :: K0, by simp only [List.map_cons] at hK ⊢; rw [hK]; rfl, ?_⟩
      intro hm
      rcases List.mem_cons.mp hm with h | h
      · -- c = kq < q2.1 ≤ c
        have h1 := hlb q2 (by simp)
        have h2 := hmax q2 (by simp)
        simp only at h1
        omega
      · exact hn h

/-! ## store operations -/

theorem oinv_empty (L : List Entry) (E : Nat → List Entry) : OInv fmt crc ⟨E, L⟩ ([] : Store) :=
  ⟨NMap.wf_nil, (fun p hp => by cases hp), List.nil_sublist _⟩

theorem OInv.mono_L (h : OInv fmt crc g st) (L' : List Entry) (hL : List.Sublist g.L L') :
    OInv fmt crc ⟨g.E, L'⟩ st := ⟨h.wf, h.files, List.Sublist.trans h.sub hL⟩

theorem oinv_create (h : OInv fmt crc g st) (k : Nat) (hk : ∀ p ∈ st, p.1 < k) :
    OInv fmt crc ⟨upd g.E k [], g.L⟩ (NMap.insert k ⟨[], 0⟩ st) := by
  have hnotin : k ∉ keysOf st := by
    intro hm
    obtain ⟨p, hp, hpk⟩ := List.mem_map.mp hm
    have := hk p hp
    omega
  refine ⟨NMap.wf_insert h.wf, ?_, ?_⟩
  · intro p hp
    rcases mem_insert_wf h.wf hp with rfl | ⟨hp', hne⟩
    · show AllOk fmt crc (upd g.E k [] k) ∧ ∃ n, ([] : Bytes) = (header fmt k ++ encs (upd g.E k [] k)).take n
      rw [upd_same]
      exact ⟨(fun x hx => by cases hx), 0, by simp⟩
    · obtain ⟨hok, n, hn⟩ := h.files p hp'
      show AllOk fmt crc (upd g.E k [] p.1) ∧ ∃ n, p.2.data = (header fmt p.1 ++ encs (upd g.E k [] p.1)).take n
      rw [upd_other _ _ _ _ hne]
      exact ⟨hok, n, hn⟩
  · show List.Sublist ((keysOf (NMap.insert k ⟨[], 0⟩ st)).flatMap (upd g.E k [])) g.L
    unfold keysOf at hnotin ⊢
    rw [keys_insert_above st k _ hk, List.flatMap_append, flatMap_upd_notin _ _ _ _ hnotin]
    simp only [List.flatMap_cons, List.flatMap_nil, upd_same, List.append_nil]
    exact h.sub

theorem oinv_replace (h : OInv fmt crc g st) (k : Nat) (f' : File)
    (hk : k ∈ keysOf st) (hf : ∃ n, f'.data = (header fmt k ++ encs (g.E k)).take n) :
    OInv fmt crc g (NMap.insert k f' st) := by
  refine ⟨NMap.wf_insert h.wf, ?_, ?_⟩
  · intro p hp
    rcases mem_insert_wf h.wf hp with rfl | ⟨hp', _⟩
    · obtain ⟨q, hq, hqk⟩ := List.mem_map.mp hk
      have := (h.files q hq).1
      rw [hqk] at this
      exact ⟨this, hf⟩
    · exact h.files p hp'
  · show List.Sublist ((keysOf (NMap.insert k f' st)).flatMap g.E) g.L
    unfold keysOf
    rw [keys_insert_present st k f' h.wf hk]
    exact h.sub

theorem get_mem_keys {k : Nat} {f : File} (h : NMap.get st k = some f) : k ∈ keysOf st :=
  List.mem_map.mpr ⟨(k, f), NMap.mem_of_get h, rfl⟩

theorem oinv_syncFile (h : OInv fmt crc g st) (k : Nat) : OInv fmt crc g (syncFile st k) := by
  unfold syncFile
  cases hg : NMap.get st k with
  | none => exact h
  | some f => exact oinv_replace h k _ (get_mem_keys hg) (h.files (k, f) (NMap.mem_of_get hg)).2

theorem oinv_deleteFile (h : OInv fmt crc g st) (k : Nat) : OInv fmt crc g (deleteFile st k) := by
  unfold deleteFile
  refine ⟨List.Pairwise.filter _ h.wf, fun p hp => h.files p (List.mem_filter.mp hp).1, ?_⟩
  refine List.Sublist.trans (flatMap_sublist g.E g.E ?_ (fun _ _ => List.Sublist.refl _)) h.sub
  unfold keysOf
  exact List.Sublist.map _ List.filter_sublist

theorem keys_crashStore (st : Store) : keysOf (crashStore st) = keysOf st := by
  unfold keysOf crashStore
  rw [List.map_map]
  rfl

theorem oinv_crashStore (h : OInv fmt crc g st) : OInv fmt crc g (crashStore st) := by
  refine ⟨?_, ?_, by rw [keys_crashStore]; exact h.sub⟩
  · unfold crashStore NMap.WF
    rw [List.pairwise_map]
    exact h.wf
  · intro p hp
    unfold crashStore at hp
    obtain ⟨q, hq, rfl⟩ := List.mem_map.mp hp
    obtain ⟨hok, n, hn⟩ := h.files q hq
    exact ⟨hok, min q.2.synced n, by simp only; rw [hn, List.take_take]⟩

/-- one more entry handed to `append` for the file with the HIGHEST key `c`, whose contents were the
    full image: whatever reaches the file (`j` bytes of the encoding, possibly none) -/
theorem oinv_append (h : OInv fmt crc g st) (c : Nat) (f : File) (e : Entry)
    (hg : NMap.get st c = some f) (hfull : f.data = header fmt c ++ encs (g.E c)) (hmax : ∀ p ∈ st, p.1 ≤ c)
    (he : e.Good fmt crc) (j : Nat) :
    OInv fmt crc ⟨upd g.E c (g.E c ++ [e]), g.L ++ [e]⟩
      (NMap.insert c { f with data := f.data ++ e.encode.take j } st) := by
  have hck := get_mem_keys hg
  obtain ⟨K0, hK, hnotin⟩ := keys_last st c h.wf hck hmax
  have hokc : AllOk fmt crc (g.E c) := (h.files (c, f) (NMap.mem_of_get hg)).1
  refine ⟨NMap.wf_insert h.wf, ?_, ?_⟩
  · intro p hp
    rcases mem_insert_wf h.wf hp with rfl | ⟨hp', hne⟩
    · show AllOk fmt crc (upd g.E c (g.E c ++ [e]) c) ∧
        ∃ n, f.data ++ e.encode.take j = (header fmt c ++ encs (upd g.E c (g.E c ++ [e]) c)).take n
      rw [upd_same]
      refine ⟨?_, (header fmt c ++ encs (g.E c)).length + j, ?_⟩
      · intro x hx
        rcases List.mem_append.mp hx with hx | hx
        · exact hokc x hx
        · simp only [List.mem_singleton] at hx; subst hx; exact he
      · have : header fmt c ++ encs (g.E c ++ [e]) = (header fmt c ++ encs (g.E c)) ++ e.encode := by
          rw [encs_append, List.append_assoc]; simp [encs]
        rw [this, List.take_length_add_append, hfull]
    · obtain ⟨hok, n, hn⟩ := h.files p hp'
      show AllOk fmt crc (upd g.E c (g.E c ++ [e]) p.1) ∧
        ∃ n, p.2.data = (header fmt p.1 ++ encs (upd g.E c (g.E c ++ [e]) p.1)).take n
      rw [upd_other _ _ _ _ hne]
      exact ⟨hok, n, hn⟩
  · show List.Sublist ((keysOf (NMap.insert c _ st)).flatMap (upd g.E c (g.E c ++ [e]))) (g.L ++ [e])
    unfold keysOf
    rw [keys_insert_present st c _ h.wf hck]
    have hsub := h.sub
    unfold keysOf at hsub
    rw [hK] at hsub ⊢
    rw [List.flatMap_append] at hsub ⊢
    rw [flatMap_upd_notin _ _ _ _ hnotin]
    simp only [List.flatMap_cons, List.flatMap_nil, upd_same, List.append_nil] at hsub ⊢
    rw [← List.append_assoc]
    exact List.Sublist.append hsub (List.Sublist.refl _)

/-- an entry handed to `append` that never reaches any file (the rotation before it failed) -/
theorem oinv_log_only (h : OInv fmt crc g st) (e : Entry) :
    OInv fmt crc ⟨g.E, g.L ++ [e]⟩ st := h.mono_L _ (List.sublist_append_left _ _)

theorem oinv_header (h : OInv fmt crc g st) (k : Nat) (f : File) (j : Nat)
    (hg : NMap.get st k = some f) (hf : f.data = []) :
    OInv fmt crc g (NMap.insert k { f with data := f.data ++ (header fmt k).take j } st) := by
  refine oinv_replace h k _ (get_mem_keys hg) ⟨min j (header fmt k).length, ?_⟩
  simp only [hf, List.nil_append]
  rw [List.take_append_of_le_length (Nat.min_le_right _ _)]
  rw [List.take_eq_take_iff]
  simp [Nat.min_assoc]

/-! ## what recovery reads -/

theorem oinv_recovered (h : OInv fmt crc g st) :
    List.Sublist (durable fmt crc st) g.L ∧ List.Sublist (recoverAll fmt crc (fullImage st)) g.L := by
  have key : ∀ (sel : File → Bytes), (∀ f, ∃ m, sel f = f.data.take m) →
      List.Sublist (recoverAll fmt crc (st.map (fun p => (p.1, sel p.2)))) g.L := by
    intro sel hsel
    refine List.Sublist.trans ?_ h.sub
    unfold recoverAll keysOf
    rw [List.flatMap_map]
    -- file by file: a prefix of the entries of that file
    have hfile : ∀ p ∈ st, List.Sublist (fileEntries fmt crc (sel p.2)) (g.E p.1) := by
      intro p hp
      obtain ⟨hok, n, hn⟩ := h.files p hp
      obtain ⟨m, hm⟩ := hsel p.2
      rw [hm, hn, List.take_take]
      obtain ⟨j, hj⟩ := fileEntries_take fmt crc p.1 (g.E p.1) hok (min m n)
      rw [hj]
      exact List.take_sublist _ _
    clear hsel
    have hwf := h.wf
    clear h
    induction st with
    | nil => exact List.Sublist.slnil
    | cons p st ih =>
      simp only [List.flatMap_cons, List.map_cons]
      exact List.Sublist.append (hfile p (by simp)) (ih (fun q hq => hfile q (List.mem_cons_of_mem _ hq)) (NMap.wf_cons.mp hwf).2)
  constructor
  · unfold durable crashImage
    exact key (fun f => f.data.take f.synced) (fun f => ⟨f.synced, rfl⟩)
  · unfold fullImage
    exact key (fun f => f.data) (fun f => ⟨f.data.length, (List.take_length).symm⟩)

/-! ## world and rotator -/

/-- every store of the history satisfies the invariant for SOME earlier ghost whose log is a prefix of the
    current one -/
def HistOK (fmt : Format) (crc : Bytes → Nat) (L : List Entry) (w : World) : Prop :=
  ∀ st ∈ w.hist, ∃ E' L', OInv fmt crc ⟨E', L'⟩ st ∧ L' <+: L

structure ORot (fmt : Format) (crc : Bytes → Nat) (g : Ghost) (r : Rot) : Prop where
  cur : OInv fmt crc g r.w.store
  hist : HistOK fmt crc g.L r.w
  keys : ∀ p ∈ r.w.store, p.1 ≤ r.seq
  writer : ∀ c, r.cur = some c → c = r.seq ∧ ∃ f, NMap.get r.w.store c = some f ∧ f.data = header fmt c ++ encs (g.E c)

theorem histOK_push {L : List Entry} {w : World} (h : HistOK fmt crc L w) (st : Store) (c : Call) (E : Nat → List Entry)
    (hs : OInv fmt crc ⟨E, L⟩ st) : HistOK fmt crc L (w.push st c) := by
  intro st' hst'
  simp only [World.push] at hst'
  rcases List.mem_cons.mp hst' with rfl | h'
  · exact ⟨E, L, hs, List.prefix_refl _⟩
  · exact h st' h'

theorem histOK_mono {L L' : List Entry} {w : World} (h : HistOK fmt crc L w) (hL : L <+: L') : HistOK fmt crc L' w := by
  intro st hst
  obtain ⟨E', L0, ho, hp⟩ := h st hst
  exact ⟨E', L0, ho, List.IsPrefix.trans hp hL⟩

theorem orot_init (maxSize : Nat) (E : Nat → List Entry) : ORot fmt crc ⟨E, []⟩ (Rot.init maxSize) := by
  refine ⟨oinv_empty [] E, ?_, (fun p hp => by cases hp), (fun c hc => by cases hc)⟩
  intro st hst
  simp only [Rot.init, World.init, List.mem_singleton] at hst
  subst hst
  exact ⟨E, [], oinv_empty [] E, List.prefix_refl _⟩

theorem orot_push (h : ORot fmt crc g r) (st : Store) (c : Call) (hs : OInv fmt crc g st)
    (hk : ∀ p ∈ st, p.1 ≤ r.seq) :
    OInv fmt crc g (r.w.push st c).store ∧ HistOK fmt crc g.L (r.w.push st c) ∧ (∀ p ∈ (r.w.push st c).store, p.1 ≤ r.seq) :=
  ⟨hs, histOK_push h.hist st c g.E hs, hk⟩

theorem keys_le_of_sync {n : Nat} (h : ∀ p ∈ st, p.1 ≤ n) (k : Nat) : ∀ p ∈ syncFile st k, p.1 ≤ n := by
  unfold syncFile
  cases hg : NMap.get st k with
  | none => exact h
  | some f =>
    intro p hp
    rcases NMap.mem_insert hp with rfl | hp
    · exact h (k, f) (NMap.mem_of_get hg)
    · exact h p hp

theorem get_syncFile_data {c k : Nat} {f : File} (hg : NMap.get st c = some f) :
    ∃ f', NMap.get (syncFile st k) c = some f' ∧ f'.data = f.data := by
  rw [get_syncFile]
  split
  · rename_i hck; subst hck; exact ⟨{ f with synced := f.data.length }, by rw [hg]; rfl, rfl⟩
  · exact ⟨f, hg, rfl⟩

theorem orot_ioSync (φ : Nat → Outcome) (h : ORot fmt crc g r) (k : Nat) (cur' : Option Nat) (p : Bool)
    (hcur : cur' = r.cur ∨ cur' = none) :
    ORot fmt crc g { r with w := (ioSync φ r.w k).1, cur := cur', poisoned := p } := by
  have hw : ∀ c, cur' = some c → c = r.seq ∧ ∃ f, NMap.get r.w.store c = some f ∧ f.data = header fmt c ++ encs (g.E c) := by
    intro c hc
    rcases hcur with h1 | h1
    · exact h.writer c (by rw [← h1]; exact hc)
    · rw [h1] at hc; cases hc
  unfold ioSync
  cases hφ : φ r.w.io with
  | ok =>
    simp only
    obtain ⟨a, b, c⟩ := orot_push h (syncFile r.w.store k) (.sync k true) (oinv_syncFile h.cur k) (keys_le_of_sync h.keys k)
    refine ⟨a, b, c, fun c' hc' => ?_⟩
    obtain ⟨hs, f, hg, hd⟩ := hw c' hc'
    obtain ⟨f', hg', hd'⟩ := get_syncFile_data (k := k) hg
    exact ⟨hs, f', hg', by rw [hd', hd]⟩
  | fail | torn _ | diskFull =>
    simp only
    obtain ⟨a, b, c⟩ := orot_push h r.w.store (.sync k false) h.cur h.keys
    exact ⟨a, b, c, hw⟩

theorem keys_lt_succ {n : Nat} (h : ∀ p ∈ st, p.1 ≤ n) : ∀ p ∈ st, p.1 < n + 1 :=
  fun p hp => Nat.lt_succ_of_le (h p hp)

theorem orot_opened (fix : Bool) (φ : Nat → Outcome) (h : ORot fmt crc g r) (hc : r.cur = none) :
    ∃ g', ORot fmt crc g' (Rot.rotate fix fmt φ r).1 ∧ g'.L = g.L := by
  unfold Rot.rotate
  rw [close_nocur fix φ hc]
  simp only
  unfold ioCreate
  cases hφ : φ r.w.io with
  | ok =>
    simp only
    -- the file is created: its ghost list starts empty
    let g1 : Ghost := ⟨upd g.E (r.seq + 1) [], g.L⟩
    have ho1 : OInv fmt crc g1 (NMap.insert (r.seq + 1) ⟨[], 0⟩ r.w.store) := oinv_create h.cur (r.seq + 1) (keys_lt_succ h.keys)
    have hk1 : ∀ p ∈ NMap.insert (r.seq + 1) (⟨[], 0⟩ : File) r.w.store, p.1 ≤ r.seq + 1 := by
      intro p hp
      rcases NMap.mem_insert hp with rfl | hp
      · exact Nat.le_refl _
      · exact Nat.le_succ_of_le (h.keys p hp)
    have hh1 : HistOK fmt crc g.L (r.w.push (NMap.insert (r.seq + 1) ⟨[], 0⟩ r.w.store) (.create (r.seq + 1) true (NMap.get r.w.store (r.seq + 1)).isSome)) :=
      histOK_push h.hist _ _ g1.E ho1
    have hget : NMap.get (NMap.insert (r.seq + 1) (⟨[], 0⟩ : File) r.w.store) (r.seq + 1) = some ⟨[], 0⟩ := by
      rw [NMap.get_insert, if_pos rfl]
    generalize hw1 : r.w.push (NMap.insert (r.seq + 1) ⟨[], 0⟩ r.w.store) (.create (r.seq + 1) true (NMap.get r.w.store (r.seq + 1)).isSome) = w1 at hh1
    have hst1 : w1.store = NMap.insert (r.seq + 1) ⟨[], 0⟩ r.w.store := by rw [← hw1]; rfl
    -- the header append
    unfold ioAppend
    cases hφ2 : φ w1.io with
    | ok =>
      simp only
      unfold appendData
      rw [hst1, hget]
      simp only
      have ho2 := oinv_header ho1 (r.seq + 1) ⟨[], 0⟩ (header fmt (r.seq + 1)).length hget rfl
      rw [List.take_length] at ho2
      refine ⟨g1, ⟨ho2, ?_, ?_, ?_⟩, rfl⟩
      · exact histOK_push hh1 _ _ g1.E ho2
      · intro p hp
        rcases NMap.mem_insert hp with rfl | hp
        · exact Nat.le_refl _
        · exact hk1 p hp
      · intro c hc'
        simp only [Option.some.injEq] at hc'
        subst hc'
        refine ⟨rfl, _, by show NMap.get (NMap.insert _ _ _) _ = _; rw [NMap.get_insert, if_pos rfl], ?_⟩
        simp [g1, upd_same, encs]
    | torn j =>
      simp only
      unfold appendData
      rw [hst1, hget]
      simp only
      have ho2 := oinv_header ho1 (r.seq + 1) ⟨[], 0⟩ j hget rfl
      refine ⟨g1, ⟨ho2, histOK_push hh1 _ _ g1.E ho2, ?_, fun c hc' => by rw [hc] at hc'; cases hc'⟩, rfl⟩
      intro p hp
      rcases NMap.mem_insert hp with rfl | hp
      · exact Nat.le_refl _
      · exact hk1 p hp
    | fail | diskFull =>
      simp only
      rw [hst1]
      exact ⟨g1, ⟨ho1, histOK_push hh1 _ _ g1.E ho1, hk1, fun c hc' => by rw [hc] at hc'; cases hc'⟩, rfl⟩
  | fail | torn _ | diskFull =>
    simp only
    refine ⟨g, ⟨h.cur, histOK_push h.hist _ _ g.E h.cur, fun p hp => Nat.le_succ_of_le (h.keys p hp),
      fun c hc' => by rw [hc] at hc'; cases hc'⟩, rfl⟩

theorem orot_appendTo {c : Nat} (φ : Nat → Outcome) (h : ORot fmt crc g r) (hc : r.cur = some c) (e : Entry)
    (he : e.Good fmt crc) :
    ORot fmt crc ⟨upd g.E c (g.E c ++ [e]), g.L ++ [e]⟩ (Rot.appendTo φ r e).1 := by
  unfold Rot.appendTo
  rw [hc]
  simp only
  obtain ⟨hcs, f, hg, hfull⟩ := h.writer c hc
  have hmax : ∀ p ∈ r.w.store, p.1 ≤ c := by rw [hcs]; exact h.keys
  have hhist : HistOK fmt crc (g.L ++ [e]) r.w := histOK_mono h.hist (List.prefix_append _ _)
  have hkeys : ∀ j, ∀ p ∈ NMap.insert c ({ f with data := f.data ++ e.encode.take j } : File) r.w.store, p.1 ≤ r.seq := by
    intro j p hp
    rcases NMap.mem_insert hp with rfl | hp
    · exact h.keys (c, f) (NMap.mem_of_get hg)
    · exact h.keys p hp
  unfold ioAppend
  cases hφ : φ r.w.io with
  | ok =>
    simp only
    unfold appendData
    rw [hg]
    simp only
    have ho := oinv_append h.cur c f e hg hfull hmax he e.encode.length
    rw [List.take_length] at ho
    refine ⟨ho, histOK_push hhist _ _ _ ho, ?_, ?_⟩
    · have := hkeys e.encode.length
      rw [List.take_length] at this
      exact this
    · intro c' hc'
      simp only [Option.some.injEq] at hc'
      subst hc'
      refine ⟨hcs, _, by show NMap.get (NMap.insert _ _ _) _ = _; rw [NMap.get_insert, if_pos rfl], ?_⟩
      simp only [upd_same]
      rw [hfull, encs_append, List.append_assoc]
      simp [encs]
  | torn j =>
    simp only
    unfold appendData
    rw [hg]
    simp only
    have ho := oinv_append h.cur c f e hg hfull hmax he j
    exact ⟨ho, histOK_push hhist _ _ _ ho, hkeys j, fun c' hc' => by cases hc'⟩
  | fail | diskFull =>
    simp only
    -- nothing reaches the file: the same bytes are a prefix of the longer image as well
    have ho := oinv_append h.cur c f e hg hfull hmax he 0
    have hsame : NMap.insert c ({ f with data := f.data ++ e.encode.take 0 } : File) r.w.store = NMap.insert c f r.w.store := by
      simp
    have hins : NMap.insert c f r.w.store = r.w.store := by
      apply NMap.ext (NMap.wf_insert h.cur.wf) h.cur.wf
      intro k
      rw [NMap.get_insert]
      split
      · rename_i hk; rw [hk, hg]
      · rfl
    rw [hsame, hins] at ho
    exact ⟨ho, histOK_push hhist _ _ _ ho, h.keys, fun c' hc' => by cases hc'⟩

theorem orot_kept (φ : Nat → Outcome) :
    Kept fmt φ (Entry.Good fmt crc) (fun es r => ∃ g, ORot fmt crc g r ∧ g.L = es) where
  synced := fun {_ _ c} _ ⟨g, h, hL⟩ => ⟨g, orot_ioSync φ h c none _ (Or.inr rfl), hL⟩
  dropped := fun ⟨g, h, hL⟩ => ⟨g, ⟨h.cur, h.hist, h.keys, fun _ hc => by cases hc⟩, hL⟩
  opened := fun fix hc ⟨_, h, hL⟩ => (orot_opened fix φ h hc).imp fun _ h' => ⟨h'.1, h'.2.trans hL⟩
  entry := fun e hc he ⟨_, h, hL⟩ => ⟨_, orot_appendTo φ h hc e he, by rw [hL]⟩

theorem orot_append (fix : Bool) (φ : Nat → Outcome) (h : ORot fmt crc g r) (e : Entry)
    (he : e.Good fmt crc) : ∃ g', ORot fmt crc g' (Rot.append fix fmt φ r e).1 ∧ g'.L = g.L ++ [e] := by
  rcases (orot_kept φ).append fix ⟨g, h, rfl⟩ he with h1 | ⟨⟨g1, h1, hL1⟩, -⟩
  · exact h1
  · -- the rotation failed: the entry is in the log and in no file
    exact ⟨⟨g1.E, g1.L ++ [e]⟩, ⟨oinv_log_only h1.cur e, histOK_mono h1.hist (List.prefix_append _ _), h1.keys,
      h1.writer⟩, by rw [hL1]⟩

theorem orot_sync (fix : Bool) (φ : Nat → Outcome) (h : ORot fmt crc g r) :
    ORot fmt crc g (Rot.sync fix φ r).1 := by
  unfold Rot.sync
  split
  · exact ⟨h.cur, h.hist, h.keys, h.writer⟩
  · cases hc : r.cur with
    | none => exact ⟨h.cur, h.hist, h.keys, fun c hc' => by cases hc'⟩
    | some c =>
      exact orot_ioSync φ h c (some c) false (Or.inl hc.symm)

theorem orot_ioDelete (φ : Nat → Outcome) {k : Nat} (h : ORot fmt crc g r) (hk : r.cur ≠ some k) :
    ORot fmt crc g { r with w := (ioDelete φ r.w k).1 } := by
  unfold ioDelete
  cases hφ : φ r.w.io with
  | ok =>
    simp only
    have ho := oinv_deleteFile h.cur k
    refine ⟨ho, histOK_push h.hist _ _ g.E ho, fun p hp => h.keys p (List.mem_filter.mp hp).1, ?_⟩
    intro c hc
    obtain ⟨hs, f, hg, hd⟩ := h.writer c hc
    refine ⟨hs, f, ?_, hd⟩
    show NMap.get (deleteFile r.w.store k) c = some f
    rw [get_deleteFile, if_neg (fun hck => hk (by rw [← hck]; exact hc))]
    exact hg
  | fail | torn _ | diskFull =>
    simp only
    exact ⟨h.cur, histOK_push h.hist _ _ g.E h.cur, h.keys, h.writer⟩

theorem orot_truncate (φ : Nat → Outcome) (T : Nat) (h : ORot fmt crc g r) :
    ORot fmt crc g (Rot.truncate fmt crc φ T r) :=
  truncate_kept T (fun hk _ hi => orot_ioDelete φ hi hk) h

/-- a new rotator over the store (current code: `reuse = false`) -/
theorem orot_reopen (h : OInv fmt crc g r.w.store) (hh : HistOK fmt crc g.L r.w) :
    ORot fmt crc g (Rot.reopen false r) :=
  ⟨h, hh, fun p hp => by simp only [Rot.reopen, Bool.false_eq_true, if_false]; exact maxKey_ge p hp,
    fun c hc => by cases hc⟩

/-- the machine crashes and a new rotator is opened over what is left -/
theorem orot_reopen_crash (h : ORot fmt crc g r) :
    ORot fmt crc g (Rot.reopen false { r with w := r.w.push (crashStore r.w.store) .crash }) :=
  have ho := oinv_crashStore h.cur
  orot_reopen (r := { r with w := r.w.push (crashStore r.w.store) .crash }) ho (histOK_push h.hist _ _ g.E ho)

/-! ## actor -/

/-- the entries the events hand to `WalRotator::append`, in order -/
def entriesOf (fmt : Format) (crc : Bytes → Nat) : List Ev → List Entry
  | [] => []
  | .write w :: r => Entry.mk' fmt crc w.data w.ts :: entriesOf fmt crc r
  | .forget w :: r => Entry.mk' fmt crc w.data w.ts :: entriesOf fmt crc r
  | _ :: r => entriesOf fmt crc r

theorem entriesOf_append (a b : List Ev) : entriesOf fmt crc (a ++ b) = entriesOf fmt crc a ++ entriesOf fmt crc b := by
  induction a with
  | nil => rfl
  | cons ev a ih => cases ev <;> simp [entriesOf, ih]

theorem Moved.orot {fix tk : Bool} {φ : Nat → Outcome} {a a' : Actor} {ev : Ev} (h : Moved fix tk φ fmt crc a ev a')
    (ho : ORot fmt crc g a.rot) (hev : ev.Ok fmt crc) :
    ∃ g', ORot fmt crc g' a'.rot ∧ g'.L = g.L ++ entriesOf fmt crc [ev] := by
  induction h with
  | queued w h | refused w h | counted w h | lost w h =>
    have := orot_append (fmt := fmt) fix φ ho _ ⟨hev.1, rfl, hev.2⟩
    rwa [h] at this
  | idle ev h => rcases h with rfl | ⟨rfl, -⟩ <;> exact ⟨g, ho, (List.append_nil _).symm⟩
  | ticked | flushed => exact ⟨g, orot_sync fix φ ho, (List.append_nil _).symm⟩
  | truncated T => exact ⟨g, orot_truncate φ T ho, (List.append_nil _).symm⟩
  | crashed reuse =>
    cases (hev : reuse = false)
    exact ⟨g, orot_reopen_crash ho, (List.append_nil _).symm⟩
  | restarted reuse _ ih =>
    cases (hev : reuse = false)
    obtain ⟨g1, h1, hL⟩ := ih trivial
    exact ⟨g1, orot_reopen h1.cur h1.hist, hL⟩

theorem orot_run (fix tk : Bool) (φ : Nat → Outcome) (maxSize : Nat) (evs : List Ev) (hev : ∀ ev ∈ evs, ev.Ok fmt crc) :
    ∃ g, ORot fmt crc g (Actor.run fix tk φ fmt crc maxSize evs).rot ∧ g.L = entriesOf fmt crc evs := by
  unfold Actor.run
  suffices hs : ∀ (evs : List Ev) (a : Actor) (g : Ghost), (∀ ev ∈ evs, ev.Ok fmt crc) → ORot fmt crc g a.rot →
      ∃ g', ORot fmt crc g' (evs.foldl (Actor.step fix tk φ fmt crc) a).rot ∧ g'.L = g.L ++ entriesOf fmt crc evs by
    obtain ⟨g', h', hL⟩ := hs evs (Actor.init maxSize) ⟨fun _ => [], []⟩ hev (orot_init maxSize _)
    exact ⟨g', h', by rw [hL]; rfl⟩
  intro evs
  induction evs with
  | nil => intro a g _ h; exact ⟨g, h, by simp [entriesOf]⟩
  | cons ev evs ih =>
    intro a g hev h
    simp only [List.foldl_cons]
    obtain ⟨g1, h1, hL1⟩ := (step_moved a ev).orot h (hev ev (by simp))
    obtain ⟨g2, h2, hL2⟩ := ih _ g1 (fun e he => hev e (List.mem_cons_of_mem _ he)) h1
    refine ⟨g2, h2, ?_⟩
    rw [hL2, hL1, List.append_assoc]
    congr 1
    exact (entriesOf_append [ev] evs).symm

theorem orot_recovered (h : ORot fmt crc g r) (t : Nat) (st : Store)
    (hst : r.w.storeAt t = some st) : List.Sublist (durable fmt crc st) g.L := by
  have hmem : st ∈ r.w.hist := by
    unfold World.storeAt at hst
    exact List.mem_reverse.mp (List.mem_of_getElem? hst)
  obtain ⟨E', L', ho, hp⟩ := h.hist st hmem
  exact List.Sublist.trans (oinv_recovered ho).1 hp.sublist

/-! ## provenance is a consequence of order -/

/-- every file is a prefix of the clean image of entries of the log: what holds of the log holds of them -/
theorem OInv.srcSt (h : OInv fmt crc g st) {P : Entry → Prop} (hP : ∀ e ∈ g.L, P e) :
    SrcSt fmt crc P st := by
  intro p hp
  obtain ⟨hok, n, hn⟩ := h.files p hp
  refine ⟨g.E p.1, n, fun e he => hP e (h.sub.subset ?_), hok, hn⟩
  exact List.mem_flatMap.mpr ⟨p.1, List.mem_map.mpr ⟨p, hp, rfl⟩, he⟩

theorem ORot.srcInv (h : ORot fmt crc g r) {P : Entry → Prop} (hP : ∀ e ∈ g.L, P e) :
    SrcInv fmt crc P r where
  w := ⟨h.cur.srcSt hP, fun st hst => by
    obtain ⟨E', L', ho, hp⟩ := h.hist st hst
    exact ho.srcSt (fun e he => hP e (hp.subset he))⟩
  cur := fun c hc => by
    obtain ⟨_, ⟨data, syn⟩, hg, hd⟩ := h.writer c hc
    subst hd
    exact ⟨g.E c, syn, hg, fun e he => hP e (h.cur.sub.subset
      (List.mem_flatMap.mpr ⟨c, get_mem_keys hg, he⟩)), (h.cur.files _ (NMap.mem_of_get hg)).1⟩

/-- the provenance invariant along every history: every entry of every file was handed to `append` -/
theorem srcinv_run (fix tk : Bool) (φ : Nat → Outcome) (maxSize : Nat) (evs : List Ev)
    (hev : ∀ ev ∈ evs, ev.Ok fmt crc) {P : Entry → Prop} (hP : ∀ e ∈ entriesOf fmt crc evs, P e) :
    SrcInv fmt crc P (Actor.run fix tk φ fmt crc maxSize evs).rot := by
  obtain ⟨g, h, hL⟩ := orot_run fix tk φ maxSize evs hev
  exact h.srcInv (hL ▸ hP)

end RedisVerif.Wal
