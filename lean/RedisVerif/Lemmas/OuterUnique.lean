import RedisVerif.Lemmas.RegsUnique

/-!
An OUTER stamp identifies one CRDT kind per key anywhere in a cluster.

`RegsUnique` proves that a (key, slot, stamp) triple identifies one LWW register; what
`C07.TieConsistent` needs on top of that for values of DIFFERENT kinds (`SET k` on one replica,
`HSET k` on another) is that two values of one key with different kinds never carry the same outer
stamp.  That is an invariant of every execution of the cluster whose hash writes obey the code's
own precondition (`record_hash_write`: `debug_assert!(!fields.is_empty())`): an empty field list
would re-label the stored value as a hash under its old outer stamp
(`C07.empty_hwrite_breaks_tie`).

The invariant talks about (outer stamp, kind) PAIRS of the deltas issued for a key; every stored
value carries the pair of some issued delta (a merge never invents a pair: `merge_pair`).
-/
namespace RedisVerif

/-- the precondition of `record_hash_write` (`debug_assert!(!fields.is_empty())`; the command
    layer rejects `HSET key` without a field/value pair before it gets there) -/
def LOp.Valid : LOp → Bool
  | .hwrite _ fs => !fs.isEmpty
  | _ => true

def Ev.Valid : Ev → Bool
  | .loc _ op => op.Valid
  | .deliver _ _ => true

namespace Shard

theorem local_outer (s : Shard) (op : LOp) (d : RV) (hv : op.Valid = true)
    (hd : (step s op.toOp).2 = some d) :
    (NMap.get s.keys op.key = some d ∧ (step s op.toOp).1.clock = s.clock) ∨
    (d.ts = (step s op.toOp).1.clock ∧ s.clock.time < d.ts.time) ∨
    (d.ts = s.clock ∧ (step s op.toOp).1.clock = s.clock ∧
      ∃ old, NMap.get s.keys op.key = some old ∧ old.crdt.kind = d.crdt.kind) := by
  rcases local_stamp s op d hd with h | h | h | ⟨h, _⟩
  · exact Or.inl h
  · exact Or.inr (Or.inl h)
  · exact Or.inr (Or.inr h)
  · rw [h] at hv; cases hv

end Shard

namespace Cluster

/-- `p` is the (outer stamp, kind) pair of a delta issued for key `k` -/
def SentPair (c : Cluster) (k : Nat) (p : Stamp × Nat) : Prop :=
  ∃ m ∈ c.sent, m.key = k ∧ (m.val.ts, m.val.crdt.kind) = p

structure OInv (c : Cluster) : Prop where
  /-- every stored value carries the pair of an issued delta of its key -/
  stored : ∀ (i : Nat) (s : Shard), c.nodes[i]? = some s → ∀ k v, NMap.get s.keys k = some v →
    SentPair c k (v.ts, v.crdt.kind)
  /-- per key, an outer stamp identifies one kind -/
  func : ∀ k p q, SentPair c k p → SentPair c k q → p.1 = q.1 → p.2 = q.2
  /-- no outer stamp of a node lies in that node's future -/
  own : ∀ (i : Nat) (s : Shard), c.nodes[i]? = some s → ∀ k p, SentPair c k p →
    p.1.rid = s.rid → p.1.time ≤ s.clock.time
  /-- a delta stamped with a node's CURRENT clock value has the kind that node stores -/
  cur : ∀ (i : Nat) (s : Shard), c.nodes[i]? = some s → ∀ k p, SentPair c k p →
    p.1 = s.clock → ∃ w, NMap.get s.keys k = some w ∧ w.crdt.kind = p.2

/-! ### the pairs of the next state

What `XInv`'s steps (`Lemmas/ReachRestart.lean`) need about pairs.  "No pair stamped by the acting
node lies in its future" and "a pair stamped with its current clock has the kind it stores" are
hypotheses here (`hown`, `hcur`): they hold of a node that has all its own deltas back
(`XInv.own_pair`, `XInv.cur`), which in an execution without crashes is every node (`XInv.oinv`). -/

theorem sentPair_snoc {c : Cluster} {nodes' : List Shard} {log' : List Absorbed} {i k' : Nat}
    {d : RV} {k : Nat} {p : Stamp × Nat} :
    SentPair ⟨nodes', c.sent ++ [⟨i, k', d⟩], log'⟩ k p ↔
      SentPair c k p ∨ (k = k' ∧ p = (d.ts, d.crdt.kind)) := by
  constructor
  · rintro ⟨m, hm, hk, hpm⟩
    rcases List.mem_append.mp hm with h1 | h1
    · exact Or.inl ⟨m, h1, hk, hpm⟩
    · rw [List.mem_singleton.mp h1] at hk hpm
      exact Or.inr ⟨hk.symm, hpm.symm⟩
  · rintro (⟨m, hm, hk, hpm⟩ | ⟨rfl, rfl⟩)
    · exact ⟨m, List.mem_append_left _ hm, hk, hpm⟩
    · exact ⟨⟨i, k, d⟩, List.mem_append_right _ (List.mem_singleton.mpr rfl), rfl, rfl⟩

/-- every stored value carries the pair of an issued delta of its key (`OInv.stored`, `XInv.stored`) -/
def Stored (c : Cluster) : Prop :=
  ∀ (i : Nat) (s : Shard), c.nodes[i]? = some s → ∀ k v, NMap.get s.keys k = some v →
    SentPair c k (v.ts, v.crdt.kind)

/-- per key, an outer stamp identifies one kind (`OInv.func`, `XInv.func`) -/
def OneKind (c : Cluster) : Prop := ∀ k p q, SentPair c k p → SentPair c k q → p.1 = q.1 → p.2 = q.2

/-- a delivery stores a pair the node had or the pair of the delivered delta (`merge_pair`) -/
theorem stored_deliver {c : Cluster} (hst : Stored c)
    {j idx : Nat} {s : Shard} {m : Msg} (hs : c.nodes[j]? = some s) (hm : c.sent[idx]? = some m)
    {log' : List Absorbed} : Stored ⟨c.nodes.set j (Shard.applyRemote s m.key m.val), c.sent, log'⟩ := by
  have hmmem : m ∈ c.sent := List.mem_of_getElem? hm
  intro i s' hs' k v hg
  show SentPair c k (v.ts, v.crdt.kind)
  rcases getElem?_set_cases hs' with ⟨rfl, rfl⟩ | ⟨_, hs'⟩
  · simp only [Shard.applyRemote] at hg
    rw [NMap.get_insert] at hg
    by_cases hk : k = m.key
    · simp only [hk, if_true] at hg
      rw [← Option.some.inj hg, hk]
      cases hl : NMap.get s.keys m.key with
      | none => exact ⟨m, hmmem, rfl, rfl⟩
      | some l =>
        simp only
        rcases RV.merge_pair l m.val with h1 | h1
        · rw [h1]; exact hst _ s hs m.key l hl
        · rw [h1]; exact ⟨m, hmmem, rfl, rfl⟩
    · simp only [hk, if_false] at hg
      exact hst _ s hs k v hg
  · exact hst i s' hs' k v hg

theorem new_pair_kind {c : Cluster} (hst : Stored c) (hfunc : OneKind c)
    {i : Nat} {op : LOp} {s : Shard} {d : RV} (hs : c.nodes[i]? = some s) (hv : op.Valid = true)
    (hd : (Shard.step s op.toOp).2 = some d) (hridc : s.clock.rid = s.rid)
    (hown : ∀ q, SentPair c op.key q → q.1.rid = s.rid → q.1.time ≤ s.clock.time)
    (hcur : ∀ q, SentPair c op.key q → q.1 = s.clock →
      ∃ w, NMap.get s.keys op.key = some w ∧ w.crdt.kind = q.2) :
    ∀ q, SentPair c op.key q → q.1 = d.ts → q.2 = d.crdt.kind := by
  intro q hq hts
  rcases Shard.local_outer s op d hv hd with ⟨hA, _⟩ | ⟨hB1, hB2⟩ | ⟨hC1, _, old, hC3, hC4⟩
  · exact hfunc op.key q (d.ts, d.crdt.kind) hq (hst i s hs op.key d hA) hts
  · exfalso
    have := hown q hq (by rw [hts, hB1, (C08.clock_monotone s op.toOp).2, hridc])
    rw [hts] at this
    omega
  · obtain ⟨w, hw1, hw2⟩ := hcur q hq (by rw [hts, hC1])
    rw [hC3] at hw1
    cases hw1
    rw [← hw2, hC4]

theorem pairs_loc {c : Cluster} (hst : Stored c) (hfunc : OneKind c)
    {i : Nat} {op : LOp} {s : Shard} {d : RV} (hs : c.nodes[i]? = some s)
    (hd : (Shard.step s op.toOp).2 = some d)
    (hfresh : ∀ q, SentPair c op.key q → q.1 = d.ts → q.2 = d.crdt.kind) {log' : List Absorbed} :
    Stored ⟨c.nodes.set i (Shard.step s op.toOp).1, c.sent ++ [⟨i, op.key, d⟩], log'⟩ ∧
    OneKind ⟨c.nodes.set i (Shard.step s op.toOp).1, c.sent ++ [⟨i, op.key, d⟩], log'⟩ := by
  constructor
  · intro i' s' hs' k v hg
    rw [sentPair_snoc]
    rcases getElem?_set_cases hs' with ⟨rfl, rfl⟩ | ⟨_, hs'⟩
    · by_cases hk : k = op.key
      · subst hk
        rw [Shard.local_get s op d hd] at hg
        cases hg
        exact Or.inr ⟨rfl, rfl⟩
      · rw [Shard.keys_step_other s op k hk] at hg
        exact Or.inl (hst _ s hs k v hg)
    · exact Or.inl (hst i' s' hs' k v hg)
  · intro k p q hp hq hts
    rcases sentPair_snoc.mp hp with hp1 | ⟨hk1, hp1⟩ <;> rcases sentPair_snoc.mp hq with hq1 | ⟨hk2, hq1⟩
    · exact hfunc k p q hp1 hq1 hts
    · subst hk2
      rw [hq1] at hts ⊢
      exact hfresh p hp1 hts
    · subst hk1
      rw [hp1] at hts ⊢
      exact (hfresh q hq1 hts.symm).symm
    · rw [hp1, hq1]

end Cluster
end RedisVerif
