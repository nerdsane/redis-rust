import RedisVerif.Lemmas.ClusterInv

/-!
A (key, slot, stamp) triple identifies one register anywhere in a cluster: the `RegsConsistent`
half of `Compat` is not an assumption about executions but a theorem about them (this is the
cluster-level form of C08's "a stamp identifies one write").
-/
namespace RedisVerif
namespace Cluster

/-- (key, slot, register) triples -/
abbrev Reg3 := Nat × Nat × Lww

def valRegs (k : Nat) (v : RV) : List Reg3 := v.crdt.slots.map (fun q => (k, q.1, q.2))

def shardRegs (s : Shard) : List Reg3 := s.keys.flatMap (fun p => valRegs p.1 p.2)

def sentRegs (c : Cluster) : List Reg3 := c.sent.flatMap (fun m => valRegs m.key m.val)

/-- registers anywhere in the cluster: in a node's state or in an issued delta -/
def InCluster (c : Cluster) (a : Reg3) : Prop :=
  (∃ s ∈ c.nodes, a ∈ shardRegs s) ∨ a ∈ sentRegs c

structure RInv (c : Cluster) : Prop where
  /-- same key, slot and stamp ⇒ same register -/
  uniq : ∀ a b, InCluster c a → InCluster c b → a.1 = b.1 → a.2.1 = b.2.1 →
    a.2.2.ts = b.2.2.ts → a.2.2 = b.2.2
  /-- no register stamped by a node lies in that node's future -/
  own : ∀ (i : Nat) (s : Shard), c.nodes[i]? = some s → ∀ a, InCluster c a →
    a.2.2.ts.rid = s.rid → a.2.2.ts.time ≤ s.clock.time
  rids : ∀ (i : Nat) (s : Shard), c.nodes[i]? = some s → s.rid = i + 1 ∧ s.clock.rid = s.rid
  wf : ∀ s ∈ c.nodes, s.NodeWF ∧ s.Inv
  sent_wf : ∀ m ∈ c.sent, m.val.WF ∧ m.val.Dominated

theorem mem_valRegs {k : Nat} {v : RV} {a : Reg3} :
    a ∈ valRegs k v ↔ a.1 = k ∧ (a.2.1, a.2.2) ∈ v.crdt.slots := by
  simp only [valRegs, List.mem_map]
  constructor
  · rintro ⟨q, hq, rfl⟩; exact ⟨rfl, hq⟩
  · rintro ⟨h1, h2⟩
    exact ⟨(a.2.1, a.2.2), h2, by obtain ⟨a1, a2, a3⟩ := a; simp at h1; simp [h1]⟩

theorem mem_shardRegs {s : Shard} {a : Reg3} :
    a ∈ shardRegs s ↔ ∃ v, (a.1, v) ∈ s.keys ∧ (a.2.1, a.2.2) ∈ v.crdt.slots := by
  simp only [shardRegs, List.mem_flatMap]
  constructor
  · rintro ⟨p, hp, ha⟩
    have := mem_valRegs.mp ha
    refine ⟨p.2, ?_, this.2⟩
    rw [this.1]; exact hp
  · rintro ⟨v, hv, hs⟩
    exact ⟨(a.1, v), hv, mem_valRegs.mpr ⟨rfl, hs⟩⟩

theorem slots_functional {c : Crdt} (hw : c.WF) {f : Nat} {r r' : Lww}
    (h1 : (f, r) ∈ c.slots) (h2 : (f, r') ∈ c.slots) : r = r' := by
  cases c <;> simp only [Crdt.slots] at h1 h2 <;> try (simp at h1; done)
  · simp at h1 h2
    rw [h1.2, h2.2]
  · simp only [Crdt.WF] at hw
    have g1 := NMap.get_of_mem hw h1
    have g2 := NMap.get_of_mem hw h2
    simp only at g1 g2
    rw [g1] at g2
    exact Option.some.inj g2

theorem shardRegs_functional {s : Shard} (hw : s.NodeWF) (hk : NMap.WF s.keys) {a b : Reg3}
    (ha : a ∈ shardRegs s) (hb : b ∈ shardRegs s) (h1 : a.1 = b.1) (h2 : a.2.1 = b.2.1) :
    a.2.2 = b.2.2 := by
  obtain ⟨v, hv, hs⟩ := mem_shardRegs.mp ha
  obtain ⟨v', hv', hs'⟩ := mem_shardRegs.mp hb
  have g1 := NMap.get_of_mem hk hv
  have g2 := NMap.get_of_mem hk hv'
  simp only at g1 g2
  rw [h1, g2] at g1
  have hvv : v' = v := Option.some.inj g1
  subst hvv
  rw [h2] at hs
  exact slots_functional (hw.2 _ hv').1 hs hs'

theorem local_val_regs (s : Shard) (op : LOp) (d : RV) (hw : ∀ p ∈ s.keys, p.2.WF)
    (hd : (Shard.step s op.toOp).2 = some d) :
    ∀ p ∈ d.crdt.slots,
      (∃ old, NMap.get s.keys op.key = some old ∧ p ∈ old.crdt.slots) ∨
        Fresh s.clock (Shard.step s op.toOp).1.clock p.2 := by
  have h := Shard.local_cases s op
  generalize Shard.step s op.toOp = r at h hd
  intro p hp
  cases h with
  | skip => cases hd
  | write k v e =>
    cases hd
    simp only [Shard.recordWrite, Crdt.slots, List.mem_singleton] at hp
    subst hp
    right
    simp [Fresh, Shard.recordWrite, Lww.set]
  | hwrite k fs =>
    cases hd
    simp only [Shard.recordHashWrite, Crdt.slots] at hp
    have hw0 : NMap.WF ((NMap.get s.keys k).getD { RV.new s.rid with crdt := .hash [] }).crdt.hashOf := by
      cases hg : NMap.get s.keys k with
      | none => exact NMap.wf_nil
      | some old => exact Shard.hashOf_wf (hw _ (NMap.mem_of_get hg)).1
    rcases Shard.mem_newer (Shard.tick_fold_newer0 Shard.tick_hashSet fs s.clock _ hw0) p hp with h1 | h1
    · left
      cases hg : NMap.get s.keys k with
      | none => rw [hg] at h1; simp [Crdt.hashOf] at h1
      | some old =>
        rw [hg] at h1
        simp only [Option.getD_some] at h1
        refine ⟨old, hg, ?_⟩
        cases hc : old.crdt <;> rw [hc] at h1 <;> simp only [Crdt.hashOf] at h1 <;>
          first
            | exact absurd h1 List.not_mem_nil
            | (simp only [Crdt.slots]; exact h1)
    · right; exact h1
  | delLww hg hc =>
    cases hd
    simp only [Crdt.slots, List.mem_singleton] at hp
    subst hp
    right
    simp [Fresh, Lww.delete]
  | delHash hg hc =>
    cases hd
    simp only [Shard.delHashValue, Crdt.slots] at hp
    obtain ⟨q, _, rfl⟩ := NMap.mem_mapVal hp
    right
    simp [Fresh, Lww.delete]
  | delOther hg => cases hd; exact Or.inl ⟨_, hg, hp⟩
  | @hdel _ fs _ h hg hc =>
    cases hd
    simp only [Shard.hdelValue, Crdt.slots] at hp
    have hw0 : NMap.WF h := by have := (hw _ (NMap.mem_of_get hg)).1; rw [hc] at this; exact this
    rcases Shard.mem_newer (Shard.tick_fold_newer0 Shard.tick_hashDel fs s.clock _ hw0) p hp with h1 | h1
    · left; exact ⟨_, hg, by rw [hc]; exact h1⟩
    · right; exact h1

/-- after a local step the node's registers are registers it had or registers of the delta it
    issued (`remote_shard_regs` for a delivery) -/
theorem local_shard_sub (s : Shard) (op : LOp) (d : RV) (hd : (Shard.step s op.toOp).2 = some d)
    (hw : NMap.WF (Shard.step s op.toOp).1.keys) :
    ∀ a ∈ shardRegs (Shard.step s op.toOp).1, a ∈ shardRegs s ∨ a ∈ valRegs op.key d := by
  intro a ha
  obtain ⟨v, hv, hs⟩ := mem_shardRegs.mp ha
  have hg := NMap.get_of_mem hw hv
  simp only at hg
  by_cases hk : a.1 = op.key
  · rw [hk, Shard.local_get s op d hd] at hg
    cases hg
    exact Or.inr (mem_valRegs.mpr ⟨hk, hs⟩)
  · rw [Shard.keys_step_other s op a.1 hk] at hg
    exact Or.inl (mem_shardRegs.mpr ⟨v, NMap.mem_of_get hg, hs⟩)

theorem remote_shard_regs (s : Shard) (k : Nat) (d : RV) :
    ∀ a ∈ shardRegs (Shard.applyRemote s k d), a ∈ shardRegs s ∨ a ∈ valRegs k d := by
  intro a ha
  obtain ⟨v, hv, hs⟩ := mem_shardRegs.mp ha
  simp only [Shard.applyRemote] at hv
  rcases NMap.mem_insert hv with h1 | h1
  · have hk1 : a.1 = k := by have := congrArg Prod.fst h1; simpa using this
    have hv1 := congrArg Prod.snd h1
    simp only at hv1
    cases hg : NMap.get s.keys k with
    | none =>
      rw [hg] at hv1
      simp only at hv1
      subst hv1
      exact Or.inr (mem_valRegs.mpr ⟨hk1, hs⟩)
    | some l =>
      rw [hg] at hv1
      simp only at hv1
      subst hv1
      rcases RV.slots_merge _ _ _ hs with h2 | h2
      · left
        exact mem_shardRegs.mpr ⟨l, by rw [hk1]; exact NMap.mem_of_get hg, h2⟩
      · exact Or.inr (mem_valRegs.mpr ⟨hk1, h2⟩)
  · exact Or.inl (mem_shardRegs.mpr ⟨v, h1, hs⟩)

structure NInv (c : Cluster) : Prop where
  rids : ∀ (i : Nat) (s : Shard), c.nodes[i]? = some s → s.rid = i + 1 ∧ s.clock.rid = s.rid
  wf : ∀ s ∈ c.nodes, s.NodeWF ∧ s.Inv
  sent_wf : ∀ m ∈ c.sent, m.val.WF ∧ m.val.Dominated

theorem RInv.ninv {c : Cluster} (h : RInv c) : NInv c := ⟨h.rids, h.wf, h.sent_wf⟩

theorem NInv_init (n : Nat) (causal : Bool) : NInv (init n causal) where
  rids := by intro i s hs; rw [init_nodes_get hs]; exact ⟨rfl, rfl⟩
  wf := by
    intro s hs
    obtain ⟨i, hi⟩ := List.getElem?_of_mem hs
    rw [init_nodes_get hi]
    exact ⟨⟨NMap.wf_nil, fun p hp => by cases hp⟩, Shard.inv_init _ _⟩
  sent_wf := by intro m hm; cases hm

theorem NInv_set {c : Cluster} (h : NInv c) {i : Nat} {s s' : Shard} (hs : c.nodes[i]? = some s)
    (hrid : s'.rid = s.rid ∧ s'.clock.rid = s.clock.rid) (hwf : s'.NodeWF ∧ s'.Inv)
    {sent' : List Msg} (hsent : ∀ m ∈ sent', m.val.WF ∧ m.val.Dominated) (log' : List Absorbed) :
    NInv ⟨c.nodes.set i s', sent', log'⟩ := by
  refine ⟨?_, ?_, hsent⟩
  · intro i' s'' hs'
    rcases getElem?_set_cases hs' with ⟨rfl, rfl⟩ | ⟨_, hs'⟩
    · rw [hrid.1, hrid.2]; exact h.rids _ s hs
    · exact h.rids i' s'' hs'
  · intro s'' hs'
    rcases mem_set hs' with rfl | h1
    · exact hwf
    · exact h.wf s'' h1

theorem NInv_step {c : Cluster} (h : NInv c) (e : Ev) : NInv (c.step e) := by
  cases e with
  | loc i op =>
    rcases step_loc_cases c i op with h' | ⟨s, d, hs, hd, h'⟩ <;> rw [h']
    · exact h
    have ⟨hnwf, hinv⟩ := h.wf s (List.mem_of_getElem? hs)
    have hinv' : (Shard.step s op.toOp).1.Inv := Shard.inv_local s op hinv
    have hnwf' := Shard.nodewf_step s op hnwf
    have hdmem := NMap.mem_of_get (Shard.local_get s op d hd)
    apply NInv_set h hs ⟨Shard.rid_step s op.toOp, (C08.clock_monotone s op.toOp).2⟩ ⟨hnwf', hinv'⟩
    intro m hm
    rcases List.mem_append.mp hm with h1 | h1
    · exact h.sent_wf m h1
    · rw [List.mem_singleton.mp h1]; exact ⟨hnwf'.2 _ hdmem, (hinv'.2 _ hdmem).2⟩
  | deliver j idx =>
    rcases step_deliver_cases c j idx with h' | ⟨s, m, hs, hm, h'⟩ <;> rw [h']
    · exact h
    have ⟨hnwf, hinv⟩ := h.wf s (List.mem_of_getElem? hs)
    have ⟨hmw, hmd⟩ := h.sent_wf m (List.mem_of_getElem? hm)
    exact NInv_set (s' := Shard.applyRemote s m.key m.val) h hs ⟨rfl, by simp [Shard.applyRemote]⟩
      ⟨Shard.nodewf_remote s m.key m.val hnwf hmw, C08.inv_remote s m.key m.val hinv hmd⟩ h.sent_wf _

theorem NInv_restart {c : Cluster} (h : NInv c) (i : Nat) : NInv (c.restart i) := by
  rcases restart_cases c i with h' | ⟨s, hs, h'⟩ <;> rw [h']
  · exact h
  exact NInv_set (s' := Shard.init s.rid s.causal) h hs ⟨rfl, (h.rids i s hs).2.symm⟩
    ⟨⟨NMap.wf_nil, fun p hp => by cases hp⟩, Shard.inv_init _ _⟩ h.sent_wf _

theorem inCluster_set {c : Cluster} {i : Nat} {s' : Shard} {sent' : List Msg} {log' : List Absorbed}
    {a : Reg3} (h : InCluster ⟨c.nodes.set i s', sent', log'⟩ a) :
    a ∈ shardRegs s' ∨ (∃ s ∈ c.nodes, a ∈ shardRegs s) ∨
      a ∈ sent'.flatMap (fun m => valRegs m.key m.val) := by
  rcases h with ⟨s'', hs'', ha⟩ | ha
  · rcases mem_set hs'' with rfl | h1
    · exact Or.inl ha
    · exact Or.inr (Or.inl ⟨s'', h1, ha⟩)
  · exact Or.inr (Or.inr ha)

/-- a node that merges in a value whose registers the cluster already has adds no register -/
theorem inCluster_apply {c : Cluster} {j : Nat} {s : Shard} (hs : c.nodes[j]? = some s)
    {k : Nat} {v : RV} (hvr : ∀ a ∈ valRegs k v, InCluster c a) {log' : List Absorbed}
    {a : Reg3} (ha : InCluster ⟨c.nodes.set j (Shard.applyRemote s k v), c.sent, log'⟩ a) :
    InCluster c a := by
  have hsmem := List.mem_of_getElem? hs
  rcases inCluster_set ha with h1 | h1 | h1
  · rcases remote_shard_regs s k v a h1 with h2 | h2
    · exact Or.inl ⟨s, hsmem, h2⟩
    · exact hvr a h2
  · exact Or.inl h1
  · exact Or.inr h1

theorem inCluster_deliver {c : Cluster} {j idx : Nat} {s : Shard} {m : Msg}
    (hs : c.nodes[j]? = some s) (hm : c.sent[idx]? = some m) {log' : List Absorbed} {a : Reg3}
    (ha : InCluster ⟨c.nodes.set j (Shard.applyRemote s m.key m.val), c.sent, log'⟩ a) :
    InCluster c a :=
  have hmmem := List.mem_of_getElem? hm
  inCluster_apply hs (fun _ h2 => Or.inr (List.mem_flatMap.mpr ⟨m, hmmem, h2⟩)) ha

theorem inCluster_restart {c : Cluster} {i : Nat} {rid : Nat} {causal : Bool} {log' : List Absorbed}
    {a : Reg3} (ha : InCluster ⟨c.nodes.set i (Shard.init rid causal), c.sent, log'⟩ a) :
    InCluster c a := by
  rcases inCluster_set ha with h1 | h1 | h1
  · simp [shardRegs, Shard.init] at h1
  · exact Or.inl h1
  · exact Or.inr h1

/-- a register of the state after a local step was there before, or is a fresh register of the
    delta the step issued -/
theorem inCluster_loc {c : Cluster} (h : NInv c) {i : Nat} {op : LOp} {s : Shard} {d : RV}
    (hs : c.nodes[i]? = some s) (hd : (Shard.step s op.toOp).2 = some d) {log' : List Absorbed}
    {a : Reg3}
    (ha : InCluster ⟨c.nodes.set i (Shard.step s op.toOp).1, c.sent ++ [⟨i, op.key, d⟩], log'⟩ a) :
    InCluster c a ∨ (a ∈ valRegs op.key d ∧ Fresh s.clock (Shard.step s op.toOp).1.clock a.2.2) := by
  have hsmem := List.mem_of_getElem? hs
  have hinv' : (Shard.step s op.toOp).1.Inv :=
    Shard.inv_local s op (h.wf s hsmem).2
  have hval : a ∈ valRegs op.key d → InCluster c a ∨
      (a ∈ valRegs op.key d ∧ Fresh s.clock (Shard.step s op.toOp).1.clock a.2.2) := by
    intro h2
    have h3 := mem_valRegs.mp h2
    rcases local_val_regs s op d (h.wf s hsmem).1.2 hd _ h3.2 with ⟨old, ho, hp⟩ | hf
    · exact Or.inl (Or.inl ⟨s, hsmem, mem_shardRegs.mpr ⟨old, by rw [h3.1]; exact NMap.mem_of_get ho, hp⟩⟩)
    · exact Or.inr ⟨h2, hf⟩
  rcases inCluster_set ha with h1 | h1 | h1
  · rcases local_shard_sub s op d hd hinv'.1 a h1 with h2 | h2
    · exact Or.inl (Or.inl ⟨s, hsmem, h2⟩)
    · exact hval h2
  · exact Or.inl (Or.inl h1)
  · simp only [List.flatMap_append, List.mem_append, List.flatMap_cons, List.flatMap_nil,
      List.append_nil] at h1
    exact h1.elim (fun h1 => Or.inl (Or.inr h1)) hval

/-- same key, slot and stamp ⇒ same register (`RInv.uniq`, `XInv.uniq`) -/
def UniqRegs (c : Cluster) : Prop :=
  ∀ a b, InCluster c a → InCluster c b → a.1 = b.1 → a.2.1 = b.2.1 → a.2.2.ts = b.2.2.ts → a.2.2 = b.2.2

/-- a local step keeps "(key, slot, stamp) names one register", provided no register stamped by the
    acting node lies in its future: a fresh register is stamped by that node, later than its old
    clock, so it can share a stamp only with another fresh one — of the same canonical delta -/
theorem uniq_loc {c : Cluster} (h : NInv c) (huniq : UniqRegs c)
    {i : Nat} {op : LOp} {s : Shard} {d : RV}
    (hs : c.nodes[i]? = some s) (hd : (Shard.step s op.toOp).2 = some d)
    (hown : ∀ a, InCluster c a → a.2.2.ts.rid = s.rid → a.2.2.ts.time ≤ s.clock.time)
    {log' : List Absorbed} :
    UniqRegs ⟨c.nodes.set i (Shard.step s op.toOp).1, c.sent ++ [⟨i, op.key, d⟩], log'⟩ := by
  have hrid := (h.rids i s hs).2
  have hdwf : d.WF := (Shard.nodewf_step s op (h.wf s (List.mem_of_getElem? hs)).1).2 _
    (NMap.mem_of_get (Shard.local_get s op d hd))
  intro a b ha hb hk hsl hts
  rcases inCluster_loc h hs hd ha with ha1 | ⟨ha1, ha2⟩ <;>
    rcases inCluster_loc h hs hd hb with hb1 | ⟨hb1, hb2⟩
  · exact huniq a b ha1 hb1 hk hsl hts
  · exfalso
    have := hown a ha1 (by rw [hts, hb2.1, hrid])
    have h3 := hb2.2.1
    rw [hts] at this; omega
  · exfalso
    have := hown b hb1 (by rw [← hts, ha2.1, hrid])
    have h3 := ha2.2.1
    rw [← hts] at this; omega
  · exact slots_functional hdwf.1 (hsl ▸ (mem_valRegs.mp ha1).2) (mem_valRegs.mp hb1).2

theorem not_inCluster_init {n : Nat} {causal : Bool} {a : Reg3} : ¬ InCluster (init n causal) a := by
  rintro (⟨s, hs, ha⟩ | ha)
  · obtain ⟨i, hi⟩ := List.getElem?_of_mem hs
    rw [init_nodes_get hi] at ha
    simp [shardRegs, Shard.init] at ha
  · simp [sentRegs, init] at ha

theorem RInv_init (n : Nat) (causal : Bool) : RInv (init n causal) where
  uniq := fun _ _ ha => absurd ha not_inCluster_init
  own := fun _ _ _ _ ha => absurd ha not_inCluster_init
  rids := (NInv_init n causal).rids
  wf := (NInv_init n causal).wf
  sent_wf := (NInv_init n causal).sent_wf

/-- applying ANY canonical dominated value whose registers are registers of the cluster keeps
    `RInv`: a delivered delta, a state transfer (`Lemmas/ClusterAE.lean`) -/
theorem RInv_apply {c : Cluster} (h : RInv c) {j : Nat} {s : Shard} (hs : c.nodes[j]? = some s)
    (k : Nat) (v : RV) (hvw : v.WF) (hvd : v.Dominated) (hvr : ∀ a ∈ valRegs k v, InCluster c a)
    (log' : List Absorbed) : RInv ⟨c.nodes.set j (Shard.applyRemote s k v), c.sent, log'⟩ := by
  have ⟨hnwf, hinv⟩ := h.wf s (List.mem_of_getElem? hs)
  have hn := NInv_set (s' := Shard.applyRemote s k v) h.ninv hs ⟨rfl, by simp [Shard.applyRemote]⟩
    ⟨Shard.nodewf_remote s k v hnwf hvw, C08.inv_remote s k v hinv hvd⟩ h.sent_wf log'
  refine ⟨fun a b ha hb => h.uniq a b (inCluster_apply hs hvr ha) (inCluster_apply hs hvr hb),
    ?_, hn.rids, hn.wf, hn.sent_wf⟩
  intro i s' hs' a ha hrid
  have ha' := inCluster_apply hs hvr ha
  rcases getElem?_set_cases hs' with ⟨rfl, rfl⟩ | ⟨_, hs'⟩
  · have := h.own _ s hs a ha' hrid
    simp only [Shard.applyRemote, Stamp.update_time]
    have := Nat.le_max_left s.clock.time v.ts.time
    omega
  · exact h.own i s' hs' a ha' hrid

theorem RInv_step_deliver {c : Cluster} (h : RInv c) (j idx : Nat) :
    RInv (c.step (.deliver j idx)) := by
  rcases step_deliver_cases c j idx with h' | ⟨s, m, hs, hm, h'⟩ <;> rw [h']
  · exact h
  have hmmem := List.mem_of_getElem? hm
  exact RInv_apply h hs m.key m.val (h.sent_wf m hmmem).1 (h.sent_wf m hmmem).2
    (fun _ h2 => Or.inr (List.mem_flatMap.mpr ⟨m, hmmem, h2⟩)) _

theorem RInv_step_loc {c : Cluster} (h : RInv c) (i : Nat) (op : LOp) :
    RInv (c.step (.loc i op)) := by
  have hn := NInv_step h.ninv (.loc i op)
  rcases step_loc_cases c i op with h' | ⟨s, d, hs, hd, h'⟩
  · rw [h']; exact h
  rw [h'] at hn ⊢
  have hrid := h.rids i s hs
  refine ⟨uniq_loc h.ninv h.uniq hs hd (h.own i s hs), ?_, hn.rids, hn.wf, hn.sent_wf⟩
  intro i' s' hs' a ha hridA
  rcases inCluster_loc h.ninv hs hd ha with h1 | ⟨_, h2⟩ <;>
    rcases getElem?_set_cases hs' with ⟨rfl, rfl⟩ | ⟨hii, hs'⟩
  · have := h.own _ s hs a h1 (by rw [hridA, Shard.rid_step])
    have := (C08.clock_monotone s op.toOp).1
    omega
  · exact h.own i' s' hs' a h1 hridA
  · exact h2.2.2
  · -- a fresh register is stamped by the acting node, not by `i'`
    exfalso
    have r1 := (h.rids i' s' hs').1
    have : a.2.2.ts.rid = i + 1 := by rw [h2.1, hrid.2, hrid.1]
    rw [hridA, r1] at this
    omega

theorem RInv_run (c : Cluster) (evs : List Ev) (h : RInv c) : RInv (c.run evs) :=
  TraceInv.run_inv step RInv (fun _ e h => by
    cases e with
    | loc i op => exact RInv_step_loc h i op
    | deliver j idx => exact RInv_step_deliver h j idx) c h evs

/-- what `Compat` asks of the registers of the deltas of one key -/
theorem UniqRegs.consistent {c : Cluster} (h : UniqRegs c) (k : Nat) :
    RegsConsistent (regsOf c.sent k) := by
  intro p hp q hq hsl hts
  simp only [regsOf, List.mem_flatMap, List.mem_filter, decide_eq_true_eq] at hp hq
  obtain ⟨m1, ⟨hm1, hk1⟩, hs1⟩ := hp
  obtain ⟨m2, ⟨hm2, hk2⟩, hs2⟩ := hq
  have hin : ∀ (m : Msg) (x : Nat × Lww), m ∈ c.sent → m.key = k →
      x ∈ m.val.crdt.slots → InCluster c (k, x.1, x.2) :=
    fun m x hm hk hx => Or.inr (List.mem_flatMap.mpr ⟨m, hm, mem_valRegs.mpr ⟨hk.symm, hx⟩⟩)
  exact h (k, p.1, p.2) (k, q.1, q.2) (hin m1 p hm1 hk1 hs1) (hin m2 q hm2 hk2 hs2) rfl hsl hts

/-- **a (key, slot, stamp) triple identifies one register** in every reachable cluster: the
    `RegsConsistent` half of `Compat` holds of every execution -/
theorem regs_consistent_of_run (n : Nat) (causal : Bool) (evs : List Ev) (k : Nat) :
    RegsConsistent (regsOf ((init n causal).run evs).sent k) :=
  UniqRegs.consistent (RInv_run _ evs (RInv_init n causal)).uniq k

theorem sent_wf_of_run (n : Nat) (causal : Bool) (evs : List Ev) :
    ∀ m ∈ ((init n causal).run evs).sent, m.val.WF :=
  fun m hm => ((RInv_run _ evs (RInv_init n causal)).sent_wf m hm).1

end Cluster
end RedisVerif
