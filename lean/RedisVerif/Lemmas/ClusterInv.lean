import RedisVerif.Lemmas.LocalOp
import RedisVerif.Props.C08
import RedisVerif.Lemmas.TraceInv
import RedisVerif.Lemmas.ListFacts

/-!
The cluster invariant behind C06: every node's (stripped) value for a key is the merge-fold of
the deltas that node has absorbed for that key, in absorption order.
-/
namespace RedisVerif

/-- a local operation has no precondition (`OpOk`): clock domination survives it -/
theorem Shard.inv_local (s : Shard) (op : LOp) (h : s.Inv) : (Shard.step s op.toOp).1.Inv :=
  C08.inv_step s op.toOp h (by cases op <;> trivial)

namespace Cluster

theorem mem_set {α : Type} {l : List α} {i : Nat} {x y : α} (h : y ∈ l.set i x) :
    y = x ∨ y ∈ l := (List.mem_or_eq_of_mem_set h).symm

/-! ### the shapes of one step

A step leaves the cluster alone (unknown node or message; a local operation that emits nothing
changes nothing, `Shard.local_none`), or one node stores and issues a delta, or one node absorbs
an issued delta.  Every invariant below starts from these. -/

theorem step_loc_cases (c : Cluster) (i : Nat) (op : LOp) :
    c.step (.loc i op) = c ∨
    ∃ s d, c.nodes[i]? = some s ∧ (Shard.step s op.toOp).2 = some d ∧
      c.step (.loc i op) = ⟨c.nodes.set i (Shard.step s op.toOp).1, c.sent ++ [⟨i, op.key, d⟩],
        c.log ++ [⟨i, op.key, d⟩]⟩ := by
  cases hs : c.nodes[i]? with
  | none => left; simp only [step, hs]
  | some s =>
    cases hd : (Shard.step s op.toOp).2 with
    | none => left; simp only [step, hs, hd, Shard.local_none s op hd, list_set_same hs]
    | some d => right; exact ⟨s, d, rfl, hd, by simp only [step, hs, hd]⟩

theorem step_deliver_cases (c : Cluster) (j idx : Nat) :
    c.step (.deliver j idx) = c ∨
    ∃ s m, c.nodes[j]? = some s ∧ c.sent[idx]? = some m ∧
      c.step (.deliver j idx) = ⟨c.nodes.set j (Shard.applyRemote s m.key m.val), c.sent,
        c.log ++ [⟨j, m.key, m.val⟩]⟩ := by
  cases hs : c.nodes[j]? with
  | none => left; simp only [step, hs]
  | some s =>
    cases hm : c.sent[idx]? with
    | none => left; simp only [step, hs, hm]
    | some m => right; exact ⟨s, m, rfl, rfl, by simp only [step, hs, hm]⟩

theorem restart_cases (c : Cluster) (i : Nat) :
    c.restart i = c ∨
    ∃ s, c.nodes[i]? = some s ∧
      c.restart i = ⟨c.nodes.set i (Shard.init s.rid s.causal), c.sent, c.log.filter (fun a => a.node ≠ i)⟩ := by
  cases hs : c.nodes[i]? with
  | none => left; simp only [restart, hs]
  | some s => right; exact ⟨s, rfl, by simp only [restart, hs]⟩

/-- the deltas for key `k` that node `i` has absorbed (created or received), oldest first -/
def absorbed (c : Cluster) (i k : Nat) : List RV :=
  c.log.filterMap (fun a => if a.node = i ∧ a.key = k then some a.val.strip else none)

/-- merge-fold of a list, `none` for the empty list -/
def foldOpt : List RV → Option RV
  | [] => none
  | a :: l => some (l.foldl RV.merge a)

theorem foldOpt_append (l : List RV) (x : RV) :
    foldOpt (l ++ [x]) = some (match foldOpt l with | none => x | some a => RV.merge a x) := by
  cases l with
  | nil => rfl
  | cons a l => simp [foldOpt, List.foldl_append]

/-- all registers occurring in messages for key `k` -/
def regsOf (U : List Msg) (k : Nat) : List (Nat × Lww) :=
  (U.filter (fun m => m.key = k)).flatMap (fun m => m.val.crdt.slots)

/-- compatibility of the messages for key `k` (decidable): canonical form, one CRDT kind `K`,
    and equal (slot, stamp) ⇒ equal register -/
def Compat (U : List Msg) (k K : Nat) : Prop :=
  RegsConsistent (regsOf U k) ∧ ∀ m ∈ U, m.key = k → m.val.WF ∧ m.val.crdt.kind = K

instance (U : List Msg) (k K : Nat) : Decidable (Compat U k K) := by
  unfold Compat; infer_instance

theorem compat_carrier {U : List Msg} {k K : Nat} (h : Compat U k K) {m : Msg} (hm : m ∈ U)
    (hk : m.key = k) : InCarrier K (regsOf U k) m.val := by
  have := h.2 m hm hk
  refine ⟨this.1, this.2, ?_⟩
  intro p hp
  simp only [regsOf, List.mem_flatMap, List.mem_filter, decide_eq_true_eq]
  exact ⟨m, ⟨hm, hk⟩, hp⟩

/-- the cluster invariant for key `k` against a universe `U` of messages (`K`, the kind of the
    key, occurs only in `Compat U k K`, which the users carry beside it) -/
structure J (U : List Msg) (k K : Nat) (c : Cluster) : Prop where
  /-- every node: clock domination (`Inv` by time, `Inv2` in the stamp order), canonical form,
      own replica id -/
  nodes_inv : ∀ s ∈ c.nodes, s.Inv ∧ s.Inv2 ∧ s.NodeWF ∧ s.clock.rid = s.rid
  /-- every delta issued is dominated and canonical -/
  sent_ok : ∀ m ∈ c.sent, m.val.Dominated ∧ m.val.WF
  /-- what a node holds for `k`, stripped, is the merge-fold of what it has absorbed for `k` -/
  value : ∀ i s, c.nodes[i]? = some s →
    (NMap.get s.keys k).map RV.strip = foldOpt (absorbed c i k)
  /-- only issued deltas are absorbed -/
  log_sent : ∀ a ∈ c.log, ∃ m ∈ c.sent, m.key = a.key ∧ m.val = a.val
  /-- every issued delta lies in `U` -/
  sub : ∀ m ∈ c.sent, m ∈ U

theorem absorbed_append_list (c : Cluster) (nodes' : List Shard) (sent' : List Msg) (j k' : Nat) (vs : List RV)
    (i k : Nat) :
    (Cluster.mk nodes' sent' (c.log ++ vs.map (fun v => ⟨j, k', v⟩))).absorbed i k =
      if j = i ∧ k' = k then c.absorbed i k ++ vs.map RV.strip else c.absorbed i k := by
  simp only [absorbed, List.filterMap_append, List.filterMap_map]
  by_cases hc : j = i ∧ k' = k
  · have : ((fun a : Absorbed => if a.node = i ∧ a.key = k then some a.val.strip else none) ∘
        fun v => (⟨j, k', v⟩ : Absorbed)) = some ∘ RV.strip := funext fun v => if_pos hc
    rw [if_pos hc, this, List.filterMap_eq_map]
  · have : ((fun a : Absorbed => if a.node = i ∧ a.key = k then some a.val.strip else none) ∘
        fun v => (⟨j, k', v⟩ : Absorbed)) = fun _ => none := funext fun v => if_neg hc
    rw [if_neg hc, this, List.filterMap_eq_nil_iff.mpr fun _ _ => rfl, List.append_nil]

theorem absorbed_snoc (c : Cluster) (nodes' : List Shard) (sent' : List Msg) (j k' : Nat) (v : RV)
    (i k : Nat) :
    (Cluster.mk nodes' sent' (c.log ++ [⟨j, k', v⟩])).absorbed i k =
      if j = i ∧ k' = k then c.absorbed i k ++ [v.strip] else c.absorbed i k :=
  absorbed_append_list c nodes' sent' j k' [v] i k

theorem mem_absorbed {c : Cluster} {i k : Nat} {v : RV} :
    v ∈ c.absorbed i k ↔ ∃ a ∈ c.log, a.node = i ∧ a.key = k ∧ a.val.strip = v := by
  simp only [absorbed, List.mem_filterMap]
  constructor
  · rintro ⟨a, ha, hav⟩
    split at hav
    · rename_i hcond; exact ⟨a, ha, hcond.1, hcond.2, Option.some.inj hav⟩
    · cases hav
  · rintro ⟨a, ha, h1, h2, h3⟩
    exact ⟨a, ha, by rw [if_pos ⟨h1, h2⟩, h3]⟩

theorem J.absorbed_sent {U : List Msg} {k K : Nat} {c : Cluster} (hj : J U k K c) {i : Nat} {v : RV}
    (hv : v ∈ c.absorbed i k) : ∃ m ∈ c.sent, m.key = k ∧ m.val.strip = v := by
  obtain ⟨a, ha, _, hk, hav⟩ := mem_absorbed.mp hv
  obtain ⟨m, hm, hmk, hmv⟩ := hj.log_sent a ha
  exact ⟨m, hm, hmk.trans hk, by rw [hmv, hav]⟩

theorem absorbed_in_carrier {U : List Msg} {k K : Nat} {c : Cluster} (hc : Compat U k K)
    (hj : J U k K c) (i : Nat) : ∀ v ∈ c.absorbed i k, InCarrier K (regsOf U k) v := by
  intro v hv
  obtain ⟨m, hm, hmk, rfl⟩ := hj.absorbed_sent hv
  exact strip_carrier (compat_carrier hc (hj.sub m hm) hmk)

/-- `foldOpt` is `FoldACI.fold1 RV.merge`; its facts are the `fold1` facts -/
theorem foldOpt_eq_fold1 (l : List RV) : foldOpt l = FoldACI.fold1 RV.merge l := by cases l <;> rfl

theorem foldOpt_carrier {K : Nat} {R : List (Nat × Lww)} (hR : RegsConsistent R) {l : List RV}
    (hl : ∀ a ∈ l, InCarrier K R a) {v : RV} (h : foldOpt l = some v) : InCarrier K R v :=
  (aci_rv K R hR).fold1_closed hl (foldOpt_eq_fold1 l ▸ h)

theorem foldOpt_eq_of_aci {P : RV → Prop} (h : ACI RV.merge P) {l l' : List RV}
    (hl : ∀ a ∈ l, P a) (hs : ∀ a, a ∈ l ↔ a ∈ l') : foldOpt l = foldOpt l' := by
  rw [foldOpt_eq_fold1, foldOpt_eq_fold1]
  exact h.fold1_eq_of_same_set hl hs

theorem foldOpt_upper {P : RV → Prop} (h : ACI RV.merge P) {l : List RV} (hl : ∀ a ∈ l, P a)
    {x v : RV} (hx : x ∈ l) (hv : foldOpt l = some v) : ACI.le RV.merge x v := by
  obtain ⟨v', hv', hle⟩ := h.le_fold1 hl hx
  rw [← foldOpt_eq_fold1, hv] at hv'
  cases hv'
  exact hle

/-! ### agreement

Node `j` *has* key `k` when its log holds every delta issued for `k`; two nodes that have the key
hold the same stripped value, and for an LWW key it is the write with the greatest stamp.  How
"has" is known — `Delivered`, `DeliveredTo`, `DeliveredAll`, an anti-entropy transfer — is the
caller's business. -/

def HasAll (c : Cluster) (j k : Nat) : Prop :=
  ∀ m ∈ c.sent, m.key = k → (⟨j, k, m.val⟩ : Absorbed) ∈ c.log

theorem J.absorbed_of_hasAll {U : List Msg} {k K : Nat} {c : Cluster} (hj : J U k K c) {i j : Nat}
    (hall : HasAll c j k) : ∀ v ∈ c.absorbed i k, v ∈ c.absorbed j k := by
  intro v hv
  obtain ⟨m, hm, hmk, hmv⟩ := hj.absorbed_sent hv
  exact mem_absorbed.mpr ⟨_, hall m hm hmk, rfl, rfl, hmv⟩

theorem J.value_eq_of_aci {U : List Msg} {k K : Nat} {c : Cluster} (hj : J U k K c) {P : RV → Prop}
    (h : ACI RV.merge P) (hP : ∀ i, ∀ v ∈ c.absorbed i k, P v) {i j : Nat} {si sj : Shard}
    (hsi : c.nodes[i]? = some si) (hsj : c.nodes[j]? = some sj) (hi : HasAll c i k) (hjj : HasAll c j k) :
    (NMap.get si.keys k).map RV.strip = (NMap.get sj.keys k).map RV.strip := by
  rw [hj.value i si hsi, hj.value j sj hsj]
  exact foldOpt_eq_of_aci h (hP i)
    (fun v => ⟨hj.absorbed_of_hasAll hjj v, hj.absorbed_of_hasAll hi v⟩)

theorem J.value_eq {U : List Msg} {k K : Nat} {c : Cluster} (hc : Compat U k K) (hj : J U k K c)
    {i j : Nat} {si sj : Shard} (hsi : c.nodes[i]? = some si) (hsj : c.nodes[j]? = some sj)
    (hi : HasAll c i k) (hjj : HasAll c j k) :
    (NMap.get si.keys k).map RV.strip = (NMap.get sj.keys k).map RV.strip :=
  hj.value_eq_of_aci (aci_rv K _ hc.1) (absorbed_in_carrier hc hj) hsi hsj hi hjj

theorem J.winner {k : Nat} {c : Cluster} (hc : Compat c.sent k 0) (hj : J c.sent k 0 c) {i : Nat}
    {si : Shard} (hsi : c.nodes[i]? = some si) (hi : HasAll c i k) {v : RV}
    (hv : NMap.get si.keys k = some v) :
    ∃ r, v.crdt = .lww r ∧ (∃ m ∈ c.sent, m.key = k ∧ m.val.crdt = .lww r) ∧
      ∀ m ∈ c.sent, m.key = k → ∀ r', m.val.crdt = .lww r' → (r'.ts.lt r.ts = true ∨ r' = r) := by
  have hval := hj.value i si hsi
  rw [hv] at hval
  simp only [Option.map_some] at hval
  have hcar := absorbed_in_carrier hc hj i
  have hF : InCarrier 0 (regsOf c.sent k) v.strip := foldOpt_carrier hc.1 hcar hval.symm
  obtain ⟨r, hr⟩ := Shard.kind_lww (c := v.crdt) (by have := hF.2.1; simpa [RV.strip] using this)
  refine ⟨r, hr, ?_, ?_⟩
  · have := hF.2.2 (0, r) (by simp [RV.strip, hr, Crdt.slots])
    simp only [regsOf, List.mem_flatMap, List.mem_filter, decide_eq_true_eq] at this
    obtain ⟨m, ⟨hm, hmk⟩, hslot⟩ := this
    refine ⟨m, hm, hmk, ?_⟩
    obtain ⟨r0, hr0⟩ := Shard.kind_lww (hc.2 m hm hmk).2
    rw [hr0] at hslot ⊢
    simp [Crdt.slots] at hslot
    rw [hslot]
  · intro m hm hmk r' hr'
    -- `m` was absorbed by node `i`, hence lies below the fold
    have hle : ACI.le RV.merge m.val.strip v.strip :=
      foldOpt_upper (aci_rv 0 _ hc.1) hcar (mem_absorbed.mpr ⟨_, hi m hm hmk, rfl, rfl, rfl⟩) hval.symm
    have hcr := congrArg RV.crdt hle
    simp only [RV.merge, RV.mergeWith, RV.strip, hr, hr', Crdt.mergeWithTimestamps,
      Crdt.tryMerge, Crdt.lww.injEq] at hcr
    simp only [Lww.merge] at hcr
    split at hcr
    · left; assumption
    · right; exact hcr

theorem init_nodes_get {n : Nat} {causal : Bool} {i : Nat} {s : Shard}
    (h : (init n causal).nodes[i]? = some s) : s = Shard.init (i + 1) causal := by
  simp only [init, List.getElem?_map, Option.map_eq_some_iff] at h
  obtain ⟨x, hx, rfl⟩ := h
  obtain ⟨_, rfl⟩ := List.getElem?_eq_some_iff.mp hx
  simp

theorem J_init (U : List Msg) (k K n : Nat) (causal : Bool) : J U k K (init n causal) where
  nodes_inv := by
    intro s hs
    obtain ⟨i, hi⟩ := List.getElem?_of_mem hs
    rw [init_nodes_get hi]
    refine ⟨Shard.inv_init _ _, ?_, ⟨NMap.wf_nil, ?_⟩, rfl⟩ <;> (intro p hp; cases hp)
  sent_ok := by intro m hm; cases hm
  value := by
    intro i s hs
    rw [init_nodes_get hs]
    rfl
  log_sent := by intro a ha; cases ha
  sub := by intro m hm; cases hm

/-- the local step, given that the local write absorbs the value it replaces (`Below`); how that
    is known — one CRDT kind per key (`J_step_loc`) or a fresh greater stamp across a type change
    (`Lemmas/TwoDeltas.lean`) — is the caller's business -/
theorem J_step_loc_gen {U : List Msg} {k K : Nat} {c : Cluster} (hj : J U k K c)
    (i : Nat) (op : LOp) (hsub : ∀ m ∈ (c.step (.loc i op)).sent, m ∈ U)
    (hbelow : ∀ s old d, c.nodes[i]? = some s → NMap.get s.keys k = some old → op.key = k →
      (Shard.step s op.toOp).2 = some d → foldOpt (absorbed c i k) = some old.strip →
      Shard.Below old d) :
    J U k K (c.step (.loc i op)) := by
  rcases step_loc_cases c i op with h | ⟨s, d, hs, hd, h⟩
  · rw [h]; exact hj
  rw [h] at hsub ⊢
  have ⟨hinv, hinv2, hnwf, hrid⟩ := hj.nodes_inv s (List.mem_of_getElem? hs)
  have hinv' : (Shard.step s op.toOp).1.Inv :=
    Shard.inv_local s op hinv
  have hnwf' := Shard.nodewf_step s op hnwf
  have hget := Shard.local_get s op d hd
  have hdmem := NMap.mem_of_get hget
  refine ⟨?_, ?_, ?_, ?_, hsub⟩
  · intro s' hs'
    rcases mem_set hs' with rfl | h'
    · exact ⟨hinv', Shard.inv2_step s op hinv hinv2 hrid, hnwf', by
        rw [(C08.clock_monotone s op.toOp).2, Shard.rid_step, hrid]⟩
    · exact hj.nodes_inv _ h'
  · intro m hm
    rcases List.mem_append.mp hm with h' | h'
    · exact hj.sent_ok m h'
    · rw [List.mem_singleton.mp h']
      exact ⟨(hinv'.2 _ hdmem).2, hnwf'.2 _ hdmem⟩
  · intro i' s' hs'
    rw [absorbed_snoc]
    rcases getElem?_set_cases hs' with ⟨rfl, rfl⟩ | ⟨hii, hs'⟩
    · have hval := hj.value _ s hs
      by_cases hkk : op.key = k
      · subst hkk
        rw [if_pos ⟨rfl, rfl⟩, foldOpt_append, hget]
        cases hgo : NMap.get s.keys op.key with
        | none =>
          rw [hgo] at hval
          rw [← hval]; rfl
        | some old =>
          rw [hgo] at hval
          rw [← hval]
          simp only [Option.map_some, Option.some.injEq]
          exact (hbelow s old d hs hgo rfl hd hval.symm).symm
      · rw [if_neg (fun h => hkk h.2), Shard.keys_step_other s op k (Ne.symm hkk)]
        exact hval
    · rw [if_neg (fun h => hii h.1.symm)]
      exact hj.value i' s' hs'
  · intro a ha
    rcases List.mem_append.mp ha with h' | h'
    · obtain ⟨m, hm, h1, h2⟩ := hj.log_sent a h'
      exact ⟨m, List.mem_append_left _ hm, h1, h2⟩
    · rw [List.mem_singleton.mp h']
      exact ⟨⟨i, op.key, d⟩, by simp, rfl, rfl⟩

theorem J_step_loc {U : List Msg} {k K : Nat} {c : Cluster} (hc : Compat U k K) (hj : J U k K c)
    (i : Nat) (op : LOp) (hsub : ∀ m ∈ (c.step (.loc i op)).sent, m ∈ U) :
    J U k K (c.step (.loc i op)) := by
  apply J_step_loc_gen hj i op hsub
  intro s old d hs hgo hkk hd hval
  have ⟨hinv, hinv2, hnwf, _⟩ := hj.nodes_inv s (List.mem_of_getElem? hs)
  have hdU : (⟨i, op.key, d⟩ : Msg) ∈ U := hsub _ (by simp [step, hs, hd])
  have hold_car : InCarrier K (regsOf U k) old.strip :=
    foldOpt_carrier hc.1 (absorbed_in_carrier hc hj i) hval
  have hkind : old.crdt.kind = d.crdt.kind := hold_car.2.1.trans (compat_carrier hc hdU hkk).2.1.symm
  exact Shard.local_below s op old d hinv hinv2 hnwf.2 (by rw [hkk]; exact hgo) hd hkind

/-- node `j` merges into what it holds for `k'` a value `v` that stands for the deltas `carried` (all issued for
    `k'`, with `v` their merge-fold): one issued delta for `deliver`, what the sender had absorbed for a state
    transfer (`Lemmas/ClusterAE.lean`) -/
theorem J_absorb {U : List Msg} {k K : Nat} {c : Cluster} (hj : J U k K c) {j : Nat} {s : Shard}
    (hs : c.nodes[j]? = some s) (k' : Nat) (v : RV) (carried : List RV) (hvd : v.Dominated) (hvw : v.WF)
    (hcar : ∀ w ∈ carried, ∃ m ∈ c.sent, m.key = k' ∧ m.val = w)
    (hfold : k' = k → foldOpt (absorbed c j k ++ carried.map RV.strip)
      = optMerge RV.merge (foldOpt (absorbed c j k)) (some v.strip)) :
    J U k K { c with nodes := c.nodes.set j (Shard.applyRemote s k' v),
                     log := c.log ++ carried.map (fun w => ⟨j, k', w⟩) } := by
  have ⟨hinv, hinv2, hnwf, hrid⟩ := hj.nodes_inv s (List.mem_of_getElem? hs)
  refine ⟨?_, hj.sent_ok, ?_, ?_, hj.sub⟩
  · intro s' hs'
    rcases mem_set hs' with rfl | h
    · exact ⟨C08.inv_remote s k' v hinv hvd, Shard.inv2_remote s k' v hinv,
        Shard.nodewf_remote s k' v hnwf hvw, by simp [Shard.applyRemote, hrid]⟩
    · exact hj.nodes_inv _ h
  · intro i' s' hs'
    rw [absorbed_append_list c _ _ j k' carried i' k]
    rcases getElem?_set_cases hs' with ⟨rfl, rfl⟩ | ⟨hii, hs'⟩
    · have hval := hj.value _ s hs
      simp only [Shard.applyRemote]
      rw [NMap.get_insert]
      by_cases hkk : k' = k
      · subst hkk
        simp only [and_self, if_true, hfold rfl, ← hval]
        cases NMap.get s.keys k' <;> simp [strip_merge, optMerge]
      · simp only [hkk, Ne.symm hkk, and_false, if_false]
        exact hval
    · rw [if_neg (fun h => hii h.1.symm)]
      exact hj.value i' s' hs'
  · intro a ha
    rcases List.mem_append.mp ha with h | h
    · exact hj.log_sent a h
    · obtain ⟨w, hw, rfl⟩ := List.mem_map.mp h
      exact hcar w hw

/-- `deliver` absorbs one issued delta -/
theorem J_step_deliver {U : List Msg} {k K : Nat} {c : Cluster} (hj : J U k K c)
    (j idx : Nat) : J U k K (c.step (.deliver j idx)) := by
  rcases step_deliver_cases c j idx with h | ⟨s, m, hs, hm, h⟩
  · rw [h]; exact hj
  rw [h]
  have hmmem : m ∈ c.sent := List.mem_of_getElem? hm
  exact J_absorb hj hs m.key m.val [m.val] (hj.sent_ok m hmmem).1 (hj.sent_ok m hmmem).2
    (fun w hw => ⟨m, hmmem, rfl, (List.mem_singleton.mp hw).symm⟩)
    (fun _ => by rw [List.map_singleton, foldOpt_append]; cases foldOpt (absorbed c j k) <;> rfl)

theorem J_restart {U : List Msg} {k K : Nat} {c : Cluster} (hj : J U k K c) (i : Nat) :
    J U k K (c.restart i) := by
  rcases restart_cases c i with h | ⟨s, hs, h⟩
  · rw [h]; exact hj
  rw [h]
  refine ⟨?_, hj.sent_ok, ?_, fun a ha => hj.log_sent a (List.mem_filter.mp ha).1, hj.sub⟩
  · intro s' hs'
    rcases mem_set hs' with rfl | h'
    · refine ⟨Shard.inv_init _ _, ?_, ⟨NMap.wf_nil, ?_⟩, rfl⟩ <;> (intro p hp; cases hp)
    · exact hj.nodes_inv _ h'
  · intro i' s' hs'
    rcases getElem?_set_cases hs' with ⟨rfl, rfl⟩ | ⟨hii, hs'⟩
    · -- nothing is left of what the lost state had absorbed
      have : (Cluster.mk (c.nodes.set i' (Shard.init s.rid s.causal)) c.sent
          (c.log.filter (fun a => a.node ≠ i'))).absorbed i' k = [] := by
        simp only [absorbed, List.filterMap_eq_nil_iff, List.mem_filter, decide_eq_true_eq]
        intro a ha
        rw [if_neg (fun h => ha.2 h.1)]
      rw [this]; rfl
    · -- the other nodes keep theirs
      have : ∀ l : List Absorbed, (Cluster.mk (c.nodes.set i (Shard.init s.rid s.causal)) c.sent
          (l.filter (fun a => a.node ≠ i))).absorbed i' k = (Cluster.mk c.nodes c.sent l).absorbed i' k := by
        intro l
        simp only [absorbed]
        induction l with
        | nil => rfl
        | cons a l ih =>
          by_cases ha : a.node = i
          · have hne : ¬ (a.node = i' ∧ a.key = k) := fun h => hii (h.1.symm.trans ha)
            simp only [List.filter_cons, ha, ne_eq, not_true_eq_false, decide_false, Bool.false_eq_true,
              if_false, List.filterMap_cons]
            rw [ih, if_neg (by rw [← ha]; exact hne)]
          · simp only [List.filter_cons, ne_eq, ha, not_false_eq_true, decide_true, if_true,
              List.filterMap_cons, ih]
      rw [this c.log]
      exact hj.value i' s' hs'

theorem sent_mono_step (c : Cluster) (e : Ev) : ∀ m ∈ c.sent, m ∈ (c.step e).sent := by
  intro m hm
  cases e with
  | loc i op =>
    rcases step_loc_cases c i op with h | ⟨_, _, _, _, h⟩ <;> rw [h]
    · exact hm
    · exact List.mem_append_left _ hm
  | deliver j idx =>
    rcases step_deliver_cases c j idx with h | ⟨_, _, _, _, h⟩ <;> rw [h] <;> exact hm

/-- a history without crashes is a history of the model with crashes in which none occurs -/
theorem run_eq_runR (c : Cluster) (evs : List Ev) : c.run evs = c.runR (evs.map .ev) := by
  simp only [run, runR, List.foldl_map, stepR]

theorem sent_mono_runR (c : Cluster) (evs : List REv) : ∀ m ∈ c.sent, m ∈ (c.runR evs).sent := by
  induction evs generalizing c with
  | nil => intro m hm; exact hm
  | cons e evs ih =>
    intro m hm
    apply ih (c.stepR e)
    cases e with
    | ev e => exact sent_mono_step c e m hm
    | restart i => rcases restart_cases c i with h | ⟨_, _, h⟩ <;> simp only [stepR, h] <;> exact hm

theorem sent_mono_run (c : Cluster) (evs : List Ev) : ∀ m ∈ c.sent, m ∈ (c.run evs).sent :=
  run_eq_runR c evs ▸ sent_mono_runR c _

/-- `J` along a history with crashes, given the local step for the operations `ok` admits (`U`
    bounds the deltas of the END state; those of the states on the way are among them) -/
theorem J_runR_of {U : List Msg} {k K : Nat} (ok : LOp → Prop)
    (hloc : ∀ c i op, ok op → J U k K c → (∀ m ∈ (c.step (.loc i op)).sent, m ∈ U) →
      J U k K (c.step (.loc i op)))
    (c : Cluster) (evs : List REv) (hok : ∀ i op, REv.ev (.loc i op) ∈ evs → ok op)
    (hj : J U k K c) (hsub : ∀ m ∈ (c.runR evs).sent, m ∈ U) : J U k K (c.runR evs) := by
  induction evs generalizing c with
  | nil => exact hj
  | cons e evs ih =>
    apply ih (c.stepR e) (fun i op h => hok i op (List.mem_cons_of_mem _ h)) _ hsub
    match e with
    | .ev (.loc i op) =>
      exact hloc c i op (hok i op List.mem_cons_self) hj
        fun m hm => hsub m (sent_mono_runR (c.stepR (.ev (.loc i op))) evs m hm)
    | .ev (.deliver j idx) => exact J_step_deliver hj j idx
    | .restart i => exact J_restart hj i

theorem J_runR {U : List Msg} {k K : Nat} (hc : Compat U k K) (c : Cluster) (evs : List REv)
    (hj : J U k K c) (hsub : ∀ m ∈ (c.runR evs).sent, m ∈ U) : J U k K (c.runR evs) :=
  J_runR_of (fun _ => True) (fun _ i op _ hj => J_step_loc hc hj i op) c evs (fun _ _ _ => trivial) hj hsub

theorem J_run {U : List Msg} {k K : Nat} (hc : Compat U k K) (c : Cluster) (evs : List Ev)
    (hj : J U k K c) (hsub : ∀ m ∈ (c.run evs).sent, m ∈ U) : J U k K (c.run evs) := by
  rw [run_eq_runR] at hsub ⊢
  exact J_runR hc c _ hj hsub

/-- a node has absorbed every delta it issued itself (true of every restart-free execution; a
    node that restarts with an empty state has to get its own deltas back like anybody else's) -/
def SentLog (c : Cluster) : Prop := ∀ m ∈ c.sent, (⟨m.origin, m.key, m.val⟩ : Absorbed) ∈ c.log

theorem sentLog_step {c : Cluster} (h : SentLog c) (e : Ev) : SentLog (c.step e) := by
  cases e with
  | loc i op =>
    rcases step_loc_cases c i op with h' | ⟨_, _, _, _, h'⟩ <;> rw [h']
    · exact h
    · intro m hm
      rcases List.mem_append.mp hm with hm | hm
      · exact List.mem_append_left _ (h m hm)
      · rw [List.mem_singleton.mp hm]; simp
  | deliver j idx =>
    rcases step_deliver_cases c j idx with h' | ⟨_, _, _, _, h'⟩ <;> rw [h']
    · exact h
    · intro m hm; exact List.mem_append_left _ (h m hm)

theorem sentLog_run (c : Cluster) (evs : List Ev) (h : SentLog c) : SentLog (c.run evs) :=
  TraceInv.run_inv step SentLog (fun _ e h => sentLog_step h e) c h evs

theorem sentLog_init (n : Nat) (causal : Bool) : SentLog (init n causal) := by
  intro m hm; cases hm

theorem hasAll_of_others {c : Cluster} (hsl : SentLog c) {j k : Nat}
    (hd : ∀ m ∈ c.sent, m.key = k → j ≠ m.origin → (⟨j, k, m.val⟩ : Absorbed) ∈ c.log) :
    HasAll c j k := by
  intro m hm hk
  by_cases ho : j = m.origin
  · rw [ho, ← hk]; exact hsl m hm
  · exact hd m hm hk ho

end Cluster
end RedisVerif
