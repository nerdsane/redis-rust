import RedisVerif.Model.DataStructs
import RedisVerif.Lemmas.Redis

/-! Lemmas about the transcriptions of `RedisList` and `SDS` (`Model/DataStructs.lean`). -/
namespace RedisVerif.DataStructs
open RedisVerif RedisVerif.Redis

theorem ite_none_some_congr {α : Type} {c c' : Prop} [Decidable c] [Decidable c'] {x y : α}
    (hc : c ↔ c') (hx : ¬ c → x = y) :
    (if c then none else some x) = (if c' then none else some y) := by
  by_cases h : c
  · rw [if_pos h, if_pos (hc.mp h)]
  · rw [if_neg h, if_neg (fun h' => h (hc.mpr h')), hx h]

theorem clampEnd_eq_min (n : Nat) (e : Int) : clampEnd n e = min e ((n : Int) - 1) := by
  unfold clampEnd; omega

/-- the code clamps a start index at `len` as well; the specification leaves it to the emptiness test -/
theorem normStart_eq (n : Nat) (a : Int) : normStart n a = min (normIdx n a) n := by
  unfold normStart normIdx
  by_cases ha : a < 0
  · rw [if_pos ha, if_pos ha]; omega
  · rw [if_neg ha, if_neg ha]

theorem normStop_eq (n : Nat) (b : Int) :
    normStop n b = max (clampEnd n (if b < 0 then b + n else b)) (-1) := by
  rw [clampEnd_eq_min]
  unfold normStop
  by_cases hb : b < 0
  · rw [if_pos hb, if_pos hb]; omega
  · rw [if_neg hb, if_neg hb]; omega

theorem lrangeNorm_eq (n : Nat) (a b : Int) :
    lrangeNorm n a b =
      if normStart n a > normStop n b ∨ normStart n a ≥ n then none
      else some ((normStart n a).toNat, (normStop n b - normStart n a + 1).toNat) := by
  unfold lrangeNorm
  rw [normStart_eq, normStop_eq, clampEnd_eq_min]
  have hs := normIdx_nonneg n a
  generalize normIdx n a = s at hs ⊢
  generalize (if b < 0 then b + (n : Int) else b) = e
  by_cases hsn : s < n
  · rw [Int.min_eq_left (a := s) (Int.le_of_lt hsn)]
    apply ite_none_some_congr
    · omega
    · intro h
      rw [Prod.mk.injEq]
      omega
  · rw [Int.min_eq_right (a := s) (b := n) (by omega), if_pos (Or.inr (by omega)), if_pos (Or.inr (Int.le_refl _))]

theorem rlist_range_refines (l : RList) (a b : Int) :
    l.range a b = slice l (lrangeNorm l.length a b) := by
  rw [lrangeNorm_eq]
  unfold RList.range slice
  split <;> rfl

theorem rlist_trim_refines (l : RList) (a b : Int) :
    l.trim a b = slice l (lrangeNorm l.length a b) := by
  rw [lrangeNorm_eq]
  unfold RList.trim slice
  split
  · rename_i h
    have : l = [] := List.eq_nil_of_length_eq_zero h
    subst this
    split <;> simp
  · split <;> rfl

theorem rlist_get_refines (l : RList) (i : Int) :
    l.get i = match listIdx l.length i with | none => none | some n => l[n]? := by
  unfold RList.get listIdx
  simp only
  by_cases hi : i < 0 <;> simp only [hi, if_true, if_false, Int.add_comm] <;> split <;> simp_all

theorem rlist_set_refines (l : RList) (i : Int) (v : BS) :
    l.set i v = (listIdx l.length i).map (fun n => List.set l n v) := by
  unfold RList.set listIdx
  simp only
  by_cases hi : i < 0 <;> simp only [hi, if_true, if_false, Int.add_comm] <;> split <;> simp_all

theorem zeros_length (n : Nat) : (zeros n).length = n := by simp [zeros]

/-- the one fact about the inline representation: `len` bytes of content, then whatever fills the array -/
theorem Sds.inline_spec {B junk : List Nat} {n : Nat} (hn : B.length = n) (h : (B ++ junk).length = ssoMax) :
    (Sds.inline n (B ++ junk)).Wf ∧ (Sds.inline n (B ++ junk)).asBytes = B :=
  ⟨⟨by rw [List.length_append] at h; omega, h⟩, List.take_left' hn⟩

theorem Sds.new_spec (b : List Nat) : (Sds.new b).Wf ∧ (Sds.new b).asBytes = b := by
  unfold Sds.new
  split
  · exact Sds.inline_spec rfl (by simp only [List.length_append, zeros_length]; omega)
  · exact ⟨trivial, rfl⟩

theorem Sds.len_eq {s : Sds} (h : s.Wf) : s.len = s.asBytes.length := by
  cases s with
  | inline len d => simp only [Sds.Wf] at h; simp [Sds.len, Sds.asBytes]; omega
  | heap d => rfl

theorem Sds.append_spec {s o : Sds} (hs : s.Wf) (ho : o.Wf) :
    (s.append o).Wf ∧ (s.append o).asBytes = s.asBytes ++ o.asBytes := by
  unfold Sds.append
  split
  · cases s with
    | inline len d =>
      rename_i h
      have h' : len + o.len ≤ ssoMax := h
      have hl := Sds.len_eq ho
      have hd : d.length = ssoMax := hs.2
      exact Sds.inline_spec (by simp only [List.length_append, List.length_take]; omega)
        (by simp only [List.length_append, List.length_take, List.length_drop]; omega)
    | heap d => exact ⟨trivial, rfl⟩
  · exact ⟨trivial, rfl⟩

theorem Sds.len_append {s o : Sds} (hs : s.Wf) (ho : o.Wf) : (s.append o).len = s.len + o.len := by
  rw [Sds.len_eq (Sds.append_spec hs ho).1, (Sds.append_spec hs ho).2, List.length_append, ← Sds.len_eq hs,
    ← Sds.len_eq ho]

/-- the representation boundary of `append`: the result is inline exactly when the receiver was
    inline and the total fits in `SSO_MAX_LEN` bytes -/
theorem Sds.isInline_append (s o : Sds) :
    (s.append o).isInline = (s.isInline && decide (s.len + o.len ≤ ssoMax)) := by
  unfold Sds.append
  split <;> cases s <;> simp_all [Sds.isInline]

theorem Sds.isInline_new (b : List Nat) : (Sds.new b).isInline = decide (b.length ≤ ssoMax) := by
  unfold Sds.new; split <;> simp_all [Sds.isInline]

theorem Sds.resize_spec {s : Sds} (hs : s.Wf) (n : Nat) :
    (s.resize n).Wf ∧ (s.resize n).asBytes = s.asBytes ++ zeros (n - s.len) := by
  unfold Sds.resize
  split
  · rename_i h
    exact ⟨hs, by rw [show n - s.len = 0 by omega]; simp [zeros]⟩
  · split
    · cases s with
      | inline len d =>
        obtain ⟨h1, h2⟩ := hs
        simp only [Sds.len] at *
        exact Sds.inline_spec (by simp only [List.length_append, List.length_take, zeros_length]; omega)
          (by simp only [List.length_append, List.length_take, List.length_drop, zeros_length]; omega)
      | heap d => exact ⟨trivial, rfl⟩
    · cases s <;> exact ⟨trivial, rfl⟩

theorem Sds.isInline_resize {s : Sds} (hs : s.Wf) (n : Nat) :
    (s.resize n).isInline = (s.isInline && decide (n ≤ ssoMax)) := by
  unfold Sds.resize
  split
  · cases s with
    | inline len d => simp only [Sds.Wf] at hs; simp only [Sds.len] at *; simp [Sds.isInline]; omega
    | heap d => simp [Sds.isInline]
  · split <;> cases s <;> simp_all [Sds.isInline]

theorem normStart_nonneg (n : Nat) (a : Int) : 0 ≤ normStart n a := by
  unfold normStart; split <;> omega

theorem normStop_lt (n : Nat) (b : Int) : normStop n b < n := by
  unfold normStop; split <;> omega

end RedisVerif.DataStructs
