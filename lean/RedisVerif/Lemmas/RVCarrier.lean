import RedisVerif.Props.C07
import RedisVerif.Lemmas.FoldACI

/-!
  The sets of values on which `RV.merge` is a semilattice operation.

  C07 proves the laws of `RV.merge` under hypotheses on the two or three values at hand
  (`TieConsistent a b`, `SameKind a b c`).  A set of values closed under merge on which those
  hypotheses hold throughout is described by two things: where the LWW registers of its members
  come from (`R`, with their slot: 0 for a plain LWW value, the field code for a hash field) and
  which (outer stamp, kind) pairs its members carry (`S`).  `Within R S` is that set; it is closed
  under merge whatever `R` and `S` are (a merge invents neither a register nor a pair), any two
  members are tie-consistent as soon as a (slot, stamp) identifies one register of `R` and an outer
  stamp identifies one kind in `S` — which is what C08 gives for everything replicas produce — and
  when `S` allows one kind only, merge is ACI on it (`Lemmas/Lub`).  `InCarrier K R` (convergence,
  C06; recovery, C11-C13) and the values a cluster can reach (`Props/C07Reach`) are instances.
-/
namespace RedisVerif

/-- registers with the same slot and the same stamp are the same register (what "a stamp
    identifies one write" gives) -/
def RegsConsistent (R : List (Nat × Lww)) : Prop :=
  ∀ p ∈ R, ∀ q ∈ R, p.1 = q.1 → p.2.ts = q.2.ts → p.2 = q.2

instance (R : List (Nat × Lww)) : Decidable (RegsConsistent R) := by
  unfold RegsConsistent; infer_instance

/-- the carrier -/
def InCarrier (K : Nat) (R : List (Nat × Lww)) (v : RV) : Prop :=
  v.WF ∧ v.crdt.kind = K ∧ ∀ p ∈ v.crdt.slots, p ∈ R

instance (K : Nat) (R : List (Nat × Lww)) (v : RV) : Decidable (InCarrier K R v) := by
  unfold InCarrier; infer_instance

namespace RV

/-- well-formed, registers from `R`, (outer stamp, kind) from `S` -/
def Within (R : Nat × Lww → Prop) (S : Stamp × Nat → Prop) (v : RV) : Prop :=
  v.WF ∧ S (v.ts, v.crdt.kind) ∧ ∀ p ∈ v.crdt.slots, R p

/-- C07's `tieOk` of two values of the same kind, in terms of their registers -/
theorem tieOk_iff_slots {a b : Crdt} (sa sb : Stamp) (hk : a.kind = b.kind) :
    C07.tieOk a b sa sb = true ↔
      ∀ p ∈ a.slots, ∀ q ∈ b.slots, p.1 = q.1 → p.2.ts = q.2.ts → p.2 = q.2 := by
  induction a, b, hk using Crdt.same_kind_cases with
  | lww x y => simp [C07.tieOk_lww, Crdt.slots]
  | hash x y => exact C07.tieOk_hash
  | _ => exact iff_of_true rfl (fun _ hp => nomatch hp)

theorem slots_merge (a b : RV) :
    ∀ p ∈ (merge a b).crdt.slots, p ∈ a.crdt.slots ∨ p ∈ b.crdt.slots :=
  Crdt.slots_mwt a.ts b.ts

/-- … nor a new (outer stamp, kind) pair -/
theorem merge_pair (a b : RV) :
    ((merge a b).ts, (merge a b).crdt.kind) = (a.ts, a.crdt.kind) ∨
    ((merge a b).ts, (merge a b).crdt.kind) = (b.ts, b.crdt.kind) := by
  simp only [merge, mergeWith, stampMerge, Stamp.max]
  by_cases hk : a.crdt.kind = b.crdt.kind
  · -- one kind: the merge keeps it, whichever stamp wins
    rw [Crdt.kind_mwt hk]
    cases a.ts.lt b.ts
    · exact Or.inl rfl
    · exact Or.inr (by simp [hk])
  · rw [Crdt.mwt_of_kind_ne hk]
    cases a.ts.lt b.ts
    · exact Or.inl rfl
    · exact Or.inr rfl

section
variable {R : Nat × Lww → Prop} {S : Stamp × Nat → Prop} {a b : RV}

theorem Within.merge (ha : Within R S a) (hb : Within R S b) : Within R S (merge a b) := by
  refine ⟨C07.rv_merge_wf ha.1 hb.1, ?_, fun p hp => ?_⟩
  · rcases merge_pair a b with h | h
    · rw [h]; exact ha.2.1
    · rw [h]; exact hb.2.1
  · exact (slots_merge a b p hp).elim (ha.2.2 p) (hb.2.2 p)

/-- one kind: a (slot, stamp) identifies one register; two kinds: an outer stamp identifies one
    kind -/
theorem Within.tie (hR : ∀ p q, R p → R q → p.1 = q.1 → p.2.ts = q.2.ts → p.2 = q.2)
    (hS : ∀ p q, S p → S q → p.1 = q.1 → p.2 = q.2) (ha : Within R S a) (hb : Within R S b) :
    C07.TieConsistent a b := by
  unfold C07.TieConsistent
  by_cases hk : a.crdt.kind = b.crdt.kind
  · rw [tieOk_iff_slots a.ts b.ts hk]
    exact fun p hp q hq => hR p q (ha.2.2 p hp) (hb.2.2 q hq)
  · rw [C07.tieOk_of_kind_ne hk, bne_iff_ne]
    exact fun h => hk (hS _ _ ha.2.1 hb.2.1 h)

end

/-- **`RV.merge` is ACI on the values of one kind whose registers come from a consistent set** -/
theorem within_aci {R : Nat × Lww → Prop}
    (hR : ∀ p q, R p → R q → p.1 = q.1 → p.2.ts = q.2.ts → p.2 = q.2) (K : Nat) :
    ACI merge (Within R fun p => p.2 = K) where
  closed := fun _ _ => Within.merge
  comm := fun a b ha hb => C07.rv_merge_comm a b ha.1 hb.1
    (Within.tie hR (fun _ _ hp hq _ => hp.trans hq.symm) ha hb)
  assoc := fun a b c ha hb hc => C07.rv_merge_assoc_partial a b c ha.1 hb.1 hc.1
    ⟨ha.2.1.trans hb.2.1.symm, hb.2.1.trans hc.2.1.symm⟩
  idem := fun a ha => C07.rv_merge_idem a ha.1

end RV

/-- **`RV.merge` is ACI on the carrier** -/
theorem aci_rv (K : Nat) (R : List (Nat × Lww)) (hR : RegsConsistent R) :
    ACI RV.merge (InCarrier K R) :=
  RV.within_aci (R := (· ∈ R)) (fun p q hp hq => hR p hp q hq) K

end RedisVerif
