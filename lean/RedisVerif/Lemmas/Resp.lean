import RedisVerif.Model.Resp

/-
  The RESP decoder model (M6), for every codec of the family (`Codec.Good`).  The four frame parsers
  are read as one header line followed by a body, and the dispatch of `parseD` as one case rule
  (`parseD_cases`).  A property of a single run is an induction over the element loop and one application
  of `parseD_induct`, which goes through depth, dispatch and header line and leaves a refusal, the three
  leaves and the array body; prefix stability and the agreement of the two decoders compare two runs
  and go through `parseD_cases` with a lemma per frame kind.
-/
namespace RedisVerif.Resp

/-- the input is a buffer that exists: below 2^56 bytes (64 PiB; Rust slices hold at most
    `isize::MAX` = 2^63-1 bytes, `max_buffer_size` is 512 MB).  The margin below 2^63 keeps
    `start + len + 2` and `40 · (len / 3)` away from the `usize` / `isize` limits. -/
def Small (bs : Bytes) : Prop := bs.length < 72057594037927936

instance (bs : Bytes) : Decidable (Small bs) := by unfold Small; infer_instance

theorem Small.drop {bs : Bytes} (h : Small bs) (k : Nat) : Small (bs.drop k) := by
  unfold Small at *; simp; omega

theorem Small.of_append {a b : Bytes} (h : Small (a ++ b)) : Small a := by
  unfold Small at *; simp at h; omega

theorem Small.drop_append {a b : Bytes} (h : Small (a ++ b)) (k : Nat) : Small (a.drop k ++ b) := by
  unfold Small at *; simp at h ⊢; omega

theorem findCrlf1_bound : ∀ (bs : Bytes) (p : Nat), findCrlf1 bs = some p → p + 2 ≤ bs.length := by
  intro bs
  induction bs with
  | nil => intro p h; cases h
  | cons b rest ih =>
    intro p h
    rw [findCrlf1] at h
    split at h
    · cases rest <;> simp at h
      simp [← h.2]
    · cases hq : findCrlf1 rest <;> simp [hq] at h
      have := ih _ hq
      simp [← h]; omega

theorem findCrlf1_stable : ∀ (a b : Bytes) (p : Nat), findCrlf1 a = some p → findCrlf1 (a ++ b) = some p := by
  intro a
  induction a with
  | nil => intro b p h; cases h
  | cons x rest ih =>
    intro b p h
    rw [findCrlf1] at h
    rw [List.cons_append, findCrlf1]
    split at h
    · cases rest <;> simp at h
      rw [if_pos ‹_›]; simp [h]
    · cases hq : findCrlf1 rest <;> simp [hq] at h
      rw [if_neg ‹_›, ih b _ hq]; simp [h]

theorem findCrlf1_skip (t : Nat) (rest : Bytes) (ht : t ≠ 13) :
    findCrlf1 (t :: rest) = (findCrlf1 rest).map (· + 1) := by
  rw [findCrlf1]; simp [ht]

theorem findCrlf2_bound : ∀ (bs : Bytes) (p : Nat), findCrlf2 bs = some p → p + 2 ≤ bs.length := by
  intro bs
  fun_induction findCrlf2 bs <;> intro p h
  · cases h
  · cases h
  · cases h; simp
  · rename_i y r _ ih
    cases hq : findCrlf2 (y :: r) <;> simp [hq] at h
    have := ih _ hq
    simp at this ⊢; omega

theorem findCrlf2_stable : ∀ (a b : Bytes) (p : Nat), findCrlf2 a = some p → findCrlf2 (a ++ b) = some p := by
  intro a
  fun_induction findCrlf2 a <;> intro b p h
  · cases h
  · cases h
  · rw [List.cons_append, List.cons_append, findCrlf2, if_pos ‹_›]; exact h
  · rename_i y r _ ih
    cases hq : findCrlf2 (y :: r) <;> simp [hq] at h
    rw [List.cons_append, List.cons_append, findCrlf2, if_neg ‹_›, ← List.cons_append, ih b _ hq]
    simp [h]

theorem findCrlf2_skip (t : Nat) (rest : Bytes) (ht : t ≠ 13) :
    findCrlf2 (t :: rest) = (findCrlf2 rest).map (· + 1) := by
  cases rest with
  | nil => simp [findCrlf2]
  | cons y r => rw [findCrlf2]; simp [ht]

/-! ### from_utf8_lossy never grows a string by more than a factor 3 -/

theorem utf8Lossy_length (bs : Bytes) : (utf8Lossy bs).length ≤ 3 * bs.length := by
  fun_induction utf8Lossy bs <;>
    simp only [List.length_cons, List.length_append, List.length_nil, fffd] at * <;> omega

/-- what the generic theorems need to know about a codec -/
structure Codec.Good (c : Codec) : Prop where
  bound : ∀ (bs : Bytes) (p : Nat), c.findCrlf bs = some p → p + 2 ≤ bs.length
  stable : ∀ (a b : Bytes) (p : Nat), c.findCrlf a = some p → c.findCrlf (a ++ b) = some p
  pos : ∀ (t : Nat) (rest : Bytes) (p : Nat), t ≠ 13 → c.findCrlf (t :: rest) = some p → 1 ≤ p
  strLen : ∀ s : Bytes, (c.str s).length ≤ 3 * s.length
  skip : ∀ (t : Nat) (rest : Bytes), t ≠ 13 → c.findCrlf (t :: rest) = (c.findCrlf rest).map (· + 1)
  noCR : ∀ (s rest : Bytes), 13 ∉ s → c.findCrlf (s ++ 13 :: 10 :: rest) = some s.length

theorem Codec.Good.of_skip {c : Codec}
    (bound : ∀ (bs : Bytes) (p : Nat), c.findCrlf bs = some p → p + 2 ≤ bs.length)
    (stable : ∀ (a b : Bytes) (p : Nat), c.findCrlf a = some p → c.findCrlf (a ++ b) = some p)
    (skip : ∀ (t : Nat) (rest : Bytes), t ≠ 13 → c.findCrlf (t :: rest) = (c.findCrlf rest).map (· + 1))
    (front : ∀ rest : Bytes, c.findCrlf (13 :: 10 :: rest) = some 0)
    (strLen : ∀ s : Bytes, (c.str s).length ≤ 3 * s.length) : c.Good where
  bound := bound
  stable := stable
  strLen := strLen
  skip := skip
  pos := by
    intro t rest p ht h
    rw [skip t rest ht] at h
    cases hq : c.findCrlf rest <;> simp [hq] at h
    omega
  noCR := by
    intro s
    induction s with
    | nil => intro rest _; exact front rest
    | cons x xs ih =>
      intro rest h
      simp only [List.mem_cons, not_or] at h
      rw [List.cons_append, skip x _ (fun e => h.1 e.symm), ih rest h.2]
      rfl

theorem codec1_good : codec1.Good :=
  .of_skip findCrlf2_bound findCrlf2_stable findCrlf2_skip (fun _ => rfl) (fun s => by simp [codec1]; omega)

theorem codec1Pinned_good : codec1Pinned.Good :=
  .of_skip findCrlf1_bound findCrlf1_stable findCrlf1_skip (fun _ => rfl) (fun s => by simp [codec1Pinned]; omega)

theorem codec2Pinned_good : codec2Pinned.Good :=
  .of_skip findCrlf2_bound findCrlf2_stable findCrlf2_skip (fun _ => rfl) utf8Lossy_length

theorem codec2_good : codec2.Good :=
  .of_skip findCrlf2_bound findCrlf2_stable findCrlf2_skip (fun _ => rfl) utf8Lossy_length

/-- the header line every frame kind starts with: `.inr (pos, s)` = its CR LF is at `pos` and `s` are the
    bytes between the type byte and it; `.inl r` = there is no such line and the decoder returns `r` -/
def header (c : Codec) (input : Bytes) : Res ⊕ Nat × Bytes :=
  match c.findCrlf input with
  | none => .inl ⟨.incomplete .noCrlf, []⟩
  | some pos =>
    match field input pos with
    | none => .inl ⟨.crash .sliceOOB, []⟩
    | some s => .inr (pos, s)

/-- the header line of `:`, `$`, `*`: its field read as an `i64` -/
def lenHeader (c : Codec) (input : Bytes) : Res ⊕ Nat × Int :=
  match header c input with
  | .inl r => .inl r
  | .inr (pos, s) =>
    match parseI64 s with
    | none => .inl ⟨.error .badInt, []⟩
    | some n => .inr (pos, n)

/-- `parse_bulk_string` after its header `$n\r\n`, CR LF at `pos` -/
def bulkBody (c : Codec) (input : Bytes) (pos : Nat) (n : Int) : Res :=
  if n = -1 then ⟨.ok .nullBulk (pos + 2), []⟩
  else if c.bulkNegCheck ∧ n < 0 then ⟨.error .badLen, []⟩
  else
    let end_ := (pos + 2 + asUsize n) % W
    if (end_ + 2) % W > input.length then ⟨.incomplete .short, []⟩
    else if pos + 2 > end_ ∨ end_ > input.length then ⟨.crash .sliceOOB, []⟩
    else ⟨.ok (.bulk ((input.take end_).drop (pos + 2))) ((end_ + 2) % W), [end_ - (pos + 2)]⟩

/-- what `parse_array` returns after its element loop, `shift` = length of its header -/
def ElemsOut.toOut (shift : Nat) : ElemsOut → Outcome
  | .ok vs k => .ok (.array vs) (shift + k)
  | .stop o => o

/-- `parse_array` after its header `*n\r\n` of `shift` bytes, `rem` bytes = `rest` following -/
def arrayBody (c : Codec) (mem : Nat) (p : Bytes → Res) (n : Int) (shift rem : Nat) (rest : Bytes) : Res :=
  if n = -1 then ⟨.ok .nullArray shift, []⟩
  else if c.arrayNegCheck ∧ n < 0 then ⟨.error .badLen, []⟩
  else if preReq c n rem > isizeMax then ⟨.crash .capacityOverflow, []⟩
  else if ¬ c.capPrealloc ∧ preReq c n rem ≥ mem ∧ preReq c n rem ≠ 0 then ⟨.crash .allocAbort, [preReq c n rem]⟩
  else ⟨(elems p c.emptyCheck n.toNat rest).1.toOut shift,
        preList (preReq c n rem) ++ (elems p c.emptyCheck n.toNat rest).2⟩

theorem parseLine_eq (c : Codec) (mk : Bytes → Val) (input : Bytes) :
    parseLine c mk input = match header c input with
      | .inl r => r
      | .inr (pos, s) => ⟨.ok (mk (c.str s)) (pos + 2), [(c.str s).length]⟩ := by
  unfold parseLine header
  cases c.findCrlf input with
  | none => rfl
  | some pos => dsimp only; cases field input pos <;> rfl

theorem parseInt_eq (c : Codec) (input : Bytes) :
    parseInt c input = match lenHeader c input with
      | .inl r => r
      | .inr (pos, n) => ⟨.ok (.int n) (pos + 2), []⟩ := by
  unfold parseInt lenHeader header
  cases c.findCrlf input with
  | none => rfl
  | some pos =>
    dsimp only
    cases field input pos with
    | none => rfl
    | some s => dsimp only; cases parseI64 s <;> rfl

theorem parseBulk_eq (c : Codec) (input : Bytes) :
    parseBulk c input = match lenHeader c input with
      | .inl r => r
      | .inr (pos, n) => bulkBody c input pos n := by
  unfold parseBulk lenHeader header
  cases c.findCrlf input with
  | none => rfl
  | some pos =>
    dsimp only
    cases field input pos with
    | none => rfl
    | some s => dsimp only; cases parseI64 s <;> rfl

theorem parseArray_eq (c : Codec) (mem : Nat) (p : Bytes → Res) (input : Bytes) :
    parseArray c mem p input = match lenHeader c input with
      | .inl r => r
      | .inr (pos, n) => arrayBody c mem p n (pos + 2) (input.length - (pos + 2)) (input.drop (pos + 2)) := by
  unfold parseArray lenHeader header
  cases c.findCrlf input with
  | none => rfl
  | some pos =>
    dsimp only
    cases field input pos with
    | none => rfl
    | some s =>
      dsimp only
      cases parseI64 s with
      | none => rfl
      | some n =>
        dsimp only [arrayBody]
        generalize elems p c.emptyCheck n.toNat (input.drop (pos + 2)) = e
        rcases e with ⟨_ | _, _⟩ <;> rfl

theorem header_inl {c : Codec} {input : Bytes} {r : Res} (h : header c input = .inl r) :
    c.findCrlf input = none ∧ r = ⟨.incomplete .noCrlf, []⟩ ∨
    c.findCrlf input = some 0 ∧ r = ⟨.crash .sliceOOB, []⟩ := by
  unfold header field at h
  split at h
  · left; simp_all
  · split at h <;> simp_all

theorem header_inr {c : Codec} {input : Bytes} {pos : Nat} {s : Bytes} (h : header c input = .inr (pos, s)) :
    c.findCrlf input = some pos ∧ 1 ≤ pos ∧ s = (input.take pos).drop 1 := by
  unfold header field at h
  split at h
  · simp at h
  · split at h <;> simp_all <;> omega

/-- a header line that could not be read: no CR LF yet, CR LF at the type byte (the slice `&input[1..0]` panics),
    or text that is not an integer; nothing has been allocated -/
theorem lenHeader_inl {c : Codec} {input : Bytes} {r : Res} (h : lenHeader c input = .inl r) :
    r = ⟨.incomplete .noCrlf, []⟩ ∨ c.findCrlf input = some 0 ∧ r = ⟨.crash .sliceOOB, []⟩ ∨
      r = ⟨.error .badInt, []⟩ := by
  unfold lenHeader at h
  split at h
  · cases h
    rename_i hh
    exact (header_inl hh).imp (·.2) .inl
  · split at h <;> cases h
    exact .inr (.inr rfl)

theorem lenHeader_inr {c : Codec} {input : Bytes} {pos : Nat} {n : Int} (h : lenHeader c input = .inr (pos, n)) :
    ∃ s, header c input = .inr (pos, s) ∧ parseI64 s = some n := by
  unfold lenHeader at h
  split at h
  · simp at h
  · split at h <;> simp_all

theorem lenHeader_inl_not_ok {c : Codec} {input : Bytes} {r : Res} (h : lenHeader c input = .inl r) :
    r.out.isOk = false := by
  rcases lenHeader_inl h with rfl | ⟨_, rfl⟩ | rfl <;> rfl

theorem Codec.Good.header_bound {c : Codec} (hc : c.Good) {input : Bytes} {pos : Nat} {s : Bytes}
    (h : header c input = .inr (pos, s)) : pos + 2 ≤ input.length ∧ s.length + 1 = pos := by
  obtain ⟨hf, h1, rfl⟩ := header_inr h
  have := hc.bound _ _ hf
  simp only [List.length_drop, List.length_take]
  omega

theorem parseI64_range (s : Bytes) (n : Int) (h : parseI64 s = some n) :
    -9223372036854775808 ≤ n ∧ n ≤ 9223372036854775807 := by
  have key : ∀ (o : Option Nat) (B : Nat) (f : Nat → Int),
      (match o with | some n => if n ≤ B then some (f n) else none | none => none) = some n →
      ∃ k, k ≤ B ∧ n = f k := by
    intro o B f h
    cases o with
    | none => cases h
    | some k => by_cases hk : k ≤ B <;> simp [hk] at h; exact ⟨k, hk, h.symm⟩
  unfold parseI64 at h
  split at h
  · cases h
  · split at h
    · split at h
      · cases h
      · obtain ⟨k, hk, rfl⟩ := key _ _ _ h; simp only [Int.ofNat_eq_natCast]; omega
    · split at h
      · split at h
        · cases h
        · obtain ⟨k, hk, rfl⟩ := key _ _ _ h; simp only [Int.ofNat_eq_natCast]; omega
      · obtain ⟨k, hk, rfl⟩ := key _ _ _ h; simp only [Int.ofNat_eq_natCast]; omega

theorem Codec.Good.lenHeader_bound {c : Codec} (hc : c.Good) {input : Bytes} {pos : Nat} {n : Int}
    (h : lenHeader c input = .inr (pos, n)) :
    1 ≤ pos ∧ pos + 2 ≤ input.length ∧ -9223372036854775808 ≤ n ∧ n ≤ 9223372036854775807 := by
  obtain ⟨s, hh, hn⟩ := lenHeader_inr h
  exact ⟨(header_inr hh).2.1, (hc.header_bound hh).1, parseI64_range s n hn⟩

theorem Codec.Good.header_append {c : Codec} (hc : c.Good) (a b : Bytes) :
    header c a = .inl ⟨.incomplete .noCrlf, []⟩ ∨ header c (a ++ b) = header c a := by
  unfold header
  cases hf : c.findCrlf a with
  | none => left; rfl
  | some pos =>
    right
    have := hc.bound a pos hf
    simp only [hc.stable a b pos hf, field, List.take_append_of_le_length (show pos ≤ a.length by omega)]

theorem Codec.Good.lenHeader_append {c : Codec} (hc : c.Good) (a b : Bytes) :
    lenHeader c a = .inl ⟨.incomplete .noCrlf, []⟩ ∨ lenHeader c (a ++ b) = lenHeader c a := by
  unfold lenHeader
  rcases hc.header_append a b with h | h
  · left; rw [h]
  · right; rw [h]

theorem hdr_find (c : Codec) (hc : c.Good) (t : Nat) (s rest : Bytes) (ht : t ≠ 13)
    (h : c.findCrlf (s ++ 13 :: 10 :: rest) = some s.length) :
    c.findCrlf (t :: (s ++ 13 :: 10 :: rest)) = some (s.length + 1) := by
  rw [hc.skip t _ ht, h]; rfl

theorem hdr_field (t : Nat) (s rest : Bytes) :
    field (t :: (s ++ 13 :: 10 :: rest)) (s.length + 1) = some s := by
  unfold field
  simp

theorem Codec.Good.header_line {c : Codec} (hc : c.Good) (t : Nat) (s rest : Bytes) (ht : t ≠ 13) (h13 : 13 ∉ s) :
    header c (t :: (s ++ 13 :: 10 :: rest)) = .inr (s.length + 1, s) := by
  unfold header
  rw [hdr_find c hc t s rest ht (hc.noCR s rest h13)]
  simp only [hdr_field]

theorem Codec.Good.lenHeader_line {c : Codec} (hc : c.Good) (t : Nat) (s rest : Bytes) (ht : t ≠ 13) (h13 : 13 ∉ s)
    (n : Int) (hn : parseI64 s = some n) :
    lenHeader c (t :: (s ++ 13 :: 10 :: rest)) = .inr (s.length + 1, n) := by
  unfold lenHeader
  rw [hc.header_line t s rest ht h13]
  simp only [hn]

theorem parseD_of_plus (c : Codec) (mem d nest : Nat) (rest : Bytes) :
    parseD c mem (d + 1) nest (43 :: rest) = parseLine c .simple (43 :: rest) := rfl

theorem parseD_of_minus (c : Codec) (mem d nest : Nat) (rest : Bytes) :
    parseD c mem (d + 1) nest (45 :: rest) = parseLine c .error (45 :: rest) := rfl

theorem parseD_of_colon (c : Codec) (mem d nest : Nat) (rest : Bytes) :
    parseD c mem (d + 1) nest (58 :: rest) = parseInt c (58 :: rest) := rfl

theorem parseD_of_dollar (c : Codec) (mem d nest : Nat) (rest : Bytes) :
    parseD c mem (d + 1) nest (36 :: rest) = parseBulk c (36 :: rest) := rfl

theorem parseD_of_star {c : Codec} {nest : Nat} (h : tooDeep c nest = false) (mem d : Nat) (rest : Bytes) :
    parseD c mem (d + 1) nest (42 :: rest) = parseArray c mem (parseD c mem d (nest + 1)) (42 :: rest) := by
  rw [parseD]; simp only [h]; rfl

theorem parseD_of_star_deep {c : Codec} {nest : Nat} (h : tooDeep c nest = true) (mem d : Nat) (rest : Bytes) :
    parseD c mem (d + 1) nest (42 :: rest) = ⟨.error .tooDeep, []⟩ := by
  rw [parseD]; simp only [h]; rfl

theorem parseD_of_other (c : Codec) (mem d nest : Nat) {t : Nat} (rest : Bytes)
    (ht : t ≠ 43 ∧ t ≠ 45 ∧ t ≠ 58 ∧ t ≠ 36 ∧ t ≠ 42) :
    parseD c mem (d + 1) nest (t :: rest) = ⟨.error .unknownType, []⟩ := by
  rw [parseD, if_neg ht.1, if_neg ht.2.1, if_neg ht.2.2.1, if_neg ht.2.2.2.1, if_neg ht.2.2.2.2]

theorem parseD_cases {P : Res → Prop} (c : Codec) (mem d nest : Nat) (bs : Bytes)
    (stack : d = 0 → P ⟨.crash .stackOverflow, []⟩)
    (empty : bs = [] → P ⟨.incomplete .empty, []⟩)
    (plus : ∀ rest, bs = 43 :: rest → P (parseLine c .simple bs))
    (minus : ∀ rest, bs = 45 :: rest → P (parseLine c .error bs))
    (colon : ∀ rest, bs = 58 :: rest → P (parseInt c bs))
    (dollar : ∀ rest, bs = 36 :: rest → P (parseBulk c bs))
    (deep : ∀ rest, bs = 42 :: rest → tooDeep c nest = true → P ⟨.error .tooDeep, []⟩)
    (star : ∀ d' rest, d = d' + 1 → bs = 42 :: rest → tooDeep c nest = false →
      P (parseArray c mem (parseD c mem d' (nest + 1)) bs))
    (other : ∀ t rest, bs = t :: rest → t ≠ 43 ∧ t ≠ 45 ∧ t ≠ 58 ∧ t ≠ 36 ∧ t ≠ 42 →
      P ⟨.error .unknownType, []⟩) : P (parseD c mem d nest bs) := by
  cases d with
  | zero => exact stack rfl
  | succ d =>
    cases bs with
    | nil => exact empty rfl
    | cons t rest =>
      by_cases h1 : t = 43
      · subst h1; exact plus rest rfl
      by_cases h2 : t = 45
      · subst h2; exact minus rest rfl
      by_cases h3 : t = 58
      · subst h3; exact colon rest rfl
      by_cases h4 : t = 36
      · subst h4; exact dollar rest rfl
      by_cases h5 : t = 42
      · subst h5
        cases htd : tooDeep c nest with
        | true => rw [parseD_of_star_deep htd]; exact deep rest rfl htd
        | false => rw [parseD_of_star htd]; exact star d rest rfl rfl htd
      rw [parseD_of_other c mem d nest rest ⟨h1, h2, h3, h4, h5⟩]
      exact other t rest rfl ⟨h1, h2, h3, h4, h5⟩

/-- the decoder answers without a value and without having allocated: "more bytes", a protocol error, or — only for
    a line search that finds CR LF at the type byte, which `Codec.Good.pos` excludes — the panic of `&input[1..0]` -/
inductive Refusal (c : Codec) : Outcome → Prop
  | more (i : Inc) : Refusal c (.incomplete i)
  | error (e : Err) : Refusal c (.error e)
  | slice : ¬ c.Good → Refusal c (.crash .sliceOOB)

theorem Refusal.of_lenHeader {c : Codec} {t : Nat} {rest : Bytes} {r : Res} (ht : t ≠ 13)
    (h : lenHeader c (t :: rest) = .inl r) : ∃ o, r = ⟨o, []⟩ ∧ Refusal c o := by
  rcases lenHeader_inl h with rfl | ⟨hf, rfl⟩ | rfl
  · exact ⟨_, rfl, .more _⟩
  · exact ⟨_, rfl, .slice fun hc => absurd (hc.pos t rest 0 ht hf) (by omega)⟩
  · exact ⟨_, rfl, .error _⟩

/-- every result of the decoder: out of stack, a refusal, or what follows a header line that was read -/
theorem parseD_induct (c : Codec) (mem : Nat) {P : Nat → Nat → Bytes → Res → Prop}
    (stack : ∀ nest bs, P 0 nest bs ⟨.crash .stackOverflow, []⟩)
    (refuse : ∀ d nest bs o, Refusal c o → P (d + 1) nest bs ⟨o, []⟩)
    (line : ∀ d nest bs pos s (mk : Bytes → Val), header c bs = .inr (pos, s) →
      P (d + 1) nest bs ⟨.ok (mk (c.str s)) (pos + 2), [(c.str s).length]⟩)
    (int : ∀ d nest bs pos n, lenHeader c bs = .inr (pos, n) → P (d + 1) nest bs ⟨.ok (.int n) (pos + 2), []⟩)
    (bulk : ∀ d nest bs pos n, lenHeader c bs = .inr (pos, n) → P (d + 1) nest bs (bulkBody c bs pos n))
    (array : ∀ d nest bs pos n, lenHeader c bs = .inr (pos, n) → tooDeep c nest = false →
      (∀ s, P d (nest + 1) s (parseD c mem d (nest + 1) s)) →
      P (d + 1) nest bs
        (arrayBody c mem (parseD c mem d (nest + 1)) n (pos + 2) (bs.length - (pos + 2)) (bs.drop (pos + 2)))) :
    ∀ (d nest : Nat) (bs : Bytes), P d nest bs (parseD c mem d nest bs) := by
  intro d
  induction d with
  | zero => exact stack
  | succ d ih =>
    intro nest bs
    have hdr : ∀ {t rest} {r : Res}, bs = t :: rest → t ≠ 13 → lenHeader c bs = .inl r → P (d + 1) nest bs r :=
      fun hb ht h => by
        obtain ⟨o, rfl, ho⟩ := Refusal.of_lenHeader ht (hb ▸ h)
        exact refuse d nest bs o ho
    refine parseD_cases (P := P (d + 1) nest bs) c mem (d + 1) nest bs ?_ ?_ ?_ ?_ ?_ ?_ ?_ ?_ ?_
    · intro h; cases h
    · intro _; exact refuse d nest bs _ (.more _)
    · intro _ hb; rw [parseLine_eq]
      cases h : header c bs with
      | inl r => exact hdr hb (by decide) (by rw [lenHeader, h])
      | inr ps => exact line d nest bs ps.1 ps.2 _ h
    · intro _ hb; rw [parseLine_eq]
      cases h : header c bs with
      | inl r => exact hdr hb (by decide) (by rw [lenHeader, h])
      | inr ps => exact line d nest bs ps.1 ps.2 _ h
    · intro _ hb; rw [parseInt_eq]
      cases h : lenHeader c bs with
      | inl r => exact hdr hb (by decide) h
      | inr ps => exact int d nest bs ps.1 ps.2 h
    · intro _ hb; rw [parseBulk_eq]
      cases h : lenHeader c bs with
      | inl r => exact hdr hb (by decide) h
      | inr ps => exact bulk d nest bs ps.1 ps.2 h
    · intro _ _ _; exact refuse d nest bs _ (.error _)
    · intro d' _ hd hb htd; cases hd; rw [parseArray_eq]
      cases h : lenHeader c bs with
      | inl r => exact hdr hb (by decide) h
      | inr ps => exact array d nest bs ps.1 ps.2 h htd (ih (nest + 1))
    · intro _ _ _ _; exact refuse d nest bs _ (.error _)

def ElemsOut.cons (v : Val) (k : Nat) : ElemsOut → ElemsOut
  | .ok vs k' => .ok (v :: vs) (k + k')
  | .stop o => .stop o

theorem ElemsOut.cons_eq_ok {v : Val} {k : Nat} {e : ElemsOut} {vs : List Val} {k1 : Nat}
    (h : e.cons v k = .ok vs k1) : ∃ vs' k', e = .ok vs' k' ∧ vs = v :: vs' ∧ k1 = k + k' := by
  cases e with
  | ok vs' k' => cases h; exact ⟨vs', k', rfl, rfl, rfl⟩
  | stop o => cases h

theorem elems_succ_empty (p : Bytes → Res) (n : Nat) :
    elems p true (n + 1) [] = (.stop (.incomplete .elems), []) := rfl

theorem elems_succ_stop {p : Bytes → Res} {ec : Bool} {n : Nat} {rest : Bytes}
    (he : ¬ (ec = true ∧ rest = [])) (hp : (p rest).out.isOk = false) :
    elems p ec (n + 1) rest = (.stop (p rest).out, (p rest).allocs) := by
  rw [elems, if_neg he]
  cases h : (p rest).out <;> simp_all [Outcome.isOk]

theorem elems_succ_ok {p : Bytes → Res} {ec : Bool} {n : Nat} {rest : Bytes} {v : Val} {k : Nat}
    (he : ¬ (ec = true ∧ rest = [])) (hp : (p rest).out = .ok v k)
    (hk : ¬ (k > rest.length ∧ n ≠ 0 ∧ ¬ ec = true)) :
    elems p ec (n + 1) rest =
      ((elems p ec n (rest.drop k)).1.cons v k, (p rest).allocs ++ (elems p ec n (rest.drop k)).2) := by
  rw [elems, if_neg he]
  simp only [hp]
  rw [if_neg hk]
  rcases elems p ec n (rest.drop k) with ⟨_ | _, _⟩ <;> rfl

theorem elems_succ_cases (p : Bytes → Res) (ec : Bool) (n : Nat) (rest : Bytes) :
    (ec = true ∧ rest = [] ∧ elems p ec (n + 1) rest = (.stop (.incomplete .elems), [])) ∨
    (¬ (ec = true ∧ rest = []) ∧ (p rest).out.isOk = false ∧
      elems p ec (n + 1) rest = (.stop (p rest).out, (p rest).allocs)) ∨
    (∃ v k, (p rest).out = .ok v k ∧ rest.length < k ∧
      elems p ec (n + 1) rest = (.stop (.crash .sliceOOB), (p rest).allocs)) ∨
    (∃ v k, ¬ (ec = true ∧ rest = []) ∧ (p rest).out = .ok v k ∧ elems p ec (n + 1) rest =
      ((elems p ec n (rest.drop k)).1.cons v k, (p rest).allocs ++ (elems p ec n (rest.drop k)).2)) := by
  by_cases he : ec = true ∧ rest = []
  · left; refine ⟨he.1, he.2, ?_⟩; rw [elems, if_pos he]
  · right
    cases hp : (p rest).out with
    | ok v k =>
      right
      by_cases hk : k > rest.length ∧ n ≠ 0 ∧ ¬ ec = true
      · left; refine ⟨v, k, rfl, hk.1, ?_⟩
        rw [elems, if_neg he]; simp only [hp]; rw [if_pos hk]
      · right; exact ⟨v, k, he, rfl, elems_succ_ok he hp hk⟩
    | _ => left; exact ⟨he, rfl, hp ▸ elems_succ_stop he (by rw [hp]; rfl)⟩

/-- the bytes a result accounts for: those of the frame it decoded, the whole input otherwise -/
def Res.used (r : Res) (bs : Bytes) : Nat :=
  match r.out with
  | .ok _ k => k
  | _ => bs.length

/-- a successful decode consumed at least one byte and no more than there are -/
def ConsumedOK (r : Res) (bs : Bytes) : Prop :=
  ∀ v k, r.out = .ok v k → 1 ≤ k ∧ k ≤ bs.length

theorem bulkBody_ok (c : Codec) (input : Bytes) (pos : Nat) (n : Int) (hb : pos + 2 ≤ input.length)
    (hs : Small input) :
    ConsumedOK (bulkBody c input pos n) input ∧
      (bulkBody c input pos n).allocs.sum ≤ (bulkBody c input pos n).used input := by
  unfold bulkBody
  by_cases h1 : n = -1
  · rw [if_pos h1]; exact ⟨fun v k h => (by cases h; omega), Nat.zero_le _⟩
  rw [if_neg h1]
  by_cases h2 : c.bulkNegCheck = true ∧ n < 0
  · rw [if_pos h2]; exact ⟨fun v k h => (by cases h), Nat.zero_le _⟩
  rw [if_neg h2]
  unfold Small at hs
  generalize asUsize n = m
  dsimp only
  by_cases h3 : ((pos + 2 + m) % W + 2) % W > input.length
  · rw [if_pos h3]; exact ⟨fun v k h => (by cases h), Nat.zero_le _⟩
  rw [if_neg h3]
  by_cases h4 : pos + 2 > (pos + 2 + m) % W ∨ (pos + 2 + m) % W > input.length
  · rw [if_pos h4]; exact ⟨fun v k h => (by cases h), Nat.zero_le _⟩
  rw [if_neg h4]
  unfold W at *
  refine ⟨fun v k h => (by cases h; omega), ?_⟩
  simp only [Res.used, List.sum_cons, List.sum_nil]
  omega

theorem elems_consumed (p : Bytes → Res) (ec : Bool)
    (hp : ∀ rest, Small rest → ConsumedOK (p rest) rest) :
    ∀ (n : Nat) (rest : Bytes), Small rest → ∀ vs k, (elems p ec n rest).1 = .ok vs k →
      k ≤ rest.length ∧ vs.length = n ∧ n ≤ k := by
  intro n
  induction n with
  | zero => intro rest _ vs k h; cases h; simp
  | succ n ih =>
    intro rest hs vs k h
    rcases elems_succ_cases p ec n rest with ⟨_, _, e⟩ | ⟨_, _, e⟩ | ⟨_, _, _, _, e⟩ | ⟨v, k0, _, hv, e⟩ <;>
      rw [e] at h
    · cases h
    · cases h
    · cases h
    · obtain ⟨vs', k', he, rfl, rfl⟩ := ElemsOut.cons_eq_ok h
      have := hp rest hs v k0 hv
      have := ih (rest.drop k0) (hs.drop k0) vs' k' he
      simp only [List.length_drop, List.length_cons] at this ⊢
      omega

theorem ElemsOut.toOut_eq_ok {e : ElemsOut} {shift : Nat} {v : Val} {k : Nat} (h : e.toOut shift = .ok v k)
    (hstop : ∀ o, e = .stop o → o.isOk = false) : ∃ vs k', e = .ok vs k' ∧ v = .array vs ∧ k = shift + k' := by
  cases e with
  | ok vs k' => cases h; exact ⟨vs, k', rfl, rfl, rfl⟩
  | stop o => have := hstop o rfl; cases h; cases this

/-- what stops the element loop: the input is used up (codec 1), an element over-read (codec 2), or an
    element at some offset did not decode -/
theorem elems_stop (p : Bytes → Res) (ec : Bool) : ∀ (n : Nat) (rest : Bytes) (o : Outcome),
    (elems p ec n rest).1 = .stop o →
      o = .incomplete .elems ∨
      (o = .crash .sliceOOB ∧ ∃ j v k, (p (rest.drop j)).out = .ok v k ∧ (rest.drop j).length < k) ∨
      (o.isOk = false ∧ ∃ j, (p (rest.drop j)).out = o) := by
  intro n
  induction n with
  | zero => intro rest o h; cases h
  | succ n ih =>
    intro rest o h
    rcases elems_succ_cases p ec n rest with ⟨_, _, e⟩ | ⟨_, hno, e⟩ | ⟨v, k, hv, hlt, e⟩ | ⟨v, k, _, hv, e⟩ <;>
      rw [e] at h
    · cases h; exact .inl rfl
    · cases h; exact .inr (.inr ⟨hno, 0, rfl⟩)
    · cases h; exact .inr (.inl ⟨rfl, 0, v, k, hv, hlt⟩)
    · cases he : (elems p ec n (rest.drop k)).1 with
      | ok vs k' => rw [he] at h; cases h
      | stop o' =>
        rw [he] at h; cases h
        rcases ih _ _ he with h | ⟨h, j, hj⟩ | ⟨h, j, hj⟩
        · exact .inl h
        · rw [List.drop_drop] at hj; exact .inr (.inl ⟨h, _, hj⟩)
        · rw [List.drop_drop] at hj; exact .inr (.inr ⟨h, _, hj⟩)

theorem elems_stop_not_ok (p : Bytes → Res) (ec : Bool) (n : Nat) (rest : Bytes) (o : Outcome)
    (h : (elems p ec n rest).1 = .stop o) : o.isOk = false := by
  rcases elems_stop p ec n rest o h with rfl | ⟨rfl, _⟩ | ⟨h, _⟩
  · rfl
  · rfl
  · exact h

theorem arrayBody_cases {P : Res → Prop} (c : Codec) (mem : Nat) (p : Bytes → Res) (n : Int) (shift rem : Nat)
    (rest : Bytes)
    (null : n = -1 → P ⟨.ok .nullArray shift, []⟩)
    (neg : c.arrayNegCheck = true → n < 0 → P ⟨.error .badLen, []⟩)
    (overflow : preReq c n rem > isizeMax → P ⟨.crash .capacityOverflow, []⟩)
    (abort : ¬ c.capPrealloc = true → mem ≤ preReq c n rem → preReq c n rem ≠ 0 →
      P ⟨.crash .allocAbort, [preReq c n rem]⟩)
    (loop : n ≠ -1 → ¬ (c.arrayNegCheck = true ∧ n < 0) → preReq c n rem ≤ isizeMax →
      P ⟨(elems p c.emptyCheck n.toNat rest).1.toOut shift,
         preList (preReq c n rem) ++ (elems p c.emptyCheck n.toNat rest).2⟩) :
    P (arrayBody c mem p n shift rem rest) := by
  unfold arrayBody
  by_cases h1 : n = -1
  · rw [if_pos h1]; exact null h1
  rw [if_neg h1]
  by_cases h2 : c.arrayNegCheck = true ∧ n < 0
  · rw [if_pos h2]; exact neg h2.1 h2.2
  rw [if_neg h2]
  by_cases h3 : preReq c n rem > isizeMax
  · rw [if_pos h3]; exact overflow h3
  rw [if_neg h3]
  by_cases h4 : ¬ c.capPrealloc = true ∧ preReq c n rem ≥ mem ∧ preReq c n rem ≠ 0
  · rw [if_pos h4]; exact abort h4.1 h4.2.1 h4.2.2
  rw [if_neg h4]; exact loop h1 h2 (by omega)

theorem parseD_consumed (c : Codec) (hc : c.Good) (mem : Nat) :
    ∀ (d nest : Nat) (bs : Bytes), Small bs → ConsumedOK (parseD c mem d nest bs) bs := by
  refine parseD_induct c mem (P := fun _ _ bs r => Small bs → ConsumedOK r bs) ?_ ?_ ?_ ?_ ?_ ?_
  · intro _ _ _ v k h; cases h
  · intro _ _ _ o ho _ v k h; cases h; cases ho
  · intro _ _ bs pos s mk h _ v k hk; cases hk; have := (hc.header_bound h).1; omega
  · intro _ _ bs pos n h _ v k hk; cases hk; have := (hc.lenHeader_bound h).2.1; omega
  · intro _ _ bs pos n h hs; exact (bulkBody_ok c bs pos n (hc.lenHeader_bound h).2.1 hs).1
  · intro d nest bs pos n h _ ih hs
    have hb := (hc.lenHeader_bound h).2.1
    refine arrayBody_cases (P := fun r => ConsumedOK r bs) c mem _ n (pos + 2) _ _ ?_ ?_ ?_ ?_ ?_
    · intro _ v k hk; cases hk; omega
    · intro _ _ v k hk; cases hk
    · intro _ v k hk; cases hk
    · intro _ _ _ v k hk; cases hk
    · intro _ _ _ v k hk
      obtain ⟨vs, k', he, _, rfl⟩ := ElemsOut.toOut_eq_ok hk (elems_stop_not_ok _ _ _ _)
      have := elems_consumed _ c.emptyCheck ih _ _ (hs.drop (pos + 2)) vs k' he
      simp only [List.length_drop] at this
      omega

/-! ### decided outcomes are stable under extension of the input -/

/-- the decoder did not ask for more bytes -/
def Decided (r : Res) : Prop := r.out.isIncomplete = false

theorem parseLine_stable (c : Codec) (hc : c.Good) (mk : Bytes → Val) (a b : Bytes)
    (hd : Decided (parseLine c mk a)) : parseLine c mk (a ++ b) = parseLine c mk a := by
  rw [parseLine_eq] at hd
  rw [parseLine_eq, parseLine_eq c mk a]
  rcases hc.header_append a b with h | h
  · rw [h] at hd; cases hd
  · rw [h]

theorem parseInt_stable (c : Codec) (hc : c.Good) (a b : Bytes)
    (hd : Decided (parseInt c a)) : parseInt c (a ++ b) = parseInt c a := by
  rw [parseInt_eq] at hd
  rw [parseInt_eq, parseInt_eq c a]
  rcases hc.lenHeader_append a b with h | h
  · rw [h] at hd; cases hd
  · rw [h]

/-- a bulk payload that was complete (or rejected) stays so: `end_ + 2` can only have wrapped past a
    buffer of fewer than 2^56 bytes if `end_` lies beyond the longer buffer too -/
theorem bulkBody_append (c : Codec) (a b : Bytes) (pos : Nat) (n : Int) (hb : pos + 2 ≤ a.length)
    (hs : Small (a ++ b)) (hd : Decided (bulkBody c a pos n)) :
    bulkBody c (a ++ b) pos n = bulkBody c a pos n := by
  unfold Decided bulkBody at hd
  unfold bulkBody
  by_cases h1 : n = -1
  · rw [if_pos h1, if_pos h1]
  rw [if_neg h1] at hd ⊢; rw [if_neg h1]
  by_cases h2 : c.bulkNegCheck = true ∧ n < 0
  · rw [if_pos h2, if_pos h2]
  rw [if_neg h2] at hd ⊢; rw [if_neg h2]
  unfold Small at hs
  simp only [List.length_append] at hs ⊢
  generalize asUsize n = m at hd ⊢
  by_cases h3 : ((pos + 2 + m) % W + 2) % W > a.length
  · rw [if_pos h3] at hd; cases hd
  unfold W at *
  rw [if_neg h3, if_neg (by omega)]
  split
  · rw [if_pos (by omega)]
  · rw [if_neg (by omega), List.take_append_of_le_length (by omega)]

theorem parseBulk_stable (c : Codec) (hc : c.Good) (a b : Bytes) (hs : Small (a ++ b))
    (hd : Decided (parseBulk c a)) : parseBulk c (a ++ b) = parseBulk c a := by
  rw [parseBulk_eq] at hd
  rw [parseBulk_eq, parseBulk_eq c a]
  rcases hc.lenHeader_append a b with h | h
  · rw [h] at hd; cases hd
  · rw [h]
    cases h' : lenHeader c a with
    | inl r => rfl
    | inr ps =>
      rw [h'] at hd
      exact bulkBody_append c a b ps.1 ps.2 (hc.lenHeader_bound h').2.1 hs hd

theorem elems_stable (p : Bytes → Res) (ec : Bool)
    (hc : ∀ rest, Small rest → ConsumedOK (p rest) rest)
    (hst : ∀ a b, Small (a ++ b) → Decided (p a) → (p (a ++ b)).out = (p a).out) (shift : Nat) :
    ∀ (n : Nat) (a b : Bytes), Small (a ++ b) → ((elems p ec n a).1.toOut shift).isIncomplete = false →
      (elems p ec n (a ++ b)).1 = (elems p ec n a).1 := by
  intro n
  induction n with
  | zero => intro a b _ _; rfl
  | succ n ih =>
    intro a b hs hd
    rcases elems_succ_cases p ec n a with ⟨_, _, e⟩ | ⟨he, hno, e⟩ | ⟨v, k, hv, hlt, _⟩ | ⟨v, k, he, hv, e⟩
    · rw [e] at hd; cases hd
    · rw [e] at hd ⊢
      have he' : ¬ (ec = true ∧ a ++ b = []) := fun h => he ⟨h.1, (List.append_eq_nil_iff.1 h.2).1⟩
      have ho := hst a b hs hd
      rw [elems_succ_stop he' (by rw [ho]; exact hno), ho]
    · have := hc a hs.of_append v k hv; omega
    · have hk := hc a hs.of_append v k hv
      have he' : ¬ (ec = true ∧ a ++ b = []) := fun h => he ⟨h.1, (List.append_eq_nil_iff.1 h.2).1⟩
      have ho := hst a b hs (by rw [Decided, hv]; rfl)
      rw [hv] at ho
      rw [e] at hd ⊢
      rw [elems_succ_ok he' ho (by simp only [List.length_append]; omega), List.drop_append_of_le_length hk.2]
      have hd' : ((elems p ec n (a.drop k)).1.toOut shift).isIncomplete = false := by
        cases he1 : (elems p ec n (a.drop k)).1 with
        | ok _ _ => rfl
        | stop o => rw [he1] at hd; exact hd
      rw [ih (a.drop k) b (hs.drop_append k) hd']

theorem preReq_uncapped (c : Codec) (h : ¬ c.capPrealloc = true) (n : Int) (r r' : Nat) :
    preReq c n r = preReq c n r' := by
  unfold preReq; simp [h]

/-- a decoder whose pre-allocations are all capped and which does not cap makes none -/
theorem preReq_not_capped (c : Codec) (h : c.prealloc = true → c.capPrealloc = true) (hn : ¬ c.capPrealloc = true)
    (n : Int) (r : Nat) : preReq c n r = 0 := by
  unfold preReq; rw [if_neg fun hp => hn (h hp)]

/-- a capped pre-allocation: 40 bytes for every 3 bytes that follow -/
theorem preReq_capped_le (c : Codec) (h : c.prealloc = true → c.capPrealloc = true) (n : Int) (r : Nat) :
    preReq c n r ≤ 14 * r := by
  unfold preReq elemSize
  split
  · rw [if_pos (h ‹_›)]
    have : min (asUsize n) (r / 3) ≤ r / 3 := Nat.min_le_right _ _
    omega
  · omega

/-- only `.out`: the pre-allocation is capped by the bytes that are left (`preReq`), so `.allocs` does change
    when the input grows -/
theorem parseArray_stable (c : Codec) (hc : c.Good) (mem : Nat) (p : Bytes → Res)
    (hpc : ∀ rest, Small rest → ConsumedOK (p rest) rest)
    (hst : ∀ a b, Small (a ++ b) → Decided (p a) → (p (a ++ b)).out = (p a).out)
    (a b : Bytes) (hs : Small (a ++ b)) (hd : Decided (parseArray c mem p a)) :
    (parseArray c mem p (a ++ b)).out = (parseArray c mem p a).out := by
  rw [parseArray_eq] at hd
  rw [parseArray_eq, parseArray_eq c mem p a]
  rcases hc.lenHeader_append a b with h | h
  · rw [h] at hd; cases hd
  rw [h]
  cases h' : lenHeader c a with
  | inl r => rfl
  | inr ps =>
    obtain ⟨pos, n⟩ := ps
    rw [h'] at hd
    have hb := (hc.lenHeader_bound h').2.1
    show (arrayBody c mem p n (pos + 2) ((a ++ b).length - (pos + 2)) ((a ++ b).drop (pos + 2))).out =
      (arrayBody c mem p n (pos + 2) (a.length - (pos + 2)) (a.drop (pos + 2))).out
    change Decided (arrayBody c mem p n (pos + 2) (a.length - (pos + 2)) (a.drop (pos + 2))) at hd
    rw [List.drop_append_of_le_length (by omega)]
    -- the pre-allocation test gives the same verdict on the longer input: uncapped it does not
    -- depend on the input, capped it is below `isize::MAX` for every buffer that exists
    have hreq : ∀ r, r ≤ (a ++ b).length → (preReq c n r = preReq c n (a.length - (pos + 2)) ∨
        (c.capPrealloc = true ∧ preReq c n r ≤ isizeMax ∧ preReq c n (a.length - (pos + 2)) ≤ isizeMax)) := by
      intro r hr
      by_cases hcap : c.capPrealloc = true
      · right
        have h1 := preReq_capped_le c (fun _ => hcap) n r
        have h2 := preReq_capped_le c (fun _ => hcap) n (a.length - (pos + 2))
        unfold Small at hs; simp only [List.length_append] at hs hr
        unfold isizeMax; exact ⟨hcap, by omega, by omega⟩
      · left; exact preReq_uncapped c hcap n _ _
    unfold Decided arrayBody at hd
    unfold arrayBody
    by_cases h1 : n = -1
    · rw [if_pos h1, if_pos h1]
    rw [if_neg h1] at hd ⊢; rw [if_neg h1]
    by_cases h2 : c.arrayNegCheck = true ∧ n < 0
    · rw [if_pos h2, if_pos h2]
    rw [if_neg h2] at hd ⊢; rw [if_neg h2]
    have hloop := elems_stable p c.emptyCheck hpc hst (pos + 2) n.toNat (a.drop (pos + 2)) b (hs.drop_append _)
    rcases hreq ((a ++ b).length - (pos + 2)) (by omega) with e | ⟨hcap, e1, e2⟩
    · rw [e]
      split
      · rfl
      · split
        · rfl
        · rw [if_neg ‹_›, if_neg ‹_›] at hd
          rw [hloop hd]
    · rw [if_neg (by omega), if_neg (by simp [hcap])] at hd ⊢
      rw [if_neg (by omega), if_neg (by simp [hcap]), hloop hd]

theorem parseD_stable (c : Codec) (hc : c.Good) (mem : Nat) :
    ∀ (d nest : Nat) (a b : Bytes), Small (a ++ b) → Decided (parseD c mem d nest a) →
      (parseD c mem d nest (a ++ b)).out = (parseD c mem d nest a).out := by
  intro d
  induction d with
  | zero => intro nest a b _ _; rfl
  | succ d ih =>
    intro nest a b hs
    refine parseD_cases (P := fun r => Decided r → (parseD c mem (d + 1) nest (a ++ b)).out = r.out)
      c mem (d + 1) nest a ?_ ?_ ?_ ?_ ?_ ?_ ?_ ?_ ?_
    · intro h; cases h
    · intro _ hd; cases hd
    · intro _ ha hd; rw [← parseLine_stable c hc _ a b hd, ha]; rfl
    · intro _ ha hd; rw [← parseLine_stable c hc _ a b hd, ha]; rfl
    · intro _ ha hd; rw [← parseInt_stable c hc a b hd, ha]; rfl
    · intro _ ha hd; rw [← parseBulk_stable c hc a b hs hd, ha]; rfl
    · intro _ ha htd _; rw [ha, List.cons_append, parseD_of_star_deep htd]
    · intro d' _ hd' ha htd hd
      cases hd'
      rw [← parseArray_stable c hc mem _ (parseD_consumed c hc mem d (nest + 1)) (ih (nest + 1)) a b hs hd, ha,
        List.cons_append, parseD_of_star htd]
    · intro _ _ ha ht _; rw [ha, List.cons_append, parseD_of_other c mem d nest _ ht]

/-! ### no crash: the decoders after the fixes -/

theorem asUsize_nonneg (n : Int) (h0 : 0 ≤ n) (h1 : n ≤ 9223372036854775807) :
    asUsize n = n.toNat := by
  unfold asUsize W
  omega

/-- what the fix commits establish: negative lengths are rejected, a pre-allocation is capped
    by the input, nesting is limited to `m` -/
structure Codec.Fixed (c : Codec) (m : Nat) : Prop where
  bulkNeg : c.bulkNegCheck = true
  arr : c.prealloc = true → c.arrayNegCheck = true ∧ c.capPrealloc = true
  nest : c.maxNest = some m

theorem codec1_fixed : codec1.Fixed maxNesting := ⟨rfl, fun _ => ⟨rfl, rfl⟩, rfl⟩
theorem codec2_fixed : codec2.Fixed maxNesting := ⟨rfl, fun h => by simp [codec2] at h, rfl⟩

theorem lt_of_not_tooDeep {c : Codec} {m nest : Nat} (hm : c.maxNest = some m) (h : tooDeep c nest = false) :
    nest < m := by
  unfold tooDeep at h
  rw [hm] at h
  simpa using h

def NoCrash (r : Res) : Prop := r.out.isCrash = false

theorem bulkBody_no_crash (c : Codec) (hneg : c.bulkNegCheck = true) (bs : Bytes) (pos : Nat) (n : Int)
    (hb : pos + 2 ≤ bs.length) (hr : n ≤ 9223372036854775807) (hs : Small bs) : NoCrash (bulkBody c bs pos n) := by
  unfold bulkBody
  by_cases h1 : n = -1
  · rw [if_pos h1]; rfl
  rw [if_neg h1]
  by_cases h2 : c.bulkNegCheck = true ∧ n < 0
  · rw [if_pos h2]; rfl
  rw [if_neg h2, asUsize_nonneg n (Int.not_lt.1 fun h => h2 ⟨hneg, h⟩) hr]
  unfold Small at hs
  unfold W
  dsimp only
  split
  · rfl
  · rw [if_neg (by omega)]; rfl

theorem elems_no_crash (p : Bytes → Res) (ec : Bool)
    (hpc : ∀ s, Small s → ConsumedOK (p s) s) (hp : ∀ s, Small s → NoCrash (p s)) (shift n : Nat) (rest : Bytes)
    (hs : Small rest) : ((elems p ec n rest).1.toOut shift).isCrash = false := by
  cases he : (elems p ec n rest).1 with
  | ok _ _ => rfl
  | stop o =>
    rcases elems_stop p ec n rest o he with rfl | ⟨_, j, v, k, hv, hlt⟩ | ⟨_, j, rfl⟩
    · rfl
    · have := hpc _ (hs.drop j) v k hv; omega
    · exact hp _ (hs.drop j)

/-- NO PANIC, NO ABORT, NO STACK OVERFLOW: with at least `m + 1` stack frames the repaired decoder
    does not crash on any input -/
theorem parseD_no_crash (c : Codec) (hc : c.Good) (m : Nat) (hfix : c.Fixed m) (mem : Nat) :
    ∀ (d nest : Nat) (bs : Bytes), nest ≤ m → m + 1 ≤ d + nest → Small bs →
      NoCrash (parseD c mem d nest bs) := by
  refine parseD_induct c mem (P := fun d nest bs r => nest ≤ m → m + 1 ≤ d + nest → Small bs → NoCrash r)
    ?_ ?_ ?_ ?_ ?_ ?_
  · intros; omega
  · intro _ _ _ o ho _ _ _
    cases ho with
    | slice h => exact absurd hc h
    | _ => rfl
  · intros; rfl
  · intros; rfl
  · intro _ _ bs pos n h _ _ hs
    obtain ⟨_, hb, _, hr⟩ := hc.lenHeader_bound h
    exact bulkBody_no_crash c hfix.bulkNeg bs pos n hb hr hs
  · intro d nest bs pos n h htd ih hn hd hs
    have := lt_of_not_tooDeep hfix.nest htd
    have hreq := preReq_capped_le c (fun h => (hfix.arr h).2) n (bs.length - (pos + 2))
    refine arrayBody_cases (P := NoCrash) c mem _ n (pos + 2) _ _ ?_ ?_ ?_ ?_ ?_
    · intro _; rfl
    · intro _ _; rfl
    · intro h; unfold Small at hs; unfold isizeMax at h; omega
    · intro hcap _ hne; exact absurd (preReq_not_capped c (fun h => (hfix.arr h).2) hcap n _) hne
    · intro _ _ _
      exact elems_no_crash _ _ (parseD_consumed c hc mem d (nest + 1))
        (fun s hss => ih s (by omega) (by omega) hss) _ _ _ (hs.drop _)

/-! ### the stack: no overflow with `m + 1` frames, whatever the input (no size hypothesis) -/

def NoSO (r : Res) : Prop := r.out ≠ .crash .stackOverflow

theorem bulkBody_noSO (c : Codec) (bs : Bytes) (pos : Nat) (n : Int) : NoSO (bulkBody c bs pos n) := by
  simp only [bulkBody]
  repeat' split
  all_goals intro h; cases h

theorem parseD_noSO (c : Codec) (m : Nat) (hm : c.maxNest = some m) (mem : Nat) :
    ∀ (d nest : Nat) (bs : Bytes), nest ≤ m → m + 1 ≤ d + nest → NoSO (parseD c mem d nest bs) := by
  refine parseD_induct c mem (P := fun d nest _ r => nest ≤ m → m + 1 ≤ d + nest → NoSO r) ?_ ?_ ?_ ?_ ?_ ?_
  · intros; omega
  · intro _ _ _ o ho _ _ e; cases e; cases ho
  · intro _ _ _ _ _ _ _ _ _ e; cases e
  · intro _ _ _ _ _ _ _ _ e; cases e
  · intro _ _ bs pos n _ _ _; exact bulkBody_noSO c bs pos n
  · intro d nest bs pos n _ htd ih hn hd
    have := lt_of_not_tooDeep hm htd
    refine arrayBody_cases (P := NoSO) c mem _ n (pos + 2) _ _ ?_ ?_ ?_ ?_ ?_
    · intro _ h; cases h
    · intro _ _ h; cases h
    · intro _ h; cases h
    · intro _ _ _ h; cases h
    · intro _ _ _ h
      cases he : (elems (parseD c mem d (nest + 1)) c.emptyCheck n.toNat (bs.drop (pos + 2))).1 with
      | ok _ _ => rw [he] at h; cases h
      | stop o =>
        rw [he] at h
        rcases elems_stop _ _ _ _ o he with rfl | ⟨rfl, _⟩ | ⟨_, j, hj⟩
        · cases h
        · cases h
        · exact ih _ (by omega) (by omega) (hj.trans h)

/-- bytes pre-allocated per announced element: 40 for codec 1, 0 for codec 2 -/
def pf (c : Codec) : Nat := if c.prealloc then elemSize else 0

/-- allocation per input byte with `d` stack frames available -/
def K (c : Codec) (d : Nat) : Nat := 3 + pf c * d

theorem pf_le (c : Codec) : pf c ≤ 40 := by unfold pf elemSize; split <;> omega

theorem Res.used_of_not_ok {r : Res} (h : r.out.isOk = false) (bs : Bytes) : r.used bs = bs.length := by
  unfold Res.used; cases hr : r.out <;> simp_all [Outcome.isOk]

theorem Res.used_le {r : Res} {bs : Bytes} (h : ConsumedOK r bs) : r.used bs ≤ bs.length := by
  unfold Res.used
  cases hr : r.out with
  | ok v k => exact (h v k hr).2
  | _ => exact Nat.le_refl _

/-- what the element loop accounts for: the bytes of its elements, the whole input when it stops -/
def ElemsOut.used (e : ElemsOut) (rest : Bytes) : Nat :=
  match e with
  | .ok _ k => k
  | .stop _ => rest.length

theorem elems_alloc (p : Bytes → Res) (ec : Bool) (k : Nat)
    (hpc : ∀ s, Small s → ConsumedOK (p s) s)
    (hpa : ∀ s, Small s → (p s).allocs.sum ≤ k * (p s).used s) :
    ∀ (n : Nat) (rest : Bytes), Small rest →
      (elems p ec n rest).2.sum ≤ k * (elems p ec n rest).1.used rest := by
  intro n
  induction n with
  | zero => intro rest _; exact Nat.zero_le _
  | succ n ih =>
    intro rest hs
    rcases elems_succ_cases p ec n rest with ⟨_, _, e⟩ | ⟨_, hno, e⟩ | ⟨v, k0, hv, hlt, _⟩ | ⟨v, k0, _, hv, e⟩
    · rw [e]; exact Nat.zero_le _
    · rw [e]; have := hpa rest hs; rwa [Res.used_of_not_ok hno] at this
    · have := hpc rest hs v k0 hv; omega
    · rw [e]
      have h0 := hpc rest hs v k0 hv
      have ha := hpa rest hs
      have hu : (p rest).used rest = k0 := by unfold Res.used; rw [hv]
      have := ih (rest.drop k0) (hs.drop k0)
      have hle : k0 + (elems p ec n (rest.drop k0)).1.used (rest.drop k0) ≤
          ((elems p ec n (rest.drop k0)).1.cons v k0).used rest := by
        cases (elems p ec n (rest.drop k0)).1 with
        | ok _ _ => exact Nat.le_refl _
        | stop _ => simp only [ElemsOut.cons, ElemsOut.used, List.length_drop]; omega
      have := Nat.mul_le_mul_left k hle
      rw [hu] at ha
      simp only [List.sum_append]
      rw [Nat.mul_add] at this
      omega

theorem preList_sum (r : Nat) : (preList r).sum = r := by
  unfold preList; split <;> simp_all

theorem asUsize_neg (n : Int) (h0 : n < 0) (h1 : -9223372036854775808 ≤ n) :
    9223372036854775808 ≤ asUsize n := by
  unfold asUsize W
  omega

/-- a codec that caps the pre-allocation also rejects negative lengths (true of all four) -/
def Codec.CapSane (c : Codec) : Prop := c.capPrealloc = true → c.arrayNegCheck = true

/-- on the way to the element loop the pre-allocation is at most `pf c` bytes per announced
    element -/
theorem preReq_le (c : Codec) (hcs : c.CapSane) (n : Int) (rem : Nat)
    (hr : -9223372036854775808 ≤ n ∧ n ≤ 9223372036854775807)
    (h0 : ¬ (c.arrayNegCheck = true ∧ n < 0))
    (h2 : preReq c n rem ≤ isizeMax) : preReq c n rem ≤ pf c * n.toNat := by
  unfold preReq pf at *
  split
  · rename_i hp
    simp only [hp, if_true] at h2
    by_cases hcap : c.capPrealloc = true
    · have hnn : 0 ≤ n := Int.not_lt.1 fun h => h0 ⟨hcs hcap, h⟩
      rw [if_pos hcap, asUsize_nonneg n hnn hr.2, Nat.mul_comm]
      exact Nat.mul_le_mul_left _ (Nat.min_le_left _ _)
    · rw [if_neg hcap] at h2 ⊢
      by_cases hneg : n < 0
      · have := asUsize_neg n hneg hr.1
        unfold isizeMax elemSize at h2
        omega
      · rw [asUsize_nonneg n (by omega) hr.2, Nat.mul_comm]
        exact Nat.le_refl _
  · simp

/-- per-byte allocation constant with `m - nest` array levels still allowed -/
def KN (m nest : Nat) : Nat := 3 + 40 * (m - nest)

/-- ALLOCATION BOUND, any outcome, any input: at most `3 + 40·(m - nest)` bytes per byte accounted for -/
theorem parseD_alloc (c : Codec) (hc : c.Good) (hcs : c.CapSane)
    (hcap : c.prealloc = true → c.capPrealloc = true) (m : Nat) (hm : c.maxNest = some m) (mem : Nat) :
    ∀ (d nest : Nat) (bs : Bytes), nest ≤ m → Small bs →
      (parseD c mem d nest bs).allocs.sum ≤ KN m nest * (parseD c mem d nest bs).used bs := by
  have h3 : ∀ {nest bs} (r : Res), r.allocs.sum ≤ 3 * r.used bs → r.allocs.sum ≤ KN m nest * r.used bs :=
    fun r h => Nat.le_trans h (Nat.mul_le_mul_right _ (by unfold KN; omega))
  refine parseD_induct c mem (P := fun _ nest bs r => nest ≤ m → Small bs → r.allocs.sum ≤ KN m nest * r.used bs)
    ?_ ?_ ?_ ?_ ?_ ?_
  · intros; exact Nat.zero_le _
  · intros; exact Nat.zero_le _
  · intro _ _ bs pos s mk h _ _
    have := (hc.header_bound h).2
    have := hc.strLen s
    exact h3 _ (show (c.str s).length + 0 ≤ 3 * (pos + 2) by omega)
  · intros; exact Nat.zero_le _
  · intro _ _ bs pos n h _ hs
    exact h3 _ (Nat.le_trans (bulkBody_ok c bs pos n (hc.lenHeader_bound h).2.1 hs).2
      (Nat.le_mul_of_pos_left _ (by decide)))
  · intro d nest bs pos n h htd ih hn hs
    have hlt := lt_of_not_tooDeep hm htd
    obtain ⟨_, hb, hr⟩ := hc.lenHeader_bound h
    have hpc := parseD_consumed c hc mem d (nest + 1)
    rw [show KN m nest = KN m (nest + 1) + 40 by unfold KN; omega]
    generalize KN m (nest + 1) = k at ih ⊢
    refine arrayBody_cases (P := fun r => r.allocs.sum ≤ (k + 40) * r.used bs) c mem _ n (pos + 2) _ _ ?_ ?_ ?_ ?_ ?_
    · intro _; exact Nat.zero_le _
    · intro _ _; exact Nat.zero_le _
    · intro _; exact Nat.zero_le _
    · intro hnc _ hne; exact absurd (preReq_not_capped c hcap hnc n _) hne
    · intro _ h0 h2
      have hcons := elems_consumed _ c.emptyCheck hpc n.toNat _ (hs.drop (pos + 2))
      have hal := elems_alloc _ c.emptyCheck k hpc (fun s hss => ih s (by omega) hss) n.toNat _ (hs.drop (pos + 2))
      have hpf := pf_le c
      simp only [List.sum_append, preList_sum]
      cases he : (elems (parseD c mem d (nest + 1)) c.emptyCheck n.toNat (bs.drop (pos + 2))).1 with
      | ok vs k' =>
        -- a complete array: 40 bytes for each of its `n ≤ k'` elements
        have hpre := Nat.le_trans (preReq_le c hcs n _ hr h0 h2)
          (Nat.mul_le_mul hpf (hcons vs k' he).2.2)
        rw [he] at hal
        simp only [ElemsOut.used] at hal
        refine Nat.le_trans ?_ (Nat.mul_le_mul_left (k + 40) (show k' ≤ pos + 2 + k' by omega))
        rw [Nat.add_mul]
        omega
      | stop o =>
        -- otherwise the cap: 40 bytes for every 3 that follow the header
        have hpre := preReq_capped_le c hcap n (bs.length - (pos + 2))
        rw [he] at hal
        rw [Res.used_of_not_ok (elems_stop_not_ok _ _ _ _ o he)]
        simp only [ElemsOut.used, List.length_drop] at hal
        have : k * (bs.length - (pos + 2)) ≤ k * bs.length := Nat.mul_le_mul_left _ (by omega)
        rw [Nat.add_mul]
        omega

theorem parseD_alloc_lenN (c : Codec) (hc : c.Good) (hcs : c.CapSane)
    (hcap : c.prealloc = true → c.capPrealloc = true) (m : Nat) (hm : c.maxNest = some m) (mem : Nat)
    (d nest : Nat) (bs : Bytes) (hn : nest ≤ m) (hs : Small bs) :
    (parseD c mem d nest bs).allocs.sum ≤ KN m nest * bs.length :=
  Nat.le_trans (parseD_alloc c hc hcs hcap m hm mem d nest bs hn hs)
    (Nat.mul_le_mul_left _ (Res.used_le (parseD_consumed c hc mem d nest bs hs)))

/-- a successful decode allocated at most `3 + pf c` bytes per consumed byte, whatever the
    nesting (every value leaves `pf c` bytes of credit for its slot in the parent's vector) -/
def AllocOk2 (c : Codec) (r : Res) : Prop :=
  ∀ v n, r.out = .ok v n → r.allocs.sum + pf c ≤ (3 + pf c) * n

theorem AllocOk2.of_leaf (c : Codec) {r : Res} {bs : Bytes} (h : r.allocs.sum ≤ 3 * r.used bs)
    (hc : ConsumedOK r bs) : AllocOk2 c r := by
  intro v n ho
  have h2 := (hc v n ho).1
  have : pf c * 1 ≤ pf c * n := Nat.mul_le_mul_left _ h2
  simp only [Res.used, ho] at h
  rw [Nat.add_mul]
  omega

theorem elems_allocs_ok2 (c : Codec) (p : Bytes → Res) (ec : Bool)
    (hpa : ∀ s, Small s → AllocOk2 c (p s)) :
    ∀ (n : Nat) (rest : Bytes), Small rest → ∀ vs m, (elems p ec n rest).1 = .ok vs m →
      (elems p ec n rest).2.sum + pf c * n ≤ (3 + pf c) * m := by
  intro n
  induction n with
  | zero => intro rest _ vs m h; cases h; exact Nat.le_refl _
  | succ n ih =>
    intro rest hs vs m h
    rcases elems_succ_cases p ec n rest with ⟨_, _, e⟩ | ⟨_, _, e⟩ | ⟨_, _, _, _, e⟩ | ⟨v, k0, _, hv, e⟩ <;>
      rw [e] at h ⊢
    · cases h
    · cases h
    · cases h
    · obtain ⟨vs', k', he, rfl, rfl⟩ := ElemsOut.cons_eq_ok h
      have ha := hpa rest hs v k0 hv
      have := ih (rest.drop k0) (hs.drop k0) vs' k' he
      simp only [List.sum_append, Nat.mul_add, Nat.mul_one]
      omega

theorem parseD_alloc_ok2 (c : Codec) (hc : c.Good) (hcs : c.CapSane) (mem : Nat) :
    ∀ (d nest : Nat) (bs : Bytes), Small bs → AllocOk2 c (parseD c mem d nest bs) := by
  refine parseD_induct c mem (P := fun _ _ bs r => Small bs → AllocOk2 c r) ?_ ?_ ?_ ?_ ?_ ?_
  · intro _ _ _ v k h; cases h
  · intro _ _ _ o ho _ v k h; cases h; cases ho
  · intro _ _ bs pos s mk h _
    have := hc.header_bound h
    have := hc.strLen s
    exact .of_leaf c (bs := bs) (show _ + 0 ≤ 3 * (pos + 2) by omega) (fun _ _ hk => by cases hk; omega)
  · intro _ _ bs pos n h _
    have := hc.lenHeader_bound h
    exact .of_leaf c (bs := bs) (Nat.zero_le _) (fun _ _ hk => by cases hk; omega)
  · intro _ _ bs pos n h hs
    have := bulkBody_ok c bs pos n (hc.lenHeader_bound h).2.1 hs
    exact .of_leaf c (Nat.le_trans this.2 (Nat.le_mul_of_pos_left _ (by decide))) this.1
  · intro d nest bs pos n h _ ih hs
    obtain ⟨_, hb, hr⟩ := hc.lenHeader_bound h
    refine arrayBody_cases (P := AllocOk2 c) c mem _ n (pos + 2) _ _ ?_ ?_ ?_ ?_ ?_
    · intro _; exact .of_leaf c (bs := bs) (Nat.zero_le _) (fun _ _ hk => by cases hk; omega)
    · intro _ _ v k hk; cases hk
    · intro _ v k hk; cases hk
    · intro _ _ _ v k hk; cases hk
    · intro _ h0 h2 v m hm
      obtain ⟨vs, k', he, _, rfl⟩ := ElemsOut.toOut_eq_ok hm (elems_stop_not_ok _ _ _ _)
      have hpre := preReq_le c hcs n _ hr h0 h2
      have h6 := elems_allocs_ok2 c _ c.emptyCheck ih _ _ (hs.drop (pos + 2)) vs k' he
      have e1 : pf c * 1 ≤ pf c * (pos + 2) := Nat.mul_le_mul_left _ (by omega)
      simp only [List.sum_append, preList_sum]
      rw [Nat.mul_add, Nat.add_mul 3 (pf c) (pos + 2)]
      omega

/-! ### the buffer loop: fragmentation does not matter -/

/-- what the buffer loop needs from a decoder -/
structure ParserSpec (p : Bytes → Outcome) : Prop where
  empty : (p []).isIncomplete = true
  consumed : ∀ bs, Small bs → ∀ v k, p bs = .ok v k → 1 ≤ k ∧ k ≤ bs.length
  stable : ∀ a b, Small (a ++ b) → (p a).isIncomplete = false → p (a ++ b) = p a

/-- with a frame of stack the top-level decoder is at the dispatch on the type byte (`parseD_of_*`) -/
theorem parseG_succ (c : Codec) (env : Env) (hd : 1 ≤ env.depth) (bs : Bytes) :
    parseG c env bs = parseD c env.mem (env.depth - 1 + 1) 0 bs := by
  rw [parseG, Nat.sub_add_cancel hd]

theorem parseG_empty (c : Codec) (env : Env) (hd : 1 ≤ env.depth) :
    (parseG c env []).out = .incomplete .empty := by
  rw [parseG_succ c env hd]; rfl

theorem parseG_spec (c : Codec) (hc : c.Good) (env : Env) (hd : 1 ≤ env.depth) :
    ParserSpec (fun b => (parseG c env b).out) where
  empty := by rw [parseG_empty c env hd]; rfl
  consumed := fun bs hs => parseD_consumed c hc env.mem env.depth 0 bs hs
  stable := fun a b hs hdec => parseD_stable c hc env.mem env.depth 0 a b hs hdec

/-- every decoded frame consumes at least one byte (`ParserSpec.consumed`), so `length + 1` rounds are enough
    (`drain_fuel`) -/
def drainAll (p : Bytes → Outcome) (buf : Bytes) : List Frame × Bytes × Bool :=
  drain p (buf.length + 1) buf

theorem drain_fuel (p : Bytes → Outcome) (hp : ParserSpec p) :
    ∀ (f g : Nat) (buf : Bytes), Small buf → buf.length < f → buf.length < g →
      drain p f buf = drain p g buf := by
  intro f
  induction f with
  | zero => intro g buf _ h _; omega
  | succ f ih =>
    intro g buf hs hf hg
    cases g with
    | zero => omega
    | succ g =>
      unfold drain
      cases hout : p buf with
      | ok v k =>
        have hk := hp.consumed buf hs v k hout
        simp only []
        rw [ih g (buf.drop k) (hs.drop k) (by simp; omega) (by simp; omega)]
      | incomplete _ => rfl
      | error _ => rfl
      | crash _ => rfl

/-- continue draining after more bytes arrived -/
def comb (p : Bytes → Outcome) (x : List Frame × Bytes × Bool) (b : Bytes) : List Frame × Bytes × Bool :=
  if x.2.2 then x
  else
    let y := drainAll p (x.2.1 ++ b)
    (x.1 ++ y.1, y.2.1, y.2.2)

/-- by induction on the fuel for `a`: what `p` decides on `a` it decides alike on `a ++ b` (`stable`), and
    `drain_fuel` aligns the two fuels; at the first "incomplete" `comb` starts again on the rest `++ b` -/
theorem drain_append (p : Bytes → Outcome) (hp : ParserSpec p) (b : Bytes) :
    ∀ (f : Nat) (a : Bytes), a.length < f → Small (a ++ b) →
      drainAll p (a ++ b) = comb p (drain p f a) b := by
  intro f
  induction f with
  | zero => intro a h _; omega
  | succ f ih =>
    intro a hf hs
    have hab : (p a).isIncomplete = false → p (a ++ b) = p a := hp.stable a b hs
    cases hout : p a with
    | ok v k =>
      have hk := hp.consumed a hs.of_append v k hout
      have hs' := hs.drop_append k
      have hrec := ih (a.drop k) (by simp; omega) hs'
      unfold drainAll at hrec ⊢
      rw [drain, hab (by rw [hout]; rfl), hout]
      simp only []
      rw [List.drop_append_of_le_length hk.2,
        drain_fuel p hp (a ++ b).length ((a.drop k ++ b).length + 1) _ hs' (by simp; omega) (by omega), hrec]
      conv => rhs; rw [drain, hout]
      simp only []
      unfold comb
      simp only []
      split <;> simp
    | incomplete i =>
      unfold drainAll
      conv => rhs; rw [drain, hout]
      simp [comb, drainAll]
    | error e | crash e =>
      unfold drainAll
      rw [drain, hab (by rw [hout]; rfl), hout]
      conv => rhs; rw [drain, hout]
      simp [comb]

def ofDrain (x : List Frame × Bytes × Bool) : FeedSt := ⟨x.1, x.2.1, x.2.2⟩

theorem feed_ofDrain (p : Bytes → Outcome) (hp : ParserSpec p) (pre c : Bytes) (hs : Small (pre ++ c)) :
    feed p (ofDrain (drainAll p pre)) c = ofDrain (drainAll p (pre ++ c)) := by
  have h := drain_append p hp c (pre.length + 1) pre (by omega) hs
  unfold feed
  rw [h]
  unfold comb ofDrain
  simp only []
  split
  · rename_i hd
    simp [drainAll] at hd ⊢
    simp [hd]
  · rename_i hd
    simp [drainAll] at hd ⊢
    simp [hd]

theorem feedAll_ofDrain (p : Bytes → Outcome) (hp : ParserSpec p) :
    ∀ (cs : List Bytes) (pre : Bytes), Small (pre ++ cs.flatten) →
      feedAll p (ofDrain (drainAll p pre)) cs = ofDrain (drainAll p (pre ++ cs.flatten)) := by
  intro cs
  induction cs with
  | nil => intro pre _; simp [feedAll]
  | cons c cs ih =>
    intro pre hs
    simp only [feedAll, List.foldl_cons, List.flatten_cons] at hs ⊢
    have hs1 : Small (pre ++ c) := by
      unfold Small at *; simp at hs ⊢; omega
    rw [feed_ofDrain p hp pre c hs1]
    have := ih (pre ++ c) (by simpa using hs)
    simp only [feedAll] at this
    rw [this]
    simp

theorem drainAll_nil (p : Bytes → Outcome) (hp : ParserSpec p) : ofDrain (drainAll p []) = FeedSt.init := by
  have := hp.empty
  unfold drainAll ofDrain FeedSt.init
  simp only [List.length_nil, drain]
  cases h : p [] with
  | incomplete _ => rfl
  | ok _ _ => simp [h, Outcome.isIncomplete] at this
  | error _ => simp [h, Outcome.isIncomplete] at this
  | crash _ => simp [h, Outcome.isIncomplete] at this

/-- any fragmentation of a byte stream gives the frames, the left-over bytes and the
    liveness that feeding it in one piece gives -/
theorem feedAll_fragmentation (p : Bytes → Outcome) (hp : ParserSpec p) (cs : List Bytes)
    (hs : Small cs.flatten) : feedAll p FeedSt.init cs = feedAll p FeedSt.init [cs.flatten] := by
  rw [← drainAll_nil p hp]
  rw [feedAll_ofDrain p hp cs [] (by simpa using hs)]
  rw [feedAll_ofDrain p hp [cs.flatten] [] (by simpa using hs)]
  simp

def valRev (ds : Bytes) : Nat := ds.foldr (fun b acc => (b - 48) + 10 * acc) 0

def AllDigits (ds : Bytes) : Prop := ∀ b ∈ ds, 48 ≤ b ∧ b ≤ 57

theorem decRev_spec : ∀ (f n : Nat), n < f →
    valRev (decRev f n) = n ∧ AllDigits (decRev f n) ∧ decRev f n ≠ [] := by
  intro f
  induction f with
  | zero => intro n h; omega
  | succ f ih =>
    intro n h
    unfold decRev
    split
    · refine ⟨by simp [valRev], ?_, by simp⟩
      intro b hb; simp at hb; omega
    · have := ih (n / 10) (by omega)
      refine ⟨?_, ?_, by simp⟩
      · simp only [valRev, List.foldr_cons] at this ⊢
        rw [this.1]; omega
      · intro b hb
        simp at hb
        cases hb with
        | inl h => omega
        | inr h => exact this.2.1 b h

theorem digitsVal_reverse (ds : Bytes) (h : AllDigits ds) :
    digitsVal ds.reverse = some (valRev ds) := by
  unfold digitsVal
  rw [List.foldl_reverse]
  induction ds with
  | nil => simp [valRev]
  | cons b rest ih =>
    have hb := h b (by simp)
    have := ih (fun x hx => h x (by simp [hx]))
    simp only [List.foldr_cons, this, valRev]
    simp [isDigit, hb.1, hb.2]
    omega

theorem dec_val (n : Nat) : digitsVal (dec n) = some n := by
  have := decRev_spec (n + 1) n (by omega)
  unfold dec
  rw [digitsVal_reverse _ this.2.1, this.1]

theorem dec_digits (n : Nat) : AllDigits (dec n) := by
  have := decRev_spec (n + 1) n (by omega)
  intro b hb
  unfold dec at hb
  exact this.2.1 b (by simpa using hb)

theorem dec_ne_nil (n : Nat) : dec n ≠ [] := by
  have := decRev_spec (n + 1) n (by omega)
  unfold dec
  simpa using this.2.2

theorem dec_noCR (n : Nat) : 13 ∉ dec n := by
  intro h
  have := dec_digits n 13 h
  omega

theorem parseI64_dec (n : Nat) (h : n ≤ 9223372036854775807) : parseI64 (dec n) = some (n : Int) := by
  have hv := dec_val n
  have hd := dec_digits n
  have hne := dec_ne_nil n
  cases hds : dec n with
  | nil => exact absurd hds hne
  | cons b rest =>
    rw [hds] at hv hd
    have hb := hd b (by simp)
    unfold parseI64
    have h1 : ¬ b = 43 := by omega
    have h2 : ¬ b = 45 := by omega
    simp only [h1, h2, if_false, hv]
    simp [h]

theorem parseI64_showInt (n : Int) (h0 : -9223372036854775808 ≤ n) (h1 : n ≤ 9223372036854775807) :
    parseI64 (showInt n) = some n := by
  unfold showInt
  split
  · rename_i hneg
    unfold parseI64
    have hne := dec_ne_nil n.natAbs
    simp only [show ¬ (45 : Nat) = 43 by decide, if_false, if_true, hne, dec_val]
    have : n.natAbs ≤ 9223372036854775808 := by omega
    simp [this]
    omega
  · rw [parseI64_dec n.toNat (by omega)]
    simp
    omega

theorem showInt_noCR (n : Int) : 13 ∉ showInt n := by
  unfold showInt
  split
  · intro h
    simp at h
    exact dec_noCR _ h
  · exact dec_noCR _

theorem sanitize_noCR (s : Bytes) : 13 ∉ sanitize true s := by
  unfold sanitize
  simp only [if_true, List.mem_map, not_exists, not_and]
  intro x _ h
  split at h <;> omega

theorem encode2ListS_eq (san : Bool) (a : List Val) :
    encode2ListS san a = (a.map (encode2S san)).flatten := by
  induction a with
  | nil => simp [encode2ListS]
  | cons v vs ih => simp [encode2ListS, ih]

theorem encode2S_ne_nil (san : Bool) (v : Val) : encode2S san v ≠ [] := by
  cases v <;> simp [encode2S]

theorem parseLine_encode (c : Codec) (hc : c.Good) (mk : Bytes → Val) (t : Nat) (ht : t ≠ 13)
    (s rest : Bytes) (h13 : 13 ∉ s) (hstr : c.str s = s) :
    (parseLine c mk (t :: (s ++ 13 :: 10 :: rest))).out = .ok (mk s) (s.length + 3) := by
  rw [parseLine_eq, hc.header_line t s rest ht h13]
  simp only [hstr]

theorem parseInt_encode (c : Codec) (hc : c.Good) (n : Int) (rest : Bytes)
    (h0 : -9223372036854775808 ≤ n) (h1 : n ≤ 9223372036854775807) :
    (parseInt c (58 :: (showInt n ++ 13 :: 10 :: rest))).out = .ok (.int n) ((showInt n).length + 3) := by
  rw [parseInt_eq, hc.lenHeader_line 58 _ rest (by decide) (showInt_noCR n) n (parseI64_showInt n h0 h1)]

/-- `$-1\r\n` and `*-1\r\n` -/
theorem Codec.Good.lenHeader_null {c : Codec} (hc : c.Good) (t : Nat) (ht : t ≠ 13) (rest : Bytes) :
    lenHeader c (t :: 45 :: 49 :: 13 :: 10 :: rest) = .inr (3, -1) :=
  hc.lenHeader_line t [45, 49] rest ht (by decide) (-1) (by decide)

/-- a bulk string whose length line is ANY text `ds` that reads as the payload's length: `dec`, or with a
    sign or leading zeros, as `parse::<i64>` takes it; the two bytes behind the payload are not looked at -/
theorem parseBulk_line (c : Codec) (hc : c.Good) (ds b tl : Bytes) (h13 : 13 ∉ ds)
    (hn : parseI64 ds = some (b.length : Int)) (htl : 2 ≤ tl.length)
    (hs : ds.length + b.length + 5 ≤ 9223372036854775807) :
    (parseBulk c (36 :: (ds ++ 13 :: 10 :: (b ++ tl)))).out = .ok (.bulk b) (ds.length + 3 + b.length + 2) := by
  rw [parseBulk_eq, hc.lenHeader_line 36 _ _ (by decide) h13 b.length hn]
  simp only [bulkBody, List.length_cons, List.length_append]
  rw [if_neg (by omega), if_neg (by omega), asUsize_nonneg _ (by omega) (by omega), Int.toNat_natCast]
  unfold W
  rw [Nat.mod_eq_of_lt (by omega), Nat.mod_eq_of_lt (by omega), if_neg (by omega), if_neg (by omega)]
  -- the payload is what lies between the header and the two trailing bytes
  have e : 36 :: (ds ++ 13 :: 10 :: (b ++ tl)) = (36 :: (ds ++ [13, 10])) ++ b ++ tl := by simp
  have e1 : ds.length + 1 + 2 + b.length = ((36 :: (ds ++ [13, 10])) ++ b).length := by simp; omega
  have e2 : ds.length + 1 + 2 = (36 :: (ds ++ [13, 10])).length := by simp
  rw [e, e1, List.take_left' rfl, e2, List.drop_left' rfl]

theorem parseBulk_encode (c : Codec) (hc : c.Good) (b rest : Bytes)
    (hs : Small (36 :: (dec b.length ++ 13 :: 10 :: (b ++ 13 :: 10 :: rest)))) :
    (parseBulk c (36 :: (dec b.length ++ 13 :: 10 :: (b ++ 13 :: 10 :: rest)))).out =
      .ok (.bulk b) ((dec b.length).length + 3 + b.length + 2) := by
  unfold Small at hs
  simp only [List.length_cons, List.length_append] at hs
  exact parseBulk_line c hc _ b _ (dec_noCR _) (parseI64_dec b.length (by omega)) (by simp) (by omega)

theorem elems_encode (p : Bytes → Res) (ec : Bool) :
    ∀ (a : List Val) (rest : Bytes),
      (∀ v ∈ a, ∀ r, Small (encode2S true v ++ r) →
        (p (encode2S true v ++ r)).out = .ok v.san (encode2S true v).length) →
      Small ((a.map (encode2S true)).flatten ++ rest) →
      (elems p ec a.length ((a.map (encode2S true)).flatten ++ rest)).1 =
        .ok (Val.sanList a) (a.map (encode2S true)).flatten.length := by
  intro a
  induction a with
  | nil => intro rest _ _; rfl
  | cons v vs ih =>
    intro rest hp hs
    simp only [List.map_cons, List.flatten_cons, List.length_cons, List.append_assoc] at hs ⊢
    have hne : ¬ (ec = true ∧ encode2S true v ++ ((vs.map (encode2S true)).flatten ++ rest) = []) :=
      fun h => encode2S_ne_nil true v (List.append_eq_nil_iff.1 h.2).1
    rw [elems_succ_ok hne (hp v (by simp) _ hs) (by simp only [List.length_append]; omega), List.drop_left' rfl,
      ih rest (fun x hx => hp x (by simp [hx])) (by simpa using hs.drop (encode2S true v).length)]
    simp [ElemsOut.cons, Val.sanList]

theorem Val.depthList_mem (a : List Val) (v : Val) (h : v ∈ a) : v.depth ≤ Val.depthList a := by
  induction a with
  | nil => cases h
  | cons x xs ih =>
    rcases List.mem_cons.1 h with rfl | h
    · exact Nat.le_max_left ..
    · exact Nat.le_trans (ih h) (Nat.le_max_right ..)

/-- induction over values: an array when all its elements (`Val` is nested through `List`) -/
theorem Val.induct {P : Val → Prop} (leaf : ∀ v, (∀ a, v ≠ .array a) → P v)
    (array : ∀ a, (∀ v ∈ a, P v) → P (.array a)) (v : Val) : P v := by
  suffices h : ∀ d (v : Val), v.depth ≤ d → P v from h _ v (Nat.le_refl _)
  intro d
  induction d with
  | zero => intro v h; cases v <;> simp [Val.depth] at h
  | succ d ih =>
    intro v hd
    cases v with
    | array a =>
      simp only [Val.depth] at hd
      exact array a fun v hv => ih v (by have := Val.depthList_mem a v hv; omega)
    | _ => exact leaf _ (fun _ h => nomatch h)

theorem Val.arrList_mem (a : List Val) (v : Val) (h : v ∈ a) : v.arr ≤ Val.arrList a := by
  induction a with
  | nil => cases h
  | cons x xs ih =>
    rcases List.mem_cons.1 h with rfl | h
    · exact Nat.le_max_left ..
    · exact Nat.le_trans (ih h) (Nat.le_max_right ..)

theorem Val.wfList_mem (c : Codec) (a : List Val) (v : Val) (h : v ∈ a)
    (hw : Val.wfList c a = true) : v.wf c = true := by
  induction a with
  | nil => cases h
  | cons x xs ih =>
    rw [Val.wfList, Bool.and_eq_true] at hw
    rcases List.mem_cons.1 h with rfl | h
    · exact hw.1
    · exact ih h hw.2

theorem flatten_len_ge (a : List Val) : a.length ≤ (a.map (encode2S true)).flatten.length := by
  induction a with
  | nil => simp
  | cons v vs ih =>
    have h1 : 1 ≤ (encode2S true v).length := by
      cases h : encode2S true v with
      | nil => exact absurd h (encode2S_ne_nil true v)
      | cons _ _ => simp
    simp only [List.map_cons, List.flatten_cons, List.length_append, List.length_cons]
    omega

/-- an array whose count line is any text `ds` that reads as `n`, in front of `n` decodable elements -/
theorem parseArray_line (c : Codec) (hc : c.Good) (m : Nat) (hfix : c.Fixed m) (mem : Nat) (p : Bytes → Res)
    (ds rest : Bytes) (n : Nat) (vs : List Val) (k : Nat) (h13 : 13 ∉ ds) (hn : parseI64 ds = some (n : Int))
    (hq : preReq c n rest.length ≤ isizeMax) (he : (elems p c.emptyCheck n rest).1 = .ok vs k) :
    (parseArray c mem p (42 :: (ds ++ 13 :: 10 :: rest))).out = .ok (.array vs) (ds.length + 3 + k) := by
  rw [parseArray_eq, hc.lenHeader_line 42 _ _ (by decide) h13 n hn]
  have hdrop : (42 :: (ds ++ 13 :: 10 :: rest)).drop (ds.length + 1 + 2) = rest := by
    rw [show 42 :: (ds ++ 13 :: 10 :: rest) = (42 :: (ds ++ [13, 10])) ++ rest by simp, List.drop_left' (by simp)]
  have hrem : (42 :: (ds ++ 13 :: 10 :: rest)).length - (ds.length + 1 + 2) = rest.length := by simp; omega
  dsimp only
  rw [hdrop, hrem]
  refine arrayBody_cases (P := fun r => r.out = _) c mem p _ _ _ _ ?_ ?_ ?_ ?_ ?_
  · intro h; omega
  · intro _ h; omega
  · intro h; omega
  · intro hcap _ hne; exact absurd (preReq_not_capped c (fun h => (hfix.arr h).2) hcap _ _) hne
  · intro _ _ _
    show ElemsOut.toOut _ _ = _
    rw [Int.toNat_natCast, he]
    rfl

theorem parseArray_encode (c : Codec) (hc : c.Good) (m : Nat) (hfix : c.Fixed m) (mem : Nat) (p : Bytes → Res)
    (a : List Val) (rest : Bytes)
    (hp : ∀ v ∈ a, ∀ r, Small (encode2S true v ++ r) →
      (p (encode2S true v ++ r)).out = .ok v.san (encode2S true v).length)
    (hs : Small (42 :: (dec a.length ++ 13 :: 10 :: ((a.map (encode2S true)).flatten ++ rest)))) :
    (parseArray c mem p (42 :: (dec a.length ++ 13 :: 10 :: ((a.map (encode2S true)).flatten ++ rest)))).out =
      .ok (.array (Val.sanList a)) ((dec a.length).length + 3 + (a.map (encode2S true)).flatten.length) := by
  have hlen := flatten_len_ge a
  have hs' : Small ((a.map (encode2S true)).flatten ++ rest) := by
    unfold Small at *; simp only [List.length_cons, List.length_append] at hs ⊢; omega
  have hq := preReq_capped_le c (fun h => (hfix.arr h).2) (a.length : Int) ((a.map (encode2S true)).flatten ++ rest).length
  unfold Small at hs hs'
  simp only [List.length_cons, List.length_append] at hs
  exact parseArray_line c hc m hfix mem p _ _ a.length _ _ (dec_noCR _) (parseI64_dec a.length (by omega))
    (by unfold isizeMax; omega) (elems_encode p c.emptyCheck a rest hp hs')

/-- DECODE ∘ ENCODE: the repaired decoder reads the repaired encoder's output back as the value
    with its lines as they are on the wire, and nothing else -/
theorem parseD_encode (c : Codec) (hc : c.Good) (m : Nat) (hfix : c.Fixed m) (mem : Nat) :
    ∀ (d nest : Nat) (v : Val), v.depth ≤ d → nest + v.arr ≤ m → v.wf c = true →
      ∀ rest, Small (encode2S true v ++ rest) →
      (parseD c mem d nest (encode2S true v ++ rest)).out = .ok v.san (encode2S true v).length := by
  intro d
  induction d with
  | zero =>
    intro nest v h
    cases v <;> simp [Val.depth] at h
  | succ d ih =>
    intro nest v hd hn hw rest hs
    have htd : v.arr ≠ 0 → tooDeep c nest = false := by
      intro h; unfold tooDeep; rw [hfix.nest]; simp; omega
    cases v with
    | simple s =>
      simp [Val.wf, lineOK] at hw
      simp only [encode2S, crlf, List.cons_append, List.append_assoc, List.nil_append]
      rw [parseD_of_plus, parseLine_encode c hc _ 43 (by decide) _ rest (sanitize_noCR s) hw]
      simp [Val.san]
    | error s =>
      simp [Val.wf, lineOK] at hw
      simp only [encode2S, crlf, List.cons_append, List.append_assoc, List.nil_append]
      rw [parseD_of_minus, parseLine_encode c hc _ 45 (by decide) _ rest (sanitize_noCR s) hw]
      simp [Val.san]
    | int n =>
      simp [Val.wf] at hw
      simp only [encode2S, crlf, List.cons_append, List.append_assoc, List.nil_append]
      rw [parseD_of_colon, parseInt_encode c hc n rest hw.1 hw.2]
      simp [Val.san]
    | nullBulk =>
      show (parseD c mem (d + 1) nest (36 :: 45 :: 49 :: 13 :: 10 :: rest)).out = _
      rw [parseD_of_dollar, parseBulk_eq, hc.lenHeader_null 36 (by decide)]
      rfl
    | bulk b =>
      simp only [encode2S, crlf, List.cons_append, List.append_assoc, List.nil_append] at hs ⊢
      rw [parseD_of_dollar, parseBulk_encode c hc b rest hs]
      simp [Val.san]
      omega
    | nullArray =>
      show (parseD c mem (d + 1) nest (42 :: 45 :: 49 :: 13 :: 10 :: rest)).out = _
      rw [parseD_of_star (htd (by simp [Val.arr])), parseArray_eq, hc.lenHeader_null 42 (by decide)]
      rfl
    | array a =>
      simp [Val.wf] at hw
      simp only [Val.depth] at hd
      simp only [Val.arr] at hn
      simp only [encode2S, encode2ListS_eq, crlf, List.cons_append, List.append_assoc, List.nil_append] at hs ⊢
      rw [parseD_of_star (htd (by simp [Val.arr])), parseArray_encode c hc m hfix mem _ a rest ?_ hs]
      · simp [Val.san]
        omega
      · intro v hv r hr
        have h1 := Val.depthList_mem a v hv
        have h2 := Val.arrList_mem a v hv
        exact ih (nest + 1) v (by omega) (by omega) (Val.wfList_mem c a v hv hw) r hr

/-! ### the buffer-appending encoders produce the same bytes as `RespParser::encode` -/

theorem encodeIntoListS_eq (san : Bool) (a : List Val)
    (h : ∀ v ∈ a, ∀ buf, encodeIntoS san v buf = buf ++ encode2S san v) :
    ∀ init : Bytes, encodeIntoListS san a init = init ++ encode2ListS san a := by
  induction a with
  | nil => intro init; simp [encodeIntoListS, encode2ListS]
  | cons v vs ih =>
    intro init
    simp only [encodeIntoListS, encode2ListS]
    rw [h v (by simp), ih (fun x hx => h x (by simp [hx]))]
    simp

theorem encodeIntoS_eq (san : Bool) (v : Val) : ∀ buf, encodeIntoS san v buf = buf ++ encode2S san v := by
  induction v using Val.induct with
  | array a ih => intro buf; rw [encodeIntoS, encode2S, encodeIntoListS_eq san a ih]; simp [crlf]
  | leaf v h => cases v <;> first | exact absurd rfl (h _) | simp [encodeIntoS, encode2S]

theorem encode1_eq (v : Val) : encode1 v = encode2 v := by simp [encode1, encode2, encodeIntoS_eq]
theorem encode4_eq (v : Val) : encode4 v = encode2 v := by simp [encode4, encode2, encodeIntoS_eq]
theorem encode5_eq (v : Val) : encode5 v = encode2 v := by simp [encode5, encode2, encodeIntoS_eq]

theorem encodeConnListS_eq (san : Bool) (a : List Val)
    (h : ∀ v ∈ a, ∀ buf, encodeConnS san false v buf = buf ++ encode2S san v) :
    ∀ init : Bytes, encodeConnListS san false a init = init ++ encode2ListS san a := by
  induction a with
  | nil => intro init; simp [encodeConnListS, encode2ListS]
  | cons v vs ih =>
    intro init
    simp only [encodeConnListS, encode2ListS]
    rw [h v (by simp), ih (fun x hx => h x (by simp [hx]))]
    simp

theorem encodeConnS_eq (san : Bool) (v : Val) :
    ∀ buf, encodeConnS san false v buf = buf ++ encode2S san v := by
  induction v using Val.induct with
  | array a ih => intro buf; rw [encodeConnS, encode2S, encodeConnListS_eq san a ih]; simp [crlf]
  | leaf v h => cases v <;> first | exact absurd rfl (h _) | simp [encodeConnS, encode2S]

/-- the connection handler's encoder writes the bytes `RespParser::encode` writes -/
theorem encode3_eq (v : Val) : encode3 v = encode2 v := by
  simp [encode3, encode2, encodeConnS_eq]

theorem sanitize_append (a b : Bytes) : sanitize true (a ++ b) = sanitize true a ++ sanitize true b := by
  simp [sanitize]

/-- `encode_error_into(msg)` writes the error value whose text is `errText msg` -/
theorem encodeErr_eq (msg : Bytes) : encodeErr msg = encode2 (.error (errText msg)) := by
  unfold encodeErr errText encode2
  split
  · simp [encode2S]
  · rw [encode2S, sanitize_append]
    have : sanitize true [69, 82, 82, 32] = [69, 82, 82, 32] := by decide
    rw [this]
    simp

theorem encodeErr5_eq (msg : Bytes) : encodeErr5 msg = encode2 (.error ([69, 82, 82, 32] ++ msg)) := by
  have h4 : sanitize true [69, 82, 82, 32] = [69, 82, 82, 32] := by decide
  have h5 : sanitize true ([69, 82, 82, 32] ++ msg) = [69, 82, 82, 32] ++ sanitize true msg := by
    rw [sanitize_append, h4]
  unfold encodeErr5 encode2 encode2S
  rw [h5]
  simp [crlf]

/-! ### a value without CR / LF in its lines is what is on the wire -/

theorem sanitize_plain (s : Bytes) (h : (!(s.contains 13) && !(s.contains 10)) = true) : sanitize true s = s := by
  unfold sanitize
  simp only [if_true]
  simp at h
  have : ∀ b ∈ s, (if b = 13 ∨ b = 10 then 32 else b) = b := by
    intro b hb
    have h1 : b ≠ 13 := fun e => h.1 (e ▸ hb)
    have h2 : b ≠ 10 := fun e => h.2 (e ▸ hb)
    simp [h1, h2]
  calc s.map (fun b => if b = 13 ∨ b = 10 then 32 else b) = s.map id := List.map_congr_left this
    _ = s := List.map_id s

theorem Val.plainList_mem (a : List Val) (v : Val) (h : v ∈ a) (hp : Val.plainList a = true) : v.plain = true := by
  induction a with
  | nil => cases h
  | cons x xs ih =>
    rw [Val.plainList, Bool.and_eq_true] at hp
    rcases List.mem_cons.1 h with rfl | h
    · exact hp.1
    · exact ih h hp.2

theorem sanList_id (a : List Val) (h : ∀ v ∈ a, v.san = v) : Val.sanList a = a := by
  induction a with
  | nil => simp [Val.sanList]
  | cons x xs ih =>
    simp only [Val.sanList]
    rw [h x (by simp), ih (fun v hv => h v (by simp [hv]))]

theorem san_plain (v : Val) : v.plain = true → v.san = v := by
  induction v using Val.induct with
  | array a ih =>
    intro hp
    simp only [Val.plain] at hp
    rw [Val.san, sanList_id a fun v hv => ih v hv (Val.plainList_mem a v hv hp)]
  | leaf v h =>
    intro hp
    cases v with
    | simple s => simp only [Val.plain] at hp; simp [Val.san, sanitize_plain s hp]
    | error s => simp only [Val.plain] at hp; simp [Val.san, sanitize_plain s hp]
    | array a => exact absurd rfl (h a)
    | _ => simp [Val.san]

/-! ### the decoders against the independent line grammar -/

theorem findCrlf2_eq_firstCrlf : ∀ bs : Bytes, findCrlf2 bs = firstCrlf bs := by
  intro bs
  induction bs with
  | nil => simp [findCrlf2, firstCrlf]
  | cons a rest ih =>
    cases rest with
    | nil => simp [findCrlf2, firstCrlf]
    | cons b r =>
      unfold findCrlf2
      unfold firstCrlf at ih ⊢
      simp only [List.tail_cons, List.zip_cons_cons, List.findIdx?_cons]
      by_cases h : a = 13 ∧ b = 10
      · simp [h.1, h.2]
      · have h' : (a == 13 && b == 10) = false := by
          simp only [Bool.and_eq_false_iff, beq_eq_false_iff_ne]
          by_cases ha : a = 13
          · right; intro hb; exact h ⟨ha, hb⟩
          · left; exact ha
        simp only [h, if_false, h', Bool.false_eq_true]
        rw [ih]
        simp [List.tail_cons]

/-- the decoder searches lines as the grammar says -/
def Codec.Grammar (c : Codec) : Prop := c.findCrlf = findCrlf2

theorem firstCrlf_take (bs : Bytes) (p : Nat) (h : firstCrlf bs = some p) : firstCrlf (bs.take p) = none := by
  rw [← findCrlf2_eq_firstCrlf] at h ⊢
  cases hq : findCrlf2 (bs.take p) with
  | none => rfl
  | some q =>
    exfalso
    have hb := findCrlf2_bound _ _ hq
    have hst := findCrlf2_stable (bs.take p) (bs.drop p) q hq
    rw [List.take_append_drop, h] at hst
    simp at hb hst
    omega

/-- the header line against the grammar: it ends at the first CR LF after the type byte -/
theorem header_grammar {c : Codec} (hg : c.Grammar) {t : Nat} (ht : t ≠ 13) (rest : Bytes) :
    header c (t :: rest) = match firstCrlf rest with
      | none => .inl ⟨.incomplete .noCrlf, []⟩
      | some p => .inr (p + 1, rest.take p) := by
  unfold header
  rw [hg, findCrlf2_skip t rest ht, findCrlf2_eq_firstCrlf]
  cases firstCrlf rest with
  | none => rfl
  | some p => simp [field]

/-! ### the two decoders agree -/

theorem Val.lossyList_length (a : List Val) : (Val.lossyList a).length = a.length := by
  induction a with
  | nil => rfl
  | cons v vs ih => simp [Val.lossyList, ih]

/-- codec 1 rejected a length that codec 2 accepts (`*-5\r\n`): the one place they differ -/
def Agree (r1 r2 : Res) : Prop := r1.out.Agrees r2.out ∨ r1.out = .error .badLen

theorem Outcome.Agrees.of_not_ok {o : Outcome} (h : o.isOk = false) : o.Agrees o := by
  cases o with
  | ok _ _ => cases h
  | incomplete _ => trivial
  | _ => exact rfl

theorem Outcome.Agrees.of_ok {v : Val} {k : Nat} {o : Outcome} (h : (Outcome.ok v k).Agrees o) :
    o = .ok v.lossy k := by
  cases o with
  | ok _ _ => obtain ⟨rfl, rfl⟩ := h; rfl
  | _ => exact h.elim

theorem Outcome.Agrees.isOk_eq {o₁ o₂ : Outcome} (h : o₁.Agrees o₂) : o₂.isOk = o₁.isOk := by
  cases o₁ <;> cases o₂ <;> first | rfl | exact h.elim

/-- the element loops of the two decoders: codec 1 tests for the end of the input before each
    element, codec 2 lets the element decoder find it.  Both get through, or both stop and agree on why, or
    codec 1 has met a negative array length -/
theorem elems_agree (p1 p2 : Bytes → Res)
    (hag : ∀ s, Small s → Agree (p1 s) (p2 s))
    (hc2 : ∀ s, Small s → ConsumedOK (p2 s) s)
    (h2nil : (p2 []).out.isIncomplete = true) :
    ∀ (n : Nat) (rest : Bytes), Small rest →
      (∃ vs k, (elems p1 true n rest).1 = .ok vs k ∧ (elems p2 false n rest).1 = .ok (Val.lossyList vs) k) ∨
      (∃ o1 o2, (elems p1 true n rest).1 = .stop o1 ∧ (elems p2 false n rest).1 = .stop o2 ∧ o1.Agrees o2) ∨
      (elems p1 true n rest).1 = .stop (.error .badLen) := by
  intro n
  induction n with
  | zero => intro rest _; exact .inl ⟨[], 0, rfl, rfl⟩
  | succ n ih =>
    intro rest hs
    have he2 : ¬ (false = true ∧ rest = []) := fun h => Bool.noConfusion h.1
    by_cases hnil : rest = []
    · subst hnil
      cases h2 : (p2 []).out <;> rw [h2] at h2nil <;> cases h2nil
      exact .inr (.inl ⟨_, _, rfl, by rw [elems_succ_stop he2 (by rw [h2]; rfl), h2], by trivial⟩)
    · have he1 : ¬ (true = true ∧ rest = []) := fun h => hnil h.2
      rcases hag rest hs with hag1 | hbad
      · cases h1 : (p1 rest).out with
        | ok v k =>
          have h2 := Outcome.Agrees.of_ok (h1 ▸ hag1)
          have hk := (hc2 rest hs _ _ h2).2
          rw [elems_succ_ok he1 h1 (by omega), elems_succ_ok he2 h2 (by omega)]
          rcases ih (rest.drop k) (hs.drop k) with ⟨vs, k', e1, e2⟩ | ⟨o1, o2, e1, e2, h⟩ | e1
          · exact .inl ⟨v :: vs, k + k', by rw [e1]; rfl, by rw [e2]; rfl⟩
          · exact .inr (.inl ⟨o1, o2, by rw [e1]; rfl, by rw [e2]; rfl, h⟩)
          · exact .inr (.inr (by rw [e1]; rfl))
        | _ =>
          have h2 : (p2 rest).out.isOk = false := by rw [hag1.isOk_eq, h1]; rfl
          exact .inr (.inl ⟨_, _, by rw [elems_succ_stop he1 (by rw [h1]; rfl)],
            by rw [elems_succ_stop he2 h2], hag1⟩)
      · exact .inr (.inr (by rw [elems_succ_stop he1 (by rw [hbad]; rfl), hbad]))

theorem parseLine_agree (mk : Bytes → Val) (hmk : ∀ s, (mk s).lossy = mk (utf8Lossy s)) (bs : Bytes) :
    (parseLine codec1 mk bs).out.Agrees (parseLine codec2 mk bs).out := by
  rw [parseLine_eq, parseLine_eq, show header codec2 bs = header codec1 bs from rfl]
  cases h : header codec1 bs with
  | inl r => exact .of_not_ok (lenHeader_inl_not_ok (by rw [lenHeader, h]))
  | inr ps => exact ⟨rfl, (hmk _).symm⟩

theorem parseInt_agree (bs : Bytes) : (parseInt codec1 bs).out.Agrees (parseInt codec2 bs).out := by
  rw [show parseInt codec2 bs = parseInt codec1 bs from rfl, parseInt_eq]
  cases h : lenHeader codec1 bs with
  | inl r => exact .of_not_ok (lenHeader_inl_not_ok h)
  | inr ps => exact ⟨rfl, rfl⟩

theorem parseBulk_agree (bs : Bytes) : (parseBulk codec1 bs).out.Agrees (parseBulk codec2 bs).out := by
  rw [show parseBulk codec2 bs = parseBulk codec1 bs from rfl, parseBulk_eq]
  cases h : lenHeader codec1 bs with
  | inl r => exact .of_not_ok (lenHeader_inl_not_ok h)
  | inr ps =>
    show (bulkBody codec1 bs ps.1 ps.2).out.Agrees (bulkBody codec1 bs ps.1 ps.2).out
    simp only [bulkBody]
    repeat' split
    all_goals first | exact ⟨rfl, rfl⟩ | trivial | rfl

theorem parseArray_agree (mem : Nat) (p1 p2 : Bytes → Res)
    (hag : ∀ s, Small s → Agree (p1 s) (p2 s))
    (hc2 : ∀ s, Small s → ConsumedOK (p2 s) s)
    (h2nil : (p2 []).out.isIncomplete = true)
    (bs : Bytes) (hs : Small bs) :
    Agree (parseArray codec1 mem p1 bs) (parseArray codec2 mem p2 bs) := by
  rw [parseArray_eq, parseArray_eq, show lenHeader codec2 bs = lenHeader codec1 bs from rfl]
  cases h : lenHeader codec1 bs with
  | inl r => exact .inl (.of_not_ok (lenHeader_inl_not_ok h))
  | inr ps =>
    obtain ⟨pos, n⟩ := ps
    have hp2 : ∀ r, preReq codec2 n r = 0 := fun r => rfl
    refine arrayBody_cases (P := fun r => Agree r (arrayBody codec2 mem p2 n (pos + 2) _ _)) codec1 mem p1 n
      (pos + 2) _ _ ?_ ?_ ?_ ?_ ?_
    · intro h1; left; unfold arrayBody; rw [if_pos h1]; exact ⟨rfl, rfl⟩
    · intro _ _; exact .inr rfl
    · intro h3
      have := preReq_capped_le codec1 (fun _ => rfl) n (bs.length - (pos + 2))
      unfold Small at hs; unfold isizeMax at h3; omega
    · intro h; exact absurd rfl h
    · intro h1 h2 _
      have h2' : ¬ (codec2.arrayNegCheck = true ∧ n < 0) := fun h => Bool.noConfusion h.1
      unfold arrayBody
      rw [if_neg h1, if_neg h2', hp2, if_neg (by decide), if_neg (fun h => h.2.2 rfl)]
      show ((elems p1 true _ _).1.toOut _).Agrees ((elems p2 false _ _).1.toOut _) ∨ (elems p1 true _ _).1.toOut _ = _
      rcases elems_agree p1 p2 hag hc2 h2nil n.toNat (bs.drop (pos + 2)) (hs.drop _) with
        ⟨vs, k, e1, e2⟩ | ⟨o1, o2, e1, e2, h⟩ | h
      · rw [e1, e2]; exact .inl ⟨rfl, rfl⟩
      · rw [e1, e2]; exact .inl h
      · rw [h]; exact .inr rfl

/-- after the fixes: same value up to the lossy UTF-8 conversion of line
    texts with the same consumed count, both "more bytes needed", or the same protocol error —
    except where codec 1 rejects a negative array length that codec 2 reads as an empty array -/
theorem parseD_agree (mem : Nat) :
    ∀ (d nest : Nat) (bs : Bytes), nest ≤ maxNesting → maxNesting + 1 ≤ d + nest → Small bs →
      Agree (parseD codec1 mem d nest bs) (parseD codec2 mem d nest bs) := by
  intro d
  induction d with
  | zero => intro nest bs h1 h2 _; omega
  | succ d ih =>
    intro nest bs hn hd hs
    refine parseD_cases (P := fun r => Agree r (parseD codec2 mem (d + 1) nest bs)) codec1 mem (d + 1) nest bs
      ?_ ?_ ?_ ?_ ?_ ?_ ?_ ?_ ?_
    · intro h; cases h
    · intro h; rw [h]; exact .inl trivial
    · intro _ h; rw [h, parseD_of_plus]; exact .inl (parseLine_agree Val.simple (fun _ => rfl) _)
    · intro _ h; rw [h, parseD_of_minus]; exact .inl (parseLine_agree Val.error (fun _ => rfl) _)
    · intro _ h; rw [h, parseD_of_colon]; exact .inl (parseInt_agree _)
    · intro _ h; rw [h, parseD_of_dollar]; exact .inl (parseBulk_agree _)
    · intro _ h htd; rw [h, parseD_of_star_deep (c := codec2) htd]; exact .inl rfl
    · intro d' _ hd' h htd
      cases hd'
      have hlt := lt_of_not_tooDeep (c := codec1) rfl htd
      rw [h, parseD_of_star (c := codec2) htd]
      refine parseArray_agree mem _ _ (fun s hss => ih (nest + 1) s (by omega) (by omega) hss)
        (parseD_consumed codec2 codec2_good mem d (nest + 1)) ?_ _ (h ▸ hs)
      -- `h2nil`: `nest < maxNesting` leaves the element decoder a frame (`d ≥ 1`), and on `[]` it says "incomplete"
      cases d with
      | zero => omega
      | succ d' => rfl
    · intro _ _ h ht; rw [h, parseD_of_other _ _ _ _ _ ht]; exact .inl rfl

end RedisVerif.Resp
