import RedisVerif.Model.Grammar
import RedisVerif.Lemmas.Grammar

/-
  Option lists as lists of blocks (keyword + its values): what the scan answers on a list of
  well-formed blocks, and that `has` / `last` of the result do not depend on the order of the
  blocks when no option occurs twice.
-/
namespace RedisVerif.Grammar

/-- a successful lookup: the index counts from the start value, the option is in the table under that keyword -/
theorem findOpt_spec : ∀ (T : List OptSpec) (k : Bytes) (n i : Nat) (o : OptSpec),
    findOpt T k n = some (i, o) → n ≤ i ∧ i < n + T.length ∧ o ∈ T ∧ o.kw = k
  | [], _, _, _, _, h => by cases h
  | x :: xs, k, n, i, o, h => by
    rw [findOpt] at h
    split at h
    · rename_i hx
      obtain ⟨rfl, rfl⟩ := Prod.mk.inj (Option.some.inj h)
      simp [hx]
    · obtain ⟨h1, h2, h3, h4⟩ := findOpt_spec xs k (n + 1) i o h
      simp only [List.length_cons, List.mem_cons]
      exact ⟨by omega, by omega, Or.inr h3, h4⟩

/-- one option occurrence: the keyword as the client wrote it, and its value arguments -/
structure Block where
  word : Bytes
  vals : List Bytes
  deriving DecidableEq, Repr

/-- the argument list a list of blocks stands for -/
def flat (bs : List Block) : List Bytes := bs.flatMap (fun b => b.word :: b.vals)

/-- what the scan records for a block, if the block is a well-formed occurrence of an option of
    the table: keyword known and not refused, right number of values, values of the right kind -/
def blockSeen (tbl : List OptSpec) (b : Block) : Option (Nat × List Tok) :=
  match findOpt tbl (kw b.word) 0 with
  | none => none
  | some (idx, o) =>
    match o.reject with
    | some _ => none
    | none =>
      match o.vals, b.vals with
      | [], [] => some (idx, [])
      | [k1], [v1] =>
        match k1.extract v1 with
        | .ok t1 => some (idx, [t1])
        | .error _ => none
      | [k1, k2], [v1, v2] =>
        match k1.extract v1, k2.extract v2 with
        | .ok t1, .ok t2 => some (idx, [t1, t2])
        | _, _ => none
      | _, _ => none

def seenOf (tbl : List OptSpec) (bs : List Block) : Seen := bs.filterMap (blockSeen tbl)

/-- every block is a well-formed option occurrence -/
def WellFormed (tbl : List OptSpec) (bs : List Block) : Prop := ∀ b ∈ bs, (blockSeen tbl b).isSome = true

instance (tbl : List OptSpec) (bs : List Block) : Decidable (WellFormed tbl bs) := by
  unfold WellFormed; infer_instance

/-- no option occurs twice -/
def NoRepeat (tbl : List OptSpec) (bs : List Block) : Prop := ((seenOf tbl bs).map (·.1)).Nodup

instance (tbl : List OptSpec) (bs : List Block) : Decidable (NoRepeat tbl bs) := by
  unfold NoRepeat; infer_instance

theorem scanOpts_found {tbl : List OptSpec} {unk : Bytes → Option BErr} {a : Bytes} {rest : List Bytes} {idx : Nat}
    {o : OptSpec} (hf : findOpt tbl (kw a) 0 = some (idx, o)) (hr : o.reject = none) (hv : o.vals.length ≤ 2) :
    scanOpts tbl unk (a :: rest) =
      if rest.length < o.vals.length then o.missing.result
      else (extractFixed o.vals (rest.take o.vals.length)).bind fun ts =>
        (scanOpts tbl unk (rest.drop o.vals.length)).map ((idx, ts) :: ·) := by
  rw [scanOpts, hf]
  simp only [hr]
  rcases hvs : o.vals with _ | ⟨k1, _ | ⟨k2, _ | ⟨k3, t⟩⟩⟩
  · rw [if_neg (by simp)]
    show _ = Except.map (fun x => (idx, []) :: x) (scanOpts tbl unk rest)
    cases scanOpts tbl unk rest <;> rfl
  · rcases rest with _ | ⟨v1, r⟩
    · rfl
    · rw [if_neg (by simp)]
      dsimp only
      show _ = (do let t ← k1.extract v1; pure [t] : Except BErr (List Tok)).bind fun ts =>
        Except.map (fun x => (idx, ts) :: x) (scanOpts tbl unk r)
      cases k1.extract v1 with
      | error e => rfl
      | ok t => cases scanOpts tbl unk r <;> rfl
  · rcases rest with _ | ⟨v1, _ | ⟨v2, r⟩⟩
    · rfl
    · rfl
    · rw [if_neg (by simp)]
      dsimp only
      show _ = (do let t ← k1.extract v1; let ts ← (do let u ← k2.extract v2; pure [u]); pure (t :: ts) :
        Except BErr (List Tok)).bind fun ts => Except.map (fun x => (idx, ts) :: x) (scanOpts tbl unk r)
      cases k1.extract v1 with
      | error e => rfl
      | ok t =>
        cases k2.extract v2 with
        | error e => rfl
        | ok u => cases scanOpts tbl unk r <;> rfl
  · rw [hvs] at hv; simp at hv

theorem scanOpts_found_long {tbl : List OptSpec} {unk : Bytes → Option BErr} {a : Bytes} {rest : List Bytes} {idx : Nat}
    {o : OptSpec} (hf : findOpt tbl (kw a) 0 = some (idx, o)) (hr : o.reject = none) (hv : 2 < o.vals.length) :
    scanOpts tbl unk (a :: rest) = .error .unreachable := by
  rw [scanOpts, hf]
  simp only [hr]
  rcases hvs : o.vals with _ | ⟨k1, _ | ⟨k2, _ | ⟨k3, t⟩⟩⟩
  · rw [hvs] at hv; simp at hv
  · rw [hvs] at hv; simp at hv
  · rw [hvs] at hv; simp at hv
  · rfl

theorem extractFixed_length : ∀ {as : List Arg} {vs : List Bytes} {ts : List Tok}, extractFixed as vs = .ok ts → as.length = vs.length
  | [], [], _, _ => rfl
  | [], _ :: _, _, h => by cases h
  | _ :: _, [], _, h => by cases h
  | a :: as, v :: vs, ts, h => by
    rw [extractFixed] at h
    obtain ⟨t, -, h⟩ := bind_ok h
    obtain ⟨us, hu, -⟩ := bind_ok h
    simp [extractFixed_length hu]

theorem blockSeen_some {tbl : List OptSpec} {b : Block} {i : Nat} {ts : List Tok} (h : blockSeen tbl b = some (i, ts)) :
    ∃ o, findOpt tbl (kw b.word) 0 = some (i, o) ∧ o.reject = none ∧ o.vals.length ≤ 2 ∧
      extractFixed o.vals b.vals = .ok ts := by
  unfold blockSeen at h
  split at h
  · cases h
  · rename_i idx o hf
    split at h
    · cases h
    · rename_i hr
      split at h
      · rename_i hv hb
        cases h
        exact ⟨o, hf, hr, by simp [hv], by rw [hv, hb]; rfl⟩
      · rename_i k1 v1 hv hb
        split at h
        · rename_i t1 hx
          cases h
          exact ⟨o, hf, hr, by simp [hv], by simp [hv, hb, extractFixed, hx, bind, Except.bind, pure, Except.pure]⟩
        · cases h
      · rename_i k1 k2 v1 v2 hv hb
        split at h
        · rename_i t1 t2 hx hy
          cases h
          exact ⟨o, hf, hr, by simp [hv], by simp [hv, hb, extractFixed, hx, hy, bind, Except.bind, pure, Except.pure]⟩
        · cases h
      · cases h

theorem scan_block (tbl : List OptSpec) (unk : Bytes → Option BErr) (b : Block) (rest : List Bytes)
    (e : Nat × List Tok) (h : blockSeen tbl b = some e) :
    scanOpts tbl unk (b.word :: (b.vals ++ rest)) = (scanOpts tbl unk rest).map (e :: ·) := by
  obtain ⟨o, hf, hr, hv, hx⟩ := blockSeen_some (i := e.1) (ts := e.2) h
  have hl := extractFixed_length hx
  rw [scanOpts_found hf hr hv, if_neg (by simp [hl]), hl, List.take_left' rfl, List.drop_left' rfl, hx]
  rfl
theorem scan_blocks (tbl : List OptSpec) (unk : Bytes → Option BErr) :
    ∀ bs : List Block, WellFormed tbl bs → scanOpts tbl unk (flat bs) = .ok (seenOf tbl bs) := by
  intro bs
  induction bs with
  | nil => intro _; simp [flat, seenOf, scanOpts]
  | cons b bs ih =>
    intro hwf
    have hb := hwf b (by simp)
    have hrest : WellFormed tbl bs := fun x hx => hwf x (by simp [hx])
    cases he : blockSeen tbl b with
    | none => rw [he] at hb; simp at hb
    | some e =>
      have := scan_block tbl unk b (flat bs) e he
      simp only [flat, List.flatMap_cons, List.cons_append] at this ⊢
      rw [this]
      have ih' := ih hrest
      simp only [flat] at ih'
      rw [ih']
      simp [seenOf, List.filterMap_cons, he, Except.map]

theorem last_foldl_iff (idx : Nat) (v : List Tok) :
    ∀ (s : Seen) (acc : Option (List Tok)), (s.map (·.1)).Nodup →
      (s.foldl (fun acc p => if p.1 == idx then some p.2 else acc) acc = some v ↔
        ((idx, v) ∈ s ∨ (acc = some v ∧ idx ∉ s.map (·.1)))) := by
  intro s
  induction s with
  | nil => intro acc _; simp
  | cons p s ih =>
    intro acc hnd
    simp only [List.map_cons, List.nodup_cons] at hnd
    obtain ⟨hp, hnd⟩ := hnd
    simp only [List.foldl_cons]
    rw [ih _ hnd]
    by_cases hpi : p.1 = idx
    · have hnot : idx ∉ s.map (·.1) := by rw [← hpi]; exact hp
      have hnot' : ∀ w, (idx, w) ∉ s := by
        intro w hw
        exact hnot (List.mem_map.mpr ⟨(idx, w), hw, rfl⟩)
      simp only [hpi, beq_self_eq_true, if_true, List.mem_cons, List.map_cons, hnot' v, false_or,
        Option.some.injEq, hnot, not_false_eq_true, and_true, true_or, not_true_eq_false, and_false, or_false]
      constructor
      · intro h; obtain ⟨a, b⟩ := p; simp only at hpi h; rw [hpi, h]
      · intro h; rw [← h]
    · have hbeq : (p.1 == idx) = false := by simp [hpi]
      have hne : (idx, v) ≠ p := by intro h; apply hpi; rw [← h]
      have hne' : ¬ idx = p.1 := fun h => hpi h.symm
      simp only [hbeq, Bool.false_eq_true, if_false, List.mem_cons, hne, false_or, List.map_cons, hne', not_false_eq_true, true_and]

theorem last_iff (s : Seen) (idx : Nat) (v : List Tok) (hnd : (s.map (·.1)).Nodup) :
    s.last idx = some v ↔ (idx, v) ∈ s := by
  unfold Seen.last
  rw [last_foldl_iff idx v s none hnd]
  simp

theorem seen_perm {s s' : Seen} (hp : s.Perm s') (hnd : (s.map (·.1)).Nodup) :
    (∀ i, s.has i = s'.has i) ∧ (∀ i, s.last i = s'.last i) ∧ (∀ i, s.opt1 i = s'.opt1 i) := by
  have hnd' : (s'.map (·.1)).Nodup := ((hp.map (·.1)).nodup_iff).mp hnd
  have hlast : ∀ i, s.last i = s'.last i := by
    intro i
    apply Option.ext
    intro v
    rw [last_iff s i v hnd, last_iff s' i v hnd', hp.mem_iff]
  refine ⟨fun i => ?_, hlast, fun i => ?_⟩
  · unfold Seen.has; exact hp.any_eq
  · unfold Seen.opt1; rw [hlast]

theorem scan_perm (tbl : List OptSpec) (unk : Bytes → Option BErr) {bs bs' : List Block}
    (hp : bs.Perm bs') (hwf : WellFormed tbl bs) (hnr : NoRepeat tbl bs) :
    scanOpts tbl unk (flat bs) = .ok (seenOf tbl bs) ∧
    scanOpts tbl unk (flat bs') = .ok (seenOf tbl bs') ∧
    (∀ i, (seenOf tbl bs).has i = (seenOf tbl bs').has i) ∧
    (∀ i, (seenOf tbl bs).opt1 i = (seenOf tbl bs').opt1 i) := by
  have hwf' : WellFormed tbl bs' := fun b hb => hwf b (hp.mem_iff.mpr hb)
  have hsp : (seenOf tbl bs).Perm (seenOf tbl bs') := hp.filterMap _
  obtain ⟨h1, _, h3⟩ := seen_perm hsp hnr
  exact ⟨scan_blocks tbl unk bs hwf, scan_blocks tbl unk bs' hwf', h1, h3⟩

theorem Seen.has_iff {s : Seen} {i : Nat} : s.has i = true ↔ ∃ p ∈ s, p.1 = i := by
  simp [Seen.has]

theorem Seen.last_eq_none_of_ne {s : Seen} {i : Nat} (h : ∀ p ∈ s, p.1 ≠ i) : s.last i = none := by
  suffices ∀ acc, s.foldl (fun acc p => if p.1 == i then some p.2 else acc) acc = acc from this none
  induction s with
  | nil => exact fun _ => rfl
  | cons p s ih =>
    intro acc
    rw [List.foldl_cons, if_neg (by simpa using h p (by simp)), ih fun q hq => h q (by simp [hq])]

theorem has_of_block (tbl : List OptSpec) {bs : List Block} {b : Block} {i : Nat} {ts : List Tok}
    (hb : b ∈ bs) (h : blockSeen tbl b = some (i, ts)) : (seenOf tbl bs).has i = true :=
  Seen.has_iff.mpr ⟨(i, ts), List.mem_filterMap.mpr ⟨b, hb, h⟩, rfl⟩

end RedisVerif.Grammar
