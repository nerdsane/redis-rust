import RedisVerif.Model.ShardsClock
import RedisVerif.Lemmas.Shards

/-!
  The timed sharding model (`Model/ShardsClock.lean`): when every message kind carries the
  virtual time, N shards answer like one shard — also across TTLs and the passage of time.
  The stores of the shards (`datas`) are shards of the untimed layer: `set_time` on some of them is
  `Inv.filterOn`, a per-key operation is `refine_onShard`, DBSIZE is `length_abs`.
-/
namespace RedisVerif
namespace Shards
namespace Clock

open NMap

theorem expired_mono {a b : Nat} (h : a ≤ b) (e : Entry) (he : expired a e = true) : expired b e = true := by
  unfold expired at *
  cases hd : e.2 with
  | none => rw [hd] at he; cases he
  | some d => rw [hd] at he; simp only [decide_eq_true_eq] at he ⊢; omega

/-- a reader at `b ≥ a` cannot tell whether the entries expired at `a` were evicted -/
theorem liveE_filter {a b : Nat} (h : a ≤ b) (o : Option Entry) :
    liveE b (o.filter (fun e => !expired a e)) = liveE b o := by
  cases o with
  | none => rfl
  | some e =>
    by_cases he : expired a e = true
    · have hb := expired_mono h e he
      simp [Option.filter, he, liveE, hb]
    · simp [Option.filter, he]

theorem liveE_setTime {a b : Nat} (h : a ≤ b) (sh : TShard) (hw : WF sh.data) (k : Nat) :
    liveE b (get (setTime sh a).data k) = liveE b (get sh.data k) := by
  show liveE b (get (sh.data.filter (fun p => !expired a p.2)) k) = _
  rw [get_filter (fun p => !expired a p.2) hw, liveE_filter h]

theorem wf_setTime (sh : TShard) (a : Nat) (hw : WF sh.data) : WF (setTime sh a).data :=
  wf_filter _ hw

/-- after `set_time a` nothing in the store is expired at `a` -/
theorem liveE_self_setTime (sh : TShard) (a : Nat) (hw : WF sh.data) (k : Nat) :
    liveE a (get (setTime sh a).data k) = get (setTime sh a).data k := by
  have : get (setTime sh a).data k = (get sh.data k).filter (fun e => !expired a e) :=
    get_filter (fun p => !expired a p.2) hw k
  rw [this]
  cases get sh.data k with
  | none => rfl
  | some e =>
    by_cases he : expired a e = true
    · simp [Option.filter, he, liveE]
    · simp [Option.filter, he, liveE]

theorem tshard_set (st : List TShard) (i j : Nat) (s : TShard) :
    tshard (st.set i s) j = if i = j ∧ i < st.length then s else tshard st j := getD_set ..

theorem tshard_of_ge (st : List TShard) (i : Nat) (h : st.length ≤ i) :
    tshard st i = { data := [], clock := 0 } := getD_of_le _ _ _ h

/-- the stores of the shards: the untimed layer (`Inv`, `abs`, `refine_onShard`) applies to them -/
def datas (st : List TShard) : Shards Entry := st.map (·.data)

theorem shard_datas (st : List TShard) (i : Nat) : shard (datas st) i = (tshard st i).data := by
  unfold shard tshard datas
  rw [List.getD_eq_getElem?_getD, List.getD_eq_getElem?_getD, List.getElem?_map]
  cases st[i]? <;> rfl

/-- from time `t` on, no reader can tell the N shards from the one store -/
structure TRel (R : Routes) (st : List TShard) (s1 : TShard) (t : Nat) : Prop where
  inv : Inv R (datas st)
  wf1 : WF s1.data
  view : ∀ now, t ≤ now → ∀ k, liveE now (get (abs (datas st)) k) = liveE now (get s1.data k)

theorem TRel.len {R : Routes} {st : List TShard} {s1 : TShard} {t : Nat} (h : TRel R st s1 t) :
    st.length = R.N := by simpa [datas] using h.inv.len

theorem trel_init (R : Routes) : TRel R (tinit R.N) { data := [], clock := 0 } 0 := by
  have e : datas (tinit R.N) = Shards.init Entry R.N := by simp [datas, tinit, Shards.init]
  exact ⟨e ▸ inv_init R, wf_nil, fun _ _ _ => by rw [e, abs_init]⟩

/-- the shards in `W` (and maybe the one store) adopt a time `now ≥ t`: still indistinguishable, from
    `now` on -/
theorem trel_adopt {R : Routes} {st st' : List TShard} {s1 s1' : TShard} {t now : Nat}
    (h : TRel R st s1 t) (ht : t ≤ now) (hlen : st'.length = st.length) (W : Nat → Bool)
    (hst : ∀ j, j < st.length → tshard st' j = if W j then setTime (tshard st j) now else tshard st j)
    (hs1 : s1' = s1 ∨ s1' = setTime s1 now) : TRel R st' s1' now := by
  obtain ⟨hi, hg⟩ := h.inv.filterOn (st' := datas st') (fun p => !expired now p.2) W (by simp [datas, hlen])
    (fun j => by
      by_cases hj : j < st.length
      · rw [shard_datas, shard_datas, hst j hj]; split <;> rfl
      · rw [shard_of_ge _ j (by simp [datas, hlen]; omega), shard_of_ge _ j (by simp [datas]; omega)]; split <;> rfl)
  refine ⟨hi, ?_, fun now' hn k => ?_⟩
  · rcases hs1 with e | e <;> rw [e]
    · exact h.wf1
    · exact wf_setTime _ _ h.wf1
  · have e2 : liveE now' (get s1'.data k) = liveE now' (get s1.data k) := by
      rcases hs1 with e | e <;> rw [e]
      exact liveE_setTime hn _ h.wf1 k
    rw [e2, hg, ← h.view now' (Nat.le_trans ht hn) k]
    split
    · exact liveE_filter hn _
    · rfl

theorem wf_put (d : NMap Entry) (k : Key) (o : Option Entry) (h : WF d) : WF (put d k o) := by
  cases o with
  | none => exact wf_erase h
  | some e => exact wf_insert h

theorem get_put (d : NMap Entry) (k : Key) (o : Option Entry) (h : WF d) (k' : Nat) :
    get (put d k o) k' = if k' = k then o else get d k' := by
  cases o with
  | none => exact get_erase h k'
  | some e => exact get_insert k'

/-- a per-key operation at time `c` sees its slot only through `liveE c` -/
theorem slotT_congr (op : KOp) (c : Nat) (o o' : Option Entry) (h : liveE c o = liveE c o') :
    slotT op c o = slotT op c o' := by
  cases op <;> simp [slotT, h]

/-- what a per-key operation at clock `c` does to a store -/
def slotF (k : Key) (op : KOp) (c : Nat) (d : NMap Entry) : NMap Entry × R1 :=
  (put d k (slotT op c (get d k)).1, (slotT op c (get d k)).2)

theorem clock_keyExecAt (st : List TShard) (i : Nat) (k : Key) (op : KOp) (j : Nat) :
    (tshard (keyExecAt st i k op).1 j).clock = (tshard st j).clock := by
  show (tshard (st.set i _) j).clock = _
  rw [tshard_set]
  split
  · rename_i e; rw [← e.1]; rfl
  · rfl

/-- one per-key operation on shards and a store that all stand at `now`: `slotF` on the key's shard is
    `slotF` on the union (`refine_onShard`), and `slotF` sees the union and the store alike -/
theorem key_step {R : Routes} {st : List TShard} {s1 : TShard} {now : Nat} (h : TRel R st s1 now)
    (hv : R.Valid) (k : Key) (op : KOp) (hc : (tshard st (R.bytes k)).clock = now)
    (hc1 : s1.clock = now) :
    (keyExecAt st (R.bytes k) k op).2 = (keyExec s1 k op).2 ∧
    TRel R (keyExecAt st (R.bytes k) k op).1 (keyExec s1 k op).1 now := by
  obtain ⟨hi, ha, hq⟩ := refine_onShard h.inv (R.bytes k) (hv k).2 (f := slotF k op now) (K := [k])
    ⟨fun x hx => wf_put _ _ _ hx,
     fun x k' hx hk' => by
      show get (put x k _) k' = _
      rw [get_put _ _ _ hx, if_neg (by simpa using hk')],
     fun x y hx hy hxy => by
      have e := hxy k (by simp)
      refine ⟨by show (slotT op now (get x k)).2 = (slotT op now (get y k)).2; rw [e], fun k' hk' => ?_⟩
      show get (put x k _) k' = get (put y k _) k'
      rw [get_put _ _ _ hx, get_put _ _ _ hy, e, hxy k' hk']⟩ (by simp)
  have hslot : slotT op now (get (abs (datas st)) k) = slotT op now (get s1.data k) :=
    slotT_congr op now _ _ (h.view now (Nat.le_refl _) k)
  -- the shards' step and the store's step in terms of `slotF`
  have hd : datas (keyExecAt st (R.bytes k) k op).1 =
      (datas st).set (R.bytes k) (slotF k op now (shard (datas st) (R.bytes k))).1 := by
    show datas (st.set _ _) = _
    rw [datas, List.map_set, shard_datas]
    show (datas st).set _ (put _ k (slotT op (tshard st (R.bytes k)).clock _).1) = _
    rw [hc]; rfl
  have hr : (keyExecAt st (R.bytes k) k op).2 = (slotF k op now (shard (datas st) (R.bytes k))).2 := by
    show (slotT op (tshard st (R.bytes k)).clock (get (tshard st (R.bytes k)).data k)).2 = _
    rw [hc, shard_datas]; rfl
  refine ⟨?_, ?_, wf_put _ _ _ h.wf1, fun now' hn k' => ?_⟩
  · rw [hr, hq]
    show (slotT op now _).2 = (slotT op s1.clock _).2
    rw [hslot, hc1]
  · rw [hd]; exact hi
  · rw [hd, ha]
    show liveE now' (get (put _ k (slotT op now _).1) k') = liveE now' (get (put s1.data k (slotT op s1.clock _).1) k')
    rw [get_put _ _ _ h.inv.wf_abs, get_put _ _ _ h.wf1, hslot, hc1]
    split
    · rfl
    · exact h.view now' hn k'

def one : Routes := { N := 1, str := fun _ => 0, bytes := fun _ => 0 }

theorem tshard_one (s1 : TShard) : tshard [s1] 0 = s1 := rfl

theorem batch_fold {R : Routes} (hv : R.Valid) {now : Nat} (items : List (Key × KOp))
    (st : List TShard) (s1 : TShard) (acc : List R1) (h : TRel R st s1 now)
    (hc : ∀ it ∈ items, (tshard st (R.bytes it.1)).clock = now) (hc1 : items ≠ [] → s1.clock = now) :
    (items.foldl (fun (a : List TShard × List R1) it =>
        let r := keyExecAt a.1 (R.bytes it.1) it.1 it.2; (r.1, a.2 ++ [r.2])) (st, acc)).2 =
    (items.foldl (fun (a : List TShard × List R1) it =>
        let r := keyExecAt a.1 (one.bytes it.1) it.1 it.2; (r.1, a.2 ++ [r.2])) ([s1], acc)).2 ∧
    ∃ s1', (items.foldl (fun (a : List TShard × List R1) it =>
        let r := keyExecAt a.1 (one.bytes it.1) it.1 it.2; (r.1, a.2 ++ [r.2])) ([s1], acc)).1 = [s1'] ∧
      TRel R (items.foldl (fun (a : List TShard × List R1) it =>
        let r := keyExecAt a.1 (R.bytes it.1) it.1 it.2; (r.1, a.2 ++ [r.2])) (st, acc)).1 s1' now := by
  induction items generalizing st s1 acc with
  | nil => exact ⟨rfl, s1, rfl, h⟩
  | cons it items ih =>
    have hs1 : s1.clock = now := hc1 (by simp)
    obtain ⟨e1, e2⟩ := key_step h hv it.1 it.2 (hc it (by simp)) hs1
    simp only [List.foldl_cons]
    have hone : keyExecAt [s1] (one.bytes it.1) it.1 it.2 =
        ([(keyExec s1 it.1 it.2).1], (keyExec s1 it.1 it.2).2) := rfl
    rw [hone, e1]
    apply ih _ _ _ e2
    · intro x hx
      rw [clock_keyExecAt]; exact hc x (by simp [hx])
    · exact fun _ => hs1

theorem liveE_eq_filter (c : Nat) (o : Option Entry) :
    liveE c o = o.filter (fun e => !expired c e) := by
  cases o with
  | none => rfl
  | some e => by_cases he : expired c e = true <;> simp [liveE, Option.filter, he]

def liveData (c : Nat) (d : NMap Entry) : NMap Entry := d.filter (fun p => !expired c p.2)

theorem wf_liveData (c : Nat) (d : NMap Entry) (hw : WF d) : WF (liveData c d) := wf_filter _ hw

theorem dbsize_count {R : Routes} {st : List TShard} {s1 : TShard} {now : Nat} (h : TRel R st s1 now) :
    (st.map (fun sh => (liveData now sh.data).length)).sum = (liveData now s1.data).length := by
  -- the live parts of the shards are shards of the untimed model (`hi`) and their union is the
  -- live part of the one store (`habs`): `length_abs`
  obtain ⟨hi, hg⟩ := h.inv.filterOn (st' := (datas st).map (liveData now)) (fun p => !expired now p.2)
    (fun _ => true) (List.length_map _) (fun j => (shard_map _ _ rfl j).trans (if_pos rfl).symm)
  have habs : abs ((datas st).map (liveData now)) = liveData now s1.data :=
    NMap.ext hi.wf_abs (wf_liveData _ _ h.wf1) fun k => by
      rw [hg, if_pos rfl, ← liveE_eq_filter, h.view now (Nat.le_refl _) k, liveE_eq_filter]
      exact (get_filter (fun p => !expired now p.2) h.wf1 k).symm
  rw [← habs, length_abs hi, datas, List.map_map, List.map_map]
  rfl

theorem adopt_all (kind : Kind) (sh : TShard) (now : Nat) : adopt allCarry kind sh now = setTime sh now := rfl

theorem tshard_map_range (st : List TShard) (f : Nat → TShard) (j : Nat) :
    tshard ((List.range st.length).map f) j = if j < st.length then f j else { data := [], clock := 0 } := by
  unfold tshard
  rw [List.getD_eq_getElem?_getD, List.getElem?_map]
  by_cases hj : j < st.length
  · rw [List.getElem?_range hj, if_pos hj]; rfl
  · rw [if_neg hj, List.getElem?_eq_none (by simp; omega)]; rfl

theorem tshard_map (st : List TShard) (f : TShard → TShard) (j : Nat) :
    tshard (st.map f) j = if j < st.length then f (tshard st j) else { data := [], clock := 0 } := by
  unfold tshard
  rw [List.getD_eq_getElem?_getD, List.getElem?_map, List.getD_eq_getElem?_getD]
  by_cases hj : j < st.length
  · rw [if_pos hj, List.getElem?_eq_getElem hj]; rfl
  · rw [if_neg hj, List.getElem?_eq_none (by omega)]; rfl

/-- **one step**: when every message kind carries the time, a command at time `now ≥ t` gets the
    same replies from `R.N` shards and from one shard, and they stay indistinguishable -/
theorem timed_refines {R : Routes} (hv : R.Valid) {st : List TShard} {s1 : TShard} {t now : Nat}
    (h : TRel R st s1 t) (ht : t ≤ now) (c : TCmd) :
    (execNT R allCarry now st c).2 = (execNT one allCarry now [s1] c).2 ∧
    ∃ s1', (execNT one allCarry now [s1] c).1 = [s1'] ∧
      TRel R (execNT R allCarry now st c).1 s1' now := by
  cases c with
  | key kind k op =>
    have hi : R.bytes k < st.length := by rw [h.len]; exact (hv k).2
    have hrel : TRel R (st.set (R.bytes k) (setTime (tshard st (R.bytes k)) now)) (setTime s1 now) now :=
      trel_adopt h ht (by rw [List.length_set]) (fun j => R.bytes k == j) (fun j _ => by
        rw [tshard_set]
        by_cases e : R.bytes k = j
        · rw [if_pos ⟨e, hi⟩, if_pos (by simpa using e), e]
        · rw [if_neg (fun x => e x.1), if_neg (by simpa using e)]) (Or.inr rfl)
    have hck : (tshard (st.set (R.bytes k) (setTime (tshard st (R.bytes k)) now)) (R.bytes k)).clock = now := by
      rw [tshard_set, if_pos ⟨rfl, hi⟩]; rfl
    obtain ⟨e1, e2⟩ := key_step hrel hv k op hck rfl
    refine ⟨?_, (keyExec (setTime s1 now) k op).1, rfl, ?_⟩
    · show [(keyExecAt (st.set (R.bytes k) (setTime (tshard st (R.bytes k)) now)) (R.bytes k) k op).2] =
        [(keyExec (setTime s1 now) k op).2]
      rw [e1]
    · exact e2
  | batch kind items =>
    -- the shards after adopting the time
    let stN := (List.range st.length).map (fun i =>
      if items.any (fun it => R.bytes it.1 == i) then setTime (tshard st i) now else tshard st i)
    let s1a := if items.any (fun it => one.bytes it.1 == 0) then setTime s1 now else s1
    have hshN : ∀ j, j < st.length → tshard stN j =
        if items.any (fun it => R.bytes it.1 == j) then setTime (tshard st j) now else tshard st j := by
      intro j hj
      show tshard ((List.range st.length).map _) j = _
      rw [tshard_map_range, if_pos hj]
    have hrel : TRel R stN s1a now := by
      refine trel_adopt h ht (by simp [stN]) _ hshN ?_
      show (if _ then _ else _) = s1 ∨ (if _ then _ else _) = setTime s1 now
      split
      · exact Or.inr rfl
      · exact Or.inl rfl
    have hcN : ∀ it ∈ items, (tshard stN (R.bytes it.1)).clock = now := by
      intro it hit
      have hlt : R.bytes it.1 < st.length := by rw [h.len]; exact (hv it.1).2
      have hany : items.any (fun x => R.bytes x.1 == R.bytes it.1) = true :=
        List.any_eq_true.mpr ⟨it, hit, by simp⟩
      rw [hshN _ hlt, if_pos hany]; rfl
    have hc1 : items ≠ [] → s1a.clock = now := by
      intro hne
      have hany : items.any (fun it => one.bytes it.1 == 0) = true := by
        cases items with
        | nil => exact absurd rfl hne
        | cons it _ => simp [one]
      show (if _ then _ else _ : TShard).clock = now
      rw [if_pos hany]; rfl
    have hf := batch_fold hv items stN s1a [] hrel hcN hc1
    exact hf
  | dbsize =>
    have hrel : TRel R (st.map (fun sh => setTime sh now)) (setTime s1 now) now :=
      trel_adopt h ht (by simp) (fun _ => true)
        (fun j hj => by rw [tshard_map, if_pos hj, if_pos rfl]) (Or.inr rfl)
    refine ⟨?_, setTime s1 now, rfl, hrel⟩
    have hcount := dbsize_count hrel
    simp only [execNT]
    rw [sum_cast_map, sum_cast_map]
    have e1 : ((st.map (fun sh => adopt allCarry .generic sh now)).map
        (fun sh => (sh.data.filter (fun p => !expired sh.clock p.2)).length)) =
        (st.map (fun sh => setTime sh now)).map (fun sh => (liveData now sh.data).length) := by
      rw [List.map_map, List.map_map]
      apply List.map_congr_left
      intro sh _
      rfl
    rw [e1, hcount]
    simp [adopt_all, liveData, setTime]

/-- **any run**: with monotone virtual time, the replies of `R.N` shards and of one shard agree -/
theorem runNT_refines {R : Routes} (hv : R.Valid) (steps : List (Nat × TCmd)) {st : List TShard}
    {s1 : TShard} {t : Nat} (h : TRel R st s1 t) (hm : Mono t steps) :
    runNT R allCarry st steps = runNT one allCarry [s1] steps := by
  induction steps generalizing st s1 t with
  | nil => rfl
  | cons x xs ih =>
    obtain ⟨now, c⟩ := x
    obtain ⟨e1, s1', e2, e3⟩ := timed_refines hv h hm.1 c
    show (execNT R allCarry now st c).2 :: runNT R allCarry (execNT R allCarry now st c).1 xs =
      (execNT one allCarry now [s1] c).2 :: runNT one allCarry (execNT one allCarry now [s1] c).1 xs
    rw [e1, e2, ih e3 hm.2]

end Clock
end Shards
end RedisVerif
