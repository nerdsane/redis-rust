import RedisVerif.Model.GrammarGen
import RedisVerif.Lemmas.GrammarErrs

/-
  The error / constructor alphabet of the generic body: everything `runGen d` can answer is named by
  the descriptor `d` — the literals of its slots, of its tail (option values, missing values, the
  unknown-word policy, the odd-pairs text), of its finishing function; the formatted errors of its
  option table; the constructors of its finishing function.
-/
namespace RedisVerif.Grammar

def Tail.plain : Tail → Bool
  | .scan tbl _ => plainOpts' tbl
  | _ => true

def Tail.lits : Tail → List Lit
  | .many a => argErrs a
  | .pairs a b => argErrs a ++ argErrs b
  | .scan tbl unk => optErrs tbl ++ (match unk with | .lit l => [l] | .fmt _ => [])
  | .flagsPairs _ odd a b => odd :: (argErrs a ++ argErrs b)
  | _ => []

def Tail.fmts : Tail → List Fmt
  | .scan tbl unk => tbl.filterMap (·.reject) ++ (match unk with | .fmt f => [f] | .lit _ => [])
  | _ => []

/-- every error literal a body of this shape can answer -/
def GenDesc.lits (d : GenDesc) : List Lit :=
  d.pre.flatMap argErrs ++ d.opt.flatMap argErrs ++ d.tail.lits ++ d.finLits

/-- what a body of shape `d` may answer -/
def Allowed (d : GenDesc) : BRes → Prop
  | .ok c => c.ctor ∈ d.ctors
  | .error e => e = .unreachable ∨ (∃ l ∈ d.lits, e = .lit l) ∨ (∃ f ∈ d.tail.fmts, ∃ w, e = .fmt f w)

theorem takeSlots_err : ∀ (as : List Arg) (vs : List Bytes) (e : BErr),
    takeSlots as vs = .error e → e = .unreachable ∨ ∃ l ∈ as.flatMap argErrs, e = .lit l
  | [], _, _, h => by cases h
  | _ :: _, [], _, h => Or.inl (Except.error.inj h).symm
  | a :: as, v :: vs, e, h => by
    rw [takeSlots] at h
    rcases bind_err h with hx | ⟨t, -, h⟩
    · exact Or.inr (mem_lits (fun l hl => by simp [hl]) (extract_err hx))
    · rcases bind_err h with hy | ⟨r, -, h⟩
      · exact (takeSlots_err as vs e hy).imp_right (mem_lits fun l hl => by simp [hl])
      · cases h

theorem takeOpt_err : ∀ (as : List Arg) (vs : List Bytes) (e : BErr),
    takeOpt as vs = .error e → ∃ l ∈ as.flatMap argErrs, e = .lit l
  | [], _, _, h => by cases h
  | _ :: _, [], _, h => by cases h
  | a :: as, v :: vs, e, h => by
    rw [takeOpt] at h
    rcases bind_err h with hx | ⟨t, -, h⟩
    · exact mem_lits (fun l hl => by simp [hl]) (extract_err hx)
    · rcases bind_err h with hy | ⟨r, -, h⟩
      · exact mem_lits (fun l hl => by simp [hl]) (takeOpt_err as vs e hy)
      · cases h

theorem tail_run_err (t : Tail) (hp : t.plain = true) (rest : List Bytes) (e : BErr) (h : t.run rest = .error e) :
    e = .unreachable ∨ (∃ l ∈ t.lits, e = .lit l) ∨ (∃ f ∈ t.fmts, ∃ w, e = .fmt f w) := by
  cases t with
  | none =>
    simp only [Tail.run] at h
    split at h
    · cases h
    · exact Or.inl (Except.error.inj h).symm
  | ignore => cases h
  | raw => cases h
  | many a =>
    rcases bind_err (show extractAll a rest >>= _ = _ from h) with hx | ⟨us, -, h⟩
    · exact Or.inr (Or.inl (extractAll_err a rest e hx))
    · cases h
  | pairs a b =>
    rcases bind_err (show extractPairs a b rest >>= _ = _ from h) with hx | ⟨us, -, h⟩
    · exact (extractPairs_err a b rest e hx).imp And.left Or.inl
    · cases h
  | scan tbl unk =>
    rcases bind_err (show scanOpts tbl unk.fn rest >>= _ = _ from h) with hx | ⟨s, -, h⟩
    · rcases scan_err tbl unk.fn hp rest e hx with hl | ⟨w, hw⟩ | ⟨f, hf, hw⟩
      · exact Or.inr (Or.inl (mem_lits (fun l hl => List.mem_append_left _ hl) hl))
      · cases unk with
        | lit l => exact Or.inr (Or.inl ⟨l, by simp [Tail.lits], (Option.some.inj hw).symm⟩)
        | fmt f => exact Or.inr (Or.inr ⟨f, by simp [Tail.fmts], w, (Option.some.inj hw).symm⟩)
      · exact Or.inr (Or.inr ⟨f, List.mem_append_left _ hf, hw⟩)
    · cases h
  | flagsPairs fl odd a b =>
    simp only [Tail.run] at h
    split at h
    · exact Or.inr (Or.inl ⟨odd, by simp [Tail.lits], (Except.error.inj h).symm⟩)
    · rcases bind_err h with hx | ⟨us, -, h⟩
      · exact (extractPairs_err a b _ e hx).imp And.left
          fun hl => Or.inl (mem_lits (fun l hl => List.mem_cons_of_mem _ hl) hl)
      · cases h

/-- everything the generic body answers is named by its descriptor -/
theorem runGen_allowed (d : GenDesc) (hfin : FinOk d) (hp : d.tail.plain = true) (args : List Bytes) :
    Allowed d (runGen d args) := by
  unfold runGen
  cases d.dom.ok args.length with
  | false => exact Or.inl rfl
  | true =>
    cases hr : (do
        let p ← takeSlots d.pre args
        let o ← takeOpt d.opt p.2
        let tv ← d.tail.run o.2
        d.fin (p.1 ++ o.1) tv : BRes) with
    | ok c =>
      obtain ⟨p, -, h⟩ := bind_ok hr
      obtain ⟨o, -, h⟩ := bind_ok h
      obtain ⟨tv, -, h⟩ := bind_ok h
      have := hfin (p.1 ++ o.1) tv
      rwa [h] at this
    | error e =>
      have lits : ∀ {L : List Lit}, (∀ l ∈ L, l ∈ d.lits) → (∃ l ∈ L, e = .lit l) → Allowed d (.error e) :=
        fun hsub h => Or.inr (Or.inl (mem_lits hsub h))
      rcases bind_err hr with hs | ⟨p, -, h⟩
      · exact (takeSlots_err _ _ _ hs).elim Or.inl (lits fun l hl => by simp [GenDesc.lits, hl])
      · rcases bind_err h with ho | ⟨o, -, h⟩
        · exact lits (fun l hl => by simp [GenDesc.lits, hl]) (takeOpt_err _ _ _ ho)
        · rcases bind_err h with ht | ⟨tv, -, h⟩
          · rcases tail_run_err _ hp _ _ ht with h1 | h2 | h3
            · exact Or.inl h1
            · exact lits (fun l hl => by simp [GenDesc.lits, hl]) h2
            · exact Or.inr (Or.inr h3)
          · have := hfin (p.1 ++ o.1) tv
            rw [h] at this
            exact this.elim Or.inl (lits fun l hl => by simp [GenDesc.lits, hl])

theorem body_gen_finOk (b : Body) : FinOk b.gen := by
  cases b with
  | custom cb => exact cb.fin_ok
  | const c => intro ts tv; simp [Body.gen]
  | fixed c sl => intro ts tv; simp [Body.gen]
  | many c p e => intro ts tv; simp only [Body.gen]; cases tv <;> simp [vecFin]
  | pairs c p a b' => intro ts tv; simp only [Body.gen]; cases tv <;> simp [vecFin]

end RedisVerif.Grammar
