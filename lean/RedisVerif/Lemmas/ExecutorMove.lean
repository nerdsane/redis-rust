import RedisVerif.Lemmas.ExecutorSetHash

/-! Refinement of SORT [STORE] and of RPOPLPUSH / LMOVE (two keys, destination check before the pop). -/
set_option linter.unusedSimpArgs false

namespace RedisVerif.Executor
open RedisVerif RedisVerif.Redis


/-- the second half of M7's `execSort` -/
def sortTailM (s : State) (es : List BS) (st : Option Nat) : State × Reply :=
  if es.any (fun e => (sortNum e).isNone) then (s, .err .notDouble)
  else
    match st with
    | none => (s, .arr ((sortAll es).map Elem.bulk))
    | some d => (putList s d (sortAll es) none, .int (sortAll es).length)

theorem execSort_eq (s : State) (k : Nat) (st : Option Nat) :
    execSort s k st = (match sortSource s k with
      | none => (s, .err .wrongType)
      | some es => sortTailM s es st) := by
  unfold execSort sortTailM
  cases sortSource s k <;> rfl

theorem cSortTail_sim {c : CState} (h : CInv c) (es : List BS) (st : Option Nat) :
    SimF c (fun s => sortTailM s es st) (cSortTail c es st) := by
  unfold cSortTail sortTailM
  by_cases hany : es.any (fun e => (sortNum e).isNone) = true
  · simp only [hany, if_true]
    exact simF_refl h rfl
  · simp only [hany, Bool.false_eq_true, if_false]
    cases st with
    | none => exact simF_refl h rfl
    | some d =>
      -- STORE: an empty result removes the destination, any other replaces it, deadline and all
      cases hs : sortAll es with
      | nil => exact (Wrote.drop (e := none) h rfl).simF rfl
      | cons a b => exact (Wrote.fresh (v := .list (a :: b)) h (List.cons_ne_nil a b)).simF rfl

theorem cSort_sim {cs : CState} (h : CInv cs) (k : Nat) (st : Option Nat) :
    Sim cs (.sort k st) (cSort cs k st) := by
  show SimF cs (fun s => execSort s k st) _
  unfold cSort
  gv h k
  refine g.simF ?_
  have hf : ∀ es, sortSource (absP c) k = some es →
      SimF c (fun s => execSort s k st) (cSortTail c es st) := fun es he => by
    have := cSortTail_sim g.inv es st
    simp only [SimF, execSort_eq, he] at this ⊢
    exact this
  rcases o with _ | w
  · exact hf [] (by simp only [sortSource, g.look_none])
  · cases w
    case list l => exact hf l (by simp only [sortSource, g.look_some])
    case set m => exact hf _ (by simp only [sortSource, g.look_some])
    case zset z => exact hf _ (by simp only [sortSource, g.look_some])
    all_goals exact g.wrong (by simp only [execSort_eq, sortSource, g.look_some])


theorem isExpired_congr {c c' : CState} {k : Nat} (he : NMap.get c'.exp k = NMap.get c.exp k)
    (hn : c'.now = c.now) : isExpired c' k = isExpired c k := by
  unfold isExpired
  rw [he, hn]

/-- a second preamble, `get_value(k2)`, keeps what the first established of `k` -/
theorem After.keeps {cs c : CState} {k : Nat} {o : Option Value} (g : After cs k c o) (k2 : Nat) :
    After cs k (getValue c k2).1 o := by
  have g2 := after_getValue g.inv k2
  unfold getValue at g2 ⊢
  by_cases hx : isExpired c k2 = true
  · rw [if_pos hx] at g2 ⊢
    have hne : k ≠ k2 := fun e => by rw [← e, g.notExp] at hx; cases hx
    have u := (At.refl g.inv k2).drop
    have he := u.exp k hne
    exact ⟨g2.inv, g2.same.trans g.same, g.now, g.epoch, (isExpired_congr he rfl).trans g.notExp,
      (u.data k hne).trans g.val⟩
  · rw [if_neg hx]; exact g

/-- LMOVE / RPOPLPUSH: two preambles, `lazyDrop(src)` then `get_value(dst)`, which keeps `src` (`After.keeps`);
    from the state they leave, nothing is written (source absent or not a list; destination of another type: nothing
    is popped), or the list is rotated in place (`src = dst`, one write), or there are two writes, `Wrote.putBack` at
    `src` and `Wrote.store` at `dst`, which M7 sees as its two `putList` (`Wrote.simF₂`). -/
theorem cLMove_sim {cs : CState} (h : CInv cs) (src dst : Nat) (frm to : Side) :
    SimF cs (fun s => execLMove s src dst frm to) (cLMove cs src dst frm to) := by
  unfold cLMove
  dsimp only
  have g0 := after_lazyDrop h src
  generalize lazyDrop cs src = c0 at g0 ⊢
  refine g0.simF ?_
  rcases hs : NMap.get c0.data src with _ | w <;> rw [hs] at g0
  · simp only [isListOpt, Bool.false_and, Bool.false_eq_true, if_false, hs]
    exact g0.keep (by simp only [execLMove, lookupList, g0.look_none])
  · cases w
    case list l =>
      obtain ⟨x, rest, hpop, _⟩ := popSide_of_ne_nil frm (valueOk_get g0.inv hs : l ≠ [])
      have gs := g0.keeps dst
      have gd := after_getValue g0.inv dst
      rcases hr : getValue c0 dst with ⟨c1, od⟩
      rw [hr] at gs gd
      dsimp only at gs gd
      refine gd.simF ?_
      simp only [hs, isListOpt, Bool.true_and, if_true, gs.val, hpop]
      by_cases hsd : src = dst
      · -- rotation in place: the destination is the list itself
        subst hsd
        obtain rfl : od = some (.list l) := gd.val.symm.trans gs.val
        have hx2 : isExpired { c1 with data := NMap.insert src (.list rest) c1.data } src = false := gs.notExp
        simp only [notListNorNone, Bool.false_eq_true, if_false, beq_self_eq_true, Bool.not_true, Bool.and_false,
          lazyDrop, hx2, NMap.get_insert, if_true, NMap.insert_insert gs.inv.wfd]
        exact gs.put (v := .list (pushOne to rest x)) (pushOne_ne_nil to rest x) (by
          simp only [execLMove, lookupList, gs.look_some, hpop, if_true, putList_eq])
      · -- two keys: store back + clean-up at `src`, which leaves `dst` alone, then the push at `dst`
        have hds : dst ≠ src := fun e => hsd e.symm
        obtain ⟨e1, he1, hw1⟩ := Wrote.putBack (k := src) (v := .list rest) gs.inv gs.notExp trivial
        simp only [beq_eq_false_iff_ne.mpr hsd, Bool.not_false, Bool.and_true]
        rw [show (if rest.isEmpty = true then
            dropKey { c1 with data := NMap.insert src (.list rest) c1.data } src
            else { c1 with data := NMap.insert src (.list rest) c1.data }) = putBack c1 src (.list rest) from rfl]
        generalize putBack c1 src (.list rest) = c3 at hw1 ⊢
        have hx3 : isExpired c3 dst = false := (isExpired_congr (hw1.exp dst hds) hw1.now).trans gd.notExp
        simp only [lazyDrop, hx3, Bool.false_eq_true, if_false, hw1.data dst hds, gd.val]
        have fin := fun l' => hw1.simF₂ (r := .bulk x) (f := fun s => execLMove s src dst frm to)
          (Wrote.store hw1.inv hx3 (v := .list (pushOne to l' x)) (pushOne_ne_nil to l' x)) gs.inv
        rw [show (NMap.get c3.exp dst).map (· + c3.epoch) = (NMap.get c1.exp dst).map (· + c1.epoch) by
          rw [hw1.exp dst hds, hw1.epoch]] at fin
        rcases od with _ | wd
        · simp only [notListNorNone, Bool.false_eq_true, if_false]
          exact fin [] (by
            simp only [execLMove, lookupList, gs.look_some, hpop, hsd, if_false, gd.look_none, putList_eq, he1]
            rw [exp_none_of_data_none gd.inv gd.val]; cases to <;> rfl)
        · cases wd <;> simp only [notListNorNone, Bool.false_eq_true, if_false, if_true]
          case list l' =>
            exact fin l' (by
              simp only [execLMove, lookupList, gs.look_some, hpop, hsd, if_false, gd.look_some, putList_eq, he1]
              rw [putEntry_ok (v := .list (pushOne to l' x)) (pushOne_ne_nil to l' x)]; rfl)
          all_goals
            exact gd.wrong (by simp only [execLMove, lookupList, gs.look_some, hpop, hsd, if_false, gd.look_some])
    all_goals
      simp only [isListOpt, Bool.false_and, Bool.false_eq_true, if_false, hs]
      exact g0.wrong (by simp only [execLMove, lookupList, g0.look_some])

end RedisVerif.Executor
