import RedisVerif.Model.ConnWrite
import RedisVerif.Lemmas.Conn

/-
  The write side of the connection (Model/ConnWrite.lean) refines the read side: the bytes on the wire
  are (a prefix of) the encoding of the actions of `Conn.run`, by the invariants `Rel` / `RelNF`.
-/
namespace RedisVerif.ConnW
open RedisVerif.Resp RedisVerif.Conn

theorem anyCrash_eq (a : List Action) : anyCrash a = hasCrash a := by
  induction a with
  | nil => rfl
  | cons x xs ih => cases x <;> simp [anyCrash, hasCrash, ih]

/-- whatever the peer does, what it receives is a prefix of the buffer -/
theorem writeAll_prefix : ∀ (sc : List WEv) (buf : Bytes), (writeAll sc buf).1 <+: buf := by
  intro sc
  induction sc with
  | nil => intro buf; cases buf <;> simp [writeAll]
  | cons e sc ih =>
    intro buf
    cases buf with
    | nil => simp [writeAll]
    | cons b bs =>
      cases e with
      | fail => simp [writeAll]
      | accept k =>
        unfold writeAll
        split
        · simp
        · have := ih ((b :: bs).drop k)
          obtain ⟨t, ht⟩ := this
          refine ⟨t, ?_⟩
          dsimp only
          rw [List.append_assoc, ht, List.take_append_drop]

/-- `write_all` returned `Ok`: the peer has received the whole buffer -/
theorem writeAll_ok : ∀ (sc : List WEv) (buf : Bytes), (writeAll sc buf).2.2 = true → (writeAll sc buf).1 = buf := by
  intro sc
  induction sc with
  | nil => intro buf _; cases buf <;> simp [writeAll]
  | cons e sc ih =>
    intro buf h
    cases buf with
    | nil => simp [writeAll]
    | cons b bs =>
      cases e with
      | fail => simp [writeAll] at h
      | accept k =>
        unfold writeAll at h ⊢
        split
        · rename_i hk; simp [hk] at h
        · rename_i hk
          simp only [hk, if_false] at h
          dsimp only at h ⊢
          rw [ih _ h, List.take_append_drop]

/-- a peer that never refuses receives everything, in however many pieces -/
theorem writeAll_noFail : ∀ (sc : List WEv) (buf : Bytes), NoFail sc = true →
    (writeAll sc buf).1 = buf ∧ (writeAll sc buf).2.2 = true ∧ NoFail (writeAll sc buf).2.1 = true := by
  intro sc
  induction sc with
  | nil => intro buf _; cases buf <;> simp [writeAll, NoFail]
  | cons e sc ih =>
    intro buf h
    cases buf with
    | nil => exact ⟨by simp [writeAll], by simp [writeAll], by simpa [writeAll] using h⟩
    | cons b bs =>
      cases e with
      | fail => simp [NoFail] at h
      | accept k =>
        simp only [NoFail, Bool.and_eq_true, decide_eq_true_eq] at h
        obtain ⟨r1, r2, r3⟩ := ih ((b :: bs).drop k) h.2
        unfold writeAll
        simp only [h.1, if_false]
        exact ⟨by rw [r1, List.take_append_drop], r2, r3⟩

theorem encActs_append {σ : Type} (ex : Exec σ) : ∀ (a b : List Action) (s : σ), anyCrash a = false →
    encActs ex s (a ++ b) =
      ((encActs ex (encActs ex s a).1 b).1, (encActs ex s a).2 ++ (encActs ex (encActs ex s a).1 b).2) := by
  intro a
  induction a with
  | nil => intro b s _; simp [encActs]
  | cons x xs ih =>
    intro b s h
    cases x with
    | crash => simp [anyCrash] at h
    | _ =>
      simp only [anyCrash] at h
      simp only [List.cons_append, encActs, ih b _ h, List.append_assoc]

theorem anyCrash_append (a b : List Action) : anyCrash (a ++ b) = (anyCrash a || anyCrash b) := by
  rw [anyCrash_eq, anyCrash_eq, anyCrash_eq, hasCrash_append]

/-- the encoding of a prefix of the actions is a prefix of the encoding -/
theorem encActs_prefix {σ : Type} (ex : Exec σ) (a b : List Action) (s : σ) (h : anyCrash a = false) :
    (encActs ex s a).2 <+: (encActs ex s (a ++ b)).2 := by
  rw [encActs_append ex a b s h]
  exact ⟨_, rfl⟩

/-- the actions of a well-formed pipeline encode to the replies of its frames -/
theorem encActs_execAll {σ : Type} (ex : Exec σ) : ∀ (cmds : List Cmd) (s : σ),
    (encActs ex s (execAll cmds)).2 = replyBytes ex s (cmds.map cmdFrame) := by
  intro cmds
  induction cmds with
  | nil => intro s; rfl
  | cons c cs ih =>
    intro s
    simp only [execAll, List.map_cons, encActs, replyBytes]
    have := ih (ex s (cmdFrame c) Path.generic).1
    simp only [execAll] at this
    rw [this]

theorem anyCrash_execAll (cmds : List Cmd) : anyCrash (execAll cmds) = false := by
  induction cmds with
  | nil => rfl
  | cons c cs ih => simpa [execAll, anyCrash] using ih

theorem run_eq_pureFold (cfg : Config) (segs : List Bytes) :
    run cfg segs = (pureFold cfg (St.init, []) (chunksOf cfg segs)).2 := rfl

/-- reads of a prefix of the chunks produce a prefix of the actions -/
theorem pureFold_take (cfg : Config) (chunks : List Bytes) (n : Nat) (acc : St × List Action) :
    ∃ tail, (pureFold cfg acc chunks).2 = (pureFold cfg acc (chunks.take n)).2 ++ tail := by
  obtain ⟨tail, h⟩ := reads_append cfg (chunks.drop n) (pureFold cfg acc (chunks.take n)).1 (pureFold cfg acc (chunks.take n)).2
  refine ⟨tail, Eq.trans ?_ h⟩
  conv => lhs; rw [← List.take_append_drop n chunks]
  exact congrArg Prod.snd List.foldl_append

theorem onRead_closed (cfg : Config) (st : St) (c : Bytes) (h : st.closed = true) : onRead cfg st c = (st, []) := by
  simp [onRead, h]

/-! ### the refinement: bytes on the wire = encoding of the actions -/

/-- relation between the byte-level state and the action-level fold after the same reads -/
structure Rel {σ : Type} (ex : Exec σ) (s0 : σ) (s : WSt σ) (acc : St × List Action) : Prop where
  nocrash : anyCrash acc.2 = false
  /-- nothing but (a prefix of) the encoding of the actions ever reaches the peer -/
  out : s.out <+: (encActs ex s0 acc.2).2
  /-- while the loop runs: same read-side state, same executor state, the write buffer is empty
      between reads and everything encoded so far has been delivered -/
  live : s.ended = false →
    s.st = acc.1 ∧ s.ex = (encActs ex s0 acc.2).1 ∧ s.wbuf = [] ∧ s.out = (encActs ex s0 acc.2).2

/-- … and when the peer never refuses: everything is delivered, and the loop is only ever left
    through the overflow guard -/
structure RelNF {σ : Type} (ex : Exec σ) (s0 : σ) (s : WSt σ) (acc : St × List Action) : Prop
    extends Rel ex s0 s acc where
  script : NoFail s.script = true
  all : s.out = (encActs ex s0 acc.2).2
  ended : s.ended = true → acc.1.closed = true

theorem noFail_tail (e : WEv) (sc : List WEv) (h : NoFail (e :: sc) = true) : NoFail sc = true ∧ e ≠ .fail := by
  cases e with
  | fail => simp [NoFail] at h
  | accept k =>
    simp only [NoFail, Bool.and_eq_true] at h
    exact ⟨h.2, by intro hh; cases hh⟩

theorem ioStep_live {σ : Type} (cfg : Config) (ex : Exec σ) (s : WSt σ) (c : Bytes) (he : s.ended = false)
    (hnc : anyCrash (onRead cfg s.st c).2 = false) :
    let s' := ioStep cfg ex s c
    let r := onRead cfg s.st c
    let e := encActs ex s.ex r.2
    ∃ x, s'.out = s.out ++ x ∧ x <+: s.wbuf ++ e.2 ∧
      (s'.ended = false → x = s.wbuf ++ e.2 ∧ s'.st = r.1 ∧ s'.ex = e.1 ∧ s'.wbuf = []) ∧
      (NoFail s.script = true →
        x = s.wbuf ++ e.2 ∧ NoFail s'.script = true ∧ (s'.ended = true → r.1.closed = true)) := by
  dsimp only
  unfold ioStep
  simp only [he, hnc, Bool.false_eq_true, if_false]
  generalize hwd : s.wbuf ++ (encActs ex s.ex (onRead cfg s.st c).2).2 = w
  have hpre := writeAll_prefix s.script w
  by_cases hcl : (onRead cfg s.st c).1.closed = true
  · -- the overflow guard
    rw [if_pos hcl]
    exact ⟨_, rfl, hpre, fun h => Bool.noConfusion h, fun hnf =>
      ⟨(writeAll_noFail _ w hnf).1, (writeAll_noFail _ w hnf).2.2, fun _ => hcl⟩⟩
  rw [if_neg hcl]
  by_cases hw : w = []
  · -- nothing to write
    subst hw
    rw [if_pos rfl]
    exact ⟨[], by simp, List.prefix_refl _, fun _ => ⟨rfl, rfl, rfl, (List.append_eq_nil_iff.mp hwd).1⟩,
      fun hnf => ⟨rfl, hnf, fun h => Bool.noConfusion h⟩⟩
  rw [if_neg hw]
  by_cases hok : (writeAll s.script w).2.2 = false
  · -- `write_all` failed
    rw [if_pos hok]
    exact ⟨_, rfl, hpre, fun h => Bool.noConfusion h, fun hnf => by
      rw [(writeAll_noFail _ w hnf).2.1] at hok; exact Bool.noConfusion hok⟩
  rw [if_neg hok]
  have hd := writeAll_ok s.script w (by simpa using hok)
  -- the flush
  cases hsc : (writeAll s.script w).2.1 with
  | nil => exact ⟨_, rfl, hpre, fun _ => ⟨hd, rfl, rfl, rfl⟩, fun _ => ⟨hd, rfl, fun h => Bool.noConfusion h⟩⟩
  | cons e sc =>
    cases e with
    | fail =>
      exact ⟨_, rfl, hpre, fun h => Bool.noConfusion h, fun hnf => by
        have := (writeAll_noFail _ w hnf).2.2; rw [hsc] at this; exact Bool.noConfusion this⟩
    | accept k =>
      exact ⟨_, rfl, hpre, fun _ => ⟨hd, rfl, rfl, rfl⟩, fun hnf => by
        have := (writeAll_noFail _ w hnf).2.2; rw [hsc] at this
        exact ⟨hd, (noFail_tail _ _ this).1, fun h => Bool.noConfusion h⟩⟩

theorem ioStep_ended {σ : Type} (cfg : Config) (ex : Exec σ) (s : WSt σ) (c : Bytes) (he : s.ended = true) :
    ioStep cfg ex s c = s := by
  simp [ioStep, he]

theorem ioStep_rel {σ : Type} (cfg : Config) (ex : Exec σ) (s0 : σ) (s : WSt σ) (acc : St × List Action) (c : Bytes)
    (h : Rel ex s0 s acc) (hnc : anyCrash (acc.2 ++ (onRead cfg acc.1 c).2) = false) :
    Rel ex s0 (ioStep cfg ex s c) ((onRead cfg acc.1 c).1, acc.2 ++ (onRead cfg acc.1 c).2) := by
  have hA := encActs_append ex acc.2 (onRead cfg acc.1 c).2 s0 h.nocrash
  cases he : s.ended with
  | true =>
    rw [ioStep_ended cfg ex s c he]
    exact ⟨hnc, by dsimp only; rw [hA]; exact h.out.trans (List.prefix_append _ _),
      fun h' => by rw [he] at h'; exact Bool.noConfusion h'⟩
  | false =>
    obtain ⟨l1, l2, l3, l4⟩ := h.live he
    obtain ⟨x, hout, hx, hlive, _⟩ := ioStep_live cfg ex s c he
      (by rw [l1]; rw [anyCrash_append] at hnc; exact (Bool.or_eq_false_iff.mp hnc).2)
    rw [l1, l2, l3, List.nil_append] at hx hlive
    refine ⟨hnc, ?_, fun h' => ?_⟩
    · dsimp only
      rw [hout, l4, hA]
      exact (List.prefix_append_right_inj _).mpr hx
    · obtain ⟨e1, e2, e3, e4⟩ := hlive h'
      dsimp only
      rw [hA]
      exact ⟨e2, e3, e4, by rw [hout, l4, e1]⟩

theorem ioStep_relNF {σ : Type} (cfg : Config) (ex : Exec σ) (s0 : σ) (s : WSt σ) (acc : St × List Action) (c : Bytes)
    (h : RelNF ex s0 s acc) (hnc : anyCrash (acc.2 ++ (onRead cfg acc.1 c).2) = false) :
    RelNF ex s0 (ioStep cfg ex s c) ((onRead cfg acc.1 c).1, acc.2 ++ (onRead cfg acc.1 c).2) := by
  have hrel := ioStep_rel cfg ex s0 s acc c h.toRel hnc
  cases he : s.ended with
  | true =>
    have hon := onRead_closed cfg acc.1 c (h.ended he)
    have hst := ioStep_ended cfg ex s c he
    exact { toRel := hrel, script := by rw [hst]; exact h.script,
            all := by rw [hst, hon]; simpa using h.all, ended := fun _ => by rw [hon]; exact h.ended he }
  | false =>
    obtain ⟨l1, l2, l3, l4⟩ := h.live he
    obtain ⟨x, hout, _, _, hnf⟩ := ioStep_live cfg ex s c he
      (by rw [l1]; rw [anyCrash_append] at hnc; exact (Bool.or_eq_false_iff.mp hnc).2)
    obtain ⟨e1, e2, e3⟩ := hnf h.script
    rw [l1, l2, l3, List.nil_append] at e1
    exact { toRel := hrel, script := e2,
            all := by dsimp only; rw [hout, l4, e1, encActs_append ex acc.2 _ s0 h.nocrash],
            ended := by rw [l1] at e3; exact e3 }

/-- `R` is carried through the reads under the premise "no panic so far", which a run without panic meets
    at every read -/
theorem fold_inv {σ : Type} (cfg : Config) (ex : Exec σ) (R : WSt σ → St × List Action → Prop)
    (hstep : ∀ s acc c, R s acc → anyCrash (acc.2 ++ (onRead cfg acc.1 c).2) = false →
      R (ioStep cfg ex s c) ((onRead cfg acc.1 c).1, acc.2 ++ (onRead cfg acc.1 c).2))
    (chunks : List Bytes) (s : WSt σ) (acc : St × List Action) (h : R s acc)
    (hnc : anyCrash (pureFold cfg acc chunks).2 = false) :
    R (chunks.foldl (ioStep cfg ex) s) (pureFold cfg acc chunks) :=
  List.foldl_rel (r := fun s acc => anyCrash acc.2 = false → R s acc) (fun _ => h)
    (fun c _ s acc ih hnc' =>
      hstep s acc c (ih (Bool.or_eq_false_iff.mp (anyCrash_append .. ▸ hnc')).1) hnc') hnc

theorem fold_relNF {σ : Type} (cfg : Config) (ex : Exec σ) (s0 : σ) : ∀ (chunks : List Bytes) (s : WSt σ) (acc : St × List Action),
    RelNF ex s0 s acc → anyCrash (pureFold cfg acc chunks).2 = false →
    RelNF ex s0 (chunks.foldl (ioStep cfg ex) s) (pureFold cfg acc chunks) :=
  fold_inv cfg ex (RelNF ex s0) (ioStep_relNF cfg ex s0)

theorem rel_init {σ : Type} (ex : Exec σ) (s0 : σ) (script : List WEv) :
    Rel ex s0 (WSt.init s0 script) (St.init, []) :=
  ⟨rfl, by simp [WSt.init, encActs], fun _ => ⟨rfl, rfl, rfl, rfl⟩⟩

theorem relNF_init {σ : Type} (ex : Exec σ) (s0 : σ) (script : List WEv) (h : NoFail script = true) :
    RelNF ex s0 (WSt.init s0 script) (St.init, []) :=
  { toRel := rel_init ex s0 script, script := h, all := rfl, ended := fun h' => Bool.noConfusion h' }

/-- any peer, any read error: the bytes the peer receives are a prefix of the encoding
    of the actions of `Conn.run` -/
theorem runW_prefix {σ : Type} (cfg : Config) (ex : Exec σ) (s0 : σ) (script : List WEv) (segs : List Bytes)
    (stopAfter : Option Nat) (hnc : hasCrash (run cfg segs) = false) :
    (runW cfg ex s0 script segs stopAfter).out <+: (encActs ex s0 (run cfg segs)).2 := by
  rw [← anyCrash_eq, run_eq_pureFold] at hnc
  rw [run_eq_pureFold]
  unfold runW
  cases stopAfter with
  | none => exact (fold_inv cfg ex (Rel ex s0) (ioStep_rel cfg ex s0) _ _ _ (rel_init ex s0 script) hnc).out
  | some n =>
    obtain ⟨tail, ht⟩ := pureFold_take cfg (chunksOf cfg segs) n (St.init, [])
    have hnc' : anyCrash (pureFold cfg (St.init, []) ((chunksOf cfg segs).take n)).2 = false := by
      rw [ht, anyCrash_append] at hnc
      simp only [Bool.or_eq_false_iff] at hnc
      exact hnc.1
    have := (fold_inv cfg ex (Rel ex s0) (ioStep_rel cfg ex s0) _ _ _ (rel_init ex s0 script) hnc').out
    rw [ht]
    exact List.IsPrefix.trans this (encActs_prefix ex _ tail s0 hnc')

/-- a peer that never refuses, no read error: the bytes the peer receives ARE the
    encoding of the actions of `Conn.run`, whatever the sizes of the partial writes -/
theorem runW_eq {σ : Type} (cfg : Config) (ex : Exec σ) (s0 : σ) (script : List WEv) (segs : List Bytes)
    (hnf : NoFail script = true) (hnc : hasCrash (run cfg segs) = false) :
    (runW cfg ex s0 script segs none).out = (encActs ex s0 (run cfg segs)).2 := by
  rw [← anyCrash_eq, run_eq_pureFold] at hnc
  rw [run_eq_pureFold]
  exact (fold_relNF cfg ex s0 _ _ _ (relNF_init ex s0 script hnf) hnc).all

/-! ### the client's side: decoding the reply stream -/

/-- values the server may put on the wire so that decoder `c` on a machine `env` gives them back:
    of the reply type, within the stack, at most 32 nested arrays -/
def ValOK (c : Codec) (env : Env) (v : Val) : Prop :=
  v.wf c = true ∧ v.depth ≤ env.depth ∧ v.arr ≤ maxNesting

instance (c : Codec) (env : Env) (v : Val) : Decidable (ValOK c env v) := by unfold ValOK; infer_instance

theorem codec_good_fixed (c : Codec) (h : c = codec1 ∨ c = codec2) : c.Good ∧ c.Fixed maxNesting := by
  cases h with
  | inl h => subst h; exact ⟨codec1_good, codec1_fixed⟩
  | inr h => subst h; exact ⟨codec2_good, codec2_fixed⟩

/-- the concatenation of encoded values drains to exactly those values (as written on the wire),
    nothing left over, decoder alive -/
theorem drain_encoded (c : Codec) (hc : c = codec1 ∨ c = codec2) (env : Env) (hd : 1 ≤ env.depth) :
    ∀ (vs : List Val) (f : Nat), vs.length < f → (∀ v ∈ vs, ValOK c env v) →
      Small (vs.map encode2).flatten →
      drain (fun b => (parseG c env b).out) f (vs.map encode2).flatten =
        (vs.map (fun v => Frame.val v.san), [], false) := by
  obtain ⟨hg, hf⟩ := codec_good_fixed c hc
  intro vs
  induction vs with
  | nil =>
    intro f hf' _ _
    cases f with
    | zero => simp at hf'
    | succ f =>
      simp only [List.map_nil, List.flatten_nil, drain, parseG_empty c env hd]
  | cons v vs ih =>
    intro f hf' hok hs
    cases f with
    | zero => simp at hf'
    | succ f =>
      simp only [List.map_cons, List.flatten_cons] at hs ⊢
      obtain ⟨h1, h2, h3⟩ := hok v (by simp)
      have hp : (parseG c env (encode2 v ++ (vs.map encode2).flatten)).out = .ok v.san (encode2 v).length :=
        parseD_encode c hg maxNesting hf env.mem env.depth 0 v h2 (by omega) h1 _ hs
      unfold drain
      simp only [hp, List.drop_left]
      have hs' : Small (vs.map encode2).flatten := by
        unfold Small at *; simp at hs ⊢; omega
      rw [ih f (by simp at hf'; omega) (fun w hw => hok w (by simp [hw])) hs']

/-- a client that feeds the reply stream — in ANY fragmentation — to the buffer loop around
    decoder `c` obtains exactly the values, in order, with nothing left over -/
theorem feedAll_encoded (c : Codec) (hc : c = codec1 ∨ c = codec2) (env : Env) (hd : 1 ≤ env.depth)
    (vs : List Val) (hok : ∀ v ∈ vs, ValOK c env v) (chunks : List Bytes)
    (hch : chunks.flatten = (vs.map encode2).flatten) (hs : Small (vs.map encode2).flatten) :
    feedAll (fun b => (parseG c env b).out) FeedSt.init chunks =
      ⟨vs.map (fun v => Frame.val v.san), [], false⟩ := by
  obtain ⟨hg, _⟩ := codec_good_fixed c hc
  have hp := parseG_spec c hg env hd
  rw [feedAll_fragmentation _ hp chunks (by rw [hch]; exact hs), hch]
  rw [← drainAll_nil _ hp, feedAll_ofDrain _ hp _ [] (by simpa using hs)]
  simp only [List.nil_append, List.flatten_cons, List.flatten_nil, List.append_nil]
  unfold drainAll
  have hlen : vs.length < (vs.map encode2).flatten.length + 1 := Nat.lt_succ_of_le (flatten_len_ge vs)
  rw [drain_encoded c hc env hd vs _ hlen hok hs]
  rfl

theorem replyBytes_eq {σ : Type} (ex : Exec σ) : ∀ (fs : List Val) (s : σ),
    replyBytes ex s fs = ((replyVals ex s fs).map encode2).flatten := by
  intro fs
  induction fs with
  | nil => intro s; rfl
  | cons f rest ih =>
    intro s
    simp only [replyBytes, replyVals, List.map_cons, List.flatten_cons, ih, encode3_eq]

theorem replyVals_length {σ : Type} (ex : Exec σ) : ∀ (fs : List Val) (s : σ),
    (replyVals ex s fs).length = fs.length := by
  intro fs
  induction fs with
  | nil => intro s; rfl
  | cons f rest ih => intro s; simp [replyVals, ih]

theorem replyVals_ok {σ : Type} (ex : Exec σ) (P : Val → Prop) (h : ∀ s f p, P (ex s f p).2) :
    ∀ (fs : List Val) (s : σ), ∀ v ∈ replyVals ex s fs, P v := by
  intro fs
  induction fs with
  | nil => intro s v hv; simp [replyVals] at hv
  | cons f rest ih =>
    intro s v hv
    simp only [replyVals, List.mem_cons] at hv
    cases hv with
    | inl h1 => rw [h1]; exact h _ _ _
    | inr h1 => exact ih _ v h1

end RedisVerif.ConnW
