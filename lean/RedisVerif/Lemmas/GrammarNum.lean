import RedisVerif.Model.Grammar

/-
  Numeric literals: the digit loop of `from_str_radix`, `takeDigits`, decimal values.
  Used by `Props/C16Num.lean` (accepted language and value of `str::parse::<i64 / u64 / usize / f64>`
  as the grammar model reads them).
-/
namespace RedisVerif.Grammar

def isDigit (c : Nat) : Bool := 48 ≤ c && c ≤ 57

/-- every byte is an ASCII digit -/
def isDigits (s : Bytes) : Bool := s.all isDigit

/-- the decimal value of a digit string, most significant digit first -/
def decVal (s : Bytes) : Nat := s.foldl (fun a c => a * 10 + (c - 48)) 0

theorem digitVal_some {c : Nat} : (digitVal c).isSome = isDigit c := by
  unfold digitVal isDigit
  split <;> simp_all

theorem digitVal_eq {c d : Nat} (h : digitVal c = some d) : isDigit c = true ∧ d = c - 48 := by
  unfold digitVal at h
  unfold isDigit
  split at h
  · simp only [Option.some.injEq] at h; exact ⟨by assumption, h.symm⟩
  · simp at h

theorem digitVal_of_isDigit {c : Nat} (h : isDigit c = true) : digitVal c = some (c - 48) := by
  unfold digitVal
  unfold isDigit at h
  simp [h]

theorem foldl_dec (ds : Bytes) (acc : Nat) :
    ds.foldl (fun a c => a * 10 + (c - 48)) acc = acc * 10 ^ ds.length + decVal ds := by
  induction ds generalizing acc with
  | nil => simp [decVal]
  | cons d ds ih =>
    simp only [List.foldl_cons, List.length_cons, decVal]
    rw [ih, ih (0 * 10 + (d - 48))]
    simp only [Nat.zero_mul, Nat.zero_add, Nat.pow_succ]
    rw [Nat.add_mul, Nat.mul_assoc, Nat.mul_comm 10, Nat.add_assoc]

theorem decVal_cons (d : Nat) (ds : Bytes) : decVal (d :: ds) = (d - 48) * 10 ^ ds.length + decVal ds := by
  have := foldl_dec ds (0 * 10 + (d - 48))
  simpa [decVal] using this

/-- the digit loop succeeds exactly on digit strings whose value (continued from `acc`) fits:
    the accumulator only grows, so "every prefix fits" is "the whole fits" -/
theorem scanDigits_ok_iff (max : Nat) (ds : Bytes) (acc n : Nat) :
    scanDigits max acc ds = .ok n ↔
      (isDigits ds = true ∧ n = acc * 10 ^ ds.length + decVal ds ∧ (ds = [] ∨ n ≤ max)) := by
  induction ds generalizing acc with
  | nil => simp [scanDigits, isDigits, decVal, eq_comm]
  | cons d ds ih =>
    simp only [scanDigits, isDigits, List.all_cons, Bool.and_eq_true, List.length_cons, reduceCtorEq, false_or]
    cases hd : digitVal d with
    | none =>
      have : isDigit d = false := by rw [← digitVal_some, hd]; rfl
      simp [this]
    | some v =>
      obtain ⟨hdig, hv⟩ := digitVal_eq hd
      subst hv
      simp only [hdig, true_and]
      have hval : (acc * 10 + (d - 48)) * 10 ^ ds.length + decVal ds = acc * 10 ^ (ds.length + 1) + decVal (d :: ds) := by
        rw [decVal_cons, Nat.pow_succ, Nat.add_mul, Nat.mul_assoc, Nat.mul_comm 10, Nat.add_assoc]
      have hmono : acc * 10 + (d - 48) ≤ (acc * 10 + (d - 48)) * 10 ^ ds.length + decVal ds := by
        have : 1 ≤ 10 ^ ds.length := Nat.pow_pos (by omega)
        calc acc * 10 + (d - 48) = (acc * 10 + (d - 48)) * 1 := by omega
          _ ≤ (acc * 10 + (d - 48)) * 10 ^ ds.length := Nat.mul_le_mul_left _ this
          _ ≤ _ := Nat.le_add_right _ _
      by_cases hov : acc * 10 + (d - 48) > max
      · simp only [hov, if_true, reduceCtorEq, false_iff, not_and]
        intro _ hn
        rw [← hval] at hn
        omega
      · simp only [hov, if_false]
        rw [ih, hval]
        constructor
        · rintro ⟨h1, h2, h3⟩
          refine ⟨h1, h2, ?_⟩
          rcases h3 with rfl | h3
          · rw [h2, ← hval]
            simp only [List.length_nil, Nat.pow_zero, Nat.mul_one, decVal, List.foldl_nil, Nat.add_zero]
            omega
          · exact h3
        · rintro ⟨h1, h2, h3⟩
          exact ⟨h1, h2, Or.inr h3⟩

/-- the loop fails with `invalid` or with `overflow`, nothing else -/
theorem scanDigits_error_cases (max : Nat) (ds : Bytes) (acc : Nat) (e : IntErr) (h : scanDigits max acc ds = .error e) :
    e = .invalid ∨ e = .overflow := by
  induction ds generalizing acc with
  | nil => simp [scanDigits] at h
  | cons d ds ih =>
    simp only [scanDigits] at h
    cases hd : digitVal d with
    | none => rw [hd] at h; simp only [Except.error.injEq] at h; exact Or.inl h.symm
    | some v =>
      rw [hd] at h
      simp only at h
      split at h
      · simp only [Except.error.injEq] at h; exact Or.inr h.symm
      · exact ih _ h

theorem isDigits_append (a b : Bytes) : isDigits (a ++ b) = (isDigits a && isDigits b) := by
  simp [isDigits, List.all_append]

/-- `takeDigits` splits off the longest digit prefix -/
theorem takeDigits_spec (s : Bytes) :
    isDigits (takeDigits s).1 = true ∧ (takeDigits s).1 ++ (takeDigits s).2 = s ∧
    (∀ c r, (takeDigits s).2 = c :: r → isDigit c = false) := by
  induction s with
  | nil => simp [takeDigits, isDigits]
  | cons c cs ih =>
    simp only [takeDigits]
    by_cases hc : (48 ≤ c && c ≤ 57) = true
    · simp only [hc, if_true]
      obtain ⟨h1, h2, h3⟩ := ih
      refine ⟨?_, ?_, h3⟩
      · simp only [isDigits, List.all_cons, Bool.and_eq_true] at h1 ⊢
        exact ⟨by simpa [isDigit] using hc, h1⟩
      · simp [h2]
    · simp only [hc, Bool.false_eq_true, if_false, isDigits, List.all_nil, List.nil_append, true_and]
      intro c' r h
      simp only [List.cons.injEq] at h
      rw [← h.1]
      simpa [isDigit] using hc

/-- on `digits ++ rest` with `rest` not starting with a digit, `takeDigits` returns exactly the two parts -/
theorem takeDigits_append (ds rest : Bytes) (hd : isDigits ds = true) (hr : ∀ c r, rest = c :: r → isDigit c = false) :
    takeDigits (ds ++ rest) = (ds, rest) := by
  induction ds with
  | nil =>
    cases rest with
    | nil => rfl
    | cons c r =>
      have := hr c r rfl
      simp only [isDigit] at this
      simp [takeDigits, this]
  | cons d ds ih =>
    simp only [isDigits, List.all_cons, Bool.and_eq_true] at hd
    have hd1 : (48 ≤ d && d ≤ 57) = true := by simpa [isDigit] using hd.1
    simp only [List.cons_append, takeDigits, hd1, if_true, ih hd.2]

end RedisVerif.Grammar
