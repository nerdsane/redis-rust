import RedisVerif.Model.Shards
import RedisVerif.Lemmas.NMap

/-!
  Lemmas about the sharding-layer model (`Model/Shards.lean`): locality of the per-shard
  executor, the abstraction `abs`, the home invariant, refinement of every routable command.
-/
namespace RedisVerif
namespace Shards

open NMap

section lists
variable {ν : Type}

theorem getD_set {α : Type} (l : List α) (i j : Nat) (s d : α) :
    (l.set i s).getD j d = if i = j ∧ i < l.length then s else l.getD j d := by
  simp only [List.getD_eq_getElem?_getD, List.getElem?_set]
  by_cases h : i = j
  · subst h
    by_cases h2 : i < l.length <;> simp [h2]
  · simp [h]

theorem getD_of_le {α : Type} (l : List α) (i : Nat) (d : α) (h : l.length ≤ i) : l.getD i d = d := by
  simp [List.getD_eq_getElem?_getD, h]

theorem shard_set (st : Shards ν) (i j : Nat) (s : Store ν) :
    shard (st.set i s) j = if i = j ∧ i < st.length then s else shard st j := getD_set ..

theorem shard_set_self (st : Shards ν) (i : Nat) : st.set i (shard st i) = st := by
  apply List.ext_getElem?
  intro j
  rw [List.getElem?_set]
  by_cases h : i = j
  · subst h
    by_cases h2 : i < st.length
    · simp [h2, shard, List.getD_eq_getElem?_getD]
    · simp [h2]
  · simp [h]

theorem shard_of_ge (st : Shards ν) (i : Nat) (h : st.length ≤ i) : shard st i = [] :=
  getD_of_le _ _ _ h

theorem shard_map {μ : Type} (st : Shards ν) (f : Store ν → Store μ) (hf : f [] = []) (i : Nat) :
    shard (st.map f) i = f (shard st i) := by
  unfold shard
  rw [List.getD_eq_getElem?_getD, List.getD_eq_getElem?_getD, List.getElem?_map]
  cases st[i]? <;> simp [hf]

theorem shard_mem (st : Shards ν) (i : Nat) (h : i < st.length) : shard st i ∈ st := by
  unfold shard
  simp [List.getD_eq_getElem?_getD, h]

theorem mem_shard (st : Shards ν) (s : Store ν) (h : s ∈ st) : ∃ i, i < st.length ∧ shard st i = s := by
  obtain ⟨i, hi, he⟩ := List.getElem_of_mem h
  exact ⟨i, hi, by simp [shard, List.getD_eq_getElem?_getD, hi, he]⟩

end lists

section absn
variable {ν : Type}

theorem wf_abs (st : Shards ν) (h : ∀ s ∈ st, WF s) : WF (abs st) := by
  induction st with
  | nil => exact wf_nil
  | cons s rest ih =>
    exact wf_merge (h s (by simp)) (ih (fun x hx => h x (by simp [hx])))

theorem get_abs_cons (s : Store ν) (rest : Shards ν) (h : ∀ x ∈ s :: rest, WF x) (k : Nat) :
    get (abs (s :: rest)) k = (get s k).or (get (abs rest) k) := by
  have hs := h s (by simp)
  have hr := wf_abs rest (fun x hx => h x (by simp [hx]))
  show get (merge (fun x _ => x) s (abs rest)) k = _
  rw [get_merge hs hr]
  cases get s k <;> cases get (abs rest) k <;> rfl

theorem get_abs_of_unique (st : Shards ν) (h : ∀ s ∈ st, WF s) (k i : Nat)
    (hu : ∀ j, j ≠ i → get (shard st j) k = none) : get (abs st) k = get (shard st i) k := by
  induction st generalizing i with
  | nil => simp [abs, shard]
  | cons s rest ih =>
    rw [get_abs_cons s rest h]
    have hr : ∀ x ∈ rest, WF x := fun x hx => h x (by simp [hx])
    cases i with
    | zero =>
      have h0 : get (abs rest) k = none := by
        rw [ih hr rest.length]
        · rw [shard_of_ge _ _ (Nat.le_refl _)]; rfl
        · intro j _
          have := hu (j + 1) (by omega)
          simpa [shard] using this
      rw [h0]
      show _ = get s k
      cases get s k <;> rfl
    | succ i' =>
      have h0 : get s k = none := by
        have := hu 0 (by omega)
        simpa [shard] using this
      rw [h0]
      show get (abs rest) k = get (shard rest i') k
      apply ih hr
      intro j hj
      have := hu (j + 1) (by omega)
      simpa [shard] using this

end absn

/-- `R.N` canonical stores, every stored key in its home shard (`hash_key_bytes`) -/
structure Inv {ν : Type} (R : Routes) (st : Shards ν) : Prop where
  len : st.length = R.N
  wf : ∀ s ∈ st, WF s
  home : ∀ i k, (get (shard st i) k).isSome → R.bytes k = i

/-- both hashes are reduced modulo the shard count -/
def Routes.Valid (R : Routes) : Prop := ∀ k, R.str k < R.N ∧ R.bytes k < R.N

/-- every `hash_key` call site routes like `hash_key_bytes` -/
def Consistent (R : Routes) (fixed : Bool) : Prop := ∀ k, R.gen fixed k = R.bytes k

theorem consistent_fixed (R : Routes) : Consistent R true := fun _ => rfl

theorem consistent_of_routeConsistent (R : Routes) (h : ∀ k, R.str k = R.bytes k) (fixed : Bool) :
    Consistent R fixed := by
  intro k; cases fixed
  · exact h k
  · rfl

section inv
variable {ν : Type} {R : Routes}

theorem Inv.wf_shard {st : Shards ν} (h : Inv R st) (i : Nat) : WF (shard st i) := by
  by_cases hi : i < st.length
  · exact h.wf _ (shard_mem st i hi)
  · rw [shard_of_ge st i (by omega)]; exact wf_nil

theorem Inv.wf_abs {st : Shards ν} (h : Inv R st) : WF (abs st) := Shards.wf_abs st h.wf

theorem Inv.get_abs {st : Shards ν} (h : Inv R st) (k : Nat) :
    get (abs st) k = get (shard st (R.bytes k)) k := by
  apply get_abs_of_unique st h.wf
  intro j hj
  cases hg : get (shard st j) k with
  | none => rfl
  | some v =>
    have := h.home j k (by simp [hg])
    exact absurd this.symm hj

theorem inv_init (R : Routes) : Inv (ν := ν) R (init ν R.N) := by
  refine ⟨by simp [init], ?_, ?_⟩
  · intro s hs
    have : s = [] := by simpa [init] using (List.eq_of_mem_replicate hs)
    subst this; exact wf_nil
  · intro i k hk
    have : shard (init ν R.N) i = [] := by
      unfold shard init
      rw [List.getD_eq_getElem?_getD]
      cases h : (List.replicate R.N ([] : Store ν))[i]? with
      | none => rfl
      | some x =>
        have := List.mem_of_getElem? h
        simpa using (List.eq_of_mem_replicate this)
    rw [this] at hk; simp at hk

theorem abs_init (n : Nat) : abs (init ν n) = [] := by
  induction n with
  | zero => rfl
  | succ n ih =>
    show merge (fun x _ => x) [] (abs (List.replicate n [])) = []
    rw [merge_nil_left]; exact ih

theorem Inv.set {st : Shards ν} (h : Inv R st) (i : Nat) (s' : Store ν) (hwf : WF s')
    (hh : ∀ k, (get s' k).isSome → R.bytes k = i) : Inv R (st.set i s') := by
  refine ⟨by simp [h.len], ?_, ?_⟩
  · intro s hs
    rcases List.mem_or_eq_of_mem_set hs with hm | he
    · exact h.wf s hm
    · subst he; exact hwf
  · intro j k hk
    rw [shard_set] at hk
    split at hk
    · rename_i hc; rw [← hc.1]; exact hh k hk
    · exact h.home j k hk

theorem inv_of_shards {st : Shards ν} (hl : st.length = R.N)
    (hw : ∀ j, WF (shard st j)) (hh : ∀ j k, (get (shard st j) k).isSome → R.bytes k = j) :
    Inv R st := by
  refine ⟨hl, ?_, hh⟩
  intro s hs
  obtain ⟨i, _, he⟩ := mem_shard st s hs
  rw [← he]; exact hw i

/-- some shards drop the entries that fail a test (an expiry sweep): homes stay, and the union drops
    the same entries of the keys that live there -/
theorem Inv.filterOn {st st' : Shards ν} (h : Inv R st) (p : Nat × ν → Bool) (W : Nat → Bool)
    (hlen : st'.length = st.length)
    (hsh : ∀ j, shard st' j = if W j then (shard st j).filter p else shard st j) :
    Inv R st' ∧ ∀ k, get (abs st') k =
      if W (R.bytes k) then (get (abs st) k).filter (fun v => p (k, v)) else get (abs st) k := by
  have hget : ∀ j k, get (shard st' j) k =
      if W j then (get (shard st j) k).filter (fun v => p (k, v)) else get (shard st j) k := by
    intro j k; rw [hsh]; split
    · exact get_filter p (h.wf_shard j) k
    · rfl
  have hinv : Inv R st' := by
    refine inv_of_shards (hlen.trans h.len) (fun j => ?_) (fun j k hk => h.home j k ?_)
    · rw [hsh]; split
      · exact wf_filter p (h.wf_shard j)
      · exact h.wf_shard j
    · rw [hget] at hk
      split at hk
      · cases hg : get (shard st j) k with
        | none => rw [hg] at hk; cases hk
        | some _ => rfl
      · exact hk
  exact ⟨hinv, fun k => by rw [hinv.get_abs, hget, h.get_abs]⟩

/-- `f` reads and writes only the keys `K` (on canonical stores): canonical form is kept, a key outside
    `K` keeps its entry, the answer and the new entries of `K` depend on the old entries of `K` only -/
structure LocalTo {ρ : Type} (K : List Nat) (f : Store ν → Store ν × ρ) : Prop where
  wf : ∀ x, WF x → WF (f x).1
  frame : ∀ x k, WF x → k ∉ K → get (f x).1 k = get x k
  loc : ∀ x y, WF x → WF y → (∀ k ∈ K, get x k = get y k) →
    (f x).2 = (f y).2 ∧ ∀ k ∈ K, get (f x).1 k = get (f y).1 k

/-- **refinement of one message to one shard**: a transformer `f` that is local to keys `K`, all of
    which live in shard `i`, does to shard `i` exactly what it does to the union -/
theorem refine_onShard {ρ : Type} {st : Shards ν} (h : Inv R st) (i : Nat) (hi : i < R.N)
    {f : Store ν → Store ν × ρ} {K : List Nat} (L : LocalTo K f) (hK : ∀ k ∈ K, R.bytes k = i) :
    Inv R (st.set i (f (shard st i)).1) ∧
    abs (st.set i (f (shard st i)).1) = (f (abs st)).1 ∧
    (f (shard st i)).2 = (f (abs st)).2 := by
  have hws := h.wf_shard i
  have hwa := h.wf_abs
  have hloc := L.loc (shard st i) (abs st) hws hwa fun k hk => by rw [h.get_abs k, hK k hk]
  have hinv : Inv R (st.set i (f (shard st i)).1) := by
    apply h.set i _ (L.wf _ hws)
    intro k hk
    by_cases hkK : k ∈ K
    · exact hK k hkK
    · rw [L.frame _ k hws hkK] at hk
      exact h.home i k hk
  refine ⟨hinv, ?_, hloc.1⟩
  apply NMap.ext hinv.wf_abs (L.wf _ hwa)
  intro k
  rw [hinv.get_abs k, shard_set]
  by_cases hkK : k ∈ K
  · have : R.bytes k = i := hK k hkK
    simp only [this, h.len, hi, and_self, if_true]
    exact hloc.2 k hkK
  · rw [L.frame _ k hwa hkK, h.get_abs k]
    split
    · rename_i hc
      rw [L.frame _ k hws hkK, hc.1]
    · rfl

end inv

/-- the locality laws assumed of the abstract part of the executor: a command reads and writes
    only the keys it names (and keeps the store canonical) -/
structure Exec.Local {S : Sig} (E : Exec S) : Prop where
  wf1 : ∀ s k op, WF s → WF (E.exec1 s k op).1
  frame1 : ∀ s k op k', WF s → k' ≠ k → get (E.exec1 s k op).1 k' = get s k'
  local1 : ∀ s s' k op, WF s → WF s' → get s k = get s' k →
    (E.exec1 s k op).2 = (E.exec1 s' k op).2 ∧ get (E.exec1 s k op).1 k = get (E.exec1 s' k op).1 k
  wf2 : ∀ s a b op, WF s → WF (E.exec2 s a b op).1
  frame2 : ∀ s a b op k', WF s → k' ≠ a → k' ≠ b → get (E.exec2 s a b op).1 k' = get s k'
  local2 : ∀ s s' a b op, WF s → WF s' → get s a = get s' a → get s b = get s' b →
    (E.exec2 s a b op).2 = (E.exec2 s' a b op).2 ∧
    get (E.exec2 s a b op).1 a = get (E.exec2 s' a b op).1 a ∧
    get (E.exec2 s a b op).1 b = get (E.exec2 s' a b op).1 b

def keyList {S : Sig} : Cmd S → List Key
  | .single k _ => [k]
  | .two a b _ => [a, b]
  | .mget ks => ks
  | .mset kvs => kvs.map (·.1)
  | .msetnx kvs => kvs.map (·.1)
  | .del ks => ks
  | .exists ks => ks
  | .fastGet k => [k]
  | .fastSet k _ => [k]
  | .batchGet ks => ks
  | .batchSet kvs => kvs.map (·.1)
  | _ => []

/-- commands whose effect and reply are determined by the keys they name -/
def Keyed {S : Sig} : Cmd S → Bool
  | .keys _ | .dbsize | .flush | .scan _ _ _ | .randomkey => false
  | _ => true

section keyed
variable {S : Sig} (E : Exec S)

theorem wf_foldl_setStr (kvs : List (Key × Bytes)) (x : Store S.Val) (h : WF x) :
    WF (kvs.foldl (setStr E) x) := by
  induction kvs generalizing x with
  | nil => exact h
  | cons kv kvs ih => exact ih _ (wf_insert h)

theorem get_foldl_setStr_frame (kvs : List (Key × Bytes)) (x : Store S.Val) (k : Nat)
    (hk : k ∉ kvs.map (·.1)) : get (kvs.foldl (setStr E) x) k = get x k := by
  induction kvs generalizing x with
  | nil => rfl
  | cons kv kvs ih =>
    simp only [List.map_cons, List.mem_cons, not_or] at hk
    rw [List.foldl_cons, ih _ hk.2]
    unfold setStr
    rw [get_insert]; simp [hk.1]

theorem get_foldl_setStr_congr (kvs : List (Key × Bytes)) (x y : Store S.Val) (k : Nat)
    (h : get x k = get y k) : get (kvs.foldl (setStr E) x) k = get (kvs.foldl (setStr E) y) k := by
  induction kvs generalizing x y with
  | nil => exact h
  | cons kv kvs ih =>
    rw [List.foldl_cons, List.foldl_cons]
    apply ih
    unfold setStr
    rw [get_insert, get_insert, h]

theorem present_congr {x y : Store S.Val} {k : Nat} (h : get x k = get y k) :
    present x k = present y k := by unfold present; rw [h]

theorem wf_delKeys (ks : List Key) (x : Store S.Val) (h : WF x) : WF (delKeys x ks).1 := by
  induction ks generalizing x with
  | nil => exact h
  | cons k ks ih => exact ih _ (wf_erase h)

theorem get_delKeys_frame (ks : List Key) (x : Store S.Val) (h : WF x) (k : Nat) (hk : k ∉ ks) :
    get (delKeys x ks).1 k = get x k := by
  induction ks generalizing x with
  | nil => rfl
  | cons a ks ih =>
    simp only [List.mem_cons, not_or] at hk
    show get (delKeys (erase a x) ks).1 k = _
    rw [ih _ (wf_erase h) hk.2, get_erase h]; simp [hk.1]

theorem get_delKeys_congr (ks : List Key) (x y : Store S.Val) (hx : WF x) (hy : WF y) (k : Nat)
    (h : get x k = get y k) : get (delKeys x ks).1 k = get (delKeys y ks).1 k := by
  induction ks generalizing x y with
  | nil => exact h
  | cons a ks ih =>
    show get (delKeys (erase a x) ks).1 k = get (delKeys (erase a y) ks).1 k
    apply ih _ _ (wf_erase hx) (wf_erase hy)
    rw [get_erase hx, get_erase hy, h]

theorem delKeys_count_congr (ks : List Key) (x y : Store S.Val) (hx : WF x) (hy : WF y)
    (h : ∀ k ∈ ks, get x k = get y k) : (delKeys x ks).2 = (delKeys y ks).2 := by
  induction ks generalizing x y with
  | nil => rfl
  | cons a ks ih =>
    show (if present x a then 1 else 0) + (delKeys (erase a x) ks).2 =
      (if present y a then 1 else 0) + (delKeys (erase a y) ks).2
    rw [present_congr (h a (by simp))]
    rw [ih _ _ (wf_erase hx) (wf_erase hy)]
    intro k hk
    rw [get_erase hx, get_erase hy, h k (by simp [hk])]

theorem mgetSlot_congr {x y : Store S.Val} {k : Nat} (h : get x k = get y k) :
    mgetSlot E x k = mgetSlot E y k := by unfold mgetSlot; rw [h]

theorem getDirect_congr {x y : Store S.Val} {k : Nat} (h : get x k = get y k) :
    getDirect E x k = getDirect E y k := by unfold getDirect; rw [h]

theorem existsCount_congr (ks : List Key) {x y : Store S.Val} (h : ∀ k ∈ ks, get x k = get y k) :
    existsCount x ks = existsCount y ks := by
  unfold existsCount
  congr 1
  apply List.filter_congr
  intro k hk
  exact present_congr (h k hk)

theorem exec_msetnx (x : Store S.Val) (kvs : List (Key × Bytes)) :
    E.exec x (.msetnx kvs) =
      if kvs.any (fun kv => present x kv.1) then (x, .one (.int 0))
      else (kvs.foldl (setStr E) x, .one (.int 1)) := rfl

theorem any_present_congr (kvs : List (Key × Bytes)) {x y : Store S.Val}
    (h : ∀ k ∈ kvs.map (·.1), get x k = get y k) :
    (kvs.any fun kv => present x kv.1) = (kvs.any fun kv => present y kv.1) := by
  induction kvs with
  | nil => rfl
  | cons kv kvs ih =>
    simp only [List.any_cons]
    rw [present_congr (h kv.1 (by simp)), ih (fun k hk => h k (by simp [hk]))]

variable {E}

theorem exec_wf (hL : E.Local) (c : Cmd S) (x : Store S.Val) (hx : WF x) : WF (E.exec x c).1 := by
  cases c with
  | single k op => exact hL.wf1 x k op hx
  | two a b op => exact hL.wf2 x a b op hx
  | mset kvs => exact wf_foldl_setStr E kvs x hx
  | msetnx kvs =>
    rw [exec_msetnx]
    split
    · exact hx
    · exact wf_foldl_setStr E kvs x hx
  | del ks => exact wf_delKeys ks x hx
  | flush => exact wf_nil
  | fastSet k v => exact wf_insert hx
  | batchSet kvs => exact wf_foldl_setStr E kvs x hx
  | _ => exact hx

theorem exec_frame (hL : E.Local) (c : Cmd S) (hc : Keyed c = true) (x : Store S.Val) (hx : WF x)
    (k : Nat) (hk : k ∉ keyList c) : get (E.exec x c).1 k = get x k := by
  cases c with
  | single a op => exact hL.frame1 x a op k hx (by simpa [keyList] using hk)
  | two a b op =>
    simp only [keyList, List.mem_cons, List.not_mem_nil, or_false, not_or] at hk
    exact hL.frame2 x a b op k hx hk.1 hk.2
  | mset kvs => exact get_foldl_setStr_frame E kvs x k hk
  | msetnx kvs =>
    rw [exec_msetnx]
    split
    · rfl
    · exact get_foldl_setStr_frame E kvs x k hk
  | del ks => exact get_delKeys_frame ks x hx k hk
  | fastSet a v =>
    show get (insert a (E.str v) x) k = _
    rw [get_insert]
    have : k ≠ a := by simpa [keyList] using hk
    simp [this]
  | batchSet kvs => exact get_foldl_setStr_frame E kvs x k hk
  | keys _ | dbsize | flush | scan _ _ _ | randomkey => simp [Keyed] at hc
  | _ => rfl

theorem exec_local (hL : E.Local) (c : Cmd S) (hc : Keyed c = true) (x y : Store S.Val)
    (hx : WF x) (hy : WF y) (h : ∀ k ∈ keyList c, get x k = get y k) :
    (E.exec x c).2 = (E.exec y c).2 ∧ ∀ k ∈ keyList c, get (E.exec x c).1 k = get (E.exec y c).1 k := by
  cases c with
  | single a op =>
    have := hL.local1 x y a op hx hy (h a (by simp [keyList]))
    refine ⟨this.1, ?_⟩
    intro k hk
    have : k = a := by simpa [keyList] using hk
    subst this; exact this.2
  | two a b op =>
    have := hL.local2 x y a b op hx hy (h a (by simp [keyList])) (h b (by simp [keyList]))
    refine ⟨this.1, ?_⟩
    intro k hk
    simp only [keyList, List.mem_cons, List.not_mem_nil, or_false] at hk
    rcases hk with rfl | rfl
    · exact this.2.1
    · exact this.2.2
  | mget ks =>
    refine ⟨?_, fun k hk => h k hk⟩
    show Reply.many _ = Reply.many _
    congr 1
    apply List.map_congr_left
    intro k hk
    exact mgetSlot_congr E (h k hk)
  | mset kvs =>
    exact ⟨rfl, fun k hk => get_foldl_setStr_congr E kvs x y k (h k hk)⟩
  | msetnx kvs =>
    have hany := any_present_congr kvs h
    rw [exec_msetnx, exec_msetnx]
    rw [hany]
    split
    · exact ⟨rfl, fun k hk => h k hk⟩
    · exact ⟨rfl, fun k hk => get_foldl_setStr_congr E kvs x y k (h k hk)⟩
  | del ks =>
    refine ⟨?_, fun k hk => get_delKeys_congr ks x y hx hy k (h k hk)⟩
    show Reply.one (.int _) = Reply.one (.int _)
    rw [delKeys_count_congr ks x y hx hy h]
  | «exists» ks =>
    refine ⟨?_, fun k hk => h k hk⟩
    show Reply.one (.int _) = Reply.one (.int _)
    rw [existsCount_congr ks h]
  | fastGet a =>
    refine ⟨?_, fun k hk => h k hk⟩
    show Reply.one _ = Reply.one _
    rw [getDirect_congr E (h a (by simp [keyList]))]
  | fastSet a v =>
    refine ⟨rfl, ?_⟩
    intro k hk
    show get (insert a (E.str v) x) k = get (insert a (E.str v) y) k
    rw [get_insert, get_insert, h k hk]
  | batchGet ks =>
    refine ⟨?_, fun k hk => h k hk⟩
    show Reply.many _ = Reply.many _
    congr 1
    apply List.map_congr_left
    intro k hk
    exact getDirect_congr E (h k hk)
  | batchSet kvs =>
    exact ⟨rfl, fun k hk => get_foldl_setStr_congr E kvs x y k (h k hk)⟩
  | keys _ | dbsize | flush | scan _ _ _ | randomkey => simp [Keyed] at hc

end keyed

section onshard
variable {S : Sig} {E : Exec S} {R : Routes}

/-- a command that names its keys is local to them -/
theorem exec_localTo (hL : E.Local) (c : Cmd S) (hc : Keyed c = true) :
    LocalTo (keyList c) (fun x => E.exec x c) :=
  ⟨exec_wf hL c, fun x k hx hk => exec_frame hL c hc x hx k hk, exec_local hL c hc⟩

theorem refine_keyed (hL : E.Local) {st : Shards S.Val} (h : Inv R st) (c : Cmd S)
    (hc : Keyed c = true) (i : Nat) (hi : i < R.N) (hK : ∀ k ∈ keyList c, R.bytes k = i) :
    Inv R (onShard E st i c).1 ∧ abs (onShard E st i c).1 = (E.exec (abs st) c).1 ∧
    (onShard E st i c).2 = (E.exec (abs st) c).2 :=
  refine_onShard h i hi (exec_localTo hL c hc) hK

end onshard

section grouping
variable {α : Type}

theorem zipIdx_filter_map_fst (xs : List α) (p : α → Bool) (n : Nat) :
    ((xs.zipIdx n).filter (fun q => p q.1)).map (·.1) = xs.filter p := by
  induction xs generalizing n with
  | nil => rfl
  | cons x xs ih =>
    simp only [List.zipIdx_cons, List.filter_cons]
    split
    · simp [ih]
    · exact ih _

theorem batch_map_fst (route : α → Nat) (i : Nat) (xs : List α) :
    (batch route i xs).map (·.1) = xs.filter (fun x => route x == i) :=
  zipIdx_filter_map_fst xs (fun x => route x == i) 0

end grouping

section grouped
variable {S : Sig} (E : Exec S) {α : Type}

theorem groupedN_succ (n : Nat) (route : α → Nat) (st : Shards S.Val) (mk : List α → Cmd S)
    (xs : List α) :
    groupedN E (n + 1) route st mk xs =
      (let acc := groupedN E n route st mk xs
       let b := (batch route n xs).map (·.1)
       if b.isEmpty then acc else
       let r := onShard E acc.1 n (mk b)
       (r.1, acc.2 ++ [r.2])) := by
  unfold groupedN
  rw [List.range_succ, List.foldl_append]
  rfl

/-- a shard whose sub-list is empty gets no message; sending it the empty sub-list would change nothing
    and add nothing to the count (`hnop`), so EVERY shard ends as if it had executed its sub-list -/
theorem groupedN_spec (n : Nat) (route : α → Nat) (st : Shards S.Val) (mk : List α → Cmd S)
    (hnop : ∀ s, (E.exec s (mk [])).1 = s ∧ replyInt (E.exec s (mk [])).2 = 0) (hn : n ≤ st.length)
    (xs : List α) :
    (groupedN E n route st mk xs).1.length = st.length ∧
    (∀ j, shard (groupedN E n route st mk xs).1 j =
      if j < n then (E.exec (shard st j) (mk (xs.filter (fun x => route x == j)))).1 else shard st j) ∧
    ((groupedN E n route st mk xs).2.map replyInt).sum =
      ((List.range n).map (fun i =>
        replyInt (E.exec (shard st i) (mk (xs.filter (fun x => route x == i)))).2)).sum := by
  induction n with
  | zero => simp [groupedN]
  | succ n ih =>
    obtain ⟨ihl, ihs, ihr⟩ := ih (by omega)
    have hsn : shard (groupedN E n route st mk xs).1 n = shard st n := by
      rw [ihs n, if_neg (Nat.lt_irrefl n)]
    have step : (groupedN E (n + 1) route st mk xs).1 = (groupedN E n route st mk xs).1.set n
          (E.exec (shard st n) (mk (xs.filter (fun x => route x == n)))).1 ∧
        ((groupedN E (n + 1) route st mk xs).2.map replyInt).sum =
          ((groupedN E n route st mk xs).2.map replyInt).sum +
            replyInt (E.exec (shard st n) (mk (xs.filter (fun x => route x == n)))).2 := by
      rw [groupedN_succ]
      simp only [batch_map_fst]
      cases hb : xs.filter (fun x => route x == n) with
      | nil =>
        simp only [List.isEmpty_nil, if_true]
        rw [(hnop _).1, (hnop _).2, ← hsn, shard_set_self]
        exact ⟨rfl, by omega⟩
      | cons _ _ =>
        simp only [List.isEmpty_cons, Bool.false_eq_true, if_false, onShard, hsn]
        simp [List.sum_append]
    refine ⟨by rw [step.1, List.length_set, ihl], fun j => ?_, ?_⟩
    · rw [step.1, shard_set, ihl]
      by_cases hjn : n = j
      · subst hjn; rw [if_pos ⟨rfl, by omega⟩, if_pos (Nat.lt_succ_self _)]
      · rw [if_neg (fun x => hjn x.1), ihs j]
        have : (j < n + 1) ↔ (j < n) := by omega
        simp only [this]
    · rw [step.2, ihr, List.range_succ, List.map_append, List.sum_append]
      simp

end grouped

section groupedRefine
variable {S : Sig} {E : Exec S} {R : Routes} {α : Type}

/-- **grouped fan-out** (MSET, multi-key DEL, `fast_batch_set_pipeline`): sending every shard its
    own sub-list (original order) does to the union what the whole list does to one store,
    provided the per-key effect of the command depends only on the items of that key -/
theorem grouped_refine (hL : E.Local) {st : Shards S.Val} (h : Inv R st) (hv : R.Valid)
    (keyOf : α → Key) (mk : List α → Cmd S) (hmk : ∀ l, Keyed (mk l) = true)
    (hkl : ∀ l, keyList (mk l) = l.map keyOf)
    (hnop : ∀ s, (E.exec s (mk [])).1 = s ∧ replyInt (E.exec s (mk [])).2 = 0)
    (hfilter : ∀ (a : Store S.Val), WF a → ∀ (xs : List α) (P : α → Bool) (k : Nat),
      (∀ x ∈ xs, keyOf x = k → P x = true) →
      get (E.exec a (mk (xs.filter P))).1 k = get (E.exec a (mk xs)).1 k)
    (xs : List α) :
    Inv R (groupedN E R.N (fun x => R.bytes (keyOf x)) st mk xs).1 ∧
    abs (groupedN E R.N (fun x => R.bytes (keyOf x)) st mk xs).1 = (E.exec (abs st) (mk xs)).1 := by
  obtain ⟨hlen, hsh, _⟩ := groupedN_spec E R.N (fun x => R.bytes (keyOf x)) st mk hnop (Nat.le_of_eq h.len.symm) xs
  generalize (groupedN E R.N (fun x => R.bytes (keyOf x)) st mk xs).1 = fin at hlen hsh
  -- keys of the sub-list of shard j live in shard j
  have hsub : ∀ j k, k ∈ keyList (mk (xs.filter (fun x => R.bytes (keyOf x) == j))) → R.bytes k = j := by
    intro j k hk
    rw [hkl, List.mem_map] at hk
    obtain ⟨x, hx, rfl⟩ := hk
    have := (List.mem_filter.mp hx).2
    simpa using this
  -- shard `j` of the result is what ONE message with the sub-list leaves on shard `j`: `refine_keyed`
  have hone : ∀ j, j < R.N → Inv R (st.set j (shard fin j)) ∧
      abs (st.set j (shard fin j)) = (E.exec (abs st) (mk (xs.filter (fun x => R.bytes (keyOf x) == j)))).1 := by
    intro j hj
    rw [hsh, if_pos hj]
    have := refine_keyed hL h _ (hmk _) j hj (hsub j)
    exact ⟨this.1, this.2.1⟩
  have hself : ∀ j, j < R.N → shard (st.set j (shard fin j)) j = shard fin j := fun j hj => by
    rw [shard_set, if_pos ⟨rfl, h.len ▸ hj⟩]
  have hinv : Inv R fin := by
    apply inv_of_shards (by rw [hlen, h.len])
    · intro j
      by_cases hj : j < R.N
      · rw [← hself j hj]; exact (hone j hj).1.wf_shard j
      · rw [hsh, if_neg hj]; exact h.wf_shard j
    · intro j k hk
      by_cases hj : j < R.N
      · rw [← hself j hj] at hk; exact (hone j hj).1.home j k hk
      · rw [hsh, if_neg hj] at hk; exact h.home j k hk
  refine ⟨hinv, NMap.ext hinv.wf_abs (exec_wf hL _ _ h.wf_abs) fun k => ?_⟩
  rw [hinv.get_abs k, ← hself _ (hv k).2, ← (hone _ (hv k).2).1.get_abs k, (hone _ (hv k).2).2]
  exact hfilter (abs st) h.wf_abs xs _ k (by intro x _ hx; simp [hx])

end groupedRefine

section single
variable {S : Sig} (E : Exec S)

/-- the final content of key `k` after a run of SETs depends only on the SETs of `k` -/
theorem get_foldl_setStr_filter (kvs : List (Key × Bytes)) (a : Store S.Val) (P : Key × Bytes → Bool)
    (k : Nat) (hP : ∀ x ∈ kvs, x.1 = k → P x = true) :
    get ((kvs.filter P).foldl (setStr E) a) k = get (kvs.foldl (setStr E) a) k := by
  induction kvs generalizing a with
  | nil => rfl
  | cons x kvs ih =>
    have hP' : ∀ y ∈ kvs, y.1 = k → P y = true := fun y hy => hP y (by simp [hy])
    rw [List.filter_cons]
    split
    · exact ih _ hP'
    · rename_i hx
      have hne : x.1 ≠ k := fun he => hx (hP x (by simp) he)
      rw [ih a hP', List.foldl_cons]
      apply get_foldl_setStr_congr
      unfold setStr
      rw [get_insert]
      simp [Ne.symm hne]

theorem get_delKeys_filter (ks : List Key) (a : Store S.Val) (ha : WF a) (P : Key → Bool) (k : Nat)
    (hP : ∀ x ∈ ks, x = k → P x = true) :
    get (delKeys a (ks.filter P)).1 k = get (delKeys a ks).1 k := by
  induction ks generalizing a with
  | nil => rfl
  | cons x ks ih =>
    have hP' : ∀ y ∈ ks, y = k → P y = true := fun y hy => hP y (by simp [hy])
    rw [List.filter_cons]
    split
    · exact ih _ (wf_erase ha) hP'
    · rename_i hx
      have hne : x ≠ k := fun he => hx (hP x (by simp) he)
      rw [ih a ha hP']
      show _ = get (delKeys (erase x a) ks).1 k
      apply get_delKeys_congr ks a (erase x a) ha (wf_erase ha)
      rw [get_erase ha]
      simp [Ne.symm hne]

theorem existsCount_cons (s : Store S.Val) (k : Key) (ks : List Key) :
    existsCount s (k :: ks) = (if present s k then 1 else 0) + existsCount s ks := by
  unfold existsCount
  rw [List.filter_cons]
  split <;> simp <;> omega

end single

theorem sum_map_zero (l : List Nat) : (l.map (fun _ => (0 : Int))).sum = 0 := by
  induction l with
  | nil => rfl
  | cons _ l ih => simp [ih]

theorem sum_cast_map {α : Type} (l : List α) (f : α → Nat) :
    (l.map (fun x => ((f x : Nat) : Int))).sum = (((l.map f).sum : Nat) : Int) := by
  induction l with
  | nil => rfl
  | cons x l ih => simp only [List.map_cons, List.sum_cons, ih]; omega

theorem sum_range_add_ite (N j : Nat) (hj : j < N) (g : Nat → Int) (c : Int) :
    ((List.range N).map (fun i => g i + if i = j then c else 0)).sum =
      ((List.range N).map g).sum + c := by
  induction N with
  | zero => omega
  | succ n ih =>
    rw [List.range_succ, List.map_append, List.map_append, List.sum_append, List.sum_append]
    simp only [List.map_cons, List.map_nil, List.sum_cons, List.sum_nil]
    by_cases hn : n = j
    · subst hn
      have : ((List.range n).map (fun i => g i + if i = n then c else 0)) = (List.range n).map g := by
        apply List.map_congr_left
        intro i hi
        have : i ≠ n := by have := List.mem_range.mp hi; omega
        simp [this]
      rw [this]; simp; omega
    · rw [ih (by omega)]; simp [hn]; omega

section delcount
variable {S : Sig} {E : Exec S} {R : Routes}

theorem erase_refine {st : Shards S.Val} (h : Inv R st) (hv : R.Valid) (k : Nat) :
    Inv R (st.set (R.bytes k) (erase k (shard st (R.bytes k)))) ∧
    abs (st.set (R.bytes k) (erase k (shard st (R.bytes k)))) = erase k (abs st) := by
  have := refine_onShard (ρ := Unit) h (R.bytes k) (hv k).2 (f := fun x => (erase k x, ())) (K := [k])
    ⟨fun x hx => wf_erase hx,
     fun x k' hx hk' => by
      have : k' ≠ k := by simpa using hk'
      show get (erase k x) k' = _
      rw [get_erase hx]; simp [this],
     fun x y hx hy hxy => ⟨rfl, fun k' hk' => by
      show get (erase k x) k' = get (erase k y) k'
      rw [get_erase hx, get_erase hy, hxy k' hk']⟩⟩ (by simp)
  exact ⟨this.1, this.2.1⟩

theorem del_count_sum (ks : List Key) {st : Shards S.Val} (h : Inv R st) (hv : R.Valid) :
    ((List.range R.N).map (fun i =>
        (((delKeys (shard st i) (ks.filter (fun x => R.bytes x == i))).2 : Nat) : Int))).sum =
      (((delKeys (abs st) ks).2 : Nat) : Int) := by
  induction ks generalizing st with
  | nil => exact sum_map_zero _
  | cons k ks ih =>
    obtain ⟨hinv', habs'⟩ := erase_refine h hv k
    have hj := (hv k).2
    have hterm : ∀ i, i ∈ List.range R.N →
        (((delKeys (shard st i) ((k :: ks).filter (fun x => R.bytes x == i))).2 : Nat) : Int) =
        (((delKeys (shard (st.set (R.bytes k) (erase k (shard st (R.bytes k)))) i)
            (ks.filter (fun x => R.bytes x == i))).2 : Nat) : Int) +
          (if i = R.bytes k then ((if present (shard st (R.bytes k)) k then 1 else 0 : Nat) : Int) else 0) := by
      intro i _
      rw [shard_set, List.filter_cons]
      by_cases hik : R.bytes k = i
      · subst hik
        simp only [beq_self_eq_true, if_true, h.len, hj, and_self]
        show (((if present _ k then 1 else 0) + (delKeys (erase k _) _).2 : Nat) : Int) = _
        omega
      · have h1 : (R.bytes k == i) = false := by simp [hik]
        have h2 : ¬ (i = R.bytes k) := fun e => hik e.symm
        simp [h1, hik, h2]
    rw [List.map_congr_left hterm, sum_range_add_ite R.N (R.bytes k) hj, ih hinv', habs']
    show _ = (((if present (abs st) k then 1 else 0) + (delKeys (erase k (abs st)) ks).2 : Nat) : Int)
    have : present (shard st (R.bytes k)) k = present (abs st) k :=
      present_congr (h.get_abs k).symm
    rw [this]; omega

end delcount

/-- writes that all agree with one function `F` of the index: their order and repetitions do not matter -/
theorem foldl_set_getElem? {β : Type} (F : Nat → β) (ps : List (Nat × β)) (res : List β)
    (hF : ∀ p ∈ ps, p.2 = F p.1) (j : Nat) :
    (ps.foldl (fun r p => r.set p.1 p.2) res)[j]? =
      if j < res.length ∧ j ∈ ps.map (·.1) then some (F j) else res[j]? := by
  induction ps generalizing res with
  | nil => simp
  | cons p ps ih =>
    rw [List.foldl_cons, ih _ (fun q hq => hF q (by simp [hq])), List.length_set, List.getElem?_set]
    have hp := hF p (by simp)
    by_cases hlen : j < res.length
    · by_cases hmem : j ∈ ps.map (·.1)
      · simp [hlen, hmem]
      · by_cases hpj : p.1 = j
        · subst hpj; simp [hlen, hmem, hp]
        · have : ¬ (j = p.1) := fun e => hpj e.symm
          simp [hlen, hmem, hpj, this]
    · have hnone : res[j]? = none := List.getElem?_eq_none (by omega)
      by_cases hpj : p.1 = j
      · subst hpj; simp [hlen]
      · simp [hlen, hpj]

theorem foldl_set_length {β : Type} (ps : List (Nat × β)) (res : List β) :
    (ps.foldl (fun r p => r.set p.1 p.2) res).length = res.length := by
  induction ps generalizing res with
  | nil => rfl
  | cons p ps ih => rw [List.foldl_cons, ih, List.length_set]

section gather
variable {S : Sig} (E : Exec S)

theorem gatherN_length_get (n : Nat) (route : Key → Nat) (st : Shards S.Val) (mk : List Key → Cmd S)
    (slot : Store S.Val → Key → R1)
    (hmk : ∀ s l, (E.exec s (mk l)).2 = .many (l.map (slot s))) (ks : List Key) :
    (gatherN E n route st mk ks).length = ks.length ∧
    ∀ (j : Nat) (k : Key), ks[j]? = some k →
      (gatherN E n route st mk ks)[j]? =
        if route k < n then some (slot (shard st (route k)) k) else some R1.nil := by
  induction n with
  | zero =>
    refine ⟨by simp [gatherN], ?_⟩
    intro j k hk
    have hj : j < ks.length := by
      apply Classical.byContradiction; intro hc
      rw [List.getElem?_eq_none (by omega)] at hk; cases hk
    simp [gatherN, hj]
  | succ n ih =>
    obtain ⟨ihl, ihg⟩ := ih
    have hstep : gatherN E (n + 1) route st mk ks =
        scatter (gatherN E n route st mk ks) ((batch route n ks).map (·.2))
          (replyMany (E.exec (shard st n) (mk ((batch route n ks).map (·.1)))).2) := by
      unfold gatherN
      rw [List.range_succ, List.foldl_append]; rfl
    have hz : ((batch route n ks).map (·.2)).zip
        (replyMany (Reply.many (((batch route n ks).map (·.1)).map (slot (shard st n))))) =
        (batch route n ks).map (fun a => (a.2, slot (shard st n) a.1)) := by
      show ((batch route n ks).map (·.2)).zip (((batch route n ks).map (·.1)).map (slot (shard st n))) = _
      rw [List.map_map, List.zip_map']
      rfl
    rw [hstep, hmk]
    unfold scatter
    rw [hz]
    -- the value written at index `i` is the slot of the key at index `i`
    let F : Nat → R1 := fun i => match ks[i]? with
      | some k => slot (shard st (route k)) k
      | none => R1.nil
    have hF : ∀ p ∈ (batch route n ks).map (fun a => (a.2, slot (shard st n) a.1)), p.2 = F p.1 := by
      intro p hp
      obtain ⟨a, ha, rfl⟩ := List.mem_map.mp hp
      have ha' := List.mem_filter.mp ha
      have hget : ks[a.2]? = some a.1 := List.mem_zipIdx_iff_getElem?.mp ha'.1
      have hr : route a.1 = n := by simpa using ha'.2
      show slot (shard st n) a.1 = F a.2
      simp only [F, hget, hr]
    refine ⟨by rw [foldl_set_length, ihl], ?_⟩
    intro j k hk
    have hj : j < ks.length := by
      apply Classical.byContradiction; intro hc
      rw [List.getElem?_eq_none (by omega)] at hk; cases hk
    rw [foldl_set_getElem? F _ _ hF j, ihl, ihg j k hk]
    have hmem : j ∈ ((batch route n ks).map (fun a => (a.2, slot (shard st n) a.1))).map (·.1) ↔
        route k = n := by
      rw [List.map_map]
      constructor
      · intro hm
        obtain ⟨a, ha, rfl⟩ := List.mem_map.mp hm
        have ha' := List.mem_filter.mp ha
        have hget : ks[a.2]? = some a.1 := List.mem_zipIdx_iff_getElem?.mp ha'.1
        have : a.1 = k := by
          have h2 : ks[a.2]? = some k := hk
          rw [hget] at h2; exact Option.some.inj h2
        rw [← this]; simpa using ha'.2
      · intro hr
        apply List.mem_map.mpr
        refine ⟨(k, j), ?_, rfl⟩
        apply List.mem_filter.mpr
        exact ⟨List.mem_zipIdx_iff_getElem?.mpr hk, by simp [hr]⟩
    by_cases hr : route k = n
    · have : F j = slot (shard st (route k)) k := by simp only [F, hk]
      rw [if_pos ⟨hj, hmem.mpr hr⟩, this, if_pos (by omega)]
    · have hm : ¬ _ := fun x => hr (hmem.mp x)
      simp only [hm, and_false, if_false]
      have : (route k < n + 1) ↔ (route k < n) := by omega
      simp only [this]

/-- **grouped reads** (MGET, `fast_batch_get_pipeline`): every slot of the reassembled reply is
    what the key's own shard answers -/
theorem gatherN_spec (N : Nat) (route : Key → Nat) (st : Shards S.Val) (mk : List Key → Cmd S)
    (slot : Store S.Val → Key → R1)
    (hmk : ∀ s l, (E.exec s (mk l)).2 = .many (l.map (slot s))) (ks : List Key)
    (hr : ∀ k ∈ ks, route k < N) :
    gatherN E N route st mk ks = ks.map (fun k => slot (shard st (route k)) k) := by
  obtain ⟨hl, hg⟩ := gatherN_length_get E N route st mk slot hmk ks
  apply List.ext_getElem?
  intro j
  rw [List.getElem?_map]
  cases hk : ks[j]? with
  | none =>
    have : ks.length ≤ j := by
      apply Classical.byContradiction; intro hc
      have hlt : j < ks.length := by omega
      rw [List.getElem?_eq_getElem hlt] at hk; cases hk
    rw [List.getElem?_eq_none (by omega)]; rfl
  | some k =>
    rw [hg j k hk]
    have := hr k (List.mem_of_getElem? hk)
    simp [this]

end gather

section fanall
variable {ν : Type}

theorem mem_keys_iff {m : NMap ν} (h : WF m) (k : Nat) : k ∈ NMap.keys m ↔ (get m k).isSome := by
  unfold NMap.keys
  constructor
  · intro hk
    obtain ⟨p, hp, rfl⟩ := List.mem_map.mp hk
    rw [get_of_mem h hp]; rfl
  · intro hk
    cases hg : get m k with
    | none => rw [hg] at hk; cases hk
    | some v => exact List.mem_map.mpr ⟨(k, v), mem_of_get hg, rfl⟩

theorem nodup_flatMap_keys (l : List (NMap ν)) (hw : ∀ s ∈ l, WF s)
    (hd : l.Pairwise (fun a b => ∀ k, k ∈ NMap.keys a → k ∉ NMap.keys b)) :
    (l.flatMap NMap.keys).Nodup := by
  induction l with
  | nil => exact List.Pairwise.nil
  | cons s rest ih =>
    rw [List.flatMap_cons, List.nodup_append]
    rw [List.pairwise_cons] at hd
    refine ⟨nodup_keys (hw s (by simp)), ih (fun x hx => hw x (by simp [hx])) hd.2, ?_⟩
    intro a ha b hb hab
    subst hab
    obtain ⟨t, ht, hbt⟩ := List.mem_flatMap.mp hb
    exact hd.1 t ht a ha hbt

variable {R : Routes}

theorem keys_abs_perm {st : Shards ν} (h : Inv R st) :
    (st.flatMap NMap.keys).Perm (NMap.keys (abs st)) := by
  have hnd : (st.flatMap NMap.keys).Nodup := by
    apply nodup_flatMap_keys st h.wf
    rw [List.pairwise_iff_getElem]
    intro i j hi hj hij k hki hkj
    have e1 : shard st i = st[i] := by simp [shard, List.getD_eq_getElem?_getD, hi]
    have e2 : shard st j = st[j] := by simp [shard, List.getD_eq_getElem?_getD, hj]
    have h1 := h.home i k (by rw [e1]; exact (mem_keys_iff (h.wf _ (List.getElem_mem hi)) k).mp hki)
    have h2 := h.home j k (by rw [e2]; exact (mem_keys_iff (h.wf _ (List.getElem_mem hj)) k).mp hkj)
    omega
  rw [List.perm_ext_iff_of_nodup hnd (nodup_keys h.wf_abs)]
  intro k
  rw [mem_keys_iff h.wf_abs, h.get_abs k, List.mem_flatMap]
  constructor
  · rintro ⟨s, hs, hk⟩
    obtain ⟨i, _, he⟩ := mem_shard st s hs
    have hp := (mem_keys_iff (h.wf s hs) k).mp hk
    rw [← he] at hp
    have := h.home i k hp
    rw [this]; exact hp
  · intro hk
    have hlt : R.bytes k < st.length := by
      apply Classical.byContradiction; intro hc
      rw [shard_of_ge st _ (by omega)] at hk; cases hk
    exact ⟨_, shard_mem st _ hlt, (mem_keys_iff (h.wf _ (shard_mem st _ hlt)) k).mpr hk⟩

theorem length_abs {st : Shards ν} (h : Inv R st) :
    (abs st).length = (st.map List.length).sum := by
  have := (keys_abs_perm h).length_eq
  rw [List.length_flatMap] at this
  unfold NMap.keys at this
  simp only [List.length_map] at this
  exact this.symm

/-- FLUSH on every shard leaves the initial state -/
theorem map_nil_eq_init (st : Shards ν) : st.map (fun _ => ([] : Store ν)) = init ν st.length :=
  List.map_const' ..

theorem abs_all_empty (st : Shards ν) : abs (st.map (fun _ => ([] : Store ν))) = [] := by
  rw [map_nil_eq_init]; exact abs_init _

theorem inv_all_empty {st : Shards ν} (h : Inv R st) : Inv R (st.map (fun _ => ([] : Store ν))) := by
  rw [map_nil_eq_init, h.len]; exact inv_init R

end fanall

section randomkey
variable {S : Sig} (E : Exec S)

theorem randomkeyFrom_spec (st : Shards S.Val) (is : List Nat) :
    randomkeyFrom E st is =
      (st, .rkey (is.findSome? (fun i => (NMap.keys (shard st i)).head?))) := by
  induction is with
  | nil => rfl
  | cons i is ih =>
    have h1 : onShard E st i .randomkey = (st, .rkey (NMap.keys (shard st i)).head?) := by
      show (st.set i (shard st i), _) = _
      rw [shard_set_self]; rfl
    unfold randomkeyFrom
    simp only [h1, List.findSome?_cons]
    cases hk : (NMap.keys (shard st i)).head? with
    | none => simp [ih]
    | some k => simp

variable {E} {R : Routes}

/-- **RANDOMKEY on N shards**: the state is untouched; the reply is nil iff the union of the
    shards is empty (iff ONE executor on the union answers nil), and a non-nil reply names a key
    of the union -/
theorem randomkey_spec {st : Shards S.Val} (h : Inv R st) :
    (randomkeyFrom E st (List.range R.N)).1 = st ∧
    ∃ o, (randomkeyFrom E st (List.range R.N)).2 = .rkey o ∧
      (o = none ↔ (NMap.keys (abs st)).head? = none) ∧
      (∀ k, o = some k → present (abs st) k = true) := by
  rw [randomkeyFrom_spec]
  refine ⟨rfl, _, rfl, ?_, ?_⟩
  · rw [List.findSome?_eq_none_iff]
    constructor
    · intro hall
      have hempty : st.flatMap NMap.keys = [] := by
        rw [List.flatMap_eq_nil_iff]
        intro s hs
        obtain ⟨i, hi, he⟩ := mem_shard st s hs
        have := hall i (List.mem_range.mpr (by rw [← h.len]; exact hi))
        rw [he] at this
        cases hk : NMap.keys s with
        | nil => rfl
        | cons a l => rw [hk] at this; cases this
      have := (keys_abs_perm h).length_eq
      rw [hempty] at this
      cases hk : NMap.keys (abs st) with
      | nil => rfl
      | cons a l => rw [hk] at this; cases this
    · intro hnone i _
      have habs : NMap.keys (abs st) = [] := by
        cases hk : NMap.keys (abs st) with
        | nil => rfl
        | cons a l => rw [hk] at hnone; cases hnone
      have hp := keys_abs_perm h
      rw [habs] at hp
      have hempty : st.flatMap NMap.keys = [] := List.perm_nil.mp hp
      by_cases hi : i < st.length
      · have := List.flatMap_eq_nil_iff.mp hempty _ (shard_mem st i hi)
        rw [this]; rfl
      · rw [shard_of_ge st i (by omega)]; rfl
  · intro k hk
    obtain ⟨i, hi, hki⟩ := List.exists_of_findSome?_eq_some hk
    have hmem : k ∈ NMap.keys (shard st i) := List.mem_of_head? hki
    have hlt : i < st.length := by
      apply Classical.byContradiction; intro hc
      rw [shard_of_ge st i (by omega)] at hmem; cases hmem
    have : k ∈ st.flatMap NMap.keys := List.mem_flatMap.mpr ⟨_, shard_mem st i hlt, hmem⟩
    have := (keys_abs_perm h).mem_iff.mp this
    unfold present
    exact (mem_keys_iff h.wf_abs k).mp this

end randomkey

end Shards
end RedisVerif
