import RedisVerif.Model.Json
import RedisVerif.Lemmas.Bincode
import RedisVerif.Lemmas.ListFacts

/-!
  Laws of the canonical JSON codecs of `Model/Json.lean`:
  `rt` — decode (encode a ++ rest) = (a, rest) whenever `rest` does not continue a number (`Delim`);
  `exact` — whatever is accepted is, byte for byte, the encoding of what is returned ++ the rest
  returned (no second spelling), and what is returned is representable.
  Codecs that end in a closing byte are `Closed`: `rt` for every `rest`.
-/
namespace RedisVerif
namespace Json

open Bincode (allBytes utf8Valid)

/-- what follows does not continue a number -/
def Delim (rest : Bytes) : Prop := ∀ c t, rest = c :: t → isDigit c = false

structure Lawful {α : Type} (c : Codec α) : Prop where
  rt : ∀ a rest, c.ok a → Delim rest → c.dec (c.enc a ++ rest) = some (a, rest)
  exact : ∀ bs a rest, c.dec bs = some (a, rest) → bs = c.enc a ++ rest ∧ c.ok a

/-- self-delimiting: the round trip holds whatever follows -/
def Closed {α : Type} (c : Codec α) : Prop := ∀ a rest, c.ok a → c.dec (c.enc a ++ rest) = some (a, rest)

/-- no encoding is empty, and none starts with the byte `x` -/
def HeadNe {α : Type} (c : Codec α) (x : Nat) : Prop := ∀ a, ∃ h t, c.enc a = h :: t ∧ h ≠ x

/-- the literal is not empty and does not start with a digit -/
def headND : Bytes → Bool
  | c :: _ => !isDigit c
  | [] => false

theorem delim_nil : Delim [] := fun _ _ h => by cases h

theorem delim_of_headND {p : Bytes} (h : headND p = true) (r : Bytes) : Delim (p ++ r) := by
  intro c t hc
  cases p with
  | nil => simp [headND] at h
  | cons x xs =>
    simp only [List.cons_append, List.cons.injEq] at hc
    simp only [headND, Bool.not_eq_true'] at h
    rw [← hc.1]; exact h

theorem delim_cons {c : Nat} (h : isDigit c = false) (r : Bytes) : Delim (c :: r) := by
  intro c' t hc
  simp only [List.cons.injEq] at hc
  rw [← hc.1]; exact h

/-! ## literals -/

theorem strip_append (p r : Bytes) : strip p (p ++ r) = some r := by
  induction p with
  | nil => rfl
  | cons x xs ih => simp only [List.cons_append, strip, if_true]; exact ih

theorem strip_exact (p bs r : Bytes) (h : strip p bs = some r) : bs = p ++ r := by
  induction p generalizing bs with
  | nil => simp only [strip, Option.some.injEq] at h; subst h; rfl
  | cons x xs ih =>
    cases bs with
    | nil => simp [strip] at h
    | cons b bs =>
      simp only [strip] at h
      split at h
      · rename_i hx; subst hx
        rw [ih bs h]; rfl
      · cases h

/-! ## numbers -/

theorem digitsAux_acc (f n : Nat) (acc : Bytes) : digitsAux f n acc = digitsAux f n [] ++ acc := by
  induction f generalizing n acc with
  | zero => rfl
  | succ f ih =>
    simp only [digitsAux]
    split
    · rfl
    · rw [ih (n / 10) ((48 + n % 10) :: acc), ih (n / 10) [48 + n % 10]]; simp

theorem valOf_append_one (xs : Bytes) (d : Nat) : valOf (xs ++ [d]) = valOf xs * 10 + (d - 48) := by
  simp [valOf, List.foldl_append]

theorem valOf_digitsAux (f n : Nat) (h : n < 10 ^ f) : valOf (digitsAux f n []) = n := by
  induction f generalizing n with
  | zero => simp at h; subst h; rfl
  | succ f ih =>
    simp only [digitsAux]
    split
    · simp [valOf]
    · rw [digitsAux_acc, valOf_append_one, ih (n / 10) (by rw [Nat.pow_succ] at h; omega)]
      omega

theorem digitsAux_digits (f n : Nat) : ∀ x ∈ digitsAux f n [], isDigit x = true := by
  induction f generalizing n with
  | zero => intro x hx; cases hx
  | succ f ih =>
    simp only [digitsAux]
    split
    · intro x hx
      simp only [List.mem_singleton] at hx
      subst hx
      simp [isDigit]; omega
    · rw [digitsAux_acc]
      intro x hx
      rcases List.mem_append.mp hx with h | h
      · exact ih _ x h
      · simp only [List.mem_singleton] at h
        subst h
        simp [isDigit]; omega

theorem digitsAux_length (f n : Nat) : (digitsAux f n []).length ≤ f := by
  induction f generalizing n with
  | zero => simp [digitsAux]
  | succ f ih =>
    simp only [digitsAux]
    split
    · simp
    · rw [digitsAux_acc]
      have := ih (n / 10)
      simp only [List.length_append, List.length_singleton]
      omega

theorem digitsAux_head (f n : Nat) (hf : 0 < f) (h : n < 10 ^ f) :
    (n = 0 ∧ digitsAux f n [] = [48]) ∨
    (0 < n ∧ ∃ d t, digitsAux f n [] = d :: t ∧ d ≠ 48) := by
  induction f generalizing n with
  | zero => omega
  | succ f ih =>
    simp only [digitsAux]
    split
    · rename_i h10
      by_cases h0 : n = 0
      · left; subst h0; exact ⟨rfl, rfl⟩
      · right; exact ⟨by omega, 48 + n, [], rfl, by omega⟩
    · rename_i h10
      right
      refine ⟨by omega, ?_⟩
      rw [digitsAux_acc]
      have hf' : 0 < f := by
        cases f with
        | zero => simp at h; omega
        | succ f => omega
      rcases ih (n / 10) hf' (by rw [Nat.pow_succ] at h; omega) with ⟨h0, _⟩ | ⟨_, d, t, he, hd⟩
      · omega
      · exact ⟨d, t ++ [48 + n % 10], by rw [he]; rfl, hd⟩

theorem spanDigits_append (ds rest : Bytes) (hd : ∀ x ∈ ds, isDigit x = true) (hr : Delim rest) :
    spanDigits (ds ++ rest) = (ds, rest) := by
  induction ds with
  | nil =>
    cases rest with
    | nil => rfl
    | cons c t => simp only [List.nil_append, spanDigits, hr c t rfl]; rfl
  | cons d ds ih =>
    simp only [List.cons_append, spanDigits, hd d (by simp), if_true]
    rw [ih (fun x hx => hd x (by simp [hx]))]

theorem spanDigits_exact (bs : Bytes) :
    bs = (spanDigits bs).1 ++ (spanDigits bs).2 ∧ ∀ x ∈ (spanDigits bs).1, isDigit x = true := by
  induction bs with
  | nil => exact ⟨rfl, fun x hx => by cases hx⟩
  | cons c r ih =>
    simp only [spanDigits]
    split
    · rename_i hc
      refine ⟨by simp only [List.cons_append]; rw [← ih.1], ?_⟩
      intro x hx
      rcases List.mem_cons.mp hx with h | h
      · subst h; exact hc
      · exact ih.2 x h
    · exact ⟨rfl, fun x hx => by cases hx⟩

theorem valOf_foldl_ge (t : Bytes) (a : Nat) : a ≤ t.foldl (fun a d => a * 10 + (d - 48)) a := by
  induction t generalizing a with
  | nil => exact Nat.le_refl _
  | cons d t ih =>
    simp only [List.foldl_cons]
    exact Nat.le_trans (by omega) (ih _)

theorem valOf_pos (d : Nat) (t : Bytes) (hd : isDigit d = true) (h0 : d ≠ 48) : 1 ≤ valOf (d :: t) := by
  simp only [valOf, List.foldl_cons]
  have : 1 ≤ 0 * 10 + (d - 48) := by simp [isDigit] at hd; omega
  exact Nat.le_trans this (valOf_foldl_ge t _)

/-- a canonical digit string IS the decimal spelling of its value -/
theorem digitsAux_valOf (f : Nat) (l : Bytes) (hl : l ≠ []) (hd : ∀ x ∈ l, isDigit x = true)
    (hc : l = [48] ∨ ∃ d t, l = d :: t ∧ d ≠ 48) (hf : l.length ≤ f) : digitsAux f (valOf l) [] = l := by
  induction f generalizing l with
  | zero =>
    have : l.length = 0 := by omega
    exact absurd (List.length_eq_zero_iff.mp this) hl
  | succ f ih =>
    have hsplit := List.dropLast_concat_getLast hl
    generalize hi : l.dropLast = init at hsplit
    generalize hx : l.getLast hl = x at hsplit
    have hxd : isDigit x = true := hd x (by rw [← hsplit]; simp)
    have hx48 : 48 ≤ x ∧ x ≤ 57 := by simpa [isDigit] using hxd
    rw [← hsplit, valOf_append_one]
    cases init with
    | nil =>
      simp only [valOf, List.foldl_nil, Nat.zero_mul, Nat.zero_add, digitsAux, List.nil_append]
      rw [if_pos (by omega)]
      congr 1; omega
    | cons d t =>
      -- the head of `l` is the head of `init`
      have hhead : d ≠ 48 := by
        rcases hc with h1 | ⟨d', t', he, hd'⟩
        · rw [← hsplit] at h1
          have := congrArg List.length h1
          simp at this
        · rw [← hsplit] at he
          simp only [List.cons_append, List.cons.injEq] at he
          rw [he.1]; exact hd'
      have hdi : ∀ y ∈ d :: t, isDigit y = true := fun y hy => hd y (by rw [← hsplit]; exact List.mem_append_left _ hy)
      have hpos := valOf_pos d t (hdi d (by simp)) hhead
      have hlen : (d :: t).length ≤ f := by
        have := congrArg List.length hsplit
        simp only [List.length_append, List.length_singleton] at this
        omega
      simp only [digitsAux]
      rw [if_neg (by omega), digitsAux_acc]
      have h1 : (valOf (d :: t) * 10 + (x - 48)) / 10 = valOf (d :: t) := by omega
      have h2 : 48 + (valOf (d :: t) * 10 + (x - 48)) % 10 = x := by omega
      rw [h1, h2, ih (d :: t) (by simp) hdi (Or.inr ⟨d, t, rfl, hhead⟩) hlen]

theorem lawful_natBelow (bound : Nat) (hb : bound ≤ 10 ^ 20) : Lawful (natBelow bound) where
  rt := by
    intro n rest hn hr
    have hn20 : n < 10 ^ 20 := Nat.lt_of_lt_of_le hn hb
    simp only [natBelow, decimal]
    rw [spanDigits_append _ rest (digitsAux_digits 20 n) hr]
    have hv := valOf_digitsAux 20 n hn20
    have hlen := digitsAux_length 20 n
    rcases digitsAux_head 20 n (by decide) hn20 with ⟨h0, he⟩ | ⟨hpos, d, t, he, hd⟩
    · rw [he]
      subst h0
      have hb0 : 0 < bound := hn
      simp [valOf]
      omega
    · rw [he] at hv hlen ⊢
      simp only
      rw [if_neg (fun h => hd h.1), if_pos ⟨by simp only [List.length_cons] at hlen; omega, by rw [hv]; exact hn⟩, hv]
  exact := by
    intro bs v rest h
    simp only [natBelow] at h
    obtain ⟨hbs, hdig⟩ := spanDigits_exact bs
    split at h
    · cases h
    · rename_i d ds r hs
      rw [hs] at hbs hdig
      simp only at hbs hdig
      split at h
      · cases h
      · rename_i hz
        split at h
        · rename_i hlv
          simp only [Option.some.injEq, Prod.mk.injEq] at h
          obtain ⟨hv, hr⟩ := h
          subst hr
          refine ⟨?_, by show v < bound; rw [← hv]; exact hlv.2⟩
          show bs = decimal v ++ r
          rw [hbs, ← hv]
          congr 1
          unfold decimal
          symm
          apply digitsAux_valOf 20 (d :: ds) (by simp) hdig
          · by_cases hd48 : d = 48
            · left
              have : ds = [] := by
                by_cases hds : ds = []
                · exact hds
                · exact absurd ⟨hd48, hds⟩ hz
              rw [hd48, this]
            · right; exact ⟨d, ds, rfl, hd48⟩
          · simp only [List.length_cons]; omega
        · cases h

theorem lawful_u64 : Lawful u64 := lawful_natBelow _ (by decide)
theorem lawful_u8 : Lawful u8 := lawful_natBelow _ (by decide)

theorem digitsAux_ne_nil (f n : Nat) : digitsAux (f + 1) n [] ≠ [] := by
  show (if n < 10 then [48 + n] else digitsAux f (n / 10) [48 + n % 10]) ≠ []
  split
  · simp
  · rw [digitsAux_acc]; simp

theorem natBelow_head (bound : Nat) (x : Nat) (hx : isDigit x = false) : HeadNe (natBelow bound) x := by
  intro n
  show ∃ h t, decimal n = h :: t ∧ h ≠ x
  have hd := digitsAux_digits 20 n
  unfold decimal
  cases he : digitsAux 20 n [] with
  | nil => exact absurd he (digitsAux_ne_nil 19 n)
  | cons h t =>
    refine ⟨h, t, rfl, ?_⟩
    intro hh
    have := hd h (by rw [he]; simp)
    rw [hh, hx] at this
    cases this

theorem lawful_bool : Lawful bool where
  rt := by
    intro b rest _ _
    cases b <;> rfl
  exact := by
    intro bs a rest h
    simp only [bool] at h
    split at h
    · cases h; exact ⟨rfl, trivial⟩
    · cases h; exact ⟨rfl, trivial⟩
    · cases h

theorem closed_bool : Closed bool := by
  intro b rest _
  cases b <;> rfl

/-! ## strings -/

theorem unhex_hexLow : ∀ d, d < 16 → unhexLow (hexLow d) = some d := by decide

theorem hexLow_of_unhex (c d : Nat) (h : unhexLow c = some d) : hexLow d = c ∧ d < 16 := by
  unfold unhexLow at h
  split at h
  · simp only [Option.some.injEq] at h
    subst h
    unfold hexLow
    constructor
    · rw [if_pos (by omega)]; omega
    · omega
  · split at h
    · simp only [Option.some.injEq] at h
      subst h
      unfold hexLow
      constructor
      · rw [if_neg (by omega)]; omega
      · omega
    · cases h

theorem pushB_some (b : Nat) (o : Option (Bytes × Bytes)) (c rest : Bytes) (h : pushB b o = some (c, rest)) :
    ∃ c', c = b :: c' ∧ o = some (c', rest) := by
  cases o with
  | none => cases h
  | some p =>
    obtain ⟨c', r⟩ := p
    simp only [pushB, Option.some.injEq, Prod.mk.injEq] at h
    exact ⟨c', h.1.symm, by rw [h.2]⟩

/-- the table of short escapes read backwards: `\e` stands for `v` only if `v` is written `\e` -/
theorem shortEsc_some {e v : Nat} (h : shortEsc e = some v) : escByte v = [92, e] ∧ v < 256 := by
  simp only [shortEsc, ite_eq_some, Option.some.injEq, reduceCtorEq, and_false, or_false] at h
  rcases h with ⟨rfl, rfl⟩ | ⟨-, ⟨rfl, rfl⟩ | ⟨-, ⟨rfl, rfl⟩ | ⟨-, ⟨rfl, rfl⟩ | ⟨-, ⟨rfl, rfl⟩ |
    ⟨-, ⟨rfl, rfl⟩ | ⟨-, rfl, rfl⟩⟩⟩⟩⟩⟩ <;> decide

/-- the three ways the encoder writes a byte: short escape, `\u00XX`, or itself -/
theorem escByte_cases (b : Nat) :
    (∃ e, e ≠ 117 ∧ shortEsc e = some b ∧ escByte b = [92, e]) ∨
    (b < 32 ∧ b ≠ 8 ∧ b ≠ 9 ∧ b ≠ 10 ∧ b ≠ 12 ∧ b ≠ 13 ∧
      escByte b = [92, 117, 48, 48, hexLow (b / 16), hexLow (b % 16)]) ∨
    (32 ≤ b ∧ b ≠ 34 ∧ b ≠ 92 ∧ escByte b = [b]) := by
  by_cases h1 : b = 34; · subst h1; exact .inl ⟨34, by decide, rfl, rfl⟩
  by_cases h2 : b = 92; · subst h2; exact .inl ⟨92, by decide, rfl, rfl⟩
  by_cases h3 : b = 8; · subst h3; exact .inl ⟨98, by decide, rfl, rfl⟩
  by_cases h4 : b = 12; · subst h4; exact .inl ⟨102, by decide, rfl, rfl⟩
  by_cases h5 : b = 10; · subst h5; exact .inl ⟨110, by decide, rfl, rfl⟩
  by_cases h6 : b = 13; · subst h6; exact .inl ⟨114, by decide, rfl, rfl⟩
  by_cases h7 : b = 9; · subst h7; exact .inl ⟨116, by decide, rfl, rfl⟩
  unfold escByte
  rw [if_neg h1, if_neg h2, if_neg h3, if_neg h4, if_neg h5, if_neg h6, if_neg h7]
  by_cases h8 : b < 32
  · exact .inr (.inl ⟨h8, h3, h7, h5, h4, h6, if_pos h8⟩)
  · exact .inr (.inr ⟨by omega, h1, h2, if_neg h8⟩)

theorem unescAux_step (b : Nat) (tail : Bytes) (f : Nat) (hb : b < 256) :
    unescAux (f + 1) (escByte b ++ tail) = pushB b (unescAux f tail) := by
  rcases escByte_cases b with ⟨e, he, hs, hw⟩ | ⟨h32, h8, h9, h10, h12, h13, hw⟩ | ⟨h32, h34, h92, hw⟩
  · rw [hw]
    simp only [List.cons_append, List.nil_append, unescAux, Nat.reduceEqDiff, ↓reduceIte]
    rw [if_neg he, hs]
  · rw [hw]
    simp only [List.cons_append, List.nil_append, unescAux, Nat.reduceEqDiff, ↓reduceIte]
    rw [unhex_hexLow (b / 16) (by omega),
      unhex_hexLow (b % 16) (by omega)]
    simp only
    rw [show b / 16 * 16 + b % 16 = b by omega, if_pos ⟨h32, h8, h9, h10, h12, h13⟩]
  · rw [hw]
    simp only [List.cons_append, List.nil_append, unescAux]
    rw [if_neg h34, if_neg h92, if_neg (by omega)]

theorem escape_cons (b : Nat) (bs : Bytes) : escape (b :: bs) = escByte b ++ escape bs := rfl

theorem escByte_length_pos (b : Nat) : 1 ≤ (escByte b).length := by
  rcases escByte_cases b with ⟨e, -, -, hw⟩ | ⟨-, -, -, -, -, -, hw⟩ | ⟨-, -, -, hw⟩ <;> rw [hw] <;> simp
theorem unescAux_rt (bs rest : Bytes) (f : Nat) (hb : ∀ x ∈ bs, x < 256) (hf : bs.length < f) :
    unescAux f (escape bs ++ 34 :: rest) = some (bs, rest) := by
  induction bs generalizing f with
  | nil =>
    cases f with
    | zero => omega
    | succ f => simp [escape, unescAux]
  | cons b bs ih =>
    cases f with
    | zero => omega
    | succ f =>
      rw [escape_cons, List.append_assoc, unescAux_step b _ f (hb b (by simp)),
        ih f (fun x hx => hb x (by simp [hx])) (by simp only [List.length_cons] at hf; omega)]
      rfl

theorem escape_length_ge (bs : Bytes) : bs.length ≤ (escape bs).length := by
  induction bs with
  | nil => simp [escape]
  | cons b bs ih =>
    rw [escape_cons]
    have := escByte_length_pos b
    simp only [List.length_cons, List.length_append]
    omega

theorem unescAux_exact (f : Nat) (bs c rest : Bytes) (h : unescAux f bs = some (c, rest)) :
    bs = escape c ++ 34 :: rest ∧ ∀ x ∈ c, x < 256 := by
  induction f generalizing bs c with
  | zero => simp [unescAux] at h
  | succ f ih =>
    cases bs with
    | nil => simp [unescAux] at h
    | cons b r =>
      simp only [unescAux] at h
      by_cases hq : b = 34
      · -- the closing quote: the string is empty
        rw [if_pos hq] at h
        cases h
        subst hq
        exact ⟨rfl, fun x hx => by cases hx⟩
      · rw [if_neg hq] at h
        by_cases hbs : b = 92
        · rw [if_pos hbs] at h
          subst hbs
          cases r with
          | nil => cases h
          | cons e r1 =>
            simp only at h
            split at h
            · -- `\u00XY`: accepted only for the bytes `escByte` writes that way (`hv`)
              rename_i he
              subst he
              split at h
              · rename_i hh l r2
                split at h
                · rename_i x y hx hy
                  split at h
                  · rename_i hv
                    obtain ⟨c', hc', ho⟩ := pushB_some _ _ _ _ h
                    obtain ⟨e1, e2⟩ := ih r2 c' ho
                    obtain ⟨hhx, hx16⟩ := hexLow_of_unhex hh x hx
                    obtain ⟨hly, hy16⟩ := hexLow_of_unhex l y hy
                    subst hc'
                    refine ⟨?_, ?_⟩
                    · rw [escape_cons, e1]
                      have hesc : escByte (x * 16 + y) = [92, 117, 48, 48, hh, l] := by
                        unfold escByte
                        rw [if_neg (by omega), if_neg (by omega), if_neg hv.2.1, if_neg hv.2.2.2.2.1, if_neg hv.2.2.2.1,
                          if_neg hv.2.2.2.2.2, if_neg hv.2.2.1, if_pos hv.1]
                        have d1 : (x * 16 + y) / 16 = x := by omega
                        have d2 : (x * 16 + y) % 16 = y := by omega
                        rw [d1, d2, hhx, hly]
                      rw [hesc]; rfl
                    · intro z hz
                      rcases List.mem_cons.mp hz with hz | hz
                      · omega
                      · exact e2 z hz
                  · cases h
                · cases h
              · cases h
            · -- a two-byte escape (`shortEsc`)
              rename_i he
              split at h
              · rename_i v hv
                obtain ⟨c', hc', ho⟩ := pushB_some _ _ _ _ h
                obtain ⟨e1, e2⟩ := ih r1 c' ho
                obtain ⟨hw, hv256⟩ := shortEsc_some hv
                subst hc'
                refine ⟨by rw [escape_cons, e1, hw]; rfl, ?_⟩
                intro z hz
                rcases List.mem_cons.mp hz with hz | hz
                · subst hz; exact hv256
                · exact e2 z hz
              · cases h
        · -- a plain byte: one that `escByte` leaves alone (`hrange`)
          rw [if_neg hbs] at h
          split at h
          · cases h
          · rename_i hrange
            obtain ⟨c', hc', ho⟩ := pushB_some _ _ _ _ h
            obtain ⟨e1, e2⟩ := ih r c' ho
            subst hc'
            refine ⟨?_, ?_⟩
            · rw [escape_cons, e1]
              have : escByte b = [b] := by
                unfold escByte
                rw [if_neg hq, if_neg hbs, if_neg (by omega), if_neg (by omega), if_neg (by omega), if_neg (by omega),
                  if_neg (by omega), if_neg (by omega)]
              rw [this]; rfl
            · intro z hz
              rcases List.mem_cons.mp hz with hz | hz
              · omega
              · exact e2 z hz

theorem lawful_str : Lawful str ∧ Closed str := by
  have hrt : Closed str := by
    intro b rest hb
    show str.dec (34 :: (escape b ++ [34]) ++ rest) = _
    simp only [str, List.cons_append, List.append_assoc, List.nil_append]
    unfold unesc
    rw [unescAux_rt b rest _ ((Bincode.allBytes_iff b).mp hb.1) (by
      have := escape_length_ge b
      simp only [List.length_append, List.length_cons]
      omega)]
    simp only
    rw [if_pos hb.2]
  refine ⟨⟨fun a rest ha _ => hrt a rest ha, ?_⟩, hrt⟩
  intro bs a rest h
  cases bs with
  | nil => simp [str] at h
  | cons q r =>
    simp only [str] at h
    split at h
    · rename_i r' heq
      simp only [List.cons.injEq] at heq
      obtain ⟨hq, hr⟩ := heq
      subst hq; subst hr
      split at h
      · rename_i c rest' hu
        split at h
        · rename_i hutf
          cases h
          obtain ⟨e1, e2⟩ := unescAux_exact _ _ _ _ hu
          refine ⟨?_, (Bincode.allBytes_iff a).mpr e2, hutf⟩
          show 34 :: r = 34 :: (escape a ++ [34]) ++ rest
          rw [e1]; simp
        · cases h
      · cases h
    · cases h

theorem str_head (x : Nat) (hx : x ≠ 34) : HeadNe str x :=
  fun a => ⟨34, escape a ++ [34], rfl, fun h => hx h.symm⟩

/-! ## combinators -/

theorem lawful_pre {α : Type} {c : Codec α} (p : Bytes) (hc : Lawful c) : Lawful (pre p c) where
  rt := by
    intro a rest ha hr
    simp only [pre]
    rw [List.append_assoc, strip_append]
    exact hc.rt a rest ha hr
  exact := by
    intro bs a rest h
    simp only [pre] at h
    split at h
    · cases h
    · rename_i r hs
      obtain ⟨e1, o1⟩ := hc.exact r a rest h
      refine ⟨?_, o1⟩
      show bs = (p ++ c.enc a) ++ rest
      rw [strip_exact p bs r hs, e1, List.append_assoc]

theorem closed_pre {α : Type} {c : Codec α} (p : Bytes) (hc : Closed c) : Closed (pre p c) := by
  intro a rest ha
  simp only [pre]
  rw [List.append_assoc, strip_append]
  exact hc a rest ha

theorem post_rt {α : Type} {c : Codec α} (p : Bytes) (hc : Lawful c) (hp : headND p = true) :
    Closed (post c p) := by
  intro a rest ha
  simp only [post]
  rw [List.append_assoc, hc.rt a _ ha (delim_of_headND hp rest)]
  simp only
  rw [strip_append]

theorem lawful_post {α : Type} {c : Codec α} (p : Bytes) (hc : Lawful c) (hp : headND p = true) :
    Lawful (post c p) where
  rt := fun a rest ha _ => post_rt p hc hp a rest ha
  exact := by
    intro bs a rest h
    simp only [post] at h
    split at h
    · cases h
    · rename_i a' r h1
      split at h
      · cases h
      · rename_i r' hs
        cases h
        obtain ⟨e1, o1⟩ := hc.exact bs a r h1
        refine ⟨?_, o1⟩
        show bs = (c.enc a ++ p) ++ rest
        rw [e1, strip_exact p r rest hs, List.append_assoc]

theorem lawful_pairSep {α β : Type} {c : Codec α} {d : Codec β} (sep : Bytes) (hc : Lawful c) (hd : Lawful d)
    (hs : headND sep = true) : Lawful (pairSep c sep d) where
  rt := by
    intro p rest hp hr
    simp only [pairSep]
    rw [List.append_assoc, hc.rt p.1 _ hp.1 (by rw [List.append_assoc]; exact delim_of_headND hs _)]
    simp only
    rw [List.append_assoc, strip_append]
    simp only
    rw [hd.rt p.2 rest hp.2 hr]
  exact := by
    intro bs p rest h
    simp only [pairSep] at h
    split at h
    · cases h
    · rename_i a r h1
      split at h
      · cases h
      · rename_i r1 hs1
        split at h
        · cases h
        · rename_i b r' h2
          cases h
          obtain ⟨e1, o1⟩ := hc.exact bs a r h1
          obtain ⟨e2, o2⟩ := hd.exact r1 b rest h2
          refine ⟨?_, o1, o2⟩
          show bs = (c.enc a ++ (sep ++ d.enc b)) ++ rest
          rw [e1, strip_exact sep r r1 hs1, e2]; simp

theorem closed_pairSep {α β : Type} {c : Codec α} {d : Codec β} (sep : Bytes) (hc : Lawful c) (hd : Closed d)
    (hs : headND sep = true) : Closed (pairSep c sep d) := by
  intro p rest hp
  simp only [pairSep]
  rw [List.append_assoc, hc.rt p.1 _ hp.1 (by rw [List.append_assoc]; exact delim_of_headND hs _)]
  simp only
  rw [List.append_assoc, strip_append]
  simp only
  rw [hd p.2 rest hp.2]

theorem pairSep_head {α β : Type} {c : Codec α} {d : Codec β} (sep : Bytes) (x : Nat) (hc : HeadNe c x) :
    HeadNe (pairSep c sep d) x := by
  intro p
  obtain ⟨h, t, he, hx⟩ := hc p.1
  exact ⟨h, t ++ (sep ++ d.enc p.2), by show c.enc p.1 ++ _ = _; rw [he]; rfl, hx⟩

theorem pre_head {α : Type} {c : Codec α} (h : Nat) (t : Bytes) (x : Nat) (hx : h ≠ x) : HeadNe (pre (h :: t) c) x :=
  fun a => ⟨h, t ++ c.enc a, rfl, hx⟩

theorem post_head {α : Type} {c : Codec α} (p : Bytes) (x : Nat) (hc : HeadNe c x) : HeadNe (post c p) x := by
  intro a
  obtain ⟨h, t, he, hx⟩ := hc a
  exact ⟨h, t ++ p, by show c.enc a ++ p = _; rw [he]; rfl, hx⟩

theorem xmap_head {α β : Type} {c : Codec α} (f : α → β) (g : β → α) (x : Nat) (hc : HeadNe c x) :
    HeadNe (xmap c f g) x := fun b => hc (g b)

theorem lawful_opt {α : Type} {c : Codec α} (hc : Lawful c) (hn : HeadNe c 110) : Lawful (opt c) where
  rt := by
    intro a rest ha hr
    cases a with
    | none => rfl
    | some a =>
      obtain ⟨h, t, he, hne⟩ := hn a
      have hdec := hc.rt a rest ha hr
      show (opt c).dec (c.enc a ++ rest) = _
      rw [he] at hdec ⊢
      simp only [List.cons_append] at hdec ⊢
      unfold opt
      simp only
      split
      · rename_i r heq
        simp only [List.cons.injEq] at heq
        exact absurd heq.1 hne
      · rw [hdec]
  exact := by
    intro bs a rest h
    unfold opt at h
    simp only at h
    split at h
    · cases h; exact ⟨rfl, trivial⟩
    · split at h
      · rename_i a' r hd
        cases h
        exact hc.exact _ a' rest hd
      · cases h

theorem lawful_xmap {α β : Type} {c : Codec α} (hc : Lawful c) (f : α → β) (g : β → α)
    (hfg : ∀ b, f (g b) = b) (hgf : ∀ a, g (f a) = a) : Lawful (xmap c f g) where
  rt := by
    intro b rest hb hr
    simp only [xmap]
    rw [hc.rt (g b) rest hb hr]
    simp only [hfg]
  exact := by
    intro bs b rest h
    simp only [xmap] at h
    split at h
    · cases h
    · rename_i a r h1
      cases h
      obtain ⟨e1, o1⟩ := hc.exact bs a rest h1
      refine ⟨?_, ?_⟩
      · show bs = c.enc (g (f a)) ++ rest
        rw [hgf]; exact e1
      · show c.ok (g (f a))
        rw [hgf]; exact o1

theorem closed_xmap {α β : Type} {c : Codec α} (hc : Closed c) (f : α → β) (g : β → α)
    (hfg : ∀ b, f (g b) = b) : Closed (xmap c f g) := by
  intro b rest hb
  simp only [xmap]
  rw [hc (g b) rest hb]
  simp only [hfg]

/-! ## sequences -/

theorem decRest_rt {α : Type} {c : Codec α} (close : Nat) (hc : Lawful c) (hcl : isDigit close = false)
    (h44 : close ≠ 44) (t : List α) (rest : Bytes) (f : Nat) (ht : ∀ a ∈ t, c.ok a) (hf : t.length < f) :
    decRest close c.dec f (t.flatMap (fun x => 44 :: c.enc x) ++ close :: rest) = some (t, rest) := by
  induction t generalizing f with
  | nil =>
    cases f with
    | zero => omega
    | succ f => simp [decRest]
  | cons a t ih =>
    cases f with
    | zero => omega
    | succ f =>
      simp only [List.flatMap_cons, List.cons_append, List.append_assoc, decRest]
      rw [if_neg (fun h => h44 h.symm)]
      simp only [if_true]
      have hd : Delim (t.flatMap (fun x => 44 :: c.enc x) ++ close :: rest) := by
        cases t with
        | nil => exact delim_cons hcl rest
        | cons b t' => simp only [List.flatMap_cons, List.cons_append]; exact delim_cons (by decide) _
      rw [hc.rt a _ (ht a (by simp)) hd]
      simp only
      rw [ih f (fun x hx => ht x (by simp [hx])) (by simp only [List.length_cons] at hf; omega)]

theorem decRest_exact {α : Type} {c : Codec α} (close : Nat) (hc : Lawful c) (f : Nat) (bs : Bytes) (l : List α)
    (rest : Bytes) (h : decRest close c.dec f bs = some (l, rest)) :
    bs = l.flatMap (fun x => 44 :: c.enc x) ++ close :: rest ∧ ∀ a ∈ l, c.ok a := by
  induction f generalizing bs l with
  | zero => simp [decRest] at h
  | succ f ih =>
    cases bs with
    | nil => simp [decRest] at h
    | cons b r =>
      simp only [decRest] at h
      split at h
      · rename_i hb
        cases h
        subst hb
        exact ⟨rfl, fun a ha => by cases ha⟩
      · split at h
        · rename_i hb
          subst hb
          split at h
          · cases h
          · rename_i a r1 h1
            split at h
            · cases h
            · rename_i as r2 h2
              cases h
              obtain ⟨e1, o1⟩ := hc.exact r a r1 h1
              obtain ⟨e2, o2⟩ := ih r1 as h2
              refine ⟨by rw [e1, e2]; simp, ?_⟩
              intro x hx
              rcases List.mem_cons.mp hx with hx | hx
              · subst hx; exact o1
              · exact o2 x hx
        · cases h

theorem flatMap_length_ge {α : Type} (c : Codec α) (t : List α) :
    t.length ≤ (t.flatMap (fun x => 44 :: c.enc x)).length := by
  induction t with
  | nil => simp
  | cons a t ih => simp only [List.flatMap_cons, List.length_cons, List.length_append]; omega

theorem lawful_seq {α : Type} {c : Codec α} (op close : Nat) (hc : Lawful c) (hcl : isDigit close = false)
    (h44 : close ≠ 44) (hhd : HeadNe c close) : Lawful (seq op close c) ∧ Closed (seq op close c) := by
  have hrt : Closed (seq op close c) := by
    intro l rest hl
    cases l with
    | nil => simp [seq]
    | cons a t =>
      obtain ⟨h, tl, he, hne⟩ := hhd a
      show (seq op close c).dec (op :: (c.enc a ++ (t.flatMap (fun x => 44 :: c.enc x) ++ [close])) ++ rest) = _
      have hd : Delim (t.flatMap (fun x => 44 :: c.enc x) ++ close :: rest) := by
        cases t with
        | nil => exact delim_cons hcl rest
        | cons b t' => simp only [List.flatMap_cons, List.cons_append]; exact delim_cons (by decide) _
      have hdec := hc.rt a _ (hl a (by simp)) hd
      simp only [seq, List.cons_append, List.append_assoc, List.nil_append, ne_eq, not_true_eq_false, if_false]
      rw [he] at hdec ⊢
      simp only [List.cons_append] at hdec ⊢
      rw [if_neg hne, hdec]
      simp only
      rw [decRest_rt close hc hcl h44 t rest _ (fun x hx => hl x (by simp [hx])) (by
        have := flatMap_length_ge c t
        simp only [List.length_append, List.length_cons]
        omega)]
  refine ⟨⟨fun a rest ha _ => hrt a rest ha, ?_⟩, hrt⟩
  intro bs l rest h
  cases bs with
  | nil => simp [seq] at h
  | cons b r =>
    simp only [seq] at h
    split at h
    · cases h
    · rename_i hb
      simp only [ne_eq, Decidable.not_not] at hb
      subst hb
      cases r with
      | nil => cases h
      | cons b1 r1 =>
        simp only at h
        split at h
        · rename_i hb1
          cases h
          subst hb1
          exact ⟨rfl, fun a ha => by cases ha⟩
        · split at h
          · cases h
          · rename_i a r2 h1
            split at h
            · cases h
            · rename_i as r3 h2
              cases h
              obtain ⟨e1, o1⟩ := hc.exact _ a r2 h1
              obtain ⟨e2, o2⟩ := decRest_exact close hc _ r2 as rest h2
              refine ⟨?_, ?_⟩
              · show b :: b1 :: r1 = b :: (c.enc a ++ (as.flatMap (fun x => 44 :: c.enc x) ++ [close])) ++ rest
                rw [e1, e2]; simp
              · intro x hx
                rcases List.mem_cons.mp hx with hx | hx
                · subst hx; exact o1
                · exact o2 x hx

theorem seq_head {α : Type} (c : Codec α) (op close x : Nat) (hx : op ≠ x) : HeadNe (seq op close c) x := by
  intro l
  cases l with
  | nil => exact ⟨op, [close], rfl, hx⟩
  | cons a t => exact ⟨op, _, rfl, hx⟩

end Json
end RedisVerif
