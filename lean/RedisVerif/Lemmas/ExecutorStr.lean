import RedisVerif.Lemmas.Executor

/-! Refinement of the string / counter functions of `Model.Executor` to M7 (`Redis.exec`). -/
set_option linter.unusedSimpArgs false

namespace RedisVerif.Executor
open RedisVerif RedisVerif.Redis

/-- close a goal that is `rfl` or has already been simplified to `True` -/
macro "triv" : tactic => `(tactic| first | rfl | trivial)

/-- the result `res` of an executor function simulates the state function `f` on `absP cs`: same
    reply, same visible keyspace afterwards, invariant kept, clock and configuration untouched -/
def SimF (cs : CState) (f : State → State × Reply) (res : CState × Reply) : Prop :=
  res.2 = (f (absP cs)).2 ∧
  absP res.1 = purge (f (absP cs)).1 (unix cs) ∧
  CInv res.1 ∧ res.1.now = cs.now ∧ res.1.epoch = cs.epoch

/-- … simulates M7's `exec` of `c` -/
def Sim (cs : CState) (c : Cmd) (res : CState × Reply) : Prop :=
  SimF cs (fun s => exec s (unix cs) c) res

/- `Sim cs (.get k) res` is `SimF cs (fun s => execGet s k) res` by computation: `exec` reduces on a
   constructor.  The proofs rely on that (by unification, or `show`): `simp only [exec]` is slow, it first
   derives the equation of every arm of `exec`. -/

/-- only the value of `f` at `absP cs` matters -/
theorem simF_of_eq {cs : CState} {f g : State → State × Reply} {res : CState × Reply}
    (hfg : f (absP cs) = g (absP cs)) (h : SimF cs g res) : SimF cs f res := by
  unfold SimF at *
  rw [hfg]; exact h

theorem simF_congr {cs : CState} {f g : State → State × Reply} {res : CState × Reply}
    (hfg : ∀ s, f s = g s) (h : SimF cs g res) : SimF cs f res := simF_of_eq (hfg _) h

theorem simF_refl {cs : CState} {f : State → State × Reply} {r : Reply} (h : CInv cs)
    (hf : f (absP cs) = (absP cs, r)) : SimF cs f (cs, r) := by
  unfold SimF
  rw [hf]
  exact ⟨rfl, (purge_absP cs).symm, h, rfl, rfl⟩

theorem exp_none_of_data_none {c : CState} (h : CInv c) {k : Nat} (hd : NMap.get c.data k = none) :
    NMap.get c.exp k = none := by
  cases he : NMap.get c.exp k with
  | none => rfl
  | some d =>
    have := h.sub k (by simp [he])
    simp [hd] at this

theorem unix_eq {c cs : CState} (hn : c.now = cs.now) (he : c.epoch = cs.epoch) : unix cs = unix c := by
  simp [unix, hn, he]

/-- sequencing: what simulates `g` from a state `c1` that shows `t (absP c)` simulates `g ∘ t` from `c` -/
theorem SimF.after {c c1 : CState} {t : State → State} (ha : absP c1 = t (absP c)) (hn : c1.now = c.now)
    (he : c1.epoch = c.epoch) {g : State → State × Reply} {res : CState × Reply} (hs : SimF c1 g res) :
    SimF c (fun s => g (t s)) res := by
  unfold SimF at hs ⊢
  rw [ha, ← unix_eq hn he] at hs
  exact ⟨hs.1, hs.2.1, hs.2.2.1, hs.2.2.2.1.trans hn, hs.2.2.2.2.trans he⟩

/-! ### the shape of a single-key command

`get_value(k)` (or the lazy drop, or the test `liveKey`) leaves a state `c` showing the same keyspace, in which
`k` is not past its deadline (`After`).  From there the command is simulated as from a fresh start (`After.simF`),
and it ends in one of a few ways: nothing is written (`After.keep`, `.wrong`), or one write at `k` that M7 sees
as `Wrote` says (`Wrote.simF`; `After.store`, `.create`, `.drop` for the common ones).  The entry lemmas
(`simF_str` …) have the shape of the `match` the executor functions are written with, so that a command's
refinement proof is a term that follows its body. -/

section after
variable {cs c : CState} {k : Nat} {o : Option Value} {f : State → State × Reply} {r : Reply}

theorem After.look_none (g : After cs k c none) : NMap.get (absP c) k = none := g.look

theorem After.look_some {w : Value} (g : After cs k c (some w)) :
    NMap.get (absP c) k = some ⟨w, (NMap.get c.exp k).map (· + c.epoch)⟩ := g.look

/-- what simulates `f` from the state the preamble has left simulates it from `cs` -/
theorem After.simF (g : After cs k c o) {res : CState × Reply} (h : SimF c f res) : SimF cs f res :=
  SimF.after (t := id) g.same g.now g.epoch h

theorem After.keep (g : After cs k c o) (hf : f (absP c) = (absP c, r)) : SimF c f (c, r) := simF_refl g.inv hf

theorem After.wrong (g : After cs k c o) (hf : f (absP c) = (absP c, .err .wrongType)) :
    SimF c f (c, wrongType) := g.keep hf

/-- the ending of every branch that writes: the code has reached a state that shows what M7 puts at `k` -/
theorem Wrote.simF {c' : CState} {e : Option Entry} (hd : Wrote c k e c')
    (hf : f (absP c) = (setAt k e (absP c), r)) : SimF c f (c', r) := by
  unfold SimF; rw [hf]
  exact ⟨rfl, hd.shows, hd.inv, hd.now, hd.epoch⟩

/-- … or two of them, one after the other, at any two keys -/
theorem Wrote.simF₂ {c1 c2 : CState} {k2 : Nat} {e1 e2 : Option Entry} (h1 : Wrote c k e1 c1)
    (h2 : Wrote c1 k2 e2 c2) (h : CInv c) (hf : f (absP c) = (setAt k2 e2 (setAt k e1 (absP c)), r)) :
    SimF c f (c2, r) := by
  unfold SimF; rw [hf]
  exact ⟨rfl, h1.andThen h2 h, h2.inv, h2.now.trans h1.now, h2.epoch.trans h1.epoch⟩

/-- a write that M7 sees as it is, then whatever simulates `g` from there: how the loops of MSET and DEL go -/
theorem Wrote.seq {c1 : CState} {e : Option Entry} (hw : Wrote c k e c1) (h : CInv c)
    (he : e.filter (live (unix c)) = e) {g : State → State × Reply} {res : CState × Reply}
    (hs : SimF c1 g res) : SimF c (fun s => g (setAt k e s)) res :=
  SimF.after (hw.absP_live h he) hw.now hw.epoch hs

/-- `data.insert(k, v)` on a key that is present: the deadline stays -/
theorem After.store (g : After cs k c o) {v : Value} (hv : ValueOk v)
    (hf : f (absP c) = (NMap.insert k ⟨v, (NMap.get c.exp k).map (· + c.epoch)⟩ (absP c), r)) :
    SimF c f ({ c with data := NMap.insert k v c.data }, r) :=
  (Wrote.store g.inv g.notExp hv).simF hf

/-- `data.insert(k, v)` on a key that is absent: no deadline -/
theorem After.create (g : After cs k c none) {v : Value} (hv : ValueOk v)
    (hf : f (absP c) = (NMap.insert k ⟨v, none⟩ (absP c), r)) :
    SimF c f ({ c with data := NMap.insert k v c.data }, r) :=
  g.store hv (by rw [hf, exp_none_of_data_none g.inv g.val]; rfl)

/-- `data.remove(k); expirations.remove(k)` -/
theorem After.drop (g : After cs k c o) (hf : f (absP c) = (NMap.erase k (absP c), r)) :
    SimF c f (dropKey c k, r) := (Wrote.drop (e := none) g.inv rfl).simF hf

/-- a command on a string against an M7 function written with the same three arms -/
theorem simF_str {cs : CState} (h : CInv cs) (k : Nat)
    {fN : State → State × Reply} {fF : BS → Option Nat → State → State × Reply}
    {F : CState → BS → CState × Reply} {N : CState → CState × Reply}
    (hF : ∀ c b, After cs k c (some (.str b)) →
      SimF c (fF b ((NMap.get c.exp k).map (· + c.epoch))) (F c b))
    (hN : ∀ c, After cs k c none → SimF c fN (N c)) :
    SimF cs (fun s => match lookupStr s k with
        | .missing => fN s
        | .wrong => (s, .err .wrongType)
        | .found b dl => fF b dl s)
      (match getValue cs k with
      | (c, some (.str b)) => F c b
      | (c, some _) => (c, wrongType)
      | (c, none) => N c) := by
  have g := after_getValue h k
  rcases hr : getValue cs k with ⟨c, _ | w⟩ <;> rw [hr] at g <;> refine g.simF ?_
  · have := hN c g
    simp only [SimF, lookupStr, g.look_none] at this ⊢
    exact this
  · cases w
    case str b =>
      have := hF c b g
      simp only [SimF, lookupStr, g.look_some] at this ⊢
      exact this
    all_goals exact g.wrong (by simp only [lookupStr, g.look_some])

end after

set_option hygiene false in
/-- `gv h k`: name the state `c` and the value `o` that `getValue cs k` returns, with `g : After cs k c o` -/
macro "gv" h:ident k:ident : tactic => `(tactic| (
  have g := after_getValue $h $k
  rcases hr : getValue _ $k with ⟨c, o⟩
  rw [hr] at g
  dsimp only at g))

theorem cGet_sim {cs : CState} (h : CInv cs) (k : Nat) : Sim cs (.get k) (cGet cs k) :=
  simF_str h k (fun _ _ g => g.keep rfl) (fun _ g => g.keep rfl)

theorem cAppend_sim {cs : CState} (h : CInv cs) (k : Nat) (v : BS) :
    Sim cs (.append k v) (cAppend cs k v) :=
  simF_str h k (fun _ _ g => g.store (valueOk_str _) rfl) (fun _ g => g.create (valueOk_str _) rfl)

theorem cStrLen_sim {cs : CState} (h : CInv cs) (k : Nat) : Sim cs (.strlen k) (cStrLen cs k) :=
  simF_str h k (fun _ _ g => g.keep rfl) (fun _ g => g.keep rfl)

theorem cSetNx_sim {cs : CState} (h : CInv cs) (k : Nat) (v : BS) :
    Sim cs (.setnx k v) (cSetNx cs k v) := by
  unfold cSetNx
  show SimF cs (fun s => execSetNx s k v) _
  rw [liveKey_eq h]
  cases hg : NMap.get (absP cs) k with
  | some e => exact simF_refl h (by simp only [execSetNx, hg])
  | none => exact (Wrote.fresh h (valueOk_str _)).simF (by simp only [execSetNx, hg]; rfl)

theorem cSetDirect_sim {cs : CState} (h : CInv cs) (k : Nat) (v : BS) :
    Sim cs (.set k v .always .none false) (cSetDirect cs k v) :=
  (Wrote.fresh h (valueOk_str _)).simF rfl

/-- GETSET: the code is `ExecutorCode.codeGetSet` (the deadline stays — finding
    C01:getset-keeps-deadline); `Props.C01Data.getset_code_vs_spec` says where that differs from M7 -/
theorem cGetSet_sim {cs : CState} (h : CInv cs) (k : Nat) (v : BS) :
    SimF cs (fun s => ExecutorCode.codeGetSet s k v) (cGetSet cs k v) :=
  simF_str h k (fun _ _ g => g.store (valueOk_str _) rfl) (fun _ g => g.create (valueOk_str _) rfl)

/-- GETRANGE: the code is `ExecutorCode.codeGetRange` (finding C01:getrange-negative-inverted) -/
theorem cGetRange_sim {cs : CState} (h : CInv cs) (k : Nat) (a b : Int) :
    SimF cs (fun s => ExecutorCode.codeGetRange s k a b) (cGetRange cs k a b) :=
  simF_str h k (fun _ _ g => g.keep rfl) (fun _ g => g.keep rfl)

theorem cGetDel_sim {cs : CState} (h : CInv cs) (k : Nat) : Sim cs (.getdel k) (cGetDel cs k) :=
  simF_str h k (fun _ _ g => g.drop rfl) (fun _ g => g.keep rfl)

theorem checkedAdd_eq (a b : Int) : checkedAdd a b = if inI64 (a + b) then some (a + b) else none := rfl

theorem cIncrBy_sim {cs : CState} (h : CInv cs) (k : Nat) (d : Int) :
    SimF cs (fun s => execIncrBy s k d) (cIncrBy cs k d) := by
  unfold cIncrBy
  gv h k
  refine g.simF ?_
  rcases o with _ | w
  · exact g.create (valueOk_str _) (by simp only [execIncrBy, lookupStr, g.look_none])
  · cases w
    case str b =>
      simp only [parseI64Canonical, checkedAdd_eq]
      cases hp : parseCanon b with
      | none => exact g.keep (by simp only [execIncrBy, lookupStr, g.look_some, hp])
      | some cur =>
        by_cases hi : inI64 (cur + d) = true
        · simp only [hi, if_true]
          exact g.store (valueOk_str _) (by simp only [execIncrBy, lookupStr, g.look_some, hp, hi, if_true])
        · simp only [hi]
          exact g.keep (by simp only [execIncrBy, lookupStr, g.look_some, hp, hi]; rfl)
    all_goals exact g.wrong (by simp only [execIncrBy, lookupStr, g.look_some])

theorem cDecrBy_sim {cs : CState} (h : CInv cs) (k : Nat) (d : Int) :
    Sim cs (.decrby k d) (cDecrBy cs k d) := by
  unfold cDecrBy
  simp only [Sim, exec, execDecrBy]
  by_cases hd : d = i64Min
  · simp only [hd, if_true]
    exact simF_refl h rfl
  · simp only [hd, if_false]
    exact cIncrBy_sim h k (-d)


theorem liveKey_fun {cs : CState} (h : CInv cs) :
    liveKey cs = fun k => (NMap.get (absP cs) k).isSome := funext (liveKey_eq h)

/-- the loop of MGET is one `get_value` after the other, each invisible (`After.simF`) -/
theorem cMGet_sim {cs : CState} (h : CInv cs) (ks : List Nat) : Sim cs (.mget ks) (cMGet cs ks) := by
  show SimF cs (fun s => execMGet s ks) _
  induction ks generalizing cs with
  | nil => exact simF_refl h rfl
  | cons k ks ih =>
    unfold cMGet
    simp only [cMGetLoop]
    gv h k
    obtain ⟨i1, i2⟩ := ih g.inv
    refine g.simF ⟨?_, i2⟩
    simp only [execMGet, List.map_cons, mgetElem, lookupStr, g.look, ← Reply.arr.inj i1]
    cases o with
    | none => rfl
    | some v => cases v <;> rfl

/-- the loop of MSET is one `Wrote.fresh` after the other (`Wrote.seq`) -/
theorem cMSetLoop_sim (kvs : List (Nat × BS)) (r : Reply) : ∀ {cs : CState}, CInv cs →
    SimF cs (fun s => (msetAll s kvs, r)) (cMSetLoop cs kvs, r) := by
  induction kvs with
  | nil => exact fun h => simF_refl h rfl
  | cons p kvs ih =>
    obtain ⟨k, v⟩ := p
    exact fun h => have hw := Wrote.fresh (k := k) h (valueOk_str v); hw.seq h rfl (ih hw.inv)

theorem cMSet_sim {cs : CState} (h : CInv cs) (kvs : List (Nat × BS)) :
    Sim cs (.mset kvs) (cMSet cs kvs) := cMSetLoop_sim kvs .ok h

theorem cMSetNx_sim {cs : CState} (h : CInv cs) (kvs : List (Nat × BS)) :
    Sim cs (.msetnx kvs) (cMSetNx cs kvs) := by
  unfold cMSetNx
  show SimF cs (fun s => execMSetNx s kvs) _
  rw [liveKey_fun h]
  split
  · rename_i ha; exact simF_refl h (if_pos ha)
  · rename_i ha; exact simF_of_eq (g := fun s => (msetAll s kvs, .int 1)) (if_neg ha) (cMSetLoop_sim kvs _ h)


theorem overlayCode_eq (old : BS) (off : Nat) (v : BS) : overlayCode old off v = overlay old off v := by
  unfold overlayCode overlay
  by_cases hlen : off + v.length > old.length
  · simp only [hlen, if_true]
    by_cases ho : off ≤ old.length
    · have h0 : off - old.length = 0 := by omega
      simp only [h0, List.replicate_zero, List.append_nil]
      rw [List.take_append_of_le_length ho]
      congr 1
      rw [List.drop_of_length_le (by simp; omega), List.drop_of_length_le (by omega)]
    · have ho' : old.length < off := by omega
      congr 1
      · congr 1
        rw [List.take_append, List.take_append]
        simp only [List.take_replicate]
        congr 2
        omega
      · rw [List.drop_of_length_le (by simp; omega), List.drop_of_length_le (by simp; omega)]
  · simp only [hlen, if_false]
    have h0 : off - old.length = 0 := by omega
    simp [h0]

theorem overlay_nil (off : Nat) (v : BS) : overlay [] off v = List.replicate off 0 ++ v := by
  simp [overlay]

theorem cSetRange_sim {cs : CState} (h : CInv cs) (k : Nat) (off : Nat) (v : BS) :
    Sim cs (.setrange k off v) (cSetRange cs k off v) := by
  show SimF cs (fun s => execSetRange s k off v) _
  -- the code tests `≤ max` where M7 tests `> max`
  have hgt : ¬ off + v.length ≤ maxStrLen → off + v.length > maxStrLen := Nat.lt_of_not_le
  unfold cSetRange
  gv h k
  refine g.simF ?_
  rcases o with _ | w
  · by_cases hv : v = []
    · simp only [hv, if_true]
      exact g.keep (by simp only [execSetRange, lookupStr, g.look_none, hv, if_true])
    · by_cases hn : off + v.length ≤ maxStrLen
      · simp only [hv, hn, if_true, if_false]
        exact g.create (valueOk_str _) (by
          simp only [execSetRange, lookupStr, g.look_none, hv, Nat.not_lt.mpr hn, if_false, overlay_nil]; simp)
      · simp only [hv, hn, if_false]
        exact g.keep (by simp only [execSetRange, lookupStr, g.look_none, hv, hgt hn, if_true, if_false])
  · cases w
    case str b =>
      by_cases hv : v = []
      · simp only [hv, if_true]
        exact g.keep (by simp only [execSetRange, lookupStr, g.look_some, hv, if_true])
      · by_cases hn : off + v.length ≤ maxStrLen
        · simp only [hv, hn, if_true, if_false]
          exact g.store (valueOk_str _) (by
            simp only [execSetRange, lookupStr, g.look_some, hv, Nat.not_lt.mpr hn, if_false, overlayCode_eq])
        · simp only [hv, hn, if_false]
          exact g.keep (by simp only [execSetRange, lookupStr, g.look_some, hv, hgt hn, if_true, if_false])
    all_goals exact g.wrong (by simp only [execSetRange, lookupStr, g.look_some])

end RedisVerif.Executor
