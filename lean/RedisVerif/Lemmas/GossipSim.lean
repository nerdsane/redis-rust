import RedisVerif.Lemmas.Gossip

/-!
  The simulation behind `C06.msg_refines_cluster`: every step of the message-level model is a
  (possibly empty) run of layer-1 events of the cluster model, under the invariant that every
  delta in a queue or on the wire is a delta of the history, queued at / sent by its origin.
-/
namespace RedisVerif
namespace Gossip
open MCluster

structure MInv (c : MCluster) : Prop where
  pend : ∀ (i : Nat) (nd : MNode), c.nodes[i]? = some nd → ∀ m ∈ nd.ps.pending, m ∈ c.issued ∧ m.origin = i
  outb : ∀ (i : Nat) (nd : MNode), c.nodes[i]? = some nd →
    ∀ m ∈ deltasOf nd.g.outbound, m ∈ c.issued ∧ m.origin = i
  wire : ∀ pk ∈ c.wire, ∀ m ∈ pk.msg.payload, m ∈ c.issued

/-- the layer-1 local event of a message-level event -/
def locOf : MEv → List Ev
  | .loc i op _ => [.loc i op]
  | _ => []

def isLoc : Ev → Bool
  | .loc _ _ => true
  | _ => false

theorem abs_nodes_get (c : MCluster) (i : Nat) (nd : MNode) (h : c.nodes[i]? = some nd) :
    c.abs.nodes[i]? = some nd.ps.sh := by
  simp [abs, List.getElem?_map, h]

theorem filter_isLoc_deliverEvs (sent : List Msg) (j : Nat) (ds : List Msg) :
    (deliverEvs sent j ds).filter isLoc = [] := filter_map_nil (fun _ => rfl) ds

theorem minv_set {c : MCluster} (hi : MInv c) {i : Nat} {nd' : MNode} {wire' : List Packet}
    {issued' : List Msg} (log' : List Absorbed) (lost' : List (Msg × Loss × Option Nat))
    (hiss : ∀ m ∈ c.issued, m ∈ issued')
    (hp : ∀ m ∈ nd'.ps.pending, m ∈ issued' ∧ m.origin = i)
    (ho : ∀ m ∈ deltasOf nd'.g.outbound, m ∈ issued' ∧ m.origin = i)
    (hw : ∀ pk ∈ wire', ∀ m ∈ pk.msg.payload, m ∈ issued') :
    MInv ⟨c.nodes.set i nd', wire', issued', log', lost'⟩ := by
  refine ⟨?_, ?_, hw⟩ <;> intro j nd'' hj m hm <;>
    rcases getElem?_set_cases hj with ⟨rfl, rfl⟩ | ⟨_, hj⟩
  · exact hp m hm
  · exact ⟨hiss m (hi.pend j nd'' hj m hm).1, (hi.pend j nd'' hj m hm).2⟩
  · exact ho m hm
  · exact ⟨hiss m (hi.outb j nd'' hj m hm).1, (hi.outb j nd'' hj m hm).2⟩

/-- one message-level step = a run of layer-1 events containing exactly the step's local op -/
theorem step_sim (cp : Caps) (c : MCluster) (hi : MInv c) (e : MEv) :
    MInv (c.step cp e) ∧
    ∃ es : List Ev, (c.step cp e).abs = c.abs.run es ∧ es.filter isLoc = locOf e := by
  have id' : ∀ m ∈ c.issued, m ∈ c.issued := fun _ h => h
  cases e with
  | loc i op order =>
    cases hn : c.nodes[i]? with
    | none =>
      simp only [step, hn]
      refine ⟨hi, [.loc i op], ?_, rfl⟩
      simp [Cluster.run, Cluster.step, abs, List.getElem?_map, hn]
    | some nd =>
      cases hd : (Shard.step nd.ps.sh op.toOp).2 with
      | none =>
        have hlo : nd.ps.localOp cp.pending i op = ({ nd.ps with sh := (Shard.step nd.ps.sh op.toOp).1 }, none) := by
          simp only [PShard.localOp, hd]
        simp only [step, hn, hlo]
        refine ⟨minv_set hi _ _ id' (hi.pend i nd hn) (hi.outb i nd hn) hi.wire, [.loc i op], ?_, rfl⟩
        simp only [Cluster.run, List.foldl_cons, List.foldl_nil, Cluster.step, abs_nodes_get c i nd hn, hd]
        simp [abs, List.map_set]
      | some d =>
        have hlo : nd.ps.localOp cp.pending i op =
            ({ sh := (Shard.step nd.ps.sh op.toOp).1,
               pending := enforceCap cp.pending (nd.ps.pending ++ [⟨i, op.key, d⟩]) }, some d) := by
          simp only [PShard.localOp, hd]
        simp only [step, hn, hlo]
        refine ⟨minv_set hi _ _ (fun m h => List.mem_append_left _ h) ?_ ?_
          (fun pk hpk m hm => List.mem_append_left _ (hi.wire pk hpk m hm)), [.loc i op], ?_, rfl⟩
        · intro m hm
          have := mem_enforceCap hm
          simp only [List.mem_append, List.mem_singleton] at this ⊢
          rcases this with h | h
          · exact ⟨Or.inl (hi.pend _ nd hn m h).1, (hi.pend _ nd hn m h).2⟩
          · rw [h]; exact ⟨Or.inr rfl, rfl⟩
        · intro m hm
          have hold := fun h => hi.outb _ nd hn m h
          split at hm
          · rcases queueDeltas_deltas _ _ _ _ m hm with h | h
            · exact ⟨List.mem_append_left _ (hold h).1, (hold h).2⟩
            · rw [List.mem_singleton.mp h]; exact ⟨by simp, rfl⟩
          · exact ⟨List.mem_append_left _ (hold hm).1, (hold hm).2⟩
        · simp only [Cluster.run, List.foldl_cons, List.foldl_nil, Cluster.step, abs_nodes_get c i nd hn, hd]
          simp [abs, List.map_set]
  | tick i order oks =>
    cases hn : c.nodes[i]? with
    | none => simp only [step, hn]; exact ⟨hi, [], rfl, rfl⟩
    | some nd =>
      simp only [step, hn]
      -- what the tick queues comes from the old queue or from the drained outbox
      have hq : ∀ m ∈ deltasOf ((nd.g.advanceEpoch.queueDeltas cp.outbound order
          (if nd.cfg.collect then nd.ps.drain else (nd.ps, [])).2).outbound),
          m ∈ c.issued ∧ m.origin = i := by
        intro m hm
        rcases queueDeltas_deltas _ _ _ _ m hm with h | h
        · exact hi.outb i nd hn m (by simpa [GState.advanceEpoch] using h)
        · split at h
          · exact hi.pend i nd hn m (by simpa [PShard.drain] using h)
          · cases h
      refine ⟨minv_set hi _ _ id' ?_ (fun m hm => by simp [GState.drainOutbound, deltasOf] at hm) ?_, [], ?_, rfl⟩
      · intro m hm
        split at hm
        · simp [PShard.drain] at hm
        · exact hi.pend _ nd hn m hm
      · intro pk hpk m hm
        rcases List.mem_append.mp hpk with hpk | hpk
        · exact hi.wire pk hpk m hm
        · obtain ⟨⟨r, hr, hmsg⟩, hto⟩ := sendAll_spec nd.cfg _ oks pk hpk
          refine (hq m ?_).1
          simp only [deltasOf, List.mem_flatMap]
          exact ⟨r, by simpa [GState.drainOutbound] using hr, by rw [← hmsg]; exact hm⟩
      · simp only [abs, Cluster.run, List.foldl_nil]
        rw [map_set_same hn (by split <;> rfl)]
  | heartbeat i =>
    cases hn : c.nodes[i]? with
    | none => simp only [step, hn]; exact ⟨hi, [], rfl, rfl⟩
    | some nd =>
      simp only [step, hn]
      refine ⟨minv_set hi _ _ id' (hi.pend i nd hn) ?_ hi.wire, [], ?_, rfl⟩
      · intro m hm
        simp only [GState.queueHeartbeat, GState.push] at hm
        have := deltasOf_enforceCap hm
        rw [deltasOf_append, List.mem_append] at this
        rcases this with h | h
        · exact hi.outb _ nd hn m h
        · simp [deltasOf, GMsg.payload, GMsg.intoDeltas] at h
      · simp only [abs, Cluster.run, List.foldl_nil]
        rw [map_set_same hn (by rfl)]
  | setRouter i r =>
    cases hn : c.nodes[i]? with
    | none => simp only [step, hn]; exact ⟨hi, [], rfl, rfl⟩
    | some nd =>
      simp only [step, hn]
      refine ⟨minv_set hi _ _ id' (hi.pend i nd hn) (hi.outb i nd hn) hi.wire, [], ?_, rfl⟩
      simp only [abs, Cluster.run, List.foldl_nil]
      rw [map_set_same hn (by rfl)]
  | recv p tooLarge =>
    cases hw : c.wire[p]? with
    | none => simp only [step, hw]; exact ⟨hi, [], rfl, rfl⟩
    | some pk =>
      cases hn : c.nodes[pk.to]? with
      | none => simp only [step, hw, hn]; exact ⟨hi, [], rfl, rfl⟩
      | some nd =>
        simp only [step, hw, hn]
        cases tooLarge with
        | true => exact ⟨⟨hi.pend, hi.outb, hi.wire⟩, [], rfl, rfl⟩
        | false =>
          simp only [Bool.false_eq_true, if_false]
          refine ⟨minv_set hi _ _ id' (hi.pend _ nd hn) (hi.outb _ nd hn) hi.wire,
            deliverEvs c.issued pk.to pk.msg.payload, ?_, filter_isLoc_deliverEvs _ _ _⟩
          have := run_deliverEvs pk.msg.payload c.abs pk.to nd.ps.sh (abs_nodes_get c _ nd hn)
            (hi.wire pk (List.mem_of_getElem? hw))
          simp only [abs] at this ⊢
          rw [this]
          simp [List.map_set]

theorem run_sim (cp : Caps) (evs : List MEv) : ∀ (c : MCluster), MInv c →
    MInv (c.run cp evs) ∧
    ∃ es : List Ev, (c.run cp evs).abs = c.abs.run es ∧ es.filter isLoc = evs.flatMap locOf := by
  induction evs with
  | nil => intro c hi; exact ⟨hi, [], rfl, rfl⟩
  | cons e evs ih =>
    intro c hi
    obtain ⟨hi1, es1, h1, f1⟩ := step_sim cp c hi e
    obtain ⟨hi2, es2, h2, f2⟩ := ih (c.step cp e) hi1
    refine ⟨hi2, es1 ++ es2, ?_, ?_⟩
    · simp only [MCluster.run, List.foldl_cons] at h2 ⊢
      rw [h2, h1]
      simp [Cluster.run, List.foldl_append]
    · simp [List.filter_append, f1, f2]

end Gossip
end RedisVerif
