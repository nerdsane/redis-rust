import RedisVerif.Model.GrammarDesc

/-
  Every hand-written body of the grammars IS the generic body `runGen` over its descriptor
  (`Model/GrammarDesc.lean`), for every argument list.  `GrammarTable.lean` attaches these proofs to
  the table entries (`CustomBody.desc_ok`).  `Fin.*` (`FinOk`): a descriptor's finishing function answers only the
  constructors and literals the descriptor declares; `Chk.*` (`ChecksOk`): its conflict rules are what it tests
  (`ChecksForm` where it is written with `finWithChecks`, a consequence of `FinOk` where it declares no rule).
-/
namespace RedisVerif.Grammar

theorem Unk.fn_lit (l : Lit) : Unk.fn (.lit l) = fun _ => some (BErr.lit l) := rfl
theorem Unk.fn_fmt (f : Fmt) : Unk.fn (.fmt f) = fun w => some (BErr.fmt f w) := rfl

namespace Shape
open Bodies

theorem extract_str (v : Bytes) : aStr.extract v = .ok (.s (lossy v)) := rfl
theorem extract_sds (v : Bytes) : aSds.extract v = .ok (.d v) := rfl
theorem extract_kw (v : Bytes) : aKw.extract v = .ok (.s (upper (lossy v))) := rfl

/-- the definitions every proof unfolds -/
macro "shape_simp" : tactic => `(tactic|
  simp only [runGen, Arity.ok, takeSlots, takeOpt, Tail.run, bind, Except.bind, pure, Except.pure,
    List.length_cons, List.length_nil, beq_self_eq_true, List.isEmpty_nil, if_true, List.append_nil, List.nil_append,
    List.cons_append, Nat.le_add_left, decide_true, extract_str, extract_sds, extract_kw,
    Bool.false_eq_true, if_false, Unk.fn_lit, Unk.fn_fmt])

theorem ping : ∀ args, Bodies.ping args = runGen Desc.ping args
  | [] => rfl
  | a :: r => by
    simp [Bodies.ping, runGen, Desc.ping, Arity.ok, takeSlots, takeOpt, Tail.run, Arg.extract, aSds, bind, Except.bind,
      pure, Except.pure]

theorem select : ∀ args, Bodies.select args = runGen Desc.select args
  | [] | _ :: _ :: _ => rfl
  | [a] => by
    simp only [Bodies.select, Desc.select]
    shape_simp
    cases aU64.extract a with
    | error e => rfl
    | ok t => cases t <;> rfl

theorem auth : ∀ args, Bodies.auth args = runGen Desc.auth args
  | [] | [_] | [_, _] | _ :: _ :: _ :: _ => rfl

theorem extractAll_str (vs : List Bytes) : extractAll aStr vs = .ok (vs.map (fun a => Tok.s (lossy a))) := by
  induction vs with
  | nil => rfl
  | cons v vs ih => simp only [extractAll, extract_str, ih, bind, Except.bind, pure, Except.pure, List.map_cons]

theorem set : ∀ args, Bodies.set args = runGen Desc.set args
  | [] | [_] => rfl
  | k :: v :: opts => by
    simp only [Bodies.set, Desc.set]
    shape_simp
    cases scanOpts setOpts (fun _ => some (BErr.lit .syntax)) opts with
    | error e => rfl
    | ok s =>
      simp only [finWithChecks, firstFiring, Cond.eval, Desc.setChecks]
      by_cases c1 : (s.has 0 && s.has 1) = true <;>
        by_cases c2 : (s.has 7 && (s.has 3 || s.has 4 || s.has 5 || s.has 6)) = true <;> simp [c1, c2]

theorem setex (px : Bool) : ∀ args, Bodies.setex px args = runGen (Desc.setex px) args
  | [] | [_] | [_, _] | _ :: _ :: _ :: _ :: _ => rfl
  | [k, n, v] => by
    simp only [Bodies.setex, Desc.setex]
    shape_simp
    cases aInt.extract n <;> rfl

theorem expire (ctor : Bytes) : ∀ args, Bodies.expire ctor args = runGen (Desc.expire ctor) args
  | [] | [_] => rfl
  | k :: n :: opts => by
    simp only [Bodies.expire, Desc.expire]
    shape_simp
    cases aInt.extract n with
    | error e => rfl
    | ok t =>
      dsimp only
      cases scanOpts expireOpts (fun w => some (BErr.fmt .unsupportedOption w)) opts with
      | error e => rfl
      | ok s =>
        simp only [finWithChecks, firstFiring, Cond.eval, Desc.expireChecks]
        by_cases c1 : (s.has 0 && (s.has 1 || s.has 2 || s.has 3)) = true <;>
          by_cases c2 : (s.has 2 && s.has 3) = true <;> simp [c1, c2]

theorem getex : ∀ args, Bodies.getex args = runGen Desc.getex args
  | [] => rfl
  | k :: opts => by
    simp only [Bodies.getex, Desc.getex]
    shape_simp
    cases scanOpts getexOpts (fun _ => some (BErr.lit .syntax)) opts with
    | error e => rfl
    | ok s =>
      simp only [finWithChecks, firstFiring, Cond.eval, Desc.getexChecks, List.map_cons, List.map_nil]
      by_cases c1 : List.count true [s.has 0, s.has 1, s.has 2, s.has 3, s.has 4] > 1 <;> simp [c1]

theorem lmove : ∀ args, Bodies.lmove args = runGen Desc.lmove args
  | [] | [_] | [_, _] | [_, _, _] | [_, _, _, _] | _ :: _ :: _ :: _ :: _ :: _ => rfl

theorem spop : ∀ args, Bodies.spop args = runGen Desc.spop args
  | [] | [_] | _ :: _ :: _ :: _ => rfl
  | [a, b] => by
    simp only [Bodies.spop, Desc.spop, aUsz]
    shape_simp
    cases (Arg.mk .usz none).extract b <;> rfl

theorem zadd (score : Arg) : ∀ args, Bodies.zadd score args = runGen (Desc.zadd score) args
  | [] => rfl
  | k :: rest => by
    simp only [Bodies.zadd, Desc.zadd]
    shape_simp
    split
    · rfl
    · cases extractPairs score aSds (takeFlags zaddFlags rest).2 <;> rfl

theorem zrange (ctor : Bytes) : ∀ args, Bodies.zrange ctor args = runGen (Desc.zrange ctor) args
  | [] | [_] | [_, _] | _ :: _ :: _ :: _ :: _ :: _ => rfl
  | [k, a, b] => by
    simp only [Bodies.zrange, Desc.zrange, extractFixed]
    shape_simp
    cases aInt.extract a with
    | error e => rfl
    | ok ta => cases aInt.extract b <;> rfl
  | [k, a, b, w] => by
    simp only [Bodies.zrange, Desc.zrange, extractFixed, kw]
    shape_simp
    cases aInt.extract a with
    | error e => rfl
    | ok ta => cases aInt.extract b <;> rfl

theorem zrangebyscore (off cnt : Arg) (m : Lit) (u : Fmt) :
    ∀ args, Bodies.zrangebyscore off cnt m u args = runGen (Desc.zrangebyscore off cnt m u) args
  | [] | [_] | [_, _] => rfl
  | k :: mn :: mx :: opts => by
    simp only [Bodies.zrangebyscore, Desc.zrangebyscore]
    shape_simp
    cases scanOpts (zrbsOpts off cnt m) (fun w => some (BErr.fmt u w)) opts <;> rfl

theorem scan (ctor : Bytes) (withKey : Bool) (u : Fmt) :
    ∀ args, Bodies.scan ctor withKey u args = runGen (Desc.scan ctor withKey u) args := by
  intro args
  cases withKey with
  | false =>
    rcases args with _ | ⟨cur, opts⟩
    · rfl
    · simp only [Bodies.scan, Desc.scan]
      shape_simp
      cases aU64.extract cur with
      | error e => rfl
      | ok c =>
        dsimp only
        cases scanOpts scanOptTbl (fun w => some (BErr.fmt u w)) opts <;> rfl
  | true =>
    rcases args with _ | ⟨k, _ | ⟨cur, opts⟩⟩
    · rfl
    · rfl
    · simp only [Bodies.scan, Desc.scan]
      shape_simp
      cases aU64.extract cur with
      | error e => rfl
      | ok c =>
        dsimp only
        cases scanOpts scanOptTbl (fun w => some (BErr.fmt u w)) opts <;> rfl

theorem sort : ∀ args, Bodies.sort args = runGen Desc.sort args
  | [] => rfl
  | k :: opts => by
    simp only [Bodies.sort, Desc.sort]
    shape_simp
    cases scanOpts sortOpts (fun _ => some (BErr.lit .syntax)) opts <;> rfl

theorem eval (ctor : Bytes) (keysErr : Lit) : ∀ args, Bodies.eval ctor keysErr args = runGen (Desc.eval ctor keysErr) args
  | [] | [_] => rfl
  | sc :: nk :: rest => by
    simp only [Bodies.eval, Desc.eval]
    shape_simp
    cases aInt.extract nk with
    | error e => rfl
    | ok t => cases t <;> rfl

theorem command : ∀ args, Bodies.command args = runGen Desc.command args
  | [] => rfl
  | a :: r => by
    simp only [Bodies.command, Desc.command, kw]
    shape_simp
    rfl

theorem setrange : ∀ args, Bodies.setrange args = runGen Desc.setrange args
  | [] | [_] | [_, _] | _ :: _ :: _ :: _ :: _ => rfl
  | [k, n, v] => by
    simp only [Bodies.setrange, Desc.setrange]
    shape_simp
    cases aInt.extract n with
    | error e => rfl
    | ok t => cases t <;> rfl

theorem setbit : ∀ args, Bodies.setbit args = runGen Desc.setbit args
  | [] | [_] | [_, _] | _ :: _ :: _ :: _ :: _ => rfl
  | [k, n, v] => by
    simp only [Bodies.setbit, Desc.setbit, Desc.aBitOff, Desc.aBitVal]
    shape_simp
    cases (Arg.mk .u64 (some .bitOffset)).extract n with
    | error e => rfl
    | ok o =>
      cases (Arg.mk .int (some .bitValue)).extract v with
      | error e => rfl
      | ok b => cases b <;> rfl

theorem getbit : ∀ args, Bodies.getbit args = runGen Desc.getbit args
  | [] | [_] | _ :: _ :: _ :: _ => rfl
  | [k, n] => by
    simp only [Bodies.getbit, Desc.getbit, Desc.aBitOff]
    shape_simp
    cases (Arg.mk .u64 (some .bitOffset)).extract n <;> rfl

theorem incrbyfloat : ∀ args, Bodies.incrbyfloat args = runGen Desc.incrbyfloat args
  | [] | [_] | _ :: _ :: _ :: _ => rfl
  | [k, n] => by
    simp only [Bodies.incrbyfloat, Desc.incrbyfloat]
    shape_simp
    cases aFlt.extract n with
    | error e => rfl
    | ok t => cases t <;> rfl

theorem optStr (ctor : Bytes) : ∀ args, Bodies.optStr ctor args = runGen (Desc.optStr ctor) args
  | [] => rfl
  | a :: r => by
    simp only [Bodies.optStr, Desc.optStr]
    shape_simp

theorem aclGenpass : ∀ args, Bodies.aclGenpass args = runGen Desc.aclGenpass args
  | [] => rfl
  | a :: r => by
    have hx : (Arg.mk .u32 (some .invalidBits)).extract a =
        (match parseUnsigned u32Max (lossy a) with
          | .ok n => .ok (.n n)
          | .error _ => .error (.lit .invalidBits)) := rfl
    simp only [Bodies.aclGenpass, Desc.aclGenpass, Desc.aBits]
    shape_simp
    rw [hx]
    cases parseUnsigned u32Max (lossy a) <;> rfl

theorem aclDryrun : ∀ args, Bodies.aclDryrun args = runGen Desc.aclDryrun args
  | [] | [_] => rfl
  | u :: c :: rest => by
    simp only [Bodies.aclDryrun, Desc.aclDryrun, kw]
    shape_simp
    rw [extractAll_str rest]

theorem aclLog : ∀ args, Bodies.aclLog args = runGen Desc.aclLog args
  | [] | _ :: _ :: _ => rfl
  | [a] => by
    simp only [Bodies.aclLog, Desc.aclLog, kw]
    shape_simp
    rfl

theorem stub (text : Bytes) : ∀ args, (fun (_ : List Bytes) => (Except.ok ⟨s2b "Unknown", [.s text]⟩ : BRes)) args =
    runGen (Desc.stub text) args := by
  intro args
  simp only [Desc.stub]
  shape_simp

theorem luaSet : ∀ args, Bodies.luaSet args = runGen Desc.luaSet args
  | [] | [_] => rfl
  | k :: v :: opts => by
    simp only [Bodies.luaSet, Desc.luaSet]
    shape_simp
    cases scanOpts luaSetOpts (fun w => some (BErr.fmt .luaUnknownSet w)) opts with
    | error e => rfl
    | ok s =>
      simp only [finWithChecks, firstFiring, Cond.eval, Desc.luaSetChecks]
      by_cases c1 : (s.has 0 && s.has 1) = true <;> simp [c1]

theorem luaExpire : ∀ args, Bodies.luaExpire args = runGen Desc.luaExpire args
  | [] | [_] | _ :: _ :: _ :: _ => rfl
  | [k, n] => by
    simp only [Bodies.luaExpire, Desc.luaExpire]
    shape_simp
    cases (aIntE .luaExpireInt).extract n <;> rfl

theorem luaZrange : ∀ args, Bodies.luaZrange args = runGen Desc.luaZrange args
  | [] | [_] | [_, _] | _ :: _ :: _ :: _ :: _ => rfl
  | [k, a, b] => by
    simp only [Bodies.luaZrange, Desc.luaZrange, extractFixed]
    shape_simp
    cases (aIntE .luaZrangeStart).extract a with
    | error e => rfl
    | ok ta => cases (aIntE .luaZrangeStop).extract b <;> rfl

end Shape

namespace Fin

/-- close a `FinOk` goal: split on the result, then on the token shapes and the tests of the finishing function; every
    `.ok` arm builds a constructor of `d.ctors`, every `.error` arm is `unreachable` or a literal of `d.finLits` -/
macro "fin_ok" : tactic => `(tactic|
  (intro ts tv
   simp only []
   split <;> rename_i x heq <;> (repeat' (split at heq)) <;>
    first
      | (simp only [Except.ok.injEq] at heq; subst heq; simp [Bodies.mkSet]; done)
      | (simp only [Except.error.injEq] at heq; subst heq; simp; done)
      | (simp at heq; done)))

theorem firstFiring_mem {s : Seen} {checks : List (Cond × Lit)} {l : Lit} (h : firstFiring s checks = some l) :
    l ∈ checks.map (·.2) := by
  induction checks with
  | nil => simp [firstFiring] at h
  | cons c cs ih =>
    obtain ⟨cnd, lit⟩ := c
    simp only [firstFiring] at h
    split at h
    · simp only [Option.some.injEq] at h; simp [h]
    · simp [ih h]

theorem finWithChecks_ok {checks : List (Cond × Lit)} {build : Seen → Cmd} {s : Seen} {c : Cmd}
    (h : finWithChecks checks build s = .ok c) : c = build s ∧ firstFiring s checks = none := by
  unfold finWithChecks at h
  cases hf : firstFiring s checks with
  | some l => rw [hf] at h; simp at h
  | none => rw [hf] at h; simp only [Except.ok.injEq] at h; exact ⟨h.symm, rfl⟩

theorem finWithChecks_err {checks : List (Cond × Lit)} {build : Seen → Cmd} {s : Seen} {e : BErr}
    (h : finWithChecks checks build s = .error e) : ∃ l, firstFiring s checks = some l ∧ e = .lit l := by
  unfold finWithChecks at h
  cases hf : firstFiring s checks with
  | some l => rw [hf] at h; simp only [Except.error.injEq] at h; exact ⟨l, rfl, h.symm⟩
  | none => rw [hf] at h; simp at h

/-- a finishing function written with `finWithChecks`: on the scan result of its one token shape it is
    `finWithChecks` over the declared conflict rules, everything else is unreachable -/
def ChecksForm (d : GenDesc) : Prop :=
  ∀ ts tv, d.fin ts tv = .error .unreachable ∨
    ∃ s build, tv = .seen s ∧ (∀ s, (build s).ctor ∈ d.ctors) ∧ d.fin ts tv = finWithChecks d.checks build s

theorem ChecksForm.finOk {d : GenDesc} (hfin : ChecksForm d) (hl : ∀ l ∈ d.checks.map (·.2), l ∈ d.finLits) :
    FinOk d := by
  intro ts tv
  rcases hfin ts tv with h | ⟨s, build, -, hc, h⟩
  · rw [h]; exact Or.inl rfl
  · rw [h]
    cases hr : finWithChecks d.checks build s with
    | ok c => rw [(finWithChecks_ok hr).1]; exact hc s
    | error e =>
      obtain ⟨l, hf, he⟩ := finWithChecks_err hr
      exact Or.inr ⟨l, hl l (firstFiring_mem hf), he⟩

theorem ChecksForm.checks {d : GenDesc} (hfin : ChecksForm d) :
    ∀ ts s, match d.fin ts (.seen s) with
      | .ok _ => firstFiring s d.checks = none
      | .error (.lit l) => firstFiring s d.checks = some l
      | .error .unreachable => True
      | .error _ => False := by
  intro ts s
  rcases hfin ts (.seen s) with h | ⟨s', build, hs, -, h⟩
  · rw [h]; trivial
  · cases hs
    rw [h]
    cases hr : finWithChecks d.checks build s with
    | ok c => exact (finWithChecks_ok hr).2
    | error e =>
      obtain ⟨l, hf, rfl⟩ := finWithChecks_err hr
      exact hf

theorem form_set : ChecksForm Desc.set := by
  intro ts tv
  simp only [Desc.set]
  split
  · exact Or.inr ⟨_, _, rfl, fun _ => by simp [Bodies.mkSet], rfl⟩
  · exact Or.inl rfl

theorem form_expire (c : Bytes) : ChecksForm (Desc.expire c) := by
  intro ts tv
  simp only [Desc.expire]
  split
  · exact Or.inr ⟨_, _, rfl, fun _ => by simp, rfl⟩
  · exact Or.inl rfl

theorem form_getex : ChecksForm Desc.getex := by
  intro ts tv
  simp only [Desc.getex]
  split
  · exact Or.inr ⟨_, _, rfl, fun _ => by simp, rfl⟩
  · exact Or.inl rfl

theorem form_luaSet : ChecksForm Desc.luaSet := by
  intro ts tv
  simp only [Desc.luaSet]
  split
  · exact Or.inr ⟨_, _, rfl, fun _ => by simp [Bodies.mkSet], rfl⟩
  · exact Or.inl rfl

theorem ping : FinOk Desc.ping := by unfold FinOk Desc.ping; fin_ok
theorem select : FinOk Desc.select := by unfold FinOk Desc.select; fin_ok
theorem auth : FinOk Desc.auth := by unfold FinOk Desc.auth; fin_ok
theorem set : FinOk Desc.set := form_set.finOk (by decide)
theorem setex (px : Bool) : FinOk (Desc.setex px) := by unfold FinOk Desc.setex; fin_ok
theorem expire (c : Bytes) : FinOk (Desc.expire c) :=
  (form_expire c).finOk (by simp only [Desc.expire]; decide)
theorem getex : FinOk Desc.getex := form_getex.finOk (by decide)
theorem lmove : FinOk Desc.lmove := by unfold FinOk Desc.lmove; fin_ok
theorem spop : FinOk Desc.spop := by unfold FinOk Desc.spop; fin_ok
theorem zadd (a : Arg) : FinOk (Desc.zadd a) := by unfold FinOk Desc.zadd; fin_ok
theorem zrange (c : Bytes) : FinOk (Desc.zrange c) := by unfold FinOk Desc.zrange; fin_ok
theorem zrangebyscore (o c : Arg) (m : Lit) (u : Fmt) : FinOk (Desc.zrangebyscore o c m u) := by
  unfold FinOk Desc.zrangebyscore; fin_ok
theorem scan (c : Bytes) (k : Bool) (u : Fmt) : FinOk (Desc.scan c k u) := by unfold FinOk Desc.scan; fin_ok
theorem sort : FinOk Desc.sort := by unfold FinOk Desc.sort; fin_ok
theorem eval (c : Bytes) (l : Lit) : FinOk (Desc.eval c l) := by unfold FinOk Desc.eval; fin_ok
theorem command : FinOk Desc.command := by unfold FinOk Desc.command; fin_ok
theorem setrange : FinOk Desc.setrange := by unfold FinOk Desc.setrange; fin_ok
theorem setbit : FinOk Desc.setbit := by unfold FinOk Desc.setbit; fin_ok
theorem getbit : FinOk Desc.getbit := by unfold FinOk Desc.getbit; fin_ok
theorem incrbyfloat : FinOk Desc.incrbyfloat := by unfold FinOk Desc.incrbyfloat; fin_ok
theorem optStr (c : Bytes) : FinOk (Desc.optStr c) := by unfold FinOk Desc.optStr; fin_ok
theorem aclGenpass : FinOk Desc.aclGenpass := by unfold FinOk Desc.aclGenpass; fin_ok
theorem aclDryrun : FinOk Desc.aclDryrun := by unfold FinOk Desc.aclDryrun; fin_ok
theorem aclLog : FinOk Desc.aclLog := by unfold FinOk Desc.aclLog; fin_ok
theorem stub (t : Bytes) : FinOk (Desc.stub t) := by unfold FinOk Desc.stub; intro ts tv; simp
theorem luaSet : FinOk Desc.luaSet := form_luaSet.finOk (by decide)
theorem luaExpire : FinOk Desc.luaExpire := by unfold FinOk Desc.luaExpire; fin_ok
theorem luaZrange : FinOk Desc.luaZrange := by unfold FinOk Desc.luaZrange; fin_ok

end Fin


namespace Chk

theorem set : ChecksOk Desc.set := Fin.form_set.checks
theorem expire (c : Bytes) : ChecksOk (Desc.expire c) := (Fin.form_expire c).checks
theorem getex : ChecksOk Desc.getex := Fin.form_getex.checks
theorem luaSet : ChecksOk Desc.luaSet := Fin.form_luaSet.checks

/-- a body that declares neither conflict rules nor error literals of its own: `FinOk` already says that its finishing
    function answers a command or `unreachable`, and with no rule to fire that is all `ChecksOk` asks of a scan body -/
theorem of_finOk {d : GenDesc} (hc : d.checks = []) (hl : d.finLits = []) (h : FinOk d) : ChecksOk d := by
  unfold ChecksOk
  split
  · intro ts s
    have := hl ▸ h ts (.seen s)
    generalize d.fin ts (.seen s) = r at this ⊢
    rcases r with e | c
    · cases (by simpa using this : e = .unreachable); trivial
    · rw [hc]; rfl
  · exact hc

theorem zrangebyscore (o c : Arg) (m : Lit) (u : Fmt) : ChecksOk (Desc.zrangebyscore o c m u) :=
  of_finOk rfl rfl (Fin.zrangebyscore o c m u)
theorem scan (c : Bytes) (k : Bool) (u : Fmt) : ChecksOk (Desc.scan c k u) := of_finOk rfl rfl (Fin.scan c k u)
theorem sort : ChecksOk Desc.sort := of_finOk rfl rfl Fin.sort

theorem ping : ChecksOk Desc.ping := rfl
theorem select : ChecksOk Desc.select := rfl
theorem auth : ChecksOk Desc.auth := rfl
theorem setex (px : Bool) : ChecksOk (Desc.setex px) := rfl
theorem lmove : ChecksOk Desc.lmove := rfl
theorem spop : ChecksOk Desc.spop := rfl
theorem zadd (a : Arg) : ChecksOk (Desc.zadd a) := rfl
theorem zrange (c : Bytes) : ChecksOk (Desc.zrange c) := rfl
theorem eval (c : Bytes) (l : Lit) : ChecksOk (Desc.eval c l) := rfl
theorem command : ChecksOk Desc.command := rfl
theorem setrange : ChecksOk Desc.setrange := rfl
theorem setbit : ChecksOk Desc.setbit := rfl
theorem getbit : ChecksOk Desc.getbit := rfl
theorem incrbyfloat : ChecksOk Desc.incrbyfloat := rfl
theorem optStr (c : Bytes) : ChecksOk (Desc.optStr c) := rfl
theorem aclGenpass : ChecksOk Desc.aclGenpass := rfl
theorem aclDryrun : ChecksOk Desc.aclDryrun := rfl
theorem aclLog : ChecksOk Desc.aclLog := rfl
theorem stub (t : Bytes) : ChecksOk (Desc.stub t) := rfl
theorem luaExpire : ChecksOk Desc.luaExpire := rfl
theorem luaZrange : ChecksOk Desc.luaZrange := rfl

end Chk

end RedisVerif.Grammar
