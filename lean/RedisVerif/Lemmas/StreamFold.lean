import RedisVerif.Lemmas.StreamOps

/-!
  Fold-level lemmas about M4 (shared by C12 and C13), over the carriers of `Lemmas/Stream.lean`:
  replacing some updates by their per-key merge changes neither the folded state nor membership
  in the carrier, and that is what a compaction pass does to the listed content (`Replaced`) —
  for the merging compactor under every oracle (the loader that skips unreadable segments), for
  the keep-latest one on fault-free runs (`allOk`).  Then the one invariant of the area
  (`Holds`: the store holds a history — its listed content folds to what the history folds to),
  kept by every run from any world, and the selection rule of a pass.
-/
namespace RedisVerif
namespace Stream

open FoldACI

theorem mem_foldState_iff {B : List Delta} {k : Nat} {v : RV} :
    (k, v) ∈ foldState B ↔ fold1 RV.merge (vals k B) = some v := by
  rw [← get_foldState]
  constructor
  · exact fun h => NMap.get_of_mem (wf_foldState B) h
  · exact fun h => NMap.mem_of_get h

theorem keptOf_noGC {cfg : CompactCfg} (h : cfg.cutoff = 0) (ktd : NMap RV) : keptOf cfg ktd = ktd := by
  unfold keptOf
  rw [List.filter_eq_self]
  intro p _
  simp [h]

theorem foldl_keepStep_merge (acc : NMap RV) (ds : List Delta) :
    ds.foldl (keepStep true) acc = applyAll acc ds := by
  induction ds generalizing acc with
  | nil => rfl
  | cons d ds ih =>
    simp only [List.foldl_cons, applyAll]
    rw [ih]
    rfl

/-- no call of this oracle is a read corruption -/
def NoReadCorruption (F : Oracle) : Prop := ∀ n, F n ≠ .readCorrupt

theorem get_ok_clean {F : Oracle} (hF : NoReadCorruption F) {w w' : World} {n : Nat} {o : Obj}
    (h : w.get F n = (w', .ok o)) : NMap.get w.store n = some o :=
  (get_ok h).elim id (fun hc => absurd hc.2.1 (hF _))

/-- the loading loop of the current compactor (only `NotFound` = missing) over complete
    segments, for every oracle: it either aborts, or it has loaded a sub-list of the selected
    segments — those whose read was not corrupted — and nothing else; a segment whose read
    returned an unparsable body is SKIPPED (it stays listed and is not deleted) -/
theorem loadLoop_repaired (fl : CompactFlags) (hnf : fl.missingOnlyNotFound = true) (F : Oracle)
    (w : World) (acc : LoadAcc) (l : List SegInfo)
    (hl : ∀ s ∈ l, ∃ ds, NMap.get w.store (segName s.id) = some (.segment ds)) :
    (loadLoop fl F w acc l).2.failed = true ∨
    ∃ sub, sub.Sublist l ∧ (NoReadCorruption F → sub = l) ∧
      (loadLoop fl F w acc l).2.actually = acc.actually ++ sub ∧
      (loadLoop fl F w acc l).2.ktd = (segDeltas w.store sub).foldl (keepStep fl.mergeInsteadOfLatest) acc.ktd := by
  induction l generalizing w acc with
  | nil => exact Or.inr ⟨[], List.Sublist.refl _, fun _ => rfl, by simp [loadLoop], by simp [loadLoop, segDeltas]⟩
  | cons s rest ih =>
    unfold loadLoop
    split
    · rename_i hf
      exact Or.inl hf
    · obtain ⟨ds0, hds0⟩ := hl s (by simp)
      have hgs := get_store F w (segName s.id)
      -- whatever the read returns, the store is the same: the rest of the list is still there
      have hl' : ∀ w1 : World, w1.store = w.store →
          ∀ t ∈ rest, ∃ ds, NMap.get w1.store (segName t.id) = some (.segment ds) :=
        fun w1 h t ht => h ▸ hl t (by simp [ht])
      split <;> rename_i heq <;> rw [heq] at hgs
      · rename_i w1 ds
        have hds : ds = ds0 := by
          rcases get_ok heq with hg | ⟨ht, _⟩
          · rw [hds0] at hg; cases hg; rfl
          · cases ht
        subst hds
        rcases ih w1 _ (hl' w1 hgs) with h | ⟨sub, hsub, hfull, h1, h2⟩
        · exact Or.inl h
        · refine Or.inr ⟨s :: sub, hsub.cons_cons s, fun hF => by rw [hfull hF], by rw [h1]; simp, ?_⟩
          rw [h2]
          simp only [segDeltas, List.flatMap_cons, hds0, List.foldl_append, show w1.store = w.store from hgs]
      · -- a body that does not parse (a read corruption: the stored object is a segment)
        rename_i w1 o hne
        rcases ih w1 acc (hl' w1 hgs) with h | ⟨sub, hsub, hfull, h1, h2⟩
        · exact Or.inl h
        · refine Or.inr ⟨sub, hsub.cons s, fun hF => ?_, h1, by rw [h2, show w1.store = w.store from hgs]⟩
          have := get_ok_clean hF heq
          rw [hds0] at this
          cases this
          exact absurd rfl (hne ds0)
      · rename_i w1 nf
        cases nf with
        | true =>
          have := get_notFound heq
          rw [hds0] at this
          cases this
        | false =>
          simp only [hnf, Bool.not_false, Bool.and_self, if_true]
          exact Or.inl trivial

/-! ### fault-free runs of the pinned commit (keep-latest) -/

/-- the oracle without faults -/
def allOk : Oracle := fun _ => .ok

theorem get_allOk {w : World} (hd : w.dead = false) {n : Nat} {o : Obj}
    (h : NMap.get w.store n = some o) : w.get allOk n = (w.tick, .ok o) := by
  unfold World.get
  simp [hd, allOk, h]

theorem get_allOk_none {w : World} (hd : w.dead = false) {n : Nat}
    (h : NMap.get w.store n = none) : w.get allOk n = (w.tick, .err true) := by
  unfold World.get
  simp [hd, allOk, h]

theorem loadOrCreate_allOk {w : World} (hd : w.dead = false) (hinv : StoreInv w.store) :
    loadOrCreate allOk w 0 = (w.tick, some (manifestOf w.store 0)) := by
  unfold loadOrCreate manifestOf
  rcases hinv with h | ⟨m, h, _⟩
  · rw [get_allOk_none hd h, h]
  · rw [get_allOk hd h, h]

/-- the selected segments' deltas, in the order the compactor reads them -/
def selDeltas (st : Store) (cfg : CompactCfg) : List Delta :=
  segDeltas st (selectSegments cfg (manifestOf st 0))

theorem loadLoop_allOk (fl : CompactFlags) (w : World) (hd : w.dead = false) (acc : LoadAcc)
    (hf : acc.failed = false) (l : List SegInfo)
    (hl : ∀ s ∈ l, ∃ ds, NMap.get w.store (segName s.id) = some (.segment ds)) :
    (loadLoop fl allOk w acc l).2.actually = acc.actually ++ l ∧
    (loadLoop fl allOk w acc l).2.ktd = (segDeltas w.store l).foldl (keepStep fl.mergeInsteadOfLatest) acc.ktd := by
  induction l generalizing w acc with
  | nil => exact ⟨by simp [loadLoop], by simp [loadLoop, segDeltas]⟩
  | cons s rest ih =>
    obtain ⟨ds0, hds0⟩ := hl s (by simp)
    unfold loadLoop
    rw [get_allOk hd hds0]
    simp only [hf, Bool.false_eq_true, if_false]
    have hl' : ∀ t ∈ rest, ∃ ds, NMap.get w.tick.store (segName t.id) = some (.segment ds) :=
      fun t ht => hl t (by simp [ht])
    obtain ⟨h1, h2⟩ := ih w.tick (by simpa [World.tick] using hd)
      { ktd := ds0.foldl (keepStep fl.mergeInsteadOfLatest) acc.ktd, before := acc.before + ds0.length,
        actually := acc.actually ++ [s], missing := acc.missing, failed := false } rfl hl'
    refine ⟨by rw [h1]; simp, ?_⟩
    rw [h2]
    simp only [segDeltas, List.flatMap_cons, hds0, List.foldl_append, World.tick]

/-- decidable: on the deltas this compaction selects, keeping the latest by outer time gives
    the same per-key survivors as merging them -/
def KeepLatestAgreesWithMerge (st : Store) (cfg : CompactCfg) : Prop :=
  (selDeltas st cfg).foldl (keepStep false) [] = foldState (selDeltas st cfg)

instance (st : Store) (cfg : CompactCfg) : Decidable (KeepLatestAgreesWithMerge st cfg) := by
  unfold KeepLatestAgreesWithMerge; infer_instance

/-- decidable: no tombstone among the survivors is below the cutoff -/
def NoTombstoneDropped (st : Store) (cfg : CompactCfg) : Prop :=
  keptOf cfg (foldState (selDeltas st cfg)) = foldState (selDeltas st cfg)

instance (st : Store) (cfg : CompactCfg) : Decidable (NoTombstoneDropped st cfg) := by
  unfold NoTombstoneDropped; infer_instance

/-- the negation of the filter in `keptOf` -/
def dropped (cfg : CompactCfg) (v : RV) : Bool := v.isTombstone && v.ts.time < cfg.cutoff

theorem mem_keptOf {cfg : CompactCfg} {ktd : NMap RV} {p : Nat × RV} :
    p ∈ keptOf cfg ktd ↔ p ∈ ktd ∧ dropped cfg p.2 = false := by
  unfold keptOf dropped
  rw [List.mem_filter]
  cases p.2.isTombstone <;> simp

/-- decidable: every tombstone this compaction would drop belongs to a key that occurs in no
    listed segment outside the compaction -/
def GcSafe (st : Store) (cfg : CompactCfg) : Prop :=
  ∀ p ∈ foldState (selDeltas st cfg), dropped cfg p.2 = true →
    ∀ q ∈ segDeltas st (removeIds (manifestOf st 0) ((selectSegments cfg (manifestOf st 0)).map (·.id))),
      q.1 ≠ p.1

instance (st : Store) (cfg : CompactCfg) : Decidable (GcSafe st cfg) := by
  unfold GcSafe; infer_instance

theorem selectSegments_congr {cfg : CompactCfg} {m m' : Manifest} (h : m.segments = m'.segments) :
    selectSegments cfg m = selectSegments cfg m' := by
  unfold selectSegments; rw [h]

theorem removeIds_congr {m m' : Manifest} (h : m.segments = m'.segments) (ids : List Nat) :
    removeIds m ids = removeIds m' ids := by
  unfold removeIds; rw [h]

/-! ### what a pass does to the listed content -/

/-- the pass replaced the deltas of the listed segments `sub` by the survivors (after tombstone
    GC) of their per-key merge -/
def Replaced (cfg : CompactCfg) (st st' : Store) (sub : List SegInfo) : Prop :=
  (∀ s ∈ sub, s ∈ (manifestOf st 0).segments) ∧
  ∀ d, d ∈ content st' ↔ d ∈ keptOf cfg (foldState (segDeltas st sub)) ∨
    d ∈ segDeltas st (removeIds (manifestOf st 0) (sub.map (·.id)))

theorem mem_content_split {st : Store} {sub : List SegInfo} (hsub : ∀ s ∈ sub, s ∈ (manifestOf st 0).segments)
    (d : Delta) : d ∈ content st ↔
      d ∈ segDeltas st sub ∨ d ∈ segDeltas st (removeIds (manifestOf st 0) (sub.map (·.id))) := by
  unfold content
  constructor
  · intro hd
    obtain ⟨s, hs, ds, hgs, hds⟩ := mem_segDeltas.mp hd
    by_cases hid : s.id ∈ sub.map (·.id)
    · obtain ⟨t, ht, hte⟩ := List.mem_map.mp hid
      exact Or.inl (mem_segDeltas.mpr ⟨t, ht, ds, by rw [hte]; exact hgs, hds⟩)
    · exact Or.inr (mem_segDeltas.mpr ⟨s, mem_removeIds.mpr ⟨hs, hid⟩, ds, hgs, hds⟩)
  · rintro (hd | hd) <;> obtain ⟨s, hs, r⟩ := mem_segDeltas.mp hd
    · exact mem_segDeltas.mpr ⟨s, hsub s hs, r⟩
    · exact mem_segDeltas.mpr ⟨s, (mem_removeIds.mp hs).1, r⟩

/-- a segment whose read was corrupted is skipped by the pass: it replaces a sub-list of what it
    selected -/
theorem compact_replaced (fl : CompactFlags) (hm : fl.mergeInsteadOfLatest = true)
    (hnf : fl.missingOnlyNotFound = true) (F : Oracle) (cfg : CompactCfg) (sz : Nat) (w : World)
    (hinv : StoreInv w.store) :
    content (compactWith fl F cfg sz w).1.store = content w.store ∨
    ∃ sub, sub.Sublist (selectSegments cfg (manifestOf w.store 0)) ∧
      (NoReadCorruption F → sub = selectSegments cfg (manifestOf w.store 0)) ∧
      Replaced cfg w.store (compactWith fl F cfg sz w).1.store sub := by
  rcases (compact_spec fl F cfg sz w hinv).2 with h | ⟨w1, m, hl, hnfail, hcont⟩
  · exact Or.inl h
  · have hst1 : w1.store = w.store := by
      have := loadOrCreate_store F w 0
      rwa [hl] at this
    have hsegs := segments_of_load hl
    rw [selectSegments_congr hsegs]
    have hselp : ∀ s ∈ selectSegments cfg m, ∃ ds, NMap.get w1.store (segName s.id) = some (.segment ds) :=
      fun s hs => hst1 ▸ ((backed_of_load hinv hl).1 s (mem_selectSegments hs)).2
    rcases loadLoop_repaired fl hnf F w1 LoadAcc.init (selectSegments cfg m) hselp with h | ⟨sub, hsub, hfull, h1, h2⟩
    · rw [h] at hnfail; cases hnfail
    · rw [h1, h2, hm, foldl_keepStep_merge, hst1, ← removeIds_congr hsegs] at hcont
      exact Or.inr ⟨sub, hsub, hfull, fun s hs => hsegs ▸ mem_selectSegments (hsub.subset hs), hcont⟩

/-- the pinned commit (keep-latest) on a fault-free run -/
theorem compact_replaced_pinned (cfg : CompactCfg) (sz : Nat) (w : World) (hd : w.dead = false)
    (hinv : StoreInv w.store) (hk : KeepLatestAgreesWithMerge w.store cfg) :
    content (compactWith pinnedFlags allOk cfg sz w).1.store = content w.store ∨
    Replaced cfg w.store (compactWith pinnedFlags allOk cfg sz w).1.store (selectSegments cfg (manifestOf w.store 0)) := by
  rcases (compact_spec pinnedFlags allOk cfg sz w hinv).2 with h | ⟨w1, m, hl, _, hcont⟩
  · exact Or.inl h
  · rw [loadOrCreate_allOk hd hinv] at hl
    cases hl
    have hsel : ∀ s ∈ selectSegments cfg (manifestOf w.store 0),
        ∃ ds, NMap.get w.tick.store (segName s.id) = some (.segment ds) :=
      fun s hs => ((backed_of_load hinv (loadOrCreate_allOk hd hinv)).1 s (mem_selectSegments hs)).2
    obtain ⟨h1, h2⟩ := loadLoop_allOk pinnedFlags w.tick (by simpa [World.tick] using hd) LoadAcc.init rfl _ hsel
    rw [h1, h2] at hcont
    exact Or.inr ⟨fun s hs => mem_selectSegments hs, hk ▸ hcont⟩

/-- after a replacement the listed content still lives in the carrier: the survivors are per-key
    merges of listed deltas -/
theorem replaced_inCar (c : Carrier) {cfg : CompactCfg} {st st' : Store} {sub : List SegInfo}
    (hcar : InCar c (content st)) (h : Replaced cfg st st' sub) : InCar c (content st') := by
  intro p hp
  rcases (h.2 p).mp hp with hk | hr
  · obtain ⟨k, v⟩ := p
    exact (c.aci k).fold1_closed
      (inCar_vals (fun q hq => hcar q ((mem_content_split h.1 q).mpr (Or.inl hq))) k)
      (mem_foldState_iff.mp (mem_keptOf.mp hk).1)
  · exact hcar p ((mem_content_split h.1 p).mpr (Or.inr hr))

/-- key by key: where the merged value of `k` among the replaced segments survives the tombstone
    GC (or `k` does not occur in them), the replacement does not change what `k` folds to -/
theorem replaced_get (c : Carrier) {cfg : CompactCfg} {st st' : Store} {sub : List SegInfo}
    (hcar : InCar c (content st)) (h : Replaced cfg st st' sub) (k : Nat)
    (hk : ∀ T, fold1 RV.merge (vals k (segDeltas st sub)) = some T → dropped cfg T = false) :
    NMap.get (foldState (content st')) k = NMap.get (foldState (content st)) k := by
  have hcw := mem_content_split h.1
  rw [get_foldState, get_foldState]
  apply (c.aci k).fold1_replace (B := vals k (segDeltas st sub)) (inCar_vals hcar k)
  · exact fun y hy => mem_vals.mpr ((hcw _).mpr (Or.inl (mem_vals.mp hy)))
  · intro y hy
    rcases (h.2 (k, y)).mp (mem_vals.mp hy) with h' | h'
    · exact Or.inr (mem_foldState_iff.mp (mem_keptOf.mp h').1)
    · exact Or.inl (mem_vals.mpr ((hcw _).mpr (Or.inr h')))
  · intro y hy
    rcases (hcw _).mp (mem_vals.mp hy) with h' | h'
    · obtain ⟨T, hfk, _⟩ := (c.aci k).le_fold1
        (inCar_vals (fun q hq => hcar q ((hcw q).mpr (Or.inl hq))) k) (mem_vals.mpr h')
      exact Or.inr ⟨mem_vals.mpr h', T, hfk,
        mem_vals.mpr ((h.2 _).mpr (Or.inl (mem_keptOf.mpr ⟨mem_foldState_iff.mpr hfk, hk T hfk⟩)))⟩
    · exact Or.inl (mem_vals.mpr ((h.2 _).mpr (Or.inr h')))

theorem replaced_fold (c : Carrier) {cfg : CompactCfg} {st st' : Store} {sub : List SegInfo}
    (hcar : InCar c (content st)) (h : Replaced cfg st st' sub)
    (hkeep : keptOf cfg (foldState (segDeltas st sub)) = foldState (segDeltas st sub)) :
    foldState (content st') = foldState (content st) :=
  NMap.ext (wf_foldState _) (wf_foldState _) fun k => replaced_get c hcar h k fun _ hT =>
    (mem_keptOf.mp (hkeep.symm ▸ mem_foldState_iff.mpr hT)).2

/-- **tombstone GC of the repaired compactor is safe under `GcSafe`**, for every oracle: key by
    key the folded content is unchanged, except that a key whose merged value is a tombstone below
    the cutoff may have disappeared. -/
theorem compact_gc_safe (c : Carrier) (fl : CompactFlags) (hm : fl.mergeInsteadOfLatest = true)
    (hnf : fl.missingOnlyNotFound = true) (F : Oracle) (hF : NoReadCorruption F) (cfg : CompactCfg) (sz : Nat)
    (w : World) (hinv : StoreInv w.store) (hcar : InCar c (content w.store)) (hsafe : GcSafe w.store cfg) (k : Nat) :
    NMap.get (foldState (content (compactWith fl F cfg sz w).1.store)) k = NMap.get (foldState (content w.store)) k ∨
    (NMap.get (foldState (content (compactWith fl F cfg sz w).1.store)) k = none ∧
      ∃ T, NMap.get (foldState (content w.store)) k = some T ∧ dropped cfg T = true) := by
  rcases compact_replaced fl hm hnf F cfg sz w hinv with h | ⟨sub, _, hfull, hrep⟩
  · rw [h]; exact Or.inl rfl
  · rw [hfull hF] at hrep
    unfold GcSafe selDeltas at hsafe
    by_cases hdrop : ∃ T, fold1 RV.merge (vals k (segDeltas w.store (selectSegments cfg (manifestOf w.store 0)))) = some T ∧
        dropped cfg T = true
    · -- the merged value of `k` is dropped, and by `GcSafe` no other segment holds `k`
      obtain ⟨T, hfk, hdT⟩ := hdrop
      have hcw := mem_content_split hrep.1
      have hnoR : ∀ q ∈ segDeltas w.store (removeIds (manifestOf w.store 0)
          ((selectSegments cfg (manifestOf w.store 0)).map (·.id))), q.1 ≠ k :=
        fun q hq => hsafe (k, T) (mem_foldState_iff.mpr hfk) hdT q hq
      right
      rw [get_foldState, get_foldState]
      have hempty : vals k (content (compactWith fl F cfg sz w).1.store) = [] := by
        cases hv : vals k (content (compactWith fl F cfg sz w).1.store) with
        | nil => rfl
        | cons y _ =>
          rcases (hrep.2 (k, y)).mp (mem_vals.mp (by rw [hv]; simp)) with h | h
          · obtain ⟨hmem, hnd⟩ := mem_keptOf.mp h
            have := mem_foldState_iff.mp hmem
            rw [hfk] at this
            cases this
            rw [hdT] at hnd; cases hnd
          · exact absurd rfl (hnoR _ h)
      refine ⟨by rw [hempty]; rfl, T, ?_, hdT⟩
      rw [← hfk]
      apply (c.aci k).fold1_eq_of_same_set (inCar_vals hcar k)
      intro y
      rw [mem_vals, mem_vals]
      exact ⟨fun hy => ((hcw _).mp hy).elim id (fun h => absurd rfl (hnoR _ h)), fun hy => (hcw _).mpr (Or.inl hy)⟩
    · -- otherwise the values of `k` in the pass are replaced by their merge (if there are any)
      exact Or.inl (replaced_get c hcar hrep k fun T hT => by
        cases hd : dropped cfg T
        · rfl
        · exact absurd ⟨T, hT, hd⟩ hdrop)

/-! ### the store holds a history -/

/-- the one invariant behind C11 (recovery = merge of what is persisted), C12 (nothing confirmed is
    lost) and C13 (compaction is invisible): the store HOLDS the history `T` — it satisfies the
    store invariant and its listed content, inside the carrier, folds to what `T` folds to.
    Recovery reads `foldState T` off such a store; a confirmed flush of `B` makes it hold
    `T ++ B`; every other step of `flush` / `compact` (failed, crashed, or a finished pass without
    tombstone GC) makes it hold `T` still. -/
structure Holds (c : Carrier) (st : Store) (T : List Delta) : Prop where
  inv : StoreInv st
  listed : InCar c (content st)
  hist : InCar c T
  fold : foldState (content st) = foldState T

theorem holds_nil (c : Carrier) : Holds c [] [] :=
  ⟨storeInv_nil, fun _ hp => (nomatch hp), fun _ hp => (nomatch hp), rfl⟩

theorem holds_self {c : Carrier} {st : Store} (hinv : StoreInv st) (hcar : InCar c (content st)) :
    Holds c st (content st) := ⟨hinv, hcar, hcar, rfl⟩

theorem holds_content {st : Store} (hinv : StoreInv st) (hc : Coherent (content st)) :
    Holds (carrierOf _ hc) st (content st) := holds_self hinv (inCar_of_coherent hc)

theorem Holds.recover {c : Carrier} {st : Store} {T : List Delta} (h : Holds c st T) (rid : Nat) :
    ∃ r, recover st rid = .ok r ∧ r.chk = none ∧ foldState r.updates = foldState T := by
  obtain ⟨r, hr, hchk, hu⟩ := recover_of_storeInv h.inv rid
  exact ⟨r, hr, hchk, (foldState_eq_of_same_set_inCar c h.listed (fun e => (hu e).symm)).symm.trans h.fold⟩

/-- a confirmed flush of `B` -/
theorem Holds.grow {c : Carrier} {st st' : Store} {T B : List Delta} (h : Holds c st T) (hinv' : StoreInv st')
    (hB : InCar c B) (hcont : ∀ d, d ∈ content st' ↔ d ∈ content st ∨ d ∈ B) : Holds c st' (T ++ B) := by
  have hcar' : InCar c (content st') := fun q hq => ((hcont q).mp hq).elim (h.listed q) (hB q)
  refine ⟨hinv', hcar', fun p hp => (List.mem_append.mp hp).elim (h.hist p) (hB p), ?_⟩
  rw [foldState_eq_of_same_set_inCar c hcar' (l' := content st ++ B) (fun d => by rw [hcont d, List.mem_append]),
    foldState_append, foldState_append, h.fold]

theorem Holds.same {c : Carrier} {st st' : Store} {T : List Delta} (h : Holds c st T) (hinv' : StoreInv st')
    (he : content st' = content st) : Holds c st' T :=
  ⟨hinv', he ▸ h.listed, h.hist, he ▸ h.fold⟩

/-- a pass that replaced some listed segments by their per-key merge, dropping nothing -/
theorem Holds.replaced {c : Carrier} {cfg : CompactCfg} {st st' : Store} {sub : List SegInfo} {T : List Delta}
    (h : Holds c st T) (hinv' : StoreInv st') (hr : Replaced cfg st st' sub)
    (hkeep : keptOf cfg (foldState (segDeltas st sub)) = foldState (segDeltas st sub)) : Holds c st' T :=
  ⟨hinv', replaced_inCar c h.listed hr, h.hist, (replaced_fold c h.listed hr hkeep).trans h.fold⟩

theorem Holds.compact {c : Carrier} {w : World} {T : List Delta} (h : Holds c w.store T) (fl : CompactFlags)
    (hm : fl.mergeInsteadOfLatest = true) (hnf : fl.missingOnlyNotFound = true) (F : Oracle) {cfg : CompactCfg}
    (hgc : cfg.cutoff = 0) (sz : Nat) : Holds c (compactWith fl F cfg sz w).1.store T := by
  have hinv' := (compact_spec fl F cfg sz w h.inv).1
  rcases compact_replaced fl hm hnf F cfg sz w h.inv with he | ⟨sub, _, _, hr⟩
  · exact h.same hinv' he
  · exact h.replaced hinv' hr (keptOf_noGC hgc _)

-- stated apart: under a binder `Stream.compact` is slow to unify with `compactWith current.compact`
theorem Holds.compact_current {c : Carrier} {w : World} {T : List Delta} (h : Holds c w.store T) (F : Oracle)
    {cfg : CompactCfg} (hgc : cfg.cutoff = 0) (sz : Nat) : Holds c (Stream.compact F cfg sz w).1.store T :=
  h.compact current.compact rfl rfl F hgc sz

theorem Holds.compactIfNeeded {c : Carrier} {w : World} {T : List Delta} (h : Holds c w.store T) (F : Oracle)
    {cfg : CompactCfg} (hgc : cfg.cutoff = 0) (maxSegs sz : Nat) :
    Holds c (compactIfNeeded F cfg maxSegs sz w).1.store T := by
  unfold Stream.compactIfNeeded
  rcases compactIfNeededWith_cases current.compact F cfg maxSegs sz w with hs | ⟨w1, hs, he⟩
  · rwa [hs]
  · rw [he]
    exact Holds.compact (w := w1) (hs ▸ h) _ rfl rfl F hgc sz

/-- one operation of a run (merging, `NotFound`-only compactor, no tombstone GC) from a store that
    holds `base` and what this run confirmed so far -/
theorem Holds.step {c : Carrier} {base : List Delta} {s : Sys} (h : Holds c s.w.store (base ++ s.acked))
    (hbuf : InCar c s.p.buffer) (fl : Flags) (hm : fl.compact.mergeInsteadOfLatest = true)
    (hnf : fl.compact.missingOnlyNotFound = true) (F : Oracle) (op : Op)
    (hop : op.gcFree = true ∧ ∀ d, op.pushed? = some d → InCarrier (c.kd d.1) (c.U d.1) d.2) :
    Holds c (stepWith fl F s op).w.store (base ++ (stepWith fl F s op).acked) ∧
      InCar c (stepWith fl F s op).p.buffer := by
  cases op with
  | push d =>
    exact ⟨h, fun e he => (List.mem_append.mp he).elim (hbuf e)
      (fun he => hop.2 e (by rw [List.mem_singleton.mp he]; rfl))⟩
  | compact cfg sz => exact ⟨h.compact fl.compact hm hnf F (by simpa [Op.gcFree] using hop.1) sz, hbuf⟩
  | flush sz =>
    have hs := flush_spec fl.restoreBuffer F sz s.w s.p h.inv
    simp only [stepWith]
    split <;> rename_i heq <;> rw [heq] at hs
    · obtain ⟨hinv', hcont, hbuf'⟩ := hs
      rw [← List.append_assoc]
      exact ⟨h.grow hinv' hbuf hcont, fun e he => by rw [show _ = [] from hbuf'] at he; cases he⟩
    · rename_i w' p' out hne
      have hsame : content w'.store = content s.w.store ∧ ∀ e ∈ p'.buffer, e ∈ s.p.buffer := by
        cases out with
        | flushed a b => exact absurd rfl (hne a b)
        | empty => exact ⟨hs.2.1, fun e he => by rw [show p' = s.p from hs.2.2.1] at he; exact he⟩
        | error =>
          refine ⟨hs.2.1, fun e he => ?_⟩
          rw [show p'.buffer = _ from hs.2.2] at he
          split at he
          · exact he
          · cases he
      exact ⟨h.same hs.1 hsame.1, fun e he => hbuf e (hsame.2 e he)⟩

/-- from ANY world whose store holds `base`: after any run (any oracle; merging, `NotFound`-only
    compactor, no tombstone GC) the store holds `base` and what the run confirmed -/
theorem Holds.run {c : Carrier} {base : List Delta} (fl : Flags) (hm : fl.compact.mergeInsteadOfLatest = true)
    (hnf : fl.compact.missingOnlyNotFound = true) (F : Oracle) (ops : List Op)
    (hgc : ∀ o ∈ ops, o.gcFree = true) (hcar : InCar c (pushes ops))
    {s : Sys} (h : Holds c s.w.store (base ++ s.acked) ∧ InCar c s.p.buffer) :
    Holds c (runWith fl F s ops).w.store (base ++ (runWith fl F s ops).acked) ∧
      InCar c (runWith fl F s ops).p.buffer :=
  TraceInv.run_inv_of (stepWith fl F) (fun s => Holds c s.w.store (base ++ s.acked) ∧ InCar c s.p.buffer) _
    (fun _ o ho hs => hs.1.step hs.2 fl hm hnf F o ho) s h ops
    (fun o ho => ⟨hgc o ho, fun d hd => hcar d (List.mem_filterMap.mpr ⟨o, ho, hd⟩)⟩)

/-- every history of pushes, flushes and compactions without tombstone GC from the empty store,
    with coherent pushed updates, leaves a store that holds what was confirmed -/
theorem holds_of_coherent (fl : Flags) (hm : fl.compact.mergeInsteadOfLatest = true)
    (hnf : fl.compact.missingOnlyNotFound = true) (F : Oracle) (rid : Nat) (ops : List Op)
    (hc : Coherent (pushes ops)) (hgc : ∀ o ∈ ops, o.gcFree = true) :
    Holds (carrierOf _ hc) (runWith fl F (Sys.init [] rid) ops).w.store (runWith fl F (Sys.init [] rid) ops).acked :=
  (Holds.run (base := []) fl hm hnf F ops hgc (inCar_of_coherent hc) ⟨holds_nil _, fun _ h => by cases h⟩).1

/-! ### the selection rule: oldest-first prefix of the candidates -/

/-- the candidates of a pass: segments below the size target -/
def candidates (cfg : CompactCfg) (m : Manifest) : List SegInfo := m.segments.filter (fun s => s.size < cfg.target)

/-- **the documented selection rule**: a listed segment that a pass does not select is either not
    a candidate (size ≥ target) or at least as new as every selected segment (it was cut off by
    `max_segments_per_compaction`): a pass takes an oldest-first prefix of the candidates -/
theorem unselected_is_noncandidate_or_newer (cfg : CompactCfg) (m : Manifest) {s : SegInfo}
    (hs : s ∈ m.segments) (hns : s ∉ selectSegments cfg m) :
    cfg.target ≤ s.size ∨ ∀ t ∈ selectSegments cfg m, t.id ≤ s.id := by
  by_cases hc : s.size < cfg.target
  · right
    unfold selectSegments at hns ⊢
    generalize hL : sortBy (·.id) (m.segments.filter (fun s => s.size < cfg.target)) = L at hns ⊢
    have hsL : s ∈ L := by
      rw [← hL, mem_sortBy]
      exact List.mem_filter.mpr ⟨hs, by simpa using hc⟩
    have hsorted : L.Pairwise (fun a b => a.id ≤ b.id) := by rw [← hL]; exact sortBy_sorted _ _
    have hsplit := List.take_append_drop cfg.maxPer L
    rw [← hsplit] at hsL hsorted
    have hdrop : s ∈ L.drop cfg.maxPer := by
      rcases List.mem_append.mp hsL with h | h
      · exact absurd h hns
      · exact h
    intro t ht
    exact (List.pairwise_append.mp hsorted).2.2 t ht s hdrop
  · left; omega

/-- hence whatever survives outside a pass lives in a non-candidate segment or in a segment
    strictly newer than every compacted one -/
theorem outside_pass_is_noncandidate_or_newer {st : Store} {cfg : CompactCfg} {m : Manifest} {q : Delta}
    (hq : q ∈ segDeltas st (removeIds m ((selectSegments cfg m).map (·.id)))) :
    ∃ s ∈ m.segments, (cfg.target ≤ s.size ∨ ∀ t ∈ selectSegments cfg m, t.id < s.id) ∧
      ∃ ds, NMap.get st (segName s.id) = some (.segment ds) ∧ q ∈ ds := by
  obtain ⟨s, hs, ds, hg, hd⟩ := mem_segDeltas.mp hq
  obtain ⟨hsm, hid⟩ := mem_removeIds.mp hs
  have hns : s ∉ selectSegments cfg m := fun h => hid (List.mem_map.mpr ⟨s, h, rfl⟩)
  refine ⟨s, hsm, ?_, ds, hg, hd⟩
  rcases unselected_is_noncandidate_or_newer cfg m hsm hns with h | h
  · exact Or.inl h
  · right
    intro t ht
    have hle := h t ht
    have hne : t.id ≠ s.id := fun he => hid (List.mem_map.mpr ⟨t, ht, he⟩)
    omega

end Stream
end RedisVerif
