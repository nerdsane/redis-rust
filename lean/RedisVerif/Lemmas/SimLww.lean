import RedisVerif.Lemmas.SimCluster

/-!
  An execution whose local operations are string writes and deletes only (all that
  `SimulatedNode::execute` records) never holds, ships or transfers anything but LWW registers:
  every key is kind-stable, so the convergence theorems need no kind hypothesis there.
-/
namespace RedisVerif
namespace SimC
open Gossip Cluster ACluster

def StrOp : LOp → Prop
  | .write _ _ _ => True
  | .delete _ => True
  | _ => False

def StrEv : AEv → Prop
  | .ev (.loc _ op) => StrOp op
  | _ => True

structure LwwInv (c : ACluster) : Prop where
  sent : ∀ m ∈ c.base.sent, m.val.crdt.kind = 0
  nodes : ∀ s ∈ c.base.nodes, ∀ k v, NMap.get s.keys k = some v → v.crdt.kind = 0
  snaps : ∀ sn ∈ c.snaps, sn.val.crdt.kind = 0

theorem lwwInv_init (n : Nat) (causal : Bool) : LwwInv (ACluster.init n causal) := by
  refine ⟨(by intro m hm; cases hm), ?_, (by intro sn hsn; cases hsn)⟩
  intro s hs k v hg
  simp only [ACluster.init, Cluster.init, List.mem_map, List.mem_range] at hs
  obtain ⟨i, _, rfl⟩ := hs
  simp [Shard.init] at hg

theorem strOp_delta_kind (s : Shard) (op : LOp) (hop : StrOp op)
    (hs : ∀ k v, NMap.get s.keys k = some v → v.crdt.kind = 0) (d : RV)
    (hd : (Shard.step s op.toOp).2 = some d) : d.crdt.kind = 0 := by
  have h := Shard.local_cases s op
  generalize Shard.step s op.toOp = r at h hd
  cases h with
  | skip => cases hd
  | write k v e => cases hd; rfl
  | hwrite k fs => cases hop
  | delLww hg hc => cases hd; rfl
  | delHash hg hc => cases hd; exact absurd (hs _ _ hg) (by rw [hc]; simp [Crdt.kind])
  | delOther hg => cases hd; exact hs _ _ hg
  | hdel fs hg hc => cases hop

theorem applyRemote_kind (s : Shard) (k : Nat) (d : RV)
    (hs : ∀ k v, NMap.get s.keys k = some v → v.crdt.kind = 0) (hd : d.crdt.kind = 0) :
    ∀ k' v, NMap.get (Shard.applyRemote s k d).keys k' = some v → v.crdt.kind = 0 := by
  intro k' v hg
  simp only [Shard.applyRemote] at hg
  rw [NMap.get_insert] at hg
  split at hg
  · simp only [Option.some.injEq] at hg
    rw [← hg]
    cases hl : NMap.get s.keys k with
    | none => exact hd
    | some l =>
      simp only []
      rw [show (RV.merge l d).crdt.kind = l.crdt.kind from Crdt.kind_mwt (by rw [hs k l hl, hd]) _ _]
      exact hs k l hl
  · exact hs k' v hg

theorem lwwInv_set {c : ACluster} (h : LwwInv c) {i : Nat} {s' : Shard} {sent' : List Msg} (log' : List Absorbed)
    (hs' : ∀ k v, NMap.get s'.keys k = some v → v.crdt.kind = 0) (hsent : ∀ m ∈ sent', m.val.crdt.kind = 0) :
    LwwInv { c with base := ⟨c.base.nodes.set i s', sent', log'⟩ } := by
  refine ⟨hsent, fun s hs k v hg => ?_, h.snaps⟩
  rcases mem_set hs with rfl | h1
  · exact hs' k v hg
  · exact h.nodes s h1 k v hg

theorem lwwInv_step {c : ACluster} (h : LwwInv c) (e : AEv) (he : StrEv e) : LwwInv (c.step e) := by
  cases e with
  | ev e =>
    show LwwInv { c with base := c.base.step e }
    cases e with
    | loc i op =>
      rcases step_loc_cases c.base i op with h' | ⟨s, d, hs, hd, h'⟩ <;> rw [h']
      · exact h
      have hsk := h.nodes s (List.mem_of_getElem? hs)
      have hdk := strOp_delta_kind s op he hsk d hd
      refine lwwInv_set h _ (fun k v hg => ?_) (fun m hm => ?_)
      · by_cases hk : k = op.key
        · rw [hk, Shard.local_get s op d hd] at hg
          rw [← Option.some.inj hg]; exact hdk
        · rw [Shard.keys_step_other s op k hk] at hg
          exact hsk k v hg
      · rcases List.mem_append.mp hm with h1 | h1
        · exact h.sent m h1
        · rw [List.mem_singleton.mp h1]; exact hdk
    | deliver j idx =>
      rcases step_deliver_cases c.base j idx with h' | ⟨s, m, hs, hm, h'⟩ <;> rw [h']
      · exact h
      exact lwwInv_set h _ (applyRemote_kind s m.key m.val (h.nodes s (List.mem_of_getElem? hs))
        (h.sent m (List.mem_of_getElem? hm))) h.sent
  | snapshot i k =>
    cases hs : c.base.nodes[i]? with
    | none => simp only [ACluster.step, hs]; exact h
    | some s =>
      cases hg : NMap.get s.keys k with
      | none => simp only [ACluster.step, hs, hg]; exact h
      | some v =>
        simp only [ACluster.step, hs, hg]
        refine ⟨h.sent, h.nodes, fun sn hsn => ?_⟩
        rcases List.mem_append.mp hsn with h1 | h1
        · exact h.snaps sn h1
        · rw [List.mem_singleton.mp h1]
          exact h.nodes s (List.mem_of_getElem? hs) k v hg
  | applySnap j idx =>
    cases hs : c.base.nodes[j]? with
    | none => simp only [ACluster.step, hs]; exact h
    | some s =>
      cases hn : c.snaps[idx]? with
      | none => simp only [ACluster.step, hs, hn]; exact h
      | some sn =>
        simp only [ACluster.step, hs, hn]
        exact lwwInv_set h _ (applyRemote_kind s sn.key sn.val (h.nodes s (List.mem_of_getElem? hs))
          (h.snaps sn (List.mem_of_getElem? hn))) h.sent

theorem lwwInv_run (es : List AEv) : ∀ (c : ACluster), LwwInv c → (∀ e ∈ es, StrEv e) → LwwInv (c.run es) := by
  induction es with
  | nil => intro c h _; exact h
  | cons e es ih =>
    intro c h he
    exact ih (c.step e) (lwwInv_step h e (he e (by simp))) (fun e' he' => he e' (List.mem_cons_of_mem _ he'))

theorem strEv_of_filter (evs : List SEv) (es : List AEv)
    (h : es.filter isLocA = (evs.flatMap locsOf).map AEv.ev) : ∀ e ∈ es, StrEv e := by
  intro e he
  cases e with
  | ev e =>
    cases e with
    | loc i op =>
      have hmem : AEv.ev (.loc i op) ∈ es.filter isLocA := List.mem_filter.mpr ⟨he, rfl⟩
      rw [h] at hmem
      simp only [List.mem_map, List.mem_flatMap] at hmem
      obtain ⟨e', ⟨sev, _, hsev⟩, heq⟩ := hmem
      cases heq
      cases sev with
      | exec j sop =>
        simp only [locsOf, List.mem_map] at hsev
        obtain ⟨o, ho, heq⟩ := hsev
        cases heq
        cases sop with
        | set k v ex => simp only [SOp.lops, List.mem_singleton] at ho; rw [ho]; trivial
        | del ks =>
          simp only [SOp.lops, List.mem_map] at ho
          obtain ⟨k, _, rfl⟩ := ho
          trivial
      | _ => simp [locsOf] at hsev
    | deliver j idx => trivial
  | snapshot i k => trivial
  | applySnap j idx => trivial

end SimC
end RedisVerif
