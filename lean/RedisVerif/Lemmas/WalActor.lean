import RedisVerif.Model.WalActor
import RedisVerif.Lemmas.NMap
import RedisVerif.Lemmas.WalRot
import RedisVerif.Lemmas.WalStep

/-!
  The actor and the store without any invariant: what a lookup finds after each update of the store, the side
  conditions on events (`Ev.Ok`, `Actor.quiet`), every write answered exactly once, file sequence numbers only grow.
-/
namespace RedisVerif.Wal

variable {fmt : Format} {crc : Bytes → Nat}

/-! ## lookups after the updates of the store -/

theorem get_appendData (st : Store) (k : Nat) (bs : Bytes) (k' : Nat) :
    NMap.get (appendData st k bs) k' =
      if k' = k then (NMap.get st k).map (fun f => { f with data := f.data ++ bs })
      else NMap.get st k' := by
  unfold appendData
  cases hg : NMap.get st k with
  | none =>
    simp only [Option.map_none]
    split
    · rename_i h; subst h; exact hg
    · rfl
  | some f =>
    simp only [Option.map_some]
    rw [NMap.get_insert]

theorem get_syncFile (st : Store) (k k' : Nat) :
    NMap.get (syncFile st k) k' =
      if k' = k then (NMap.get st k).map (fun f => { f with synced := f.data.length })
      else NMap.get st k' := by
  unfold syncFile
  cases hg : NMap.get st k with
  | none =>
    simp only [Option.map_none]
    split
    · rename_i h; subst h; exact hg
    · rfl
  | some f =>
    simp only [Option.map_some]
    rw [NMap.get_insert]

/-- a file of the store after `syncFile` is a file of the store before, as it was or synced to its end -/
theorem syncFile_some {st : Store} {k k' : Nat} {f : File} (h : NMap.get (syncFile st k) k' = some f) :
    ∃ g, NMap.get st k' = some g ∧ (f = g ∨ f = { g with synced := g.data.length }) := by
  rw [get_syncFile] at h
  split at h
  · rename_i hk
    subst hk
    cases hg : NMap.get st k' with
    | none => rw [hg] at h; cases h
    | some g => rw [hg] at h; cases h; exact ⟨g, rfl, Or.inr rfl⟩
  · exact ⟨f, h, Or.inl rfl⟩


theorem get_crashStore (st : Store) (k : Nat) :
    NMap.get (crashStore st) k
      = (NMap.get st k).map (fun f => (⟨f.data.take f.synced, (f.data.take f.synced).length⟩ : File)) := by
  unfold crashStore
  induction st with
  | nil => rfl
  | cons p st ih =>
    obtain ⟨kp, vp⟩ := p
    simp only [List.map_cons, NMap.get]
    split
    · rfl
    · exact ih

theorem maxKey_ge {st : Store} : ∀ p ∈ st, p.1 ≤ maxKey st := by
  induction st with
  | nil => intro p hp; cases hp
  | cons q st ih =>
    intro p hp
    simp only [maxKey, List.foldr_cons]
    rcases List.mem_cons.mp hp with rfl | hp
    · exact Nat.le_max_left _ _
    · exact Nat.le_trans (ih p hp) (Nat.le_max_right _ _)

theorem le_maxKey {st : Store} {k : Nat} {f : File} (h : NMap.get st k = some f) : k ≤ maxKey st :=
  maxKey_ge _ (NMap.mem_of_get h)

/-! ## at most as many writers wait as entries were appended since the last fsync -/

theorem pending_len_foldl (fix tk : Bool) (fmt : Format) (φ : Nat → Outcome) (crc : Bytes → Nat)
    (evs : List Ev) (a : Actor) (h : a.pending.length ≤ a.esync) :
    (evs.foldl (Actor.step fix tk φ fmt crc) a).pending.length
      ≤ (evs.foldl (Actor.step fix tk φ fmt crc) a).esync := by
  induction evs generalizing a with
  | nil => exact h
  | cons ev evs ih => exact ih _ ((step_moved a ev).pending_len h)

/-- the decidable side condition of the partial theorem about the rotator with `fix = false`: when a group
    fsync is about to acknowledge entries, no writer has been dropped (by a rotation or an append
    error) since the previous one -/
def Actor.quietStep (a : Actor) : Ev → Bool
  | .flush => a.esync == 0 || !a.rot.poisoned
  | .reopen false _ => a.esync == 0 || !a.rot.poisoned   -- a clean shutdown flushes
  | _ => true

def Actor.quiet (φ : Nat → Outcome) (fmt : Format) (crc : Bytes → Nat) : List Ev → Actor → Bool
  | [], _ => true
  | ev :: evs, a => a.quietStep ev && Actor.quiet φ fmt crc evs (Actor.step false false φ fmt crc a ev)

/-- the payloads of the write events (durable or fire-and-forget) fit -/
def Ev.Ok (fmt : Format) (crc : Bytes → Nat) : Ev → Prop
  | .write w => w.Ok fmt crc
  | .forget w => w.Ok fmt crc
  | .reopen _ reuse => reuse = false     -- the CURRENT `WalRotator::new` / `rotate`
  | _ => True

instance (fmt : Format) (crc : Bytes → Nat) : DecidablePred (Ev.Ok fmt crc) := fun ev => by
  cases ev <;> simp only [Ev.Ok] <;> infer_instance

/-! ## every write is answered exactly once -/

/-- ids already answered, then ids still waiting for the group fsync -/
def Actor.ids (a : Actor) : List Nat := a.acks.map (·.id) ++ a.pending.map (·.1)

/-- ids of the `write_durable` calls of an event (the other messages expect no answer) -/
def Ev.ids : Ev → List Nat
  | .write w => [w.id]
  | _ => []

theorem Actor.ids_answered (a : Actor) (r : Rot) (res : Ack) : List.Perm (a.answered r res).ids a.ids := by
  simp only [Actor.ids, Actor.answered, List.map_append, List.map_reverse, List.map_map, List.map_nil,
    List.append_nil]
  -- the id of the ack made for a pending pair is the pair's id
  show List.Perm ((a.pending.map (·.1)).reverse ++ _) _
  exact (List.reverse_perm _).append_right _ |>.trans List.perm_append_comm

theorem Moved.ids {fix tk : Bool} {φ : Nat → Outcome} {a a' : Actor} {ev : Ev} (h : Moved fix tk φ fmt crc a ev a') :
    List.Perm a'.ids (a.ids ++ ev.ids) := by
  induction h with
  | queued => simp only [Actor.ids, Ev.ids, List.map_append, List.map_cons, List.map_nil, List.append_assoc]; exact .refl _
  | refused => simp only [Actor.ids, Ev.ids, List.map_cons, List.cons_append]; exact (List.perm_append_singleton _ _).symm
  | idle _ h => rcases h with rfl | ⟨rfl, -⟩ <;> simp only [Ev.ids, List.append_nil] <;> exact .refl _
  | counted | lost | ticked | truncated => simp only [Ev.ids, List.append_nil]; exact .refl _
  | flushed | crashed => simp only [Ev.ids, List.append_nil]; exact Actor.ids_answered ..
  | restarted _ _ ih => simpa [Ev.ids, Actor.ids] using ih

theorem ids_foldl_perm (fix tk : Bool) (fmt : Format) (φ : Nat → Outcome) (crc : Bytes → Nat)
    (evs : List Ev) (a : Actor) :
    List.Perm (evs.foldl (Actor.step fix tk φ fmt crc) a).ids (a.ids ++ evs.flatMap Ev.ids) := by
  induction evs generalizing a with
  | nil => simp
  | cons ev evs ih =>
    simp only [List.foldl_cons, List.flatMap_cons]
    refine (ih _).trans ?_
    rw [← List.append_assoc]
    exact (step_moved a ev).ids.append_right _

/-! ## file sequence numbers only grow -/

/-- sequence numbers of the `create` calls of a trace (newest first, like the trace) -/
def createSeqs : List Call → List Nat
  | [] => []
  | .create s _ _ :: tr => s :: createSeqs tr
  | _ :: tr => createSeqs tr

/-- each `create` used a sequence number strictly greater than all earlier ones and none above
    `current_sequence`, which has not fallen below `n` -/
def RSeq (n : Nat) (r : Rot) : Prop :=
  (createSeqs r.w.trace).Pairwise (· > ·) ∧ (∀ s ∈ createSeqs r.w.trace, s ≤ r.seq) ∧ n ≤ r.seq

/-! Only `create` calls count, and every step of the rotator either issues none or exactly one, for the
    next sequence number. -/

theorem creates_ioSync (φ : Nat → Outcome) (w : World) (c : Nat) :
    createSeqs (ioSync φ w c).1.trace = createSeqs w.trace := by
  unfold ioSync; cases φ w.io <;> rfl

theorem creates_ioAppend (φ : Nat → Outcome) (w : World) (k : Nat) (bs : Bytes) :
    createSeqs (ioAppend φ w k bs).1.trace = createSeqs w.trace := by
  unfold ioAppend; cases φ w.io <;> rfl

theorem creates_ioDelete (φ : Nat → Outcome) (w : World) (k : Nat) :
    createSeqs (ioDelete φ w k).1.trace = createSeqs w.trace := by
  unfold ioDelete; cases φ w.io <;> rfl

theorem creates_ioCreate (φ : Nat → Outcome) (w : World) (s : Nat) :
    createSeqs (ioCreate φ w s).1.trace = s :: createSeqs w.trace := by
  unfold ioCreate; cases φ w.io <;> rfl

/-- from `r` to `r'` nothing was created, or exactly the file with the next sequence number -/
def Grew (r r' : Rot) : Prop :=
  (createSeqs r'.w.trace = createSeqs r.w.trace ∧ r'.seq = r.seq) ∨
  (createSeqs r'.w.trace = (r.seq + 1) :: createSeqs r.w.trace ∧ r'.seq = r.seq + 1)

theorem Grew.rseq {n : Nat} {r r' : Rot} (h : Grew r r') (hr : RSeq n r) : RSeq n r' := by
  obtain ⟨hp, hle, hn⟩ := hr
  unfold RSeq
  rcases h with ⟨hc, hs⟩ | ⟨hc, hs⟩ <;> rw [hc, hs]
  · exact ⟨hp, hle, hn⟩
  · refine ⟨List.pairwise_cons.mpr ⟨fun s hs' => ?_, hp⟩, fun s hs' => ?_, by omega⟩
    · have := hle s hs'; omega
    · rcases List.mem_cons.mp hs' with rfl | hs''
      · exact Nat.le_refl _
      · have := hle s hs''; omega

theorem opened_grew (fix : Bool) (fmt : Format) (φ : Nat → Outcome) {r : Rot} (hc : r.cur = none) :
    Grew r (Rot.rotate fix fmt φ r).1 := by
  unfold Rot.rotate
  rw [close_nocur fix φ hc]
  simp only
  have h1 := creates_ioCreate φ r.w (r.seq + 1)
  cases hcr : ioCreate φ r.w (r.seq + 1) with
  | mk w' oe =>
    rw [hcr] at h1
    cases oe with
    | some e => exact Or.inr ⟨h1, rfl⟩
    | none =>
      simp only
      have h2 := creates_ioAppend φ w' (r.seq + 1) (header fmt (r.seq + 1))
      cases hap : ioAppend φ w' (r.seq + 1) (header fmt (r.seq + 1)) with
      | mk w'' oe2 =>
        rw [hap] at h2
        cases oe2 <;> exact Or.inr ⟨h2.trans h1, rfl⟩

theorem appendTo_same (φ : Nat → Outcome) (r : Rot) (e : Entry) :
    createSeqs (Rot.appendTo φ r e).1.w.trace = createSeqs r.w.trace ∧ (Rot.appendTo φ r e).1.seq = r.seq := by
  unfold Rot.appendTo
  cases r.cur with
  | none => exact ⟨rfl, rfl⟩
  | some c =>
    simp only
    have h := creates_ioAppend φ r.w c e.encode
    cases hap : ioAppend φ r.w c e.encode with
    | mk w' oe =>
      rw [hap] at h
      cases oe <;> exact ⟨h, rfl⟩

theorem rseq_kept (n : Nat) (fmt : Format) (φ : Nat → Outcome) : Kept fmt φ (fun _ => True) (fun _ r => RSeq n r) where
  synced _ h := Grew.rseq (Or.inl ⟨creates_ioSync .., rfl⟩) h
  dropped h := Grew.rseq (Or.inl ⟨rfl, rfl⟩) h
  opened fix hc h := (opened_grew fix fmt φ hc).rseq h
  entry e _ _ h := Grew.rseq (Or.inl (appendTo_same φ _ e)) h

theorem sync_same (fix : Bool) (φ : Nat → Outcome) (r : Rot) :
    createSeqs (Rot.sync fix φ r).1.w.trace = createSeqs r.w.trace ∧ (Rot.sync fix φ r).1.seq = r.seq := by
  unfold Rot.sync
  split
  · exact ⟨rfl, rfl⟩
  · cases r.cur with
    | none => exact ⟨rfl, rfl⟩
    | some c => exact ⟨creates_ioSync φ r.w c, rfl⟩

theorem Moved.rseq {n : Nat} {fix tk : Bool} {φ : Nat → Outcome} {a a' : Actor} {ev : Ev}
    (h : Moved fix tk φ fmt crc a ev a') (hnr : ∀ c r, ev ≠ .reopen c r) (hr : RSeq n a.rot) : RSeq n a'.rot := by
  cases h with
  | queued w h | refused w h | counted w h | lost w h =>
    have := (rseq_kept n fmt φ).append (es := []) fix hr (e := Entry.mk' fmt crc w.data w.ts) trivial
    rw [h] at this
    exact this.elim id (·.1)
  | idle => exact hr
  | ticked | flushed => exact Grew.rseq (Or.inl (sync_same fix φ a.rot)) hr
  | truncated T => exact truncate_kept T (fun _ _ hi => Grew.rseq (Or.inl ⟨creates_ioDelete .., rfl⟩) hi) hr
  | crashed reuse | restarted reuse => exact absurd rfl (hnr _ _)

theorem rseq_foldl {n : Nat} (fix tk : Bool) (fmt : Format) (φ : Nat → Outcome) (crc : Bytes → Nat)
    (evs : List Ev) (a : Actor) (h : RSeq n a.rot) (hnr : ∀ c r, Ev.reopen c r ∉ evs) :
    RSeq n (evs.foldl (Actor.step fix tk φ fmt crc) a).rot := by
  induction evs generalizing a with
  | nil => exact h
  | cons ev evs ih =>
    exact ih _ ((step_moved a ev).rseq (fun c r hc => hnr c r (by rw [hc]; exact List.mem_cons_self)) h)
      (fun c r hm => hnr c r (List.mem_cons_of_mem _ hm))

end RedisVerif.Wal
