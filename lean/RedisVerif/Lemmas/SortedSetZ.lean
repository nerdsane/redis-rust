import RedisVerif.Lemmas.SkipListOps

/-! `RedisSortedSet` (skip list + member map): the member map, the invariant `ZInv`, `add` and `remove` against
    `zInsert` / `zRemove`, and the loops of `execute_zadd` / `execute_zrem` over the structure = `zaddAll` / `zremAll`. -/
namespace RedisVerif.SkipList
open RedisVerif RedisVerif.Redis

/-! ## the association list `members`

`mmGet` and `mmErase` are `zScore` and `zRemove` on another list; only `mmSet` needs lemmas of its own. -/

theorem mmGet_eq_zScore (M : MemberMap) (m : BS) : mmGet M m = zScore M m := by
  induction M with
  | nil => rfl
  | cons p r ih => simp only [mmGet, zScore, ih]

theorem mmErase_eq_zRemove (M : MemberMap) (m : BS) : mmErase M m = zRemove m M := by
  induction M with
  | nil => rfl
  | cons p r ih => simp only [mmErase, zRemove, ih]

theorem mmGet_mmSet (M : MemberMap) (m : BS) (s : Score) (m' : BS) :
    mmGet (mmSet M m s) m' = if m' = m then some s else mmGet M m' := by
  induction M with
  | nil => rfl
  | cons p r ih =>
    obtain ⟨k, v⟩ := p
    simp only [mmSet]
    by_cases hk : m = k
    · subst hk
      simp only [if_true, mmGet]
      split <;> rfl
    · simp only [hk, if_false, mmGet, ih]
      by_cases h' : m' = k
      · rw [if_pos h', if_neg (fun e => hk (e.symm.trans h')), if_pos h']
      · rw [if_neg h', if_neg h']

theorem mmSet_keys (M : MemberMap) (m : BS) (s : Score) :
    (mmSet M m s).map Prod.fst = if (mmGet M m).isSome then M.map Prod.fst else M.map Prod.fst ++ [m] := by
  induction M with
  | nil => rfl
  | cons p r ih =>
    obtain ⟨k, v⟩ := p
    simp only [mmSet, mmGet]
    by_cases hk : m = k
    · simp only [hk, if_true, Option.isSome_some, List.map_cons]
    · simp only [hk, if_false, List.map_cons, ih]
      split <;> rfl

theorem mmSet_nodup {M : MemberMap} (h : (M.map Prod.fst).Nodup) (m : BS) (s : Score) :
    ((mmSet M m s).map Prod.fst).Nodup := by
  rw [mmSet_keys]
  cases hg : mmGet M m with
  | some _ => exact h
  | none =>
    rw [mmGet_eq_zScore] at hg
    refine List.nodup_append.mpr ⟨h, List.pairwise_singleton _ m, fun a ha b hb e => ?_⟩
    obtain ⟨p, hp, rfl⟩ := List.mem_map.mp ha
    exact zScore_none hg p hp (e.trans (List.mem_singleton.mp hb))

theorem mmSet_length (M : MemberMap) (m : BS) (s : Score) :
    (mmSet M m s).length = if (mmGet M m).isSome then M.length else M.length + 1 := by
  have := congrArg List.length (mmSet_keys M m s)
  rw [List.length_map] at this
  rw [this]
  split
  · exact List.length_map ..
  · rw [List.length_append, List.length_map]; rfl

/-- `zInsert` puts a fresh member at the index `cntLt` counts -/
theorem zInsert_eq_insertAt {m : BS} {sc : Score} : ∀ {z : ZL}, (∀ p ∈ z, p.1 ≠ m) →
    zInsert m sc z = insertAt (m, sc) z ((z.takeWhile (fun p => zLt p (m, sc))).length)
  | [], _ => by simp [zInsert, insertAt]
  | q :: z, h => by
    have hq : q.1 ≠ m := h q (List.mem_cons_self ..)
    simp only [zInsert, List.takeWhile_cons]
    by_cases hlt : zLt q (m, sc) = true
    · have : zLt (m, sc) q = false := zLt_asymm hlt
      simp only [this, Bool.false_eq_true, if_false, hlt, if_true, List.length_cons, insertAt]
      rw [zInsert_eq_insertAt (fun p hp => h p (List.mem_cons_of_mem _ hp))]
    · have hgt : zLt (m, sc) q = true := zLt_total_of_ne hq (by simpa using hlt)
      simp [hgt, hlt, insertAt]

theorem cntLt_eq_takeWhile (tgt : BS × Score) (T : List Tower) :
    cntLt tgt T = ((T.map Tower.key).takeWhile (fun p => zLt p tgt)).length := by
  induction T with
  | nil => rfl
  | cons t ts ih =>
    simp only [cntLt, List.map_cons, List.takeWhile_cons] at *
    split <;> simp_all

/-! ## the invariant `ZInv`; `add` and `remove` -/

/-- a level generator whose levels lie in `1..=SKIPLIST_MAXLEVEL` -/
def LevelOk (lv : LevelGen) : Prop := ∀ s, 1 ≤ (lv s).1 ∧ (lv s).1 ≤ maxLevel

/-- invariant of `RedisSortedSet`: the skip list is well formed, `members` and the list hold the
    same (member, score) pairs, no member twice -/
structure ZInv (z : ZS) : Prop where
  wf : Wf z.sl
  canon : ZCanon (keys z.sl)
  nodup : (z.members.map Prod.fst).Nodup
  agree : ∀ m, mmGet z.members m = zScore (keys z.sl) m
  lenEq : z.members.length = (keys z.sl).length

theorem zinv_new : ZInv ZS.new :=
  ⟨wf_new, by simp [keys, ZS.new, SL.new, ZCanon], by simp [ZS.new], fun m => by simp [ZS.new, SL.new, keys, mmGet, zScore],
   by simp [ZS.new, SL.new, keys]⟩

theorem fresh_of_zScore_none {sl : SL} {m : BS} (h : zScore (keys sl) m = none) :
    ∀ t ∈ sl.towers, t.member ≠ m := by
  intro t ht
  exact zScore_none h t.key (List.mem_map_of_mem ht)

/-- removing an entry that is in the list = `zRemove` -/
theorem remove_present {sl : SL} (hw : Wf sl) (hd : (keys sl).Pairwise (fun a b => a.1 ≠ b.1))
    {m : BS} {sc : Score} (h : zScore (keys sl) m = some sc) :
    ∃ sl', removeWithScore sl m sc = some (sl', true) ∧ Wf sl' ∧ keys sl' = zRemove m (keys sl) ∧
      sl'.rng = sl.rng := by
  obtain ⟨i, hi⟩ := zScore_some_mem h
  obtain ⟨sl', b, h1, h2, h3, h4⟩ := removeWithScore_spec hw m sc
  rcases h4 with ⟨i', t, ht, hk, rfl, hkeys⟩ | ⟨habs, _, _⟩
  · refine ⟨sl', h1, h2, ?_, h3⟩
    have hi' : (keys sl)[i']? = some (m, sc) := by
      simp only [keys, List.getElem?_map, ht, Option.map_some, hk]
    rw [hkeys, (zfacts_of_getElem hd hi').1]
  · obtain ⟨t, ht, hk⟩ := List.mem_map.mp (List.mem_of_getElem? hi)
    exact absurd hk (habs t ht)

/-- `insert` of a fresh member next to `members.insert`: the invariant holds again and the list
    grew by `zInsert` -/
theorem add_fresh {lv : LevelGen} (hlv : LevelOk lv) {M : MemberMap} {sl : SL} (hw : Wf sl)
    (hc : ZCanon (keys sl)) {m : BS} {sc : Score} (hfresh : ∀ p ∈ keys sl, p.1 ≠ m)
    (hnd : (M.map Prod.fst).Nodup) (hag : ∀ m', m' ≠ m → mmGet M m' = zScore (keys sl) m')
    (hlen : (mmSet M m sc).length = (keys sl).length + 1) :
    ∃ sl', insert lv sl m sc = some (sl', true) ∧ ZInv ⟨mmSet M m sc, sl'⟩ ∧
      keys sl' = zInsert m sc (keys sl) := by
  obtain ⟨sl', h1, h2, h3, _⟩ := insert_spec (lv := lv) hw m sc (hlv sl.rng)
    (fun t ht => hfresh t.key (List.mem_map_of_mem ht))
  have hk : keys sl' = zInsert m sc (keys sl) := by
    rw [h3, zInsert_eq_insertAt hfresh, cntLt_eq_takeWhile]
  refine ⟨sl', h1, ⟨h2, ?_, mmSet_nodup hnd m sc, fun m' => ?_, ?_⟩, hk⟩
  · show ZCanon (keys sl')
    rw [hk]; exact canon_zInsert hc hfresh
  · show mmGet (mmSet M m sc) m' = zScore (keys sl') m'
    rw [mmGet_mmSet, hk, zScore_zInsert hfresh]
    split
    · rfl
    · exact hag m' ‹_›
  · show (mmSet M m sc).length = (keys sl').length
    rw [hlen, hk, zInsert_eq_insertAt hfresh,
      length_insertAt _ _ _ (List.takeWhile_sublist _).length_le]

theorem add_spec {lv : LevelGen} (hlv : LevelOk lv) {z : ZS} (hz : ZInv z) (m : BS) (sc : Score) :
    ∃ z' b, add lv z m sc = some (z', b) ∧ ZInv z' ∧
      keys z'.sl = (match zScore (keys z.sl) m with
        | none => zInsert m sc (keys z.sl)
        | some old => if sc = old then keys z.sl else zInsert m sc (zRemove m (keys z.sl))) ∧
      b = (zScore (keys z.sl) m).isNone := by
  unfold add
  rw [hz.agree m]
  cases hsc : zScore (keys z.sl) m with
  | none =>
    have hnone : mmGet z.members m = none := (hz.agree m).trans hsc
    obtain ⟨sl', h1, hz', hk⟩ := add_fresh hlv hz.wf hz.canon (zScore_none hsc) hz.nodup
      (fun m' _ => hz.agree m') (sc := sc) (by rw [mmSet_length, hnone, hz.lenEq]; rfl)
    exact ⟨_, true, by simp only [h1], hz', hk, rfl⟩
  | some old =>
    by_cases heq : old = sc
    · subst heq
      exact ⟨z, false, by simp, hz, by simp, rfl⟩
    · obtain ⟨sl1, h1, hw1, hk1, _⟩ := remove_present hz.wf hz.canon.2 hsc
      have hsome : mmGet z.members m = some old := (hz.agree m).trans hsc
      obtain ⟨sl2, h2, hz', hk2⟩ := add_fresh hlv (sl := sl1) (m := m) (sc := sc) hw1
        (by rw [hk1]; exact canon_zRemove hz.canon) (by rw [hk1]; exact not_mem_zRemove hz.canon)
        hz.nodup (fun m' h' => by rw [hk1, zScore_zRemove_ne h', hz.agree])
        (by rw [mmSet_length, hsome, hk1, length_zRemove_present hsc, hz.lenEq]; rfl)
      exact ⟨_, false, by simp [heq, h1, h2], hz', by simp [Ne.symm heq, hk2, hk1], rfl⟩

theorem remove_spec {z : ZS} (hz : ZInv z) (m : BS) :
    ∃ z' b, remove z m = some (z', b) ∧ ZInv z' ∧ keys z'.sl = zRemove m (keys z.sl) ∧
      b = (zScore (keys z.sl) m).isSome := by
  unfold remove
  rw [hz.agree m]
  cases hsc : zScore (keys z.sl) m with
  | none => exact ⟨z, false, rfl, hz, (zRemove_of_absent (zScore_none hsc)).symm, rfl⟩
  | some old =>
    obtain ⟨sl1, h1, hw1, hk1, _⟩ := remove_present hz.wf hz.canon.2 hsc
    refine ⟨⟨mmErase z.members m, sl1⟩, true, by simp [h1], ⟨hw1, ?_, ?_, fun m' => ?_, ?_⟩, hk1, rfl⟩
    · show ZCanon (keys sl1)
      rw [hk1]; exact canon_zRemove hz.canon
    · show ((mmErase z.members m).map Prod.fst).Nodup
      rw [mmErase_eq_zRemove]
      exact hz.nodup.sublist ((zRemove_sublist m _).map _)
    · show mmGet (mmErase z.members m) m' = zScore (keys sl1) m'
      rw [mmGet_eq_zScore, mmErase_eq_zRemove, hk1]
      by_cases h' : m' = m
      · subst h'
        rw [zScore_zRemove_self (List.pairwise_map.mp hz.nodup), zScore_zRemove_self hz.canon.2]
      · rw [zScore_zRemove_ne h', zScore_zRemove_ne h', ← mmGet_eq_zScore, hz.agree]
    · show (mmErase z.members m).length = (keys sl1).length
      have e1 := length_zRemove_present ((mmGet_eq_zScore _ _).symm.trans ((hz.agree m).trans hsc))
      have e2 := length_zRemove_present hsc
      have := hz.lenEq
      rw [mmErase_eq_zRemove, hk1]; omega

/-! ## the loops of `execute_zadd` / `execute_zrem` -/

/-- one pair of `execute_zadd`'s loop = `zaddOne` of the reference model -/
theorem zaddPair_spec {lv : LevelGen} (hlv : LevelOk lv) (f : ZFlags) {z : ZS} (hz : ZInv z) (m : BS) (sc : Score) :
    ∃ z' a c, zaddPair lv f z m sc = some (z', a, c) ∧ ZInv z' ∧
      keys z'.sl = (zaddOne f (keys z.sl) m sc).1 ∧
      a = (zaddOne f (keys z.sl) m sc).2.1 ∧
      c = (zaddOne f (keys z.sl) m sc).2.1 + (zaddOne f (keys z.sl) m sc).2.2 := by
  unfold zaddPair score
  rw [hz.agree m]
  obtain ⟨z', b, hadd, hz', hk, hb⟩ := add_spec hlv hz m sc
  -- the branches that leave the set alone
  have skip : ∃ z' a c, some (z, 0, 0) = some (z', a, c) ∧ ZInv z' ∧ keys z'.sl = keys z.sl ∧
      a = 0 ∧ c = 0 + 0 := ⟨z, 0, 0, rfl, hz, rfl, rfl, rfl⟩
  cases hs : zScore (keys z.sl) m with
  | none =>
    rw [hs] at hk hb
    subst hb
    simp only [zaddOne, hs]
    by_cases hx : f.xx = true
    · simp only [hx, if_true]; exact skip
    · simp only [hx, Bool.false_eq_true, if_false, hadd]
      exact ⟨z', 1, 1, rfl, hz', hk, rfl, rfl⟩
  | some old =>
    rw [hs] at hk hb
    subst hb
    simp only [zaddOne, hs, Score.le_iff_not_lt sc old, Score.le_iff_not_lt old sc]
    by_cases hn : f.nx = true
    · simp only [hn, if_true]; exact skip
    by_cases hg : (f.gt && !old.lt sc) = true
    · simp only [hn, hg, Bool.false_eq_true, if_true, if_false]; exact skip
    by_cases hl : (f.lt && !sc.lt old) = true
    · simp only [hn, hg, hl, Bool.false_eq_true, if_true, if_false]; exact skip
    simp only [hn, hg, hl, Bool.false_eq_true, if_false, hadd, Option.isNone_some]
    by_cases he : sc = old
    · subst he
      simp only [if_true, ne_eq, not_true_eq_false, if_false] at hk ⊢
      exact ⟨z', 0, 0, rfl, hz', hk, rfl, rfl⟩
    · simp only [he, Ne.symm he, if_false, ne_eq, not_false_eq_true, if_true] at hk ⊢
      exact ⟨z', 0, 1, rfl, hz', hk, rfl, rfl⟩

theorem zaddLoop_spec {lv : LevelGen} (hlv : LevelOk lv) (f : ZFlags) :
    ∀ (ps : List (BS × Score)) {z : ZS}, ZInv z →
      ∃ z' a c, zaddLoop lv f z ps = some (z', a, c) ∧ ZInv z' ∧
        keys z'.sl = (zaddAll f (keys z.sl) ps).1 ∧
        a = (zaddAll f (keys z.sl) ps).2.1 ∧
        c = (zaddAll f (keys z.sl) ps).2.1 + (zaddAll f (keys z.sl) ps).2.2
  | [], z, hz => ⟨z, 0, 0, rfl, hz, rfl, rfl, rfl⟩
  | (m, sc) :: ps, z, hz => by
    obtain ⟨z1, a1, c1, h1, hz1, hk1, ha1, hc1⟩ := zaddPair_spec hlv f hz m sc
    obtain ⟨z2, a2, c2, h2, hz2, hk2, ha2, hc2⟩ := zaddLoop_spec hlv f ps hz1
    refine ⟨z2, a2 + a1, c2 + c1, by simp [zaddLoop, h1, h2], hz2, ?_, ?_, ?_⟩
    · rw [hk2, hk1]; simp [zaddAll]
    · rw [ha2, ha1, hk1]; simp [zaddAll]
    · rw [hc2, hc1, hk1]; simp only [zaddAll]; omega

theorem zremLoop_spec : ∀ (ms : List BS) {z : ZS}, ZInv z →
    ∃ z' n, zremLoop z ms = some (z', n) ∧ ZInv z' ∧
      keys z'.sl = (zremAll (keys z.sl) ms).1 ∧ n = (zremAll (keys z.sl) ms).2
  | [], z, hz => ⟨z, 0, rfl, hz, rfl, rfl⟩
  | m :: ms, z, hz => by
    obtain ⟨z1, b, h1, hz1, hk1, hb⟩ := remove_spec hz m
    obtain ⟨z2, n, h2, hz2, hk2, hn⟩ := zremLoop_spec ms hz1
    rw [zremAll_cons, ← hk1, ← hb]
    exact ⟨z2, n + (if b then 1 else 0), by simp only [zremLoop, h1, h2], hz2, hk2, by rw [hn]⟩

end RedisVerif.SkipList
