import RedisVerif.Lemmas.Redis

/-! Order lemmas for sorted sets: `Score.lt` and `bsLt` are strict total orders, `zLt` (score, then member)
    is a strict order that is total on pairs with different members; `zInsert` / `zRemove` preserve the
    canonical form; `zScore` / `zRemove` / `zRankAux` on lists with distinct members. -/
namespace RedisVerif.Redis
open RedisVerif

theorem Score.lt_irrefl (a : Score) : a.lt a = false := by
  cases a <;> simp [Score.lt]

theorem Score.lt_trans {a b c : Score} (h1 : a.lt b = true) (h2 : b.lt c = true) : a.lt c = true := by
  cases a <;> cases b <;> cases c <;> simp [Score.lt] at * <;> omega

theorem Score.lt_total (a b : Score) : a.lt b = true ∨ a = b ∨ b.lt a = true := by
  cases a <;> cases b <;> simp [Score.lt] <;> omega

theorem Score.lt_asymm {a b : Score} (h : a.lt b = true) : b.lt a = false := by
  cases a <;> cases b <;> simp [Score.lt] at * <;> omega

theorem Score.le_iff_not_lt (a b : Score) : a.le b = !(b.lt a) := by
  cases a <;> cases b <;> simp [Score.le, Score.lt]
  rename_i x y
  by_cases h1 : x < y
  · simp [h1]; omega
  · by_cases h2 : x = y
    · subst h2; simp
    · have : y < x := by omega
      simp [h1, h2, this]

theorem bsLt_irrefl : ∀ a : BS, bsLt a a = false
  | [] => rfl
  | x :: xs => by simp [bsLt, bsLt_irrefl xs]

theorem bsLt_trans : ∀ {a b c : BS}, bsLt a b = true → bsLt b c = true → bsLt a c = true
  | [], [], _, h, _ => by simp [bsLt] at h
  | [], _ :: _, [], _, h => by simp [bsLt] at h
  | [], _ :: _, _ :: _, _, _ => rfl
  | _ :: _, [], _, h, _ => by simp [bsLt] at h
  | _ :: _, _ :: _, [], _, h => by simp [bsLt] at h
  | x :: xs, y :: ys, z :: zs, h1, h2 => by
    simp only [bsLt, Bool.or_eq_true, decide_eq_true_eq, Bool.and_eq_true, beq_iff_eq] at *
    rcases h1 with h1 | ⟨e1, h1⟩ <;> rcases h2 with h2 | ⟨e2, h2⟩
    · exact Or.inl (by omega)
    · exact Or.inl (by omega)
    · exact Or.inl (by omega)
    · exact Or.inr ⟨by omega, bsLt_trans h1 h2⟩

theorem bsLt_total : ∀ (a b : BS), bsLt a b = true ∨ a = b ∨ bsLt b a = true
  | [], [] => Or.inr (Or.inl rfl)
  | [], _ :: _ => Or.inl rfl
  | _ :: _, [] => Or.inr (Or.inr rfl)
  | x :: xs, y :: ys => by
    simp only [bsLt, Bool.or_eq_true, decide_eq_true_eq, Bool.and_eq_true, beq_iff_eq,
      List.cons.injEq]
    by_cases h1 : x < y
    · exact Or.inl (Or.inl h1)
    · by_cases h2 : y < x
      · exact Or.inr (Or.inr (Or.inl h2))
      · have e : x = y := by omega
        rcases bsLt_total xs ys with h | h | h
        · exact Or.inl (Or.inr ⟨e, h⟩)
        · exact Or.inr (Or.inl ⟨e, h⟩)
        · exact Or.inr (Or.inr (Or.inr ⟨e.symm, h⟩))

theorem zLt_trans {a b c : BS × Score} (h1 : zLt a b = true) (h2 : zLt b c = true) :
    zLt a c = true := by
  simp only [zLt, Bool.or_eq_true, Bool.and_eq_true, beq_iff_eq] at *
  rcases h1 with h1 | ⟨e1, h1⟩ <;> rcases h2 with h2 | ⟨e2, h2⟩
  · exact Or.inl (Score.lt_trans h1 h2)
  · exact Or.inl (e2 ▸ h1)
  · exact Or.inl (e1 ▸ h2)
  · exact Or.inr ⟨e1.trans e2, bsLt_trans h1 h2⟩

theorem zLt_total_of_ne {a b : BS × Score} (hne : a.1 ≠ b.1) (h : zLt a b = false) :
    zLt b a = true := by
  simp only [zLt, Bool.or_eq_false_iff, Bool.and_eq_false_iff, Bool.or_eq_true, Bool.and_eq_true,
    beq_iff_eq] at *
  obtain ⟨h1, h2⟩ := h
  rcases Score.lt_total a.2 b.2 with h3 | h3 | h3
  · rw [h3] at h1; cases h1
  · rcases bsLt_total a.1 b.1 with h4 | h4 | h4
    · rcases h2 with h2 | h2
      · simp [h3] at h2
      · rw [h4] at h2; cases h2
    · exact absurd h4 hne
    · exact Or.inr ⟨h3.symm, h4⟩
  · exact Or.inl h3

theorem zLt_irrefl (a : BS × Score) : zLt a a = false := by
  simp [zLt, Score.lt_irrefl, bsLt_irrefl]

theorem zLt_asymm {a b : BS × Score} (h : zLt a b = true) : zLt b a = false := by
  cases h' : zLt b a with
  | false => rfl
  | true => have := zLt_trans h h'; rw [zLt_irrefl] at this; cases this

theorem zInsert_perm (m : BS) (sc : Score) (z : ZL) : (zInsert m sc z).Perm ((m, sc) :: z) := by
  induction z with
  | nil => exact .refl _
  | cons q z ih =>
    simp only [zInsert]
    split
    · exact .refl _
    · exact (ih.cons q).trans (.swap ..)

theorem zInsert_ne_nil (m : BS) (sc : Score) (z : ZL) : zInsert m sc z ≠ [] := by
  cases z with
  | nil => simp [zInsert]
  | cons q z => simp only [zInsert]; split <;> simp

theorem canon_zInsert {m : BS} {sc : Score} {z : ZL} (hc : ZCanon z)
    (hm : ∀ p ∈ z, p.1 ≠ m) : ZCanon (zInsert m sc z) := by
  -- distinct members: a symmetric relation, so it passes along the permutation
  refine ⟨?_, (List.pairwise_cons.mpr ⟨fun p hp e => hm p hp e.symm, hc.2⟩).perm
    (zInsert_perm m sc z).symm fun h e => h e.symm⟩
  induction z with
  | nil => simp [zInsert]
  | cons q z ih =>
    have hs := List.pairwise_cons.mp hc.1
    simp only [zInsert]
    split
    · rename_i hlt
      refine List.pairwise_cons.mpr ⟨fun p hp => ?_, hc.1⟩
      cases hp with
      | head => exact hlt
      | tail _ hp' => exact zLt_trans hlt (hs.1 p hp')
    · rename_i hnlt
      have hlt : zLt q (m, sc) = true :=
        zLt_total_of_ne (a := (m, sc)) (b := q) (fun e => hm q (.head _) e.symm) (by simpa using hnlt)
      refine List.pairwise_cons.mpr ⟨fun p hp => ?_,
        ih ⟨hs.2, (List.pairwise_cons.mp hc.2).2⟩ fun p hp => hm p (.tail _ hp)⟩
      cases (zInsert_perm m sc z).mem_iff.mp hp with
      | head => exact hlt
      | tail _ hp' => exact hs.1 p hp'

theorem zRemove_sublist (m : BS) (z : ZL) : (zRemove m z).Sublist z := by
  induction z with
  | nil => exact List.Sublist.refl _
  | cons q z ih =>
    obtain ⟨m', sc⟩ := q
    simp only [zRemove]
    split
    · exact List.sublist_cons_self _ _
    · exact List.Sublist.cons_cons _ ih

theorem canon_zRemove {m : BS} {z : ZL} (hc : ZCanon z) : ZCanon (zRemove m z) :=
  ⟨List.Pairwise.sublist (zRemove_sublist m z) hc.1, List.Pairwise.sublist (zRemove_sublist m z) hc.2⟩

theorem not_mem_zRemove {m : BS} {z : ZL} (hc : ZCanon z) : ∀ p ∈ zRemove m z, p.1 ≠ m := by
  induction z with
  | nil => intro p hp; simp [zRemove] at hp
  | cons q z ih =>
    obtain ⟨m', sc⟩ := q
    obtain ⟨hs, hn⟩ := hc
    rw [List.pairwise_cons] at hs hn
    simp only [zRemove]
    split
    · rename_i e
      subst e
      intro p hp
      exact fun e => hn.1 p hp e.symm
    · rename_i hne
      intro p hp
      cases hp with
      | head => exact fun e => hne e.symm
      | tail _ hp' => exact ih ⟨hs.2, hn.2⟩ p hp'

theorem zScore_none {m : BS} {z : ZL} (h : zScore z m = none) : ∀ p ∈ z, p.1 ≠ m := by
  induction z with
  | nil => intro p hp; cases hp
  | cons q z ih =>
    obtain ⟨m', sc⟩ := q
    simp only [zScore] at h
    split at h
    · cases h
    · rename_i hne
      intro p hp
      cases hp with
      | head => exact fun e => hne e.symm
      | tail _ hp' => exact ih h p hp'

theorem canon_nil : ZCanon [] := by simp [ZCanon]

theorem canon_zaddOne {f : ZFlags} {z : ZL} (hc : ZCanon z) (m : BS) (sc : Score) :
    ZCanon (zaddOne f z m sc).1 := by
  unfold zaddOne
  split
  · rename_i hn
    split
    · exact hc
    · exact canon_zInsert hc (zScore_none hn)
  · split
    · exact hc
    · split
      · exact hc
      · split
        · exact hc
        · split
          · exact hc
          · exact canon_zInsert (canon_zRemove hc) (not_mem_zRemove hc)

theorem canon_zaddAll {f : ZFlags} {z : ZL} (hc : ZCanon z) (ps : List (BS × Score)) :
    ZCanon (zaddAll f z ps).1 := by
  induction ps generalizing z with
  | nil => exact hc
  | cons p ps ih =>
    obtain ⟨m, sc⟩ := p
    simp only [zaddAll]
    exact ih (canon_zaddOne hc m sc)

theorem canon_zremAll {z : ZL} (hc : ZCanon z) (ms : List BS) : ZCanon (zremAll z ms).1 := by
  induction ms generalizing z with
  | nil => exact hc
  | cons m ms ih =>
    simp only [zremAll]
    split
    · exact ih hc
    · exact ih (canon_zRemove hc)

/-! ## `zInsert` / `zRemove` / `zRankAux` / `zScore` on lists with distinct members -/

theorem zScore_zInsert {m : BS} {sc : Score} {z : ZL} (hm : ∀ p ∈ z, p.1 ≠ m) (m' : BS) :
    zScore (zInsert m sc z) m' = if m' = m then some sc else zScore z m' := by
  induction z with
  | nil => rfl
  | cons q z ih =>
    simp only [zInsert]
    split
    · rfl
    · have hq : q.1 ≠ m := hm q (List.mem_cons_self ..)
      simp only [zScore, ih (fun p hp => hm p (List.mem_cons_of_mem _ hp))]
      by_cases h' : m' = q.1
      · rw [if_pos h', if_neg (fun e => hq (h'.symm.trans e)), if_pos h']
      · rw [if_neg h', if_neg h']

theorem zScore_zRemove_ne {m m' : BS} (h : m' ≠ m) (z : ZL) :
    zScore (zRemove m z) m' = zScore z m' := by
  induction z with
  | nil => rfl
  | cons q z ih =>
    obtain ⟨k, v⟩ := q
    simp only [zRemove]
    split
    · rename_i e; subst e; simp only [zScore, h, if_false]
    · simp only [zScore, ih]

theorem zScore_eq_none_of_not_mem {m : BS} {z : ZL} (h : ∀ p ∈ z, p.1 ≠ m) : zScore z m = none := by
  induction z with
  | nil => rfl
  | cons q z ih =>
    obtain ⟨k, v⟩ := q
    have : ¬ m = k := fun e => h (k, v) (List.mem_cons_self ..) e.symm
    simp only [zScore, this, if_false]
    exact ih (fun p hp => h p (List.mem_cons_of_mem _ hp))

theorem zScore_zRemove_self {m : BS} {z : ZL} (hd : z.Pairwise (fun a b => a.1 ≠ b.1)) :
    zScore (zRemove m z) m = none := by
  induction z with
  | nil => rfl
  | cons q z ih =>
    obtain ⟨k, v⟩ := q
    rw [List.pairwise_cons] at hd
    simp only [zRemove]
    split
    · rename_i e; subst e
      exact zScore_eq_none_of_not_mem (fun p hp e => hd.1 p hp e.symm)
    · rename_i hk
      simp only [zScore, hk, if_false]
      exact ih hd.2

theorem length_zRemove_present {m : BS} {s : Score} {z : ZL} (h : zScore z m = some s) :
    (zRemove m z).length + 1 = z.length := by
  induction z with
  | nil => cases h
  | cons q z ih =>
    obtain ⟨k, v⟩ := q
    simp only [zRemove]
    by_cases hk : m = k
    · rw [if_pos hk]; rfl
    · simp only [zScore, hk, if_false] at h
      rw [if_neg hk, List.length_cons, ih h]; rfl

theorem zRemove_of_absent {m : BS} {z : ZL} (h : ∀ p ∈ z, p.1 ≠ m) : zRemove m z = z := by
  induction z with
  | nil => rfl
  | cons q z ih =>
    obtain ⟨k, v⟩ := q
    have : ¬ m = k := fun e => h (k, v) (List.mem_cons_self ..) e.symm
    simp only [zRemove, this, if_false]
    rw [ih (fun p hp => h p (List.mem_cons_of_mem _ hp))]

/-- an entry of a list with distinct members: `zRemove` erases its index, `zRankAux` counts up to it -/
theorem zfacts_of_getElem {z : ZL} (hd : z.Pairwise (fun a b => a.1 ≠ b.1)) :
    ∀ {i : Nat} {m : BS} {s : Score}, z[i]? = some (m, s) →
      zRemove m z = z.eraseIdx i ∧ ∀ n, zRankAux z m n = some (n + i) := by
  induction z with
  | nil => intro i m s h; cases h
  | cons q z ih =>
    obtain ⟨k, v⟩ := q
    rw [List.pairwise_cons] at hd
    intro i m s h
    cases i with
    | zero =>
      cases h
      exact ⟨if_pos rfl, fun n => if_pos rfl⟩
    | succ i =>
      have hne : ¬ m = k := fun e => hd.1 (m, s) (List.mem_of_getElem? h) e.symm
      obtain ⟨h2, h3⟩ := ih hd.2 h
      refine ⟨by simp only [zRemove, hne, if_false, h2, List.eraseIdx_cons_succ], fun n => ?_⟩
      simp only [zRankAux, hne, if_false, h3 (n + 1)]
      congr 1; omega

theorem zRankAux_none {m : BS} {z : ZL} (h : ∀ p ∈ z, p.1 ≠ m) (n : Nat) : zRankAux z m n = none := by
  induction z generalizing n with
  | nil => rfl
  | cons q z ih =>
    obtain ⟨k, v⟩ := q
    have : ¬ m = k := fun e => h (k, v) (List.mem_cons_self ..) e.symm
    simp only [zRankAux, this, if_false]
    exact ih (fun p hp => h p (List.mem_cons_of_mem _ hp)) _

theorem zScore_some_mem {m : BS} {s : Score} {z : ZL} (h : zScore z m = some s) :
    ∃ i : Nat, z[i]? = some (m, s) := by
  induction z with
  | nil => simp [zScore] at h
  | cons q z ih =>
    obtain ⟨k, v⟩ := q
    simp only [zScore] at h
    split at h
    · rename_i e; subst e; simp at h; subst h; exact ⟨0, rfl⟩
    · obtain ⟨i, hi⟩ := ih h; exact ⟨i + 1, by simpa using hi⟩

/-- `zremAll` removes unconditionally and counts the members that were there -/
theorem zremAll_cons (K : ZL) (m : BS) (ms : List BS) :
    zremAll K (m :: ms) = ((zremAll (zRemove m K) ms).1,
      (zremAll (zRemove m K) ms).2 + if (zScore K m).isSome then 1 else 0) := by
  simp only [zremAll]
  cases hs : zScore K m with
  | none => rw [zRemove_of_absent (zScore_none hs)]; rfl
  | some _ => rfl

end RedisVerif.Redis
