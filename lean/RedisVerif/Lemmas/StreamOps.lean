import RedisVerif.Lemmas.Stream
import RedisVerif.Lemmas.TraceInv

/-!
  Operational lemmas about M4: what each store call, `load_or_create`, `save`, `flush` and
  `compact` can do to the store **for every fault oracle** (which includes the process dying at
  any call: after `crash` every later call is a no-op, so "the final store of the run under an
  oracle that crashes at call c" is "the store image at crash point c").

  `StoreInv`: the manifest object is complete, lists only complete segment objects with ids below
  `next`, and has no checkpoint.  A change confined to names the manifest does not reference is
  invisible to it and to the listed `content`; every failing step of `flush` / `compact` is such a
  change, every successful manifest swap installs a manifest backed by the store it is saved to.
-/
namespace RedisVerif
namespace Stream

theorem segName_ne_manifest (id : Nat) : segName id ≠ manifestName := by
  unfold segName manifestName; omega
theorem segName_ne_tmp (id : Nat) : segName id ≠ tmpName := by
  unfold segName tmpName; omega
theorem segName_inj {a b : Nat} (h : segName a = segName b) : a = b := by
  unfold segName at h; omega
theorem tmp_ne_manifest : tmpName ≠ manifestName := by unfold tmpName manifestName; omega

theorem get_erase_ne {ν : Type} {k k' : Nat} (m : NMap ν) (h : k' ≠ k) :
    NMap.get (NMap.erase k m) k' = NMap.get m k' := by
  induction m with
  | nil => rfl
  | cons q m ih =>
    obtain ⟨kq, vq⟩ := q
    simp only [NMap.erase]
    split
    · rename_i heq
      subst heq
      simp [NMap.get, h]
    · simp only [NMap.get]
      split
      · rfl
      · exact ih

/-- two stores agree on every name outside `X` -/
def Agree (X : Nat → Prop) (st st' : Store) : Prop := ∀ n, ¬ X n → NMap.get st' n = NMap.get st n

theorem Agree.refl (X : Nat → Prop) (st : Store) : Agree X st st := fun _ _ => rfl

theorem Agree.trans {X : Nat → Prop} {a b c : Store} (h1 : Agree X a b) (h2 : Agree X b c) :
    Agree X a c := fun n hn => (h2 n hn).trans (h1 n hn)

theorem Agree.mono {X Y : Nat → Prop} {a b : Store} (h : Agree X a b) (hxy : ∀ n, X n → Y n) :
    Agree Y a b := fun n hn => h n (fun hx => hn (hxy n hx))

theorem agree_insert (st : Store) (n : Nat) (o : Obj) : Agree (· = n) st (NMap.insert n o st) := by
  intro k hk
  rw [NMap.get_insert]
  simp [hk]

theorem agree_erase (st : Store) (n : Nat) : Agree (· = n) st (NMap.erase n st) := by
  intro k hk
  exact get_erase_ne st hk

theorem put_agree (F : Oracle) (w : World) (n : Nat) (o : Obj) :
    Agree (· = n) w.store (w.put F n o).1.store := by
  unfold World.put
  split
  · exact Agree.refl _ _
  · split <;> first | exact Agree.refl _ _ | exact agree_insert _ _ _

theorem put_ok {F : Oracle} {w w' : World} {n : Nat} {o : Obj} {u : Unit}
    (h : w.put F n o = (w', .ok u)) : w'.store = NMap.insert n o w.store := by
  unfold World.put at h
  split at h
  · cases h
  · split at h <;> cases h
    all_goals rfl

theorem get_store (F : Oracle) (w : World) (n : Nat) : (w.get F n).1.store = w.store := by
  unfold World.get
  split
  · rfl
  · split <;> (try split) <;> rfl

/-- a successful `get` returns the stored object, or — under a read-corruption fault — a body
    that no parser accepts (`torn`) while the object at rest is untouched -/
theorem get_ok {F : Oracle} {w w' : World} {n : Nat} {o : Obj}
    (h : w.get F n = (w', .ok o)) :
    NMap.get w.store n = some o ∨
      (o = .torn ∧ F w.calls = .readCorrupt ∧ ∃ o', NMap.get w.store n = some o') := by
  unfold World.get at h
  repeat' split at h
  all_goals cases h
  -- the two arms of `World.get` that return `.ok`: oracle `ok` on an existing object, oracle
  -- `readCorrupt` on an existing object (the body handed out is `torn`)
  · exact Or.inl ‹_›
  · exact Or.inr ⟨rfl, ‹_›, _, ‹_›⟩

theorem get_notFound {F : Oracle} {w w' : World} {n : Nat}
    (h : w.get F n = (w', .err true)) : NMap.get w.store n = none := by
  unfold World.get at h
  repeat' split at h
  all_goals cases h
  -- `.err true` comes only from the lookup that found nothing (oracle `ok` or `readCorrupt`)
  all_goals assumption

theorem rename_ok {F : Oracle} {w w' : World} {a b : Nat} {u : Unit}
    (h : w.rename F a b = (w', .ok u)) :
    ∃ o, NMap.get w.store a = some o ∧ w'.store = NMap.insert b o (NMap.erase a w.store) := by
  unfold World.rename at h
  repeat' split at h
  all_goals cases h
  -- `.ok` only where the oracle says `ok` / `readCorrupt` and the source exists
  all_goals exact ⟨_, ‹_›, rfl⟩

theorem rename_err {F : Oracle} {w w' : World} {a b : Nat} {e : Bool}
    (h : w.rename F a b = (w', .err e)) : w'.store = w.store := by
  unfold World.rename at h
  repeat' split at h
  all_goals cases h
  all_goals rfl

theorem delete_agree (F : Oracle) (w : World) (n : Nat) :
    Agree (· = n) w.store (w.delete F n).1.store := by
  unfold World.delete
  split
  · exact Agree.refl _ _
  · split <;> first | exact Agree.refl _ _ | exact agree_erase _ _

theorem loadOrCreate_store (F : Oracle) (w : World) (rid : Nat) :
    (loadOrCreate F w rid).1.store = w.store := by
  unfold loadOrCreate
  have := get_store F w manifestName
  split <;> rename_i heq <;> rw [heq] at this <;> exact this

theorem loadOrCreate_some {F : Oracle} {w w1 : World} {rid : Nat} {m : Manifest}
    (h : loadOrCreate F w rid = (w1, some m)) :
    NMap.get w.store manifestName = some (.manifest m) ∨
      (NMap.get w.store manifestName = none ∧ m = Manifest.new rid) := by
  unfold loadOrCreate at h
  split at h
  · rename_i w' m' heq
    cases h
    rcases get_ok heq with hg | ⟨ht, _⟩
    · exact Or.inl hg
    · cases ht
  · cases h
  · rename_i w' heq
    cases h
    exact Or.inr ⟨get_notFound heq, rfl⟩
  · cases h

theorem saveManifest_true {F : Oracle} {w w' : World} {m : Manifest}
    (h : saveManifest F w m = (w', true)) :
    NMap.get w'.store manifestName = some (.manifest m) ∧
      Agree (fun n => n = manifestName ∨ n = tmpName) w.store w'.store := by
  unfold saveManifest at h
  split at h
  · cases h
  · rename_i w1 u hput
    split at h
    · rename_i w2 u2 hren
      cases h
      obtain ⟨o, ho, hst⟩ := rename_ok hren
      have hw1 := put_ok hput
      rw [hw1, NMap.get_insert] at ho
      simp only [if_true, Option.some.injEq] at ho
      subst ho
      rw [hst]
      refine ⟨by rw [NMap.get_insert]; simp, ?_⟩
      intro n hn
      have h1 : n ≠ manifestName := fun h => hn (Or.inl h)
      have h2 : n ≠ tmpName := fun h => hn (Or.inr h)
      rw [NMap.get_insert, if_neg h1, get_erase_ne _ h2, hw1, NMap.get_insert, if_neg h2]
    · cases h

theorem saveManifest_true_seg {F : Oracle} {w w' : World} {m : Manifest}
    (h : saveManifest F w m = (w', true)) (k : Nat) :
    NMap.get w'.store (segName k) = NMap.get w.store (segName k) :=
  (saveManifest_true h).2 _ (fun hc => hc.elim (segName_ne_manifest k) (segName_ne_tmp k))

theorem saveManifest_false {F : Oracle} {w w' : World} {m : Manifest}
    (h : saveManifest F w m = (w', false)) : Agree (· = tmpName) w.store w'.store := by
  have hp := put_agree F w tmpName (.manifest m)
  unfold saveManifest at h
  split at h <;> rename_i hput <;> rw [hput] at hp
  · cases h
    exact hp
  · split at h <;> cases h
    rename_i hren
    rw [rename_err hren]
    exact hp

/-! ### the store invariant -/

/-- the manifest `m` is backed by the store: every listed segment is a complete object with an
    id below `next`; no checkpoint (workloads of push / flush / compact never create one) -/
def Backed (st : Store) (m : Manifest) : Prop :=
  (∀ s ∈ m.segments, s.id < m.next ∧ ∃ ds, NMap.get st (segName s.id) = some (.segment ds)) ∧
  m.checkpoint = none

def StoreInv (st : Store) : Prop :=
  NMap.get st manifestName = none ∨ ∃ m, NMap.get st manifestName = some (.manifest m) ∧ Backed st m

theorem backed_new (st : Store) (rid : Nat) : Backed st (Manifest.new rid) := by
  refine ⟨?_, rfl⟩
  intro s hs
  cases hs

theorem backed_congr {st st' : Store} {m : Manifest}
    (h : ∀ s ∈ m.segments, NMap.get st' (segName s.id) = NMap.get st (segName s.id))
    (hb : Backed st m) : Backed st' m := by
  refine ⟨?_, hb.2⟩
  intro s hs
  obtain ⟨h1, ds, h2⟩ := hb.1 s hs
  exact ⟨h1, ds, by rw [h s hs]; exact h2⟩

theorem storeInv_congr {st st' : Store} (hm : NMap.get st' manifestName = NMap.get st manifestName)
    (hs : ∀ m, NMap.get st manifestName = some (.manifest m) →
      ∀ s ∈ m.segments, NMap.get st' (segName s.id) = NMap.get st (segName s.id))
    (h : StoreInv st) : StoreInv st' := by
  rcases h with h | ⟨m, h1, h2⟩
  · exact Or.inl (by rw [hm]; exact h)
  · exact Or.inr ⟨m, by rw [hm]; exact h1, backed_congr (hs m h1) h2⟩

theorem backed_of_load {F : Oracle} {w w1 : World} {rid : Nat} {m : Manifest}
    (hinv : StoreInv w.store) (h : loadOrCreate F w rid = (w1, some m)) : Backed w.store m := by
  rcases loadOrCreate_some h with h1 | ⟨_, h2⟩
  · rcases hinv with h0 | ⟨m', h3, h4⟩
    · rw [h0] at h1; cases h1
    · rw [h3] at h1
      cases h1
      exact h4
  · subst h2
    exact backed_new _ _

theorem storeInv_of_save {F : Oracle} {w w' : World} {m : Manifest}
    (h : saveManifest F w m = (w', true)) (hb : Backed w.store m) : StoreInv w'.store :=
  Or.inr ⟨m, (saveManifest_true h).1, backed_congr (fun s _ => saveManifest_true_seg h s.id) hb⟩

/-- the manifest recovery reads -/
def manifestOf (st : Store) (rid : Nat) : Manifest :=
  match NMap.get st manifestName with
  | some (.manifest m) => m
  | _ => Manifest.new rid

/-- the listed content: deltas of every listed segment -/
def content (st : Store) : List Delta := segDeltas st (manifestOf st 0).segments

theorem manifestOf_segments (st : Store) (rid : Nat) :
    (manifestOf st rid).segments = (manifestOf st 0).segments := by
  unfold manifestOf
  split <;> rfl

theorem recover_of_storeInv {st : Store} (h : StoreInv st) (rid : Nat) :
    ∃ r, recover st rid = .ok r ∧ r.chk = none ∧ ∀ d, d ∈ r.updates ↔ d ∈ content st := by
  obtain ⟨m, hm, hb, hsegs⟩ : ∃ m, (NMap.get st manifestName = none ∧ m = Manifest.new rid ∨
      NMap.get st manifestName = some (.manifest m)) ∧ Backed st m ∧ (manifestOf st 0).segments = m.segments := by
    unfold manifestOf
    rcases h with h | ⟨m, h1, h2⟩
    · exact ⟨_, Or.inl ⟨h, rfl⟩, backed_new st rid, by rw [h]; rfl⟩
    · exact ⟨m, Or.inr h1, h2, by rw [h1]⟩
  have hall : ∀ s, s ∈ segmentsToLoad m ↔ s ∈ m.segments := by
    intro s
    unfold segmentsToLoad
    rw [mem_sortBy, hb.2]
  obtain ⟨ds, hds⟩ := loadSegments_ok_iff.mpr (fun s hs => (hb.1 s ((hall s).mp hs)).2)
  refine ⟨{ manifest := m, chk := none, deltas := ds }, ?_, rfl, fun d => ?_⟩
  · unfold recover
    rcases hm with ⟨hm, rfl⟩ | hm <;> rw [hm] <;> simp only [hb.2, hds]
  · show d ∈ [] ++ ds ↔ _
    rw [List.nil_append, loadSegments_ok hds]
    unfold content
    rw [hsegs]
    exact mem_segDeltas_congr hall d

theorem recover_ok_of_storeInv {st : Store} (h : StoreInv st) (rid : Nat) : ∃ r, recover st rid = .ok r :=
  (recover_of_storeInv h rid).imp fun _ h => h.1

theorem refsComplete_of_storeInv {st : Store} (h : StoreInv st) : refsComplete st = true := by
  unfold refsComplete
  rcases h with h | ⟨m, h1, h2⟩
  · rw [h]
  · rw [h1]
    simp only [h2.2, Bool.and_true, List.all_eq_true]
    intro s hs
    obtain ⟨_, ds, hg⟩ := h2.1 s hs
    rw [hg]

/-! ### frame: changes at unreferenced names are invisible -/

/-- `n` is neither the manifest nor a listed segment -/
def Unref (st : Store) (n : Nat) : Prop :=
  n ≠ manifestName ∧
    ∀ m, NMap.get st manifestName = some (.manifest m) → ∀ s ∈ m.segments, n ≠ segName s.id

theorem unref_tmp (st : Store) : Unref st tmpName :=
  ⟨tmp_ne_manifest, fun _ _ s _ h => segName_ne_tmp s.id h.symm⟩

theorem unref_fresh {F : Oracle} {w w1 : World} {rid : Nat} {m : Manifest}
    (hinv : StoreInv w.store) (h : loadOrCreate F w rid = (w1, some m)) {k : Nat} (hk : m.next ≤ k) :
    Unref w.store (segName k) := by
  refine ⟨segName_ne_manifest k, ?_⟩
  intro m' hm' s hs heq
  have hkid := segName_inj heq
  rcases loadOrCreate_some h with h1 | ⟨h2, _⟩
  · rw [h1] at hm'
    cases hm'
    have := ((backed_of_load hinv h).1 s hs).1
    omega
  · rw [h2] at hm'; cases hm'

theorem segDeltas_congr {st st' : Store} {l : List SegInfo}
    (h : ∀ s ∈ l, NMap.get st' (segName s.id) = NMap.get st (segName s.id)) :
    segDeltas st' l = segDeltas st l := by
  induction l with
  | nil => rfl
  | cons s l ih =>
    simp only [segDeltas, List.flatMap_cons]
    rw [h s (by simp)]
    have := ih (fun t ht => h t (by simp [ht]))
    simp only [segDeltas] at this
    rw [this]

theorem manifestOf_congr {st st' : Store}
    (h : NMap.get st' manifestName = NMap.get st manifestName) (rid : Nat) :
    manifestOf st' rid = manifestOf st rid := by
  unfold manifestOf
  rw [h]

theorem frame {X : Nat → Prop} {st st' : Store} (ha : Agree X st st')
    (hx : ∀ n, X n → Unref st n) (hinv : StoreInv st) :
    StoreInv st' ∧ content st' = content st := by
  have hm : NMap.get st' manifestName = NMap.get st manifestName :=
    ha manifestName (fun h => (hx _ h).1 rfl)
  have hs : ∀ m, NMap.get st manifestName = some (.manifest m) →
      ∀ s ∈ m.segments, NMap.get st' (segName s.id) = NMap.get st (segName s.id) := by
    intro m hm' s hs
    exact ha _ (fun h => (hx _ h).2 m hm' s hs rfl)
  refine ⟨storeInv_congr hm hs hinv, ?_⟩
  unfold content
  rw [manifestOf_congr hm]
  apply segDeltas_congr
  intro s hs'
  unfold manifestOf at hs'
  split at hs'
  · rename_i m hg
    exact hs m hg s hs'
  · simp [Manifest.new] at hs'

theorem segments_of_load {F : Oracle} {w w1 : World} {rid : Nat} {m : Manifest}
    (h : loadOrCreate F w rid = (w1, some m)) : (manifestOf w.store 0).segments = m.segments := by
  unfold manifestOf
  rcases loadOrCreate_some h with h1 | ⟨h2, h3⟩
  · rw [h1]
  · rw [h2, h3]; rfl

theorem content_of_manifest {st : Store} {m : Manifest}
    (h : NMap.get st manifestName = some (.manifest m)) : content st = segDeltas st m.segments := by
  unfold content manifestOf
  rw [h]

theorem frame_save_false {F : Oracle} {st : Store} {w2 w3 : World} {n : Nat} {m' : Manifest}
    (hinv : StoreInv st) (hag : Agree (· = n) st w2.store) (hn : Unref st n)
    (hs : saveManifest F w2 m' = (w3, false)) : StoreInv w3.store ∧ content w3.store = content st :=
  frame (Agree.trans (hag.mono (fun _ h => Or.inl h)) ((saveManifest_false hs).mono (fun _ h => Or.inr h)))
    (fun k hk => by
      rcases hk with hk | hk
      · rw [hk]; exact hn
      · rw [hk]; exact unref_tmp _) hinv

/-- the common core of `flush` and of a compacting pass: a segment `put` under the unused id
    `m.next`, then a `save` of a manifest that lists it (`info`) and some old segments (`R`) -/
theorem put_swap_spec {F : Oracle} {st : Store} (hinv : StoreInv st) {m : Manifest} (hback : Backed st m)
    (hfresh : Unref st (segName m.next)) {w2 : World} (hst : w2.store = st) (deltas : List Delta)
    {info : SegInfo} (hid : info.id = m.next) {R : List SegInfo} (hR : ∀ s ∈ R, s ∈ m.segments)
    {m' : Manifest} (hsegs : ∀ s, s ∈ m'.segments ↔ s = info ∨ s ∈ R) (hnext : m'.next = m.next + 1)
    (hchk : m'.checkpoint = none) {w3 : World} {res : Res Unit}
    (hp : w2.put F (segName m.next) (.segment deltas) = (w3, res)) :
    match res with
    | .err _ => StoreInv w3.store ∧ content w3.store = content st
    | .ok _ => ∀ w4 b, saveManifest F w3 m' = (w4, b) →
        StoreInv w4.store ∧
        if b then NMap.get w4.store manifestName = some (.manifest m') ∧
            ∀ d, d ∈ content w4.store ↔ d ∈ deltas ∨ d ∈ segDeltas st R
        else content w4.store = content st := by
  have hag3 := put_agree F w2 (segName m.next) (Obj.segment deltas)
  rw [hp, hst] at hag3
  cases res with
  | err e => exact frame hag3 (fun n hn => by rw [hn]; exact hfresh) hinv
  | ok u =>
    intro w4 b hs
    cases b with
    | false => exact frame_save_false hinv hag3 hfresh hs
    | true =>
      have hold3 : ∀ s ∈ m.segments, NMap.get w3.store (segName s.id) = NMap.get st (segName s.id) := by
        intro s hs'
        refine hag3 _ (fun heq => ?_)
        have := segName_inj heq
        have := (hback.1 s hs').1
        omega
      have hnew3 : NMap.get w3.store (segName m.next) = some (Obj.segment deltas) := by
        rw [put_ok hp, NMap.get_insert]; simp
      have hb3 : Backed w3.store m' := by
        refine ⟨fun s hs' => ?_, hchk⟩
        rcases (hsegs s).mp hs' with h | h
        · subst h
          exact ⟨by omega, deltas, by rw [hid]; exact hnew3⟩
        · obtain ⟨h1, ds, h2⟩ := hback.1 s (hR s h)
          exact ⟨by omega, ds, by rw [hold3 s (hR s h)]; exact h2⟩
      have hman4 := (saveManifest_true hs).1
      refine ⟨storeInv_of_save hs hb3, hman4, fun d => ?_⟩
      have h43 := saveManifest_true_seg hs
      rw [content_of_manifest hman4, mem_segDeltas, mem_segDeltas]
      constructor
      · rintro ⟨s, hs', ds, hg, hd⟩
        rw [h43] at hg
        rcases (hsegs s).mp hs' with h | h
        · rw [h, hid, hnew3] at hg
          cases hg
          exact Or.inl hd
        · exact Or.inr ⟨s, h, ds, by rw [← hold3 s (hR s h)]; exact hg, hd⟩
      · rintro (hd | ⟨s, hs', ds, hg, hd⟩)
        · exact ⟨info, (hsegs _).mpr (Or.inl rfl), deltas, by rw [h43, hid]; exact hnew3, hd⟩
        · exact ⟨s, (hsegs s).mpr (Or.inr hs'), ds, by rw [h43, hold3 s (hR s hs')]; exact hg, hd⟩

/-! ### flush -/

/-- on `Err` the buffer is kept (`restore`, the current tree) or dropped (the pinned commit);
    `.empty` is only returned for an empty buffer -/
theorem flushWith_buffer (restore : Bool) (F : Oracle) (sz : Nat) (w : World) (p : Pers) :
    match (flushWith restore F sz w p).2.2 with
    | .flushed _ _ => (flushWith restore F sz w p).2.1 = { p with buffer := [] }
    | .empty => (flushWith restore F sz w p).2.1 = p ∧ p.buffer = []
    | .error => (flushWith restore F sz w p).2.1 = if restore then p else { p with buffer := [] } := by
  generalize hr : flushWith restore F sz w p = r
  unfold flushWith at hr
  split at hr
  · rename_i hb
    subst hr
    exact ⟨rfl, hb⟩
  · simp only [Manifest.allocate] at hr
    generalize (if restore = true then p else { p with buffer := [] }) = pFail at hr ⊢
    repeat' split at hr
    all_goals subst hr; rfl

/-- a flush moves the whole buffer behind the confirmed updates or leaves both alone -/
theorem acked_buffer_step (fl : Flags) (hr : fl.restoreBuffer = true) (F : Oracle) (s : Sys) (op : Op) :
    (stepWith fl F s op).acked ++ (stepWith fl F s op).p.buffer =
      s.acked ++ s.p.buffer ++ (match op.pushed? with | some d => [d] | none => []) := by
  cases op with
  | push d => simp [stepWith, push, Op.pushed?]
  | compact cfg sz => simp [stepWith, Op.pushed?]
  | flush sz =>
    have hb := flushWith_buffer fl.restoreBuffer F sz s.w s.p
    simp only [stepWith, Op.pushed?, List.append_nil]
    split
    · rename_i w' p' i n heq
      rw [heq] at hb
      simp [show p' = _ from hb]
    · rename_i w' p' out hne heq
      rw [heq, hr] at hb
      cases out with
      | flushed i n => exact absurd rfl (hne i n)
      | empty => rw [show p' = s.p from hb.1]
      | error => rw [show p' = s.p from hb]

theorem acked_buffer_run (fl : Flags) (hr : fl.restoreBuffer = true) (F : Oracle) (s : Sys) (ops : List Op) :
    (runWith fl F s ops).acked ++ (runWith fl F s ops).p.buffer = s.acked ++ s.p.buffer ++ pushes ops := by
  induction ops generalizing s with
  | nil => simp [runWith, pushes]
  | cons o ops ih =>
    show (runWith fl F (stepWith fl F s o) ops).acked ++ (runWith fl F (stepWith fl F s o) ops).p.buffer = _
    rw [ih, acked_buffer_step fl hr]
    cases o <;> simp [pushes, Op.pushed?, List.filterMap_cons]

/-- what a flush does to the listed content, by outcome.  The work is `put_swap_spec` (segment `put`
    under a fresh name, then the manifest swap), instantiated with "add the new segment"; the
    other arms leave the store's listed content alone. -/
theorem flush_spec (restore : Bool) (F : Oracle) (sz : Nat) (w : World) (p : Pers)
    (hinv : StoreInv w.store) :
    StoreInv (flushWith restore F sz w p).1.store ∧
    (match (flushWith restore F sz w p).2.2 with
     | .flushed _ _ =>
        (∀ d, d ∈ content (flushWith restore F sz w p).1.store ↔ d ∈ content w.store ∨ d ∈ p.buffer) ∧
        (flushWith restore F sz w p).2.1.buffer = []
     | .empty =>
        content (flushWith restore F sz w p).1.store = content w.store ∧
        (flushWith restore F sz w p).2.1 = p ∧ p.buffer = []
     | .error =>
        content (flushWith restore F sz w p).1.store = content w.store ∧
        (flushWith restore F sz w p).2.1.buffer = if restore then p.buffer else []) := by
  unfold flushWith
  cases hb : p.buffer with
  | nil => exact ⟨hinv, by simp⟩
  | cons d0 rest =>
    simp only
    cases hl : loadOrCreate F w p.rid with
    | mk w1 om =>
      have hst1 : w1.store = w.store := by
        have := loadOrCreate_store F w p.rid
        rw [hl] at this
        exact this
      cases om with
      | none =>
        simp only [hst1]
        refine ⟨hinv, by first | rfl | trivial, ?_⟩
        cases restore <;> simp [hb]
      | some m =>
        simp only [Manifest.allocate]
        have hback := backed_of_load hinv hl
        have hfresh : Unref w.store (segName m.next) := unref_fresh hinv hl (Nat.le_refl _)
        generalize hinfo : ({ id := m.next, count := (d0 :: rest).length, size := sz, minTs := minTime (d0 :: rest), maxTs := maxTime (d0 :: rest) } : SegInfo) = info
        generalize hm' : Manifest.addSegment { m with next := m.next + 1 } info = m'
        have hcw : content w.store = segDeltas w.store m.segments := by
          unfold content
          rw [segments_of_load hl]
        cases hp : w1.put F (segName m.next) (Obj.segment (d0 :: rest)) with
        | mk w2 res =>
          have key := put_swap_spec (info := info) (m' := m') hinv hback hfresh hst1 (d0 :: rest) (by rw [← hinfo])
            (fun _ h => h) (fun s => by rw [← hm']; exact mem_insertSeg _ m.segments s)
            (by rw [← hm', ← hinfo]; simp only [Manifest.addSegment]; split <;> omega)
            (by rw [← hm']; exact hback.2) hp
          cases res with
          | err e => exact ⟨key.1, key.2, by cases restore <;> simp [hb]⟩
          | ok u =>
            simp only
            cases hs : saveManifest F w2 m' with
            | mk w3 b =>
              have k2 := key w3 b hs
              cases b with
              | false => exact ⟨k2.1, k2.2, by cases restore <;> simp [hb]⟩
              | true =>
                refine ⟨k2.1, fun d => ?_, by simp⟩
                rw [k2.2.2 d, hcw]
                exact or_comm

theorem loadLoop_store (fl : CompactFlags) (F : Oracle) (w : World) (acc : LoadAcc) (l : List SegInfo) :
    (loadLoop fl F w acc l).1.store = w.store := by
  induction l generalizing w acc with
  | nil => rfl
  | cons s rest ih =>
    unfold loadLoop
    split
    · rfl
    · have hg := get_store F w (segName s.id)
      split <;> rename_i heq <;> rw [heq] at hg
      · rw [ih]; exact hg
      · rw [ih]; exact hg
      · split
        · exact hg
        · rw [ih]; exact hg

theorem loadLoop_actually (fl : CompactFlags) (F : Oracle) (w : World) (acc : LoadAcc) (l : List SegInfo) :
    (loadLoop fl F w acc l).2.actually ⊆ acc.actually ++ l := by
  induction l generalizing w acc with
  | nil => simp [loadLoop]
  | cons t rest ih =>
    have skip : acc.actually ++ rest ⊆ acc.actually ++ t :: rest :=
      fun s hs => (List.mem_append.mp hs).elim (List.mem_append_left _) (fun h => List.mem_append_right _ (List.mem_cons_of_mem _ h))
    unfold loadLoop
    repeat' split
    all_goals first
      | exact List.subset_append_left _ _   -- the loop stops (`failed`)
      | exact (ih _ _).trans skip            -- `t` is skipped: its body does not parse
      | exact fun s hs => by simpa [List.append_assoc] using ih _ _ hs   -- `t` is appended: read, or counted missing

theorem mem_selectSegments {cfg : CompactCfg} {m : Manifest} {s : SegInfo}
    (h : s ∈ selectSegments cfg m) : s ∈ m.segments := by
  unfold selectSegments at h
  have := List.mem_of_mem_take h
  rw [mem_sortBy] at this
  exact (List.mem_filter.mp this).1

theorem mem_removeIds {m : Manifest} {ids : List Nat} {s : SegInfo} :
    s ∈ removeIds m ids ↔ s ∈ m.segments ∧ s.id ∉ ids := by
  unfold removeIds
  rw [List.mem_filter]
  simp

theorem deleteAll_agree (F : Oracle) (w : World) (l : List SegInfo) :
    Agree (fun n => ∃ a ∈ l, n = segName a.id) w.store (deleteAll F w l).store := by
  induction l generalizing w with
  | nil => exact Agree.refl _ _
  | cons a rest ih =>
    unfold deleteAll
    have h1 := delete_agree F w (segName a.id)
    have h2 := ih (w.delete F (segName a.id)).1
    exact Agree.trans (h1.mono (fun n hn => ⟨a, by simp, hn⟩))
      (h2.mono (fun n ⟨b, hb, hn⟩ => ⟨b, by simp [hb], hn⟩))

theorem frame_deleteAll (F : Oracle) {w : World} {m' : Manifest} (hinv : StoreInv w.store)
    (hman : NMap.get w.store manifestName = some (.manifest m')) (dels : List SegInfo)
    (hd : ∀ a ∈ dels, ∀ s ∈ m'.segments, s.id ≠ a.id) :
    StoreInv (deleteAll F w dels).store ∧ content (deleteAll F w dels).store = content w.store := by
  refine frame (deleteAll_agree F w dels) ?_ hinv
  rintro n ⟨a, ha, rfl⟩
  refine ⟨segName_ne_manifest _, fun m'' hm'' s hs heq => ?_⟩
  rw [hman] at hm''
  cases hm''
  exact hd a ha s hs (segName_inj heq).symm

/-- Every branch is "maybe a `put` under the fresh name, a `save`, maybe deletes": a failed step
    is invisible, a successful `save` installs a manifest backed by the store it was saved to, and
    the deletes hit only what it does not list. -/
theorem compactFinish_spec (F : Oracle) (cfg : CompactCfg) (sz : Nat) (w2 : World) (m : Manifest) (acc : LoadAcc)
    (hinv : StoreInv w2.store) (hback : Backed w2.store m) (hfresh : Unref w2.store (segName m.next))
    (hact : ∀ s ∈ acc.actually, s ∈ m.segments) :
    StoreInv (compactFinish F cfg sz w2 m acc).1.store ∧
    (content (compactFinish F cfg sz w2 m acc).1.store = content w2.store ∨
      (acc.failed = false ∧ ∀ d, d ∈ content (compactFinish F cfg sz w2 m acc).1.store ↔
        d ∈ keptOf cfg acc.ktd ∨ d ∈ segDeltas w2.store (removeIds m (acc.actually.map (·.id))))) := by
  generalize hr : compactFinish F cfg sz w2 m acc = r
  unfold compactFinish at hr
  simp only at hr
  generalize hR : removeIds m (acc.actually.map (·.id)) = R at hr ⊢
  have hRm : ∀ s ∈ R, s ∈ m.segments := fun s hs => (mem_removeIds.mp (hR ▸ hs)).1
  have hb1 : Backed w2.store { m with segments := R, version := m.version + 1 } :=
    ⟨fun s hs => hback.1 s (hRm s hs), hback.2⟩
  have hdel : ∀ m' : Manifest, (∀ s ∈ m'.segments, s.id = m.next ∨ s ∈ R) →
      ∀ a ∈ acc.actually, ∀ s ∈ m'.segments, s.id ≠ a.id := by
    intro m' hsub a ha s hs heq
    rcases hsub s hs with h | h
    · have := (hback.1 a (hact a ha)).1
      omega
    · exact (mem_removeIds.mp (hR ▸ h)).2 (heq ▸ List.mem_map.mpr ⟨a, ha, rfl⟩)
  have hshrunk : ∀ (w3 : World) (dels : List SegInfo), (∀ a ∈ dels, a ∈ acc.actually) →
      saveManifest F w2 { m with segments := R, version := m.version + 1 } = (w3, true) →
      StoreInv (deleteAll F w3 dels).store ∧
        content (deleteAll F w3 dels).store = segDeltas w2.store R := by
    intro w3 dels hdels hs
    have hfr := frame_deleteAll F (storeInv_of_save hs hb1) (saveManifest_true hs).1 dels
      (fun a ha => hdel _ (fun s hs' => Or.inr hs') a (hdels a ha))
    refine ⟨hfr.1, ?_⟩
    rw [hfr.2, content_of_manifest (saveManifest_true hs).1]
    exact segDeltas_congr (fun s _ => saveManifest_true_seg hs s.id)
  split at hr
  · subst hr
    exact ⟨hinv, Or.inl rfl⟩
  · rename_i hnf
    have hfailed : acc.failed = false := by
      cases h : acc.failed
      · rfl
      · exact absurd h hnf
    split at hr
    · -- only missing segments: clean the manifest
      rename_i hcond
      have hktd : acc.ktd = [] := by
        simp only [Bool.and_eq_true, List.isEmpty_iff] at hcond
        exact hcond.1.2
      split at hr <;> rename_i w3 hs <;> subst hr
      · have := frame_save_false hinv (Agree.refl _ _) (unref_tmp _) hs
        exact ⟨this.1, Or.inl this.2⟩
      · have := hshrunk w3 [] (fun _ h => nomatch h) hs
        refine ⟨this.1, Or.inr ⟨hfailed, fun d => ?_⟩⟩
        rw [show content w3.store = _ from this.2]
        simp [hktd, keptOf]
    · split at hr
      · subst hr
        exact ⟨hinv, Or.inl rfl⟩
      · split at hr
        · -- nothing remains: remove the segments, delete the files
          rename_i hempty
          have hkept : keptOf cfg acc.ktd = [] := by simpa [List.isEmpty_iff] using hempty
          split at hr <;> rename_i w3 hs <;> subst hr
          · have := frame_save_false hinv (Agree.refl _ _) (unref_tmp _) hs
            exact ⟨this.1, Or.inl this.2⟩
          · have := hshrunk w3 acc.actually (fun _ h => h) hs
            refine ⟨this.1, Or.inr ⟨hfailed, fun d => ?_⟩⟩
            rw [this.2]
            simp [hkept]
        · -- write the compacted segment, swap the manifest, delete the inputs
          generalize hdl : sortBy (fun d : Delta => d.2.ts.time) (keptOf cfg acc.ktd) = deltas at hr
          generalize hinfo : ({ id := m.next, count := deltas.length, size := sz, minTs := minTime deltas, maxTs := maxTime deltas } : SegInfo) = info at hr
          have hinfoid : info.id = m.next := by rw [← hinfo]
          generalize hm' : ({ (Manifest.addSegment { m with segments := R } info) with next := m.next + 1 } : Manifest) = m' at hr
          have hsegs' : ∀ s, s ∈ m'.segments ↔ s = info ∨ s ∈ R := by
            intro s; rw [← hm']; exact mem_insertSeg info R s
          split at hr
          · rename_i w3 e hp
            subst hr
            have := put_swap_spec hinv hback hfresh rfl deltas hinfoid hRm hsegs' (by rw [← hm']) (by rw [← hm']; exact hback.2) hp
            exact ⟨this.1, Or.inl this.2⟩
          · rename_i w3 u hp
            have key := put_swap_spec hinv hback hfresh rfl deltas hinfoid hRm hsegs' (by rw [← hm']) (by rw [← hm']; exact hback.2) hp
            split at hr <;> rename_i w4 hs <;> subst hr <;> have k2 := key w4 _ hs
            · exact ⟨k2.1, Or.inl k2.2⟩
            · have hfr := frame_deleteAll F k2.1 k2.2.1 acc.actually
                (hdel m' (fun s hs' => ((hsegs' s).mp hs').imp (fun h => by rw [h]; exact hinfoid) id))
              refine ⟨hfr.1, Or.inr ⟨hfailed, fun d => ?_⟩⟩
              rw [hfr.2, k2.2.2 d, ← hdl, mem_sortBy]

theorem compactWith_phases (fl : CompactFlags) (F : Oracle) (cfg : CompactCfg) (sz : Nat) (w : World) :
    compactWith fl F cfg sz w =
      match compactLoad fl F cfg w with
      | .inl r => r
      | .inr (w2, m, acc) => compactFinish F cfg sz w2 m acc := by
  unfold compactWith compactLoad
  cases loadOrCreate F w 0 with
  | mk w1 om =>
    cases om with
    | none => rfl
    | some m =>
      by_cases hlen : (selectSegments cfg m).length < cfg.minSegs
      · simp only [hlen, if_true]
      · simp only [hlen, if_false]
        rfl

theorem compactLoad_spec (fl : CompactFlags) (F : Oracle) (cfg : CompactCfg) (w : World) :
    match compactLoad fl F cfg w with
    | .inl r => r.1.store = w.store
    | .inr (w2, m, acc) => w2.store = w.store ∧ ∃ w1, loadOrCreate F w 0 = (w1, some m) ∧
        loadLoop fl F w1 LoadAcc.init (selectSegments cfg m) = (w2, acc) := by
  unfold compactLoad
  have hst1 := loadOrCreate_store F w 0
  cases hl : loadOrCreate F w 0 with
  | mk w1 om =>
    rw [hl] at hst1
    cases om with
    | none => exact hst1
    | some m =>
      by_cases hlen : (selectSegments cfg m).length < cfg.minSegs
      · simp only [hlen, if_true]
        exact hst1
      · have hst2 := loadLoop_store fl F w1 LoadAcc.init (selectSegments cfg m)
        cases hll : loadLoop fl F w1 LoadAcc.init (selectSegments cfg m) with
        | mk w2 acc =>
          rw [hll] at hst2
          simp only [hlen, if_false, hll]
          exact ⟨hst2.trans hst1, w1, rfl, hll⟩

/-- a pass leaves the listed content alone or replaces the segments it actually read by what
    `keptOf` keeps of their per-key table: `compactLoad_spec` for the reads (the store is
    unchanged), `compactFinish_spec` for the writes. -/
theorem compact_spec (fl : CompactFlags) (F : Oracle) (cfg : CompactCfg) (sz : Nat) (w : World)
    (hinv : StoreInv w.store) :
    StoreInv (compactWith fl F cfg sz w).1.store ∧
    (content (compactWith fl F cfg sz w).1.store = content w.store ∨
      ∃ w1 m, loadOrCreate F w 0 = (w1, some m) ∧
        (loadLoop fl F w1 LoadAcc.init (selectSegments cfg m)).2.failed = false ∧
        ∀ d, d ∈ content (compactWith fl F cfg sz w).1.store ↔
          d ∈ keptOf cfg (loadLoop fl F w1 LoadAcc.init (selectSegments cfg m)).2.ktd ∨
          d ∈ segDeltas w.store (removeIds m
                ((loadLoop fl F w1 LoadAcc.init (selectSegments cfg m)).2.actually.map (·.id)))) := by
  rw [compactWith_phases]
  have hload := compactLoad_spec fl F cfg w
  cases hc : compactLoad fl F cfg w with
  | inl r =>
    rw [hc] at hload
    simp only at hload ⊢
    exact ⟨hload ▸ hinv, Or.inl (by rw [hload])⟩
  | inr r =>
    obtain ⟨w2, m, acc⟩ := r
    rw [hc] at hload
    obtain ⟨hst2, w1, hl, hll⟩ := hload
    have hact : ∀ s ∈ acc.actually, s ∈ m.segments := by
      intro s hs
      have := loadLoop_actually fl F w1 LoadAcc.init (selectSegments cfg m) (by rw [hll]; exact hs)
      exact mem_selectSegments (by simpa [LoadAcc.init] using this)
    have := compactFinish_spec F cfg sz w2 m acc (hst2 ▸ hinv) (hst2 ▸ backed_of_load hinv hl)
      (hst2 ▸ unref_fresh hinv hl (Nat.le_refl _)) hact
    rw [hst2] at this
    exact ⟨this.1, this.2.imp id (fun h => ⟨w1, m, hl, by rw [hll]; exact h⟩)⟩

/-! ### `needs_compaction` / `compact_if_needed` -/

theorem needsCompaction_store (F : Oracle) (maxSegs : Nat) (w : World) :
    (needsCompaction F maxSegs w).1.store = w.store := by
  unfold needsCompaction
  have := loadOrCreate_store F w 0
  cases h : loadOrCreate F w 0 with
  | mk w1 om =>
    rw [h] at this
    cases om <;> exact this

theorem compactIfNeededWith_cases (fl : CompactFlags) (F : Oracle) (cfg : CompactCfg) (maxSegs sz : Nat) (w : World) :
    (compactIfNeededWith fl F cfg maxSegs sz w).1.store = w.store ∨
    ∃ w1, w1.store = w.store ∧ compactIfNeededWith fl F cfg maxSegs sz w = compactWith fl F cfg sz w1 := by
  unfold compactIfNeededWith
  have hs := needsCompaction_store F maxSegs w
  cases h : needsCompaction F maxSegs w with
  | mk w1 ob =>
    rw [h] at hs
    rcases ob with _ | _ | _
    · exact Or.inl hs
    · exact Or.inl hs
    · exact Or.inr ⟨w1, hs, rfl⟩

theorem storeInv_stepWith (fl : Flags) (F : Oracle) (s : Sys) (op : Op) (h : StoreInv s.w.store) :
    StoreInv (stepWith fl F s op).w.store := by
  cases op with
  | push d => exact h
  | flush sz =>
    have := (flush_spec fl.restoreBuffer F sz s.w s.p h).1
    simp only [stepWith]
    split <;> rename_i heq <;> rw [heq] at this <;> exact this
  | compact cfg sz => exact (compact_spec fl.compact F cfg sz s.w h).1

theorem storeInv_nil : StoreInv ([] : Store) := Or.inl rfl

theorem storeInv_runWith (fl : Flags) (F : Oracle) (rid : Nat) (ops : List Op) :
    StoreInv (runWith fl F (Sys.init [] rid) ops).w.store :=
  TraceInv.run_inv (stepWith fl F) (fun s => StoreInv s.w.store) (storeInv_stepWith fl F) _ storeInv_nil ops

end Stream
end RedisVerif
