import RedisVerif.Model.AENet
import RedisVerif.Lemmas.AntiEntropy
import RedisVerif.Lemmas.FoldACI
import RedisVerif.Lemmas.ListFacts

/-! Lemmas for the session-level anti-entropy theorems (`Props/C18Net.lean`), in the order of the merge lifted to
    optional values (`ACI.opt`, `Lemmas/FoldACI.lean`; an absent key is the least element): merging deltas only grows
    a store and keeps it below any bound the deltas are below; the join of all stores of a network. -/
namespace RedisVerif
namespace AE

/-- `x ≤ y` in the order induced by the merge: merging `x` into `y` changes nothing -/
abbrev ole (x y : Option RV) : Prop := ACI.le (optMerge RV.merge) x y

/-- a store is well formed and every value lies in the carrier `C` of its key -/
def StoreOK (C : Nat → RV → Prop) (s : NMap RV) : Prop :=
  NMap.WF s ∧ ∀ k v, NMap.get s k = some v → C k v

theorem StoreOK.oc {C : Nat → RV → Prop} {s : NMap RV} (h : StoreOK C s) (k : Nat) : ACI.Opt (C k) (NMap.get s k) :=
  fun v hv => h.2 k v hv

/-- `s` is below `t` key by key, in the order of the merge (`ole x y`: merging `x` into `y` changes nothing) -/
def StLe (s t : NMap RV) : Prop := ∀ k, ole (NMap.get s k) (NMap.get t k)

/-- what a delta contributes to key `k` -/
def deltaAt (d : Nat × RV) (k : Nat) : Option RV := if k = d.1 then some d.2 else none

theorem oc_deltaAt {C : Nat → RV → Prop} {d : Nat × RV} (hd : C d.1 d.2) (k : Nat) : ACI.Opt (C k) (deltaAt d k) := by
  unfold deltaAt
  split
  · rename_i hk; exact hk ▸ ACI.opt_some hd
  · exact ACI.opt_none _

theorem get_applyDelta_opt (s : NMap RV) (d : Nat × RV) (k : Nat) :
    NMap.get (applyDelta s d) k = optMerge RV.merge (NMap.get s k) (deltaAt d k) := by
  rw [get_applyDelta, deltaAt]
  by_cases hk : k = d.1
  · rw [if_pos hk, if_pos hk, hk]; cases NMap.get s d.1 <;> rfl
  · rw [if_neg hk, if_neg hk]; cases NMap.get s k <;> rfl

/-- key by key, merging a list of deltas into a store is the fold of the lifted merge over what they contribute -/
theorem get_applyDeltas_fold (s : NMap RV) (ds : List (Nat × RV)) (k : Nat) :
    NMap.get (applyDeltas s ds) k = (ds.map (deltaAt · k)).foldl (optMerge RV.merge) (NMap.get s k) := by
  induction ds generalizing s with
  | nil => rfl
  | cons d ds ih => exact (ih (applyDelta s d)).trans (by rw [get_applyDelta_opt]; rfl)

theorem oc_deltasAt {C : Nat → RV → Prop} {ds : List (Nat × RV)} (hd : ∀ d ∈ ds, C d.1 d.2) (k : Nat) :
    ∀ a ∈ ds.map (deltaAt · k), ACI.Opt (C k) a := fun a ha => by
  obtain ⟨d, hd', rfl⟩ := List.mem_map.mp ha
  exact oc_deltaAt (hd d hd') k

section
variable {C : Nat → RV → Prop} (hC : ∀ k, ACI RV.merge (C k))
include hC

theorem stLe_refl {s : NMap RV} (hs : StoreOK C s) : StLe s s :=
  fun k => (hC k).opt.le_refl (hs.oc k)

theorem stLe_trans {s t u : NMap RV} (hs : StoreOK C s) (ht : StoreOK C t) (hu : StoreOK C u)
    (h1 : StLe s t) (h2 : StLe t u) : StLe s u :=
  fun k => (hC k).opt.le_trans (hs.oc k) (ht.oc k) (hu.oc k) (h1 k) (h2 k)

theorem applyDeltas_ok {s : NMap RV} {ds : List (Nat × RV)} (hs : StoreOK C s) (hd : ∀ d ∈ ds, C d.1 d.2) :
    StoreOK C (applyDeltas s ds) ∧ StLe s (applyDeltas s ds) := by
  refine ⟨⟨wf_applyDeltas ds hs.1, fun k => ?_⟩, fun k => ?_⟩ <;> rw [get_applyDeltas_fold]
  · exact (hC k).opt.fold_closed _ _ (hs.oc k) (oc_deltasAt hd k)
  · exact ((hC k).opt.fold_upper _ _ (hs.oc k) (oc_deltasAt hd k)).1

theorem applyDeltas_below {s : NMap RV} {ds : List (Nat × RV)} (hs : StoreOK C s) (hd : ∀ d ∈ ds, C d.1 d.2)
    {U : Nat → Option RV} (hU : ∀ k, ACI.Opt (C k) (U k)) (hsU : ∀ k, ole (NMap.get s k) (U k))
    (hdU : ∀ d ∈ ds, ole (some d.2) (U d.1)) : ∀ k, ole (NMap.get (applyDeltas s ds) k) (U k) := fun k => by
  rw [get_applyDeltas_fold]
  refine (hC k).opt.fold_least _ _ _ (hs.oc k) (oc_deltasAt hd k) (hU k) (hsU k) fun a ha => ?_
  obtain ⟨d, hd', rfl⟩ := List.mem_map.mp ha
  unfold deltaAt
  split
  · rename_i hk; exact hk ▸ hdU d hd'
  · exact ACI.none_le _ _

theorem storeOK_applyDelta {s : NMap RV} {d : Nat × RV} (hs : StoreOK C s) (hd : C d.1 d.2) :
    StoreOK C (applyDelta s d) :=
  (applyDeltas_ok hC (ds := [d]) hs fun _ h => List.mem_singleton.mp h ▸ hd).1

/-! ## the join of all stores -/

theorem joinAt_oc {nodes : List NetNode} (hn : ∀ nd ∈ nodes, StoreOK C nd.st) (k : Nat) :
    ACI.Opt (C k) ((nodes.map fun nd => NMap.get nd.st k).foldl (optMerge RV.merge) none) := by
  apply (hC k).opt.fold_closed _ _ (ACI.opt_none _)
  intro a ha
  obtain ⟨nd, hnd, rfl⟩ := List.mem_map.mp ha
  exact (hn nd hnd).oc k

theorem joinAt_upper {nodes : List NetNode} (hn : ∀ nd ∈ nodes, StoreOK C nd.st) (k : Nat) :
    ∀ nd ∈ nodes, ole (NMap.get nd.st k) ((nodes.map fun nd => NMap.get nd.st k).foldl (optMerge RV.merge) none) := by
  intro nd hnd
  have := ((hC k).opt.fold_upper (nodes.map fun nd => NMap.get nd.st k) none (ACI.opt_none _)
    (by intro a ha; obtain ⟨nd, hnd, rfl⟩ := List.mem_map.mp ha; exact (hn nd hnd).oc k)).2
  exact this _ (List.mem_map.mpr ⟨nd, hnd, rfl⟩)

theorem joinAt_least {nodes : List NetNode} (hn : ∀ nd ∈ nodes, StoreOK C nd.st) (k : Nat)
    {u : Option RV} (hu : ACI.Opt (C k) u) (h : ∀ nd ∈ nodes, ole (NMap.get nd.st k) u) :
    ole ((nodes.map fun nd => NMap.get nd.st k).foldl (optMerge RV.merge) none) u := by
  apply (hC k).opt.fold_least _ _ _ (ACI.opt_none _) _ hu (ACI.none_le _ u)
  · intro a ha; obtain ⟨nd, hnd, rfl⟩ := List.mem_map.mp ha; exact h nd hnd
  · intro a ha; obtain ⟨nd, hnd, rfl⟩ := List.mem_map.mp ha; exact (hn nd hnd).oc k

end

/-! ## replacing one node -/

theorem mem_of_getElem? {α : Type} {l : List α} {n : Nat} {a : α} (h : l[n]? = some a) : a ∈ l :=
  List.mem_of_getElem? h

theorem mem_putReg {α : Type} {l : List (Nat × α)} {k : Nat} {v : α} {p : Nat × α} (h : p ∈ putReg l k v) :
    p = (k, v) ∨ p ∈ l := by
  unfold putReg at h
  rcases List.mem_cons.mp h with h | h
  · exact Or.inl h
  · exact Or.inr (List.mem_filter.mp h).1

end AE
end RedisVerif
