import RedisVerif.Model.Conn
import RedisVerif.Lemmas.Resp
import RedisVerif.Lemmas.TraceInv

/-
  Helper lemmas for C04 about `Conn.run` (Model/Conn.lean).  On a prefix of a stream of well-formed
  command frames the recognisers of a `DeadCfg` configuration never accept, the generic decoder yields
  exactly the frames, and so `run` is `execAll` whatever the segmentation (`run_wf`); arbitrary bytes
  behind the frames (`run_junk`); what the recognisers accept (`…_spec`) and that nothing crashes
  (`run_no_crash`); the buffer pool (`runConn_eq_run`); the look-alike frames of `HEADER_LEN = 14`.
-/
namespace RedisVerif.Conn
open RedisVerif.Resp

/-- a command: its arguments (the first is the name) -/
abbrev Cmd := List Bytes

def cmdFrame (c : Cmd) : Val := .array (c.map Val.bulk)
def encCmd (c : Cmd) : Bytes := encode2 (cmdFrame c)
/-- the byte stream of a pipeline -/
def stream (cmds : List Cmd) : Bytes := (cmds.map encCmd).flatten

theorem digits_cr (ds x y : Bytes) (d : Nat) (hd : AllDigits ds) (hne : ds ≠ [])
    (h : ds ++ 13 :: x = d :: 13 :: y) : ds = [d] ∧ x = y := by
  cases ds with
  | nil => exact absurd rfl hne
  | cons d1 ds' =>
    simp only [List.cons_append, List.cons.injEq] at h
    obtain ⟨h1, h2⟩ := h
    subst h1
    cases ds' with
    | nil =>
      simp at h2
      exact ⟨rfl, h2⟩
    | cons d2 _ =>
      simp only [List.cons_append, List.cons.injEq] at h2
      have := hd d2 (by simp)
      omega

theorem dec_single (n d : Nat) (h : dec n = [d]) : n + 48 = d := by
  have hv := dec_val n
  have hd := dec_digits n d (by rw [h]; simp)
  rw [h] at hv
  simp [digitsVal, isDigit, hd.1, hd.2] at hv
  omega

theorem encode2List_bulk_cons (a : Bytes) (as : List Bytes) :
    encode2ListS true ((a :: as).map Val.bulk) =
      36 :: (dec a.length ++ 13 :: 10 :: (a ++ 13 :: 10 :: encode2ListS true (as.map Val.bulk))) := by
  simp [encode2ListS, encode2S, crlf]

theorem encCmd_eq (c : Cmd) :
    encCmd c = 42 :: (dec c.length ++ 13 :: 10 :: encode2ListS true (c.map Val.bulk)) := by
  simp [encCmd, cmdFrame, encode2, encode2S, crlf]

theorem exists_two_of_length {α : Type} : ∀ (l : List α), 2 ≤ l.length → ∃ a b t, l = a :: b :: t
  | a :: b :: t, _ => ⟨a, b, t, rfl⟩
  | [_], h => by simp at h
  | [], h => by simp at h

theorem exists_three_of_length {α : Type} : ∀ (l : List α), l.length = 3 → ∃ a b c, l = [a, b, c]
  | [a, b, c], _ => ⟨a, b, c, rfl⟩
  | [], h | [_], h | [_, _], h | _ :: _ :: _ :: _ :: _, h => by simp at h

theorem encCmd_len_pos (c : Cmd) : 1 ≤ (encCmd c).length := by
  rw [encCmd_eq]; simp

theorem frame_shape (c : Cmd) (more t : Bytes) (n0 x1 x2 x3 : Nat) (hn0 : n0 = 50 ∨ n0 = 51)
    (h : encCmd c ++ more = 42 :: n0 :: 13 :: 10 :: 36 :: 51 :: 13 :: 10 :: x1 :: x2 :: x3 :: 13 :: 10 :: t) :
    ∃ d tail, encCmd c = 42 :: n0 :: 13 :: 10 :: 36 :: 51 :: 13 :: 10 :: x1 :: x2 :: x3 :: 13 :: 10 :: 36 :: d :: tail
      ∧ 48 ≤ d ∧ d ≤ 57 := by
  rw [encCmd_eq] at h ⊢
  simp only [List.cons_append, List.append_assoc, List.cons.injEq, true_and] at h
  -- the element count is one digit: there are two or three arguments
  obtain ⟨hL, h⟩ := digits_cr _ _ _ _ (dec_digits c.length) (dec_ne_nil _) h
  obtain ⟨a1, a2, as, rfl⟩ := exists_two_of_length c (by have := dec_single _ _ hL; omega)
  rw [hL]
  rw [encode2List_bulk_cons] at h ⊢
  simp only [List.cons_append, List.append_assoc, List.cons.injEq, true_and] at h
  -- the first argument is three bytes long
  obtain ⟨hl1, h⟩ := digits_cr _ _ _ _ (dec_digits a1.length) (dec_ne_nil _) h
  obtain ⟨y1, y2, y3, rfl⟩ := exists_three_of_length a1 (by have := dec_single _ _ hl1; omega)
  simp only [List.cons_append, List.nil_append, List.cons.injEq, true_and] at h
  obtain ⟨rfl, rfl, rfl, _⟩ := h
  rw [hl1, encode2List_bulk_cons]
  cases hd2 : dec a2.length with
  | nil => exact absurd hd2 (dec_ne_nil _)
  | cons e es => exact ⟨e, _, rfl, dec_digits a2.length e (by rw [hd2]; simp)⟩

theorem startsWith_take (buf hdr : Bytes) (h : startsWith buf hdr = true) :
    buf.take hdr.length = hdr ∧ hdr.length ≤ buf.length := by
  unfold startsWith at h
  rw [List.isPrefixOf_iff_prefix] at h
  obtain ⟨t, ht⟩ := h
  subst ht
  simp

/-- on a buffer that is a prefix of (a well-formed frame followed by anything) a recogniser with
    `HEADER_LEN = 14` either declines or waits — and waits only while the frame is incomplete: byte 14
    of a frame that begins with the header is the first digit of its second length, not `$` -/
theorem recog_dead_aux (buf rest more : Bytes) (c : Cmd) (n0 x1 x2 x3 : Nat) (hn0 : n0 = 50 ∨ n0 = 51)
    (h : buf ++ rest = encCmd c ++ more)
    (hs : startsWith buf [42, n0, 13, 10, 36, 51, 13, 10, x1, x2, x3, 13, 10] = true) :
    15 ≤ (encCmd c).length ∧ (15 ≤ buf.length → ∃ d, (buf.drop 14).head? = some d ∧ d ≠ 36) := by
  obtain ⟨t0, rfl⟩ := List.isPrefixOf_iff_prefix.mp hs
  obtain ⟨d, tail, hshape, hd1, hd2⟩ := frame_shape c more (t0 ++ rest) n0 x1 x2 x3 hn0 (by rw [← h]; simp)
  refine ⟨by rw [hshape]; simp, fun h15 => ⟨d, ?_, by omega⟩⟩
  rw [List.head?_drop, ← List.getElem?_append_left (l₂ := rest) (by omega), h, hshape]
  rfl

/-- the first three tests of a recogniser with `HEADER_LEN = 14`, given what they find on (a prefix of)
    a well-formed frame -/
theorem dead_of_aux {X : Recog} (hdr : Bool) (buf : Bytes) (n : Nat)
    (haux : hdr = true → 15 ≤ n ∧ (15 ≤ buf.length → ∃ d, (buf.drop 14).head? = some d ∧ d ≠ 36)) :
    let r := if ¬ hdr = true then Recog.notFast else if buf.length < 14 + 1 then .needMore
      else if (buf.drop 14).head? ≠ some 36 then .notFast else X
    r = .notFast ∨ (r = .needMore ∧ buf.length < n) := by
  intro r
  cases hdr with
  | false => exact Or.inl rfl
  | true =>
    obtain ⟨h15, hd⟩ := haux rfl
    by_cases hl : buf.length < 14 + 1
    · exact Or.inr ⟨by simp [r, hl], by omega⟩
    · obtain ⟨d, hd, hne⟩ := hd (by omega)
      exact Or.inl (by simp [r, hl, hd, hne])

theorem recogGet_dead (ck : Bool) (buf rest more : Bytes) (c : Cmd) (h : buf ++ rest = encCmd c ++ more) :
    recogGet 14 ck buf = .notFast ∨ (recogGet 14 ck buf = .needMore ∧ buf.length < (encCmd c).length) := by
  unfold recogGet
  refine dead_of_aux _ buf _ fun hs => ?_
  rcases Bool.or_eq_true_iff.mp hs with hs | hs
  · exact recog_dead_aux buf rest more c 50 71 69 84 (Or.inl rfl) h hs
  · exact recog_dead_aux buf rest more c 50 103 101 116 (Or.inl rfl) h hs

theorem recogSet_dead (ck : Bool) (buf rest more : Bytes) (c : Cmd) (h : buf ++ rest = encCmd c ++ more) :
    recogSet 14 ck buf = .notFast ∨ (recogSet 14 ck buf = .needMore ∧ buf.length < (encCmd c).length) := by
  unfold recogSet
  refine dead_of_aux _ buf _ fun hs => ?_
  rcases Bool.or_eq_true_iff.mp hs with hs | hs
  · exact recog_dead_aux buf rest more c 51 83 69 84 (Or.inr rfl) h hs
  · exact recog_dead_aux buf rest more c 51 115 101 116 (Or.inr rfl) h hs

theorem recogGet_nil (ck : Bool) : recogGet 14 ck [] = .notFast := rfl

theorem wfList_bulk (c : Cmd) : Val.wfList codec1 (c.map Val.bulk) = true := by
  induction c with
  | nil => simp [Val.wfList]
  | cons a as ih => simp [Val.wfList, Val.wf, ih]

theorem depthList_bulk (c : Cmd) : Val.depthList (c.map Val.bulk) ≤ 1 := by
  induction c with
  | nil => simp [Val.depthList]
  | cons a as ih => simp [Val.depthList, Val.depth]; omega

theorem arrList_bulk (c : Cmd) : Val.arrList (c.map Val.bulk) = 0 := by
  induction c with
  | nil => simp [Val.arrList]
  | cons a as ih => simp [Val.arrList, Val.arr, ih]

theorem sanList_bulk (c : Cmd) : Val.sanList (c.map Val.bulk) = c.map Val.bulk := by
  induction c with
  | nil => simp [Val.sanList]
  | cons a as ih => simp [Val.sanList, Val.san, ih]

/-- the command's name (first argument) has no non-white-space character -/
def nameWs : Cmd → Bool
  | n :: _ => isWsName n
  | [] => false

/-- a command the handler can take: the decoder has the two stack frames a command frame needs, and
    — unless `check_acl_permission` is guarded (`nameGuard`, after the fix) — its name is not empty
    / white space only -/
def CmdOK (cfg : Config) (c : Cmd) : Prop := 2 ≤ cfg.env.depth ∧ (cfg.nameGuard = true ∨ nameWs c = false)

instance (cfg : Config) (c : Cmd) : Decidable (CmdOK cfg c) := by unfold CmdOK; infer_instance

theorem namePanics_cmdFrame (cfg : Config) (inTx : Bool) (c : Cmd) (h : CmdOK cfg c) :
    namePanics cfg.nameGuard inTx (cmdFrame c) = false := by
  unfold namePanics
  cases h.2 with
  | inl hg => simp [hg]
  | inr hw =>
    cases c with
    | nil => simp [cmdFrame]
    | cons n rest =>
      simp only [nameWs] at hw
      simp [cmdFrame, hw]

theorem san_cmdFrame (c : Cmd) : (cmdFrame c).san = cmdFrame c := by simp [cmdFrame, Val.san, sanList_bulk]

theorem parse1_frame (env : Env) (c : Cmd) (rest : Bytes) (hok : 2 ≤ env.depth)
    (hs : Small (encCmd c ++ rest)) :
    (parse1 env (encCmd c ++ rest)).out = .ok (cmdFrame c) (encCmd c).length := by
  have h := parseD_encode codec1 codec1_good maxNesting codec1_fixed env.mem env.depth 0 (cmdFrame c)
    (by have := depthList_bulk c; simp only [cmdFrame, Val.depth]; omega)
    (by simp [cmdFrame, Val.arr, arrList_bulk, maxNesting])
    (by simp [cmdFrame, Val.wf, wfList_bulk]) rest hs
  rwa [san_cmdFrame] at h

theorem parse1_partial (env : Env) (c : Cmd) (buf ext : Bytes) (hok : 2 ≤ env.depth)
    (h : buf ++ ext = encCmd c) (hlt : buf.length < (encCmd c).length) (hs : Small (encCmd c)) :
    (parse1 env buf).out.isIncomplete = true := by
  cases hd : (parse1 env buf).out.isIncomplete with
  | true => rfl
  | false =>
    exfalso
    have hst := parseD_stable codec1 codec1_good env.mem env.depth 0 buf ext (by rw [h]; exact hs) hd
    have hfull := parse1_frame env c [] hok (by simpa using hs)
    simp only [List.append_nil] at hfull
    unfold parse1 parseG at hfull hd
    rw [← h, hst] at hfull
    have hcons := parseD_consumed codec1 codec1_good env.mem env.depth 0 buf
      (by unfold Small at *; rw [← h] at hs; simp at hs; omega) _ _ hfull
    rw [h] at hcons
    omega

/-- the actions of a well-formed pipeline: every command executed once, in order, on the generic path -/
def execAll (cmds : List Cmd) : List Action := cmds.map (fun c => Action.exec (cmdFrame c) .generic)

/-- the reads of a connection one after the other (the fold of `feedSegs`): state and actions so far -/
def pureFold (cfg : Config) (acc : St × List Action) (chunks : List Bytes) : St × List Action :=
  chunks.foldl (fun (acc : St × List Action) c => let (s', a) := onRead cfg acc.1 c; (s', acc.2 ++ a)) acc

theorem pureFold_cons (cfg : Config) (acc : St × List Action) (c : Bytes) (cs : List Bytes) :
    pureFold cfg acc (c :: cs) = pureFold cfg ((onRead cfg acc.1 c).1, acc.2 ++ (onRead cfg acc.1 c).2) cs := rfl

theorem stream_cons (c : Cmd) (cs : List Cmd) : stream (c :: cs) = encCmd c ++ stream cs := by
  simp [stream]

theorem stream_append (a b : List Cmd) : stream (a ++ b) = stream a ++ stream b := by
  simp [stream]

theorem collectGet_stop (h : Nat) (ck : Bool) (fuel : Nat) (buf : Bytes)
    (hr : recogGet h ck buf = .notFast ∨ recogGet h ck buf = .needMore) : collectGet h ck fuel buf = some ([], buf) := by
  cases fuel with
  | zero => rfl
  | succ f => rw [collectGet]; rcases hr with e | e <;> rw [e]

theorem collectSet_stop (h : Nat) (ck : Bool) (fuel : Nat) (buf : Bytes)
    (hr : recogSet h ck buf = .notFast ∨ recogSet h ck buf = .needMore) : collectSet h ck fuel buf = some ([], buf) := by
  cases fuel with
  | zero => rfl
  | succ f => rw [collectSet]; rcases hr with e | e <;> rw [e]

theorem collectGetR_stop (h fuel : Nat) (buf : Bytes) (hr : recogGetR h buf = .notFast) :
    collectGetR h fuel buf = some ([], buf) := by
  cases fuel with
  | zero => rfl
  | succ f => rw [collectGetR, hr]

theorem collectSetR_stop (h fuel : Nat) (buf : Bytes) (hr : recogSetR h buf = .notFast) :
    collectSetR h fuel buf = some ([], buf) := by
  cases fuel with
  | zero => rfl
  | succ f => rw [collectSetR, hr]

theorem batchGate_of_stop (cfg : Config) (tx : Bool) (fuel : Nat) (buf : Bytes)
    (hg : collectGetC cfg fuel buf = some ([], buf)) (hs : collectSetC cfg fuel buf = some ([], buf)) :
    batchGate cfg tx fuel buf = some ([], buf) := by
  unfold batchGate
  rw [hg]
  simp only []
  rw [hs]
  split
  · split <;> simp [batchActs]
  · rfl

/-- neither recogniser with `HEADER_LEN = 14` takes the front of `buf`, whatever its arithmetic -/
def Dead14 (buf : Bytes) : Prop :=
  ∀ ck, (recogGet 14 ck buf = .notFast ∨ recogGet 14 ck buf = .needMore) ∧
    (recogSet 14 ck buf = .notFast ∨ recogSet 14 ck buf = .needMore)

theorem dead14_frame {buf rest more : Bytes} {c : Cmd} (h : buf ++ rest = encCmd c ++ more) : Dead14 buf :=
  fun ck => ⟨(recogGet_dead ck buf rest more c h).imp_right And.left,
    (recogSet_dead ck buf rest more c h).imp_right And.left⟩

theorem dead14_stream {buf rest : Bytes} {cmds : List Cmd} (h : buf ++ rest = stream cmds) : Dead14 buf := by
  cases cmds with
  | nil =>
    obtain ⟨rfl, _⟩ := List.append_eq_nil_iff.mp h
    exact fun ck => ⟨Or.inl rfl, Or.inl rfl⟩
  | cons c cs => exact dead14_frame (by rwa [stream_cons] at h)

theorem collectGet_dead (ck : Bool) (fuel : Nat) (buf rest : Bytes) (cmds : List Cmd) (h : buf ++ rest = stream cmds) :
    collectGet 14 ck fuel buf = some ([], buf) :=
  collectGet_stop 14 ck fuel buf (dead14_stream h ck).1

theorem collectSet_dead (ck : Bool) (fuel : Nat) (buf rest : Bytes) (cmds : List Cmd) (h : buf ++ rest = stream cmds) :
    collectSet 14 ck fuel buf = some ([], buf) :=
  collectSet_stop 14 ck fuel buf (dead14_stream h ck).2

theorem fastPath_dead (ck : Bool) (inTx : Bool) (buf rest more : Bytes) (c : Cmd) (h : buf ++ rest = encCmd c ++ more) :
    fastPath 14 ck inTx buf = .notFast ∨ (fastPath 14 ck inTx buf = .needMore ∧ buf.length < (encCmd c).length) := by
  unfold fastPath
  split
  · exact Or.inl rfl
  · split
    · exact Or.inl rfl
    · cases recogGet_dead ck buf rest more c h with
      | inl hg =>
        rw [hg]
        exact recogSet_dead ck buf rest more c h
      | inr hg =>
        rw [hg.1]
        exact Or.inr ⟨rfl, hg.2⟩

/-- configurations whose recognisers never take (a prefix of) a well-formed command frame: the code
    before de38a13 (`HEADER_LEN = 14`: off by one, dead for well-formed frames), or — with the repaired
    recognisers and gate — a user WITHOUT unrestricted key access (`user_has_unrestricted_keys()` is
    false: neither the fast path nor the collectors are entered) -/
def DeadCfg (cfg : Config) : Prop :=
  (cfg.repaired = false ∧ cfg.headerLen = 14) ∨ (cfg.repaired = true ∧ cfg.unrestricted = false)

instance (cfg : Config) : Decidable (DeadCfg cfg) := by unfold DeadCfg; infer_instance

theorem DeadCfg.of14 {cfg : Config} (hr : cfg.repaired = false) (h14 : cfg.headerLen = 14) : DeadCfg cfg :=
  Or.inl ⟨hr, h14⟩

theorem fastPathC_nil (cfg : Config) (inTx : Bool) : fastPathC cfg inTx [] = .notFast := by
  unfold fastPathC fastPathR fastPath
  cases cfg.unrestricted <;> cases cfg.repaired <;> cases inTx <;> simp

theorem fastPathC_dead (cfg : Config) (hd : DeadCfg cfg) (inTx : Bool) (buf rest more : Bytes) (c : Cmd)
    (h : buf ++ rest = encCmd c ++ more) :
    fastPathC cfg inTx buf = .notFast ∨ (fastPathC cfg inTx buf = .needMore ∧ buf.length < (encCmd c).length) := by
  unfold fastPathC
  cases hd with
  | inl hd =>
    rw [hd.1, hd.2]
    cases cfg.unrestricted with
    | false => exact Or.inl rfl
    | true => simpa using fastPath_dead cfg.checked inTx buf rest more c h
  | inr hd =>
    rw [hd.2]
    exact Or.inl rfl

theorem batchGate_dead (cfg : Config) (hd : DeadCfg cfg) (tx : Bool) (fuel : Nat) (buf : Bytes) (h : Dead14 buf) :
    batchGate cfg tx fuel buf = some ([], buf) := by
  rcases hd with hd | hd
  · refine batchGate_of_stop cfg tx fuel buf ?_ ?_
    · unfold collectGetC; rw [hd.1, hd.2]; exact collectGet_stop 14 _ fuel buf (h _).1
    · unfold collectSetC; rw [hd.1, hd.2]; exact collectSet_stop 14 _ fuel buf (h _).2
  · unfold batchGate
    simp [hd.1, hd.2]

theorem append_split (a b c d : Bytes) (h : a ++ b = c ++ d) (hl : c.length ≤ a.length) :
    ∃ t, a = c ++ t ∧ d = t ++ b := by
  rw [List.append_eq_append_iff] at h
  cases h with
  | inl h =>
    obtain ⟨a', h1, h2⟩ := h
    have : a' = [] := by
      have := congrArg List.length h1
      simp at this
      cases a' with
      | nil => rfl
      | cons _ _ => simp at this; omega
    subst this
    exact ⟨[], by simpa using h1.symm, by simpa using h2.symm⟩
  | inr h =>
    obtain ⟨c', h1, h2⟩ := h
    exact ⟨c', h1, h2⟩

theorem append_split' (a b c d : Bytes) (h : a ++ b = c ++ d) (hl : a.length < c.length) :
    ∃ t, a ++ t = c := by
  rw [List.append_eq_append_iff] at h
  cases h with
  | inl h =>
    obtain ⟨a', h1, _⟩ := h
    exact ⟨a', h1.symm⟩
  | inr h =>
    obtain ⟨c', h1, _⟩ := h
    have := congrArg List.length h1
    simp at this
    omega

theorem seqLoop_generic (cfg : Config) (f : Nat) (buf : Bytes) (inTx : Bool) (v : Val) (k : Nat)
    (hfp : fastPathC cfg inTx buf = .notFast) (hp : (parseG cfg.codec cfg.env buf).out = .ok v k)
    (hnp : namePanics cfg.nameGuard inTx v = false) :
    seqLoop cfg (f + 1) buf inTx =
      (.exec v .generic :: (seqLoop cfg f (buf.drop k) (txAfter inTx v)).1,
        (seqLoop cfg f (buf.drop k) (txAfter inTx v)).2) := by
  rw [seqLoop, hfp]
  simp only [hp, hnp, Bool.false_eq_true, if_false]

theorem seqLoop_frame (cfg : Config) (h14 : DeadCfg cfg) (hcodec : cfg.codec = codec1) (c : Cmd) (hokc : CmdOK cfg c)
    (f : Nat) (t : Bytes) (inTx : Bool) (hsb : Small (encCmd c ++ t)) :
    seqLoop cfg (f + 1) (encCmd c ++ t) inTx =
      (.exec (cmdFrame c) .generic :: (seqLoop cfg f t (txAfter inTx (cmdFrame c))).1,
        (seqLoop cfg f t (txAfter inTx (cmdFrame c))).2) := by
  have hfp : fastPathC cfg inTx (encCmd c ++ t) = .notFast := by
    rcases fastPathC_dead cfg h14 inTx _ [] t c (List.append_nil _) with hh | hh
    · exact hh
    · have := hh.2; simp at this; omega
  have := seqLoop_generic cfg f (encCmd c ++ t) inTx (cmdFrame c) (encCmd c).length hfp
    (by rw [hcodec]; exact parse1_frame cfg.env c t hokc.1 hsb) (namePanics_cmdFrame cfg inTx c hokc)
  rwa [List.drop_left] at this

theorem seqLoop_partial (cfg : Config) (h14 : DeadCfg cfg) (hcodec : cfg.codec = codec1) (c : Cmd) (hokc : CmdOK cfg c)
    (f : Nat) (buf rest more : Bytes) (inTx : Bool) (h : buf ++ rest = encCmd c ++ more)
    (hlt : buf.length < (encCmd c).length) (hsc : Small (encCmd c)) :
    seqLoop cfg (f + 1) buf inTx = ([], buf, inTx, false) := by
  obtain ⟨ext, hext⟩ := append_split' buf rest (encCmd c) more h hlt
  have hinc : (parseG codec1 cfg.env buf).out.isIncomplete = true :=
    parse1_partial cfg.env c buf ext hokc.1 hext hlt hsc
  rw [seqLoop, hcodec]
  rcases fastPathC_dead cfg h14 inTx buf rest more c h with hh | hh
  · rw [hh]
    cases hout : (parseG codec1 cfg.env buf).out with
    | incomplete k => rfl
    | ok v k => simp [hout, Outcome.isIncomplete] at hinc
    | error k => simp [hout, Outcome.isIncomplete] at hinc
    | crash k => simp [hout, Outcome.isIncomplete] at hinc
  · rw [hh.1]

theorem length_le_stream (cmds : List Cmd) : cmds.length ≤ (stream cmds).length := by
  have : _ ≤ ((cmds.map cmdFrame).map encode2).flatten.length := flatten_len_ge (cmds.map cmdFrame)
  rwa [List.map_map, List.length_map] at this

/-- where a buffer stands in `stream cmds ++ more`: behind the complete frames `done`, holding a proper
    prefix `b'` of the next frame — or, all frames complete, a prefix of `more` -/
theorem stream_cut : ∀ (cmds : List Cmd) (buf rest more : Bytes), buf ++ rest = stream cmds ++ more →
    ∃ done left b', cmds = done ++ left ∧ buf = stream done ++ b' ∧ b' ++ rest = stream left ++ more ∧
      (∀ c cs, left = c :: cs → b'.length < (encCmd c).length)
  | [], buf, rest, more, h => ⟨[], [], buf, rfl, rfl, h, nofun⟩
  | c :: cs, buf, rest, more, h => by
    rw [stream_cons, List.append_assoc] at h
    by_cases hle : (encCmd c).length ≤ buf.length
    · obtain ⟨t, rfl, hrt⟩ := append_split buf rest (encCmd c) (stream cs ++ more) h hle
      obtain ⟨done, left, b', rfl, rfl, e3, e4⟩ := stream_cut cs t rest more hrt.symm
      exact ⟨c :: done, left, b', rfl, by rw [stream_cons, List.append_assoc], e3, e4⟩
    · exact ⟨[], c :: cs, buf, rfl, rfl, by rw [stream_cons, List.append_assoc]; exact h,
        fun c' cs' e => by cases e; omega⟩

theorem seqLoop_frames (cfg : Config) (h14 : DeadCfg cfg) (hcodec : cfg.codec = codec1) :
    ∀ (done : List Cmd) (fuel : Nat) (b' : Bytes) (inTx : Bool),
      Small (stream done ++ b') → (∀ c ∈ done, CmdOK cfg c) →
      ∃ tx', seqLoop cfg (done.length + fuel) (stream done ++ b') inTx =
        (execAll done ++ (seqLoop cfg fuel b' tx').1, (seqLoop cfg fuel b' tx').2)
  | [], fuel, b', inTx, _, _ => ⟨inTx, by rw [List.length_nil, Nat.zero_add]; rfl⟩
  | c :: cs, fuel, b', inTx, hs, hok => by
    rw [stream_cons, List.append_assoc] at hs ⊢
    obtain ⟨tx', ih⟩ := seqLoop_frames cfg h14 hcodec cs fuel b' (txAfter inTx (cmdFrame c))
      (by have := hs.drop (encCmd c).length; rwa [List.drop_left] at this)
      (fun x hx => hok x (List.mem_cons_of_mem _ hx))
    refine ⟨tx', ?_⟩
    rw [List.length_cons, Nat.add_right_comm,
      seqLoop_frame cfg h14 hcodec c (hok c (List.mem_cons_self ..)) _ _ inTx hs, ih]
    rfl

theorem stream_len_le (a b : List Cmd) : (stream b).length ≤ (stream (a ++ b)).length := by
  rw [stream_append]; simp

theorem onRead_of_gate (cfg : Config) (b0 : Bytes) (tx : Bool) (chunk : Bytes) (a : List Action) (b : Bytes)
    (hov : ¬ b0.length + chunk.length > cfg.maxBuffer)
    (hg : batchGate cfg tx ((b0 ++ chunk).length + 1) (b0 ++ chunk) = some (a, b)) :
    onRead cfg ⟨b0, tx, false⟩ chunk =
      (⟨(seqLoop cfg ((b0 ++ chunk).length + 1) b tx).2.1, (seqLoop cfg ((b0 ++ chunk).length + 1) b tx).2.2.1,
        (seqLoop cfg ((b0 ++ chunk).length + 1) b tx).2.2.2⟩, a ++ (seqLoop cfg ((b0 ++ chunk).length + 1) b tx).1) := by
  unfold onRead
  simp only [Bool.false_eq_true, if_false, hov, hg]

theorem onRead_stream (cfg : Config) (h14 : DeadCfg cfg) (hcodec : cfg.codec = codec1)
    (cmds : List Cmd) (b0 ch rest more : Bytes) (tx : Bool)
    (h : (b0 ++ ch) ++ rest = stream cmds ++ more) (hs : Small (stream cmds ++ more))
    (hov : b0.length + ch.length ≤ cfg.maxBuffer) (hok : ∀ c ∈ cmds, CmdOK cfg c)
    (hg : batchGate cfg tx ((b0 ++ ch).length + 1) (b0 ++ ch) = some ([], b0 ++ ch)) :
    ∃ done left b' tx', cmds = done ++ left ∧ b' ++ rest = stream left ++ more ∧
      (∀ c cs, left = c :: cs → b'.length < (encCmd c).length ∧
        onRead cfg ⟨b0, tx, false⟩ ch = (⟨b', tx', false⟩, execAll done)) ∧
      (left = [] → ∃ F, b'.length < F ∧ onRead cfg ⟨b0, tx, false⟩ ch =
        (⟨(seqLoop cfg F b' tx').2.1, (seqLoop cfg F b' tx').2.2.1, (seqLoop cfg F b' tx').2.2.2⟩,
          execAll done ++ (seqLoop cfg F b' tx').1)) := by
  obtain ⟨done, left, b', rfl, e2, e3, e4⟩ := stream_cut cmds (b0 ++ ch) rest more h
  have hlen := length_le_stream done
  have hl2 : (b0 ++ ch).length = (stream done).length + b'.length := by rw [e2, List.length_append]
  obtain ⟨tx', hseq⟩ := seqLoop_frames cfg h14 hcodec done ((b0 ++ ch).length + 1 - done.length) b' tx
    (by rw [← e2, ← h] at *; exact hs.of_append) (fun c hc => hok c (List.mem_append_left _ hc))
  rw [show done.length + ((b0 ++ ch).length + 1 - done.length) = (b0 ++ ch).length + 1 by omega, ← e2] at hseq
  have hon := onRead_of_gate cfg b0 tx ch [] _ (by omega) hg
  rw [hseq] at hon
  refine ⟨done, left, b', tx', rfl, e3, fun c cs e => ⟨e4 c cs e, ?_⟩, fun _ => ⟨_, by omega, hon⟩⟩
  -- a proper prefix of `c` is in front: the loop waits
  subst e
  obtain ⟨F', hF'⟩ : ∃ F', (b0 ++ ch).length + 1 - done.length = F' + 1 := ⟨(b0 ++ ch).length - done.length, by omega⟩
  rw [stream_append, stream_cons] at hs
  rw [hF', seqLoop_partial cfg h14 hcodec c (hok c (by simp)) F' b' rest (stream cs ++ more) tx'
    (by rw [e3, stream_cons, List.append_assoc]) (e4 c cs rfl)
    (by have := hs.drop (stream done).length
        rw [List.append_assoc, List.drop_left, List.append_assoc] at this; exact this.of_append)] at hon
  rw [hon, List.append_nil]
  rfl

theorem onRead_wf (cfg : Config) (h14 : DeadCfg cfg) (hcodec : cfg.codec = codec1) (hdepth : 1 ≤ cfg.env.depth)
    (cmds : List Cmd) (b0 chunk rest : Bytes) (tx : Bool)
    (h : (b0 ++ chunk) ++ rest = stream cmds) (hs : Small (stream cmds))
    (hmx0 : b0.length + chunk.length ≤ cfg.maxBuffer) (hok : ∀ c ∈ cmds, CmdOK cfg c) :
    ∃ (done left : List Cmd) (buf' : Bytes) (tx' : Bool),
      cmds = done ++ left ∧ buf' ++ rest = stream left ∧
      (∀ c cs, left = c :: cs → buf'.length < (encCmd c).length) ∧
      onRead cfg ⟨b0, tx, false⟩ chunk = (⟨buf', tx', false⟩, execAll done) := by
  obtain ⟨done, left, b', tx', rfl, e3, e4, e5⟩ :=
    onRead_stream cfg h14 hcodec cmds b0 chunk rest [] tx (by rw [h, List.append_nil])
      (by rw [List.append_nil]; exact hs) hmx0 hok (batchGate_dead cfg h14 tx _ _ (dead14_stream h))
  rw [List.append_nil] at e3
  refine ⟨done, left, b', tx', rfl, e3, fun c cs e => (e4 c cs e).1, ?_⟩
  cases left with
  | cons c cs => exact (e4 c cs rfl).2
  | nil =>
    -- nothing is left in the buffer: the loop waits
    obtain ⟨F, hF, hon⟩ := e5 rfl
    obtain ⟨rfl, _⟩ := List.append_eq_nil_iff.mp e3
    obtain ⟨F', rfl⟩ : ∃ F', F = F' + 1 := ⟨F - 1, by omega⟩
    rw [hon, seqLoop, hcodec]
    simp only [fastPathC_nil cfg tx', parseG_empty codec1 cfg.env hdepth, List.append_nil]

/-- why no read of `chunks` trips the overflow guard while the buffer holds less than one frame of
    `cmds`: the whole pipeline fits below `max_buffer_size`, or every frame leaves `read_size - 1` bytes of
    room there and no read brings more than `read_size` bytes -/
def Room (cfg : Config) (cmds : List Cmd) (chunks : List Bytes) : Prop :=
  (stream cmds).length ≤ cfg.maxBuffer ∨
    ((∀ c ∈ cmds, (encCmd c).length + cfg.readSize ≤ cfg.maxBuffer + 1) ∧ ∀ ch ∈ chunks, ch.length ≤ cfg.readSize)

theorem Room.read {cfg : Config} {cmds : List Cmd} {ch : Bytes} {chunks : List Bytes} {b0 rest : Bytes}
    (hr : Room cfg cmds (ch :: chunks)) (h : (b0 ++ ch) ++ rest = stream cmds)
    (hb : ∀ c cs, cmds = c :: cs → b0.length < (encCmd c).length) : b0.length + ch.length ≤ cfg.maxBuffer := by
  have hl := congrArg List.length h
  simp only [List.length_append] at hl
  rcases hr with hr | ⟨hfr, hch⟩
  · omega
  · cases cmds with
    | nil => rw [show stream [] = [] from rfl, List.length_nil] at hl; omega
    | cons c cs =>
      have h1 := hb c cs rfl
      have h2 := hfr c (by simp)
      have h3 := hch ch (by simp)
      omega

theorem Room.tail {cfg : Config} {done left : List Cmd} {ch : Bytes} {chunks : List Bytes}
    (hr : Room cfg (done ++ left) (ch :: chunks)) : Room cfg left chunks := by
  rcases hr with hr | ⟨hfr, hch⟩
  · exact Or.inl (Nat.le_trans (stream_len_le done left) hr)
  · exact Or.inr ⟨fun c hc => hfr c (by simp [hc]), fun x hx => hch x (by simp [hx])⟩

theorem reads_wf_room (cfg : Config) (h14 : DeadCfg cfg) (hcodec : cfg.codec = codec1) (hdepth : 1 ≤ cfg.env.depth) :
    ∀ (chunks : List Bytes) (cmds : List Cmd) (b0 rest : Bytes) (tx : Bool) (acts : List Action),
      (b0 ++ chunks.flatten) ++ rest = stream cmds → Small (stream cmds) → Room cfg cmds chunks →
      (∀ c ∈ cmds, CmdOK cfg c) →
      (∀ c cs, cmds = c :: cs → b0.length < (encCmd c).length) →
      ∃ (done left : List Cmd) (buf' : Bytes) (tx' : Bool),
        cmds = done ++ left ∧ buf' ++ rest = stream left ∧
        (∀ c cs, left = c :: cs → buf'.length < (encCmd c).length) ∧
        pureFold cfg (⟨b0, tx, false⟩, acts) chunks
          = (⟨buf', tx', false⟩, acts ++ execAll done) := by
  intro chunks
  induction chunks with
  | nil =>
    intro cmds b0 rest tx acts h _ _ _ hb
    exact ⟨[], cmds, b0, tx, rfl, by simpa using h, hb, by simp [execAll, pureFold]⟩
  | cons ch chunks ih =>
    intro cmds b0 rest tx acts h hs hroom hok hb
    have h' : (b0 ++ ch) ++ (chunks.flatten ++ rest) = stream cmds := by
      simpa [List.append_assoc] using h
    obtain ⟨done, left, buf', tx', e1, e3, e4, e5⟩ :=
      onRead_wf cfg h14 hcodec hdepth cmds b0 ch (chunks.flatten ++ rest) tx h' hs (hroom.read h' hb) hok
    subst e1
    have hsl : Small (stream left) := by
      have := stream_len_le done left
      unfold Small at *
      omega
    obtain ⟨done2, left2, buf2, tx2, rfl, f3, f4, f5⟩ :=
      ih left buf' rest tx' (acts ++ execAll done) (by simpa [List.append_assoc] using e3) hsl hroom.tail
        (fun c hc => hok c (by simp [hc])) e4
    refine ⟨done ++ done2, left2, buf2, tx2, by simp, f3, f4, ?_⟩
    rw [pureFold_cons, e5, f5]
    simp [execAll]

/-- every `read()` of every segmentation of a PREFIX of the stream (`rest` is still to come): exactly
    the commands that are complete in what has arrived have been executed, the buffer holds a proper
    prefix of the next frame -/
theorem reads_wf_prefix (cfg : Config) (h14 : DeadCfg cfg) (hcodec : cfg.codec = codec1) (hdepth : 1 ≤ cfg.env.depth) :
    ∀ (chunks : List Bytes) (cmds : List Cmd) (b0 rest : Bytes) (tx : Bool) (acts : List Action),
      (b0 ++ chunks.flatten) ++ rest = stream cmds → Small (stream cmds) → (stream cmds).length ≤ cfg.maxBuffer →
      (∀ c ∈ cmds, CmdOK cfg c) →
      (∀ c cs, cmds = c :: cs → b0.length < (encCmd c).length) →
      ∃ (done left : List Cmd) (buf' : Bytes) (tx' : Bool),
        cmds = done ++ left ∧ buf' ++ rest = stream left ∧
        (∀ c cs, left = c :: cs → buf'.length < (encCmd c).length) ∧
        chunks.foldl (fun (acc : St × List Action) c =>
          let (s', a) := onRead cfg acc.1 c; (s', acc.2 ++ a)) (⟨b0, tx, false⟩, acts)
          = (⟨buf', tx', false⟩, acts ++ execAll done) :=
  fun chunks cmds b0 rest tx acts h hs hmax => reads_wf_room cfg h14 hcodec hdepth chunks cmds b0 rest tx acts h hs (Or.inl hmax)

theorem reads_wf (cfg : Config) (h14 : DeadCfg cfg) (hcodec : cfg.codec = codec1) (hdepth : 1 ≤ cfg.env.depth)
    (chunks : List Bytes) (cmds : List Cmd) (b0 : Bytes) (tx : Bool) (acts : List Action)
    (h : b0 ++ chunks.flatten = stream cmds) (hs : Small (stream cmds)) (hroom : Room cfg cmds chunks)
    (hok : ∀ c ∈ cmds, CmdOK cfg c) (hb : ∀ c cs, cmds = c :: cs → b0.length < (encCmd c).length) :
    (pureFold cfg (⟨b0, tx, false⟩, acts) chunks).2
      = acts ++ execAll cmds := by
  obtain ⟨done, left, buf', tx', e1, e3, e4, e5⟩ :=
    reads_wf_room cfg h14 hcodec hdepth chunks cmds b0 [] tx acts (by simpa using h) hs hroom hok hb
  -- nothing is left: the buffer would hold a whole frame and less than one
  cases left with
  | nil => rw [e5, e1, List.append_nil]
  | cons c cs =>
    have := e4 c cs rfl
    rw [List.append_nil] at e3
    rw [e3, stream_cons] at this
    simp at this
    omega

theorem splitReads_flatten (n : Nat) : ∀ (f : Nat) (seg : Bytes), (splitReads n f seg).flatten = seg := by
  intro f
  induction f with
  | zero => intro seg; simp [splitReads]
  | succ f ih =>
    intro seg
    unfold splitReads
    split
    · simp
    · simp [ih]

theorem flatMap_splitReads_flatten (n : Nat) (segs : List Bytes) :
    (segs.flatMap (fun s => splitReads n s.length s)).flatten = segs.flatten := by
  induction segs with
  | nil => simp
  | cons s ss ih => simp [List.flatMap_cons, splitReads_flatten, ih]

theorem run_wf_room (cfg : Config) (h14 : DeadCfg cfg) (hcodec : cfg.codec = codec1) (hdepth : 1 ≤ cfg.env.depth)
    (cmds : List Cmd) (segs : List Bytes) (h : segs.flatten = stream cmds) (hs : Small (stream cmds))
    (hroom : Room cfg cmds (segs.flatMap (fun s => splitReads cfg.readSize s.length s)))
    (hok : ∀ c ∈ cmds, CmdOK cfg c) :
    run cfg segs = execAll cmds := by
  unfold run feedSegs St.init
  have := reads_wf cfg h14 hcodec hdepth (segs.flatMap (fun s => splitReads cfg.readSize s.length s)) cmds [] false []
    (by simp [flatMap_splitReads_flatten, h]) hs hroom hok
    (by intro c cs _; have := encCmd_len_pos c; simp; omega)
  simpa [pureFold] using this

/-- whatever the segmentation, the read size and the batching configuration,
    a connection that receives a well-formed pipeline executes every command exactly once, in
    order, on the generic path -/
theorem run_wf (cfg : Config) (h14 : DeadCfg cfg) (hcodec : cfg.codec = codec1) (hdepth : 1 ≤ cfg.env.depth)
    (cmds : List Cmd) (segs : List Bytes) (h : segs.flatten = stream cmds)
    (hs : Small (stream cmds)) (hmax : (stream cmds).length ≤ cfg.maxBuffer)
    (hok : ∀ c ∈ cmds, CmdOK cfg c) :
    run cfg segs = execAll cmds :=
  run_wf_room cfg h14 hcodec hdepth cmds segs h hs (Or.inl hmax) hok

/-! ### the overflow guard: frames that leave `read_size - 1` bytes of room never trip it -/

theorem splitReads_len (n : Nat) (hn : 1 ≤ n) : ∀ (f : Nat) (seg : Bytes), seg.length ≤ f →
    ∀ ch ∈ splitReads n f seg, ch.length ≤ n := by
  intro f
  induction f with
  | zero => intro seg h ch hc; simp [splitReads] at hc; subst hc; omega
  | succ f ih =>
    intro seg h ch hc
    unfold splitReads at hc
    split at hc
    · rename_i hle
      simp at hc
      subst hc
      omega
    · rename_i hle
      simp at hc
      cases hc with
      | inl e => subst e; simp; omega
      | inr e => exact ih (seg.drop n) (by simp; omega) ch e

/-- a pipeline of any length whose every frame satisfies
    `|frame| + read_size ≤ max_buffer_size + 1` is executed completely, for every segmentation -/
theorem run_wf_frames (cfg : Config) (h14 : DeadCfg cfg) (hcodec : cfg.codec = codec1) (hdepth : 1 ≤ cfg.env.depth)
    (hrs : 1 ≤ cfg.readSize)
    (cmds : List Cmd) (segs : List Bytes) (h : segs.flatten = stream cmds)
    (hs : Small (stream cmds)) (hfr : ∀ c ∈ cmds, (encCmd c).length + cfg.readSize ≤ cfg.maxBuffer + 1)
    (hok : ∀ c ∈ cmds, CmdOK cfg c) :
    run cfg segs = execAll cmds := by
  refine run_wf_room cfg h14 hcodec hdepth cmds segs h hs (Or.inr ⟨hfr, fun ch hc => ?_⟩) hok
  obtain ⟨s, _, hcs⟩ := List.mem_flatMap.1 hc
  exact splitReads_len cfg.readSize hrs s.length s (Nat.le_refl _) ch hcs

/-! ### arbitrary bytes after a well-formed pipeline: the earlier commands are unaffected -/

theorem reads_append (cfg : Config) (chunks : List Bytes) (st : St) (acts : List Action) :
    ∃ tail, (pureFold cfg (st, acts) chunks).2 = acts ++ tail :=
  TraceInv.run_inv _ (fun a => ∃ tail, a.2 = acts ++ tail)
    (fun a c ⟨tail, h⟩ => ⟨tail ++ (onRead cfg a.1 c).2, by rw [← List.append_assoc, ← h]⟩)
    (st, acts) ⟨[], (List.append_nil _).symm⟩ chunks

theorem reads_junk (cfg : Config) (h14 : DeadCfg cfg) (hcodec : cfg.codec = codec1) (junk : Bytes) :
    ∀ (chunks : List Bytes) (cmds : List Cmd) (b0 : Bytes) (tx : Bool) (acts : List Action),
      b0 ++ chunks.flatten = stream cmds ++ junk → Small (stream cmds ++ junk) →
      (stream cmds ++ junk).length ≤ cfg.maxBuffer → (∀ c ∈ cmds, CmdOK cfg c) →
      (∀ c cs, cmds = c :: cs → b0.length < (encCmd c).length) →
      ∃ tail, (pureFold cfg (⟨b0, tx, false⟩, acts) chunks).2
        = acts ++ execAll cmds ++ tail := by
  intro chunks
  induction chunks with
  | nil =>
    intro cmds b0 tx acts h _ _ _ hb
    cases cmds with
    | nil => exact ⟨[], by simp [execAll, pureFold]⟩
    | cons c cs =>
      have := hb c cs rfl
      rw [List.flatten_nil, List.append_nil] at h
      rw [h, stream_cons] at this
      simp at this
      omega
  | cons ch chunks ih =>
    intro cmds b0 tx acts h hs hmax hok hb
    cases cmds with
    | nil =>
      obtain ⟨tail, ht⟩ := reads_append cfg (ch :: chunks) ⟨b0, tx, false⟩ acts
      exact ⟨tail, by rw [ht]; simp [execAll]⟩
    | cons c cs =>
      rw [List.flatten_cons, ← List.append_assoc] at h
      have hlen := congrArg List.length h
      simp only [List.length_append] at hlen hmax
      obtain ⟨done, left, b', tx', e1, e3, e4, e5⟩ :=
        onRead_stream cfg h14 hcodec (c :: cs) b0 ch chunks.flatten junk tx h hs (by omega) hok
          (batchGate_dead cfg h14 tx _ _ (dead14_frame (by rw [h, stream_cons, List.append_assoc])))
      rw [pureFold_cons]
      cases left with
      | nil =>
        -- every command is complete: whatever the junk causes comes behind
        obtain ⟨F, _, hon⟩ := e5 rfl
        rw [hon]
        obtain ⟨tail2, ht2⟩ := reads_append cfg chunks _ (acts ++ (execAll done ++ (seqLoop cfg F b' tx').1))
        rw [List.append_nil] at e1
        exact ⟨(seqLoop cfg F b' tx').1 ++ tail2, by rw [ht2, e1]; simp only [List.append_assoc]⟩
      | cons c' cs' =>
        obtain ⟨hlt, hon⟩ := e4 c' cs' rfl
        have hl := stream_len_le done (c' :: cs')
        rw [← e1] at hl
        obtain ⟨tail, ht⟩ := ih (c' :: cs') b' tx' (acts ++ execAll done) e3
          (by unfold Small at *; simp only [List.length_append] at hs ⊢; omega)
          (by simp only [List.length_append]; omega)
          (fun x hx => hok x (by rw [e1]; exact List.mem_append_right _ hx)) (fun _ _ e => by cases e; exact hlt)
        exact ⟨tail, by rw [hon, ht, e1]; simp [execAll]⟩

/-- whatever follows a well-formed pipeline — garbage, truncated frames, frames that make the
    recognisers or the decoder panic — and however everything is segmented: the commands of the
    pipeline are executed exactly once, in order, before anything else happens -/
theorem run_junk (cfg : Config) (h14 : DeadCfg cfg) (hcodec : cfg.codec = codec1)
    (cmds : List Cmd) (junk : Bytes) (segs : List Bytes) (h : segs.flatten = stream cmds ++ junk)
    (hs : Small (stream cmds ++ junk)) (hmax : (stream cmds ++ junk).length ≤ cfg.maxBuffer)
    (hok : ∀ c ∈ cmds, CmdOK cfg c) :
    ∃ tail, run cfg segs = execAll cmds ++ tail := by
  unfold run feedSegs St.init
  obtain ⟨tail, ht⟩ := reads_junk cfg h14 hcodec junk (segs.flatMap (fun s => splitReads cfg.readSize s.length s)) cmds [] false []
    (by simp [flatMap_splitReads_flatten, h]) hs hmax hok
    (by intro c cs _; have := encCmd_len_pos c; simp; omega)
  exact ⟨tail, by simpa [pureFold] using ht⟩

/-! ### what the recognisers take; no panic once their arithmetic is checked -/

theorem addU2_true (a b : Nat) :
    (addU true a b).bind (fun e => addU true e 2) = if a + b + 2 < W then some (a + b + 2) else none := by
  unfold addU
  by_cases h : a + b + 2 < W
  · have : a + b < W := by omega
    simp [h, this]
  · by_cases h' : a + b < W <;> simp [h, h']

theorem addU2p_true (a b : Nat) :
    (addU true a b).bind (fun e => (addU true e 2).map (fun v => (e, v))) =
      if a + b + 2 < W then some (a + b, a + b + 2) else none := by
  unfold addU
  by_cases h : a + b + 2 < W
  · have : a + b < W := by omega
    simp [h, this]
  · by_cases h' : a + b < W <;> simp [h, h']

theorem slice_some (buf : Bytes) (a b : Nat) (h1 : a ≤ b) (h2 : b ≤ buf.length) :
    slice buf a b = some ((buf.take b).drop a) := by
  unfold slice
  have : ¬ (a > b ∨ b > buf.length) := by omega
  simp [this]

theorem memchrCR_append (a b : Bytes) (h : 13 ∉ a) : memchrCR (a ++ 13 :: b) = some a.length := by
  induction a with
  | nil => simp [memchrCR]
  | cons x xs ih =>
    simp at h
    simp only [List.cons_append, memchrCR]
    rw [if_neg (fun e => h.1 e.symm), ih h.2]
    simp

theorem memchrCR_some : ∀ (s : Bytes) (r : Nat), memchrCR s = some r →
    s = s.take r ++ 13 :: s.drop (r + 1) ∧ 13 ∉ s.take r ∧ r < s.length := by
  intro s
  induction s with
  | nil => intro r h; simp [memchrCR] at h
  | cons x xs ih =>
    intro r h
    unfold memchrCR at h
    by_cases hx : x = 13
    · simp [hx] at h
      subst h
      simp [hx]
    · simp only [hx, if_false] at h
      cases hq : memchrCR xs with
      | none => simp [hq] at h
      | some q =>
        simp [hq] at h
        subst h
        obtain ⟨h1, h2, h3⟩ := ih q hq
        refine ⟨?_, ?_, by simp; omega⟩
        · simp only [List.take_succ_cons, List.drop_succ_cons, List.cons_append]
          rw [← h1]
        · simp only [List.take_succ_cons, List.mem_cons, not_or]
          exact ⟨fun e => hx e.symm, h2⟩

theorem drop_cons_of_getElem? (l : Bytes) (i b : Nat) (h : l[i]? = some b) : l.drop i = b :: l.drop (i + 1) := by
  obtain ⟨hi, hb⟩ := List.getElem?_eq_some_iff.mp h
  rw [List.drop_eq_getElem_cons hi, hb]

/-- at offset `p` of `buf`: `$`, a usize `n` written in `r` bytes, CR — the length line of a bulk
    element as every recogniser reads it -/
def LenAt (buf : Bytes) (p r n : Nat) : Prop :=
  buf[p]? = some 36 ∧ memchrCR (buf.drop (p + 1)) = some r ∧ parseUsize ((buf.drop (p + 1)).take r) = some n

/-- … with LF behind the CR, which the repaired recognisers also want -/
def BulkAt (buf : Bytes) (p r n : Nat) : Prop := LenAt buf p r n ∧ buf[p + r + 2]? = some 10

/-- the `n` bytes behind a length line of `r` bytes at `p` -/
def dataAt (buf : Bytes) (p r n : Nat) : Bytes := (buf.take (p + r + 3 + n)).drop (p + r + 3)

/-- a length line found by position, as a list: `$`, the text of the length, CR, the rest -/
theorem LenAt.shape {buf : Bytes} {p r n : Nat} (h : LenAt buf p r n) :
    buf.drop p = 36 :: ((buf.drop (p + 1)).take r ++ 13 :: buf.drop (p + r + 2)) ∧
      13 ∉ (buf.drop (p + 1)).take r ∧ ((buf.drop (p + 1)).take r).length = r ∧ p + r + 2 ≤ buf.length := by
  obtain ⟨h36, hr, _⟩ := h
  obtain ⟨m1, m2, m3⟩ := memchrCR_some _ _ hr
  rw [List.drop_drop, show p + 1 + (r + 1) = p + r + 2 by omega] at m1
  rw [List.length_drop] at m3
  exact ⟨by rw [drop_cons_of_getElem? buf p 36 h36, ← m1], m2, by rw [List.length_take, List.length_drop]; omega, by omega⟩

theorem dataAt_eq (buf : Bytes) (p r n : Nat) (h : p + r + 3 + n ≤ buf.length) :
    buf.drop (p + r + 3) = dataAt buf p r n ++ buf.drop (p + r + 3 + n) ∧ (dataAt buf p r n).length = n := by
  unfold dataAt
  rw [List.drop_take, Nat.add_sub_cancel_left, ← List.drop_drop (i := n), List.take_append_drop, List.length_take,
    List.length_drop]
  exact ⟨rfl, by omega⟩

/-- a GET recogniser with `HEADER_LEN = h` finds what it takes at the front of `buf`: the header, at
    `h` a length line, behind it the key and two more bytes, all of it below 2^64 -/
def TakesGet (h : Nat) (buf : Bytes) (r n : Nat) : Prop :=
  (startsWith buf getHdrU || startsWith buf getHdrL) = true ∧ LenAt buf h r n ∧
    h + r + n + 5 ≤ buf.length ∧ h + r + n + 5 < W

/-- the answers of the GET recogniser with checked arithmetic -/
def GetSpec (h : Nat) (buf : Bytes) (res : Recog) : Prop :=
  res = .notFast ∨ res = .needMore ∨
    ∃ r n, TakesGet h buf r n ∧ res = .get (dataAt buf h r n) (h + r + n + 5)

/-- the answers of the repaired GET recogniser: it never waits, wants LF and a UTF-8 key -/
def GetRSpec (h : Nat) (buf : Bytes) (res : Recog) : Prop :=
  res = .notFast ∨
    ∃ r n, TakesGet h buf r n ∧ buf[h + r + 2]? = some 10 ∧ validUtf8 (dataAt buf h r n) = true ∧
      res = .get (dataAt buf h r n) (h + r + n + 5)

/-- the answers of the repaired SET recogniser: it declines, or the buffer holds the header and two
    bulk elements, the first one valid UTF-8, all of it below 2^64, and that is taken -/
def SetRSpec (h : Nat) (buf : Bytes) (res : Recog) : Prop :=
  res = .notFast ∨
    ∃ r n r' n', (startsWith buf setHdrU || startsWith buf setHdrL) = true ∧
      BulkAt buf h r n ∧ BulkAt buf (h + r + n + 5) r' n' ∧
      h + r + n + 5 + r' + n' + 5 ≤ buf.length ∧ h + r + n + 5 + r' + n' + 5 < W ∧
      validUtf8 (dataAt buf h r n) = true ∧
      res = .set (dataAt buf h r n) (dataAt buf (h + r + n + 5) r' n') (h + r + n + 5 + r' + n' + 5)

/- The four bodies are walked once each, test by test (`of_ite` / `by_cases` / `cases` and a rewrite with
   the outcome: `split` on terms of this size is dearer by two orders of magnitude). -/

theorem of_ite {P : Recog → Prop} {c : Prop} {inst : Decidable c} {a b : Recog} (ha : c → P a) (hb : ¬ c → P b) :
    P (@ite _ c inst a b) := by
  by_cases h : c
  · rw [if_pos h]; exact ha h
  · rw [if_neg h]; exact hb h

theorem recogGet_spec (h : Nat) (buf : Bytes) : GetSpec h buf (recogGet h true buf) := by
  unfold recogGet
  refine of_ite (fun _ => Or.inl rfl) fun hsw => ?_
  refine of_ite (fun _ => Or.inr (Or.inl rfl)) fun hlen => ?_
  simp only [List.head?_drop, List.drop_drop, addU2_true]
  refine of_ite (fun _ => Or.inl rfl) fun h36 => ?_
  cases hr : memchrCR (buf.drop (h + 1)) with
  | none => exact Or.inr (Or.inl rfl)
  | some r =>
  dsimp only
  cases hn : parseUsize ((buf.drop (h + 1)).take r) with
  | none => exact Or.inl rfl
  | some n =>
  dsimp only
  rw [show h + 1 + (r + 1) + 1 + n + 2 = h + r + n + 5 by omega, show h + 1 + (r + 1) + 1 = h + r + 3 by omega]
  by_cases hw : h + r + n + 5 < W
  case neg => rw [if_neg hw]; exact Or.inl rfl
  rw [if_pos hw]
  dsimp only
  refine of_ite (fun _ => Or.inr (Or.inl rfl)) fun hge => ?_
  rw [Nat.mod_eq_of_lt (by omega), slice_some buf _ _ (by omega) (by omega)]
  exact Or.inr (Or.inr ⟨r, n, ⟨Decidable.not_not.mp hsw, ⟨Decidable.not_not.mp h36, hr, hn⟩, by omega, hw⟩, rfl⟩)

theorem recogGet_of_takes (h : Nat) (buf : Bytes) (r n : Nat) (ht : TakesGet h buf r n) :
    recogGet h true buf = .get (dataAt buf h r n) (h + r + n + 5) := by
  obtain ⟨hsw, ⟨h36, hr, hn⟩, hge, hw⟩ := ht
  have hl : ¬ buf.length < h + 1 := by omega
  unfold recogGet
  rw [if_neg (not_not_intro hsw), if_neg hl]
  simp only [List.head?_drop, List.drop_drop, addU2_true]
  rw [if_neg (not_not_intro h36), hr]
  dsimp only
  rw [hn]
  dsimp only
  rw [show h + 1 + (r + 1) + 1 + n + 2 = h + r + n + 5 by omega, show h + 1 + (r + 1) + 1 = h + r + 3 by omega,
    if_pos hw]
  dsimp only
  rw [if_neg (by omega), Nat.mod_eq_of_lt (by omega), slice_some buf _ _ (by omega) (by omega)]
  rfl

theorem recogGetR_spec (h : Nat) (buf : Bytes) : GetRSpec h buf (recogGetR h buf) := by
  unfold recogGetR
  refine of_ite (fun _ => Or.inl rfl) fun hsw => ?_
  refine of_ite (fun _ => Or.inl rfl) fun hlen => ?_
  simp only [List.head?_drop, List.drop_drop, List.getElem?_drop, addU2_true]
  refine of_ite (fun _ => Or.inl rfl) fun h36 => ?_
  cases hr : memchrCR (buf.drop (h + 1)) with
  | none => exact Or.inl rfl
  | some r =>
  dsimp only
  rw [show h + (r + 1 + 1) = h + r + 2 by omega]
  refine of_ite (fun _ => Or.inl rfl) fun hlf => ?_
  cases hn : parseUsize ((buf.drop (h + 1)).take r) with
  | none => exact Or.inl rfl
  | some n =>
  dsimp only
  rw [show h + 1 + (r + 1) + 1 + n + 2 = h + r + n + 5 by omega, show h + 1 + (r + 1) + 1 = h + r + 3 by omega]
  by_cases hw : h + r + n + 5 < W
  case neg => rw [if_neg hw]; exact Or.inl rfl
  rw [if_pos hw]
  dsimp only
  refine of_ite (fun _ => Or.inl rfl) fun hge => ?_
  rw [slice_some buf _ _ (by omega) (by omega)]
  dsimp only
  by_cases hu : validUtf8 (dataAt buf h r n) = true
  case neg => exact Or.inl (if_neg hu)
  exact Or.inr ⟨r, n, ⟨Decidable.not_not.mp hsw, ⟨Decidable.not_not.mp h36, hr, hn⟩, by omega, hw⟩,
    Decidable.not_not.mp hlf, hu, if_pos hu⟩

theorem recogSetR_spec (h : Nat) (buf : Bytes) : SetRSpec h buf (recogSetR h buf) := by
  unfold recogSetR
  refine of_ite (fun _ => Or.inl rfl) fun hsw => ?_
  refine of_ite (fun _ => Or.inl rfl) fun hlen => ?_
  simp only [List.head?_drop, List.drop_drop, List.getElem?_drop, addU2_true, addU2p_true]
  refine of_ite (fun _ => Or.inl rfl) fun h36 => ?_
  cases hr : memchrCR (buf.drop (h + 1)) with
  | none => exact Or.inl rfl
  | some r =>
  dsimp only
  rw [← Nat.add_assoc]
  refine of_ite (fun _ => Or.inl rfl) fun hlf => ?_
  cases hn : parseUsize ((buf.drop (h + 1)).take r) with
  | none => exact Or.inl rfl
  | some n =>
  dsimp only
  by_cases hw : h + 1 + r + 2 + n + 2 < W
  case neg => rw [if_neg hw]; exact Or.inl rfl
  rw [if_pos hw]
  dsimp only
  rw [show h + 1 + r + 2 + n + 2 = h + r + n + 5 by omega] at hw ⊢
  rw [show h + 1 + r + 2 = h + r + 3 by omega]
  -- the second element, at `p`
  generalize hp : h + r + n + 5 = p at hw ⊢
  refine of_ite (fun _ => Or.inl rfl) fun hnm => ?_
  refine of_ite (fun _ => Or.inl rfl) fun hv36 => ?_
  cases hr' : memchrCR (buf.drop (p + 1)) with
  | none => exact Or.inl rfl
  | some r' =>
  dsimp only
  rw [show p + 1 + (r' + 1) = p + r' + 2 by omega]
  refine of_ite (fun _ => Or.inl rfl) fun hlf' => ?_
  cases hn' : parseUsize ((buf.drop (p + 1)).take r') with
  | none => exact Or.inl rfl
  | some n' =>
  dsimp only
  by_cases hw' : p + 1 + r' + 2 + n' + 2 < W
  case neg => rw [if_neg hw']; exact Or.inl rfl
  rw [if_pos hw']
  dsimp only
  refine of_ite (fun _ => Or.inl rfl) fun hge => ?_
  rw [slice_some buf _ _ (by omega) (by omega), slice_some buf _ _ (by omega) (by omega)]
  dsimp only
  rw [show p + 1 + r' + 2 + n' + 2 = p + r' + n' + 5 by omega, show p + 1 + r' + 2 = p + r' + 3 by omega]
  subst hp
  by_cases hu : validUtf8 (dataAt buf h r n) = true
  case neg => exact Or.inl (if_neg hu)
  exact Or.inr ⟨r, n, r', n', Decidable.not_not.mp hsw,
    ⟨⟨Decidable.not_not.mp h36, hr, hn⟩, Decidable.not_not.mp hlf⟩,
    ⟨⟨Decidable.not_not.mp hv36, hr', hn'⟩, Decidable.not_not.mp hlf'⟩, by omega, by omega, hu, if_pos hu⟩

theorem recogSet_no_crash (h : Nat) (buf : Bytes) : recogSet h true buf ≠ .crash := by
  unfold recogSet
  refine of_ite (P := (· ≠ Recog.crash)) (fun _ => nofun) fun hsw => ?_
  refine of_ite (P := (· ≠ Recog.crash)) (fun _ => nofun) fun hlen => ?_
  simp only [List.head?_drop, List.drop_drop, addU2_true, addU2p_true, if_true]
  refine of_ite (P := (· ≠ Recog.crash)) (fun _ => nofun) fun h36 => ?_
  cases hr : memchrCR (buf.drop (h + 1)) with
  | none => exact nofun
  | some r =>
  dsimp only
  cases hn : parseUsize ((buf.drop (h + 1)).take r) with
  | none => exact nofun
  | some n =>
  dsimp only
  by_cases hw : h + 1 + r + 2 + n + 2 < W
  case neg => rw [if_neg hw]; exact nofun
  rw [if_pos hw]
  dsimp only
  refine of_ite (P := (· ≠ Recog.crash)) (fun _ => nofun) fun hnm => ?_
  rw [if_neg (by omega)]
  refine of_ite (P := (· ≠ Recog.crash)) (fun _ => nofun) fun hv36 => ?_
  cases hr' : memchrCR (buf.drop (h + 1 + r + 2 + n + 2 + 1)) with
  | none => exact nofun
  | some r' =>
  dsimp only
  cases hn' : parseUsize ((buf.drop (h + 1 + r + 2 + n + 2 + 1)).take r') with
  | none => exact nofun
  | some n' =>
  dsimp only
  by_cases hw' : h + 1 + r + 2 + n + 2 + 1 + r' + 2 + n' + 2 < W
  case neg => rw [if_neg hw']; exact nofun
  rw [if_pos hw']
  dsimp only
  refine of_ite (P := (· ≠ Recog.crash)) (fun _ => nofun) fun hge => ?_
  rw [Nat.mod_eq_of_lt (by omega), slice_some buf _ _ (by omega) (by omega),
    slice_some buf _ _ (by omega) (by omega)]
  exact nofun

theorem recogGet_no_crash (h : Nat) (buf : Bytes) : recogGet h true buf ≠ .crash := by
  rcases recogGet_spec h buf with e | e | ⟨_, _, _, e⟩ <;> rw [e] <;> exact nofun

theorem recogGetR_cases (h : Nat) (buf : Bytes) :
    (∃ k t, recogGetR h buf = .get k t) ∨ recogGetR h buf = .notFast := by
  rcases recogGetR_spec h buf with e | ⟨_, _, _, _, _, e⟩
  · exact Or.inr e
  · exact Or.inl ⟨_, _, e⟩

theorem recogSetR_cases (h : Nat) (buf : Bytes) :
    (∃ k v t, recogSetR h buf = .set k v t) ∨ recogSetR h buf = .notFast := by
  rcases recogSetR_spec h buf with e | ⟨_, _, _, _, _, _, _, _, _, _, e⟩
  · exact Or.inr e
  · exact Or.inl ⟨_, _, _, e⟩

theorem recogGetR_no_crash (h : Nat) (buf : Bytes) : recogGetR h buf ≠ .crash := by
  rcases recogGetR_cases h buf with ⟨_, _, e⟩ | e <;> rw [e] <;> exact nofun

theorem recogSetR_no_crash (h : Nat) (buf : Bytes) : recogSetR h buf ≠ .crash := by
  rcases recogSetR_cases h buf with ⟨_, _, _, e⟩ | e <;> rw [e] <;> exact nofun

theorem collectGetR_ok (h : Nat) : ∀ (f : Nat) (buf : Bytes),
    ∃ ks r, collectGetR h f buf = some (ks, r) ∧ r.length ≤ buf.length := by
  intro f
  induction f with
  | zero => intro buf; exact ⟨[], buf, rfl, Nat.le_refl _⟩
  | succ f ih =>
    intro buf
    rw [collectGetR]
    rcases recogGetR_cases h buf with ⟨k, t, e⟩ | e <;> rw [e]
    · obtain ⟨ks, r, e1, e2⟩ := ih (buf.drop t)
      simp only [e1]
      exact ⟨_, r, rfl, by simp at e2; omega⟩
    · exact ⟨[], buf, rfl, Nat.le_refl _⟩

theorem collectSetR_ok (h : Nat) : ∀ (f : Nat) (buf : Bytes),
    ∃ ks r, collectSetR h f buf = some (ks, r) ∧ r.length ≤ buf.length := by
  intro f
  induction f with
  | zero => intro buf; exact ⟨[], buf, rfl, Nat.le_refl _⟩
  | succ f ih =>
    intro buf
    rw [collectSetR]
    rcases recogSetR_cases h buf with ⟨k, v, t, e⟩ | e <;> rw [e]
    · obtain ⟨ks, r, e1, e2⟩ := ih (buf.drop t)
      simp only [e1]
      exact ⟨_, r, rfl, by simp at e2; omega⟩
    · exact ⟨[], buf, rfl, Nat.le_refl _⟩

theorem collectGet_ok (h : Nat) : ∀ (f : Nat) (buf : Bytes),
    ∃ ks r, collectGet h true f buf = some (ks, r) ∧ r.length ≤ buf.length := by
  intro f
  induction f with
  | zero => intro buf; exact ⟨[], buf, rfl, Nat.le_refl _⟩
  | succ f ih =>
    intro buf
    rw [collectGet]
    rcases recogGet_spec h buf with e | e | ⟨r', n', _, e⟩ <;> rw [e]
    · exact ⟨[], buf, rfl, Nat.le_refl _⟩
    · exact ⟨[], buf, rfl, Nat.le_refl _⟩
    · obtain ⟨ks, r, e1, e2⟩ := ih (buf.drop (h + r' + n' + 5))
      simp only [e1]
      exact ⟨_, r, rfl, by simp at e2; omega⟩

theorem collectSet_ok (h : Nat) : ∀ (f : Nat) (buf : Bytes),
    ∃ ks r, collectSet h true f buf = some (ks, r) ∧ r.length ≤ buf.length := by
  intro f
  induction f with
  | zero => intro buf; exact ⟨[], buf, rfl, Nat.le_refl _⟩
  | succ f ih =>
    intro buf
    unfold collectSet
    cases hr : recogSet h true buf with
    | set key val total =>
      obtain ⟨ks, r, e1, e2⟩ := ih (buf.drop total)
      simp only [e1]
      exact ⟨_, r, rfl, by simp at e2; omega⟩
    | crash => exact absurd hr (recogSet_no_crash h buf)
    | get k t => exact ⟨[], buf, rfl, Nat.le_refl _⟩
    | needMore => exact ⟨[], buf, rfl, Nat.le_refl _⟩
    | notFast => exact ⟨[], buf, rfl, Nat.le_refl _⟩

def hasCrash : List Action → Bool
  | [] => false
  | .crash :: _ => true
  | _ :: rest => hasCrash rest

theorem hasCrash_append (a b : List Action) : hasCrash (a ++ b) = (hasCrash a || hasCrash b) := by
  induction a with
  | nil => simp [hasCrash]
  | cons x xs ih => cases x <;> simp [hasCrash, ih]

theorem hasCrash_map (g : Val → Action) (hg : ∀ v, g v ≠ .crash) (fs : List Val) :
    hasCrash (fs.map g) = false := by
  induction fs with
  | nil => rfl
  | cons x xs ih =>
    rw [List.map_cons]
    cases hx : g x with
    | crash => exact absurd hx (hg x)
    | _ => exact ih

theorem hasCrash_batchActs (cfg : Config) (fs : List Val) : hasCrash (batchActs cfg fs) = false := by
  unfold batchActs
  split
  · apply hasCrash_map; exact fun _ => nofun
  · split <;> (apply hasCrash_map; exact fun _ => nofun)

theorem collectGetC_ok (cfg : Config) (hck : cfg.checked = true) (f : Nat) (buf : Bytes) :
    ∃ ks r, collectGetC cfg f buf = some (ks, r) ∧ r.length ≤ buf.length := by
  unfold collectGetC
  split
  · exact collectGetR_ok _ f buf
  · rw [hck]; exact collectGet_ok _ f buf

theorem collectSetC_ok (cfg : Config) (hck : cfg.checked = true) (f : Nat) (buf : Bytes) :
    ∃ ks r, collectSetC cfg f buf = some (ks, r) ∧ r.length ≤ buf.length := by
  unfold collectSetC
  split
  · exact collectSetR_ok _ f buf
  · rw [hck]; exact collectSet_ok _ f buf

theorem fastPath_no_crash (h : Nat) (inTx : Bool) (buf : Bytes) : fastPath h true inTx buf ≠ .crash := by
  unfold fastPath
  split
  · exact nofun
  split
  · exact nofun
  rcases recogGet_spec h buf with e | e | ⟨_, _, _, e⟩ <;> rw [e]
  · exact recogSet_no_crash h buf
  · exact nofun
  · exact nofun

theorem fastPathR_no_crash (h : Nat) (inTx : Bool) (buf : Bytes) : fastPathR h inTx buf ≠ .crash := by
  unfold fastPathR
  split
  · exact nofun
  split
  · exact nofun
  rcases recogGetR_cases h buf with ⟨_, _, e⟩ | e <;> rw [e]
  · exact nofun
  · exact recogSetR_no_crash h buf

theorem fastPathC_no_crash (cfg : Config) (hck : cfg.checked = true) (inTx : Bool) (buf : Bytes) :
    fastPathC cfg inTx buf ≠ .crash := by
  unfold fastPathC
  split
  · split
    · exact fastPathR_no_crash _ _ _
    · rw [hck]; exact fastPath_no_crash _ _ _
  · simp

theorem seqLoop_no_crash (cfg : Config) (hck : cfg.checked = true) (hng : cfg.nameGuard = true) (hcodec : cfg.codec = codec1)
    (hd : maxNesting + 1 ≤ cfg.env.depth) :
    ∀ (f : Nat) (buf : Bytes) (inTx : Bool), Small buf →
      hasCrash (seqLoop cfg f buf inTx).1 = false ∧ (seqLoop cfg f buf inTx).2.2.2 = false := by
  intro f
  induction f with
  | zero => intro buf inTx _; exact ⟨rfl, rfl⟩
  | succ f ih =>
    intro buf inTx hs
    rw [seqLoop, hcodec]
    cases hfp : fastPathC cfg inTx buf with
    | crash => exact absurd hfp (fastPathC_no_crash cfg hck _ _)
    | get key total => exact ih (buf.drop total) inTx (hs.drop total)
    | set key val total => exact ih (buf.drop total) inTx (hs.drop total)
    | needMore => exact ⟨rfl, rfl⟩
    | notFast =>
      have hnc := parseD_no_crash codec1 codec1_good maxNesting codec1_fixed cfg.env.mem cfg.env.depth 0 buf
        (Nat.zero_le _) (by omega) hs
      dsimp only
      cases hout : (parseG codec1 cfg.env buf).out with
      | ok v k =>
        dsimp only
        rw [show namePanics cfg.nameGuard inTx v = false by simp [namePanics, hng]]
        exact ih (buf.drop k) (txAfter inTx v) (hs.drop k)
      | incomplete _ => exact ⟨rfl, rfl⟩
      | error _ => exact ⟨rfl, rfl⟩
      | crash k =>
        unfold NoCrash at hnc
        unfold parseG at hout
        rw [hout] at hnc
        exact Bool.noConfusion hnc

theorem batchGate_no_crash (cfg : Config) (hck : cfg.checked = true) (tx : Bool) (f : Nat) (buf : Bytes) :
    ∃ a b, batchGate cfg tx f buf = some (a, b) ∧ hasCrash a = false ∧ b.length ≤ buf.length := by
  unfold batchGate
  split
  · obtain ⟨ks, r, e1, e2⟩ := collectGetC_ok cfg hck f buf
    rw [e1]
    dsimp only
    split
    · obtain ⟨ks2, r2, e3, e4⟩ := collectSetC_ok cfg hck f r
      rw [e3]
      exact ⟨_, r2, rfl, by rw [hasCrash_append, hasCrash_batchActs, hasCrash_batchActs]; rfl, by omega⟩
    · exact ⟨_, r, rfl, hasCrash_batchActs _ _, e2⟩
  · exact ⟨[], _, rfl, rfl, Nat.le_refl _⟩

theorem onRead_no_crash (cfg : Config) (hck : cfg.checked = true) (hng : cfg.nameGuard = true) (hcodec : cfg.codec = codec1)
    (hd : maxNesting + 1 ≤ cfg.env.depth) (hmax : cfg.maxBuffer < 72057594037927936) (st : St) (chunk : Bytes) :
    hasCrash (onRead cfg st chunk).2 = false := by
  unfold onRead
  split
  · rfl
  split
  · rfl
  obtain ⟨a, b, e1, e2, e3⟩ := batchGate_no_crash cfg hck st.inTx ((st.buf ++ chunk).length + 1) (st.buf ++ chunk)
  have hsb : Small b := by unfold Small; simp at e3; omega
  dsimp only
  rw [e1]
  dsimp only
  rw [hasCrash_append, e2, (seqLoop_no_crash cfg hck hng hcodec hd _ b st.inTx hsb).1]
  rfl

theorem run_no_crash (cfg : Config) (hck : cfg.checked = true) (hng : cfg.nameGuard = true) (hcodec : cfg.codec = codec1)
    (hd : maxNesting + 1 ≤ cfg.env.depth) (hmax : cfg.maxBuffer < 72057594037927936) (segs : List Bytes) :
    hasCrash (run cfg segs) = false :=
  TraceInv.run_inv _ (fun a => hasCrash a.2 = false)
    (fun a c h => by
      show hasCrash (a.2 ++ (onRead cfg a.1 c).2) = false
      rw [hasCrash_append, h, onRead_no_crash cfg hck hng hcodec hd hmax a.1 c]; rfl)
    (St.init, []) rfl _

/-! ### the shared buffer pool: every connection starts from empty buffers -/

/-- every buffer waiting in the pool is empty -/
def Pool.AllEmpty (p : Pool) : Prop := ∀ b ∈ p.q, b = Buf.empty

theorem Pool.init_allEmpty (n : Nat) (cl : Bool) : (Pool.init n cl).AllEmpty := by
  intro b hb
  simp [Pool.init] at hb
  exact hb.2

theorem Pool.acquire_empty (p : Pool) (h : p.AllEmpty) :
    p.acquire.1 = Buf.empty ∧ p.acquire.2.AllEmpty ∧ p.acquire.2.clears = p.clears := by
  unfold Pool.acquire
  cases hq : p.q with
  | nil => exact ⟨rfl, by intro b hb; exact h b hb, rfl⟩
  | cons b rest =>
    refine ⟨h b (by rw [hq]; simp), ?_, rfl⟩
    intro x hx
    exact h x (by rw [hq]; simp [hx])

theorem Pool.release_allEmpty (p : Pool) (h : p.AllEmpty) (hc : p.clears = true) (b : Buf) (keep : Bool) :
    (p.release b keep).AllEmpty ∧ (p.release b keep).clears = true := by
  unfold Pool.release
  split
  · refine ⟨?_, hc⟩
    intro x hx
    simp [hc] at hx
    cases hx with
    | inl hx => exact h x hx
    | inr hx => exact hx
  · exact ⟨h, hc⟩

/-- what the client of `spec` receives from a server that never had another client -/
def solo (cfg : Config) (spec : ConnSpec) : List Action' := (runConn cfg Buf.empty Buf.empty spec).1

/-- invariant of the server: the pool holds only empty buffers, and every client so far received
    what it would have received alone -/
def SrvOK (cfg : Config) (specs : List ConnSpec) (s : Srv) : Prop :=
  s.pool.AllEmpty ∧ s.pool.clears = true ∧
  ∀ o ∈ s.outs, ∃ spec, specs[o.1]? = some spec ∧ o.2 = solo cfg spec

theorem srvStep_ok (cfg : Config) (specs : List ConnSpec) (s : Srv) (ev : Ev) (h : SrvOK cfg specs s) :
    SrvOK cfg specs (srvStep cfg specs s ev) := by
  obtain ⟨h1, h2, h3⟩ := h
  cases ev with
  | start i =>
    cases hs : specs[i]? with
    | none => simp only [srvStep, hs]; exact ⟨h1, h2, h3⟩
    | some spec =>
      simp only [srvStep, hs]
      have a1 := Pool.acquire_empty s.pool h1
      have a2 := Pool.acquire_empty s.pool.acquire.2 a1.2.1
      refine ⟨a2.2.1, by rw [a2.2.2, a1.2.2]; exact h2, ?_⟩
      intro o ho
      simp at ho
      cases ho with
      | inl ho => exact h3 o ho
      | inr ho =>
        subst ho
        refine ⟨spec, hs, ?_⟩
        simp only [solo, a1.1, a2.1]
  | finish i kr kw =>
    cases hf : s.live.find? (fun x => x.1 = i) with
    | none => simp only [srvStep, hf]; exact ⟨h1, h2, h3⟩
    | some x =>
      obtain ⟨_, rb, wb⟩ := x
      simp only [srvStep, hf]
      have r1 := Pool.release_allEmpty s.pool h1 h2 rb kr
      have r2 := Pool.release_allEmpty _ r1.1 r1.2 wb kw
      exact ⟨r2.1, r2.2, h3⟩

theorem serve_ok (cfg : Config) (specs : List ConnSpec) (evs : List Ev) (s : Srv) (h : SrvOK cfg specs s) :
    SrvOK cfg specs (evs.foldl (srvStep cfg specs) s) :=
  TraceInv.run_inv _ _ (fun s e h => srvStep_ok cfg specs s e h) s h evs

theorem ioRead_none (cfg : Config) (s : IOSt) (c : Bytes) (he : s.ended = false) (hw : s.wbuf = []) :
    (ioRead cfg none s c).st = (onRead cfg s.st c).1 ∧
    (ioRead cfg none s c).out = s.out ++ (onRead cfg s.st c).2.filter (fun a => !a.isDropped) ∧
    (ioRead cfg none s c).ended = (onRead cfg s.st c).1.closed ∧
    ((ioRead cfg none s c).ended = false → (ioRead cfg none s c).wbuf = []) := by
  unfold ioRead
  rw [he, hw]
  simp only [Bool.false_eq_true, if_false, List.nil_append, reduceCtorEq]
  by_cases hcl : (onRead cfg s.st c).1.closed = true
  · simp [hcl]
  · by_cases hwe : (onRead cfg s.st c).2.filter (fun a => !a.isDropped) = []
    · simp [hcl, hwe]
    · simp [hcl, hwe]

/-- without write failures everything a connection produces reaches its client: the pooled,
    flushing run of a connection that starts from empty buffers is `Conn.run` -/
theorem runConn_eq_run (cfg : Config) (segs : List Bytes) :
    (runConn cfg Buf.empty Buf.empty ⟨segs, none⟩).1 =
      ((run cfg segs).filter (fun a => !a.isDropped)).map Action'.act := by
  unfold runConn run feedSegs Buf.empty St.init
  simp only [List.isEmpty_nil, if_true]
  -- the flushing loop and the fold of `run` go through the reads side by side
  refine congrArg _ (List.foldl_rel (r := fun (s : IOSt) (acc : St × List Action) =>
      (s.st = acc.1 ∧ s.ended = acc.1.closed ∧ (s.ended = false → s.wbuf = [])) ∧
        s.out = acc.2.filter (fun a => !a.isDropped)) ⟨⟨rfl, rfl, fun _ => rfl⟩, rfl⟩ ?_).2
  intro c _ s acc ⟨⟨h1, h3, h4⟩, h2⟩
  cases he : s.ended with
  | true =>
    -- the loop was left: both sides stay as they are
    have hcl : acc.1.closed = true := by rw [← h3, he]
    have e1 : ioRead cfg none s c = s := by simp [ioRead, he]
    have e2 : onRead cfg acc.1 c = (acc.1, []) := by simp [onRead, hcl]
    rw [e1, e2]
    exact ⟨⟨h1, h3, h4⟩, by simpa using h2⟩
  | false =>
    obtain ⟨i1, i2, i3, i4⟩ := ioRead_none cfg s c he (h4 he)
    rw [h1] at i1 i2 i3
    exact ⟨⟨i1, i3, i4⟩, by rw [i2, h2]; simp⟩

/-! ### the look-alike class: exactly the byte strings the GET recogniser (HEADER_LEN = 14) accepts -/

/-- `buf` is a GET look-alike with key `key`, `total` bytes long: the 13-byte header, ONE ARBITRARY
    byte, `$`, a decimal usize without CR, CR, ONE ARBITRARY byte, as many key bytes, and at least
    two more bytes (arbitrary).  A well-formed frame has a digit where the `$` is. -/
def GetLookalike (buf key : Bytes) (total : Nat) : Prop :=
  ∃ (hdr : Bytes) (x : Nat) (digits : Bytes) (y : Nat) (tail : Bytes),
    (hdr = getHdrU ∨ hdr = getHdrL) ∧
    buf = hdr ++ x :: 36 :: (digits ++ 13 :: y :: (key ++ tail)) ∧
    13 ∉ digits ∧ parseUsize digits = some key.length ∧ 2 ≤ tail.length ∧
    total = 13 + 2 + digits.length + 2 + key.length + 2 ∧ total < W

theorem getLookalike_accepted (buf key : Bytes) (total : Nat) (h : GetLookalike buf key total) :
    recogGet 14 true buf = .get key total := by
  obtain ⟨hdr, x, digits, y, tail, hh, hb, h13, hpu, ht, htot, hw⟩ := h
  have hl : hdr.length = 13 := by rcases hh with rfl | rfl <;> rfl
  have hd15 : buf.drop 15 = digits ++ 13 :: y :: (key ++ tail) := by
    rw [hb, show hdr ++ x :: 36 :: (digits ++ 13 :: y :: (key ++ tail)) =
      (hdr ++ [x, 36]) ++ (digits ++ 13 :: y :: (key ++ tail)) by simp]
    exact List.drop_left' (by simp [hl])
  have hlen : buf.length = 13 + 2 + digits.length + 2 + key.length + tail.length := by
    rw [hb]; simp [hl]; omega
  have htk : TakesGet 14 buf digits.length key.length := by
    refine ⟨?_, ⟨?_, ?_, ?_⟩, by omega, by omega⟩
    · have : startsWith buf hdr = true := by
        rw [hb]; unfold startsWith; exact List.isPrefixOf_iff_prefix.mpr (List.prefix_append _ _)
      rcases hh with rfl | rfl <;> simp [this]
    · rw [hb, List.getElem?_append_right (by omega), hl]; rfl
    · rw [hd15]; exact memchrCR_append digits _ h13
    · rw [hd15, List.take_left' rfl]; exact hpu
  have hkey : dataAt buf 14 digits.length key.length = key := by
    unfold dataAt
    rw [List.drop_take, show 14 + digits.length + 3 = 15 + (digits.length + 2) by omega, ← List.drop_drop, hd15,
      show digits ++ 13 :: y :: (key ++ tail) = (digits ++ [13, y]) ++ (key ++ tail) by simp,
      List.drop_left' (by simp), show 15 + (digits.length + 2) + key.length - (15 + (digits.length + 2)) = key.length by omega,
      List.take_left' rfl]
  rw [recogGet_of_takes 14 buf _ _ htk, hkey, htot]
  congr 1
  omega

theorem getLookalike_of_accepted (buf key : Bytes) (total : Nat) (h : recogGet 14 true buf = .get key total) :
    GetLookalike buf key total := by
  rcases recogGet_spec 14 buf with e | e | ⟨r, n, ⟨hsw, hl, hge, hw⟩, e⟩
  · rw [e] at h; cases h
  · rw [e] at h; cases h
  rw [e] at h
  injection h with hk ht
  subst hk ht
  obtain ⟨hdr, hh, hhd⟩ : ∃ hdr, (hdr = getHdrU ∨ hdr = getHdrL) ∧ buf.take 13 = hdr := by
    rcases Bool.or_eq_true_iff.mp hsw with hs | hs
    · exact ⟨getHdrU, Or.inl rfl, (startsWith_take buf getHdrU hs).1⟩
    · exact ⟨getHdrL, Or.inr rfl, (startsWith_take buf getHdrL hs).1⟩
  -- cut the buffer: header, one byte, the length line, one byte, the key, the rest
  obtain ⟨es, h13, hdl, _⟩ := hl.shape
  obtain ⟨ed, hdn⟩ := dataAt_eq buf 14 r n (by omega)
  have c13 := drop_cons_of_getElem? buf 13 buf[13] (List.getElem?_eq_getElem (by omega))
  have cy := drop_cons_of_getElem? buf (14 + r + 2) buf[14 + r + 2] (List.getElem?_eq_getElem (by omega))
  rw [show 14 + r + 2 + 1 = 14 + r + 3 by omega, ed] at cy
  refine ⟨hdr, buf[13], _, buf[14 + r + 2], buf.drop (14 + r + 3 + n), hh, ?_, h13, hdn.symm ▸ hl.2.2, ?_, by omega, hw⟩
  · conv => lhs; rw [← List.take_append_drop 13 buf, hhd, c13, es, cy]
  · rw [List.length_drop]; omega

end RedisVerif.Conn
