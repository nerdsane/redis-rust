import RedisVerif.Model.ManifestJson

/-
  Lemmas about M4j (`Model/ManifestJson.lean`): what the reader makes of what the writer wrote,
  token by token — numbers, strings, whitespace — as the building blocks of
  `C12.manifest_json_roundtrip`.
-/
namespace RedisVerif
namespace ManifestJson

theorem digitsRev_fuel : ∀ (n fuel : Nat), n < fuel → digitsRev fuel n = digitsRev (n + 1) n := by
  intro n
  induction n using Nat.strongRecOn with
  | _ n ih =>
    intro fuel hf
    cases fuel with
    | zero => omega
    | succ f =>
      unfold digitsRev
      by_cases h : n < 10
      · simp [h]
      · simp only [h, if_false]
        have hd : n / 10 < n := Nat.div_lt_self (by omega) (by omega)
        rw [ih (n / 10) hd f (by omega), ih (n / 10) hd n hd]

theorem encNat_small {n : Nat} (h : n < 10) : encNat n = [48 + n] := by
  unfold encNat digitsRev
  simp [h]

theorem encNat_big {n : Nat} (h : ¬ n < 10) : encNat n = encNat (n / 10) ++ [48 + n % 10] := by
  unfold encNat
  have hd : n / 10 < n := Nat.div_lt_self (by omega) (by omega)
  conv => lhs; unfold digitsRev
  simp only [h, if_false, List.reverse_cons]
  rw [digitsRev_fuel (n / 10) n hd]

theorem takeDigits_cons_digit {b : Nat} (h : isDigit b = true) (acc : Nat) (r : List Nat) :
    takeDigits acc (b :: r) = takeDigits (acc * 10 + (b - 48)) r := by
  conv => lhs; unfold takeDigits
  simp [h]

theorem isDigit_add {d : Nat} (h : d < 10) : isDigit (48 + d) = true := by
  simp [isDigit]; omega

theorem takeDigits_encNat : ∀ (n acc : Nat) (rest : List Nat),
    takeDigits acc (encNat n ++ rest) = takeDigits (acc * 10 ^ (encNat n).length + n) rest := by
  intro n
  induction n using Nat.strongRecOn with
  | _ n ih =>
    intro acc rest
    by_cases h : n < 10
    · rw [encNat_small h, List.singleton_append, takeDigits_cons_digit (isDigit_add h), Nat.add_sub_cancel_left]
      simp
    · have hd : n / 10 < n := Nat.div_lt_self (by omega) (by omega)
      rw [encNat_big h, List.append_assoc, ih (n / 10) hd, List.singleton_append,
        takeDigits_cons_digit (isDigit_add (Nat.mod_lt n (by decide))), Nat.add_sub_cancel_left,
        List.length_append, List.length_singleton, Nat.pow_succ, ← Nat.mul_assoc]
      congr 1
      omega

/-- the first digit the writer writes is `0` only for the number 0 -/
theorem encNat_head (n : Nat) : ∃ d ds, encNat n = d :: ds ∧ isDigit d = true ∧ (d = 48 ↔ n = 0) ∧ (n = 0 → ds = []) := by
  induction n using Nat.strongRecOn with
  | _ n ih =>
    by_cases h : n < 10
    · exact ⟨48 + n, [], encNat_small h, isDigit_add h, by omega, fun _ => rfl⟩
    · have hd : n / 10 < n := Nat.div_lt_self (by omega) (by omega)
      obtain ⟨d, ds, he, hdig, hz, _⟩ := ih (n / 10) hd
      refine ⟨d, ds ++ [48 + n % 10], by rw [encNat_big h, he]; rfl, hdig, ?_, by omega⟩
      rw [hz]
      omega

def nonDigitHead (s : List Nat) : Prop :=
  match s with
  | [] => True
  | b :: _ => isDigit b = false

theorem takeDigits_stop {acc : Nat} {rest : List Nat} (h : nonDigitHead rest) : takeDigits acc rest = (acc, rest) := by
  cases rest with
  | nil => rfl
  | cons b r =>
    unfold takeDigits
    simp only [nonDigitHead] at h
    simp [h]

theorem takeDigits_tail {n d : Nat} {ds rest : List Nat} (he : encNat n = d :: ds) (hdig : isDigit d = true)
    (h1 : nonDigitHead rest) : takeDigits (d - 48) (ds ++ rest) = (n, rest) := by
  have := takeDigits_encNat n 0 rest
  rwa [he, List.cons_append, takeDigits_cons_digit hdig, Nat.zero_mul, Nat.zero_mul, Nat.zero_add, Nat.zero_add,
    takeDigits_stop h1] at this

/-- skipping digits is reading them and forgetting the value -/
theorem dropDigits_eq (acc : Nat) (s : List Nat) : dropDigits s = (takeDigits acc s).2 := by
  induction s generalizing acc with
  | nil => rfl
  | cons b s ih =>
    unfold dropDigits takeDigits
    split
    · exact ih _
    · rfl

/-- **a number the writer wrote reads back**, for every value within the field's range, when what
    follows is neither a digit nor the start of a fraction / exponent -/
theorem parseUInt_encNat (max n : Nat) (rest : List Nat) (hn : n ≤ max) (h1 : nonDigitHead rest)
    (h2 : floatMark rest = false) : parseUInt max (encNat n ++ rest) = some (n, rest) := by
  obtain ⟨d, ds, he, hdig, hz, hds⟩ := encNat_head n
  rw [he]
  simp only [List.cons_append]
  unfold parseUInt
  by_cases h0 : n = 0
  · have hd48 : d = 48 := hz.mpr h0
    have : ds = [] := hds h0
    subst this
    subst hd48
    simp only [List.nil_append, beq_self_eq_true, if_true]
    cases rest with
    | nil => simp [h0]
    | cons c r =>
      simp only [nonDigitHead] at h1
      simp [h1, h2, h0]
  · have hb : (d == 48) = false := by simpa using fun hh => h0 (hz.mp hh)
    simp only [hb, hdig, if_true, Bool.false_eq_true, if_false, takeDigits_tail he hdig h1]
    simp [h2, hn]

/-- the sixteen hex digits the writer uses read back -/
theorem hexVal_hexDigit : ∀ n < 16, hexVal (hexDigit n) = some n := by decide

theorem hex4_hexDigits {b : Nat} (h : b < 32) (r : List Nat) :
    hex4 (48 :: 48 :: hexDigit (b / 16) :: hexDigit (b % 16) :: r) = some (b, r) := by
  have z : hexVal 48 = some 0 := by decide
  simp only [hex4, z, hexVal_hexDigit (b / 16) (by omega), hexVal_hexDigit (b % 16) (by omega)]
  congr 2
  omega

/-- the three shapes of what the writer emits for one byte: the byte itself, a two-byte escape
    (`(b, e)` in the table: `b` is written as `\e`), or `\u00XY` for the other control bytes -/
theorem escByte_cases (b : Nat) :
    (32 ≤ b ∧ b ≠ 34 ∧ b ≠ 92 ∧ escByte b = [b]) ∨
    (∃ e, escByte b = [92, e] ∧
      (b, e) ∈ [(34, 34), (92, 92), (8, 98), (12, 102), (10, 110), (13, 114), (9, 116)]) ∨
    (b < 32 ∧ escByte b = [92, 117, 48, 48, hexDigit (b / 16), hexDigit (b % 16)]) := by
  by_cases h34 : b = 34
  · exact Or.inr (Or.inl ⟨34, by rw [h34]; rfl, by rw [h34]; decide⟩)
  by_cases h92 : b = 92
  · exact Or.inr (Or.inl ⟨92, by rw [h92]; rfl, by rw [h92]; decide⟩)
  by_cases h8 : b = 8
  · exact Or.inr (Or.inl ⟨98, by rw [h8]; rfl, by rw [h8]; decide⟩)
  by_cases h12 : b = 12
  · exact Or.inr (Or.inl ⟨102, by rw [h12]; rfl, by rw [h12]; decide⟩)
  by_cases h10 : b = 10
  · exact Or.inr (Or.inl ⟨110, by rw [h10]; rfl, by rw [h10]; decide⟩)
  by_cases h13 : b = 13
  · exact Or.inr (Or.inl ⟨114, by rw [h13]; rfl, by rw [h13]; decide⟩)
  by_cases h9 : b = 9
  · exact Or.inr (Or.inl ⟨116, by rw [h9]; rfl, by rw [h9]; decide⟩)
  by_cases hc : b < 32
  · exact Or.inr (Or.inr ⟨hc, by simp only [escByte, h34, h92, h8, h12, h10, h13, h9, hc, if_false, if_true]⟩)
  · exact Or.inl ⟨by omega, h34, h92, by simp only [escByte, h34, h92, h8, h12, h10, h13, h9, hc, if_false]⟩

theorem length_escByte_pos (b : Nat) : 0 < (escByte b).length := by
  rcases escByte_cases b with ⟨_, _, _, h⟩ | ⟨e, h, _⟩ | ⟨_, h⟩ <;> rw [h] <;> exact Nat.succ_pos _

theorem parseStrBody_escByte (b : Nat) (fuel : Nat) (acc r : List Nat) :
    parseStrBody (fuel + 1) (escByte b ++ r) acc = parseStrBody fuel r (b :: acc) := by
  rcases escByte_cases b with ⟨h32, h34, h92, h⟩ | ⟨e, h, ht⟩ | ⟨hc, h⟩ <;> rw [h]
  · have e1 : (b == 34) = false := by simpa using h34
    have e2 : (b == 92) = false := by simpa using h92
    have e3 : ¬ b < 32 := by omega
    simp [parseStrBody, e1, e2, e3]
  · simp only [List.mem_cons, Prod.mk.injEq, List.not_mem_nil, or_false] at ht
    rcases ht with ⟨rfl, rfl⟩ | ⟨rfl, rfl⟩ | ⟨rfl, rfl⟩ | ⟨rfl, rfl⟩ | ⟨rfl, rfl⟩ | ⟨rfl, rfl⟩ | ⟨rfl, rfl⟩ <;>
      simp [parseStrBody, parseEscape]
  · have c1 : (decide (0xDC00 ≤ b) && decide (b ≤ 0xDFFF)) = false := by simp; omega
    have c2 : (decide (b < 0xD800) || decide (b > 0xDBFF)) = true := by simp; omega
    have hu : utf8Of b = [b] := by unfold utf8Of; simp; omega
    simp [parseStrBody, parseEscape, hex4_hexDigits hc, c1, c2, hu]

theorem parseStrBody_enc : ∀ (s : List Nat) (fuel : Nat) (acc rest : List Nat), s.length < fuel →
    parseStrBody fuel (s.flatMap escByte ++ 34 :: rest) acc = some (acc.reverse ++ s, rest) := by
  intro s
  induction s with
  | nil =>
    intro fuel acc rest hf
    cases fuel with
    | zero => simp at hf
    | succ f => simp [parseStrBody]
  | cons b s ih =>
    intro fuel acc rest hf
    cases fuel with
    | zero => simp at hf
    | succ f =>
      simp only [List.flatMap_cons, List.append_assoc]
      rw [parseStrBody_escByte, ih f (b :: acc) rest (by simpa using hf)]
      simp

theorem length_le_flatMap_escByte (s : List Nat) : s.length ≤ (s.flatMap escByte).length := by
  induction s with
  | nil => simp
  | cons b s ih =>
    have := length_escByte_pos b
    simp only [List.flatMap_cons, List.length_append, List.length_cons]
    omega

/-- `parse_str` (after the opening quote) on what `serialize_str` wrote, for a valid UTF-8 string -/
theorem parseStr_enc (s rest : List Nat) (hv : validUtf8 (s.length + 1) s = true) :
    parseStr (s.flatMap escByte ++ 34 :: rest) = some (s, rest) := by
  unfold parseStr
  rw [parseStrBody_enc s _ [] rest (by
    have := length_le_flatMap_escByte s
    simp only [List.length_append, List.length_cons]
    omega)]
  simp [hv]

/-- `deserialize_string` on what `serialize_str` wrote -/
theorem parseString_encStr (s rest : List Nat) (hv : validUtf8 (s.length + 1) s = true) :
    parseString (encStr s ++ rest) = some (s, rest) := by
  unfold encStr parseString
  simp only [List.cons_append, List.append_assoc, List.nil_append]
  exact parseStr_enc s rest hv

theorem skipWs_cons_ws {b : Nat} (h : isWs b = true) (r : List Nat) : skipWs (b :: r) = skipWs r := by
  conv => lhs; unfold skipWs
  simp [h]

theorem skipWs_cons_nonws {b : Nat} (h : isWs b = false) (r : List Nat) : skipWs (b :: r) = b :: r := by
  conv => lhs; unfold skipWs
  simp [h]

theorem skipWs_indent (k : Nat) (s : List Nat) : skipWs (indent k ++ s) = skipWs s := by
  unfold indent
  induction (2 * k) with
  | zero => simp
  | succ n ih =>
    rw [List.replicate_succ, List.cons_append, skipWs_cons_ws (by decide)]
    exact ih

theorem skipWs_nl_indent (k : Nat) (s : List Nat) : skipWs (10 :: (indent k ++ s)) = skipWs s := by
  rw [skipWs_cons_ws (by decide), skipWs_indent]

/-- the byte that follows a value inside a pretty-printed object or array: `,` or a newline -/
def sepHead (s : List Nat) : Prop :=
  match s with
  | c :: _ => c = 44 ∨ c = 10
  | [] => False

theorem sepHead_nonDigit {s : List Nat} (h : sepHead s) : nonDigitHead s ∧ floatMark s = false := by
  cases s with
  | nil => cases h
  | cons c r =>
    simp only [sepHead] at h
    rcases h with h | h <;> subst h <;> exact ⟨by simp [nonDigitHead, isDigit], by simp [floatMark]⟩

theorem skipWs_encNat (n : Nat) (rest : List Nat) : skipWs (encNat n ++ rest) = encNat n ++ rest := by
  obtain ⟨d, ds, he, hdig, _, _⟩ := encNat_head n
  rw [he, List.cons_append]
  apply skipWs_cons_nonws
  unfold isDigit at hdig
  unfold isWs
  simp at hdig ⊢
  omega

/-- a member is its value and at least five more bytes (newline, two quotes, colon, space) -/
theorem length_member (lvl : Nat) (first : Bool) (name value : List Nat) :
    (member lvl first name value).length =
      (if first then 1 else 2) + (indent lvl).length + (name.flatMap escByte).length + 4 + value.length := by
  cases first <;>
    simp only [member, encStr, List.length_append, List.length_cons, List.length_nil, if_true, Bool.false_eq_true, if_false] <;>
    omega

theorem sepHead_member {lvl : Nat} {name value rest : List Nat} : sepHead (member lvl false name value ++ rest) := by
  simp [member, sepHead]

theorem sepHead_closeObj {lvl : Nat} {rest : List Nat} : sepHead (closeObj lvl ++ rest) := by
  simp [closeObj, sepHead]

/-- one `"name": value` member the writer wrote, read by the `visit_map` loop -/
theorem parseMembers_member {fuel : Nat} {sk : SKind} {first : Bool} {lvl : Nat} {name value rest : List Nat}
    {vals : List (Nat × FVal)} (i : Nat) {k : FKind} {v : FVal} {r4 : List Nat}
    (hname : validUtf8 (name.length + 1) name = true)
    (hidx : fieldIndex (fieldsOf sk) name = some (i, k)) (hdup : vals.lookup i = none)
    (hval : parseField fuel k (32 :: (value ++ rest)) = some (v, r4)) :
    parseMembers (fuel + 1) sk first (member lvl first name value ++ rest) vals =
      parseMembers fuel sk false r4 ((i, v) :: vals) := by
  have hkey : parseStr (name.flatMap escByte ++ 34 :: (58 :: 32 :: (value ++ rest))) =
      some (name, 58 :: 32 :: (value ++ rest)) := parseStr_enc name _ hname
  cases first with
  | true =>
    simp only [member, if_true, encStr, List.append_assoc, List.cons_append, List.nil_append]
    conv => lhs; unfold parseMembers
    rw [skipWs_nl_indent, skipWs_cons_nonws (by decide)]
    simp only [Nat.reduceBEq, Bool.false_eq_true, if_false, if_true, hkey,
      skipWs_cons_nonws (show isWs 58 = false by decide), hidx, hdup, Option.isSome_none, hval]
  | false =>
    simp only [member, Bool.false_eq_true, if_false, encStr, List.append_assoc, List.cons_append, List.nil_append]
    conv => lhs; unfold parseMembers
    rw [skipWs_cons_nonws (show isWs 44 = false by decide)]
    simp only [Nat.reduceBEq, Bool.false_eq_true, if_false, if_true, skipWs_nl_indent, skipWs_cons_nonws (show isWs 34 = false by decide), hkey,
      skipWs_cons_nonws (show isWs 58 = false by decide), hidx, hdup, Option.isSome_none, hval]

theorem parseMembers_close {fuel : Nat} {sk : SKind} {lvl : Nat} {rest : List Nat} {vals : List (Nat × FVal)} :
    parseMembers (fuel + 1) sk false (closeObj lvl ++ rest) vals = some (vals, rest) := by
  simp only [closeObj, List.append_assoc, List.cons_append, List.nil_append]
  conv => lhs; unfold parseMembers
  rw [skipWs_nl_indent, skipWs_cons_nonws (by decide)]
  simp

theorem parseField_u64 {fuel n : Nat} {rest : List Nat} (hn : n ≤ u64Max) (hr : sepHead rest) :
    parseField (fuel + 1) .u64 (32 :: (encNat n ++ rest)) = some (.num n, rest) := by
  conv => lhs; unfold parseField
  simp only [skipWs_cons_ws (show isWs 32 = true by decide), skipWs_encNat]
  rw [parseUInt_encNat u64Max n rest hn (sepHead_nonDigit hr).1 (sepHead_nonDigit hr).2]
  rfl

theorem parseField_u32 {fuel n : Nat} {rest : List Nat} (hn : n ≤ u32Max) (hr : sepHead rest) :
    parseField (fuel + 1) .u32 (32 :: (encNat n ++ rest)) = some (.num n, rest) := by
  conv => lhs; unfold parseField
  simp only [skipWs_cons_ws (show isWs 32 = true by decide), skipWs_encNat]
  rw [parseUInt_encNat u32Max n rest hn (sepHead_nonDigit hr).1 (sepHead_nonDigit hr).2]
  rfl

theorem parseField_text {fuel : Nat} {s rest : List Nat} (hv : validUtf8 (s.length + 1) s = true) :
    parseField (fuel + 1) .text (32 :: (encStr s ++ rest)) = some (.text s, rest) := by
  conv => lhs; unfold parseField
  have : skipWs (32 :: (encStr s ++ rest)) = encStr s ++ rest := by
    rw [skipWs_cons_ws (by decide)]
    unfold encStr
    simp only [List.cons_append]
    exact skipWs_cons_nonws (by decide) _
  simp only [this, parseString_encStr s rest hv]
  rfl

/-! ## well-formed values: what the Rust types guarantee (`u64`, `u32`, `String`) -/

def JSeg.WF (s : JSeg) : Prop :=
  s.id ≤ u64Max ∧ s.count ≤ u32Max ∧ s.size ≤ u64Max ∧ s.minTs ≤ u64Max ∧ s.maxTs ≤ u64Max ∧
  validUtf8 (s.key.length + 1) s.key = true

def JChk.WF (c : JChk) : Prop :=
  c.ts ≤ u64Max ∧ c.keyCount ≤ u64Max ∧ c.last ≤ u64Max ∧ validUtf8 (c.key.length + 1) c.key = true

def JMan.WF (m : JMan) : Prop :=
  m.version ≤ u64Max ∧ m.rid ≤ u64Max ∧ m.next ≤ u64Max ∧ (∀ s ∈ m.segments, s.WF) ∧
  (∀ c, m.checkpoint = some c → c.WF)

instance (s : JSeg) : Decidable s.WF := by unfold JSeg.WF; infer_instance
instance (c : JChk) : Decidable c.WF := by unfold JChk.WF; infer_instance
instance decChkAll (o : Option JChk) : Decidable (∀ c, o = some c → c.WF) :=
  match o with
  | none => isTrue (by intro c h; cases h)
  | some c =>
    if h : c.WF then isTrue (by intro c' h'; cases h'; exact h)
    else isFalse (fun hh => h (hh c rfl))

instance (m : JMan) : Decidable m.WF := by unfold JMan.WF; exact inferInstance

/-- a `SegmentInfo` object the writer wrote, read by `deserialize_struct` -/
theorem parseStruct_encSeg (lvl : Nat) (s : JSeg) (rest : List Nat) (fuel : Nat) (hw : s.WF) (hf : 8 ≤ fuel) :
    ∃ vals, parseStruct fuel .seg (encSeg lvl s ++ rest) = some (vals, rest) ∧ buildSeg vals = some s := by
  obtain ⟨f, rfl⟩ : ∃ f, fuel = f + 8 := ⟨fuel - 8, by omega⟩
  obtain ⟨h1, h2, h3, h4, h5, h6⟩ := hw
  refine ⟨[(5, .num s.maxTs), (4, .num s.minTs), (3, .num s.size), (2, .num s.count), (1, .text s.key), (0, .num s.id)], ?_, ?_⟩
  · unfold encSeg
    simp only [List.append_assoc, List.cons_append, List.nil_append]
    conv => lhs; unfold parseStruct
    rw [skipWs_cons_nonws (show isWs 123 = false by decide)]
    simp only
    refine (parseMembers_member 0 (by decide) (by decide) rfl (parseField_u64 h1 sepHead_member)).trans ?_
    refine (parseMembers_member 1 (by decide) (by decide) rfl (parseField_text h6)).trans ?_
    refine (parseMembers_member 2 (by decide) (by decide) rfl (parseField_u32 h2 sepHead_member)).trans ?_
    refine (parseMembers_member 3 (by decide) (by decide) rfl (parseField_u64 h3 sepHead_member)).trans ?_
    refine (parseMembers_member 4 (by decide) (by decide) rfl (parseField_u64 h4 sepHead_member)).trans ?_
    refine (parseMembers_member 5 (by decide) (by decide) rfl (parseField_u64 h5 sepHead_closeObj)).trans ?_
    exact parseMembers_close
  · simp [buildSeg, getNum, getText, List.lookup]

theorem parseStruct_encChk (lvl : Nat) (c : JChk) (rest : List Nat) (fuel : Nat) (hw : c.WF) (hf : 6 ≤ fuel) :
    ∃ vals, parseStruct fuel .chk (encChk lvl c ++ rest) = some (vals, rest) ∧ buildChk vals = some c := by
  obtain ⟨f, rfl⟩ : ∃ f, fuel = f + 6 := ⟨fuel - 6, by omega⟩
  obtain ⟨h1, h2, h3, h4⟩ := hw
  refine ⟨[(3, .num c.last), (2, .num c.keyCount), (1, .num c.ts), (0, .text c.key)], ?_, ?_⟩
  · unfold encChk
    simp only [List.append_assoc, List.cons_append, List.nil_append]
    conv => lhs; unfold parseStruct
    rw [skipWs_cons_nonws (show isWs 123 = false by decide)]
    simp only
    refine (parseMembers_member 0 (by decide) (by decide) rfl (parseField_text h4)).trans ?_
    refine (parseMembers_member 1 (by decide) (by decide) rfl (parseField_u64 h1 sepHead_member)).trans ?_
    refine (parseMembers_member 2 (by decide) (by decide) rfl (parseField_u64 h2 sepHead_member)).trans ?_
    refine (parseMembers_member 3 (by decide) (by decide) rfl (parseField_u64 h3 sepHead_closeObj)).trans ?_
    exact parseMembers_close
  · simp [buildChk, getNum, getText, List.lookup]

/-- the elements of a pretty-printed non-empty array, read by the `SeqAccess` loop up to and
    including the closing `]` -/
theorem parseSegElems_enc (lvl k : Nat) : ∀ (l : List JSeg) (first : Bool) (acc : List JSeg) (rest : List Nat) (fuel : Nat),
    (∀ s ∈ l, s.WF) → l.length + 9 ≤ fuel →
    parseSegElems fuel first (encSegElems lvl first l ++ (10 :: (indent k ++ 93 :: rest))) acc =
      some (acc.reverse ++ l, rest) := by
  intro l
  induction l with
  | nil =>
    intro first acc rest fuel _ hf
    obtain ⟨f, rfl⟩ : ∃ f, fuel = f + 1 := ⟨fuel - 1, by omega⟩
    simp only [encSegElems, List.nil_append]
    conv => lhs; unfold parseSegElems
    rw [skipWs_nl_indent, skipWs_cons_nonws (show isWs 93 = false by decide)]
    simp
  | cons s l ih =>
    intro first acc rest fuel hw hf
    obtain ⟨f, rfl⟩ : ∃ f, fuel = f + 1 := ⟨fuel - 1, by omega⟩
    have hs : s.WF := hw s (by simp)
    have hl : ∀ t ∈ l, t.WF := fun t ht => hw t (by simp [ht])
    simp only [List.length_cons] at hf
    obtain ⟨vals, hp, hb⟩ := parseStruct_encSeg lvl s
      (encSegElems lvl false l ++ (10 :: (indent k ++ 93 :: rest))) f hs (by omega)
    have hrec := ih false (s :: acc) rest f hl (by omega)
    have hstart : skipWs (encSeg lvl s ++ (encSegElems lvl false l ++ (10 :: (indent k ++ 93 :: rest)))) =
        encSeg lvl s ++ (encSegElems lvl false l ++ (10 :: (indent k ++ 93 :: rest))) := by
      unfold encSeg
      simp only [List.append_assoc, List.cons_append, List.nil_append]
      exact skipWs_cons_nonws (by decide) _
    have hhead : ∃ r, encSeg lvl s ++ (encSegElems lvl false l ++ (10 :: (indent k ++ 93 :: rest))) = 123 :: r := by
      unfold encSeg
      simp only [List.append_assoc, List.cons_append, List.nil_append]
      exact ⟨_, rfl⟩
    obtain ⟨r0, hr0⟩ := hhead
    cases first with
    | true =>
      simp only [encSegElems, if_true, List.append_assoc, List.cons_append, List.nil_append]
      conv => lhs; unfold parseSegElems
      rw [skipWs_nl_indent, hstart, hr0]
      simp only [Nat.reduceBEq, Bool.false_eq_true, if_false, if_true]
      rw [← hr0, hp]
      simp only [hb, hrec]
      simp
    | false =>
      simp only [encSegElems, Bool.false_eq_true, if_false, List.append_assoc, List.cons_append, List.nil_append]
      conv => lhs; unfold parseSegElems
      rw [skipWs_cons_nonws (show isWs 44 = false by decide)]
      simp only [Nat.reduceBEq, Bool.false_eq_true, if_false, if_true]
      rw [skipWs_nl_indent, hstart, hr0]
      simp only
      rw [← hr0, hp]
      simp only [hb, hrec]
      simp

theorem parseField_segs {fuel lvl : Nat} {l : List JSeg} {rest : List Nat} (hw : ∀ s ∈ l, s.WF)
    (hf : l.length + 10 ≤ fuel) :
    parseField fuel .segs (32 :: (encSegs lvl l ++ rest)) = some (.segs l, rest) := by
  obtain ⟨f, rfl⟩ : ∃ f, fuel = f + 1 := ⟨fuel - 1, by omega⟩
  conv => lhs; unfold parseField
  rw [skipWs_cons_ws (show isWs 32 = true by decide)]
  cases l with
  | nil =>
    simp only [encSegs, List.cons_append, List.nil_append]
    rw [skipWs_cons_nonws (show isWs 91 = false by decide)]
    simp only
    obtain ⟨g, rfl⟩ : ∃ g, f = g + 1 := ⟨f - 1, by simp at hf; omega⟩
    conv => lhs; unfold parseSegElems
    rw [skipWs_cons_nonws (show isWs 93 = false by decide)]
    simp
  | cons s l =>
    simp only [encSegs, List.append_assoc, List.cons_append, List.nil_append]
    rw [skipWs_cons_nonws (show isWs 91 = false by decide)]
    simp only
    rw [parseSegElems_enc (lvl + 1) lvl (s :: l) true [] rest f hw (by simp only [List.length_cons] at hf ⊢; omega)]
    simp

theorem parseField_null {fuel : Nat} {rest : List Nat} :
    parseField (fuel + 1) .optChk (32 :: ([110, 117, 108, 108] ++ rest)) = some (.chk none, rest) := by
  conv => lhs; unfold parseField
  rw [skipWs_cons_ws (show isWs 32 = true by decide)]
  simp only [List.cons_append, List.nil_append]
  rw [skipWs_cons_nonws (show isWs 110 = false by decide)]
  simp [expectBytes]

theorem parseField_someChk {fuel lvl : Nat} {c : JChk} {rest : List Nat} (hw : c.WF) (hf : 7 ≤ fuel) :
    parseField fuel .optChk (32 :: (encChk lvl c ++ rest)) = some (.chk (some c), rest) := by
  obtain ⟨f, rfl⟩ : ∃ f, fuel = f + 1 := ⟨fuel - 1, by omega⟩
  obtain ⟨vals, hp, hb⟩ := parseStruct_encChk lvl c rest f hw (by omega)
  have hhead : ∃ r, encChk lvl c ++ rest = 123 :: r := by
    unfold encChk
    simp only [List.append_assoc, List.cons_append, List.nil_append]
    exact ⟨_, rfl⟩
  obtain ⟨r0, hr0⟩ := hhead
  conv => lhs; unfold parseField
  rw [skipWs_cons_ws (show isWs 32 = true by decide), hr0, skipWs_cons_nonws (show isWs 123 = false by decide)]
  simp only
  rw [← hr0, hp]
  simp [hb]

/-- the manifest object with its checkpoint member under the name `cname`; `encode` writes it under
    `checkpoint` (`encode_eq_named`) -/
def encodeNamed (cname : List Nat) (m : JMan) : List Nat :=
  [123] ++ member 1 true /- version -/ [118, 101, 114, 115, 105, 111, 110] (encNat m.version) ++
  member 1 false /- replica_id -/ [114, 101, 112, 108, 105, 99, 97, 95, 105, 100] (encNat m.rid) ++
  member 1 false /- segments -/ [115, 101, 103, 109, 101, 110, 116, 115] (encSegs 1 m.segments) ++
  member 1 false cname (encChkOpt 1 m.checkpoint) ++
  member 1 false /- next_segment_id -/ [110, 101, 120, 116, 95, 115, 101, 103, 109, 101, 110, 116, 95, 105, 100] (encNat m.next) ++ closeObj 0

theorem encode_eq_named (m : JMan) : encode m = encodeNamed /- checkpoint -/ [99, 104, 101, 99, 107, 112, 111, 105, 110, 116] m := rfl

/-- `encode` nests its appends to the left; the text around the value of the first member … -/
theorem rebracket_first (o h v m2 m3 m4 m5 c : List Nat) :
    o ++ (h ++ v) ++ m2 ++ m3 ++ m4 ++ m5 ++ c = o ++ h ++ v ++ (m2 ++ m3 ++ m4 ++ m5 ++ c) := by
  simp only [List.append_assoc]

/-- … and around the name of the fourth (`p`: comma, newline, indentation; `k`: the colon; `v`: the value) -/
theorem rebracket_fourth (o p s k v m5 c : List Nat) :
    o ++ (p ++ s ++ k ++ v) ++ m5 ++ c = o ++ p ++ s ++ (k ++ v ++ m5 ++ c) := by
  simp only [List.append_assoc]

theorem length_encSegElems_ge (lvl : Nat) : ∀ (l : List JSeg) (first : Bool), l.length ≤ (encSegElems lvl first l).length := by
  intro l
  induction l with
  | nil => intro _; simp [encSegElems]
  | cons s l ih =>
    intro first
    have := ih false
    cases first <;>
      simp only [encSegElems, List.length_append, List.length_cons, List.length_nil, if_true, Bool.false_eq_true, if_false] <;>
      omega

theorem length_encSegs_ge (lvl : Nat) (l : List JSeg) : l.length ≤ (encSegs lvl l).length := by
  cases l with
  | nil => simp
  | cons s l =>
    have := length_encSegElems_ge (lvl + 1) (s :: l) true
    simp only [encSegs, List.length_append, List.length_cons] at this ⊢
    omega

/-- more than enough fuel for `decode`: one unit per member and per array element is needed -/
theorem length_encodeNamed_ge (cname : List Nat) (m : JMan) :
    m.segments.length + 20 ≤ (encodeNamed cname m).length := by
  have := length_encSegs_ge 1 m.segments
  simp only [encodeNamed, List.length_append, length_member, if_true, Bool.false_eq_true, if_false]
  omega

/-- every member of the manifest object in turn, the closing brace; what the reader makes of the
    checkpoint member (recorded as `vchk`) is left to the caller: it depends on the name -/
theorem parseStruct_encodeNamed (cname : List Nat) (m : JMan) (hw : m.WF) (vchk : List (Nat × FVal))
    (hchk : ∀ f rest, 7 ≤ f →
      parseMembers (f + 1) .man false (member 1 false cname (encChkOpt 1 m.checkpoint) ++ rest)
          [(2, FVal.segs m.segments), (1, FVal.num m.rid), (0, FVal.num m.version)] =
        parseMembers f .man false rest (vchk ++ [(2, FVal.segs m.segments), (1, FVal.num m.rid), (0, FVal.num m.version)]))
    (hdup : (vchk ++ [(2, FVal.segs m.segments), (1, FVal.num m.rid), (0, FVal.num m.version)]).lookup 4 = none)
    (rest : List Nat) (fuel : Nat) (hf : m.segments.length + 20 ≤ fuel) :
    parseStruct fuel .man (encodeNamed cname m ++ rest) =
      some ((4, .num m.next) :: (vchk ++ [(2, FVal.segs m.segments), (1, FVal.num m.rid), (0, FVal.num m.version)]), rest) := by
  obtain ⟨f, rfl⟩ : ∃ f, fuel = f + 7 := ⟨fuel - 7, by omega⟩
  obtain ⟨h1, h2, h3, h4, _⟩ := hw
  unfold encodeNamed
  simp only [List.append_assoc, List.cons_append, List.nil_append]
  conv => lhs; unfold parseStruct
  rw [skipWs_cons_nonws (show isWs 123 = false by decide)]
  simp only
  refine (parseMembers_member 0 (by decide) (by decide) rfl (parseField_u64 h1 sepHead_member)).trans ?_
  refine (parseMembers_member 1 (by decide) (by decide) rfl (parseField_u64 h2 sepHead_member)).trans ?_
  refine (parseMembers_member 2 (by decide) (by decide) rfl (parseField_segs h4 (by omega))).trans ?_
  refine (hchk (f + 2) _ (by omega)).trans ?_
  refine (parseMembers_member 4 (by decide) (by decide) hdup
    (parseField_u64 h3 sepHead_closeObj)).trans ?_
  exact parseMembers_close

theorem decode_encodeNamed (cname : List Nat) (m : JMan) (hw : m.WF) (vchk : List (Nat × FVal))
    (hchk : ∀ f rest, 7 ≤ f →
      parseMembers (f + 1) .man false (member 1 false cname (encChkOpt 1 m.checkpoint) ++ rest)
          [(2, FVal.segs m.segments), (1, FVal.num m.rid), (0, FVal.num m.version)] =
        parseMembers f .man false rest (vchk ++ [(2, FVal.segs m.segments), (1, FVal.num m.rid), (0, FVal.num m.version)]))
    (hdup : (vchk ++ [(2, FVal.segs m.segments), (1, FVal.num m.rid), (0, FVal.num m.version)]).lookup 4 = none)
    {m' : JMan}
    (hb : buildMan ((4, .num m.next) :: (vchk ++ [(2, FVal.segs m.segments), (1, FVal.num m.rid), (0, FVal.num m.version)])) = some m') :
    decode (encodeNamed cname m) = some m' := by
  have hlen := length_encodeNamed_ge cname m
  have := parseStruct_encodeNamed cname m hw vchk hchk hdup [] (2 * (encodeNamed cname m).length + 8) (by omega)
  rw [List.append_nil] at this
  simp [decode, this, hb, skipWs]

theorem parseMembers_checkpoint (m : JMan) (hw : m.WF) (f : Nat) (rest : List Nat) (hf : 7 ≤ f) :
    parseMembers (f + 1) .man false
        (member 1 false [99, 104, 101, 99, 107, 112, 111, 105, 110, 116] (encChkOpt 1 m.checkpoint) ++ rest)
        [(2, FVal.segs m.segments), (1, FVal.num m.rid), (0, FVal.num m.version)] =
      parseMembers f .man false rest
        ([(3, .chk m.checkpoint)] ++ [(2, FVal.segs m.segments), (1, FVal.num m.rid), (0, FVal.num m.version)]) := by
  refine parseMembers_member 3 (k := .optChk) (by decide) (by decide) rfl ?_
  cases hc : m.checkpoint with
  | none => obtain ⟨g, rfl⟩ : ∃ g, f = g + 1 := ⟨f - 1, by omega⟩; exact parseField_null
  | some c => exact parseField_someChk (hw.2.2.2.2 c hc) (by omega)

/-! ## skipped values (`IgnoredAny`) over what the writer wrote -/

theorem skipStrBody_escByte (b : Nat) (fuel : Nat) (r : List Nat) :
    skipStrBody (fuel + 1) (escByte b ++ r) = skipStrBody fuel r := by
  rcases escByte_cases b with ⟨h32, h34, h92, h⟩ | ⟨e, h, ht⟩ | ⟨hc, h⟩ <;> rw [h]
  · have e1 : (b == 34) = false := by simpa using h34
    have e2 : (b == 92) = false := by simpa using h92
    have e3 : ¬ b < 32 := by omega
    simp [skipStrBody, e1, e2, e3]
  · simp only [List.mem_cons, Prod.mk.injEq, List.not_mem_nil, or_false] at ht
    rcases ht with ⟨rfl, rfl⟩ | ⟨rfl, rfl⟩ | ⟨rfl, rfl⟩ | ⟨rfl, rfl⟩ | ⟨rfl, rfl⟩ | ⟨rfl, rfl⟩ | ⟨rfl, rfl⟩ <;>
      simp [skipStrBody]
  · simp [skipStrBody, hex4_hexDigits hc]

theorem skipStrBody_enc : ∀ (s : List Nat) (fuel : Nat) (rest : List Nat), s.length < fuel →
    skipStrBody fuel (s.flatMap escByte ++ 34 :: rest) = some rest := by
  intro s
  induction s with
  | nil =>
    intro fuel rest hf
    cases fuel with
    | zero => simp at hf
    | succ f => simp [skipStrBody]
  | cons b s ih =>
    intro fuel rest hf
    cases fuel with
    | zero => simp at hf
    | succ f =>
      simp only [List.flatMap_cons, List.append_assoc]
      rw [skipStrBody_escByte, ih f rest (by simpa using hf)]

theorem skipFraction_sep {rest : List Nat} (h : sepHead rest) : skipFraction rest = some rest := by
  cases rest with
  | nil => cases h
  | cons c r =>
    simp only [sepHead] at h
    rcases h with h | h <;> subst h <;> simp [skipFraction]

theorem skipNumber_encNat (n : Nat) (rest : List Nat) (hr : sepHead rest) : skipNumber (encNat n ++ rest) = some rest := by
  obtain ⟨d, ds, he, hdig, hz, hds⟩ := encNat_head n
  rw [he]
  simp only [List.cons_append]
  unfold skipNumber
  by_cases h0 : n = 0
  · have hd48 : d = 48 := hz.mpr h0
    have : ds = [] := hds h0
    subst this
    subst hd48
    simp only [List.nil_append, beq_self_eq_true, if_true]
    cases rest with
    | nil => cases hr
    | cons c r =>
      have := (sepHead_nonDigit hr).1
      simp only [nonDigitHead] at this
      simp only [this, Bool.false_eq_true, if_false]
      exact skipFraction_sep hr
  · have hb : (d == 48) = false := by simpa using fun hh => h0 (hz.mp hh)
    simp only [hb, hdig, if_true, Bool.false_eq_true, if_false]
    rw [dropDigits_eq (d - 48), takeDigits_tail he hdig (sepHead_nonDigit hr).1]
    exact skipFraction_sep hr

theorem skipValue_num {fuel n : Nat} {rest : List Nat} (hr : sepHead rest) :
    skipValue (fuel + 1) (32 :: (encNat n ++ rest)) = some rest := by
  obtain ⟨d, ds, he, hdig, _, _⟩ := encNat_head n
  conv => lhs; unfold skipValue
  rw [skipWs_cons_ws (show isWs 32 = true by decide), skipWs_encNat]
  have hsk := skipNumber_encNat n rest hr
  rw [he] at hsk ⊢
  simp only [List.cons_append] at hsk ⊢
  have hd : 48 ≤ d ∧ d ≤ 57 := by unfold isDigit at hdig; simpa using hdig
  have e1 : (d == 110) = false := by simp; omega
  have e2 : (d == 116) = false := by simp; omega
  have e3 : (d == 102) = false := by simp; omega
  have e4 : (d == 45) = false := by simp; omega
  simp only [e1, e2, e3, e4, hdig, Bool.false_eq_true, if_false, if_true]
  exact hsk

theorem skipValue_str {fuel : Nat} {s rest : List Nat} :
    skipValue (fuel + 1) (32 :: (encStr s ++ rest)) = some rest := by
  conv => lhs; unfold skipValue
  rw [skipWs_cons_ws (show isWs 32 = true by decide)]
  unfold encStr
  simp only [List.cons_append, List.append_assoc, List.nil_append]
  rw [skipWs_cons_nonws (show isWs 34 = false by decide)]
  simp only [Nat.reduceBEq, show isDigit 34 = false by decide, Bool.false_eq_true, if_false, if_true]
  exact skipStrBody_enc s _ rest (by
    have := length_le_flatMap_escByte s
    simp only [List.length_append, List.length_cons]
    omega)

theorem member_false (lvl : Nat) (name value : List Nat) :
    member lvl false name value = 44 :: member lvl true name value := by
  simp [member]

/-- one member of a skipped object: after its value the loop goes on at a comma and stops at the
    closing brace -/
theorem skipMembers_head {fuel lvl : Nat} {name value tail : List Nat}
    (hval : skipValue fuel (32 :: (value ++ tail)) = some tail) :
    (∀ r, skipWs tail = 44 :: r → skipMembers (fuel + 1) (member lvl true name value ++ tail) = skipMembers fuel r) ∧
    (∀ r, skipWs tail = 125 :: r → skipMembers (fuel + 1) (member lvl true name value ++ tail) = some r) := by
  simp only [member, if_true, encStr, List.cons_append, List.append_assoc, List.nil_append]
  constructor <;> intro r hr <;> conv => lhs; unfold skipMembers
  all_goals
    rw [skipWs_nl_indent, skipWs_cons_nonws (show isWs 34 = false by decide)]
    simp only
    rw [skipStrBody_enc name _ _ (by
      have := length_le_flatMap_escByte name
      simp only [List.length_append, List.length_cons]
      omega)]
    simp only [skipWs_cons_nonws (show isWs 58 = false by decide), hval, hr]

theorem skipMembers_member {fuel lvl : Nat} {name value rest2 : List Nat}
    (hval : skipValue fuel (32 :: (value ++ 44 :: rest2)) = some (44 :: rest2)) :
    skipMembers (fuel + 1) (member lvl true name value ++ 44 :: rest2) = skipMembers fuel rest2 :=
  (skipMembers_head hval).1 _ (skipWs_cons_nonws (by decide) _)

theorem skipMembers_last {fuel lvl lvl' : Nat} {name value rest : List Nat}
    (hval : skipValue fuel (32 :: (value ++ (closeObj lvl' ++ rest))) = some (closeObj lvl' ++ rest)) :
    skipMembers (fuel + 1) (member lvl true name value ++ (closeObj lvl' ++ rest)) = some rest :=
  (skipMembers_head hval).2 _ (by
    simp only [closeObj, List.cons_append, List.append_assoc, List.nil_append]
    rw [skipWs_nl_indent, skipWs_cons_nonws (show isWs 125 = false by decide)])

/-- an object that starts with a member is not the empty object -/
theorem skipWs_member (lvl : Nat) (name value r : List Nat) : skipWs (member lvl true name value ++ r) =
    34 :: (name.flatMap escByte ++ 34 :: (58 :: 32 :: (value ++ r))) := by
  simp only [member, if_true, encStr, List.cons_append, List.append_assoc, List.nil_append]
  rw [skipWs_nl_indent, skipWs_cons_nonws (show isWs 34 = false by decide)]

theorem skipValue_encChk (fuel lvl : Nat) (c : JChk) (rest : List Nat) (hf : 6 ≤ fuel) :
    skipValue fuel (32 :: (encChk lvl c ++ rest)) = some rest := by
  obtain ⟨f, rfl⟩ : ∃ f, fuel = f + 6 := ⟨fuel - 6, by omega⟩
  conv => lhs; unfold skipValue
  rw [skipWs_cons_ws (show isWs 32 = true by decide)]
  unfold encChk
  simp only [member_false, List.cons_append, List.append_assoc, List.nil_append]
  rw [skipWs_cons_nonws (show isWs 123 = false by decide)]
  simp only [Nat.reduceBEq, show isDigit 123 = false by decide, Bool.false_eq_true, if_false, if_true, skipWs_member]
  refine (skipMembers_member skipValue_str).trans ?_
  refine (skipMembers_member (skipValue_num (by simp [sepHead]))).trans ?_
  refine (skipMembers_member (skipValue_num (by simp [sepHead]))).trans ?_
  exact skipMembers_last (skipValue_num sepHead_closeObj)

theorem skipValue_null (fuel : Nat) (rest : List Nat) :
    skipValue (fuel + 1) (32 :: ([110, 117, 108, 108] ++ rest)) = some rest := by
  conv => lhs; unfold skipValue
  rw [skipWs_cons_ws (show isWs 32 = true by decide)]
  simp only [List.cons_append, List.nil_append]
  rw [skipWs_cons_nonws (show isWs 110 = false by decide)]
  simp [expectBytes]

theorem skipValue_encChkOpt {lvl : Nat} {o : Option JChk} {rest : List Nat} :
    skipValue ((32 :: (encChkOpt lvl o ++ rest)).length + 1) (32 :: (encChkOpt lvl o ++ rest)) = some rest := by
  cases o with
  | none => exact skipValue_null _ rest
  | some c =>
    apply skipValue_encChk
    simp only [encChkOpt, encChk, List.length_cons, List.length_append, length_member]
    omega

/-- a member whose name the reader does not know: the value is skipped, nothing is recorded -/
theorem parseMembers_unknown {fuel : Nat} {sk : SKind} {lvl : Nat} {name value rest : List Nat}
    {vals : List (Nat × FVal)} {r4 : List Nat}
    (hname : validUtf8 (name.length + 1) name = true)
    (hidx : fieldIndex (fieldsOf sk) name = none)
    (hval : skipValue ((32 :: (value ++ rest)).length + 1) (32 :: (value ++ rest)) = some r4) :
    parseMembers (fuel + 1) sk false (member lvl false name value ++ rest) vals = parseMembers fuel sk false r4 vals := by
  have hkey : parseStr (name.flatMap escByte ++ 34 :: (58 :: 32 :: (value ++ rest))) =
      some (name, 58 :: 32 :: (value ++ rest)) := parseStr_enc name _ hname
  simp only [member, Bool.false_eq_true, if_false, encStr, List.append_assoc, List.cons_append, List.nil_append]
  conv => lhs; unfold parseMembers
  rw [skipWs_cons_nonws (show isWs 44 = false by decide)]
  simp only [Nat.reduceBEq, Bool.false_eq_true, if_false, if_true, skipWs_nl_indent, skipWs_cons_nonws (show isWs 34 = false by decide), hkey,
    skipWs_cons_nonws (show isWs 58 = false by decide), hidx, hval]

end ManifestJson
end RedisVerif
