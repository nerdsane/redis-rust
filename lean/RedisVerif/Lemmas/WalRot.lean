import RedisVerif.Lemmas.NMap
import RedisVerif.Lemmas.Wal

/-!
  The control flow of the rotator, walked once.  `WalRotator::append` is made of four things: the closing fsync of the
  old writer (`synced`), a writer dropped without one (`dropped`), the next file created and given its header
  (`opened`: `rotate()` with no writer open), the entry handed to the writer (`entry`).  `truncate_before` is made of
  one: a `delete` call for a file that is not the writer's and was judged deletable.  An invariant says what each of
  these does to it (`Kept`, the hypothesis of `truncate_kept`); `Kept.append` and `truncate_kept` carry it through the
  operations.  `WalRotator::sync` is not walked here: it resets `poisoned`, which the durability invariant does not
  survive with its pending entries (`C09.tick_sync_counterexample`).
-/
namespace RedisVerif.Wal

theorem needsNew_false_cur {r : Rot} (h : r.needsNew = false) : ∃ c, r.cur = some c := by
  unfold Rot.needsNew at h
  cases hc : r.cur with
  | none => rw [hc] at h; cases h
  | some c => exact ⟨c, rfl⟩

theorem close_cur (fix : Bool) (φ : Nat → Outcome) (r : Rot) : (Rot.close fix φ r).cur = none := by
  unfold Rot.close
  cases hc : r.cur with
  | none => exact hc
  | some c => cases fix <;> rfl

theorem close_nocur (fix : Bool) (φ : Nat → Outcome) {r : Rot} (hc : r.cur = none) : Rot.close fix φ r = r := by
  unfold Rot.close
  rw [hc]

theorem rotate_close (fix : Bool) (fmt : Format) (φ : Nat → Outcome) (r : Rot) :
    Rot.rotate fix fmt φ r = Rot.rotate fix fmt φ (Rot.close fix φ r) := by
  unfold Rot.rotate
  rw [close_nocur fix φ (close_cur fix φ r)]

/-- a rotation that reports no error has opened a writer -/
theorem rotate_cur (fix : Bool) (fmt : Format) (φ : Nat → Outcome) (r : Rot) (h : (Rot.rotate fix fmt φ r).2 = none) :
    ∃ c, (Rot.rotate fix fmt φ r).1.cur = some c := by
  revert h
  unfold Rot.rotate
  simp only
  split
  · exact fun h => nomatch h
  · split
    · exact fun h => nomatch h
    · exact fun _ => ⟨_, rfl⟩

variable (fmt : Format) (φ : Nat → Outcome) (G : Entry → Prop)

/-- `I es r`: a property of the rotator `r` when `es` are the entries handed to a writer so far; it survives each
    of the four things `append` is made of, provided the entries handed over satisfy `G` -/
structure Kept (I : List Entry → Rot → Prop) : Prop where
  synced : ∀ {es r c}, r.cur = some c → I es r →
    I es { r with w := (ioSync φ r.w c).1, cur := none, poisoned := r.poisoned || !(ioSync φ r.w c).2 }
  dropped : ∀ {es r}, I es r → I es { r with cur := none, poisoned := true }
  opened : ∀ {es r} fix, r.cur = none → I es r → I es (Rot.rotate fix fmt φ r).1
  entry : ∀ {es r c} e, r.cur = some c → G e → I es r → I (es ++ [e]) (Rot.appendTo φ r e).1

variable {fmt φ G} {I : List Entry → Rot → Prop} {es : List Entry} {r : Rot}

theorem Kept.close (hI : Kept fmt φ G I) (fix : Bool) (h : I es r) : I es (Rot.close fix φ r) := by
  unfold Rot.close
  cases hc : r.cur with
  | none => exact h
  | some c =>
    cases fix with
    | true => exact hI.synced hc h
    | false => exact hI.dropped h

theorem Kept.rotate (hI : Kept fmt φ G I) (fix : Bool) (h : I es r) : I es (Rot.rotate fix fmt φ r).1 := by
  rw [rotate_close]
  exact hI.opened fix (close_cur fix φ r) (hI.close fix h)

/-- `append` hands the entry to a writer, unless the rotation before it failed -/
theorem Kept.append (hI : Kept fmt φ G I) (fix : Bool) (h : I es r) {e : Entry} (he : G e) :
    I (es ++ [e]) (Rot.append fix fmt φ r e).1 ∨
      (I es (Rot.append fix fmt φ r e).1 ∧ (Rot.append fix fmt φ r e).2 ≠ none) := by
  unfold Rot.append
  cases hn : r.needsNew with
  | false =>
    obtain ⟨c, hc⟩ := needsNew_false_cur hn
    exact Or.inl (hI.entry e hc he h)
  | true =>
    have h1 := hI.rotate fix h
    have hc1 := rotate_cur fix fmt φ r
    simp only [if_true]
    cases hr : Rot.rotate fix fmt φ r with
    | mk r1 oe =>
      rw [hr] at h1 hc1
      cases oe with
      | some x => exact Or.inr ⟨h1, fun hx => by cases hx⟩
      | none =>
        obtain ⟨c, hc⟩ := hc1 rfl
        exact Or.inl (hI.entry e hc he h1)

/-! ## `truncate_before` on the live store -/

variable {crc : Bytes → Nat}

theorem get_deleteFile (st : Store) (k k' : Nat) :
    NMap.get (deleteFile st k) k' = if k' = k then none else NMap.get st k' := by
  unfold deleteFile
  induction st with
  | nil => simp [NMap.get]
  | cons p st ih =>
    obtain ⟨kp, vp⟩ := p
    simp only [List.filter_cons]
    by_cases hkp : kp = k
    · subst hkp
      simp only [bne_self_eq_false, Bool.false_eq_true, if_false]
      rw [ih]
      simp only [NMap.get]
      by_cases h : k' = kp
      · simp [h]
      · simp [h]
    · have : (kp != k) = true := by simpa using hkp
      simp only [this, if_true, NMap.get]
      rw [ih]
      by_cases h : k' = kp
      · subst h; simp [hkp]
      · simp [h]

/-- a file still present after a `delete` call was present before -/
theorem get_ioDelete {w : World} {k k' : Nat} {f : File} (h : NMap.get (ioDelete φ w k).1.store k' = some f) :
    NMap.get w.store k' = some f := by
  unfold ioDelete at h
  cases hφ : φ w.io <;> rw [hφ] at h
  · change NMap.get (deleteFile w.store k) k' = some f at h
    rw [get_deleteFile] at h
    split at h
    · cases h
    · exact h
  all_goals exact h

/-- what every `delete` call of `truncate_before(thr)` keeps, the whole operation keeps -/
theorem truncate_kept {J : Rot → Prop} (thr : Nat)
    (hJ : ∀ {r k}, r.cur ≠ some k → (∀ f, NMap.get r.w.store k = some f → deletable fmt crc thr f.data = true) → J r →
      J { r with w := (ioDelete φ r.w k).1 })
    (h : J r) : J (Rot.truncate fmt crc φ thr r) := by
  unfold Rot.truncate
  simp only
  suffices hs : ∀ (vs : List Nat) (w : World), J { r with w := w } →
      (∀ k ∈ vs, r.cur ≠ some k ∧ ∀ f, NMap.get w.store k = some f → deletable fmt crc thr f.data = true) →
      J { r with w := truncLoop φ vs w } by
    refine hs _ r.w h fun k hk => ?_
    have hc := (List.mem_filter.mp hk).2
    simp only [Bool.and_eq_true, bne_iff_ne, ne_eq] at hc
    exact ⟨hc.1, fun f hf => by have := hc.2; rwa [hf] at this⟩
  intro vs
  induction vs with
  | nil => exact fun _ h _ => h
  | cons k rest ih =>
    intro w h hv
    have h1 := hJ (r := { r with w := w }) (hv k (by simp)).1 (hv k (by simp)).2 h
    simp only [truncLoop]
    cases hd : ioDelete φ w k with
    | mk w' ok =>
      rw [hd] at h1
      cases ok with
      | false => exact h1
      | true =>
        refine ih w' h1 fun k' hk' => ⟨(hv k' (List.mem_cons_of_mem _ hk')).1, fun f hf => ?_⟩
        exact (hv k' (List.mem_cons_of_mem _ hk')).2 f (get_ioDelete (φ := φ) (k := k) (by rw [hd]; exact hf))

end RedisVerif.Wal
