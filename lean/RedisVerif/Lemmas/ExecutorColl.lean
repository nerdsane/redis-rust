import RedisVerif.Lemmas.ExecutorClock
import RedisVerif.Model.ExecutorColl
import RedisVerif.Lemmas.RedisSetHash
import RedisVerif.Lemmas.RedisList
import RedisVerif.Lemmas.RedisZSet
import RedisVerif.Lemmas.RedisZOrder

/-! Refinement of the collection commands of `Model.ExecutorColl` to M7: generic layer (store back +
    clean-up = M7's `putList/putSet/putHash/putZ`; create-or-extend after a lazy drop). -/
set_option linter.unusedSimpArgs false

namespace RedisVerif.Executor
open RedisVerif RedisVerif.Redis

/-- M7's `putList` / `putSet` / `putHash` / `putZ` in one shape -/
def putEntry (s : State) (k : Nat) (v : Value) (dl : Option Nat) : State :=
  if isEmptyColl v then NMap.erase k s else NMap.insert k ⟨v, dl⟩ s

theorem putList_eq (s : State) (k : Nat) (l : List BS) (dl : Option Nat) :
    putList s k l dl = putEntry s k (.list l) dl := by cases l <;> rfl
theorem putSet_eq (s : State) (k : Nat) (m : MSet) (dl : Option Nat) :
    putSet s k m dl = putEntry s k (.set m) dl := by cases m <;> rfl
theorem putHash_eq (s : State) (k : Nat) (m : MHash) (dl : Option Nat) :
    putHash s k m dl = putEntry s k (.hash m) dl := by cases m <;> rfl
theorem putZ_eq (s : State) (k : Nat) (z : ZL) (dl : Option Nat) :
    putZ s k z dl = putEntry s k (.zset z) dl := by cases z <;> rfl

/-- inner well-formedness, the part of `ValueOk` that survives emptiness -/
def InnerOk : Value → Prop
  | .set m => NMap.WF m
  | .hash h => NMap.WF h
  | .zset z => ZCanon z
  | _ => True

/-- a value that may be stored: non-empty, inner maps canonical -/
theorem valueOk_of {v : Value} (hne : isEmptyColl v = false) (hi : InnerOk v) : ValueOk v := by
  cases v with
  | str b => trivial
  | list l => cases l with | nil => exact absurd hne (by decide) | cons x xs => exact List.cons_ne_nil _ _
  | set m => cases m with | nil => exact absurd hne (by decide) | cons x xs => exact ⟨List.cons_ne_nil _ _, hi⟩
  | hash m => cases m with | nil => exact absurd hne (by decide) | cons x xs => exact ⟨List.cons_ne_nil _ _, hi⟩
  | zset z => cases z with | nil => exact absurd hne (by decide) | cons x xs => exact ⟨List.cons_ne_nil _ _, hi⟩

theorem innerOk_of_ok {v : Value} (h : ValueOk v) : InnerOk v := by
  cases v <;> simp_all [InnerOk, ValueOk]

/-- store back + clean-up on a key that is present and live: what M7's `putEntry` puts -/
theorem Wrote.putBack {c : CState} (h : CInv c) {k : Nat} (hx : isExpired c k = false) {v : Value}
    (hi : InnerOk v) :
    ∃ e, putEntry (absP c) k v ((NMap.get c.exp k).map (· + c.epoch)) = setAt k e (absP c) ∧
      Wrote c k e (Executor.putBack c k v) := by
  unfold Executor.putBack putEntry
  cases he : isEmptyColl v
  · exact ⟨_, rfl, Wrote.store h hx (valueOk_of he hi)⟩
  · exact ⟨none, rfl, ((At.refl h k).put v).drop.wrote h nofun nofun nofun rfl⟩

theorem putEntry_ok {v : Value} (hv : ValueOk v) (s : State) (k : Nat) (dl : Option Nat) :
    putEntry s k v dl = NMap.insert k ⟨v, dl⟩ s := by
  have : isEmptyColl v = false := by
    cases v with
    | str b => rfl
    | list l => cases l with | nil => exact absurd rfl hv | cons _ _ => rfl
    | set m => cases m with | nil => exact absurd rfl hv.1 | cons _ _ => rfl
    | hash m => cases m with | nil => exact absurd rfl hv.1 | cons _ _ => rfl
    | zset z => cases z with | nil => exact absurd rfl hv.1 | cons _ _ => rfl
  simp only [putEntry, this, Bool.false_eq_true, if_false]

section put
variable {cs c : CState} {k : Nat} {o : Option Value} {f : State → State × Reply} {r : Reply} {v : Value}

/-- `data.insert(k, v)` of a non-empty collection = M7's `putList` / `putSet` / `putHash` / `putZ` -/
theorem After.put (g : After cs k c o) (hv : ValueOk v)
    (hf : f (absP c) = (putEntry (absP c) k v ((NMap.get c.exp k).map (· + c.epoch)), r)) :
    SimF c f ({ c with data := NMap.insert k v c.data }, r) :=
  g.store hv (by rw [hf, putEntry_ok hv])

theorem After.putNew (g : After cs k c none) (hv : ValueOk v)
    (hf : f (absP c) = (putEntry (absP c) k v none, r)) :
    SimF c f ({ c with data := NMap.insert k v c.data }, r) :=
  g.create hv (by rw [hf, putEntry_ok hv])

end put

/-- store back + clean-up: M7's `putList` / `putSet` / `putHash` / `putZ` with the deadline kept -/
theorem After.putBack {cs c : CState} {k : Nat} {w : Value} {f : State → State × Reply} {r : Reply}
    (g : After cs k c (some w)) {v : Value} (hi : InnerOk v)
    (hf : f (absP c) = (putEntry (absP c) k v ((NMap.get c.exp k).map (· + c.epoch)), r)) :
    SimF c f (putBack c k v, r) := by
  obtain ⟨e, he, hw⟩ := Wrote.putBack g.inv g.notExp hi
  exact hw.simF (he ▸ hf)

/-- a command on a list against an M7 function written with the same three arms -/
theorem simF_list {cs : CState} (h : CInv cs) (k : Nat)
    {fN : State → State × Reply} {fF : List BS → Option Nat → State → State × Reply}
    {F : CState → List BS → CState × Reply} {N : CState → CState × Reply}
    (hF : ∀ c x, After cs k c (some (.list x)) →
      SimF c (fF x ((NMap.get c.exp k).map (· + c.epoch))) (F c x))
    (hN : ∀ c, After cs k c none → SimF c fN (N c)) :
    SimF cs (fun s => match lookupList s k with
        | .missing => fN s
        | .wrong => (s, .err .wrongType)
        | .found x dl => fF x dl s)
      (match getValue cs k with
      | (c, some (.list x)) => F c x
      | (c, some _) => (c, wrongType)
      | (c, none) => N c) := by
  have g := after_getValue h k
  rcases hr : getValue cs k with ⟨c, _ | w⟩ <;> rw [hr] at g <;> refine g.simF ?_
  · have := hN c g
    simp only [SimF, lookupList, g.look_none] at this ⊢
    exact this
  · cases w
    case list x =>
      have := hF c x g
      simp only [SimF, lookupList, g.look_some] at this ⊢
      exact this
    all_goals exact g.wrong (by simp only [lookupList, g.look_some])

/-- … and for a set, a hash, a sorted set: one statement each, since each has to unify with the `match` its
    executor functions are written with -/
theorem simF_set {cs : CState} (h : CInv cs) (k : Nat)
    {fN : State → State × Reply} {fF : MSet → Option Nat → State → State × Reply}
    {F : CState → MSet → CState × Reply} {N : CState → CState × Reply}
    (hF : ∀ c x, After cs k c (some (.set x)) →
      SimF c (fF x ((NMap.get c.exp k).map (· + c.epoch))) (F c x))
    (hN : ∀ c, After cs k c none → SimF c fN (N c)) :
    SimF cs (fun s => match lookupSet s k with
        | .missing => fN s
        | .wrong => (s, .err .wrongType)
        | .found x dl => fF x dl s)
      (match getValue cs k with
      | (c, some (.set x)) => F c x
      | (c, some _) => (c, wrongType)
      | (c, none) => N c) := by
  have g := after_getValue h k
  rcases hr : getValue cs k with ⟨c, _ | w⟩ <;> rw [hr] at g <;> refine g.simF ?_
  · have := hN c g
    simp only [SimF, lookupSet, g.look_none] at this ⊢
    exact this
  · cases w
    case set x =>
      have := hF c x g
      simp only [SimF, lookupSet, g.look_some] at this ⊢
      exact this
    all_goals exact g.wrong (by simp only [lookupSet, g.look_some])

theorem simF_hash {cs : CState} (h : CInv cs) (k : Nat)
    {fN : State → State × Reply} {fF : MHash → Option Nat → State → State × Reply}
    {F : CState → MHash → CState × Reply} {N : CState → CState × Reply}
    (hF : ∀ c x, After cs k c (some (.hash x)) →
      SimF c (fF x ((NMap.get c.exp k).map (· + c.epoch))) (F c x))
    (hN : ∀ c, After cs k c none → SimF c fN (N c)) :
    SimF cs (fun s => match lookupHash s k with
        | .missing => fN s
        | .wrong => (s, .err .wrongType)
        | .found x dl => fF x dl s)
      (match getValue cs k with
      | (c, some (.hash x)) => F c x
      | (c, some _) => (c, wrongType)
      | (c, none) => N c) := by
  have g := after_getValue h k
  rcases hr : getValue cs k with ⟨c, _ | w⟩ <;> rw [hr] at g <;> refine g.simF ?_
  · have := hN c g
    simp only [SimF, lookupHash, g.look_none] at this ⊢
    exact this
  · cases w
    case hash x =>
      have := hF c x g
      simp only [SimF, lookupHash, g.look_some] at this ⊢
      exact this
    all_goals exact g.wrong (by simp only [lookupHash, g.look_some])

theorem simF_zset {cs : CState} (h : CInv cs) (k : Nat)
    {fN : State → State × Reply} {fF : ZL → Option Nat → State → State × Reply}
    {F : CState → ZL → CState × Reply} {N : CState → CState × Reply}
    (hF : ∀ c x, After cs k c (some (.zset x)) →
      SimF c (fF x ((NMap.get c.exp k).map (· + c.epoch))) (F c x))
    (hN : ∀ c, After cs k c none → SimF c fN (N c)) :
    SimF cs (fun s => match lookupZ s k with
        | .missing => fN s
        | .wrong => (s, .err .wrongType)
        | .found x dl => fF x dl s)
      (match getValue cs k with
      | (c, some (.zset x)) => F c x
      | (c, some _) => (c, wrongType)
      | (c, none) => N c) := by
  have g := after_getValue h k
  rcases hr : getValue cs k with ⟨c, _ | w⟩ <;> rw [hr] at g <;> refine g.simF ?_
  · have := hN c g
    simp only [SimF, lookupZ, g.look_none] at this ⊢
    exact this
  · cases w
    case zset x =>
      have := hF c x g
      simp only [SimF, lookupZ, g.look_some] at this ⊢
      exact this
    all_goals exact g.wrong (by simp only [lookupZ, g.look_some])

set_option hygiene false in
/-- `ld h k`: the preamble `lazyDrop cs k`; leaves `g : After cs k c (NMap.get c.data k)` and the goal as
    `SimF` from the state `c` it produced -/
macro "ld" h:ident k:ident : tactic => `(tactic| (
  have g := after_lazyDrop $h $k
  generalize lazyDrop _ $k = c at g ⊢
  refine g.simF ?_
  dsimp only))

end RedisVerif.Executor
