import RedisVerif.Model.WalActor
import RedisVerif.Lemmas.WalDurable

/-
  EverySecond / No mode as a view of the Always-mode model: an EverySecond history drives the
  rotator (hence the store, the call trace and every crash image) exactly like the Always-mode
  history in which every tick is a group-commit flush (`Ev.asAlways`); only the acks differ — they
  are sent at once, before any fsync.
-/
namespace RedisVerif
namespace Wal

/-- what the two runs share -/
def SameDisk (a b : Actor) : Prop := a.rot = b.rot ∧ a.esync = b.esync ∧ a.tbound = b.tbound

theorem sameDisk_step (φ : Nat → Outcome) (fmt : Format) (crc : Bytes → Nat) (ae aa : Actor) (ev : Ev)
    (h : SameDisk ae aa) :
    SameDisk (Actor.stepP .everySecond φ fmt crc ae ev) (Actor.step true false φ fmt crc aa ev.asAlways) := by
  obtain ⟨hr, he, ht⟩ := h
  cases ev with
  | write w =>
    simp only [Actor.stepP, Ev.asAlways, Actor.step, Actor.handleWriteNow, Actor.handleWrite, hr]
    cases Rot.append true fmt φ aa.rot (Entry.mk' fmt crc w.data w.ts) with
    | mk r oe => cases oe <;> simp [SameDisk, he, ht]
  | forget w =>
    simp only [Actor.stepP, Ev.asAlways, Actor.step, Actor.handleWriteNow, Actor.handleForget, hr]
    cases Rot.append true fmt φ aa.rot (Entry.mk' fmt crc w.data w.ts) with
    | mk r oe => cases oe <;> simp [SameDisk, he, ht]
  | tick =>
    simp only [Actor.stepP, Ev.asAlways, Actor.step, Actor.tickEverySec, Actor.flush, he, hr]
    split
    · exact ⟨hr, he, ht⟩
    · exact ⟨rfl, rfl, ht⟩
  | truncate T =>
    simp only [Actor.stepP, Ev.asAlways, Actor.step, Actor.handleTruncate, hr, ht]
    exact ⟨rfl, he, rfl⟩
  | flush =>
    simp only [Actor.stepP, Ev.asAlways, Actor.step, Actor.handleTick, Bool.false_and, Bool.false_eq_true, if_false]
    exact ⟨hr, he, ht⟩
  | reopen c r =>
    cases c with
    | true =>
      simp only [Actor.stepP, Ev.asAlways, Actor.step, Actor.reopenNow, Actor.reopen, if_true, hr]
      exact ⟨rfl, rfl, ht⟩
    | false =>
      simp only [Actor.stepP, Ev.asAlways, Actor.step, Actor.reopenNow, Actor.reopen, Bool.false_eq_true, if_false,
        if_true, Actor.tickEverySec, Actor.flush, he, hr]
      split
      · rename_i h0
        refine ⟨?_, ?_, ht⟩
        · show Rot.reopen r ae.rot = Rot.reopen r aa.rot
          rw [hr]
        · exact h0.symm
      · exact ⟨rfl, rfl, ht⟩

theorem sameDisk_foldl (φ : Nat → Outcome) (fmt : Format) (crc : Bytes → Nat) (evs : List Ev) (ae aa : Actor)
    (h : SameDisk ae aa) :
    SameDisk (evs.foldl (Actor.stepP .everySecond φ fmt crc) ae)
      ((evs.map Ev.asAlways).foldl (Actor.step true false φ fmt crc) aa) := by
  induction evs generalizing ae aa with
  | nil => exact h
  | cons ev evs ih =>
    simp only [List.foldl_cons, List.map_cons]
    exact ih _ _ (sameDisk_step φ fmt crc ae aa ev h)

/-- the acks of the two runs: whatever the Always run has pending or has confirmed `Ok` was
    answered `Ok` (early) by the EverySecond run, and every early `Ok` is pending or answered in
    the Always run (its fate is decided by the flush that the next tick is) -/
def AckLink (ae aa : Actor) : Prop :=
  (∀ p ∈ aa.pending, ∃ r' ∈ ae.acks, r'.id = p.1 ∧ r'.entry = p.2 ∧ r'.res = .ok) ∧
  (∀ r ∈ aa.acks, r.res = .ok → ∃ r' ∈ ae.acks, r'.id = r.id ∧ r'.entry = r.entry ∧ r'.res = .ok) ∧
  (∀ r' ∈ ae.acks, r'.res = .ok →
    (r'.id, r'.entry) ∈ aa.pending ∨ ∃ r ∈ aa.acks, r.id = r'.id ∧ r.entry = r'.entry)

/-- the Always run answers everybody waiting (a flush that syncs, a crash): nobody is pending, and whoever was
    now has an answer -/
theorem AckLink.answered {ae aa : Actor} (h : AckLink ae aa) (r : Rot) (res : Ack) : AckLink ae (aa.answered r res) := by
  obtain ⟨h1, h2, h3⟩ := h
  refine ⟨fun p hp => (by cases hp), fun x hx hok => ?_, fun r' hr' hok => Or.inr ?_⟩
  · simp only [Actor.answered, List.mem_append, List.mem_reverse, List.mem_map] at hx
    rcases hx with ⟨p, hp, rfl⟩ | hx
    · exact h1 p hp
    · exact h2 x hx hok
  · rcases h3 r' hr' hok with hp | ⟨x, hx, e⟩
    · exact ⟨_, List.mem_append_left _ (List.mem_reverse.mpr (List.mem_map_of_mem hp)), rfl, rfl⟩
    · exact ⟨x, List.mem_append_right _ hx, e⟩

theorem ackLink_flush (φ : Nat → Outcome) (ae aa : Actor) (h : AckLink ae aa) :
    AckLink ae (Actor.flush true φ aa) := by
  rw [Actor.flush_eq]
  split
  · exact h
  · exact h.answered ..

theorem ackLink_step (φ : Nat → Outcome) (fmt : Format) (crc : Bytes → Nat) (ae aa : Actor) (ev : Ev)
    (hd : SameDisk ae aa) (h : AckLink ae aa) :
    AckLink (Actor.stepP .everySecond φ fmt crc ae ev) (Actor.step true false φ fmt crc aa ev.asAlways) := by
  obtain ⟨hr, he, ht⟩ := hd
  obtain ⟨h1, h2, h3⟩ := h
  cases ev with
  | write w =>
    simp only [Actor.stepP, Ev.asAlways, Actor.step, Actor.handleWriteNow, Actor.handleWrite, hr]
    cases Rot.append true fmt φ aa.rot (Entry.mk' fmt crc w.data w.ts) with
    | mk r oe =>
      cases oe with
      | none =>
        simp only [if_true]
        refine ⟨?_, ?_, ?_⟩
        · intro p hp
          rcases List.mem_append.mp hp with hp | hp
          · obtain ⟨r', hr', e⟩ := h1 p hp
            exact ⟨r', List.mem_cons_of_mem _ hr', e⟩
          · simp only [List.mem_singleton] at hp
            subst hp
            exact ⟨_, List.mem_cons_self, rfl, rfl, rfl⟩
        · intro x hx hok
          obtain ⟨r', hr', e⟩ := h2 x hx hok
          exact ⟨r', List.mem_cons_of_mem _ hr', e⟩
        · intro r' hr' hok
          rcases List.mem_cons.mp hr' with e | hr'
          · subst e
            left; exact List.mem_append_right _ (by simp)
          · rcases h3 r' hr' hok with hp | hx
            · left; exact List.mem_append_left _ hp
            · right; exact hx
      | some x =>
        simp only [if_true]
        refine ⟨?_, ?_, ?_⟩
        · intro p hp
          obtain ⟨r', hr', e⟩ := h1 p hp
          exact ⟨r', List.mem_cons_of_mem _ hr', e⟩
        · intro y hy hok
          rcases List.mem_cons.mp hy with e | hy
          · subst e; cases hok
          · obtain ⟨r', hr', e⟩ := h2 y hy hok
            exact ⟨r', List.mem_cons_of_mem _ hr', e⟩
        · intro r' hr' hok
          rcases List.mem_cons.mp hr' with e | hr'
          · subst e; cases hok
          · rcases h3 r' hr' hok with hp | ⟨y, hy, e⟩
            · left; exact hp
            · right; exact ⟨y, List.mem_cons_of_mem _ hy, e⟩
  | forget w =>
    simp only [Actor.stepP, Ev.asAlways, Actor.step, Actor.handleWriteNow, Actor.handleForget, hr]
    cases Rot.append true fmt φ aa.rot (Entry.mk' fmt crc w.data w.ts) with
    | mk r oe => cases oe <;> exact ⟨h1, h2, h3⟩
  | tick =>
    simp only [Actor.stepP, Ev.asAlways, Actor.step]
    have := ackLink_flush φ ae aa ⟨h1, h2, h3⟩
    unfold Actor.tickEverySec
    split
    · exact this
    · exact this
  | truncate T =>
    simp only [Actor.stepP, Ev.asAlways, Actor.step, Actor.handleTruncate]
    exact ⟨h1, h2, h3⟩
  | flush =>
    simp only [Actor.stepP, Ev.asAlways, Actor.step, Actor.handleTick, Bool.false_and, Bool.false_eq_true, if_false]
    exact ⟨h1, h2, h3⟩
  | reopen c r =>
    cases c with
    | true =>
      exact AckLink.answered ⟨h1, h2, h3⟩ (Rot.reopen r { aa.rot with w := aa.rot.w.push (crashStore aa.rot.w.store) .crash }) (.err .io)
    | false =>
      simp only [Actor.stepP, Ev.asAlways, Actor.step, Actor.reopenNow, Actor.reopen, Bool.false_eq_true, if_false, if_true]
      have := ackLink_flush φ ae aa ⟨h1, h2, h3⟩
      unfold Actor.tickEverySec
      split <;> exact this

theorem link_foldl (φ : Nat → Outcome) (fmt : Format) (crc : Bytes → Nat) (evs : List Ev) (ae aa : Actor)
    (hd : SameDisk ae aa) (hl : AckLink ae aa) :
    AckLink (evs.foldl (Actor.stepP .everySecond φ fmt crc) ae)
        ((evs.map Ev.asAlways).foldl (Actor.step true false φ fmt crc) aa) := by
  induction evs generalizing ae aa with
  | nil => exact hl
  | cons ev evs ih =>
    simp only [List.foldl_cons, List.map_cons]
    exact ih _ _ (sameDisk_step φ fmt crc ae aa ev hd) (ackLink_step φ fmt crc ae aa ev hd hl)

theorem link_init (maxSize : Nat) : SameDisk (Actor.init maxSize) (Actor.init maxSize) ∧
    AckLink (Actor.init maxSize) (Actor.init maxSize) :=
  ⟨⟨rfl, rfl, rfl⟩, ⟨fun _ h => (by cases h), fun _ h => (by cases h), fun _ h => (by cases h)⟩⟩

theorem asAlways_ok (fmt : Format) (crc : Bytes → Nat) (ev : Ev) (h : ev.Ok fmt crc) : ev.asAlways.Ok fmt crc := by
  cases ev <;> simp_all [Ev.asAlways, Ev.Ok]

/-! ### No mode: the rotator is driven like by the Always history without any flush -/

/-- the two actors have the same rotator (hence the same disk) and the same truncation bound -/
def SameRot (a b : Actor) : Prop := a.rot = b.rot ∧ a.tbound = b.tbound

theorem stepP_now_ids (p : Policy) (hp : p ≠ .always) (φ : Nat → Outcome) (fmt : Format) (crc : Bytes → Nat) (a : Actor) (ev : Ev)
    (hpend : a.pending = []) :
    (Actor.stepP p φ fmt crc a ev).pending = [] ∧
    (Actor.stepP p φ fmt crc a ev).acks.map (·.id) = ev.ids.reverse ++ a.acks.map (·.id) := by
  cases p with
  | always => exact absurd rfl hp
  | everySecond =>
    cases ev with
    | write w =>
      simp only [Actor.stepP, Actor.handleWriteNow, Ev.ids]
      cases Rot.append true fmt φ a.rot (Entry.mk' fmt crc w.data w.ts) with
      | mk r oe => cases oe <;> simp [hpend]
    | forget w =>
      simp only [Actor.stepP, Actor.handleWriteNow, Ev.ids]
      cases Rot.append true fmt φ a.rot (Entry.mk' fmt crc w.data w.ts) with
      | mk r oe => cases oe <;> simp [hpend]
    | tick => simp only [Actor.stepP, Actor.tickEverySec, Ev.ids]; split <;> simp [hpend]
    | truncate T => simp [Actor.stepP, Actor.handleTruncate, Ev.ids, hpend]
    | flush => simp [Actor.stepP, Ev.ids, hpend]
    | reopen c r =>
      cases c
      · simp only [Actor.stepP, Actor.reopenNow, Bool.false_eq_true, if_false, if_true, Actor.tickEverySec, Ev.ids]
        split <;> simp [hpend]
      · simp [Actor.stepP, Actor.reopenNow, Ev.ids]
  | no =>
    cases ev with
    | write w =>
      simp only [Actor.stepP, Actor.handleWriteNow, Ev.ids]
      cases Rot.append true fmt φ a.rot (Entry.mk' fmt crc w.data w.ts) with
      | mk r oe => cases oe <;> simp [hpend]
    | forget w =>
      simp only [Actor.stepP, Actor.handleWriteNow, Ev.ids]
      cases Rot.append true fmt φ a.rot (Entry.mk' fmt crc w.data w.ts) with
      | mk r oe => cases oe <;> simp [hpend]
    | tick => simp [Actor.stepP, Ev.ids, hpend]
    | truncate T => simp [Actor.stepP, Actor.handleTruncate, Ev.ids, hpend]
    | flush => simp [Actor.stepP, Ev.ids, hpend]
    | reopen c r =>
      cases c
      · simp [Actor.stepP, Actor.reopenNow, Ev.ids, hpend]
      · simp [Actor.stepP, Actor.reopenNow, Ev.ids]

theorem runP_now_ids (p : Policy) (hp : p ≠ .always) (φ : Nat → Outcome) (fmt : Format) (crc : Bytes → Nat) (evs : List Ev) (a : Actor)
    (hpend : a.pending = []) :
    (evs.foldl (Actor.stepP p φ fmt crc) a).pending = [] ∧
    (evs.foldl (Actor.stepP p φ fmt crc) a).acks.map (·.id) = (evs.flatMap Ev.ids).reverse ++ a.acks.map (·.id) := by
  induction evs generalizing a with
  | nil => simp [hpend]
  | cons ev evs ih =>
    obtain ⟨h1, h2⟩ := stepP_now_ids p hp φ fmt crc a ev hpend
    obtain ⟨i1, i2⟩ := ih _ h1
    simp only [List.foldl_cons]
    refine ⟨i1, ?_⟩
    rw [i2, h2]
    simp [List.flatMap_cons, List.reverse_append, List.append_assoc]


/-! ### the burst schedule preserves the actor invariant -/

def Msg.Ok (fmt : Format) (crc : Bytes → Nat) : Msg → Prop
  | .ev e => e.Ok fmt crc
  | _ => True

theorem held_sched_step {fmt : Format} {crc : Bytes → Nat} (maxEntries : Nat) (φ : Nat → Outcome) (s : Sched) (m : Msg)
    (h : Held fmt crc s.a) (hm : m.Ok fmt crc) : Held fmt crc (Sched.step maxEntries φ fmt crc s m).a := by
  unfold Sched.step
  split
  · exact h
  · cases m with
    | shutdown =>
      simp only
      split <;> exact held_flush φ h
    | noop =>
      simp only
      split
      · exact held_flush φ h
      · split <;> exact h
    | ev e =>
      have h1 := held_step true φ h e hm (Or.inl rfl)
      simp only
      split
      · exact held_flush φ h1
      · split <;> exact h1

theorem held_runBursts {fmt : Format} {crc : Bytes → Nat} (maxEntries : Nat) (φ : Nat → Outcome) (bs : List (List Msg)) (s : Sched)
    (h : Held fmt crc s.a) (hb : ∀ g ∈ bs, ∀ m ∈ g, m.Ok fmt crc) :
    Held fmt crc (Sched.runBursts maxEntries φ fmt crc s bs).a := by
  unfold Sched.runBursts
  induction bs generalizing s with
  | nil => exact h
  | cons g bs ih =>
    simp only [List.foldl_cons]
    apply ih _ _ (fun x hx => hb x (by simp [hx]))
    -- the messages of the burst, then the flush when the mailbox runs empty
    have hg : ∀ (g : List Msg) (s : Sched), Held fmt crc s.a → (∀ m ∈ g, m.Ok fmt crc) →
        Held fmt crc (g.foldl (Sched.step maxEntries φ fmt crc) s).a := by
      intro g
      induction g with
      | nil => exact fun _ h _ => h
      | cons m g ih' =>
        intro s h hm
        exact ih' _ (held_sched_step maxEntries φ s m h (hm m (by simp))) (fun x hx => hm x (by simp [hx]))
    have := hg g s h (hb g (by simp))
    unfold Sched.endBurst
    split
    · exact held_flush φ this
    · exact this

end Wal
end RedisVerif
