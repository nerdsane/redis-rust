import RedisVerif.Lemmas.Redis

/-! Strings / counters / keys / expiry: the reading commands return the state they were given. -/
namespace RedisVerif.Redis
open RedisVerif

theorem execGet_ro (s : State) (k : Nat) : (execGet s k).1 = s := by
  unfold execGet; split <;> rfl

theorem oldStrReply_not_err (s : State) (k : Nat) : (oldStrReply s k).isError = false := by
  unfold oldStrReply; split <;> rfl

theorem execStrLen_ro (s : State) (k : Nat) : (execStrLen s k).1 = s := by
  unfold execStrLen; split <;> rfl

theorem execMGet_ro (s : State) (ks : List Nat) : (execMGet s ks).1 = s := rfl

theorem execGetRange_ro (s : State) (k : Nat) (a b : Int) : (execGetRange s k a b).1 = s := by
  unfold execGetRange; split <;> rfl

theorem execExists_ro (s : State) (ks : List Nat) : (execExists s ks).1 = s := rfl

theorem execType_ro (s : State) (k : Nat) : (execType s k).1 = s := by
  unfold execType; split <;> rfl

theorem execKeys_ro (s : State) : (execKeys s).1 = s := rfl
theorem execDbSize_ro (s : State) : (execDbSize s).1 = s := rfl

theorem execRandomKey_ro (s : State) (c : Option Nat) : (execRandomKey s c).1 = s := by
  unfold execRandomKey
  split
  · rfl
  · split
    · rfl
    · split <;> rfl

end RedisVerif.Redis
