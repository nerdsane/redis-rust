import RedisVerif.Lemmas.ExecutorList

/-! Refinement of the set / hash / sorted-set commands of `Model.ExecutorColl` to M7. -/
set_option linter.unusedSimpArgs false

namespace RedisVerif.Executor
open RedisVerif RedisVerif.Redis


theorem cSAdd_sim {cs : CState} (h : CInv cs) (k : Nat) (ms : List Nat) (hms : ms ≠ []) :
    Sim cs (.sadd k ms) (cSAdd cs k ms) := by
  show SimF cs (fun s => execSAdd s k ms) _
  unfold cSAdd
  ld h k
  -- `execSAdd` begins with a `match` on the argument list, as `execPush` does
  obtain ⟨m0, ms0, rfl⟩ : ∃ a b, ms = a :: b := by
    cases ms with | nil => exact absurd rfl hms | cons a b => exact ⟨a, b, rfl⟩
  rcases ho : NMap.get c.data k with _ | w <;> rw [ho] at g
  · have hne := saddAll_ne_nil (m0 :: ms0) [] (Or.inr hms)
    exact g.putNew (v := .set (saddAll [] (m0 :: ms0)).1) ⟨hne, wf_saddAll NMap.wf_nil _⟩ (by
      simp only [execSAdd, lookupSet, g.look_none, putSet_eq])
  · cases w
    case set m =>
      have hm : ValueOk (.set m) := valueOk_get g.inv ho
      have hne := saddAll_ne_nil (m0 :: ms0) m (Or.inl hm.1)
      exact g.put (v := .set (saddAll m (m0 :: ms0)).1) ⟨hne, wf_saddAll hm.2 _⟩ (by
        simp only [execSAdd, lookupSet, g.look_some, putSet_eq])
    all_goals exact g.wrong (by simp only [execSAdd, lookupSet, g.look_some])

theorem cSRem_sim {cs : CState} (h : CInv cs) (k : Nat) (ms : List Nat) :
    Sim cs (.srem k ms) (cSRem cs k ms) :=
  simF_set h k
    (fun _ m g => g.putBack (v := .set (sremAll m ms).1)
      (wf_sremAll (valueOk_get g.inv g.val : ValueOk (.set m)).2 ms) (by rw [putSet_eq]))
    (fun _ g => g.keep rfl)

theorem cSMembers_sim {cs : CState} (h : CInv cs) (k : Nat) : Sim cs (.smembers k) (cSMembers cs k) :=
  simF_set h k (fun _ _ g => g.keep rfl) (fun _ g => g.keep rfl)

theorem cSIsMember_sim {cs : CState} (h : CInv cs) (k x : Nat) : Sim cs (.sismember k x) (cSIsMember cs k x) :=
  simF_set h k (fun _ _ g => g.keep rfl) (fun _ g => g.keep rfl)

theorem cSCard_sim {cs : CState} (h : CInv cs) (k : Nat) : Sim cs (.scard k) (cSCard cs k) :=
  simF_set h k (fun _ _ g => g.keep rfl) (fun _ g => g.keep rfl)

theorem cSPop1_sim {cs : CState} (h : CInv cs) (k : Nat) (ch : List Nat) :
    Sim cs (.spop k none ch) (cSPop1 cs k ch) :=
  simF_set h k
    (fun c m g => by
      have hm : ValueOk (.set m) := valueOk_get g.inv g.val
      cases m with
      | nil => exact absurd rfl hm.1
      | cons p rest =>
        have tl : ∀ {f}, f (absP c) = _ → SimF c f (putBack c k (.set rest), .key p.1) :=
          g.putBack (v := .set rest) (NMap.wf_tail hm.2)
        rcases ch with _ | ⟨x, _ | ⟨y, ys⟩⟩ <;> dsimp only
        · exact tl (by rw [putSet_eq])
        · split
          · exact g.putBack (v := .set (NMap.erase x (p :: rest))) (NMap.wf_erase hm.2) (by rw [putSet_eq])
          · exact tl (by rw [putSet_eq])
        · exact tl (by rw [putSet_eq]))
    (fun _ g => g.keep rfl)

theorem cSPopN_sim {cs : CState} (h : CInv cs) (k n : Nat) (ch : List Nat) :
    Sim cs (.spop k (some n) ch) (cSPopN cs k n ch) :=
  simF_set h k
    (fun c m g => by
      have hm : ValueOk (.set m) := valueOk_get g.inv g.val
      have dflt : ∀ {f}, f (absP c) = _ → SimF c f (putBack c k (.set (m.drop (min n m.length))),
          .arr ((m.take (min n m.length)).map (fun p => Elem.key p.1))) :=
        g.putBack (v := .set (m.drop (min n m.length))) (NMap.wf_drop hm.2 _)
      dsimp only
      split
      · cases hrc : removeChosen m ch with
        | none => exact dflt (by simp only [putSet_eq])
        | some m' => exact g.putBack (v := .set m') (wf_removeChosen hm.2 hrc) (by simp only [putSet_eq])
      · exact dflt (by rw [putSet_eq]))
    (fun _ g => g.keep rfl)


theorem cHSet_sim {cs : CState} (h : CInv cs) (k : Nat) (fvs : List (Nat × BS)) (hfv : fvs ≠ []) :
    Sim cs (.hset k fvs) (cHSet cs k fvs) := by
  show SimF cs (fun s => execHSet s k fvs) _
  unfold cHSet
  ld h k
  -- `execHSet` begins with a `match` on the argument list, as `execPush` does
  obtain ⟨p0, ps0, rfl⟩ : ∃ a b, fvs = a :: b := by
    cases fvs with | nil => exact absurd rfl hfv | cons a b => exact ⟨a, b, rfl⟩
  rcases ho : NMap.get c.data k with _ | w <;> rw [ho] at g
  · have hne := hsetAll_ne_nil (p0 :: ps0) [] (Or.inr hfv)
    exact g.putNew (v := .hash (hsetAll [] (p0 :: ps0)).1) ⟨hne, wf_hsetAll NMap.wf_nil _⟩ (by
      simp only [execHSet, lookupHash, g.look_none, putHash_eq])
  · cases w
    case hash m =>
      have hm : ValueOk (.hash m) := valueOk_get g.inv ho
      have hne := hsetAll_ne_nil (p0 :: ps0) m (Or.inl hm.1)
      exact g.put (v := .hash (hsetAll m (p0 :: ps0)).1) ⟨hne, wf_hsetAll hm.2 _⟩ (by
        simp only [execHSet, lookupHash, g.look_some, putHash_eq])
    all_goals exact g.wrong (by simp only [execHSet, lookupHash, g.look_some])

theorem cHDel_sim {cs : CState} (h : CInv cs) (k : Nat) (fs : List Nat) :
    Sim cs (.hdel k fs) (cHDel cs k fs) :=
  simF_hash h k
    (fun _ m g => g.putBack (v := .hash (hdelAll m fs).1)
      (wf_hdelAll (valueOk_get g.inv g.val : ValueOk (.hash m)).2 fs) (by rw [putHash_eq]))
    (fun _ g => g.keep rfl)

theorem cHGet_sim {cs : CState} (h : CInv cs) (k f : Nat) : Sim cs (.hget k f) (cHGet cs k f) :=
  simF_hash h k
    (fun _ m g => by cases hf : NMap.get m f <;> simp only [hf] <;> exact g.keep rfl)
    (fun _ g => g.keep rfl)

/-- the five read commands of a hash -/
theorem hashRead_sim {cs : CState} (h : CInv cs) (k : Nat) (f : MHash → Reply) (dflt : Reply) :
    SimF cs (fun s => match lookupHash s k with
      | .missing => (s, dflt)
      | .wrong => (s, .err .wrongType)
      | .found m _ => (s, f m)) (hashRead cs k f dflt) :=
  simF_hash h k (fun _ _ g => g.keep rfl) (fun _ g => g.keep rfl)

theorem cHGetAll_sim {cs : CState} (h : CInv cs) (k : Nat) : Sim cs (.hgetall k) (cHGetAll cs k) :=
  hashRead_sim h k _ _
theorem cHKeys_sim {cs : CState} (h : CInv cs) (k : Nat) : Sim cs (.hkeys k) (cHKeys cs k) :=
  hashRead_sim h k _ _
theorem cHVals_sim {cs : CState} (h : CInv cs) (k : Nat) : Sim cs (.hvals k) (cHVals cs k) :=
  hashRead_sim h k _ _
theorem cHLen_sim {cs : CState} (h : CInv cs) (k : Nat) : Sim cs (.hlen k) (cHLen cs k) :=
  hashRead_sim h k _ _
theorem cHExists_sim {cs : CState} (h : CInv cs) (k f : Nat) : Sim cs (.hexists k f) (cHExists cs k f) :=
  hashRead_sim h k _ _

theorem cHIncrBy_sim {cs : CState} (h : CInv cs) (k f : Nat) (d : Int) (hd : I64 d) :
    Sim cs (.hincrby k f d) (cHIncrBy cs k f d) := by
  show SimF cs (fun s => execHIncrBy s k f d) _
  unfold cHIncrBy
  ld h k
  rcases ho : NMap.get c.data k with _ | w <;> rw [ho] at g
  · have hin : inI64 d = true := (inI64_iff d).mpr hd
    have hne := NMap.insert_ne_nil f (showInt d) ([] : MHash)
    simp only [checkedAdd_eq, Int.zero_add, hin, if_true]
    exact g.putNew (v := .hash (NMap.insert f (showInt d) [])) ⟨hne, NMap.wf_insert NMap.wf_nil⟩ (by
      simp only [execHIncrBy, lookupHash, g.look_none, putHash_eq])
  · cases w
    case hash m =>
      have hm : ValueOk (.hash m) := valueOk_get g.inv ho
      cases hf : hfieldInt m f <;> simp only [hf, checkedAdd_eq]
      · exact g.keep (by simp only [execHIncrBy, lookupHash, g.look_some, hf])
      · rename_i cur
        by_cases hi : inI64 (cur + d) = true
        · have hne := NMap.insert_ne_nil f (showInt (cur + d)) m
          simp only [hi, if_true]
          exact g.put (v := .hash (NMap.insert f (showInt (cur + d)) m)) ⟨hne, NMap.wf_insert hm.2⟩ (by
            simp only [execHIncrBy, lookupHash, g.look_some, hf, hi, if_true, putHash_eq])
        · simp only [hi]
          exact g.keep (by simp only [execHIncrBy, lookupHash, g.look_some, hf, hi]; rfl)
    all_goals exact g.wrong (by simp only [execHIncrBy, lookupHash, g.look_some])


theorem cZAdd_sim {cs : CState} (h : CInv cs) (k : Nat) (f : ZFlags) (ps : List (BS × Score))
    (hps : ps ≠ []) (hf : zflagsCompatible f = true) :
    Sim cs (.zadd k f ps) (cZAdd cs k f ps) := by
  show SimF cs (fun s => execZAdd s k f ps) _
  unfold cZAdd
  ld h k
  -- `execZAdd` begins with a `match` on the argument list, as `execPush` does
  obtain ⟨p0, ps0, rfl⟩ : ∃ a b, ps = a :: b := by
    cases ps with | nil => exact absurd rfl hps | cons a b => exact ⟨a, b, rfl⟩
  rcases ho : NMap.get c.data k with _ | w <;> rw [ho] at g
  · simp only [Option.isSome_none, Bool.not_false, Bool.and_true]
    by_cases hx : f.xx = true
    · simp only [hx, if_true]
      exact g.keep (by simp only [execZAdd, hf, lookupZ, g.look_none, hx]; rfl)
    · rw [Bool.not_eq_true] at hx
      have hne := zaddAll_ne_nil f (p0 :: ps0) [] (Or.inr ⟨hx, hps⟩)
      simp only [hx, Bool.false_eq_true, if_false]
      exact g.putNew (v := .zset (zaddAll f [] (p0 :: ps0)).1) ⟨hne, canon_zaddAll canon_nil _⟩ (by
        simp only [execZAdd, hf, lookupZ, g.look_none, hx, putZ_eq]; rfl)
  · simp only [Option.isSome_some, Bool.not_true, Bool.and_false, Bool.false_eq_true, if_false]
    cases w
    case zset z =>
      have hz : ValueOk (.zset z) := valueOk_get g.inv ho
      have hne := zaddAll_ne_nil f (p0 :: ps0) z (Or.inl hz.1)
      exact g.put (v := .zset (zaddAll f z (p0 :: ps0)).1) ⟨hne, canon_zaddAll hz.2 _⟩ (by
        simp only [execZAdd, hf, lookupZ, g.look_some, putZ_eq]; rfl)
    all_goals exact g.wrong (by simp only [execZAdd, hf, lookupZ, g.look_some]; rfl)

theorem cZRem_sim {cs : CState} (h : CInv cs) (k : Nat) (ms : List BS) :
    Sim cs (.zrem k ms) (cZRem cs k ms) :=
  simF_zset h k
    (fun _ z g => g.putBack (v := .zset (zremAll z ms).1)
      (canon_zremAll (valueOk_get g.inv g.val : ValueOk (.zset z)).2 ms) (by rw [putZ_eq]))
    (fun _ g => g.keep rfl)

/-- the read commands of a sorted set -/
theorem zsetRead_sim {cs : CState} (h : CInv cs) (k : Nat) (f : ZL → Reply) (dflt : Reply) :
    SimF cs (fun s => match lookupZ s k with
      | .missing => (s, dflt)
      | .wrong => (s, .err .wrongType)
      | .found z _ => (s, f z)) (zsetRead cs k f dflt) :=
  simF_zset h k (fun _ _ g => g.keep rfl) (fun _ g => g.keep rfl)

theorem cZRange_sim {cs : CState} (h : CInv cs) (k : Nat) (a b : Int) (ws rev : Bool) :
    SimF cs (fun s => execZRange s k a b ws rev) (cZRange cs k a b ws rev) :=
  simF_congr (fun s => by unfold execZRange; cases lookupZ s k <;> rfl) (zsetRead_sim h k _ _)

theorem cZScore_sim {cs : CState} (h : CInv cs) (k : Nat) (m : BS) : Sim cs (.zscore k m) (cZScore cs k m) :=
  simF_congr (fun s => by
    simp only [exec, execZScore]
    cases lookupZ s k with
    | found z dl => simp only []; cases zScore z m <;> rfl
    | _ => rfl) (zsetRead_sim h k _ _)

theorem cZRank_sim {cs : CState} (h : CInv cs) (k : Nat) (m : BS) : Sim cs (.zrank k m) (cZRank cs k m) :=
  simF_congr (fun s => by
    simp only [exec, execZRank]
    cases lookupZ s k with
    | found z dl => simp only []; cases zRankAux z m 0 <;> rfl
    | _ => rfl) (zsetRead_sim h k _ _)

theorem cZCard_sim {cs : CState} (h : CInv cs) (k : Nat) : Sim cs (.zcard k) (cZCard cs k) :=
  simF_congr (fun s => by simp only [exec, execZCard]; cases lookupZ s k <;> rfl) (zsetRead_sim h k _ _)

theorem cZCount_sim {cs : CState} (h : CInv cs) (k : Nat) (lo hi : Option Bound) :
    Sim cs (.zcount k lo hi) (cZCount cs k lo hi) := by
  unfold cZCount
  cases lo with
  | none => exact simF_refl h (by simp only [exec, execZCount])
  | some lo =>
    cases hi with
    | none => exact simF_refl h (by simp only [exec, execZCount])
    | some hi =>
      exact simF_congr (fun s => by simp only [exec, execZCount]; cases lookupZ s k <;> rfl)
        (zsetRead_sim h k _ _)

theorem cZRangeByScore_sim {cs : CState} (h : CInv cs) (k : Nat) (lo hi : Option Bound) (ws : Bool)
    (lim : Option (Int × Nat)) :
    Sim cs (.zrangebyscore k lo hi ws lim) (cZRangeByScore cs k lo hi ws lim) := by
  unfold cZRangeByScore
  cases lo with
  | none => exact simF_refl h (by simp only [exec, execZRangeByScore])
  | some lo =>
    cases hi with
    | none =>
      exact simF_refl h (by simp only [exec, execZRangeByScore])
    | some hi =>
      exact simF_congr (fun s => by simp only [exec, execZRangeByScore]; cases lookupZ s k <;> rfl)
        (zsetRead_sim h k _ _)

end RedisVerif.Executor
