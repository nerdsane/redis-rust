import RedisVerif.Model.RedisX
import RedisVerif.Lemmas.RedisStep

/-! The commands outside `Cmd` (`Model/RedisX.lean`): SETBIT / GETBIT / BatchSet / BatchGet / KEYS pattern keep
    the invariant, write nothing when they fail or are read-only; the bit arithmetic of SETBIT; `globFuel` on the
    pattern `*` and on patterns without a special byte. -/
namespace RedisVerif.RedisX
open RedisVerif RedisVerif.Redis

theorem execGetBit_ro (s : State) (k off : Nat) : (execGetBit s k off).1 = s := by
  unfold execGetBit
  split
  · rfl
  · split
    · rfl
    · rfl
    · split <;> rfl

theorem sound_execSetBit {p : Prop} (k off bit : Nat) : Sound p [k] (fun s => execSetBit s k off bit) :=
  .ite .keep (.strCases' .keep (.write (.put _ .skip)) fun _ _ => .write (.put _ .skip))

theorem safe_execX {s : State} (c : XCmd) : Safe s (execX s c) := by
  cases c
  case setbit k off bit => exact (sound_execSetBit k off bit).safe s
  case getbit k off => exact .keep (execGetBit_ro ..)
  case batchset kvs => exact safe_exec 0 (.mset kvs)
  case batchget ks => exact .keep
  case keys pat => exact .keep

theorem inv_execX {s : State} (h : Inv s) (c : XCmd) : Inv (execX s c).1 := (safe_execX c).inv h

theorem execX_err {s : State} {c : XCmd} (he : (execX s c).2.isError = true) : (execX s c).1 = s :=
  (safe_execX c).err he

theorem execX_ro {s : State} {c : XCmd} (hr : isReadOnlyX c = true) : (execX s c).1 = s := by
  cases c <;> try cases hr
  case getbit k off => exact execGetBit_ro ..
  case keys pat => rfl

theorem testBit_splice (x n a m : Nat) :
    (2 ^ n * a + x % 2 ^ n).testBit m = if m < n then x.testBit m else a.testBit (m - n) := by
  rw [Nat.testBit_two_pow_mul_add a (Nat.mod_lt _ (Nat.two_pow_pos n))]
  split
  · rw [Nat.testBit_mod_two_pow]; simp [*]
  · rfl

/-- `withBit x i bit` replaces the quotient `a = x / 2^(7-i)` by one with last bit `bit` and the same
    higher bits -/
theorem withBit_eq (x i bit : Nat) (hb : bit < 2) :
    ∃ a, withBit x i bit = 2 ^ (7 - i) * a + x % 2 ^ (7 - i) ∧ a % 2 = bit ∧
      a / 2 = x / 2 ^ (7 - i) / 2 := by
  unfold withBit bitOf
  have hx := Nat.div_add_mod x (2 ^ (7 - i))
  generalize 2 ^ (7 - i) = p at *
  generalize x / p = a at *
  generalize x % p = r at *
  split
  · exact ⟨a, hx.symm, ‹_›, rfl⟩
  · split
    · refine ⟨a + 1, ?_, by omega⟩
      rw [Nat.mul_succ]; omega
    · obtain ⟨b, rfl⟩ : ∃ b, a = b + 1 := ⟨a - 1, by omega⟩
      refine ⟨b, ?_, by omega⟩
      rw [Nat.mul_succ] at hx; omega

theorem bitOf_withBit (x i j bit : Nat) (hi : i ≤ 7) (hj : j ≤ 7) (hb : bit < 2) :
    bitOf (withBit x i bit) j = if j = i then bit else bitOf x j := by
  obtain ⟨a, e, h1, h2⟩ := withBit_eq x i bit hb
  simp only [bitOf, ← Nat.toNat_testBit, e, testBit_splice]
  by_cases h : j = i
  · subst h
    simp only [Nat.lt_irrefl, if_false, Nat.sub_self, if_true, Nat.toNat_testBit, Nat.pow_zero,
      Nat.div_one, h1]
  · rw [if_neg h]
    split
    · rfl
    · obtain ⟨k, hk⟩ : ∃ k, 7 - j - (7 - i) = k + 1 := ⟨i - j - 1, by omega⟩
      rw [hk, Nat.testBit_succ, h2, ← Nat.testBit_succ, Nat.testBit_div_two_pow]
      congr 2; omega

theorem bit_roundtrip : ∀ (b : Fin 256) (i : Fin 8) (bit : Fin 2),
    bitOf (withBit b.val i.val bit.val) i.val = bit.val := fun b i bit => by
  rw [bitOf_withBit _ _ _ _ (by omega) (by omega) bit.isLt, if_pos rfl]

theorem bit_others_kept : ∀ (b : Fin 256) (i j : Fin 8) (bit : Fin 2), j ≠ i →
    bitOf (withBit b.val i.val bit.val) j.val = bitOf b.val j.val := fun b i j bit h => by
  rw [bitOf_withBit _ _ _ _ (by omega) (by omega) bit.isLt, if_neg (fun e => h (Fin.ext e))]

theorem globFuel_star_all : ∀ (s : BS) (n : Nat), s.length + 2 ≤ n → globFuel n [42] s = true
  | [], n, h => by
    obtain ⟨m, rfl⟩ : ∃ m, n = m + 2 := ⟨n - 2, by omega⟩
    simp [globFuel]
  | c :: s', n, h => by
    obtain ⟨m, rfl⟩ : ∃ m, n = m + 1 := ⟨n - 1, by simp at h; omega⟩
    simp only [globFuel]
    rw [globFuel_star_all s' m (by simp at h; omega)]
    simp

/-- not one of the bytes `glob_match` treats specially: `*` `?` `[` `\` -/
def plainByte (x : Nat) : Prop := x ≠ 42 ∧ x ≠ 63 ∧ x ≠ 91 ∧ x ≠ 92

theorem globFuel_plain_cons {x : Nat} (hx : plainByte x) (n : Nat) (p s : BS) :
    globFuel (n + 1) (x :: p) s = (s.head? == some x && globFuel n p s.tail) := by
  obtain ⟨h1, h2, h3, h4⟩ := hx
  -- `hx` refutes the four arms for a special first pattern byte; the literal arm is what is left
  cases s <;> (conv => lhs; unfold globFuel) <;> split <;> simp_all

theorem globFuel_plain : ∀ (p s : BS) (n : Nat), (∀ x ∈ p, plainByte x) → p.length + 1 ≤ n →
    globFuel n p s = decide (p = s)
  | [], s, n + 1, _, _ => by cases s <;> simp [globFuel]
  | x :: p, s, n + 1, hp, h => by
    rw [globFuel_plain_cons (hp x (.head _)),
      globFuel_plain p s.tail n (fun y hy => hp y (.tail _ hy)) (by simp at h; omega)]
    cases s with
    | nil => simp
    | cons c s' =>
      by_cases hc : c = x
      · simp [hc]
      · have : ¬ x = c := fun e => hc e.symm
        simp [hc, this]
end RedisVerif.RedisX
