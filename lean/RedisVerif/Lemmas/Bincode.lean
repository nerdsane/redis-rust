import RedisVerif.Model.Bincode
import RedisVerif.Lemmas.Wal
import RedisVerif.Lemmas.Codec

/-
  Laws of the bincode codecs (`Model/Bincode.lean`), proved combinator by combinator:
  `rt`     — decoding an encoded representable value followed by ANY bytes gives the value back
             and leaves exactly those bytes;
  `exact`  — whatever the decoder accepts is, byte for byte, the encoding of the value it returns
             followed by the rest it returns (so the decoder never over-reads, accepts no second
             spelling of a value, and the returned value is representable);
  `cells_lt` — the heap cells of a value are fewer than the bytes of its encoding (so what a
             decoder materialises is bounded by the bytes it consumes);
  `enc_bytes` — the encoding of a representable value consists of bytes (`< 256`).
-/
namespace RedisVerif
namespace Bincode

open Wal (le leVal le_length leVal_le leVal_lt)

structure Lawful {α : Type} (c : Codec α) : Prop where
  rt : ∀ a rest, c.ok a → c.dec (c.enc a ++ rest) = some (a, rest)
  exact : ∀ bs a rest, c.dec bs = some (a, rest) → bs = c.enc a ++ rest ∧ c.ok a
  cells_lt : ∀ a, c.cells a < (c.enc a).length
  enc_bytes : ∀ a, c.ok a → allBytes (c.enc a) = true

theorem allBytes_iff (bs : Bytes) : allBytes bs = true ↔ ∀ b ∈ bs, b < 256 := by
  simp [allBytes, List.all_eq_true]

theorem allBytes_le (k v : Nat) : allBytes (le k v) = true := by
  rw [allBytes_iff]
  induction k generalizing v with
  | zero => intro b hb; cases hb
  | succ k ih =>
    intro b hb
    simp only [le, List.mem_cons] at hb
    rcases hb with h | h
    · omega
    · exact ih _ b h

theorem allBytes_append (a b : Bytes) : allBytes (a ++ b) = (allBytes a && allBytes b) := by
  simp [allBytes, List.all_append]

theorem lawful_uN (k : Nat) (hk : 0 < k) : Lawful (uN k) where
  rt := by
    intro v rest hv
    simp only [uN]
    rw [if_neg (by simp [le_length]), List.take_left' (le_length k v), if_pos (allBytes_le k v),
      leVal_le k v hv, List.drop_left' (le_length k v)]
  exact := by
    intro bs a rest h
    simp only [uN] at h
    split at h
    · cases h
    · rename_i hl
      split at h
      · rename_i hb
        simp only [Option.some.injEq, Prod.mk.injEq] at h
        obtain ⟨ha, hr⟩ := h
        have hlen : (bs.take k).length = k := by simp; omega
        have hby := (allBytes_iff _).mp hb
        constructor
        · have h1 := _root_.RedisVerif.Codec.le_leVal (bs.take k) hby
          rw [hlen] at h1
          show bs = le k a ++ rest
          rw [← ha, ← hr, h1, List.take_append_drop]
        · show a < 256 ^ k
          rw [← ha]
          have := leVal_lt (bs.take k) hby
          rwa [hlen] at this
      · cases h
  cells_lt := by
    intro a
    simp [uN, le_length]; exact hk
  enc_bytes := fun a _ => allBytes_le k a

theorem lawful_bool : Lawful bool where
  rt := by
    intro b rest _
    cases b <;> rfl
  exact := by
    intro bs a rest h
    match bs, h with
    | 0 :: r, h => cases h; exact ⟨rfl, trivial⟩
    | 1 :: r, h => cases h; exact ⟨rfl, trivial⟩
    | [], h => simp [bool] at h
    | (n + 2) :: r, h => simp [bool] at h
  cells_lt := by
    intro a; simp [bool]
  enc_bytes := by
    intro a _
    cases a <;> rfl

theorem lawful_opt {α : Type} {c : Codec α} (hc : Lawful c) : Lawful (opt c) where
  rt := by
    intro a rest ha
    cases a with
    | none => rfl
    | some a =>
      show (opt c).dec (1 :: (c.enc a ++ rest)) = _
      simp only [opt]
      rw [hc.rt a rest ha]
  exact := by
    intro bs a rest h
    match bs, h with
    | 0 :: r, h => cases h; exact ⟨rfl, trivial⟩
    | 1 :: r, h =>
      simp only [opt] at h
      split at h
      · rename_i a' r' hd
        cases h
        obtain ⟨h1, h2⟩ := hc.exact r a' rest hd
        refine ⟨?_, h2⟩
        show 1 :: r = 1 :: c.enc a' ++ rest
        rw [h1]; rfl
      · cases h
    | [], h => simp [opt] at h
    | (n + 2) :: r, h => simp [opt] at h
  cells_lt := by
    intro a
    cases a with
    | none => simp [opt]
    | some a => have := hc.cells_lt a; simp [opt]; omega
  enc_bytes := by
    intro a ha
    cases a with
    | none => rfl
    | some a =>
      have := hc.enc_bytes a ha
      show allBytes (1 :: c.enc a) = true
      simp only [allBytes, List.all_cons] at this ⊢
      simp [this]

theorem lawful_pair {α β : Type} {c : Codec α} {d : Codec β} (hc : Lawful c) (hd : Lawful d) :
    Lawful (pair c d) where
  rt := by
    intro p rest hp
    simp only [pair]
    rw [List.append_assoc, hc.rt p.1 _ hp.1]
    simp only
    rw [hd.rt p.2 rest hp.2]
  exact := by
    intro bs p rest h
    simp only [pair] at h
    split at h
    · cases h
    · rename_i a r h1
      split at h
      · cases h
      · rename_i b r' h2
        cases h
        obtain ⟨e1, o1⟩ := hc.exact bs a r h1
        obtain ⟨e2, o2⟩ := hd.exact r b rest h2
        refine ⟨?_, o1, o2⟩
        show bs = (c.enc a ++ d.enc b) ++ rest
        rw [e1, e2, List.append_assoc]
  cells_lt := by
    intro p
    have h1 := hc.cells_lt p.1
    have h2 := hd.cells_lt p.2
    simp [pair]; omega
  enc_bytes := by
    intro p hp
    show allBytes (c.enc p.1 ++ d.enc p.2) = true
    rw [allBytes_append, hc.enc_bytes p.1 hp.1, hd.enc_bytes p.2 hp.2]; rfl

theorem lawful_u64 : Lawful u64 := lawful_uN 8 (by decide)
theorem lawful_u32 : Lawful u32 := lawful_uN 4 (by decide)
theorem lawful_u8 : Lawful u8 := lawful_uN 1 (by decide)

theorem u64_rt (v : Nat) (rest : Bytes) (hv : v < 2 ^ 64) : u64.dec (le 8 v ++ rest) = some (v, rest) :=
  lawful_u64.rt v rest (by simpa [uN] using hv)

theorem u64_exact (bs : Bytes) (n : Nat) (r : Bytes) (h : u64.dec bs = some (n, r)) :
    bs = le 8 n ++ r ∧ n < 2 ^ 64 := by
  obtain ⟨e, o⟩ := lawful_u64.exact bs n r h
  exact ⟨e, by simpa [uN] using o⟩

theorem lawful_blob : Lawful blob where
  rt := by
    intro b rest hb
    simp only [blob]
    rw [List.append_assoc, u64_rt b.length _ hb.1]
    simp only
    rw [if_neg (by simp), List.take_left' rfl, if_pos hb.2, List.drop_left' rfl]
  exact := by
    intro bs a rest h
    simp only [blob] at h
    split at h
    · cases h
    · rename_i n r h1
      split at h
      · cases h
      · rename_i hl
        split at h
        · rename_i hb
          simp only [Option.some.injEq, Prod.mk.injEq] at h
          obtain ⟨ha, hr⟩ := h
          obtain ⟨e1, o1⟩ := u64_exact bs n r h1
          have hlen : a.length = n := by rw [← ha]; simp; omega
          refine ⟨?_, ?_, by rw [← ha]; exact hb⟩
          · show bs = (le 8 a.length ++ a) ++ rest
            rw [e1, hlen, ← ha, ← hr, List.append_assoc, List.take_append_drop]
          · rw [hlen]; exact o1
        · cases h
  cells_lt := by
    intro a; simp [blob, le_length]
  enc_bytes := by
    intro a ha
    show allBytes (le 8 a.length ++ a) = true
    rw [allBytes_append, allBytes_le, ha.2]; rfl

theorem lawful_str : Lawful str where
  rt := by
    intro b rest hb
    simp only [str]
    rw [lawful_blob.rt b rest hb.1]
    simp only
    rw [if_pos hb.2]
  exact := by
    intro bs a rest h
    simp only [str] at h
    split at h
    · cases h
    · rename_i b r h1
      split at h
      · rename_i hu
        cases h
        obtain ⟨e1, o1⟩ := lawful_blob.exact bs a rest h1
        exact ⟨e1, o1, hu⟩
      · cases h
  cells_lt := by
    intro a; simp [str, blob, le_length]
  enc_bytes := fun a ha => lawful_blob.enc_bytes a ha.1

theorem decN_rt {α : Type} {c : Codec α} (hc : Lawful c) (l : List α) (rest : Bytes)
    (hl : ∀ a ∈ l, c.ok a) : decN c.dec l.length (l.flatMap c.enc ++ rest) = some (l, rest) := by
  induction l with
  | nil => rfl
  | cons a l ih =>
    simp only [List.length_cons, decN, List.flatMap_cons, List.append_assoc]
    rw [hc.rt a _ (hl a (by simp))]
    simp only
    rw [ih (fun x hx => hl x (by simp [hx]))]

theorem decN_exact {α : Type} {c : Codec α} (hc : Lawful c) (n : Nat) (bs : Bytes) (l : List α)
    (rest : Bytes) (h : decN c.dec n bs = some (l, rest)) :
    bs = l.flatMap c.enc ++ rest ∧ l.length = n ∧ ∀ a ∈ l, c.ok a := by
  induction n generalizing bs l with
  | zero =>
    simp only [decN, Option.some.injEq, Prod.mk.injEq] at h
    obtain ⟨h1, h2⟩ := h
    subst h1; subst h2
    exact ⟨rfl, rfl, fun a ha => by cases ha⟩
  | succ n ih =>
    simp only [decN] at h
    split at h
    · cases h
    · rename_i a r h1
      split at h
      · cases h
      · rename_i as r' h2
        cases h
        obtain ⟨e1, o1⟩ := hc.exact bs a r h1
        obtain ⟨e2, l2, o2⟩ := ih r as h2
        refine ⟨by rw [e1, e2]; simp, by simp [l2], ?_⟩
        intro x hx
        rcases List.mem_cons.mp hx with hx | hx
        · subst hx; exact o1
        · exact o2 x hx

theorem sum_cells_lt {α : Type} {c : Codec α} (hc : Lawful c) (l : List α) :
    l.length + (l.map c.cells).sum ≤ (l.flatMap c.enc).length := by
  induction l with
  | nil => simp
  | cons a l ih =>
    have := hc.cells_lt a
    simp only [List.length_cons, List.map_cons, List.sum_cons, List.flatMap_cons, List.length_append]
    omega

theorem allBytes_flatMap {α : Type} (f : α → Bytes) (l : List α) (h : ∀ a ∈ l, allBytes (f a) = true) :
    allBytes (l.flatMap f) = true := by
  induction l with
  | nil => rfl
  | cons a l ih =>
    rw [List.flatMap_cons, allBytes_append, h a (by simp), ih (fun x hx => h x (by simp [hx]))]; rfl

theorem lawful_vec {α : Type} {c : Codec α} (hc : Lawful c) : Lawful (vec c) where
  rt := by
    intro l rest hl
    simp only [vec]
    rw [List.append_assoc, u64_rt l.length _ hl.1]
    simp only
    exact decN_rt hc l rest hl.2
  exact := by
    intro bs l rest h
    simp only [vec] at h
    split at h
    · cases h
    · rename_i n r h1
      obtain ⟨e1, o1⟩ := u64_exact bs n r h1
      obtain ⟨e2, l2, o2⟩ := decN_exact hc n r l rest h
      refine ⟨?_, ?_, o2⟩
      · show bs = (le 8 l.length ++ l.flatMap c.enc) ++ rest
        rw [e1, e2, l2, List.append_assoc]
      · rw [l2]; exact o1
  cells_lt := by
    intro l
    have := sum_cells_lt hc l
    simp only [vec, List.length_append, le_length]
    omega
  enc_bytes := by
    intro l hl
    show allBytes (le 8 l.length ++ l.flatMap c.enc) = true
    rw [allBytes_append, allBytes_le, allBytes_flatMap c.enc l (fun a ha => hc.enc_bytes a (hl.2 a ha))]; rfl

theorem lawful_xmap {α β : Type} {c : Codec α} (hc : Lawful c) (f : α → β) (g : β → α)
    (hfg : ∀ b, f (g b) = b) (hgf : ∀ a, g (f a) = a) : Lawful (xmap c f g) where
  rt := by
    intro b rest hb
    simp only [xmap]
    rw [hc.rt (g b) rest hb]
    simp only [hfg]
  exact := by
    intro bs b rest h
    simp only [xmap] at h
    split at h
    · cases h
    · rename_i a r h1
      cases h
      obtain ⟨e1, o1⟩ := hc.exact bs a rest h1
      refine ⟨?_, ?_⟩
      · show bs = c.enc (g (f a)) ++ rest
        rw [hgf]; exact e1
      · show c.ok (g (f a))
        rw [hgf]; exact o1
  cells_lt := by
    intro b
    exact hc.cells_lt (g b)
  enc_bytes := fun b hb => hc.enc_bytes (g b) hb

/-! ## the concrete codecs -/

theorem lawful_stamp : Lawful stamp := lawful_pair lawful_u64 lawful_u64
theorem lawful_umap : Lawful umap := lawful_vec lawful_stamp
theorem lawful_tags : Lawful tags := lawful_vec lawful_stamp

theorem lawful_lww : Lawful lww :=
  lawful_xmap (lawful_pair (lawful_opt lawful_blob) (lawful_pair lawful_stamp lawful_bool)) _ _
    (fun _ => rfl) (fun _ => rfl)

theorem lawful_orElems : Lawful orElems := lawful_vec (lawful_pair lawful_str lawful_tags)
theorem lawful_hashFields : Lawful hashFields := lawful_vec (lawful_pair lawful_str lawful_lww)
theorem lawful_gsetElems : Lawful (vec str) := lawful_vec lawful_str


theorem u32_rt (v : Nat) (rest : Bytes) (hv : v < 2 ^ 32) : u32.dec (le 4 v ++ rest) = some (v, rest) :=
  lawful_u32.rt v rest (by simpa [uN] using hv)

theorem u32_exact (bs : Bytes) (n : Nat) (r : Bytes) (h : u32.dec bs = some (n, r)) :
    bs = le 4 n ++ r ∧ n < 2 ^ 32 := by
  obtain ⟨e, o⟩ := lawful_u32.exact bs n r h
  exact ⟨e, by simpa [uN] using o⟩

theorem pair_enc {α β : Type} (c : Codec α) (d : Codec β) (a : α) (b : β) :
    (pair c d).enc (a, b) = c.enc a ++ d.enc b := rfl

theorem lawful_crdt : Lawful crdt where
  -- the variant index decodes first and selects the arm; the arm is the content's own round trip
  rt := by
    intro a rest ha
    cases a with
    | lww r =>
      simp only [crdt, List.append_assoc, u32_rt 0 _ (by decide), ↓reduceIte, lawful_lww.rt r rest ha]
    | gcounter c =>
      simp only [crdt, List.append_assoc, u32_rt 1 _ (by decide), Nat.reduceEqDiff, ↓reduceIte,
        lawful_umap.rt c rest ha]
    | pncounter p n =>
      have := (lawful_pair lawful_umap lawful_umap).rt (p, n) rest ha
      rw [pair_enc, List.append_assoc] at this
      simp only [crdt, List.append_assoc, u32_rt 2 _ (by decide), Nat.reduceEqDiff, ↓reduceIte, this]
    | gset s =>
      simp only [crdt, List.append_assoc, u32_rt 3 _ (by decide), Nat.reduceEqDiff, ↓reduceIte,
        lawful_gsetElems.rt s rest ha]
    | orset e nx =>
      have := (lawful_pair lawful_orElems lawful_umap).rt (e, nx) rest ha
      rw [pair_enc, List.append_assoc] at this
      simp only [crdt, List.append_assoc, u32_rt 4 _ (by decide), Nat.reduceEqDiff, ↓reduceIte, this]
    | hash h =>
      simp only [crdt, List.append_assoc, u32_rt 5 _ (by decide), Nat.reduceEqDiff, ↓reduceIte,
        lawful_hashFields.rt h rest ha]
  exact := by
    intro bs a rest h
    simp only [crdt] at h
    split at h
    · cases h
    next t r hu =>
    obtain ⟨rfl, _⟩ := u32_exact bs t r hu
    by_cases h0 : t = 0
    · rw [if_pos h0] at h
      split at h
      · cases h
      · next x _ hx =>
        cases h
        obtain ⟨rfl, ox⟩ := lawful_lww.exact r x _ hx
        subst h0; exact ⟨(List.append_assoc ..).symm, ox⟩
    rw [if_neg h0] at h
    by_cases h1 : t = 1
    · rw [if_pos h1] at h
      split at h
      · cases h
      · next x _ hx =>
        cases h
        obtain ⟨rfl, ox⟩ := lawful_umap.exact r x _ hx
        subst h1; exact ⟨(List.append_assoc ..).symm, ox⟩
    rw [if_neg h1] at h
    by_cases h2 : t = 2
    · rw [if_pos h2] at h
      split at h
      · cases h
      · next x _ hx =>
        cases h
        obtain ⟨rfl, ox⟩ := (lawful_pair lawful_umap lawful_umap).exact r x _ hx
        subst h2; exact ⟨(List.append_assoc ..).symm, ox⟩
    rw [if_neg h2] at h
    by_cases h3 : t = 3
    · rw [if_pos h3] at h
      split at h
      · cases h
      · next x _ hx =>
        cases h
        obtain ⟨rfl, ox⟩ := lawful_gsetElems.exact r x _ hx
        subst h3; exact ⟨(List.append_assoc ..).symm, ox⟩
    rw [if_neg h3] at h
    by_cases h4 : t = 4
    · rw [if_pos h4] at h
      split at h
      · cases h
      · next x _ hx =>
        cases h
        obtain ⟨rfl, ox⟩ := (lawful_pair lawful_orElems lawful_umap).exact r x _ hx
        subst h4; exact ⟨(List.append_assoc ..).symm, ox⟩
    rw [if_neg h4] at h
    by_cases h5 : t = 5
    · rw [if_pos h5] at h
      split at h
      · cases h
      · next x _ hx =>
        cases h
        obtain ⟨rfl, ox⟩ := lawful_hashFields.exact r x _ hx
        subst h5; exact ⟨(List.append_assoc ..).symm, ox⟩
    rw [if_neg h5] at h
    cases h
  cells_lt := by
    intro a
    cases a with
    | lww r => have := lawful_lww.cells_lt r; simp only [crdt, List.length_append, le_length]; omega
    | gcounter c => have := lawful_umap.cells_lt c; simp only [crdt, List.length_append, le_length]; omega
    | pncounter p n =>
      have := lawful_umap.cells_lt p; have := lawful_umap.cells_lt n
      simp only [crdt, List.length_append, le_length]; omega
    | gset s => have := lawful_gsetElems.cells_lt s; simp only [crdt, List.length_append, le_length]; omega
    | orset e nx =>
      have := lawful_orElems.cells_lt e; have := lawful_umap.cells_lt nx
      simp only [crdt, List.length_append, le_length]; omega
    | hash h => have := lawful_hashFields.cells_lt h; simp only [crdt, List.length_append, le_length]; omega
  enc_bytes := by
    intro a ha
    cases a with
    | lww r =>
      show allBytes (le 4 0 ++ lww.enc r) = true
      rw [allBytes_append, allBytes_le, lawful_lww.enc_bytes r ha]; rfl
    | gcounter c =>
      show allBytes (le 4 1 ++ umap.enc c) = true
      rw [allBytes_append, allBytes_le, lawful_umap.enc_bytes c ha]; rfl
    | pncounter p n =>
      show allBytes (le 4 2 ++ (umap.enc p ++ umap.enc n)) = true
      rw [allBytes_append, allBytes_append, allBytes_le, lawful_umap.enc_bytes p ha.1, lawful_umap.enc_bytes n ha.2]; rfl
    | gset s =>
      show allBytes (le 4 3 ++ (vec str).enc s) = true
      rw [allBytes_append, allBytes_le, lawful_gsetElems.enc_bytes s ha]; rfl
    | orset e nx =>
      show allBytes (le 4 4 ++ (orElems.enc e ++ umap.enc nx)) = true
      rw [allBytes_append, allBytes_append, allBytes_le, lawful_orElems.enc_bytes e ha.1, lawful_umap.enc_bytes nx ha.2]; rfl
    | hash h =>
      show allBytes (le 4 5 ++ hashFields.enc h) = true
      rw [allBytes_append, allBytes_le, lawful_hashFields.enc_bytes h ha]; rfl

theorem lawful_rv : Lawful rv :=
  lawful_xmap (lawful_pair lawful_crdt (lawful_pair (lawful_opt lawful_umap)
    (lawful_pair (lawful_opt lawful_u64) (lawful_pair lawful_stamp (lawful_opt lawful_u8))))) _ _
    (fun _ => rfl) (fun _ => rfl)

theorem lawful_delta : Lawful delta :=
  lawful_xmap (lawful_pair lawful_str (lawful_pair lawful_rv lawful_u64)) _ _ (fun _ => rfl) (fun _ => rfl)

theorem lawful_state : Lawful state := lawful_vec (lawful_pair lawful_str lawful_rv)

/-! ## consequences used by the property theorems -/

/-- a decoder that satisfies the laws accepts no proper prefix of an encoding: a truncated
    payload is never decoded (into the same or into different data) -/
theorem Lawful.truncated_none {α : Type} {c : Codec α} (hc : Lawful c) (a : α) (ha : c.ok a) (n : Nat)
    (hn : n < (c.enc a).length) : c.dec ((c.enc a).take n) = none :=
  Codec.truncated_none_of hc.rt hc.exact a ha n hn

theorem Lawful.consumed {α : Type} {c : Codec α} (hc : Lawful c) (bs : Bytes) (a : α) (rest : Bytes)
    (h : c.dec bs = some (a, rest)) : bs.length = (c.enc a).length + rest.length ∧ rest = bs.drop (c.enc a).length := by
  obtain ⟨e, _⟩ := hc.exact bs a rest h
  constructor
  · rw [e]; simp
  · rw [e]; simp

theorem Lawful.cells_bounded {α : Type} {c : Codec α} (hc : Lawful c) (bs : Bytes) (a : α) (rest : Bytes)
    (h : c.dec bs = some (a, rest)) : c.cells a < bs.length - rest.length := by
  have := (hc.consumed bs a rest h).1
  have := hc.cells_lt a
  omega

theorem Lawful.enc_injective {α : Type} {c : Codec α} (hc : Lawful c) (a b : α) (ha : c.ok a) (hb : c.ok b)
    (h : c.enc a = c.enc b) : a = b :=
  Codec.enc_injective_of (de := fun bs => (c.dec bs).map (·.1))
    (fun a ha => by have := hc.rt a [] ha; rw [List.append_nil] at this; rw [this]; rfl) ha hb h

end Bincode
end RedisVerif
