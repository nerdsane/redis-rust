import RedisVerif.Lemmas.OuterUnique

/-!
The two uniqueness invariants (`RInv.uniq`: a (key, slot, stamp) triple identifies one register;
`OInv.func`: per key an outer stamp identifies one kind) over executions WITH crashes.

A crashed node comes back empty (`Cluster.restart`: Lamport clock 0) and gets its history back as
ordinary deliveries — its own old deltas from WAL / segments (`apply_recovered_state(None, ..)` =
`apply_remote_deltas`), from peers, from anti-entropy.  While it has not got all of its OWN deltas
back its clock may be below stamps it issued before the crash: `RInv.own` / `OInv.own` / `OInv.cur`
do not hold for it.  They are replaced by three facts that survive a restart,

* `rdom` / `pdom`: every register / outer pair stamped by replica `j + 1` is covered by (is the pair
  of) a delta ISSUED by node `j`,
* `logclk`: a node's clock covers the outer stamp of every delta it has absorbed since its last
  restart, and a delta stamped with exactly the current clock value has the kind the node stores,

from which the three are re-derived for every node that has all its own deltas back
(`Recovered`), which is what a local write needs.  The hypothesis on the history is C08's
limitation made explicit and decidable: `RecoversFirst` — no node writes between a crash and having
re-absorbed every delta it issued before (what the binaries do: recovery precedes serving; what C09
/ C11 / C12 supply for acknowledged-durable writes).
-/
namespace RedisVerif
namespace Cluster

/-- node `i` holds (has absorbed since its last restart) every delta it ever issued -/
def Recovered (c : Cluster) (i : Nat) : Prop :=
  ∀ m ∈ c.sent, m.origin = i → (⟨i, m.key, m.val⟩ : Absorbed) ∈ c.log

instance (c : Cluster) (i : Nat) : Decidable (Recovered c i) := by unfold Recovered; infer_instance

structure XInv (c : Cluster) : Prop where
  rids : ∀ (i : Nat) (s : Shard), c.nodes[i]? = some s → s.rid = i + 1 ∧ s.clock.rid = s.rid
  wf : ∀ s ∈ c.nodes, s.NodeWF ∧ s.Inv
  sent_wf : ∀ m ∈ c.sent, m.val.WF ∧ m.val.Dominated
  /-- same key, slot and stamp ⇒ same register -/
  uniq : ∀ a b, InCluster c a → InCluster c b → a.1 = b.1 → a.2.1 = b.2.1 →
    a.2.2.ts = b.2.2.ts → a.2.2 = b.2.2
  /-- a register stamped by replica `j + 1` is covered by a delta node `j` issued -/
  rdom : ∀ a, InCluster c a → ∃ m ∈ c.sent, m.origin + 1 = a.2.2.ts.rid ∧
    a.2.2.ts.time ≤ m.val.ts.time
  /-- a node's clock covers what it has absorbed; at equality the stored kind is the delta's -/
  logclk : ∀ a ∈ c.log, ∀ s, c.nodes[a.node]? = some s → a.val.ts.time ≤ s.clock.time ∧
    (a.val.ts = s.clock → ∃ w, NMap.get s.keys a.key = some w ∧ w.crdt.kind = a.val.crdt.kind)
  stored : ∀ (i : Nat) (s : Shard), c.nodes[i]? = some s → ∀ k v, NMap.get s.keys k = some v →
    SentPair c k (v.ts, v.crdt.kind)
  func : ∀ k p q, SentPair c k p → SentPair c k q → p.1 = q.1 → p.2 = q.2
  /-- an outer pair stamped by replica `j + 1` is the pair of a delta node `j` issued for that key -/
  pdom : ∀ k p, SentPair c k p → ∃ m ∈ c.sent, m.origin + 1 = p.1.rid ∧ m.key = k ∧
    (m.val.ts, m.val.crdt.kind) = p

/-- the clock of a node that has all its own deltas back covers every delta it ever issued
    (`logclk` for its own deltas): what `rdom` and `pdom` are read through -/
theorem XInv.issued {c : Cluster} (h : XInv c) {i : Nat} {s : Shard} (hs : c.nodes[i]? = some s)
    (hrec : Recovered c i) {m : Msg} (hm : m ∈ c.sent) (ho : m.origin + 1 = s.rid) :
    m.val.ts.time ≤ s.clock.time ∧
      (m.val.ts = s.clock → ∃ w, NMap.get s.keys m.key = some w ∧ w.crdt.kind = m.val.crdt.kind) := by
  have hoi : m.origin = i := by have := (h.rids i s hs).1; omega
  exact h.logclk _ (hrec m hm hoi) s hs

theorem XInv.own_reg {c : Cluster} (h : XInv c) {i : Nat} {s : Shard} (hs : c.nodes[i]? = some s)
    (hrec : Recovered c i) {a : Reg3} (ha : InCluster c a) (hrid : a.2.2.ts.rid = s.rid) :
    a.2.2.ts.time ≤ s.clock.time := by
  obtain ⟨m, hm, ho, hle⟩ := h.rdom a ha
  exact Nat.le_trans hle (h.issued hs hrec hm (ho.trans hrid)).1

theorem XInv.own_pair {c : Cluster} (h : XInv c) {i : Nat} {s : Shard} (hs : c.nodes[i]? = some s)
    (hrec : Recovered c i) {k : Nat} {p : Stamp × Nat} (hp : SentPair c k p)
    (hrid : p.1.rid = s.rid) : p.1.time ≤ s.clock.time := by
  obtain ⟨m, hm, ho, _, rfl⟩ := h.pdom k p hp
  exact (h.issued hs hrec hm (ho.trans hrid)).1

theorem XInv.cur {c : Cluster} (h : XInv c) {i : Nat} {s : Shard} (hs : c.nodes[i]? = some s)
    (hrec : Recovered c i) {k : Nat} {p : Stamp × Nat} (hp : SentPair c k p)
    (hclk : p.1 = s.clock) : ∃ w, NMap.get s.keys k = some w ∧ w.crdt.kind = p.2 := by
  obtain ⟨m, hm, ho, rfl, rfl⟩ := h.pdom k p hp
  exact (h.issued hs hrec hm (by rw [ho, hclk, (h.rids i s hs).2])).2 hclk

theorem XInv.ninv {c : Cluster} (h : XInv c) : NInv c := ⟨h.rids, h.wf, h.sent_wf⟩

theorem XInv_init (n : Nat) (causal : Bool) : XInv (init n causal) where
  rids := (RInv_init n causal).rids
  wf := (RInv_init n causal).wf
  sent_wf := (RInv_init n causal).sent_wf
  uniq := (RInv_init n causal).uniq
  rdom := fun _ ha => absurd ha not_inCluster_init
  logclk := by intro a ha; cases ha
  stored := by intro i s hs k v hg; rw [init_nodes_get hs] at hg; cases hg
  func := by intro k p q hp; obtain ⟨m, hm, _⟩ := hp; cases hm
  pdom := by intro k p hp; obtain ⟨m, hm, _⟩ := hp; cases hm

theorem XInv_restart {c : Cluster} (h : XInv c) (i : Nat) : XInv (c.restart i) := by
  have hn := NInv_restart h.ninv i
  rcases restart_cases c i with h' | ⟨s, hs, h'⟩
  · rw [h']; exact h
  rw [h'] at hn ⊢
  refine ⟨hn.rids, hn.wf, hn.sent_wf,
    fun a b ha hb => h.uniq a b (inCluster_restart ha) (inCluster_restart hb),
    fun a ha => h.rdom a (inCluster_restart ha), ?_, ?_, h.func, h.pdom⟩
  · intro a ha s' hs'
    have ha' := List.mem_filter.mp ha
    have hne : a.node ≠ i := by simpa using ha'.2
    rw [List.getElem?_set_ne (Ne.symm hne)] at hs'
    exact h.logclk a ha'.1 s' hs'
  · intro i' s' hs' k v hg
    rcases getElem?_set_cases hs' with ⟨rfl, rfl⟩ | ⟨_, hs'⟩
    · cases hg
    · exact h.stored i' s' hs' k v hg

theorem XInv_step_deliver {c : Cluster} (h : XInv c) (j idx : Nat) :
    XInv (c.step (.deliver j idx)) := by
  have hn := NInv_step h.ninv (.deliver j idx)
  rcases step_deliver_cases c j idx with h' | ⟨s, m, hs, hm, h'⟩
  · rw [h']; exact h
  rw [h'] at hn ⊢
  have hclk : (Shard.applyRemote s m.key m.val).clock.time =
      Max.max s.clock.time m.val.ts.time + 1 := by simp [Shard.applyRemote]
  refine ⟨hn.rids, hn.wf, hn.sent_wf,
    fun a b ha hb => h.uniq a b (inCluster_deliver hs hm ha) (inCluster_deliver hs hm hb),
    fun a ha => h.rdom a (inCluster_deliver hs hm ha), ?_,
    stored_deliver h.stored hs hm, h.func, h.pdom⟩
  -- the clock moves past everything absorbed so far and past the delivered delta
  intro a ha s' hs'
  rcases List.mem_append.mp ha with h1 | h1
  · rcases getElem?_set_cases hs' with ⟨haj, rfl⟩ | ⟨_, hs'⟩
    · have := (h.logclk a h1 s (by rw [haj]; exact hs)).1
      have hmx := Nat.le_max_left s.clock.time m.val.ts.time
      refine ⟨by omega, fun heq => ?_⟩
      have : a.val.ts.time = (Shard.applyRemote s m.key m.val).clock.time := by rw [heq]
      omega
    · exact h.logclk a h1 s' hs'
  · rw [List.mem_singleton.mp h1] at hs' ⊢
    rcases getElem?_set_cases hs' with ⟨_, rfl⟩ | ⟨hne, _⟩
    · have hmx := Nat.le_max_right s.clock.time m.val.ts.time
      refine ⟨by simp only; omega, fun heq => ?_⟩
      have : m.val.ts.time = (Shard.applyRemote s m.key m.val).clock.time := by rw [← heq]
      omega
    · exact absurd rfl hne

theorem recovered_other {c : Cluster} {i i' : Nat} (hne : i' ≠ i) (m0 : Msg) (a0 : Absorbed)
    (nodes' : List Shard) (ho : m0.origin = i) (ha : a0.node = i)
    (h : Recovered (Cluster.mk nodes' (c.sent ++ [m0]) (c.log ++ [a0])) i') : Recovered c i' := by
  intro m hm hoi
  have := h m (List.mem_append_left _ hm) hoi
  rcases List.mem_append.mp this with h1 | h1
  · exact h1
  · simp only [List.mem_singleton] at h1
    exfalso
    have : a0.node = i' := by rw [← h1]
    omega

theorem XInv_step_loc {c : Cluster} (h : XInv c) (i : Nat) (op : LOp) (hv : op.Valid = true)
    (hrec : Recovered c i) : XInv (c.step (.loc i op)) := by
  have hn := NInv_step h.ninv (.loc i op)
  rcases step_loc_cases c i op with h' | ⟨s, d, hs, hd, h'⟩
  · rw [h']; exact h
  rw [h'] at hn ⊢
  have hrid := h.rids i s hs
  have hmono := C08.clock_monotone s op.toOp
  have hget := Shard.local_get s op d hd
  have hout := Shard.local_outer s op d hv hd
  have hinv' := (hn.wf (Shard.step s op.toOp).1
    (List.mem_of_getElem? (List.getElem?_set_self (List.getElem?_eq_some_iff.mp hs).1))).2
  -- d's outer stamp is covered by the new clock
  have hdle : d.ts.time ≤ (Shard.step s op.toOp).1.clock.time := (hinv'.2 _ (NMap.mem_of_get hget)).1
  -- the clock did not move unless the delta is stamped with the new clock value
  have hsame : ¬ (d.ts = (Shard.step s op.toOp).1.clock ∧ s.clock.time < d.ts.time) →
      (Shard.step s op.toOp).1.clock = s.clock := by
    intro hnB
    rcases hout with ⟨_, h2⟩ | hB | ⟨_, h2, _⟩
    · exact h2
    · exact absurd hB hnB
    · exact h2
  have hfresh := new_pair_kind h.stored h.func hs hv hd hrid.2
    (fun q hq => h.own_pair hs hrec hq) (fun q hq => h.cur hs hrec hq)
  obtain ⟨hst', hfunc'⟩ := pairs_loc (log' := c.log ++ [⟨i, op.key, d⟩]) h.stored h.func hs hd hfresh
  have hnewmem : (⟨i, op.key, d⟩ : Msg) ∈ c.sent ++ [⟨i, op.key, d⟩] :=
    List.mem_append_right _ (List.mem_singleton.mpr rfl)
  refine ⟨hn.rids, hn.wf, hn.sent_wf,
    uniq_loc h.ninv h.uniq hs hd (fun a ha => h.own_reg hs hrec ha), ?_, ?_, hst', hfunc', ?_⟩
  · -- rdom
    intro a ha
    rcases inCluster_loc h.ninv hs hd ha with h1 | ⟨h1, h2⟩
    · obtain ⟨m, hm, ho, hle⟩ := h.rdom a h1
      exact ⟨m, List.mem_append_left _ hm, ho, hle⟩
    · -- a fresh register is one of `d`, whose outer stamp dominates it
      exact ⟨⟨i, op.key, d⟩, hnewmem, by simp only; rw [h2.1, hrid.2, hrid.1],
        Shard.slots_le (hn.sent_wf _ hnewmem).2 _ (mem_valRegs.mp h1).2⟩
  · -- logclk
    intro a ha s' hs'
    rcases List.mem_append.mp ha with h1 | h1
    · rcases getElem?_set_cases hs' with ⟨hai, rfl⟩ | ⟨_, hs'⟩
      · have hI := h.logclk a h1 s (by rw [hai]; exact hs)
        refine ⟨Nat.le_trans hI.1 hmono.1, fun heq => ?_⟩
        have hB : ¬ (d.ts = (Shard.step s op.toOp).1.clock ∧ s.clock.time < d.ts.time) := by
          intro hB
          have : a.val.ts.time = (Shard.step s op.toOp).1.clock.time := by rw [heq]
          rw [← hB.1] at this
          have := hI.1
          omega
        obtain ⟨w, hw1, hw2⟩ := hI.2 (by rw [heq, hsame hB])
        by_cases hk : a.key = op.key
        · refine ⟨d, by rw [hk]; exact hget, ?_⟩
          rw [hk] at hw1
          rcases hout with ⟨hA, _⟩ | hB' | ⟨_, _, old, hC3, hC4⟩
          · rw [hA] at hw1; cases hw1; exact hw2
          · exact absurd hB' hB
          · rw [hC3] at hw1; cases hw1; rw [← hC4]; exact hw2
        · rw [Shard.keys_step_other s op a.key hk]
          exact ⟨w, hw1, hw2⟩
      · exact h.logclk a h1 s' hs'
    · rw [List.mem_singleton.mp h1] at hs' ⊢
      rcases getElem?_set_cases hs' with ⟨_, rfl⟩ | ⟨hne, _⟩
      · exact ⟨hdle, fun _ => ⟨d, hget, rfl⟩⟩
      · exact absurd rfl hne
  · -- pdom
    intro k p hp
    rcases sentPair_snoc.mp hp with hp1 | ⟨rfl, rfl⟩
    · obtain ⟨m, hm, ho, hk, hpm⟩ := h.pdom k p hp1
      exact ⟨m, List.mem_append_left _ hm, ho, hk, hpm⟩
    · rcases hout with ⟨hA, _⟩ | ⟨hB1, _⟩ | ⟨hC1, _, _⟩
      · obtain ⟨m, hm, ho, hk, hpm⟩ := h.pdom op.key _ (h.stored i s hs op.key d hA)
        exact ⟨m, List.mem_append_left _ hm, ho, hk, hpm⟩
      · exact ⟨⟨i, op.key, d⟩, hnewmem, by simp only; rw [hB1, hmono.2, hrid.2, hrid.1], rfl, rfl⟩
      · exact ⟨⟨i, op.key, d⟩, hnewmem, by simp only; rw [hC1, hrid.2, hrid.1], rfl, rfl⟩

/-- recovery first: every local write of node `i` happens in a state in which `i` holds all the
    deltas it ever issued (decidable on the history), and obeys the precondition of
    `record_hash_write` -/
def RecoversFirst : Cluster → List REv → Prop
  | _, [] => True
  | c, e :: rest =>
    (match e with
     | .ev (.loc i op) => Recovered c i ∧ op.Valid = true
     | _ => True) ∧ RecoversFirst (c.stepR e) rest

instance decRecoversFirst : (c : Cluster) → (evs : List REv) → Decidable (RecoversFirst c evs)
  | _, [] => isTrue trivial
  | c, e :: rest =>
    have := decRecoversFirst (c.stepR e) rest
    match e with
    | .ev (.loc i op) => by unfold RecoversFirst; exact inferInstance
    | .ev (.deliver _ _) => by unfold RecoversFirst; exact inferInstance
    | .restart _ => by unfold RecoversFirst; exact inferInstance

theorem XInv_runR (c : Cluster) (evs : List REv) (h : XInv c) (hr : RecoversFirst c evs) :
    XInv (c.runR evs) := by
  induction evs generalizing c with
  | nil => exact h
  | cons e evs ih =>
    obtain ⟨h1, h2⟩ := hr
    apply ih (c.stepR e) _ h2
    cases e with
    | restart i => exact XInv_restart h i
    | ev e =>
      cases e with
      | loc i op => exact XInv_step_loc h i op h1.2 h1.1
      | deliver j idx => exact XInv_step_deliver h j idx

/-! ### executions without crashes

A restart-free history is a history of the model with crashes in which no `restart` occurs; every
node has absorbed what it issued (`SentLog`), so every node is `Recovered` and `RecoversFirst` asks
for `Ev.Valid` only.  `RInv.own`, `OInv.own` and `OInv.cur` are `XInv.own_reg`, `own_pair` and `cur`
read in such a state. -/

theorem SentLog.recovered {c : Cluster} (h : SentLog c) (i : Nat) : Recovered c i :=
  fun m hm ho => ho ▸ h m hm

theorem recoversFirst_ev {c : Cluster} (h : SentLog c) {evs : List Ev}
    (hv : ∀ e ∈ evs, e.Valid = true) : RecoversFirst c (evs.map .ev) := by
  induction evs generalizing c with
  | nil => trivial
  | cons e evs ih =>
    refine ⟨?_, ih (sentLog_step h e) fun e' he' => hv e' (List.mem_cons_of_mem _ he')⟩
    cases e with
    | loc i op => exact ⟨h.recovered i, hv _ List.mem_cons_self⟩
    | deliver j idx => trivial

theorem XInv.rinv {c : Cluster} (h : XInv c) (hl : SentLog c) : RInv c :=
  ⟨h.uniq, fun i _ hs _ ha => h.own_reg hs (hl.recovered i) ha, h.rids, h.wf, h.sent_wf⟩

theorem XInv.oinv {c : Cluster} (h : XInv c) (hl : SentLog c) : OInv c :=
  ⟨h.stored, h.func, fun i _ hs _ _ hp => h.own_pair hs (hl.recovered i) hp,
    fun i _ hs _ _ hp => h.cur hs (hl.recovered i) hp⟩

theorem XInv_run (n : Nat) (causal : Bool) (evs : List Ev) (hv : ∀ e ∈ evs, e.Valid = true) :
    XInv ((init n causal).run evs) :=
  run_eq_runR _ evs ▸ XInv_runR _ _ (XInv_init n causal) (recoversFirst_ev (sentLog_init n causal) hv)

end Cluster
end RedisVerif
