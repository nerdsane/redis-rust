import RedisVerif.Lemmas.Lub
import RedisVerif.Lemmas.NMap

/-
  Folds that may be empty.

  Adjoining `none` as a least element turns an ACI operation `m` on `P` into the ACI operation
  `optMerge m` on `ACI.Opt P` (`ACI.opt`), and the fold of a possibly empty list (`fold1`, the
  first element being the initial value) is the ordinary fold of `optMerge m` from `none`
  (`fold1_eq_foldl`).  So everything about `fold1` is a fact of `Lemmas/Lub` about that fold, and
  the empty list is no special case: the fold depends only on the set of elements
  (`fold1_eq_of_same_set`, C11), and replacing some elements by their fold does not change it
  (`fold1_replace`, compaction, C13).
-/
namespace RedisVerif

namespace ACI
variable {α : Type} {m : α → α → α} {P : α → Prop}

/-- the carrier with `none` adjoined (absent = the identity of `optMerge m`) -/
def Opt (P : α → Prop) (o : Option α) : Prop := ∀ v, o = some v → P v

theorem opt (h : ACI m P) : ACI (optMerge m) (Opt P) where
  closed := by
    intro a b ha hb v hv
    cases a <;> cases b <;> simp only [optMerge] at hv
    · cases hv
    · exact hb v hv
    · exact ha v hv
    · rename_i x y
      injection hv with hv; subst hv
      exact h.closed x y (ha x rfl) (hb y rfl)
  comm := fun a b ha hb => NMap.optMerge_comm fun u v hu hv => h.comm u v (ha u hu) (hb v hv)
  assoc := fun a b c ha hb hc =>
    NMap.optMerge_assoc fun u v w hu hv hw => h.assoc u v w (ha u hu) (hb v hv) (hc w hw)
  idem := fun a ha => NMap.optMerge_idem fun u hu => h.idem u (ha u hu)

theorem opt_none (P : α → Prop) : Opt P none := fun _ hv => nomatch hv

theorem opt_some {a : α} (h : P a) : Opt P (some a) := fun _ hv => Option.some.inj hv ▸ h

theorem opt_map_some {l : List α} (hl : ∀ y ∈ l, P y) : ∀ o ∈ l.map some, Opt P o := by
  intro o ho
  obtain ⟨y, hy, rfl⟩ := List.mem_map.mp ho
  exact opt_some (hl y hy)

theorem none_le (m : α → α → α) (o : Option α) : le (optMerge m) none o := by cases o <;> rfl

theorem some_le_some {a b : α} : le (optMerge m) (some a) (some b) ↔ le m a b := by
  simp [le, optMerge]

/-- what lies above a value is a value -/
theorem some_le {a : α} {o : Option α} (h : le (optMerge m) (some a) o) : ∃ b, o = some b ∧ le m a b := by
  cases o with
  | none => cases h
  | some b => exact ⟨b, rfl, some_le_some.mp h⟩

end ACI

namespace FoldACI

variable {α : Type}

/-- `m` is associative, commutative and idempotent on the carrier `C`, which it preserves -/
structure ACI (m : α → α → α) (C : α → Prop) : Prop where
  closed : ∀ a b, C a → C b → C (m a b)
  comm : ∀ a b, C a → C b → m a b = m b a
  assoc : ∀ a b c, C a → C b → C c → m a (m b c) = m (m a b) c
  idem : ∀ a, C a → m a a = a

/-- the same structure as in `Lemmas/Lub.lean`, where everything is proved -/
theorem ACI.toLub {m : α → α → α} {C : α → Prop} (h : ACI m C) : _root_.RedisVerif.ACI m C :=
  ⟨h.closed, h.comm, h.assoc, h.idem⟩

/-- fold of a possibly empty list, the first element being the initial value -/
def fold1 (m : α → α → α) : List α → Option α
  | [] => none
  | x :: l => some (l.foldl m x)

theorem foldl_opt_some (m : α → α → α) (l : List α) (x : α) :
    (l.map some).foldl (optMerge m) (some x) = some (l.foldl m x) := by
  induction l generalizing x with
  | nil => rfl
  | cons y l ih => exact ih (m x y)

theorem fold1_eq_foldl (m : α → α → α) (l : List α) :
    fold1 m l = (l.map some).foldl (optMerge m) none := by
  cases l with
  | nil => rfl
  | cons x l => exact (foldl_opt_some m l x).symm

end FoldACI

namespace ACI
open FoldACI (fold1 fold1_eq_foldl)
variable {α : Type} {m : α → α → α} {P : α → Prop}

/-- once a value absorbs every element of a list, folding the list into it changes nothing -/
theorem fold_absorb (h : ACI m P) {u : α} (hu : P u) {l : List α} (hl : ∀ y ∈ l, P y)
    (hle : ∀ y ∈ l, le m y u) : l.foldl m u = u :=
  h.le_antisymm (h.fold_closed l u hu hl) hu
    (h.fold_least l u u hu hl hu (h.le_refl hu) hle) (h.fold_upper l u hu hl).1

/-- folding a list in a second time changes nothing -/
theorem fold_twice (h : ACI m P) {x : α} (hx : P x) {l : List α} (hl : ∀ y ∈ l, P y) :
    l.foldl m (l.foldl m x) = l.foldl m x :=
  h.fold_absorb (h.fold_closed l x hx hl) hl (h.fold_upper l x hx hl).2

theorem fold1_closed (h : ACI m P) {l : List α} (hl : ∀ y ∈ l, P y) {v : α}
    (hv : fold1 m l = some v) : P v :=
  h.opt.fold_closed _ none (opt_none P) (opt_map_some hl) v (fold1_eq_foldl m l ▸ hv)

theorem le_fold1 (h : ACI m P) {l : List α} (hl : ∀ y ∈ l, P y) {y : α} (hy : y ∈ l) :
    ∃ v, fold1 m l = some v ∧ le m y v := by
  rw [fold1_eq_foldl]
  exact some_le ((h.opt.fold_upper _ none (opt_none P) (opt_map_some hl)).2 _
    (List.mem_map_of_mem hy))

/-- **replacing a sub-collection by its fold does not change the fold**: `l'` consists of
    elements of `l` and possibly the fold of `B ⊆ l`; every element of `l` is still in `l'` or is
    in `B` whose fold is in `l'`. -/
theorem fold1_replace (h : ACI m P) {l l' B : List α} (hl : ∀ y ∈ l, P y) (hB : ∀ y ∈ B, y ∈ l)
    (h1 : ∀ y ∈ l', y ∈ l ∨ fold1 m B = some y)
    (h2 : ∀ y ∈ l, y ∈ l' ∨ (y ∈ B ∧ ∃ v, fold1 m B = some v ∧ v ∈ l')) :
    fold1 m l' = fold1 m l := by
  have ho := h.opt
  have hBc : ∀ y ∈ B, P y := fun y hy => hl y (hB y hy)
  have hl' : ∀ y ∈ l', P y := fun y hy => (h1 y hy).elim (hl y) (h.fold1_closed hBc)
  have cl := ho.fold_closed _ none (opt_none P) (opt_map_some hl)
  have cl' := ho.fold_closed _ none (opt_none P) (opt_map_some hl')
  have ub := (ho.fold_upper _ none (opt_none P) (opt_map_some hl)).2
  have ub' := (ho.fold_upper _ none (opt_none P) (opt_map_some hl')).2
  -- the fold of `B` lies below the fold of `l`
  have hBl : le (optMerge m) (fold1 m B) ((l.map some).foldl (optMerge m) none) := by
    rw [fold1_eq_foldl]
    refine ho.fold_least _ none _ (opt_none P) (opt_map_some hBc) cl (none_le m _) ?_
    intro o hob
    obtain ⟨y, hy, rfl⟩ := List.mem_map.mp hob
    exact ub _ (List.mem_map_of_mem (hB y hy))
  rw [fold1_eq_foldl, fold1_eq_foldl]
  apply ho.le_antisymm cl' cl
  · refine ho.fold_least _ none _ (opt_none P) (opt_map_some hl') cl (none_le m _) ?_
    intro o ho'
    obtain ⟨y, hy, rfl⟩ := List.mem_map.mp ho'
    rcases h1 y hy with hy' | hy'
    · exact ub _ (List.mem_map_of_mem hy')
    · exact hy' ▸ hBl
  · refine ho.fold_least _ none _ (opt_none P) (opt_map_some hl) cl' (none_le m _) ?_
    intro o ho'
    obtain ⟨y, hy, rfl⟩ := List.mem_map.mp ho'
    rcases h2 y hy with hy' | ⟨hyB, w, hw, hwl⟩
    · exact ub' _ (List.mem_map_of_mem hy')
    · obtain ⟨u, hu, hle⟩ := h.le_fold1 hBc hyB
      cases hw.symm.trans hu
      exact ho.le_trans (opt_some (hl y hy)) (opt_some (hl' _ hwl)) cl'
        (some_le_some.mpr hle) (ub' _ (List.mem_map_of_mem hwl))

/-- **the fold depends only on the set of elements**: `fold1_replace` with nothing replaced -/
theorem fold1_eq_of_same_set (h : ACI m P) {l l' : List α} (hl : ∀ y ∈ l, P y)
    (hset : ∀ y, y ∈ l ↔ y ∈ l') : fold1 m l = fold1 m l' :=
  (h.fold1_replace (B := []) hl (fun _ hy => nomatch hy) (fun y hy => Or.inl ((hset y).mpr hy))
    (fun y hy => Or.inl ((hset y).mp hy))).symm

end ACI

namespace FoldACI
variable {α : Type} {m : α → α → α} {C : α → Prop}

theorem fold1_append (l l' : List α) (x : α) :
    fold1 m ((x :: l) ++ l') = some (l'.foldl m (l.foldl m x)) := by
  simp [fold1, List.foldl_append]

theorem fold1_replace (h : ACI m C) {l l' B : List α} (hl : ∀ y ∈ l, C y) (hB : ∀ y ∈ B, y ∈ l)
    (h1 : ∀ y ∈ l', y ∈ l ∨ fold1 m B = some y)
    (h2 : ∀ y ∈ l, y ∈ l' ∨ (y ∈ B ∧ ∃ v, fold1 m B = some v ∧ v ∈ l')) :
    fold1 m l' = fold1 m l :=
  h.toLub.fold1_replace hl hB h1 h2

/-- invariance under permutation -/
theorem fold1_perm (h : ACI m C) {l l' : List α} (hl : ∀ y ∈ l, C y) (hp : l.Perm l') :
    fold1 m l = fold1 m l' :=
  h.toLub.fold1_eq_of_same_set hl (fun _ => hp.mem_iff)

/-- invariance under duplication: replaying a list twice changes nothing -/
theorem fold1_append_self (h : ACI m C) {l : List α} (hl : ∀ y ∈ l, C y) :
    fold1 m (l ++ l) = fold1 m l :=
  (h.toLub.fold1_eq_of_same_set hl (fun y => by simp)).symm

end FoldACI
end RedisVerif
