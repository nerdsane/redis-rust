import RedisVerif.Model.NMap

/-! Helper lemmas about canonical Nat-keyed maps and sets. -/
namespace RedisVerif
namespace NMap
variable {ν : Type}

/-- every key of `m` is greater than `k` -/
def LB (k : Nat) (m : NMap ν) : Prop := ∀ p ∈ m, k < p.1

theorem wf_cons {p : Nat × ν} {m : NMap ν} : WF (p :: m) ↔ LB p.1 m ∧ WF m := by
  unfold WF LB; simp [List.pairwise_cons]

theorem wf_nil : WF ([] : NMap ν) := by unfold WF; simp

theorem wf_tail {p : Nat × ν} {m : NMap ν} (hm : WF (p :: m)) : WF m := (wf_cons.mp hm).2

theorem wf_drop {m : NMap ν} (hm : WF m) (n : Nat) : WF (m.drop n) :=
  List.Pairwise.sublist (List.drop_sublist n m) hm

theorem LB.mono {k k' : Nat} {m : NMap ν} (h : LB k m) (hk : k' ≤ k) : LB k' m :=
  fun p hp => Nat.lt_of_le_of_lt hk (h p hp)

@[simp] theorem get_nil (k : Nat) : get ([] : NMap ν) k = none := rfl

theorem get_cons (p : Nat × ν) (m : NMap ν) (k : Nat) :
    get (p :: m) k = if k = p.1 then some p.2 else get m k := by
  obtain ⟨kp, vp⟩ := p; rfl

theorem get_eq_none_of_LB {k k' : Nat} {m : NMap ν} (h : LB k m) (hk : k' ≤ k) :
    get m k' = none := by
  induction m with
  | nil => rfl
  | cons p m ih =>
    obtain ⟨kp, vp⟩ := p
    have h1 : k < kp := h (kp, vp) (by simp)
    have h2 : LB k m := fun q hq => h q (by simp [hq])
    simp only [get]
    rw [if_neg (by omega)]
    exact ih h2

theorem LB_of_get {k : Nat} {m : NMap ν} (hwf : WF m)
    (h : ∀ k', k' ≤ k → get m k' = none) : LB k m := by
  induction m with
  | nil => intro p hp; cases hp
  | cons p m ih =>
    obtain ⟨kp, vp⟩ := p
    have ⟨hlb, hwf'⟩ := wf_cons.mp hwf
    have hk : k < kp := by
      apply Decidable.byContradiction
      intro hc
      have := h kp (by omega)
      simp [get] at this
    intro q hq
    cases hq with
    | head => exact hk
    | tail _ hq' => exact Nat.lt_trans hk (hlb q hq')

theorem ext {a b : NMap ν} (ha : WF a) (hb : WF b) (h : ∀ k, get a k = get b k) : a = b := by
  induction a generalizing b with
  | nil =>
    cases b with
    | nil => rfl
    | cons q b => have := h q.1; simp [get_cons] at this
  | cons p a ih =>
    cases b with
    | nil => have := h p.1; simp [get_cons] at this
    | cons q b =>
      have ⟨hlba, hwa⟩ := wf_cons.mp ha
      have ⟨hlbb, hwb⟩ := wf_cons.mp hb
      -- the smaller of two different head keys is found in one of the maps only
      have key : ∀ {p q : Nat × ν} {a b : NMap ν}, LB q.1 b → p.1 < q.1 →
          get (p :: a) p.1 ≠ get (q :: b) p.1 := by
        intro p q a b hl hlt e
        rw [get_cons, get_cons, if_pos rfl, if_neg (Nat.ne_of_lt hlt),
          get_eq_none_of_LB hl (Nat.le_of_lt hlt)] at e
        cases e
      have hk : p.1 = q.1 := by
        rcases Nat.lt_trichotomy p.1 q.1 with hlt | he | hgt
        · exact absurd (h p.1) (key hlbb hlt)
        · exact he
        · exact absurd (h q.1).symm (key hlba hgt)
      have hv : p.2 = q.2 := by
        have := h p.1
        rw [get_cons, get_cons, if_pos rfl, if_pos hk] at this
        exact Option.some.inj this
      obtain rfl : p = q := Prod.ext hk hv
      congr 1
      refine ih hwa hwb fun k => ?_
      have h1 := h k
      rw [get_cons, get_cons] at h1
      by_cases hk : k = p.1
      · rw [hk, get_eq_none_of_LB hlba (Nat.le_refl _), get_eq_none_of_LB hlbb (Nat.le_refl _)]
      · rwa [if_neg hk, if_neg hk] at h1

theorem mem_insertWith {f : ν → ν → ν} {k : Nat} {v : ν} {m : NMap ν} {p : Nat × ν}
    (h : p ∈ insertWith f k v m) : p ∈ m ∨ p = (k, v) ∨ ∃ o, (k, o) ∈ m ∧ p = (k, f v o) := by
  induction m with
  | nil => exact .inr (.inl (List.mem_singleton.mp h))
  | cons q m ih =>
    obtain ⟨kq, vq⟩ := q
    simp only [insertWith] at h
    split at h
    · cases h with
      | head => exact .inr (.inl rfl)
      | tail _ h' => exact .inl h'
    · split at h
      · rename_i _ e
        subst e
        cases h with
        | head => exact .inr (.inr ⟨vq, .head _, rfl⟩)
        | tail _ h' => exact .inl (.tail _ h')
      · cases h with
        | head => exact .inl (.head _)
        | tail _ h' =>
          rcases ih h' with h1 | h1 | ⟨o, h1, h2⟩
          · exact .inl (.tail _ h1)
          · exact .inr (.inl h1)
          · exact .inr (.inr ⟨o, .tail _ h1, h2⟩)

theorem LB_insertWith {f : ν → ν → ν} {k k' : Nat} {v : ν} {m : NMap ν} (h : LB k m)
    (hk : k < k') : LB k (insertWith f k' v m) := fun p hp => by
  rcases mem_insertWith hp with h1 | h1 | ⟨_, _, h1⟩
  · exact h p h1
  · exact h1 ▸ hk
  · exact h1 ▸ hk

theorem wf_insertWith {f : ν → ν → ν} {k : Nat} {v : ν} {m : NMap ν} (h : WF m) :
    WF (insertWith f k v m) := by
  induction m with
  | nil => simp [insertWith, WF]
  | cons q m ih =>
    obtain ⟨kq, vq⟩ := q
    have ⟨hlb, hw⟩ := wf_cons.mp h
    simp only [insertWith]
    split
    · rename_i hlt
      refine wf_cons.mpr ⟨?_, h⟩
      intro p hp
      cases hp with
      | head => exact hlt
      | tail _ hp' => exact Nat.lt_trans hlt (hlb p hp')
    · split
      · rename_i _ heq
        subst heq
        exact wf_cons.mpr ⟨hlb, hw⟩
      · rename_i hnlt hne
        exact wf_cons.mpr ⟨LB_insertWith hlb (by omega), ih hw⟩

theorem get_insertWith {f : ν → ν → ν} {k : Nat} {v : ν} {m : NMap ν} (h : WF m) (k' : Nat) :
    get (insertWith f k v m) k' =
      if k' = k then some (match get m k with | some o => f v o | none => v) else get m k' := by
  induction m with
  | nil => simp [insertWith, get]
  | cons q m ih =>
    obtain ⟨kq, vq⟩ := q
    have ⟨hlb, hw⟩ := wf_cons.mp h
    simp only [insertWith]
    split
    · rename_i hlt
      have hnone : get ((kq, vq) :: m) k = none :=
        get_eq_none_of_LB (k := k) (by
          intro p hp
          cases hp with
          | head => exact hlt
          | tail _ hp' => exact Nat.lt_trans hlt (hlb p hp')) (Nat.le_refl _)
      rw [hnone]
      simp only [get]
    · split
      · rename_i _ heq
        subst heq
        simp only [get, if_true]
        split <;> rfl
      · rename_i hnlt hne
        simp only [get]
        rw [ih hw, if_neg hne]
        by_cases h1 : k' = kq
        · subst h1
          have : ¬ k' = k := fun h => hne h.symm
          simp [this]
        · simp [h1]

theorem merge_nil_left (f : ν → ν → ν) (b : NMap ν) : merge f [] b = b := rfl

theorem merge_cons (f : ν → ν → ν) (p : Nat × ν) (a b : NMap ν) :
    merge f (p :: a) b = insertWith f p.1 p.2 (merge f a b) := rfl

theorem LB_merge {f : ν → ν → ν} {k : Nat} {a b : NMap ν} (ha : LB k a) (hb : LB k b) :
    LB k (merge f a b) := by
  induction a with
  | nil => exact hb
  | cons p a ih =>
    rw [merge_cons]
    exact LB_insertWith (ih (fun q hq => ha q (by simp [hq]))) (ha p (by simp))

theorem wf_merge {f : ν → ν → ν} {a b : NMap ν} (_ha : WF a) (hb : WF b) :
    WF (merge f a b) := by
  clear _ha
  induction a with
  | nil => exact hb
  | cons p a ih => rw [merge_cons]; exact wf_insertWith ih

theorem get_merge {f : ν → ν → ν} {a b : NMap ν} (ha : WF a) (hb : WF b) (k : Nat) :
    get (merge f a b) k = optMerge f (get a k) (get b k) := by
  induction a generalizing k with
  | nil => rw [merge_nil_left]; cases get b k <;> rfl
  | cons p a ih =>
    obtain ⟨k1, v1⟩ := p
    have ⟨hlba, hwa⟩ := wf_cons.mp ha
    have hn : get a k1 = none := get_eq_none_of_LB hlba (Nat.le_refl _)
    rw [merge_cons, get_insertWith (wf_merge hwa hb), ih hwa k, ih hwa k1, get_cons]
    by_cases hk : k = k1
    · subst hk
      simp only [if_true, hn]
      cases get b k <;> simp [optMerge]
    · simp [hk]

theorem merge_nil_right (f : ν → ν → ν) {a : NMap ν} (ha : WF a) : merge f a [] = a := by
  apply ext (wf_merge ha wf_nil) ha
  intro k
  rw [get_merge ha wf_nil]
  cases get a k <;> rfl

theorem merge_forall {f : ν → ν → ν} {P : Nat × ν → Prop} {a b : NMap ν}
    (hf : ∀ k x y, P (k, x) → P (k, y) → P (k, f x y))
    (ha : ∀ p ∈ a, P p) (hb : ∀ p ∈ b, P p) : ∀ p ∈ merge f a b, P p := by
  induction a with
  | nil => exact hb
  | cons q a ih =>
    intro p hp
    have hq : P q := ha q (.head _)
    have hm := ih fun p hp => ha p (.tail _ hp)
    rcases mem_insertWith (merge_cons f q a b ▸ hp) with h | h | ⟨o, h1, h2⟩
    · exact hm p h
    · exact h ▸ hq
    · exact h2 ▸ hf _ _ _ hq (hm _ h1)

theorem optMerge_comm {f : ν → ν → ν} {x y : Option ν}
    (h : ∀ u v, x = some u → y = some v → f u v = f v u) :
    optMerge f x y = optMerge f y x := by
  cases x <;> cases y <;> simp [optMerge]
  exact h _ _ rfl rfl

theorem optMerge_idem {f : ν → ν → ν} {x : Option ν}
    (h : ∀ u, x = some u → f u u = u) : optMerge f x x = x := by
  cases x <;> simp [optMerge]
  exact h _ rfl

theorem optMerge_assoc {f : ν → ν → ν} {x y z : Option ν}
    (h : ∀ u v w, x = some u → y = some v → z = some w → f u (f v w) = f (f u v) w) :
    optMerge f x (optMerge f y z) = optMerge f (optMerge f x y) z := by
  cases x <;> cases y <;> cases z <;> simp [optMerge]
  exact h _ _ _ rfl rfl rfl

theorem merge_comm {f : ν → ν → ν} {a b : NMap ν} (ha : WF a) (hb : WF b)
    (h : ∀ k u v, get a k = some u → get b k = some v → f u v = f v u) :
    merge f a b = merge f b a := by
  apply ext (wf_merge ha hb) (wf_merge hb ha)
  intro k
  rw [get_merge ha hb, get_merge hb ha]
  exact optMerge_comm (h k)

theorem merge_idem {f : ν → ν → ν} {a : NMap ν} (ha : WF a)
    (h : ∀ k u, get a k = some u → f u u = u) : merge f a a = a := by
  apply ext (wf_merge ha ha) ha
  intro k
  rw [get_merge ha ha]
  exact optMerge_idem (h k)

theorem merge_assoc {f : ν → ν → ν} {a b c : NMap ν} (ha : WF a) (hb : WF b) (hc : WF c)
    (h : ∀ k u v w, get a k = some u → get b k = some v → get c k = some w →
      f u (f v w) = f (f u v) w) :
    merge f a (merge f b c) = merge f (merge f a b) c := by
  apply ext (wf_merge ha (wf_merge hb hc)) (wf_merge (wf_merge ha hb) hc)
  intro k
  rw [get_merge ha (wf_merge hb hc), get_merge hb hc, get_merge (wf_merge ha hb) hc,
    get_merge ha hb]
  exact optMerge_assoc (h k)

theorem insert_eq_insertWith (k : Nat) (v : ν) (m : NMap ν) :
    insert k v m = insertWith (fun a _ => a) k v m := by
  induction m with
  | nil => rfl
  | cons q m ih => simp only [insert, insertWith, ih]

theorem wf_insert {k : Nat} {v : ν} {m : NMap ν} (h : WF m) : WF (insert k v m) :=
  insert_eq_insertWith k v m ▸ wf_insertWith h

theorem get_insert {k : Nat} {v : ν} {m : NMap ν} (k' : Nat) :
    get (insert k v m) k' = if k' = k then some v else get m k' := by
  induction m with
  | nil => simp [insert, get]
  | cons q m ih =>
    obtain ⟨kq, vq⟩ := q
    simp only [insert]
    split
    · simp [get]
    · split
      · rename_i _ heq
        subst heq
        simp only [get]
        split <;> rfl
      · rename_i hnlt hne
        simp only [get]
        rw [ih]
        by_cases h1 : k' = kq
        · subst h1
          have : ¬ k' = k := fun h => hne h.symm
          simp [this]
        · simp [h1]

theorem mem_insert {k : Nat} {v : ν} {m : NMap ν} {p : Nat × ν} (h : p ∈ insert k v m) :
    p = (k, v) ∨ p ∈ m := by
  rcases mem_insertWith (insert_eq_insertWith k v m ▸ h) with h | h | ⟨_, _, h⟩
  · exact .inr h
  · exact .inl h
  · exact .inl h

theorem get_of_mem {m : NMap ν} (hwf : WF m) {p : Nat × ν} (hp : p ∈ m) :
    get m p.1 = some p.2 := by
  induction m with
  | nil => cases hp
  | cons q m ih =>
    have ⟨hlb, hw⟩ := wf_cons.mp hwf
    rw [get_cons]
    cases hp with
    | head => simp
    | tail _ hp' =>
      have : q.1 < p.1 := hlb p hp'
      rw [if_neg (by omega)]
      exact ih hw hp'

theorem mem_of_get {m : NMap ν} {k : Nat} {v : ν} (h : get m k = some v) : (k, v) ∈ m := by
  induction m with
  | nil => simp at h
  | cons q m ih =>
    rw [get_cons] at h
    split at h
    · rename_i hk
      cases h
      obtain ⟨kq, vq⟩ := q
      simp at hk
      subst hk
      simp
    · exact List.mem_cons_of_mem _ (ih h)

theorem mem_merge {f : ν → ν → ν} {a b : NMap ν} (ha : WF a) (hb : WF b) {p : Nat × ν}
    (hp : p ∈ merge f a b) :
    (p ∈ a ∧ get b p.1 = none) ∨ (p ∈ b ∧ get a p.1 = none) ∨
      ∃ x y, (p.1, x) ∈ a ∧ (p.1, y) ∈ b ∧ p.2 = f x y := by
  have hg := get_of_mem (wf_merge ha hb) hp
  rw [get_merge ha hb] at hg
  cases hga : get a p.1 <;> cases hgb : get b p.1 <;> simp [hga, hgb, optMerge] at hg
  · right; left
    refine ⟨?_, rfl⟩
    have := mem_of_get hgb
    rw [hg] at this; exact this
  · left
    refine ⟨?_, rfl⟩
    have := mem_of_get hga
    rw [hg] at this; exact this
  · right; right
    exact ⟨_, _, mem_of_get hga, mem_of_get hgb, hg.symm⟩

theorem erase_sublist (k : Nat) (m : NMap ν) : (erase k m).Sublist m := by
  induction m with
  | nil => exact .slnil
  | cons q m ih =>
    simp only [erase]
    split
    · exact List.sublist_cons_self ..
    · exact ih.cons_cons _

theorem mem_erase {k : Nat} {m : NMap ν} {p : Nat × ν} (h : p ∈ erase k m) : p ∈ m :=
  (erase_sublist k m).subset h

theorem wf_erase {k : Nat} {m : NMap ν} (h : WF m) : WF (erase k m) :=
  List.Pairwise.sublist (erase_sublist k m) h

theorem get_erase {k : Nat} {m : NMap ν} (h : WF m) (k' : Nat) :
    get (erase k m) k' = if k' = k then none else get m k' := by
  induction m with
  | nil => simp [erase]
  | cons q m ih =>
    obtain ⟨kq, vq⟩ := q
    have ⟨hlb, hw⟩ := wf_cons.mp h
    simp only [erase]
    split
    · rename_i heq
      subst heq
      by_cases h1 : k' = k
      · subst h1
        simp [get_eq_none_of_LB hlb (Nat.le_refl _)]
      · simp [get, h1]
    · rename_i hne
      simp only [get]
      rw [ih hw]
      by_cases h1 : k' = kq
      · subst h1
        have : ¬ k' = k := fun h => hne h.symm
        simp [this]
      · simp [h1]

theorem erase_of_get_none {m : NMap ν} (hw : WF m) {k : Nat} (h : get m k = none) : erase k m = m := by
  apply ext (wf_erase hw) hw
  intro k'
  rw [get_erase hw]
  split
  · rename_i hk; rw [hk, h]
  · rfl

theorem insert_insert {m : NMap ν} (hw : WF m) (k : Nat) (v v' : ν) :
    insert k v (insert k v' m) = insert k v m := by
  apply ext (wf_insert (wf_insert hw)) (wf_insert hw)
  intro k'
  simp only [get_insert]
  split <;> rfl

theorem erase_insert {m : NMap ν} (hw : WF m) (k : Nat) (v : ν) :
    erase k (insert k v m) = erase k m := by
  apply ext (wf_erase (wf_insert hw)) (wf_erase hw)
  intro k'
  simp only [get_erase (wf_insert hw), get_erase hw, get_insert]
  split <;> rfl

theorem insert_erase {m : NMap ν} (hw : WF m) (k : Nat) (v : ν) :
    insert k v (erase k m) = insert k v m := by
  apply ext (wf_insert (wf_erase hw)) (wf_insert hw)
  intro k'
  rw [get_insert, get_insert, get_erase hw]
  split <;> rfl

theorem insert_ne_nil (k : Nat) (v : ν) (m : NMap ν) : insert k v m ≠ [] := by
  cases m with
  | nil => simp [insert]
  | cons q m =>
    obtain ⟨kq, vq⟩ := q
    simp only [insert]
    split
    · simp
    · split <;> simp

theorem nodup_keys {m : NMap ν} (h : WF m) : (keys m).Nodup := by
  unfold keys List.Nodup
  rw [List.pairwise_map]
  exact List.Pairwise.imp (fun hab => by omega) h

theorem LB_filter {k : Nat} {m : NMap ν} (f : Nat × ν → Bool) (h : LB k m) : LB k (m.filter f) :=
  fun p hp => h p (List.mem_filter.mp hp).1

theorem wf_filter {m : NMap ν} (f : Nat × ν → Bool) (h : WF m) : WF (m.filter f) :=
  List.Pairwise.filter f h

/-- for a test on the value alone, `fun p => g p.2`, the right side is `(get m k).filter g` as it stands -/
theorem get_filter (f : Nat × ν → Bool) {m : NMap ν} (h : WF m) (k : Nat) :
    get (m.filter f) k = (get m k).filter (fun v => f (k, v)) := by
  induction m with
  | nil => rfl
  | cons q m ih =>
    obtain ⟨kq, vq⟩ := q
    have ⟨hlb, hw⟩ := wf_cons.mp h
    rw [List.filter_cons, get_cons]
    by_cases hk : k = kq
    · subst hk
      -- the key does not occur in the tail, filtered or not
      have hn := get_eq_none_of_LB (LB_filter f hlb) (Nat.le_refl k)
      cases hf : f (k, vq) <;> simp [hf, hn, Option.filter, get_cons]
    · rw [if_neg hk, ← ih hw]
      split <;> simp [get_cons, hk]

/-- a filter that looks at the key only (no `WF` needed) -/
theorem get_filter_key (q : Nat → Bool) (m : NMap ν) (k : Nat) :
    get (m.filter fun p => q p.1) k = if q k then get m k else none := by
  induction m with
  | nil => simp
  | cons p ps ih =>
    obtain ⟨k', v⟩ := p
    by_cases hk : k = k'
    · subst hk; cases hq : q k <;> simp [get, hq, ih]
    · cases hq : q k' <;> simp [get, hq, hk, ih]

theorem wf_mapKV {μ : Type} (g : Nat → ν → μ) {m : NMap ν} (h : WF m) :
    WF (m.map (fun p => (p.1, g p.1 p.2))) := by
  unfold WF at *
  rw [List.pairwise_map]
  exact h

theorem get_mapKV {μ : Type} (g : Nat → ν → μ) (m : NMap ν) (k : Nat) :
    get (m.map (fun p => (p.1, g p.1 p.2))) k = (get m k).map (g k) := by
  induction m with
  | nil => rfl
  | cons p m ih =>
    simp only [List.map_cons, get_cons]
    split
    · rename_i h; subst h; rfl
    · exact ih

theorem wf_mapVal {μ : Type} (f : ν → μ) {m : NMap ν} (h : WF m) : WF (mapVal f m) :=
  wf_mapKV (fun _ => f) h

theorem get_mapVal {μ : Type} (f : ν → μ) (m : NMap ν) (k : Nat) :
    get (mapVal f m) k = (get m k).map f := get_mapKV (fun _ => f) m k

theorem mapVal_insert {μ : Type} (f : ν → μ) (k : Nat) (v : ν) (m : NMap ν) :
    mapVal f (insert k v m) = insert k (f v) (mapVal f m) := by
  induction m with
  | nil => rfl
  | cons p m ih =>
    obtain ⟨k', v'⟩ := p
    simp only [insert, mapVal, List.map_cons]
    split
    · rfl
    · split
      · rfl
      · exact congrArg _ ih

theorem mem_mapVal {μ : Type} {f : ν → μ} {m : NMap ν} {q : Nat × μ} (h : q ∈ mapVal f m) :
    ∃ p ∈ m, q = (p.1, f p.2) := by
  simp only [mapVal, List.mem_map] at h
  obtain ⟨p, hp, rfl⟩ := h
  exact ⟨p, hp, rfl⟩

theorem wf_ofList (l : List (Nat × ν)) : WF (ofList l) := by
  unfold ofList
  suffices ∀ (m : NMap ν), WF m → WF (l.foldl (fun m p => insert p.1 p.2 m) m) from this [] wf_nil
  induction l with
  | nil => intro m hm; exact hm
  | cons p l ih => intro m hm; exact ih _ (wf_insert hm)

end NMap

/-! ### sets: an `NSet` is treated as an `NMap Unit` for the proofs -/
namespace NSet

def toMap (s : NSet) : NMap Unit := s.map (fun k => (k, ()))

theorem toMap_inj {a b : NSet} (h : toMap a = toMap b) : a = b := by
  induction a generalizing b with
  | nil => cases b <;> simp_all [toMap]
  | cons x a ih =>
    cases b with
    | nil => simp [toMap] at h
    | cons y b =>
      simp [toMap] at h
      have := ih (b := b) (by simpa [toMap] using h.2)
      rw [h.1, this]

theorem wf_toMap {s : NSet} : NMap.WF (toMap s) ↔ WF s := by
  unfold NMap.WF WF toMap
  rw [List.pairwise_map]

theorem toMap_insert (k : Nat) (s : NSet) :
    toMap (insert k s) = NMap.insertWith (fun _ _ => ()) k () (toMap s) := by
  induction s with
  | nil => rfl
  | cons x s ih =>
    simp only [insert, toMap, List.map_cons, NMap.insertWith]
    split
    · rfl
    · split
      · rename_i _ h; subst h; rfl
      · simp only [toMap] at ih; rw [← ih]; rfl

theorem toMap_union (a b : NSet) :
    toMap (union a b) = NMap.merge (fun _ _ => ()) (toMap a) (toMap b) := by
  induction a with
  | nil => rfl
  | cons x a ih =>
    show toMap (insert x (union a b)) = _
    rw [toMap_insert, ih]
    rfl

theorem wf_union {a b : NSet} (ha : WF a) (hb : WF b) : WF (union a b) := by
  rw [← wf_toMap, toMap_union]
  exact NMap.wf_merge (wf_toMap.mpr ha) (wf_toMap.mpr hb)

theorem union_comm {a b : NSet} (ha : WF a) (hb : WF b) : union a b = union b a := by
  apply toMap_inj
  rw [toMap_union, toMap_union]
  exact NMap.merge_comm (wf_toMap.mpr ha) (wf_toMap.mpr hb) (fun _ _ _ _ _ => rfl)

theorem union_idem {a : NSet} (ha : WF a) : union a a = a := by
  apply toMap_inj
  rw [toMap_union]
  exact NMap.merge_idem (wf_toMap.mpr ha) (fun _ _ _ => rfl)

theorem union_assoc {a b c : NSet} (ha : WF a) (hb : WF b) (hc : WF c) :
    union a (union b c) = union (union a b) c := by
  apply toMap_inj
  rw [toMap_union, toMap_union, toMap_union, toMap_union]
  exact NMap.merge_assoc (wf_toMap.mpr ha) (wf_toMap.mpr hb) (wf_toMap.mpr hc)
    (fun _ _ _ _ _ _ _ => rfl)

theorem insert_ne_nil (k : Nat) (s : NSet) : insert k s ≠ [] := by
  cases s with
  | nil => simp [insert]
  | cons x s =>
    simp only [insert]
    split
    · simp
    · split <;> simp

theorem mem_insert {s : NSet} {k x : Nat} : x ∈ insert k s ↔ x = k ∨ x ∈ s := by
  induction s with
  | nil => simp [insert]
  | cons y s ih =>
    simp only [insert]
    split
    · simp
    · split
      · rename_i _ h; subst h; simp
      · simp only [List.mem_cons, ih]; exact or_left_comm

theorem union_ne_nil_left {a b : NSet} (h : a ≠ []) : union a b ≠ [] := by
  cases a with
  | nil => exact absurd rfl h
  | cons x a => exact insert_ne_nil _ _

end NSet
end RedisVerif
