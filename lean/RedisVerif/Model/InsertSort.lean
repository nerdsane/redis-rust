/-
  Stable insertion sort under an arbitrary comparison `le`; the sorts the models write out for a
  fixed key are instances.  No imports, so that every model and lemma module can rest on it.
-/
namespace RedisVerif
namespace HB

/-- stable insertion sort under `le` (structural: the kernel evaluates it) -/
def insertBy {α : Type} (le : α → α → Bool) (e : α) : List α → List α
  | [] => [e]
  | x :: xs => if le e x then e :: x :: xs else x :: insertBy le e xs

def isort {α : Type} (le : α → α → Bool) (l : List α) : List α := l.foldr (insertBy le) []

end HB
end RedisVerif
