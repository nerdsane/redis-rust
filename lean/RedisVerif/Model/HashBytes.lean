import RedisVerif.Model.Crdt
import RedisVerif.Model.SipHash
import RedisVerif.Model.InsertSort

/-
  The byte streams Rust's `Hash` impls write into a `Hasher` — the vocabulary shared by the
  anti-entropy digest (`canonical_hash`, `KeyDigest::new`, `MerkleNode::{from_digests, combine}`)
  and the hash ring (`hash_key`, `hash_virtual_node`):

    u8 / bool            1 byte
    u32                  4 bytes little endian
    u64 / usize / isize  8 bytes little endian (64-bit target)
    str / String         the UTF-8 bytes followed by 0xff   (`Hasher::write_str`)
    [T] / Vec<T>         `write_length_prefix(len)` = 8-byte length, then every element
    Option<T>            the discriminant as `isize` (8 bytes: 0 = None, 1 = Some), then the payload
    tuples, structs      the fields in order

  (observed with a recording `Hasher` and, for every value of every run, confirmed by comparing
  `sip13` of the model's stream with the real `DefaultHasher` result).

  Strings of the Rust side (`String` keys, set elements, hash field names) are Nat codes in the
  models (`Driver.keyCode`: the bytes read as base-256 digits after a leading 1); `keyStr`
  decodes a code into its bytes.
-/
namespace RedisVerif
namespace HB

/-- `n.to_le_bytes()` of a `w`-byte unsigned integer.  The LAST byte is not reduced mod 256, so
    the function is injective on all of `Nat` and is exactly `to_le_bytes` for `n < 256^w`. -/
def leBytes : Nat → Nat → List Nat
  | 0, _ => []
  | 1, n => [n]
  | w + 2, n => n % 256 :: leBytes (w + 1) (n / 256)

def le64 (n : Nat) : List Nat := leBytes 8 n
def le32 (n : Nat) : List Nat := leBytes 4 n

/-- compiled form of `le64`: split once into 32-bit halves (two big-number operations for a
    hash value ≥ 2^63 instead of sixteen), then small-number arithmetic -/
def le64Fast (n : Nat) : List Nat :=
  let lo := n % 4294967296
  let hi := n / 4294967296
  [lo % 256, lo / 256 % 256, lo / 65536 % 256, lo / 16777216,
   hi % 256, hi / 256 % 256, hi / 65536 % 256, hi / 16777216]

theorem mod_div_byte (n d q : Nat) : n % (d * (256 * q)) / d % 256 = n / d % 256 := by
  rw [Nat.mod_mul_right_div_self, Nat.mod_mul_right_mod]

@[csimp] theorem le64_eq_fast : @le64 = @le64Fast := by
  funext n
  -- both sides become `n / 256^i % 256`, once nested divisions are merged
  simp only [le64, le64Fast, leBytes, Nat.div_div_eq_div_mul, Nat.reduceMul]
  have h0 := mod_div_byte n 1 16777216
  have h1 := mod_div_byte n 256 65536
  have h2 := mod_div_byte n 65536 256
  simp only [Nat.reduceMul, Nat.div_one] at h0 h1 h2
  rw [← Nat.mod_mul_right_div_self n 16777216 256, h0, h1, h2]

/-- byte-wise lexicographic `≤` — `Ord for str / String / [u8]` -/
def bytesLe : List Nat → List Nat → Bool
  | [], _ => true
  | _ :: _, [] => false
  | x :: xs, y :: ys => if x < y then true else if y < x then false else bytesLe xs ys

/-- `Driver.keyCode`: a byte string as a Nat code -/
def code (b : List Nat) : Nat := b.foldl (fun acc x => acc * 256 + x) 1

/-- the base-256 digits of `n` below its leading digit, most significant first (fuel `n`) -/
def digitsAux : Nat → Nat → List Nat → List Nat
  | 0, _, acc => acc
  | fuel + 1, n, acc => if n ≤ 1 then acc else digitsAux fuel (n / 256) (n % 256 :: acc)

def digits (n : Nat) : List Nat := digitsAux n n []

/-- the bytes of the string with code `k`.  Total and injective: a number that is not the code
    of a byte string (never produced by the drivers) is mapped to a two-element list that starts
    with the non-byte 256. -/
def keyStr (k : Nat) : List Nat :=
  if code (digits k) = k then digits k else [256, k]

/-- what `str::hash` / `String::hash` writes -/
def strBytes (kb : Nat → List Nat) (k : Nat) : List Nat := kb k ++ [255]

/-- `Option<u64>::hash` -/
def optU64 : Option Nat → List Nat
  | none => le64 0
  | some n => le64 1 ++ le64 n

/-- `Option<u8>::hash` -/
def optU8 : Option Nat → List Nat
  | none => le64 0
  | some n => le64 1 ++ [n]

/-- `Vec<(u64, u64)>::hash` of the entries of a canonical map in key order (`counts`: the
    `(replica, n)` pairs `sort_unstable`d — replica ids are unique, so sorted by replica id) -/
def pairsBytes (m : NMap Nat) : List Nat := le64 m.length ++ m.flatMap fun p => le64 p.1 ++ le64 p.2

/-- no byte of the string is 0xff (true of every UTF-8 string) -/
def noFF (b : List Nat) : Bool := b.all fun x => x != 255

end HB
end RedisVerif
