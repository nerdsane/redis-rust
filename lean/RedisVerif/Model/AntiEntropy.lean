import RedisVerif.Model.NMap
import RedisVerif.Model.Crdt
import RedisVerif.Model.HashBytes

/-
  M8 (anti-entropy half) — model of the Merkle digest and of one digest-driven sync exchange.

  Anchors: /repo/src/replication/anti_entropy.rs (`KeyDigest::{new, bucket}`,
  `MerkleNode::{empty, from_digests, combine}`, `StateDigest::{from_state, differs_from,
  divergent_buckets}`, `AntiEntropyManager::get_keys_in_buckets`),
  `AntiEntropyManager::{process_peer_digest, create_sync_request, handle_sync_request}` (the
  message protocol), /repo/src/simulator/multi_node.rs (`MultiNodeSimulation::run_anti_entropy_sync`,
  `SimulatedNode::apply_remote_deltas` → `ShardReplicaState::apply_remote_delta`).

  * SipHash (`DefaultHasher`) is NOT re-implemented: `Hasher` bundles the three ways the code
    uses it as abstract functions (the driver instantiates them with the real hash values
    carried by the op lines).
  * A state is `HashMap<String, ReplicatedValue>` → `NMap RV` (keys = injective key codes).
    Wherever the code ITERATES the map the iteration order is an explicit parameter
    `π : List Nat` (the keys in the order the real map yields them).
  * `vs : ValueStream` is what `KeyDigest::new` feeds to the value hasher: `pinnedStream` (outer
    stamp + live LWW bytes, the code before the `fix:` commit), `canonicalStream` (everything
    that distinguishes two values, in canonical order, one word per hashed item) or `byteStream`
    (the bytes of those items; the current tree is `currentStream = byteStream HB.keyStr`).
  * `sortBucket` selects between the code before 3c97030 (`false`: bucket digests are folded in
    iteration order) and the current tree (`true`: each bucket's digests are sorted by
    `(key_hash, value_hash)` before folding).
-/
namespace RedisVerif
namespace AE

/-- the three uses of `DefaultHasher` -/
structure Hasher where
  /-- `key.hash(&mut DefaultHasher::new()); finish()` for a key (given by its key code) -/
  key : Nat → Nat
  /-- the value hasher, as a function of the stream of words fed to it (`ValueStream`) -/
  val : List Nat → Nat
  /-- a stream of `u64` words: `from_digests` (`key_hash, value_hash` per digest) and
      `combine` (`left.hash, right.hash`) -/
  words : List Nat → Nat

/-- `KeyDigest` -/
structure KeyDigest where
  keyHash : Nat
  valueHash : Nat
  timestamp : Nat
  deriving DecidableEq, Repr, Inhabited

/-! ### what `KeyDigest::new` feeds to the value hasher

  Every variable-length part is length-prefixed and every alternative is tagged, as Rust's
  `Hash` impls for slices / `Vec` / `Option` / tuples do; the model's canonical (sorted) maps and
  sets stand for "visited in sorted order". -/

def serList {α : Type} (f : α → List Nat) (l : List α) : List Nat := l.length :: l.flatMap f

def serBytes (b : Bytes) : List Nat := serList (fun x => [x]) b

def serOptBytes : Option Bytes → List Nat
  | none => [0]
  | some b => 1 :: serBytes b

def serStamp (s : Stamp) : List Nat := [s.time, s.rid]

def serLww (r : Lww) : List Nat := serOptBytes r.value ++ (serStamp r.ts ++ [if r.tomb then 1 else 0])

def serCounts (m : NMap Nat) : List Nat := serList (fun p => [p.1, p.2]) m

def serNSet (s : NSet) : List Nat := serList (fun k => [k]) s

def serCrdt : Crdt → List Nat
  | .lww r => 0 :: serLww r
  | .gcounter c => 1 :: serCounts c
  | .pncounter p n => 2 :: (serCounts p ++ serCounts n)
  | .gset s => 3 :: serNSet s
  | .orset e nx => 4 :: (serList (fun p => p.1 :: serNSet p.2) e ++ serCounts nx)
  | .hash h => 5 :: serList (fun p => p.1 :: serLww p.2) h

def serOptNat : Option Nat → List Nat
  | none => [0]
  | some n => [1, n]

def serOptCounts : Option (NMap Nat) → List Nat
  | none => [0]
  | some m => 1 :: serCounts m

/-- a value stream: what is fed to the value hasher for a replicated value -/
abbrev ValueStream := RV → List Nat

/-- the value stream of the pinned code: outer stamp, and the live LWW bytes if there are any
    (`time.hash; replica_id.hash; if let Some(v) = value.get() { v.as_bytes().hash }`) -/
def pinnedStream : ValueStream := fun v =>
  serStamp v.ts ++ (match v.get with | none => [] | some b => serBytes b)

/-- the value stream of `canonical_hash` (since the `fix:` commit recorded in
    known_findings.json): outer stamp, CRDT kind and full content, vector clock, expiry,
    replication factor -/
def canonicalStream : ValueStream := fun v =>
  serStamp v.ts ++ (serCrdt v.crdt ++ (serOptCounts v.vc ++ (serOptNat v.expiry ++ serOptNat v.rf)))

/-! ### the BYTES `canonical_hash` writes into the `DefaultHasher`

  `canonicalStream` above is the shape of the stream (one word per hashed item); `byteStream` is
  the stream itself, byte for byte, as Rust's `Hash` impls produce it (`Model/HashBytes.lean`):
  what `sip13` of it returns is compared with the real `KeyDigest::new(..).value_hash` for every
  value of every run.  `kb` decodes a string code (set element, hash field name) into its bytes
  (`HB.keyStr` in the driver).  Differences to the word stream that matter:
  * a `String` is hashed as its bytes followed by `0xff` — NOT length-prefixed: unambiguous only
    because a UTF-8 string never contains `0xff` (`StrSafe`);
  * `Vec<&String>` / the OR-set elements / the hash fields are `sort_unstable`d by the strings'
    BYTES (`String: Ord`), not in the (length-first) order of the model's key codes. -/

open HB in
/-- `lww(r, h)`: `r.value.as_ref().map(|v| v.as_bytes()).hash(h);
    (r.timestamp.time, r.timestamp.replica_id.0, r.tombstone).hash(h)` -/
def bLww (r : Lww) : List Nat :=
  (match r.value with
    | none => le64 0
    | some b => le64 1 ++ (le64 b.length ++ b))
  ++ (le64 r.ts.time ++ (le64 r.ts.rid ++ [if r.tomb then 1 else 0]))

open HB in
/-- the sorted tag list of one OR-set element: `Vec<(u64, u64)>` of `(replica_id, sequence)`; a
    tag code is `replica_id * 2^64 + sequence`, the canonical set is in code order =
    `(replica_id, sequence)` order -/
def bTags (t : NSet) : List Nat :=
  le64 t.length ++ t.flatMap fun c => le64 (c / 2 ^ 64) ++ le64 (c % 2 ^ 64)

/-- entries keyed by a string, `sort_unstable`d by the string's bytes -/
def sortByStr {β : Type} (kb : Nat → List Nat) (m : List (Nat × β)) : List (List Nat × β) :=
  HB.isort (fun a b => HB.bytesLe a.1 b.1) (m.map fun p => (kb p.1, p.2))

/-- one string-keyed entry: the string (`0xff`-terminated), then its payload -/
def strEntry {β : Type} (g : β → List Nat) (p : List Nat × β) : List Nat := (p.1 ++ [255]) ++ g p.2

open HB in
def bCrdt (kb : Nat → List Nat) : Crdt → List Nat
  | .lww r => 0 :: bLww r
  | .gcounter c => 1 :: pairsBytes c
  | .pncounter p n => 2 :: (pairsBytes p ++ pairsBytes n)
  | .gset s =>
    let strs := isort bytesLe (s.map kb)
    3 :: (le64 strs.length ++ strs.flatMap fun b => b ++ [255])
  | .orset e nx =>
    let es := sortByStr kb e
    4 :: ((le64 es.length ++ es.flatMap (strEntry bTags)) ++ pairsBytes nx)
  | .hash h =>
    let fs := sortByStr kb h
    5 :: (le64 fs.length ++ fs.flatMap (strEntry bLww))

open HB in
/-- the bytes `canonical_hash(value, h)` writes: `(time, replica).hash; <tag>u8.hash; <content>;
    vector_clock.is_some().hash; [counts(vc)]; (expiry_ms, replication_factor).hash` -/
def byteStream (kb : Nat → List Nat) : ValueStream := fun v =>
  le64 v.ts.time ++ (le64 v.ts.rid ++ (bCrdt kb v.crdt ++
    ((match v.vc with
      | none => [0]
      | some m => 1 :: pairsBytes m) ++ (optU64 v.expiry ++ optU8 v.rf))))

/-- the three uses of `DefaultHasher` as ONE byte-stream hash `sip`:
    * `key.hash(h)` → the key's bytes and `0xff`;
    * `canonical_hash(value, h)` → the value hasher is `sip` itself (on `byteStream`);
    * `from_digests` / `combine` → every `u64` word as 8 little-endian bytes -/
def sipHasher (sip : List Nat → Nat) (kb : Nat → List Nat) : Hasher :=
  { key := fun k => sip (HB.strBytes kb k)
    val := sip
    words := fun ws => sip (ws.flatMap HB.le64) }

/-- the value stream of the current tree -/
def currentStream : ValueStream := byteStream HB.keyStr

/-- the hasher of the current tree: SipHash-1-3 with the zero key (`DefaultHasher::new()`) -/
def currentHasher : Hasher := sipHasher Sip.sip13 HB.keyStr

/-- `KeyDigest::new(key, value)` -/
def keyDigest (H : Hasher) (vs : ValueStream) (k : Nat) (v : RV) : KeyDigest :=
  { keyHash := H.key k, valueHash := H.val (vs v), timestamp := v.ts.time }

/-- `KeyDigest::bucket(depth)`: `(key_hash as usize) % (1 << depth)` -/
def bucketOf (depth : Nat) (d : KeyDigest) : Nat := d.keyHash % 2 ^ depth

/-- `MerkleNode` -/
structure MerkleNode where
  hash : Nat
  count : Nat
  maxTs : Nat
  deriving DecidableEq, Repr, Inhabited

def MerkleNode.empty : MerkleNode := ⟨0, 0, 0⟩

/-- insertion sort of `(key_hash, value_hash)` pairs, lexicographic -/
def pairLe (a b : Nat × Nat) : Bool := a.1 < b.1 || (a.1 == b.1 && a.2 ≤ b.2)

def insertPair (e : Nat × Nat) : List (Nat × Nat) → List (Nat × Nat)
  | [] => [e]
  | x :: xs => if pairLe e x then e :: x :: xs else x :: insertPair e xs

def sortPairs (l : List (Nat × Nat)) : List (Nat × Nat) := l.foldr insertPair []

/-- the `(key_hash, value_hash)` pairs of a bucket in the order they are fed to the hasher -/
def hashedPairs (sortBucket : Bool) (ds : List KeyDigest) : List (Nat × Nat) :=
  let ps := ds.map fun d => (d.keyHash, d.valueHash)
  if sortBucket then sortPairs ps else ps

/-- `MerkleNode::from_digests` (preceded, when `sortBucket`, by the sort of the patch) -/
def fromDigests (H : Hasher) (sortBucket : Bool) (ds : List KeyDigest) : MerkleNode :=
  if ds.isEmpty then MerkleNode.empty
  else
    { hash := H.words ((hashedPairs sortBucket ds).flatMap fun p => [p.1, p.2])
      count := ds.length
      maxTs := ds.foldl (fun m d => max m d.timestamp) 0 }

/-- `MerkleNode::combine` -/
def combine (H : Hasher) (l r : MerkleNode) : MerkleNode :=
  if l.count = 0 ∧ r.count = 0 then MerkleNode.empty
  else { hash := H.words [l.hash, r.hash], count := l.count + r.count, maxTs := max l.maxTs r.maxTs }

/-- `StateDigest` (without `replica_id` / `generation`, which no comparison reads) -/
structure StateDigest where
  rootHash : Nat
  keyCount : Nat
  maxTs : Nat
  buckets : List MerkleNode
  deriving DecidableEq, Repr, Inhabited

/-- `keys.iter()` in iteration order `π` -/
def iter (π : List Nat) (s : NMap RV) : List (Nat × RV) :=
  π.filterMap fun k => (NMap.get s k).map fun v => (k, v)

/-- `π` is an iteration order of `s`: every key exactly once -/
def ValidOrder (π : List Nat) (s : NMap RV) : Prop := π.Perm (NMap.keys s)

instance (π : List Nat) (s : NMap RV) : Decidable (ValidOrder π s) := by
  unfold ValidOrder; infer_instance

/-- the root fold of `from_state`: `combined = buckets[0]; for node in &buckets[1..] { combine }` -/
def rootOf (H : Hasher) : List MerkleNode → MerkleNode
  | [] => MerkleNode.empty
  | b :: rest => rest.foldl (combine H) b

/-- the key digests that `from_state` pushes into bucket `b`, in push order -/
def bucketDigests (H : Hasher) (vs : ValueStream) (depth : Nat) (π : List Nat) (s : NMap RV) (b : Nat) :
    List KeyDigest :=
  ((iter π s).map fun p => keyDigest H vs p.1 p.2).filter fun d => bucketOf depth d == b

/-- `StateDigest::from_state(keys, _, _, depth)` -/
def fromState (H : Hasher) (sortBucket : Bool) (vs : ValueStream) (depth : Nat) (π : List Nat)
    (s : NMap RV) : StateDigest :=
  let buckets := (List.range (2 ^ depth)).map fun b => fromDigests H sortBucket (bucketDigests H vs depth π s b)
  let root := rootOf H buckets
  { rootHash := root.hash, keyCount := root.count, maxTs := root.maxTs, buckets := buckets }

/-! ## efficient evaluation of the model in the compiled driver (proof-backed `csimp`)

  The definitions above transcribe the code; evaluated literally they
  recompute the key digests per bucket and index lists by position (quadratic in the number of
  buckets, 2^18 and more).  The compiler is told to use the variants below, which are PROVED equal. -/

def fromStateFast (H : Hasher) (sortBucket : Bool) (vs : ValueStream) (depth : Nat) (π : List Nat)
    (s : NMap RV) : StateDigest :=
  let m := 2 ^ depth
  let tagged := (iter π s).map fun p => let d := keyDigest H vs p.1 p.2; (d.keyHash % m, d)
  let buckets := (List.range m).map fun b =>
    fromDigests H sortBucket ((tagged.filter fun t => t.1 == b).map (·.2))
  let root := rootOf H buckets
  { rootHash := root.hash, keyCount := root.count, maxTs := root.maxTs, buckets := buckets }

@[csimp] theorem fromState_eq_fast : @fromState = @fromStateFast := by
  funext H sb vs depth π s
  unfold fromState fromStateFast bucketDigests
  simp only [List.filter_map, List.map_map]
  rfl

/-- `StateDigest::differs_from` -/
def differsFrom (a b : StateDigest) : Bool := a.rootHash != b.rootHash

/-- `StateDigest::divergent_buckets` (incl. the handling of digests of different depth) -/
def divergentBuckets (a b : StateDigest) : List Nat :=
  let len := min a.buckets.length b.buckets.length
  let common := (List.range len).filter fun i => a.buckets[i]? != b.buckets[i]?
  let extra (x : StateDigest) := ((List.range x.buckets.length).drop len).filter fun i =>
    match x.buckets[i]? with
    | some n => n.count > 0
    | none => false
  common ++ extra a ++ extra b

/-- the indices from `k` on of the elements of `l` that satisfy `q`, for any reading `g` of `q` off the index -/
theorem zipIdx_filter_map {α : Type} (q : α → Bool) (g : Nat → Bool) :
    ∀ (l : List α) (k : Nat), (∀ i (h : i < l.length), g (k + i) = q l[i]) →
      ((l.zipIdx k).filter (fun p => q p.1)).map (·.2) = (List.range' k l.length).filter g
  | [], _, _ => rfl
  | x :: xs, k, h => by
    have h0 : g k = q x := h 0 (Nat.zero_lt_succ _)
    have ih := zipIdx_filter_map q g xs (k + 1) fun i hi => by
      rw [Nat.add_right_comm, Nat.add_assoc]; exact h (i + 1) (Nat.succ_lt_succ hi)
    rw [List.zipIdx_cons, List.length_cons, List.range'_succ, List.filter_cons, List.filter_cons, h0]
    cases q x <;> simp [ih]

def divergentBucketsFast (a b : StateDigest) : List Nat :=
  let len := min a.buckets.length b.buckets.length
  let common := (((a.buckets.zip b.buckets).zipIdx 0).filter (fun p => p.1.1 != p.1.2)).map (·.2)
  let extra (x : StateDigest) := (((x.buckets.drop len).zipIdx len).filter (fun p => decide (p.1.count > 0))).map (·.2)
  common ++ extra a ++ extra b

@[csimp] theorem divergentBuckets_eq_fast : @divergentBuckets = @divergentBucketsFast := by
  funext a b
  unfold divergentBuckets divergentBucketsFast
  have hextra : ∀ (X : List MerkleNode) (len : Nat),
      ((List.range X.length).drop len).filter (fun i =>
        match X[i]? with
        | some n => decide (n.count > 0)
        | none => false)
      = (((X.drop len).zipIdx len).filter (fun p => decide (p.1.count > 0))).map (·.2) := by
    intro X len
    rw [zipIdx_filter_map (fun n : MerkleNode => decide (n.count > 0)) (fun i =>
          match X[i]? with
          | some n => decide (n.count > 0)
          | none => false) _ _ fun i hi => by
        simp only [List.getElem?_eq_getElem (show len + i < X.length by rw [List.length_drop] at hi; omega),
          List.getElem_drop],
      List.range_eq_range', List.drop_range', List.length_drop, Nat.zero_add, Nat.mul_one]
  simp only [hextra]
  rw [zipIdx_filter_map (fun p : MerkleNode × MerkleNode => p.1 != p.2) (fun i => a.buckets[i]? != b.buckets[i]?) _ _
      fun i hi => by
        rw [List.length_zip] at hi
        rw [Nat.zero_add, List.getElem?_eq_getElem (by omega), List.getElem?_eq_getElem (by omega), List.getElem_zip]
        exact Bool.eq_iff_iff.mpr (by simp only [bne_iff_ne, ne_eq, Option.some.injEq]),
    List.length_zip, List.range_eq_range']

/-- how `get_keys_in_buckets` arranges the selected entries before applying the limit -/
abbrev Arrange := List (Nat × RV) → List (Nat × RV)

/-- stable insertion sort of entries by key under a key order `le` (in the driver: byte-wise
    `String::cmp` on the decoded keys — NOT the order of the key codes) -/
def insertByKey (le : Nat → Nat → Bool) (e : Nat × RV) : List (Nat × RV) → List (Nat × RV)
  | [] => [e]
  | x :: xs => if le e.1 x.1 then e :: x :: xs else x :: insertByKey le e xs

def sortByKey (le : Nat → Nat → Bool) : Arrange := fun l => l.foldr (insertByKey le) []

/-- the two versions of `get_keys_in_buckets` -/
inductive SimOrder where
  | mapOrder   -- `.filter(..).take(limit)` in map iteration order (before fix dc1be9d)
  | keyOrder   -- `.filter(..).collect(); sort_by(key); .take(limit)` (since fix dc1be9d)
  deriving DecidableEq, Repr

def arrangeOf (so : SimOrder) (le : Nat → Nat → Bool) : Arrange :=
  match so with
  | .mapOrder => fun l => l
  | .keyOrder => sortByKey le

def currentSimOrder : SimOrder := .keyOrder

/-- `AntiEntropyManager::get_keys_in_buckets` (the simulator path):
    `keys.iter().filter(bucket ∈ buckets)`, arranged by `arr`, `.take(limit)` -/
def getKeysInBuckets (arr : Arrange) (H : Hasher) (vs : ValueStream) (depth limit : Nat) (π : List Nat)
    (s : NMap RV) (buckets : List Nat) : List (Nat × RV) :=
  (arr ((iter π s).filter fun p => buckets.contains (bucketOf depth (keyDigest H vs p.1 p.2)))).take limit

/-- compiled form: the bucket of an entry needs its KEY hash only (the literal transcription builds
    the whole `KeyDigest`, i.e. also hashes the value, for every entry of every filter) -/
def getKeysInBucketsFast (arr : Arrange) (H : Hasher) (_vs : ValueStream) (depth limit : Nat) (π : List Nat)
    (s : NMap RV) (buckets : List Nat) : List (Nat × RV) :=
  (arr ((iter π s).filter fun p => buckets.contains (H.key p.1 % 2 ^ depth))).take limit

@[csimp] theorem getKeysInBuckets_eq_fast : @getKeysInBuckets = @getKeysInBucketsFast := by
  funext arr H vs depth limit π s buckets
  rfl

/-- `ShardReplicaState::apply_remote_delta` on `replicated_keys` (the Lamport clock and the
    executor write-through of `SimulatedNode::apply_remote_deltas` are not part of the state
    the digests are computed from) -/
def applyDelta (s : NMap RV) (d : Nat × RV) : NMap RV :=
  match NMap.get s d.1 with
  | some loc => NMap.insert d.1 (RV.merge loc d.2) s
  | none => NMap.insert d.1 d.2 s

def applyDeltas (s : NMap RV) (ds : List (Nat × RV)) : NMap RV := ds.foldl applyDelta s

/-- which bucket-fold the current tree uses -/
def currentSortBucket : Bool := true

/-- the crosswise application of `run_anti_entropy_sync`: both delta sets are computed from the
    pre-states (`get_keys_in_buckets` on either side), then `node_b` applies `deltas_a` and
    `node_a` applies `deltas_b` -/
def exchange (arr : Arrange) (H : Hasher) (vs : ValueStream) (depth limit : Nat) (πa πb : List Nat)
    (a b : NMap RV) (div : List Nat) : NMap RV × NMap RV :=
  let deltasA := getKeysInBuckets arr H vs depth limit πa a div
  let deltasB := getKeysInBuckets arr H vs depth limit πb b div
  (applyDeltas a deltasB, applyDeltas b deltasA)

/-- `MultiNodeSimulation::run_anti_entropy_sync(node_a, node_b)` on the two `replicated_keys` maps -/
def syncRoundWith (arr : Arrange) (H : Hasher) (sortBucket : Bool) (vs : ValueStream) (depth limit : Nat)
    (πa πb : List Nat) (a b : NMap RV) : NMap RV × NMap RV :=
  let da := fromState H sortBucket vs depth πa a
  let db := fromState H sortBucket vs depth πb b
  if differsFrom da db then
    let div := divergentBuckets da db
    if !div.isEmpty then exchange arr H vs depth limit πa πb a b div
    else (a, b)
  else (a, b)

/-! ### the message protocol: `process_peer_digest` → `create_sync_request` →
    `handle_sync_request` → the requester merges the response -/

/-- in which order `handle_sync_request` applies the bucket filter and the per-round limit -/
inductive RespOrder where
  | filterThenTake   -- `.filter(bucket ∈ requested).take(max_keys_per_sync)` (the current code)
  | takeThenFilter   -- `.take(max_keys_per_sync).filter(..)`: the limit cuts the ITERATION, not the answer
  deriving DecidableEq, Repr

/-- the deltas of `AntiEntropyManager::handle_sync_request(request, our_keys)`:
    `requested_buckets = Some(buckets)` → the keys of those buckets, `None` → all keys; at most
    `max_keys_per_sync`, in map iteration order `π` -/
def responseKeysWith (ord : RespOrder) (H : Hasher) (vs : ValueStream) (depth limit : Nat) (π : List Nat)
    (s : NMap RV) (requested : Option (List Nat)) : List (Nat × RV) :=
  match requested with
  | none => (iter π s).take limit
  | some buckets =>
    let inReq := fun (p : Nat × RV) => buckets.contains (bucketOf depth (keyDigest H vs p.1 p.2))
    match ord with
    | .filterThenTake => ((iter π s).filter inReq).take limit
    | .takeThenFilter => ((iter π s).take limit).filter inReq

def responseKeysWithFast (ord : RespOrder) (H : Hasher) (_vs : ValueStream) (depth limit : Nat) (π : List Nat)
    (s : NMap RV) (requested : Option (List Nat)) : List (Nat × RV) :=
  match requested with
  | none => (iter π s).take limit
  | some buckets =>
    let inReq := fun (p : Nat × RV) => buckets.contains (H.key p.1 % 2 ^ depth)
    match ord with
    | .filterThenTake => ((iter π s).filter inReq).take limit
    | .takeThenFilter => ((iter π s).take limit).filter inReq

@[csimp] theorem responseKeysWith_eq_fast : @responseKeysWith = @responseKeysWithFast := by
  funext ord H vs depth limit π s requested
  cases requested <;> rfl

def currentRespOrder : RespOrder := .filterThenTake

/-- one pull: the requester (state `r`, order `πr`) compares digests with the peer (`p`, `πp`)
    (`process_peer_digest`), asks for the divergent buckets (or, `full`, for the whole state:
    `create_sync_request(.., buckets = None)`), the peer answers (`handle_sync_request`) and the
    requester merges every delta of the answer (`apply_remote_delta`).
    Returns (digests differ, requested buckets, answered keys, new requester state). -/
def pullWith (ord : RespOrder) (H : Hasher) (sortBucket : Bool) (vs : ValueStream) (depth limit : Nat)
    (full : Bool) (πr πp : List Nat) (r p : NMap RV) : Bool × List Nat × List (Nat × RV) × NMap RV :=
  let dr := fromState H sortBucket vs depth πr r
  let dp := fromState H sortBucket vs depth πp p
  if differsFrom dr dp then
    let div := divergentBuckets dr dp
    let resp := responseKeysWith ord H vs depth limit πp p (if full then none else some div)
    (true, div, resp, applyDeltas r resp)
  else (false, [], [], r)

/-- a digest-side clamp of the tree depth (`None` = the current tree: no clamp; `Some c` = the
    seeded defect class "the digest materialises at most 2^c buckets" while the key filters keep
    bucketing with the configured depth) -/
def digestDepth (clamp : Option Nat) (depth : Nat) : Nat :=
  match clamp with
  | none => depth
  | some c => min depth c

/-- `pullWith .filterThenTake` with the digests built at `digestDepth clamp depth` and the
    responder's key filter at `depth` -/
def pullClamped (clamp : Option Nat) (H : Hasher) (sortBucket : Bool) (vs : ValueStream) (depth limit : Nat)
    (πr πp : List Nat) (r p : NMap RV) : Bool × List Nat × List (Nat × RV) × NMap RV :=
  let dr := fromState H sortBucket vs (digestDepth clamp depth) πr r
  let dp := fromState H sortBucket vs (digestDepth clamp depth) πp p
  if differsFrom dr dp then
    let div := divergentBuckets dr dp
    let resp := responseKeysWith .filterThenTake H vs depth limit πp p (some div)
    (true, div, resp, applyDeltas r resp)
  else (false, [], [], r)

/-- how a configured `merkle_tree_depth` becomes the depth in effect -/
inductive DepthBound where
  | unbounded            -- `1 << depth` at every use (before fix c51a674)
  | capped (max : Nat)   -- `bucket_count(depth) = 1 << depth.min(MAX_MERKLE_TREE_DEPTH)`, the one
                         -- function through which digest construction and `KeyDigest::bucket` go
  deriving DecidableEq, Repr

/-- the depth every model function of this file is to be called with: digest, divergent-bucket
    list and both key filters receive the SAME effective depth -/
def effectiveDepth (b : DepthBound) (depth : Nat) : Nat :=
  match b with
  | .unbounded => depth
  | .capped m => min depth m

/-- `MAX_MERKLE_TREE_DEPTH` -/
def currentDepthBound : DepthBound := .capped 20

/-- `AntiEntropyConfig::keys_per_sync() = max_keys_per_sync.max(1)` (since fix 7f2c849; before it
    the configured limit was used as it is) -/
def effectiveLimit (atLeastOne : Bool) (limit : Nat) : Nat := if atLeastOne then max limit 1 else limit

def currentLimitAtLeastOne : Bool := true

/-- what allocating the bucket vector of `StateDigest::from_state` does for a configured
    `merkle_tree_depth` (a plain `usize`) on a 64-bit target.  Unbounded: `vec![..; 1 << depth]` —
    a shift amount ≥ 64 panics when the crate is built with overflow checks (as the verification
    harness builds it) and wraps modulo 64 otherwise; a vector of more than `isize::MAX` bytes
    (24 bytes per bucket) panics with "capacity overflow"; below that the allocation is attempted
    (and aborts the process when the memory is not there — not modelled). -/
inductive DigestAlloc where
  | buckets (n : Nat)
  | capacityOverflowPanic
  | shiftOverflowPanic
  deriving DecidableEq, Repr

def digestAlloc (b : DepthBound) (overflowChecks : Bool) (depth : Nat) : DigestAlloc :=
  let d := effectiveDepth b depth
  if overflowChecks && d ≥ 64 then .shiftOverflowPanic
  else
    let n := 2 ^ (d % 64)
    if 24 * n > 2 ^ 63 - 1 then .capacityOverflowPanic else .buckets n

/-- the digest / the sync round of the current tree -/
def digest (H : Hasher) (depth : Nat) (π : List Nat) (s : NMap RV) : StateDigest :=
  fromState H currentSortBucket currentStream depth π s

def syncRound (le : Nat → Nat → Bool) (H : Hasher) (depth limit : Nat) (πa πb : List Nat) (a b : NMap RV) :
    NMap RV × NMap RV :=
  syncRoundWith (arrangeOf currentSimOrder le) H currentSortBucket currentStream depth limit πa πb a b

def pull (H : Hasher) (depth limit : Nat) (full : Bool) (πr πp : List Nat) (r p : NMap RV) :
    Bool × List Nat × List (Nat × RV) × NMap RV :=
  pullWith currentRespOrder H currentSortBucket currentStream depth limit full πr πp r p

/-! ## `AntiEntropyManager` as a state machine

  The message protocol with its bookkeeping: digests are MESSAGES (they carry the sender's replica
  id and generation and may be processed late), a request names the buckets the requester found
  divergent when it processed the peer's digest, the responder answers from its CURRENT state and
  the requester merges into its CURRENT state — whatever happened in between. -/

/-- a `StateDigest` as sent: with `replica_id` and `generation` -/
structure TDigest where
  rid : Nat
  generation : Nat
  d : StateDigest
  deriving DecidableEq, Repr, Inhabited

/-- `AntiEntropyManager` (`pending_requests` / `pending_responses` have no producer in src/: they
    stay empty and are not modelled) -/
structure Mgr where
  rid : Nat
  generation : Nat
  depth : Nat          -- `config.merkle_tree_depth` as configured
  limit : Nat          -- `config.max_keys_per_sync` as configured
  interval : Nat       -- `config.sync_interval_ms`
  autoSync : Bool      -- `config.auto_sync_on_heal`
  peerDigests : NMap TDigest
  divergentPeers : NSet
  lastSync : NMap Nat
  deriving DecidableEq, Repr, Inhabited

def Mgr.new (rid depth limit interval : Nat) (autoSync : Bool) : Mgr :=
  { rid := rid, generation := 0, depth := depth, limit := limit, interval := interval, autoSync := autoSync,
    peerDigests := [], divergentPeers := [], lastSync := [] }

/-- `on_local_write` -/
def Mgr.onLocalWrite (m : Mgr) : Mgr := { m with generation := m.generation + 1 }

/-- `generate_digest(keys)` -/
def Mgr.generateDigest (H : Hasher) (m : Mgr) (π : List Nat) (s : NMap RV) : TDigest :=
  ⟨m.rid, m.generation, digest H (effectiveDepth currentDepthBound m.depth) π s⟩

/-- `current_time - last_sync >= sync_interval_ms` on `u64`: a clock that went backwards
    underflows (a panic with overflow checks, a wrap-around — "due" — without) -/
inductive Due where
  | yes | no | underflow
  deriving DecidableEq, Repr

def dueAt (interval last now : Nat) : Due :=
  if now < last then .underflow else if now - last ≥ interval then .yes else .no

/-- `should_sync(peer, current_time)` -/
def Mgr.shouldSync (m : Mgr) (peer now : Nat) : Due :=
  match m.lastSync.get peer with
  | some t => dueAt m.interval t now
  | none => .yes

/-- `process_peer_digest(peer_digest, our_digest)` -/
def Mgr.processPeerDigest (m : Mgr) (peer ours : TDigest) : Mgr × Option (List Nat) :=
  if differsFrom ours.d peer.d then
    ({ m with divergentPeers := NSet.insert peer.rid m.divergentPeers, peerDigests := NMap.insert peer.rid peer m.peerDigests },
      some (divergentBuckets ours.d peer.d))
  else
    ({ m with divergentPeers := m.divergentPeers.filter (fun x => x != peer.rid), peerDigests := NMap.insert peer.rid peer m.peerDigests },
      none)

/-- `SyncRequest` -/
structure Request where
  fromR : Nat
  toR : Nat
  digest : TDigest
  buckets : Option (List Nat)
  deriving DecidableEq, Repr, Inhabited

/-- `create_sync_request(peer, our_digest, buckets, current_time)` -/
def Mgr.createSyncRequest (m : Mgr) (peer : Nat) (ours : TDigest) (buckets : Option (List Nat)) (now : Nat) :
    Mgr × Request :=
  ({ m with lastSync := NMap.insert peer now m.lastSync }, ⟨m.rid, peer, ours, buckets⟩)

/-- `SyncResponse` (the deltas as `(key, value)`; `source_replica` of every delta is `fromR`) -/
structure Response where
  fromR : Nat
  deltas : List (Nat × RV)
  digest : TDigest
  deriving DecidableEq, Repr, Inhabited

/-- `handle_sync_request(request, our_keys)`: answer from the CURRENT state, then
    `process_peer_digest(request.digest, &our_digest)` -/
def Mgr.handleSyncRequest (H : Hasher) (m : Mgr) (req : Request) (π : List Nat) (s : NMap RV) : Mgr × Response :=
  let ours := m.generateDigest H π s
  let deltas := responseKeysWith currentRespOrder H currentStream (effectiveDepth currentDepthBound m.depth)
    (effectiveLimit currentLimitAtLeastOne m.limit) π s req.buckets
  ((m.processPeerDigest req.digest ours).1, ⟨m.rid, deltas, ours⟩)

/-- `on_partition_healed(peer)` -/
def Mgr.onPartitionHealed (m : Mgr) (peer : Nat) : Mgr :=
  if m.autoSync then { m with divergentPeers := NSet.insert peer m.divergentPeers, lastSync := NMap.erase peer m.lastSync }
  else m

/-- `peers_needing_sync(current_time)` as a SET (the divergent peers come out of a `HashSet`):
    the divergent peers and every peer whose last request is at least `sync_interval_ms` old;
    `none` = the `u64` subtraction underflows for some peer -/
def Mgr.peersNeedingSync (m : Mgr) (now : Nat) : Option NSet :=
  if m.lastSync.any (fun p => decide (now < p.2)) then none
  else some ((m.lastSync.filter (fun p => decide (now - p.2 ≥ m.interval))).foldl (fun acc p => NSet.insert p.1 acc) m.divergentPeers)

end AE
end RedisVerif
