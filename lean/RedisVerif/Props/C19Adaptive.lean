import RedisVerif.Model.Adaptive
import RedisVerif.Props.C19
import RedisVerif.Lemmas.AntiEntropy

/-!
# C19 — adaptive replication (`AdaptiveReplicationManager` + `HotKeyDetector`)

Model: `RedisVerif.Adaptive` (`Model/Adaptive.lean`): the access table with its capacity
(`max_tracked_keys`), the sliding-window clean-up, the hot test (the one float comparison, in
exact integer arithmetic on the domain stated there), promotion / demotion, `clear`.  Theorems
quantify over every state reachable from `new` by ANY sequence of `observe` / `force_recalculate`
/ `clear` (`Mgr.run`), any configuration, any clock values (also going backwards).
-/
namespace RedisVerif
namespace C19

open Adaptive

/-! ## association-list facts -/

theorem get_foldl_insert {ν : Type} (v : ν) (ks : List Nat) (m : NMap ν) (k : Nat) :
    NMap.get (ks.foldl (fun o x => NMap.insert x v o) m) k = if k ∈ ks then some v else NMap.get m k := by
  induction ks generalizing m with
  | nil => simp
  | cons x xs ih =>
    simp only [List.foldl_cons]
    rw [ih, NMap.get_insert]
    by_cases h1 : k ∈ xs
    · simp [h1]
    · by_cases h2 : k = x
      · simp [h2]
      · simp [h1, h2]

theorem wf_foldl_insert {ν : Type} (v : ν) (ks : List Nat) (m : NMap ν) (h : NMap.WF m) :
    NMap.WF (ks.foldl (fun o x => NMap.insert x v o) m) :=
  TraceInv.run_inv (fun o x => NMap.insert x v o) NMap.WF (fun _ _ h => NMap.wf_insert h) m h ks

theorem mem_hotKeys {d : Detector} {now k : Nat} :
    k ∈ d.hotKeys now ↔ ∃ m, (k, m) ∈ d.counts ∧ m.isHot d.cfg.threshold now = true := by
  unfold Detector.hotKeys
  simp only [List.mem_map, List.mem_filter]
  constructor
  · rintro ⟨p, ⟨hp, hh⟩, rfl⟩; exact ⟨p.2, hp, hh⟩
  · rintro ⟨m, hm, hh⟩; exact ⟨(k, m), ⟨hm, hh⟩, rfl⟩

/-! ## the invariants -/

/-- what every reachable manager satisfies -/
structure Inv (m : Mgr) : Prop where
  ovWF : NMap.WF m.overrides
  ovHot : ∀ k v, NMap.get m.overrides k = some v → v = m.hotRf
  cntWF : NMap.WF m.det.counts
  cap : m.det.counts.length ≤ m.det.cfg.maxTracked

theorem inv_new (c : Bool) (b h r : Nat) (cfg : HotCfg) : Inv (Mgr.newWith c b h r cfg) :=
  ⟨NMap.wf_nil, by intro k v hv; simp [Mgr.newWith] at hv, NMap.wf_nil, by simp [Mgr.newWith, Detector.new]⟩

/-- the configuration never changes -/
def SameCfg (m m' : Mgr) : Prop :=
  m'.baseRf = m.baseRf ∧ m'.hotRf = m.hotRf ∧ m'.recalcInterval = m.recalcInterval ∧ m'.det.cfg = m.det.cfg

theorem length_insert_le {ν : Type} (k : Nat) (v : ν) (m : NMap ν) :
    (NMap.insert k v m).length ≤ m.length + 1 := by
  induction m with
  | nil => simp [NMap.insert]
  | cons p ps ih =>
    obtain ⟨k', v'⟩ := p
    simp only [NMap.insert]
    split
    · simp
    · split
      · simp
      · simp only [List.length_cons]; omega

theorem length_insert_of_get {ν : Type} {k : Nat} {v w : ν} {m : NMap ν} (hw : NMap.WF m)
    (h : NMap.get m k = some w) : (NMap.insert k v m).length = m.length := by
  induction m with
  | nil => simp [NMap.get] at h
  | cons p ps ih =>
    obtain ⟨k', v'⟩ := p
    have ⟨hlb, hw'⟩ := NMap.wf_cons.mp hw
    simp only [NMap.insert]
    simp only [NMap.get] at h
    split
    · rename_i hlt
      have hk : k ≠ k' := by omega
      simp only [hk, if_false] at h
      have := NMap.get_eq_none_of_LB (k := k') (k' := k) hlb (by omega)
      rw [this] at h; cases h
    · split
      · simp
      · rename_i hne
        simp only [hne, if_false] at h
        simp only [List.length_cons, ih hw' h]

theorem recordAccess_inv {d : Detector} (hw : NMap.WF d.counts) (hc : d.counts.length ≤ d.cfg.maxTracked)
    (key : Nat) (w : Bool) (now : Nat) :
    NMap.WF (d.recordAccess key w now).counts
    ∧ (d.recordAccess key w now).counts.length ≤ (d.recordAccess key w now).cfg.maxTracked
    ∧ (d.recordAccess key w now).cfg = d.cfg := by
  -- the optional clean-up keeps both facts
  have hclean : ∀ d' : Detector, d' = (if d.cfg.cleanupInterval ≤ now - d.lastCleanup then { d.cleanupStale now with lastCleanup := now } else d) →
      NMap.WF d'.counts ∧ d'.counts.length ≤ d'.cfg.maxTracked ∧ d'.cfg = d.cfg := by
    intro d' hd'
    subst hd'
    split
    · refine ⟨List.Pairwise.filter _ hw, ?_, rfl⟩
      exact Nat.le_trans (List.length_filter_le _ _) hc
    · exact ⟨hw, hc, rfl⟩
  obtain ⟨h1, h2, h3⟩ := hclean _ rfl
  unfold Detector.recordAccess
  simp only []
  generalize (if d.cfg.cleanupInterval ≤ now - d.lastCleanup then { d.cleanupStale now with lastCleanup := now } else d) = d' at h1 h2 h3
  cases hg : NMap.get d'.counts key with
  | some m =>
    simp only []
    exact ⟨NMap.wf_insert h1, by rw [length_insert_of_get h1 hg]; exact h2, h3⟩
  | none =>
    simp only []
    split
    · rename_i hlt
      exact ⟨NMap.wf_insert h1, Nat.le_trans (length_insert_le _ _ _) hlt, h3⟩
    · exact ⟨h1, h2, h3⟩

theorem recalculate_inv {m : Mgr} (hi : Inv m) (now : Nat) : Inv (m.recalculate now) ∧ SameCfg m (m.recalculate now) := by
  refine ⟨⟨?_, ?_, hi.cntWF, hi.cap⟩, rfl, rfl, rfl, rfl⟩
  · exact List.Pairwise.filter _ (wf_foldl_insert _ _ _ hi.ovWF)
  · intro k v hv
    simp only [Mgr.recalculate] at hv
    rw [NMap.get_filter_key (fun k => (m.det.hotKeys now).contains k)] at hv
    split at hv
    · rw [get_foldl_insert] at hv
      split at hv
      · injection hv with hv; exact hv.symm
      · exact hi.ovHot k v hv
    · cases hv

theorem observe_inv {m : Mgr} (hi : Inv m) (key : Nat) (w : Bool) (now : Nat) :
    Inv (m.observe key w now) ∧ SameCfg m (m.observe key w now) := by
  have hr := recordAccess_inv hi.cntWF hi.cap key w now
  have h1 : Inv { m with det := m.det.recordAccess key w now } := ⟨hi.ovWF, hi.ovHot, hr.1, hr.2.1⟩
  unfold Mgr.observe
  simp only []
  split
  · have h2 := recalculate_inv h1 now
    exact ⟨⟨h2.1.ovWF, h2.1.ovHot, h2.1.cntWF, h2.1.cap⟩, h2.2.1, h2.2.2.1, h2.2.2.2.1, h2.2.2.2.2.trans hr.2.2⟩
  · exact ⟨h1, rfl, rfl, rfl, hr.2.2⟩

theorem clear_inv (m : Mgr) : Inv m.clear ∧ SameCfg m m.clear :=
  ⟨⟨NMap.wf_nil, by intro k v hv; simp [Mgr.clear] at hv, NMap.wf_nil, by simp [Mgr.clear]⟩, rfl, rfl, rfl, rfl⟩

theorem step_inv {m : Mgr} (hi : Inv m) (op : Op) : Inv (m.step op) ∧ SameCfg m (m.step op) := by
  cases op with
  | observe k w now => exact observe_inv hi k w now
  | recalc now => exact recalculate_inv hi now
  | clear => exact clear_inv m

theorem run_inv {m : Mgr} (hi : Inv m) (ops : List Op) : Inv (m.run ops) ∧ SameCfg m (m.run ops) := by
  induction ops generalizing m with
  | nil => exact ⟨hi, rfl, rfl, rfl, rfl⟩
  | cons op ops ih =>
    have h1 := step_inv hi op
    have h2 := ih h1.1
    exact ⟨h2.1, h2.2.1.trans h1.2.1, h2.2.2.1.trans h1.2.2.1, h2.2.2.2.1.trans h1.2.2.2.1, h2.2.2.2.2.trans h1.2.2.2.2⟩

/-! ## the theorems -/

/-- **C19 (adaptive RF is `base_rf` or `hot_key_rf`)**: in every state reachable from `new` by any
    sequence of `observe` / `force_recalculate` / `clear`, `get_rf_for_key` answers the hot-key
    factor in effect for a key with an override and `base_rf` for every other key — the configured
    values, whatever happened in between. -/
theorem adaptive_rf_is_base_or_hot (c : Bool) (b h r : Nat) (cfg : HotCfg) (ops : List Op) (key : Nat) :
    let m := (Mgr.newWith c b h r cfg).run ops
    m.rfForKey key = (if (NMap.get m.overrides key).isSome then effHot c b h else b) := by
  intro m
  have hr := run_inv (inv_new c b h r cfg) ops
  have hb : m.baseRf = b := hr.2.1
  have hh : m.hotRf = effHot c b h := hr.2.2.1
  unfold Mgr.rfForKey
  cases hg : NMap.get m.overrides key with
  | none => simp [hb]
  | some v =>
    have hv : v = m.hotRf := hr.1.ovHot key v hg
    simp [hv, hh]

/-- **C19 (the overrides are exactly the hot keys)**: right after a recalculation (forced, or the
    periodic one inside `observe`) a key has an override iff the detector reports it hot at that
    instant. -/
theorem recalculate_overrides_exactly_hot (m : Mgr) (now key : Nat) :
    (NMap.get (m.recalculate now).overrides key).isSome = true ↔ key ∈ m.det.hotKeys now := by
  simp only [Mgr.recalculate]
  rw [NMap.get_filter_key (fun k => (m.det.hotKeys now).contains k), get_foldl_insert]
  by_cases hk : key ∈ m.det.hotKeys now
  · have hc : (m.det.hotKeys now).contains key = true := List.contains_iff_mem.mpr hk
    simp only [hc, if_true, hk, iff_true]
    by_cases hp : (NMap.get m.overrides key).isNone = true
    · simp [List.mem_filter, hk, hp]
    · have : ¬ key ∈ List.filter (fun k => (NMap.get m.overrides k).isNone) (m.det.hotKeys now) := by
        simp [List.mem_filter, hp]
      simp only [this, if_false]
      cases hg : NMap.get m.overrides key with
      | none => simp [hg] at hp
      | some v => rfl
  · have hc : (m.det.hotKeys now).contains key = false := by
      cases h : (m.det.hotKeys now).contains key with
      | false => rfl
      | true => exact absurd (List.contains_iff_mem.mp h) hk
    simp [hk]

/-- **C19 (capacity)**: the access table never holds more than `max_tracked_keys` entries -/
theorem tracked_within_capacity (c : Bool) (b h r : Nat) (cfg : HotCfg) (ops : List Op) :
    ((Mgr.newWith c b h r cfg).run ops).det.counts.length ≤ cfg.maxTracked := by
  have hr := run_inv (inv_new c b h r cfg) ops
  have := hr.1.cap
  rw [hr.2.2.2.2] at this
  exact this

/-- **C19 (a key outside the table keeps `base_rf`)**: a key that is not tracked — never accessed,
    cleaned up, or refused because the table was full — is not hot, and a recalculation leaves it at
    `base_rf`: the capacity limit can cost a key its promotion, never an owner. -/
theorem untracked_key_stays_at_base (m : Mgr) (now key : Nat) (hn : NMap.get m.det.counts key = none) :
    m.det.isHot key now = false ∧ (m.recalculate now).rfForKey key = m.baseRf := by
  have hnot : ¬ key ∈ m.det.hotKeys now := by
    intro hk
    obtain ⟨x, hx, _⟩ := mem_hotKeys.mp hk
    -- `(key, x) ∈ counts` but `get counts key = none`
    rw [← AE.lookup_of_get, List.lookup_eq_none_iff] at hn
    exact bne_iff_ne.mp (hn _ hx) rfl
  refine ⟨by simp [Detector.isHot, hn], ?_⟩
  have h0 : ¬ (NMap.get (m.recalculate now).overrides key).isSome = true :=
    fun h => hnot ((recalculate_overrides_exactly_hot m now key).mp h)
  unfold Mgr.rfForKey
  cases hg : NMap.get (m.recalculate now).overrides key with
  | none => rfl
  | some v => rw [hg] at h0; simp at h0

/-- the full statement: the adaptive factor of a key is never below the configured base factor
    (`c` = whether `new` clamps `hot_key_rf`: `false` is the code before 47aa3bd) -/
def C19_adaptive_rf_ge_base (c : Bool) : Prop :=
  ∀ (b h r : Nat) (cfg : HotCfg) (ops : List Op) (key : Nat), b ≤ ((Mgr.newWith c b h r cfg).run ops).rfForKey key

/-- **C19 (never below the configured RF), partial**: for `base_rf ≤ hot_key_rf`.  Missing for the
    full statement: configurations with `hot_key_rf < base_rf`, which `AdaptiveConfig` accepts and
    `new` before 47aa3bd does not clamp — `adaptive_hot_below_base_counterexample`. -/
theorem adaptive_rf_ge_base_partial (c : Bool) (b h r : Nat) (cfg : HotCfg) (ops : List Op) (key : Nat) (hbh : b ≤ h) :
    b ≤ ((Mgr.newWith c b h r cfg).run ops).rfForKey key := by
  have := adaptive_rf_is_base_or_hot c b h r cfg ops key
  simp only [] at this
  rw [this]
  split
  · unfold effHot; split <;> omega
  · exact Nat.le_refl b

/-- **C19 (never below the configured RF), FULL statement, for the current constructor** (`new`
    raises `hot_key_rf` to at least `base_rf`): every configuration, every history, every key -/
theorem adaptive_rf_ge_base_clamped : C19_adaptive_rf_ge_base true := by
  intro b h r cfg ops key
  have := adaptive_rf_is_base_or_hot true b h r cfg ops key
  simp only [] at this
  rw [this]
  split
  · unfold effHot; simp only [if_true]; omega
  · exact Nat.le_refl b

/-- **C19 (an adaptive change never starves an owner), partial** (`base_rf ≤ hot_key_rf`, or the
    current constructor): on every reachable ring, every node that owns the key under `base_rf`
    owns it under the adaptive factor, in the same position of the list (the base list is a prefix). -/
theorem adaptive_keeps_base_owners_partial (hashV : Nat → Nat → Nat) (ring : Ring.HashRing) (hr : Ring.Reachable hashV ring)
    (c : Bool) (b h r : Nat) (cfg : HotCfg) (ops : List Op) (key keyPos : Nat) (hbh : c = true ∨ b ≤ h) :
    Ring.getReplicasWithRf ring keyPos b
      <+: Ring.getReplicasWithRf ring keyPos (((Mgr.newWith c b h r cfg).run ops).rfForKey key) := by
  apply replicas_rf_prefix hashV ring keyPos b _ hr
  rcases hbh with hc | hbh
  · subst hc; exact adaptive_rf_ge_base_clamped b h r cfg ops key
  · exact adaptive_rf_ge_base_partial c b h r cfg ops key hbh

/-- a three-node ring (one virtual node each, positions 10 / 20 / 30) -/
def adHash : Nat → Nat → Nat := fun n _ => n * 10

/-- 21 reads of key 7 within 100 ms, threshold 100 / s: hot -/
def exOps : List Op := (List.range 21).map (fun i => Op.observe 7 false (1000 + i * 5)) ++ [Op.recalc 1100]

/-- **the configuration `base_rf = 3, hot_key_rf = 1` before 47aa3bd** (accepted by `AdaptiveConfig`,
    checked only by a debug assertion): the key that becomes hot is left with ONE owner of its three — the adaptive
    change shrinks the replica set below the configured factor and two owners stop being
    responsible for the key. -/
theorem adaptive_hot_below_base_counterexample :
    let m := (Mgr.newWith false 3 1 1000000 ⟨10000, 100, 5000, 10000⟩).run exOps
    m.rfForKey 7 = 1 ∧ m.rfForKey 8 = 3
    ∧ Ring.getReplicasWithRf (Ring.newTB .joinOrder adHash [1, 2, 3] 1 3) 15 3 = [2, 3, 1]
    ∧ Ring.getReplicasWithRf (Ring.newTB .joinOrder adHash [1, 2, 3] 1 3) 15 (m.rfForKey 7) = [2] := by
  decide +kernel

theorem C19_adaptive_rf_ge_base_false : ¬ C19_adaptive_rf_ge_base false := by
  intro h
  have := h 3 1 1000000 ⟨10000, 100, 5000, 10000⟩ exOps 7
  rw [adaptive_hot_below_base_counterexample.1] at this
  omega

-- non-vacuity: `base_rf ≤ hot_key_rf` with a key that really is promoted, and one that is refused
-- by a full table
set_option maxRecDepth 16000 in
example :
    let m := (Mgr.newWith false 3 5 1000000 ⟨10000, 100, 5000, 1⟩).run (exOps ++ [Op.observe 8 true 1100, Op.recalc 1101])
    m.rfForKey 7 = 5 ∧ m.rfForKey 8 = 3 ∧ m.det.counts.length = 1 ∧ m.promotions = 1 := by
  decide +kernel

end C19
end RedisVerif
