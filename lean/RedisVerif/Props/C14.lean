import RedisVerif.Model.Codec
import RedisVerif.Lemmas.Codec
import RedisVerif.Props.C10

/-!
# C14 — Stored and gossiped updates round-trip; damaged storage is detected, not decoded

Model: `RedisVerif.Codec` (M5: segment and checkpoint framing) and `RedisVerif.Wal` (WAL entry),
over PARAMETERS `crc` (crc32fast), `ser`/`de` (bincode of a delta / of the checkpoint state;
serde_json of a gossip message) with the law `de (ser d) = some d` as an explicit hypothesis
(validated on every run by the Rust-side round trips over every CRDT kind and shape).
Two flags name the code variant: `strict` (segment record iterator: `true` = the code since `fix:` 82824d5, which
errors when fewer records than `record_count` are present; `false` = before it)
and the WAL `Format` (`.v2` = the code since `fix:` 2d7cc3c, `.v1` = before it).

Truncation of a segment or checkpoint is detected unconditionally (EVERY proper prefix is an error);
same-length corruption under `CrcDetects`-style hypotheses; `uncovered_bytes_harmless_*` name the exact
bytes no checksum covers.  The theorems about `strict = false` / `.v1` show what the earlier variants
let through (helper lemmas are in `Lemmas/Codec.lean`).
-/
namespace RedisVerif
namespace C14

open Wal Codec

/-! ## round trips -/

theorem readSegment_writeSegment {δ : Type} (strict : Bool) (crc : Bytes → Nat) (de : Bytes → Option δ)
    (ps : List Bytes) (ts : List Nat) (img : Bytes) (hfit : SegFits crc ps ts)
    (hw : writeSegment crc ps ts = some img) :
    readSegment strict crc de img = readRecords strict de ps.length (records ps) := by
  obtain ⟨hn, _, hc, hr⟩ := hfit
  obtain rfl := writeSegment_eq_some hw
  rw [segHeader_eq, segFooter_eq,
    readSegment_written strict crc de _ _ _ _ _ _ (by simp) (by simp [le_length]) hn hc hr]

/-- a written segment reads back exactly the deltas that were written, any batch size -/
theorem segment_roundtrip {δ : Type} (strict : Bool) (crc : Bytes → Nat) (ser : δ → Bytes) (de : Bytes → Option δ)
    (ds : List δ) (ts : List Nat) (img : Bytes)
    (hlaw : ∀ d ∈ ds, de (ser d) = some d)
    (hfit : SegFits crc (ds.map ser) ts)
    (hw : writeSegment crc (ds.map ser) ts = some img) :
    readSegment strict crc de img = .ok ds := by
  rw [readSegment_writeSegment strict crc de _ ts img hfit hw]
  have := readRecords_records strict ser de ds hlaw (fun d hd => hfit.2.1 (ser d) (List.mem_map_of_mem hd)) 0 (Or.inr rfl)
  simpa using this

example : SegFits Driver.crc32 [[1, 2], []] [7, 3] := by decide +kernel

/-- the empty batch is refused by the writer (`SegmentError::Empty`) -/
theorem segment_empty_refused (crc : Bytes → Nat) (ts : List Nat) : writeSegment crc [] ts = none := rfl

/-! ## segment: uncovered bytes -/

/-- EXACTLY these bytes of a segment are covered by no checksum: header padding 30..40 and the
    two footer size fields (footer bytes 4..20).  Whatever they are changed to, the segment
    decodes to the same data as the pristine image. -/
theorem uncovered_bytes_harmless_segment {δ : Type} (strict : Bool) (crc : Bytes → Nat) (de : Bytes → Option δ)
    (ps : List Bytes) (ts : List Nat) (img pad sizes : Bytes)
    (hfit : SegFits crc ps ts) (hw : writeSegment crc ps ts = some img)
    (hp : pad.length = 10) (hs : sizes.length = 16) :
    readSegment strict crc de
        (segHeaderG crc ps.length (minOf ts) (maxOf ts) pad ++
          (records ps ++ segFooterG crc (records ps) sizes))
      = readSegment strict crc de img := by
  rw [readSegment_writeSegment strict crc de ps ts img hfit hw]
  exact readSegment_written strict crc de _ _ _ _ _ _ hp hs hfit.1 hfit.2.2.1 hfit.2.2.2

/-! ## segment: corruption of covered bytes -/

/-- `covered_corruption_detected` (segment): take the three parts of a same-length damaged
    image.  If the header CRC notices every change of header bytes 0..30 (`Hh`) and the data CRC
    notices every change of the record bytes / of the stored data checksum (`Hd`) — the two
    `CrcDetects` hypotheses, both decidable — then the damaged image is REJECTED or decodes to
    exactly what the pristine image decodes to: never into different data. -/
theorem covered_corruption_detected {δ : Type} (strict : Bool) (crc : Bytes → Nat) (de : Bytes → Option δ)
    (hdr recs foot hdr' recs' foot' : Bytes)
    (hmagic : (foot.drop 20).take 4 = footMagic)
    (Hh : hdr'.take 30 ≠ hdr.take 30 →
      crc ((hdr'.take 30).take 26) ≠ leVal (((hdr'.take 30).drop 26).take 4))
    (Hd : (recs' ≠ recs ∨ foot'.take 4 ≠ foot.take 4) → crc recs' ≠ leVal (foot'.take 4)) :
    IsErr (readSegParts strict crc de hdr' recs' foot') ∨
      readSegParts strict crc de hdr' recs' foot' = readSegParts strict crc de hdr recs foot := by
  by_cases h1 : hdr'.take 30 = hdr.take 30
  · by_cases h2 : recs' = recs ∧ foot'.take 4 = foot.take 4
    · by_cases h3 : (foot'.drop 20).take 4 = footMagic
      · right
        rw [h2.1]
        exact readSegParts_congr strict crc de hdr hdr' recs foot foot' h1 h2.2 (by rw [h3, hmagic])
      · left; exact readSegParts_err_of_magic strict crc de _ _ _ h3
    · left
      apply readSegParts_err_of_data_crc
      apply Hd
      by_cases hr : recs' = recs
      · right; intro hf; exact h2 ⟨hr, hf⟩
      · left; exact hr
  · left; exact readSegParts_err_of_header_crc strict crc de _ _ _ (Hh h1)

-- non-vacuity of the two CRC hypotheses: CRC-32 notices a flipped record byte and a flipped
-- header byte of a small written segment
example : Driver.crc32 [2, 0, 0, 0, 1, 3] ≠ Driver.crc32 [2, 0, 0, 0, 1, 2] := by decide +kernel

/-! ## segment: truncation -/

/-- FULL-STRENGTH statement: every proper prefix of a written segment is an error -/
def C14_segment_truncation_detected {δ : Type} (strict : Bool) (crc : Bytes → Nat) (ser : δ → Bytes)
    (de : Bytes → Option δ) : Prop :=
  ∀ (ds : List δ) (ts : List Nat) (img : Bytes), (∀ d ∈ ds, de (ser d) = some d) →
    SegFits crc (ds.map ser) ts → writeSegment crc (ds.map ser) ts = some img →
    ∀ n, n < img.length → IsErr (readSegment strict crc de (img.take n))

/-- CURRENT code (strict iterator): EVERY proper prefix of a written segment is reported as an
    error — whatever the payloads contain, no checksum assumption: either a header / footer /
    checksum test fails, or the record iterator runs out of bytes before `record_count` records -/
theorem segment_truncation_detected {δ : Type} (crc : Bytes → Nat) (ser : δ → Bytes)
    (de : Bytes → Option δ) : C14_segment_truncation_detected true crc ser de := by
  intro ds ts img _ hfit hw n hn
  obtain ⟨hcnt, hp, _, _⟩ := hfit
  obtain rfl := writeSegment_eq_some hw
  rw [segHeader_eq, segFooter_eq] at hn ⊢
  -- of header and footer only the lengths and the announced count matter
  have hh := segHeader_length crc (ds.map ser).length (minOf ts) (maxOf ts) (List.replicate 10 0) (by simp)
  have hc := (segHeader_fields crc (ds.map ser).length (minOf ts) (maxOf ts) (List.replicate 10 0)).2.2.2.2.2
  have hf := (segFooter_fields crc (records (ds.map ser))
    (le 8 (records (ds.map ser)).length ++ le 8 (records (ds.map ser)).length) (by simp [le_length])).2.2
  generalize segHeaderG crc _ _ _ _ = hdr at hn hh hc ⊢
  generalize segFooterG crc _ _ = foot at hn hf ⊢
  obtain ⟨p1, p2, _, _⟩ := seg_parts hdr (records (ds.map ser)) foot hh hf
  rw [p1] at hn
  unfold readSegment
  rw [List.length_take, p1, Nat.min_eq_left (by omega)]
  split
  · exact isErr_error _
  · apply readSegParts_isErr_of_records
    -- the header is intact, the record region is a proper prefix of the records written
    have hhdr : ((hdr ++ (records (ds.map ser) ++ foot)).take n).take 40 = hdr := by
      rw [List.take_take, Nat.min_eq_left (by omega)]; exact p2
    have hrec : (((hdr ++ (records (ds.map ser) ++ foot)).take n).drop 40).take (n - 64)
        = (records (ds.map ser)).take (n - 64) := by
      rw [List.drop_take, List.take_take, Nat.min_eq_left (by omega), List.drop_left' hh,
        List.take_append_of_le_length (by omega)]
    rw [hhdr, hc, leVal_le 4 _ (by simpa using hcnt), hrec]
    exact readRecords_strict_prefix_err de (ds.map ser) hp (n - 64) (by omega)

/-- either iterator: every byte string (in particular every proper prefix of a segment) that does
    not END in the four footer-magic bytes is rejected -/
theorem segment_truncation_detected_partial {δ : Type} (strict : Bool) (crc : Bytes → Nat) (de : Bytes → Option δ)
    (img : Bytes) (n : Nat) (hm : ¬ EndsInFooterMagic (img.take n)) :
    IsErr (readSegment strict crc de (img.take n)) := by
  unfold readSegment
  split
  · exact isErr_error _
  · exact readSegParts_err_of_magic strict crc de _ _ _ hm

/-- OLD (lax) iterator: `record_count` was not cross-checked: when the record bytes end early the iterator stops
    silently and returns FEWER records than the header announces -/
theorem record_count_not_cross_checked {δ : Type} (ser : δ → Bytes) (de : Bytes → Option δ)
    (ds : List δ) (hde : ∀ d ∈ ds, de (ser d) = some d) (hfit : ∀ d ∈ ds, (ser d).length < 2 ^ 32)
    (missing : Nat) :
    readRecords false de (ds.length + missing) (records (ds.map ser)) = .ok ds :=
  readRecords_records false ser de ds hde hfit missing (Or.inl rfl)

/-- CURRENT (strict) iterator: the same situation is an error -/
theorem record_count_cross_checked {δ : Type} (de : Bytes → Option δ) (ps : List Bytes)
    (hfit : ∀ p ∈ ps, p.length < 2 ^ 32) (missing : Nat) :
    IsErr (readRecords true de (ps.length + (missing + 1)) (records ps)) := by
  have h := readRecords_strict_prefix_err de (ps ++ List.replicate (missing + 1) [])
    (by
      intro p hp
      rcases List.mem_append.mp hp with h1 | h1
      · exact hfit p h1
      · rw [List.eq_of_mem_replicate h1]; decide)
    (records ps).length
    (by simp [records, List.flatMap_append, List.flatMap_replicate, record, le_length])
  have hl : (ps ++ List.replicate (missing + 1) []).length = ps.length + (missing + 1) := by simp
  rw [hl] at h
  have ht : (records (ps ++ List.replicate (missing + 1) [])).take (records ps).length = records ps := by
    unfold records; rw [List.flatMap_append]; exact List.take_left' rfl
  rw [ht] at h
  exact h

/-- witness: two records; the first one's bytes have CRC-32 = 21 = the length of the second
    payload, whose bytes 16..20 spell the footer magic.  Cutting the image right after
    "length prefix + 20 bytes" of the second record leaves header ‖ record 1 ‖ 24 bytes that
    parse as a valid footer with the right data checksum. -/
def truncWitness : List Bytes :=
  [[139, 11, 210, 25], List.replicate 16 0 ++ [71, 69, 83, 82] ++ [0]]

/-- OLD (lax) iterator: the truncated segment passes open + validate + read_all and yields ONE record instead of
    two: decoded into different data, no error -/
theorem segment_truncation_counterexample :
    ¬ C14_segment_truncation_detected false Driver.crc32 (fun b : Bytes => b) (fun b => some b) := by
  intro h
  have hfit : SegFits Driver.crc32 (truncWitness.map fun b => b) [1, 2] := by decide +kernel
  obtain ⟨e, he⟩ := h truncWitness [1, 2]
    ((writeSegment Driver.crc32 truncWitness [1, 2]).getD []) (fun d _ => rfl) hfit
    (by decide +kernel) 72 (by decide +kernel)
  have : readSegment false Driver.crc32 (fun b => some b)
      (((writeSegment Driver.crc32 truncWitness [1, 2]).getD []).take 72)
      = .ok [[139, 11, 210, 25]] := by decide +kernel
  rw [this] at he
  cases he

/-- the same truncated witness on the CURRENT iterator: an error (instance of
    `segment_truncation_detected`, evaluated) -/
theorem truncation_witness_rejected :
    readSegment true Driver.crc32 (fun b => some b)
      (((writeSegment Driver.crc32 truncWitness [1, 2]).getD []).take 72) = .error .eof := by
  decide +kernel

/-! ## checkpoint -/

theorem readCheckpoint_writeCheckpoint {σ : Type} (crc : Bytes → Nat) (de : Bytes → Option σ)
    (k t l : Nat) (payload : Bytes) (hfit : ChkFits crc k t l payload) :
    readCheckpoint crc de (writeCheckpoint crc k t l payload)
      = match de payload with
        | none => .error .ser
        | some s => .ok s := by
  have := readCheckpoint_written crc de k t l payload [0, 0] (List.replicate 12 0) [] rfl (by simp) hfit
  rwa [← chkHeader_eq, List.append_nil] at this

/-- a written checkpoint reads back the state that was written -/
theorem checkpoint_roundtrip {σ : Type} (crc : Bytes → Nat) (ser : σ → Bytes) (de : Bytes → Option σ)
    (st : σ) (k t l : Nat) (hlaw : de (ser st) = some st) (hfit : ChkFits crc k t l (ser st)) :
    readCheckpoint crc de (writeCheckpoint crc k t l (ser st)) = .ok st := by
  rw [readCheckpoint_writeCheckpoint crc de k t l _ hfit, hlaw]

example : ChkFits Driver.crc32 3 1000 7 [1, 2, 3] := by decide +kernel

/-- EXACTLY these bytes of a checkpoint are covered by no checksum: header padding 6..8,
    header reserved 32..44, and anything after the footer.  Whatever they are, the checkpoint
    decodes to the same state.  (The 4-byte data-length field 48..52 is covered by no checksum
    either, but it is cross-checked: see `checkpoint_truncation_detected` and
    `chk_err_of_footer_crc`.) -/
theorem uncovered_bytes_harmless_checkpoint {σ : Type} (crc : Bytes → Nat) (de : Bytes → Option σ)
    (k t l : Nat) (payload pad res trailing : Bytes) (hp : pad.length = 2) (hr : res.length = 12)
    (hfit : ChkFits crc k t l payload) :
    readCheckpoint crc de (chkHeaderG crc k t l pad res ++
        (le 4 payload.length ++ (payload ++ (chkFooter crc payload ++ trailing))))
      = readCheckpoint crc de (writeCheckpoint crc k t l payload) :=
  (readCheckpoint_written crc de k t l payload pad res trailing hp hr hfit).trans
    (readCheckpoint_writeCheckpoint crc de k t l payload hfit).symm

/-- EVERY proper prefix of a written checkpoint is reported as an error (unconditionally) -/
theorem checkpoint_truncation_detected {σ : Type} (crc : Bytes → Nat) (de : Bytes → Option σ)
    (k t l : Nat) (payload : Bytes) (hl : payload.length < 2 ^ 32) (n : Nat)
    (hn : n < (writeCheckpoint crc k t l payload).length) :
    IsErr (readCheckpoint crc de ((writeCheckpoint crc k t l payload).take n)) := by
  have hh : (chkHeader crc k t l).length = 48 := by
    rw [chkHeader_eq]; exact chkHeader_length _ _ _ _ _ _ rfl (by simp)
  have hf := chkFooter_length crc payload
  unfold writeCheckpoint at hn ⊢
  generalize chkHeader crc k t l = hdr at hn hh ⊢
  generalize chkFooter crc payload = foot at hn hf ⊢
  obtain ⟨p1, _, p3, _, _⟩ := chk_parts hdr (le 4 payload.length) payload foot hh (le_length _ _)
  rw [hf] at p1
  rw [p1] at hn
  -- too short for the header, or for the announced length plus the footer
  apply chk_err_of_short
  rw [List.length_take, p1, Nat.min_eq_left (by omega)]
  by_cases h52 : n < 52
  · left; omega
  · right
    rw [List.drop_take, List.take_take, Nat.min_eq_left (by omega), p3, leVal_le 4 _ (by simpa using hl)]
    omega

/-- `covered_corruption_detected` (checkpoint): any byte string on which one of the three
    checksums (header fields, footer, data) does not match is rejected — whichever positions were
    damaged, including the data-length field (which moves the footer: then the footer checksum is
    the one that has to notice). -/
theorem checkpoint_corruption_detected {σ : Type} (crc : Bytes → Nat) (de : Bytes → Option σ)
    (data : Bytes)
    (h : crc ((data.take 48).take 6 ++ ((data.take 48).drop 8).take 24)
            ≠ leVal (((data.take 48).drop 44).take 4) ∨
         (let foot := (data.drop (52 + leVal ((data.drop 48).take 4))).take 16
          crc (foot.take 12) ≠ leVal ((foot.drop 12).take 4)) ∨
         (let dlen := leVal ((data.drop 48).take 4)
          crc ((data.drop 52).take dlen) ≠ leVal (((data.drop (52 + dlen)).take 16).take 4))) :
    IsErr (readCheckpoint crc de data) := by
  rcases h with h | h | h
  · exact chk_err_of_header_crc crc de data h
  · exact chk_err_of_footer_crc crc de data h
  · exact chk_err_of_data_crc crc de data h

/-! ## gossip frames -/

/-- a gossip message arrives unchanged — given the round-trip law of the (unmodelled)
    serde_json codec for that message, which is the obligation the harness checks on every run
    for every delta, every message variant and binary / non-UTF-8 payloads -/
theorem gossip_roundtrip {μ : Type} (c : SerDe μ) (m : μ) (hlaw : c.Lawful m) :
    gossipDeliver c m = some m := hlaw

/-- the law is a real obligation: a codec that carries payloads as lossy text (0xFF → U+FFFD)
    violates it, and the message that arrives differs -/
def lossyCodec : SerDe Bytes :=
  ⟨fun b => b.flatMap (fun x => if x < 128 then [x] else [239, 191, 189]), fun b => some b⟩

theorem gossip_lossy_counterexample :
    ¬ lossyCodec.Lawful [255] ∧ gossipDeliver lossyCodec [255] = some [239, 191, 189] := by
  constructor
  · intro h
    unfold SerDe.Lawful lossyCodec at h
    simp at h
  · rfl

/-! ## length fields are 32-bit values: no bound test wraps -/

/-- `WalEntry::decode`: the size test the current code performs (checked `usize` add of the
    16-byte overhead and the `u32` length) rejects exactly when `16 + len > remaining` -/
theorem wal_decode_total_no_wrap (remaining len : Nat) (hl : len < 2 ^ 32) :
    sizeTest .usizeChecked overhead remaining len
      = if remaining < overhead + len then .reject else .slice (overhead + len) :=
  C10.decode_total_no_wrap remaining len hl

/-- `DeltaIterator::next` (`offset + 4`, `offset + len`) and `CheckpointReader::validate`
    (`data_start + data_len`, `footer_start + 16`): plain `usize` additions of an offset below
    `2^63` and a 32-bit length never wrap, so the model's unbounded comparison is the code's -/
theorem record_bounds_no_wrap (offset remaining len : Nat) (ho : offset < 2 ^ 63) (hl : len < 2 ^ 32) :
    sizeTest .usizeWrapping offset remaining len
      = if remaining < offset + len then .reject else .slice (offset + len) :=
  C10.size_test_no_wrap .usizeWrapping (by decide) offset remaining len ho hl

/-- 32-bit wrapping arithmetic accepts an erased-flash length and then slices out of range -/
theorem wal_size_wrap_counterexample :
    sizeTest .u32Wrapping overhead 16 0xFFFFFFF0 = .crash ∧
    sizeTest .usizeChecked overhead 16 0xFFFFFFF0 = .reject := by decide

/-! ## WAL entry -/

/-- `to_delta(decode(encode(from_delta(d, ts)))) = d`, followed by anything (both formats) -/
theorem wal_entry_roundtrip {δ : Type} (fmt : Format) (crc : Bytes → Nat) (ser : δ → Bytes)
    (de : Bytes → Option δ) (d : δ) (ts : Nat) (rest : Bytes) (hlaw : de (ser d) = some d)
    (hf : (Entry.mk' fmt crc (ser d) ts).Fits) (hne : fmt = .v2 → (ser d).length ≠ 0) :
    (decode fmt crc ((Entry.mk' fmt crc (ser d) ts).encode ++ rest)).bind (fun p => de p.1.data) = some d ∧
    (decode fmt crc ((Entry.mk' fmt crc (ser d) ts).encode ++ rest)).map (fun p => p.1.ts) = some ts := by
  have h := (C10.decode_encode fmt crc (Entry.mk' fmt crc (ser d) ts) rest ⟨hf, rfl, hne⟩).1
  rw [h]
  exact ⟨hlaw, rfl⟩

/-- CURRENT format: the stamp of a WAL entry is covered — an encoded entry whose stamp bytes
    were changed to `ts'` does not decode when the checksum tells the covered strings apart -/
theorem wal_timestamp_covered (crc : Bytes → Nat) (e : Entry) (ts' : Nat) (rest : Bytes)
    (he : e.Good .v2 crc) (ht : ts' < 2 ^ 64)
    (hne : crc (covered .v2 e.data.length ts' e.data) ≠ crc (covered .v2 e.data.length e.ts e.data)) :
    decode .v2 crc ((Entry.mk e.data ts' e.crc).encode ++ rest) = none :=
  C10.decode_crc_ne .v2 crc e.data ts' e.crc rest ⟨he.1.1, ht, he.1.2.2⟩ (he.2.1 ▸ hne)

/-- OLD format `.v1`: WAL payload corruption ends recovery (C10 `corruption_stops_payload`); what the entry
    checksum does NOT cover is the stamp: two entries that differ only in stamp bytes both
    decode, so a damaged stamp is decoded into different data -/
theorem wal_timestamp_uncovered_counterexample (crc : Bytes → Nat) (hr : crc [7] < 2 ^ 32) :
    ∃ img img' : Bytes, img.length = img'.length ∧ img' = img.set 5 1 ∧
      (decode .v1 crc img).map (fun p => p.1.ts) = some 5 ∧
      (decode .v1 crc img').map (fun p => p.1.ts) = some 261 ∧
      (decode .v1 crc img).map (fun p => p.1.data) = (decode .v1 crc img').map (fun p => p.1.data) := by
  have hg := fun t ht => C10.good_mk_v1 crc [7] t (by decide) ht hr
  have h1 := Wal.decode_encode .v1 crc (Entry.mk' .v1 crc [7] 5) [] (hg 5 (by decide))
  have h2 := Wal.decode_encode .v1 crc (Entry.mk' .v1 crc [7] 261) [] (hg 261 (by decide))
  rw [List.append_nil] at h1 h2
  refine ⟨(Entry.mk' .v1 crc [7] 5).encode, (Entry.mk' .v1 crc [7] 261).encode, ?_, ?_, ?_, ?_, ?_⟩
  · simp [encode_length]; rfl
  · simp [Entry.encode, Entry.mk', le, covered]
  · rw [h1]; rfl
  · rw [h2]; rfl
  · rw [h1, h2]; rfl

end C14
end RedisVerif
