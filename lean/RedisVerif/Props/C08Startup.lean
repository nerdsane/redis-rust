import RedisVerif.Props.C08

/-!
# C08 over the FULL start-up sequence of the production node

`bin/server_persistent.rs` does not recover in one call.  Its `main` runs

1. `StreamingIntegration::recover(&state)` → `state.apply_recovered_state(checkpoint, segment deltas)`,
2. the WAL replay: `recover_all_entries` → `to_delta` → a SECOND
   `state.apply_recovered_state(None, wal deltas)` (all entries: "CRDT idempotency makes duplicate
   replay safe"), and only then starts the workers and serves clients.

`startup` transcribes that sequence over the node model (`ShardedNode.recoverNode`, every shard
with its own Lamport clock).  The theorems are for any node, any routing function, any three
sources (overlapping, reordered, from other replicas too).

The two calls equal ONE recovery with `segments ++ wal` (`startup_eq_one_recovery`).  Afterwards
the clock of shard `s` is strictly above every stamp (outer and per-field) of every value any of
the three sources held for a key of `s`, so every write the shard acknowledges later, after any
further history, is stamped above all of them and wins the merge on a peer that holds them: **no
stamp repeats across the restart**, in particular none that the previous incarnation issued and
persisted.  `startup_skip_wal_counterexample`: a start-up that skips the WAL replay ("segments were
loaded, the WAL is redundant") re-issues a stamp: two writes flushed to a segment, three more
acknowledged from the WAL only, restart → the next write is stamped (4, r) again, with another
value; a peer that holds the old (4, r) keeps it.
-/
namespace RedisVerif
namespace C08

open Shard ShardedNode

/-- the start-up of `server_persistent`; `replayWal = false` is the variant of
    `startup_skip_wal_counterexample`, not the code that exists -/
def startupWith (replayWal : Bool) (route : Nat → Nat) (nd : ShardedNode)
    (ckpt segs wal : List (Nat × RV)) : ShardedNode :=
  let nd1 := recoverNode false route nd ckpt segs
  if replayWal then recoverNode false route nd1 [] wal else nd1

/-- the code that exists -/
def startup (route : Nat → Nat) (nd : ShardedNode) (ckpt segs wal : List (Nat × RV)) :
    ShardedNode := startupWith true route nd ckpt segs wal

theorem startup_eq_one_recovery (route : Nat → Nat) (nd : ShardedNode)
    (ckpt segs wal : List (Nat × RV)) :
    startup route nd ckpt segs wal = recoverNode false route nd ckpt (segs ++ wal) := by
  simp [startup, startupWith, recoverNode, List.foldl_append]

/-- **start-up covers all three sources** -/
theorem startup_clock_covers (route : Nat → Nat) (nd : ShardedNode)
    (ckpt segs wal : List (Nat × RV)) (hdom : ∀ p ∈ ckpt ++ segs ++ wal, p.2.Dominated)
    (s : Nat) (sh' : Shard) (hs : (startup route nd ckpt segs wal)[s]? = some sh')
    (p : Nat × RV) (hp : p ∈ ckpt ++ segs ++ wal) (hr : route p.1 = s) (post : List Op) :
    ∀ t ∈ p.2.allStamps, t.time < (run sh' post).clock.time := by
  rw [startup_eq_one_recovery] at hs
  rw [List.append_assoc] at hdom hp
  exact recovery_clock_covers route nd ckpt (segs ++ wal) hdom s sh' hs p hp hr post

/-- **C08 over the production start-up**: every write acknowledged after it — after any further
    history on that shard — is stamped strictly above every stamp of every value read back from
    checkpoint, segments or WAL for that shard. -/
theorem startup_dominates (route : Nat → Nat) (nd : ShardedNode)
    (ckpt segs wal : List (Nat × RV)) (hdom : ∀ p ∈ ckpt ++ segs ++ wal, p.2.Dominated)
    (s : Nat) (sh' : Shard) (hs : (startup route nd ckpt segs wal)[s]? = some sh')
    (p : Nat × RV) (hp : p ∈ ckpt ++ segs ++ wal) (hr : route p.1 = s)
    (post : List Op) (w : Op) (d : RV)
    (he : effective (run sh' post) w = true) (hd : (step (run sh' post) w).2 = some d) :
    ∀ t ∈ p.2.allStamps, t.lt d.ts = true := by
  rw [startup_eq_one_recovery] at hs
  rw [List.append_assoc] at hdom hp
  exact node_recovery_dominates route nd ckpt (segs ++ wal) hdom s sh' hs p hp hr post w d he hd

/-- … and wins the merge on a peer that holds the recovered value, both ways round -/
theorem startup_write_wins (route : Nat → Nat) (nd : ShardedNode)
    (ckpt segs wal : List (Nat × RV)) (hdom : ∀ p ∈ ckpt ++ segs ++ wal, p.2.Dominated)
    (s : Nat) (sh' : Shard) (hs : (startup route nd ckpt segs wal)[s]? = some sh')
    (p : Nat × RV) (hp : p ∈ ckpt ++ segs ++ wal) (hr : route p.1 = s)
    (k : Nat) (v : Bytes) (e : Option Nat) :
    (RV.merge p.2 (recordWrite sh' k v e).2).crdt = (recordWrite sh' k v e).2.crdt ∧
    (RV.merge (recordWrite sh' k v e).2 p.2).crdt = (recordWrite sh' k v e).2.crdt := by
  rw [startup_eq_one_recovery] at hs
  rw [List.append_assoc] at hdom hp
  exact node_recovery_write_wins route nd ckpt (segs ++ wal) hdom s sh' hs p hp hr k v e

/-- **stamps never repeat across the restart**, whatever the new incarnation does afterwards:
    every stamp it issues on shard `s` is strictly greater than every stamp read back for `s` -/
theorem startup_no_repeat (route : Nat → Nat) (nd : ShardedNode)
    (ckpt segs wal : List (Nat × RV)) (hdom : ∀ p ∈ ckpt ++ segs ++ wal, p.2.Dominated)
    (s : Nat) (sh' : Shard) (hs : (startup route nd ckpt segs wal)[s]? = some sh')
    (p : Nat × RV) (hp : p ∈ ckpt ++ segs ++ wal) (hr : route p.1 = s) (rest : List Op) :
    ∀ t ∈ issued sh' rest, ∀ u ∈ p.2.allStamps, u.lt t = true := by
  intro t ht u hu
  apply Stamp.lt_of_time_lt
  have h1 := startup_clock_covers route nd ckpt segs wal hdom s sh' hs p hp hr [] u hu
  have h2 := issued_gt_clock sh' rest t ht
  have : (run sh' []).clock.time = sh'.clock.time := rfl
  omega

/-- the start-up without the WAL replay: SET k ×2 flushed to a segment, SET k ×3 more acknowledged
    from the WAL only; restart; the next SET k is stamped (4, r) — a stamp the node had already
    issued for ANOTHER value; a peer that holds the old (4, r) keeps the old value -/
theorem startup_skip_wal_counterexample :
    let w : Nat → RV := fun t => RV.withValue [t] ⟨t, 1⟩
    let segs : List (Nat × RV) := [(6, w 1), (6, w 2)]
    let wal : List (Nat × RV) := [(6, w 3), (6, w 4), (6, w 5)]
    let nd := startupWith false (fun _ => 0) (ShardedNode.init 1 false 1) [] segs wal
    let ok := startup (fun _ => 0) (ShardedNode.init 1 false 1) [] segs wal
    (∃ sh, nd[0]? = some sh ∧ (recordWrite sh 6 [9] none).2.ts = (w 4).ts ∧
      (RV.merge (w 4) (recordWrite sh 6 [9] none).2).get = some [4]) ∧
    (∃ sh, ok[0]? = some sh ∧ (recordWrite sh 6 [9] none).2.ts = ⟨7, 1⟩) := by
  decide

/-- non-vacuity: checkpoint + overlapping segments + WAL over two shards; the clocks after the
    start-up and the stamps of the first writes -/
example :
    let tomb : RV := { crdt := .lww (Lww.delete ⟨3, 1⟩), vc := none, expiry := none, ts := ⟨3, 1⟩, rf := none }
    let ckpt : List (Nat × RV) := [(6, tomb), (7, RV.withValue [1] ⟨9, 1⟩)]
    let segs : List (Nat × RV) := [(6, RV.withValue [2] ⟨4, 2⟩), (7, RV.withValue [1] ⟨9, 1⟩)]
    let wal : List (Nat × RV) := [(7, RV.withValue [1] ⟨9, 1⟩), (6, RV.withValue [5] ⟨12, 1⟩)]
    let nd := startup (fun k => k % 2) (ShardedNode.init 1 false 2) ckpt segs wal
    (∀ p ∈ ckpt ++ segs ++ wal, p.2.Dominated) ∧
      (nd[0]?).map (·.clock.time) = some 13 ∧ (nd[1]?).map (·.clock.time) = some 12 := by
  decide

end C08
end RedisVerif
