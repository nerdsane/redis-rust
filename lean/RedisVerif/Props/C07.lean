import RedisVerif.Model.Crdt
import RedisVerif.Lemmas.NMap
import RedisVerif.Lemmas.Crdt
import RedisVerif.Lemmas.FoldACI

/-!
# C07 — CRDT merge is commutative, associative and idempotent in all it exposes

Model: `RedisVerif.RV.merge` (M1, `Model/Crdt.lean`) = `ReplicatedValue::merge`.
Equalities below are *structural* equalities of canonical model values, which is
stronger than equality of everything observable (value, liveness, hash fields,
counter totals, set membership, expiry, outer stamp): every observation is a
function of the value (`obs`).

Full-strength statements are `C07_idem`, `C07_comm`, `C07_assoc`.
`C07_idem` is proved. `C07_comm` is proved for all tie-consistent pairs (the
hypothesis is decidable, satisfied by everything replicas produce when C08 holds,
and *necessary*: `lww_tie_counterexample`).  `C07_assoc` is false of the code
(`assoc_cross_kind_counterexample`, a known finding); the proved form is
`rv_merge_assoc_partial` (same CRDT kind).
-/
namespace RedisVerif
namespace C07

open RV

/-- Decidable tie-consistency of two values: wherever the merge breaks a tie by position
    (equal stamps), the two candidates are equal.  Discharged for reachable values by the
    C08 invariant (a `(time, replica)` stamp identifies one write). -/
def tieOk : Crdt → Crdt → Stamp → Stamp → Bool
  | .lww x, .lww y, _, _ => x.ts != y.ts || x == y
  | .hash x, .hash y, _, _ =>
      x.all fun p => y.all fun q => p.1 != q.1 || p.2.ts != q.2.ts || p.2 == q.2
  | a, b, sa, sb => a.kind == b.kind || sa != sb

def TieConsistent (a b : RV) : Prop := tieOk a.crdt b.crdt a.ts b.ts = true

instance (a b : RV) : Decidable (TieConsistent a b) := by unfold TieConsistent; infer_instance

def SameKind (a b c : RV) : Prop := a.crdt.kind = b.crdt.kind ∧ b.crdt.kind = c.crdt.kind

instance (a b c : RV) : Decidable (SameKind a b c) := by unfold SameKind; infer_instance

/-! ## full-strength statements -/

def C07_idem : Prop := ∀ a : RV, a.WF → merge a a = a
def C07_comm : Prop := ∀ a b : RV, a.WF → b.WF → TieConsistent a b → merge a b = merge b a
def C07_assoc : Prop :=
  ∀ a b c : RV, a.WF → b.WF → c.WF → merge a (merge b c) = merge (merge a b) c

theorem tieOk_lww {x y : Lww} {sa sb : Stamp} :
    tieOk (.lww x) (.lww y) sa sb = true ↔ (x.ts = y.ts → x = y) := by
  simp [tieOk, Decidable.imp_iff_not_or]

theorem tieOk_hash {x y : NMap Lww} {sa sb : Stamp} :
    tieOk (.hash x) (.hash y) sa sb = true ↔
      ∀ p ∈ x, ∀ q ∈ y, p.1 = q.1 → p.2.ts = q.2.ts → p.2 = q.2 := by
  simp only [tieOk, List.all_eq_true, Bool.or_eq_true, bne_iff_ne, beq_iff_eq]
  refine forall_congr' fun p => forall_congr' fun _ => forall_congr' fun q => forall_congr' fun _ => ?_
  rw [Decidable.imp_iff_not_or, Decidable.imp_iff_not_or, or_assoc]

theorem tieOk_of_kind_ne {a b : Crdt} (hk : a.kind ≠ b.kind) (sa sb : Stamp) :
    tieOk a b sa sb = (sa != sb) := by
  cases a <;> cases b <;> first | rfl | exact absurd rfl hk

/-! ## well-formedness is preserved -/

theorem crdt_mwt_wf {a b : Crdt} (sa sb : Stamp) (ha : a.WF) (hb : b.WF) :
    (Crdt.mergeWithTimestamps a b sa sb).WF := by
  by_cases hk : a.kind = b.kind
  · induction a, b, hk using Crdt.same_kind_cases with
    | lww => trivial
    | gcounter => exact NMap.wf_merge ha hb
    | pncounter => exact ⟨NMap.wf_merge ha.1 hb.1, NMap.wf_merge ha.2 hb.2⟩
    | gset => exact NSet.wf_union ha hb
    | orset e s e' s' =>
      show (Crdt.orset (Crdt.orsetMergeElems e e') _).WF
      rw [Crdt.orsetMergeElems_eq ha.2.2 hb.2.2]
      exact ⟨NMap.wf_merge ha.1 hb.1, NMap.wf_merge ha.2.1 hb.2.1, Crdt.tagsOk_merge ha.2.2 hb.2.2⟩
    | hash => exact NMap.wf_merge ha hb
  · rw [Crdt.mwt_of_kind_ne hk]
    split <;> assumption

/-- `vcWF`: absent, or a well-formed clock -/
theorem vcWF_eq : RV.vcWF = ACI.Opt NMap.WF :=
  funext fun x => propext (by cases x <;> simp [RV.vcWF, ACI.Opt])

/-- the vector clock of a value is merged as a counter, an absent one being the identity -/
theorem aciVc : ACI (optMerge (NMap.merge Max.max)) RV.vcWF := vcWF_eq ▸ Crdt.aciCounter.opt

theorem rv_merge_wf {a b : RV} (ha : a.WF) (hb : b.WF) : (merge a b).WF :=
  ⟨crdt_mwt_wf _ _ ha.1 hb.1, aciVc.closed _ _ ha.2 hb.2⟩

/-! ## idempotence -/

theorem crdt_mwt_idem {a : Crdt} (s : Stamp) (ha : a.WF) :
    Crdt.mergeWithTimestamps a a s s = a := by
  cases a with
  | lww x => exact congrArg Crdt.lww (Lww.merge_idem x)
  | gcounter x => exact congrArg Crdt.gcounter (Crdt.aciCounter.idem _ ha)
  | pncounter p n =>
    show Crdt.pncounter _ _ = _
    rw [Crdt.aciCounter.idem _ ha.1, Crdt.aciCounter.idem _ ha.2]
  | gset x => exact congrArg Crdt.gset (NSet.union_idem ha)
  | orset e s =>
    show Crdt.orset _ _ = _
    rw [Crdt.orsetMerge_idem ha.1 ha.2.2, Crdt.aciCounter.idem _ ha.2.1]
  | hash x => exact congrArg Crdt.hash (Crdt.hmerge_idem ha)

theorem optmax_idem (x : Option Nat) : optMerge Max.max x x = x :=
  NMap.optMerge_idem (fun u _ => Nat.max_self u)

/-- **C07 (idempotence)**, every value, every CRDT kind. -/
theorem rv_merge_idem : C07_idem := by
  intro a ha
  obtain ⟨c, vc, e, ts, rf⟩ := a
  simp only [merge, mergeWith, stampMerge, RV.mk.injEq]
  exact ⟨crdt_mwt_idem ts ha.1, aciVc.idem _ ha.2, optmax_idem e, Stamp.max_idem ts, optmax_idem rf⟩

/-! ## commutativity -/

theorem crdt_mwt_comm {a b : Crdt} {sa sb : Stamp} (ha : a.WF) (hb : b.WF)
    (ht : tieOk a b sa sb = true) :
    Crdt.mergeWithTimestamps a b sa sb = Crdt.mergeWithTimestamps b a sb sa := by
  by_cases hk : a.kind = b.kind
  · induction a, b, hk using Crdt.same_kind_cases with
    | lww => exact congrArg Crdt.lww (Lww.merge_comm (tieOk_lww.mp ht))
    | gcounter => exact congrArg Crdt.gcounter (Crdt.aciCounter.comm _ _ ha hb)
    | pncounter =>
      show Crdt.pncounter _ _ = Crdt.pncounter _ _
      rw [Crdt.aciCounter.comm _ _ ha.1 hb.1, Crdt.aciCounter.comm _ _ ha.2 hb.2]
    | gset => exact congrArg Crdt.gset (NSet.union_comm ha hb)
    | orset =>
      show Crdt.orset _ _ = Crdt.orset _ _
      rw [Crdt.orsetMerge_comm ha.1 ha.2.2 hb.1 hb.2.2, Crdt.aciCounter.comm _ _ ha.2.1 hb.2.1]
    | hash => exact congrArg Crdt.hash (Crdt.hmerge_comm ha hb (tieOk_hash.mp ht))
  · rw [tieOk_of_kind_ne hk, bne_iff_ne] at ht
    rw [Crdt.mwt_of_kind_ne hk, Crdt.mwt_of_kind_ne (Ne.symm hk)]
    exact Stamp.ite_lt_comm ht a b

theorem optmax_comm (x y : Option Nat) : optMerge Max.max x y = optMerge Max.max y x :=
  NMap.optMerge_comm (fun u v _ _ => Nat.max_comm u v)

/-- **C07 (commutativity)**, all kinds incl. type mismatches, tombstones, equal times from
    different replicas; the only hypothesis is decidable tie-consistency. -/
theorem rv_merge_comm : C07_comm := by
  intro a b ha hb ht
  obtain ⟨ca, va, ea, sa, ra⟩ := a
  obtain ⟨cb, vb, eb, sb, rb⟩ := b
  simp only [merge, mergeWith, stampMerge, RV.mk.injEq]
  exact ⟨crdt_mwt_comm ha.1 hb.1 ht, aciVc.comm _ _ ha.2 hb.2, optmax_comm ea eb,
    Stamp.max_comm sa sb, optmax_comm ra rb⟩

/-! ## associativity (same kind) -/

theorem optmax_assoc (x y z : Option Nat) :
    optMerge Max.max x (optMerge Max.max y z) = optMerge Max.max (optMerge Max.max x y) z :=
  NMap.optMerge_assoc (fun u v w _ _ _ => (Nat.max_assoc u v w).symm)

/-- within one kind the outer stamps play no part -/
theorem crdt_mwt_assoc_samekind {a b c : Crdt} (sa sb sc sbc sab : Stamp)
    (ha : a.WF) (hb : b.WF) (hc : c.WF) (h1 : a.kind = b.kind) (h2 : b.kind = c.kind) :
    Crdt.mergeWithTimestamps a (Crdt.mergeWithTimestamps b c sb sc) sa sbc
      = Crdt.mergeWithTimestamps (Crdt.mergeWithTimestamps a b sa sb) c sab sc := by
  induction a, b, h1 using Crdt.same_kind_cases <;> cases c <;>
    first | exact absurd h2 (Nat.ne_of_beq_eq_false rfl) | skip
  · exact congrArg Crdt.lww (Lww.merge_assoc _ _ _)
  · exact congrArg Crdt.gcounter (Crdt.aciCounter.assoc _ _ _ ha hb hc)
  · show Crdt.pncounter _ _ = Crdt.pncounter _ _
    rw [Crdt.aciCounter.assoc _ _ _ ha.1 hb.1 hc.1, Crdt.aciCounter.assoc _ _ _ ha.2 hb.2 hc.2]
  · exact congrArg Crdt.gset (NSet.union_assoc ha hb hc)
  · show Crdt.orset _ _ = Crdt.orset _ _
    rw [Crdt.orsetMerge_assoc ha.1 ha.2.2 hb.1 hb.2.2 hc.1 hc.2.2, Crdt.aciCounter.assoc _ _ _ ha.2.1 hb.2.1 hc.2.1]
  · exact congrArg Crdt.hash (Crdt.hmerge_assoc ha hb hc)

/-- **C07 (associativity), partial**: proved for three values of the same CRDT kind (any
    kind, any stamps incl. ties, tombstones).  What is missing for the full statement
    `C07_assoc`: triples that mix kinds — false of the code, see
    `assoc_cross_kind_counterexample`. -/
theorem rv_merge_assoc_partial (a b c : RV) (ha : a.WF) (hb : b.WF) (hc : c.WF)
    (hk : SameKind a b c) : merge a (merge b c) = merge (merge a b) c := by
  obtain ⟨ca, va, ea, sa, ra⟩ := a
  obtain ⟨cb, vb, eb, sb, rb⟩ := b
  obtain ⟨cc, vc, ec, sc, rc⟩ := c
  simp only [merge, mergeWith, stampMerge, RV.mk.injEq]
  exact ⟨crdt_mwt_assoc_samekind _ _ _ _ _ ha.1 hb.1 hc.1 hk.1 hk.2, aciVc.assoc _ _ _ ha.2 hb.2 hc.2,
    optmax_assoc ea eb ec, Stamp.max_assoc sa sb sc, optmax_assoc ra rb rc⟩

/-! ## everything observable is a function of the value -/

/-- what a client or a peer can observe of a replicated value -/
structure Obs where
  value : Option Bytes
  tombstone : Bool
  hashFields : List (Nat × Bytes)
  counterTotal : Int
  members : List Nat
  expiry : Option Nat
  stamp : Stamp
  deriving DecidableEq, Repr

def total (c : NMap Nat) : Nat := (c.map (·.2)).foldl (· + ·) 0

def obs (a : RV) : Obs :=
  { value := a.get
    tombstone := a.isTombstone
    hashFields := match a.crdt with
      | .hash h => h.filterMap (fun p => p.2.get.map (fun v => (p.1, v)))
      | _ => []
    counterTotal := match a.crdt with
      | .gcounter c => total c
      | .pncounter p n => (total p : Int) - total n
      | _ => 0
    members := match a.crdt with
      | .gset s => s
      | .orset e _ => (e.filter (fun p => !p.2.isEmpty)).map (·.1)
      | _ => []
    expiry := a.expiry
    stamp := a.ts }

theorem obs_idem (a : RV) (ha : a.WF) : obs (merge a a) = obs a := by
  rw [rv_merge_idem a ha]

theorem obs_comm (a b : RV) (ha : a.WF) (hb : b.WF) (ht : TieConsistent a b) :
    obs (merge a b) = obs (merge b a) := by
  rw [rv_merge_comm a b ha hb ht]

theorem obs_assoc_partial (a b c : RV) (ha : a.WF) (hb : b.WF) (hc : c.WF) (hk : SameKind a b c) :
    obs (merge a (merge b c)) = obs (merge (merge a b) c) := by
  rw [rv_merge_assoc_partial a b c ha hb hc hk]

/-! ## counterexamples (known findings / necessity of hypotheses) -/

def hashA : RV :=  -- HSET h f 1  at stamp (1, r1)
  { crdt := .hash [(102, ⟨some [49], ⟨1, 1⟩, false⟩)], vc := none, expiry := none, ts := ⟨1, 1⟩, rf := none }
def lwwB : RV :=   -- SET h v     at stamp (2, r1)
  RV.withValue [118] ⟨2, 1⟩
def hashC : RV :=  -- HSET h g 2  at stamp (3, r1)
  { crdt := .hash [(103, ⟨some [50], ⟨3, 1⟩, false⟩)], vc := none, expiry := none, ts := ⟨3, 1⟩, rf := none }

/-- **Known finding C07:assoc:cross-kind.**  `Hash@1{f} ⊔ (Lww@2 ⊔ Hash@3{g})` keeps field `f`,
    `(Hash@1{f} ⊔ Lww@2) ⊔ Hash@3{g}` does not: delivery order decides the fields. -/
theorem assoc_cross_kind_counterexample :
    obs (merge hashA (merge lwwB hashC)) ≠ obs (merge (merge hashA lwwB) hashC) := by
  decide

theorem C07_assoc_false : ¬ C07_assoc := by
  intro h
  have := h hashA lwwB hashC (by decide) (by decide) (by decide)
  exact assoc_cross_kind_counterexample (by rw [this])

/-- the tie hypothesis of `rv_merge_comm` is necessary: two different registers with the same
    stamp (which C08 rules out for reachable values) merge order-dependently -/
theorem lww_tie_counterexample :
    merge (RV.withValue [1] ⟨5, 1⟩) (RV.withValue [2] ⟨5, 1⟩)
      ≠ merge (RV.withValue [2] ⟨5, 1⟩) (RV.withValue [1] ⟨5, 1⟩) := by
  decide

/-- **Fixed defect C07:stamp-comm** (see known_findings.json): with the pinned commit's outer
    stamp combiner `LamportClock::merge` the stamp of a merge depended on the argument order. -/
theorem clockMerge_not_comm :
    (mergeWith .clockMerge (RV.withValue [1] ⟨5, 1⟩) (RV.withValue [2] ⟨3, 2⟩)).ts
      ≠ (mergeWith .clockMerge (RV.withValue [2] ⟨3, 2⟩) (RV.withValue [1] ⟨5, 1⟩)).ts := by
  decide

/-! ## non-vacuity: concrete non-trivial values satisfy the hypotheses -/

def exOr1 : RV :=
  { crdt := .orset [(7, [100, 101])] [(1, 2)], vc := some [(1, 3)], expiry := some 50, ts := ⟨4, 1⟩, rf := none }
def exOr2 : RV :=
  { crdt := .orset [(7, [200]), (9, [201])] [(2, 2)], vc := some [(2, 1)], expiry := none, ts := ⟨4, 2⟩, rf := some 3 }

example : exOr1.WF ∧ exOr2.WF ∧ TieConsistent exOr1 exOr2 ∧ SameKind exOr1 exOr2 exOr1
    ∧ merge exOr1 exOr2 ≠ exOr1 ∧ merge exOr1 exOr2 ≠ exOr2 := by
  decide

example : hashA.WF ∧ lwwB.WF ∧ TieConsistent hashA lwwB ∧ TieConsistent hashA hashC := by
  decide

end C07
end RedisVerif
