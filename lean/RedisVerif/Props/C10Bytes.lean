import RedisVerif.Lemmas.WalBytes
import RedisVerif.Props.C14Bincode

/-!
# C10 — every single-byte corruption position of a WAL file, with CRC-32 (no checksum hypothesis)

`C10_only_appended` quantifies over arbitrary one-byte damage of a file image and cannot be proved
over an abstract checksum.  For the format `.v2` and the executable CRC-32 it is proved here for
EVERY byte position of EVERY file image that is not inside the 4-byte length field of an entry —
file header (magic, version, flags, reserved, sequence), entry stamps, stored checksums, payloads —
and every replacement value (in particular every single-bit flip).

What stays outside: a changed LENGTH byte of an entry (the checksum then covers a string of another
length — `CrcDetects` is the hypothesis there), and damage wider than the 4-byte window of
`crc32_detects_window4`.
-/
namespace RedisVerif
namespace C10

open Wal Driver WalBytes Concrete

/-- position `p` of the file image lies in the 4-byte length field of some entry -/
def InLengthField (es : List Entry) (p : Nat) : Prop :=
  ∃ es₁ e es₂ o, es = es₁ ++ e :: es₂ ∧ p = 16 + (encs es₁).length + o ∧ o < 4

/-- one byte of ONE entry replaced, outside its length field: recovery of the file returns exactly
    the entries before it -/
theorem entry_byte_corruption_stops (seq : Nat) (es₁ : List Entry) (e : Entry) (es₂ : List Entry) (o v : Nat)
    (hs : seq < 2 ^ 64) (hok₁ : AllOk .v2 crc32 es₁) (he : e.Good .v2 crc32) (hb : ∀ x ∈ e.data, x < 256)
    (ho4 : 4 ≤ o) (hv : v < 256) (hne : e.encode.set o v ≠ e.encode) :
    fileEntries .v2 crc32 (fileImage .v2 seq es₁ ++ (e.encode.set o v ++ encs es₂)) = es₁ := by
  obtain ⟨j, rfl⟩ : ∃ j, o = (le 4 e.data.length).length + j := ⟨o - 4, by rw [le_length]; omega⟩
  unfold Entry.encode at hne ⊢
  rw [set_append_right] at hne ⊢
  -- past the length field: stamp, stored checksum or payload
  rcases Dmg1.append ⟨j, v, hv, rfl⟩ with ⟨_, d, e1⟩ | ⟨_, d1, e1⟩
  · obtain ⟨ts', rfl, ht, -⟩ := d.le_eq
    rcases d.pos with h | ⟨i, w, hi, hw, hne', hset⟩
    · exact absurd (by rw [e1, h]) hne
    · rw [e1]
      exact C14.wal_stamp_byte_corruption_detected seq es₁ e ts' i w (encs es₂) hs hok₁ he hb (by simpa using ht)
        (by rwa [le_length] at hi) hw hset hne'
  rcases d1.append with ⟨_, d, e2⟩ | ⟨_, d, e2⟩
  · obtain ⟨c', rfl, hc', hc⟩ := d.le_eq
    rw [e1, e2]
    apply corruption_stops_payload .v2 crc32 seq es₁ e.data e.ts c' (encs es₂) hok₁ ⟨he.1.1, he.1.2.1, by simpa using hc'⟩
    rw [show crc32 (covered .v2 e.data.length e.ts e.data) = e.crc from he.2.1]
    exact fun h' => hc.elim (fun h => hne (by rw [e1, e2, h])) (· h'.symm)
  · rcases d.pos with h | ⟨i, w, hi, hw, hne', rfl⟩
    · exact absurd (by rw [e1, e2, h]) hne
    · rw [e1, e2]
      have := C14.wal_payload_byte_corruption_detected seq es₁ e i w (encs es₂) hs hok₁ he hb hi hw hne'
      rwa [Entry.encode, List.length_set] at this

/-- one byte of a well-formed WAL file image replaced by any value, anywhere except inside the
    length field of an entry: recovery of that file returns a prefix of the appended entries -/
theorem single_byte_corruption_yields_prefix (seq : Nat) (es : List Entry) (p v : Nat)
    (hs : seq < 2 ^ 64) (hok : AllOk .v2 crc32 es) (hb : ∀ e ∈ es, ∀ x ∈ e.data, x < 256)
    (hp : p < (fileImage .v2 seq es).length) (hv : v < 256) (hnl : ¬ InLengthField es p) :
    ∃ k, fileEntries .v2 crc32 ((fileImage .v2 seq es).set p v) = es.take k := by
  by_cases h16 : p < 16
  · -- file header: the reader looks at magic and version only
    have hset : (fileImage .v2 seq es).set p v = (header .v2 seq).set p v ++ encs es := by
      unfold fileImage
      rw [set_append_left _ _ _ _ (by rw [header_length]; exact h16)]
    rw [hset]
    exact prefix_of_any_header .v2 crc32 es _ (by rw [List.length_set, header_length]; rfl) hok
  · -- inside the entries
    have hl : (fileImage .v2 seq es).length = 16 + (encs es).length := by
      unfold fileImage; rw [List.length_append, header_length]; rfl
    obtain ⟨es₁, e, es₂, o, hes, hq, ho⟩ := split_pos es (p - 16) (by omega)
    have hp' : p = 16 + (encs es₁).length + o := by omega
    have ho4 : 4 ≤ o := by
      apply Nat.le_of_not_lt
      intro h
      exact hnl ⟨es₁, e, es₂, o, hes, hp', h⟩
    obtain ⟨hok₁, he⟩ := allOk_split hok hes
    have hbe : ∀ x ∈ e.data, x < 256 := hb e (by rw [hes]; simp)
    have hset : (fileImage .v2 seq es).set p v = fileImage .v2 seq es₁ ++ (e.encode.set o v ++ encs es₂) := by
      unfold fileImage
      have h := set_append_right (header .v2 seq) (encs es) ((encs es₁).length + o) v
      rw [header_length] at h
      have hp2 : p = overhead + ((encs es₁).length + o) := by simp only [overhead]; omega
      rw [hp2, h, hes, encs_set es₁ e es₂ o v ho, List.append_assoc]
    rw [hset]
    by_cases hsame : e.encode.set o v = e.encode
    · -- nothing changed
      refine ⟨es.length, ?_⟩
      rw [hsame, List.take_length, fileImage_split, ← hes]
      exact fileEntries_clean .v2 crc32 seq es hok
    · exact prefix_of_stop hes (entry_byte_corruption_stops seq es₁ e es₂ o v hs hok₁ he hbe ho4 hv hsame)

/-- in the words of the property: whatever recovery returns from such a damaged file was appended
    to it, bit-identical, and in append order -/
theorem single_byte_corruption_only_appended (seq : Nat) (es : List Entry) (p v : Nat)
    (hs : seq < 2 ^ 64) (hok : AllOk .v2 crc32 es) (hb : ∀ e ∈ es, ∀ x ∈ e.data, x < 256)
    (hp : p < (fileImage .v2 seq es).length) (hv : v < 256) (hnl : ¬ InLengthField es p) :
    ∀ x ∈ fileEntries .v2 crc32 ((fileImage .v2 seq es).set p v), x ∈ es := by
  obtain ⟨k, hk⟩ := single_byte_corruption_yields_prefix seq es p v hs hok hb hp hv hnl
  intro x hx
  rw [hk] at hx
  exact List.mem_of_mem_take hx

/-- the damage classes of the property for which nothing is assumed about the checksum: every truncation; one
    byte replaced anywhere outside an entry's length field; a cut at an entry boundary followed by a
    zero-filled tail of any length -/
def DamagedProved (seq : Nat) (es : List Entry) (img : Bytes) : Prop :=
  (∃ n, img = (fileImage .v2 seq es).take n) ∨
  (∃ p v, p < (fileImage .v2 seq es).length ∧ v < 256 ∧ ¬ InLengthField es p ∧ img = (fileImage .v2 seq es).set p v) ∨
  (∃ k m, img = fileImage .v2 seq (es.take k) ++ List.replicate m 0)

/-- `C10_only_appended` for CRC-32 on those classes: whatever recovery returns from the damaged
    file was appended to it, bit-identical (current format, executable CRC-32, no hypothesis) -/
theorem only_appended_crc32 (seq : Nat) (es : List Entry) (img : Bytes)
    (hs : seq < 2 ^ 64) (hok : AllOk .v2 crc32 es) (hb : ∀ e ∈ es, ∀ x ∈ e.data, x < 256)
    (hd : DamagedProved seq es img) : ∀ x ∈ fileEntries .v2 crc32 img, x ∈ es := by
  rcases hd with ⟨n, rfl⟩ | ⟨p, v, hp, hv, hnl, rfl⟩ | ⟨k, m, rfl⟩
  · exact (only_appended_v2 crc32 seq es hs hok).1 n
  · exact single_byte_corruption_only_appended seq es p v hs hok hb hp hv hnl
  · exact (only_appended_v2 crc32 seq es hs hok).2.1 k m

-- non-vacuity: two entries; position 21 is the second stamp byte of the first entry (the very flip
-- the old format accepted: stamp 5 -> 261)
example : AllOk .v2 crc32 [Entry.mk' .v2 crc32 [7] 5, Entry.mk' .v2 crc32 [1, 2] 9] := by decide +kernel

end C10
end RedisVerif
