import RedisVerif.Props.C14
import RedisVerif.Props.C14Bincode
import RedisVerif.Lemmas.JsonWire

/-!
# C14 — gossip frames: the serde_json encoding made concrete

`Props/C14.lean` proves `gossip_roundtrip` over an abstract `ser`/`de` pair with the round-trip law as a
hypothesis.  Here `ser` is the byte-exact model of what `GossipMessage::serialize` (`serde_json::to_vec`
over the derived impls and `impl Serialize for SDS`) writes, and `de` the canonical JSON decoder
(`Model/Json.lean`): decimal integers, the exact escape table of serde_json's string writer, byte arrays
as arrays of numbers, integer map keys as strings, externally tagged enums, `null` for `None` — maps and
sets in WIRE order, so every `HashMap` iteration order is covered.  The REAL bytes of every generated frame
are decoded by this model on every run (op `JG`), as are their truncations and (where the document stays
canonical) their bit flips (op `JX`).

The round trip is by structural induction over the message (all five variants, any number of deltas of
any CRDT kind, any strings, binary payloads, `u64::MAX` stamps), no bound.  Bincode (WAL / segment
payload) and JSON (gossip frame) encode the SAME wire value type `WDelta`.
-/
namespace RedisVerif
namespace C14

open Json Codec

/-- every representable gossip message survives `serialize` / `deserialize`, bit for bit -/
theorem gossip_json_roundtrip (m : WMsg) (hm : msg.ok m) : deMsg (serMsg m) = some m := by
  unfold deMsg serMsg
  have := closed_msg m [] hm
  rw [List.append_nil] at this
  rw [this]

/-- whatever `deserialize` accepts (among canonical documents) is the serialisation of what it returns -/
theorem gossip_json_decode_exact (bs : Bytes) (m : WMsg) (h : deMsg bs = some m) : bs = serMsg m ∧ msg.ok m := by
  unfold deMsg at h
  split at h
  · rename_i m' hd
    simp only [Option.some.injEq] at h
    subst h
    obtain ⟨e, o⟩ := lawful_msg.exact bs m' [] hd
    exact ⟨by rw [e, List.append_nil]; rfl, o⟩
  · cases h

theorem gossip_json_enc_injective (a b : WMsg) (ha : msg.ok a) (hb : msg.ok b) (h : serMsg a = serMsg b) : a = b :=
  enc_injective_of gossip_json_roundtrip ha hb h

/-- a truncated frame is never a frame -/
theorem gossip_json_truncated_rejected (m : WMsg) (hm : msg.ok m) (n : Nat) (hn : n < (serMsg m).length) :
    deMsg ((serMsg m).take n) = none := by
  unfold deMsg serMsg
  rw [truncated_none_of closed_msg lawful_msg.exact m hm n hn]

/-- the gossip codec of the abstract theorem, concrete -/
def jsonCodec : SerDe WMsg := { ser := serMsg, de := deMsg }

/-- `C14.gossip_roundtrip` with its hypothesis discharged: a gossip message arrives unchanged -/
theorem gossip_roundtrip_concrete (m : WMsg) (hm : msg.ok m) : gossipDeliver jsonCodec m = some m :=
  gossip_roundtrip jsonCodec m (gossip_json_roundtrip m hm)

/-- one delta, both encodings: the JSON model and the bincode model are codecs of the same wire value,
    each with its round trip -/
theorem gossip_json_delta_same_value_as_bincode (d : Bincode.WDelta) (hj : Json.delta.ok d) (hb : Bincode.delta.ok d) :
    (Json.delta.dec (Json.delta.enc d)).map (·.1) = some d ∧ Bincode.deDelta (Bincode.delta.enc d) = some d := by
  refine ⟨?_, Concrete.deDelta_enc d hb⟩
  have := lawful_delta.rt d [] hj delim_nil
  rw [List.append_nil] at this
  rw [this]; rfl

-- non-vacuity: a frame with every CRDT kind, a key with a quote, a newline, a control byte and a
-- non-ASCII character, a binary payload, round-trips by evaluation too
example : ∀ d ∈ sampleDeltas, deMsg (serMsg (.deltaBatch 2 [d, ⟨[107, 34, 10, 1, 195, 169], d.value, 0⟩] (2 ^ 64 - 1)))
    = some (.deltaBatch 2 [d, ⟨[107, 34, 10, 1, 195, 169], d.value, 0⟩] (2 ^ 64 - 1)) := by decide +kernel

end C14
end RedisVerif
