import RedisVerif.Props.C06Sim
import RedisVerif.Props.C18
import RedisVerif.Lemmas.Flow

/-!
# C06 ∘ C18 — loss, then anti-entropy ⇒ converged reads

The property's "loss followed by … anti-entropy, partitions that heal", discharged: the delivery
hypothesis of `sim_converges_among` is not assumed but *produced* by the repair mechanism the
code has.

With a collision-free hash and `max_keys_per_sync` at least the number of keys either side holds,
one `run_anti_entropy_sync` leaves BOTH sides with `merge(own, other's)` for EVERY key: the keys
of the divergent buckets because they were exchanged, all others because they were equal
(`sync_round_joins`, from C18's `sync_round_key` — a key ends merged on both sides or both sides
hash the same stream for it — and the injectivity of the hashed byte stream).  Key by key,
one exchange of the simulator cluster is therefore an exchange in the join-semilattice of the
key's carrier (`Lemmas/Flow.lean`), and **after ANY history** (any writes, any loss, delay,
partitions, earlier exchanges) a list of exchanges whose knowledge flow is complete makes ALL
nodes hold the same value for every key.  `run_full_anti_entropy` on a cluster without partitions
is such a list, for every cluster size: ONE pass suffices.
-/
namespace RedisVerif
namespace C06

open Cluster ACluster SimC AE

/-! ## one exchange, at the level of the two key maps -/

/-- values that hash alike are equal (well-formed, UTF-8 strings) -/
theorem get_eq_of_stream_eq {A B : NMap RV} (k : Nat)
    (hvA : ∀ v, NMap.get A k = some v → v.WF ∧ StrSafe HB.keyStr v)
    (hvB : ∀ v, NMap.get B k = some v → v.WF ∧ StrSafe HB.keyStr v)
    (h : (NMap.get A k).map currentStream = (NMap.get B k).map currentStream) : NMap.get A k = NMap.get B k := by
  cases ha : NMap.get A k with
  | none =>
    cases hb : NMap.get B k with
    | none => rfl
    | some w => rw [ha, hb] at h; cases h
  | some v =>
    cases hb : NMap.get B k with
    | none => rw [ha, hb] at h; cases h
    | some w =>
      rw [ha, hb] at h
      simp only [Option.map_some, Option.some.injEq] at h
      rw [C18.byte_stream_injective HB.keyStr keyStr_inj v w (hvA v ha).1 (hvB w hb).1 (hvA v ha).2 (hvB w hb).2 h]

theorem candidates_length_le (H : Hasher) (depth : Nat) (s : NMap RV) (div : List Nat) (hs : NMap.WF s) :
    (candidates H depth (NMap.keys s) s div).length ≤ s.length := by
  unfold candidates
  rw [iter_keys hs]
  exact List.length_filter_le _ _

/-- **one `run_anti_entropy_sync` leaves both sides with the merge, for every key** -/
theorem sync_round_joins (H : Hasher) (hI : Ideal H) (le : Nat → Nat → Bool) (depth limit : Nat) (A B : NMap RV)
    (hA : NMap.WF A) (hB : NMap.WF B)
    (hvA : ∀ k v, NMap.get A k = some v → v.WF ∧ StrSafe HB.keyStr v)
    (hvB : ∀ k v, NMap.get B k = some v → v.WF ∧ StrSafe HB.keyStr v)
    (hlA : A.length ≤ limit) (hlB : B.length ≤ limit) (k : Nat) :
    NMap.get (syncRound le H depth limit (NMap.keys A) (NMap.keys B) A B).1 k
        = optMerge RV.merge (NMap.get A k) (NMap.get B k) ∧
    NMap.get (syncRound le H depth limit (NMap.keys A) (NMap.keys B) A B).2 k
        = optMerge RV.merge (NMap.get B k) (NMap.get A k) := by
  have hπA : ValidOrder (NMap.keys A) A := List.Perm.refl _
  have hπB : ValidOrder (NMap.keys B) B := List.Perm.refl _
  unfold syncRound
  rcases C18.sync_round_key (arrangeOf currentSimOrder le) (arrOK_arrangeOf _ _) H currentSortBucket currentStream depth limit
      _ _ A B hI (streamOK_byteStream HB.keyStr) hA hB hπA hπB
      (Nat.le_trans (candidates_length_le H depth A _ hA) hlA) (Nat.le_trans (candidates_length_le H depth B _ hB) hlB) k
    with h | ⟨e, e1, e2⟩
  · exact h
  · -- equal hashed streams on `k` ⇒ both sides hold the same value ⇒ "merge" is what they hold
    rw [e1, e2, ← get_eq_of_stream_eq k (hvA k) (hvB k) e, NMap.optMerge_idem (fun v hv => C07.rv_merge_idem v (hvA k v hv).1)]
    exact ⟨rfl, rfl⟩

/-! ## the simulator cluster: one exchange is an exchange in the key's join-semilattice -/

/-- the (stripped) value node `i` holds for key `k` -/
def valv (c : Sim) (k : Nat) (i : Nat) : Option RV :=
  (c.nodes[i]?).bind (fun nd => (NMap.get nd.ps.sh.keys k).map RV.strip)

theorem valv_of_get (c : Sim) (k i : Nat) (nd : SNode) (h : c.nodes[i]? = some nd) :
    valv c k i = (NMap.get nd.ps.sh.keys k).map RV.strip := by simp [valv, h]

/-- the join of the key's carrier, lifted to "no value yet" -/
def oj : Option RV → Option RV → Option RV := optMerge RV.merge

theorem strip_optMerge (x y : Option RV) :
    (optMerge RV.merge x y).map RV.strip = oj (x.map RV.strip) (y.map RV.strip) := by
  cases x <;> cases y <;> simp [oj, optMerge, strip_merge]

theorem applyAll_keys (src : Nat) (ds : List (Nat × RV)) : ∀ (s : Shard),
    (Gossip.MCluster.applyAll s (Sim.toMsgs src ds)).keys = applyDeltas s.keys ds := by
  induction ds with
  | nil => intro s; rfl
  | cons d ds ih =>
    intro s
    simp only [Sim.toMsgs, List.map_cons, Gossip.MCluster.applyAll, List.foldl_cons, applyDeltas] at ih ⊢
    rw [ih]
    congr 1
    simp only [Shard.applyRemote, applyDelta]
    cases NMap.get s.keys d.1 <;> rfl

theorem syncDeltas_round (H : Hasher) (cfg : Cfg) (A B : NMap RV) :
    syncRound Sim.keyLe H (effectiveDepth currentDepthBound cfg.depth) (effectiveLimit currentLimitAtLeastOne cfg.limit)
        (NMap.keys A) (NMap.keys B) A B =
      (match Sim.syncDeltas H cfg A B with
       | some dd => (applyDeltas A dd.2, applyDeltas B dd.1)
       | none => (A, B)) := by
  unfold syncRound syncRoundWith Sim.syncDeltas exchange digest
  simp only []
  split
  · split
    · rfl
    · rfl
  · rfl

/-- the states of the two nodes after `run_anti_entropy_sync(a, b)` are the two sides of the
    model's sync round; nobody else moves -/
theorem syncStep_nodes (H : Hasher) (cfg : Cfg) (c : Sim) (a b : Nat) (hab : a ≠ b) (na nb : SNode)
    (hna : c.nodes[a]? = some na) (hnb : c.nodes[b]? = some nb) :
    ∃ na' nb', (Sim.syncStep H cfg c a b).nodes[a]? = some na' ∧ (Sim.syncStep H cfg c a b).nodes[b]? = some nb' ∧
      (∀ i, i ≠ a → i ≠ b → (Sim.syncStep H cfg c a b).nodes[i]? = c.nodes[i]?) ∧
      (na'.ps.sh.keys, nb'.ps.sh.keys) =
        syncRound Sim.keyLe H (effectiveDepth currentDepthBound cfg.depth) (effectiveLimit currentLimitAtLeastOne cfg.limit)
          (NMap.keys na.ps.sh.keys) (NMap.keys nb.ps.sh.keys) na.ps.sh.keys nb.ps.sh.keys := by
  rw [syncDeltas_round]
  cases hsd : Sim.syncDeltas H cfg na.ps.sh.keys nb.ps.sh.keys with
  | none =>
    have : Sim.syncStep H cfg c a b = c := by simp only [Sim.syncStep, hna, hnb, hsd]
    rw [this]
    exact ⟨na, nb, hna, hnb, fun _ _ _ => rfl, rfl⟩
  | some dd =>
    obtain ⟨da, db⟩ := dd
    have hst : (Sim.syncStep H cfg c a b).nodes =
        (c.nodes.set b (nb.applyAll (Sim.toMsgs a da))).set a (na.applyAll (Sim.toMsgs b db)) := by
      simp only [Sim.syncStep, hna, hnb, hsd]
    have halt : a < c.nodes.length := (List.getElem?_eq_some_iff.mp hna).1
    have hblt : b < c.nodes.length := (List.getElem?_eq_some_iff.mp hnb).1
    refine ⟨na.applyAll (Sim.toMsgs b db), nb.applyAll (Sim.toMsgs a da), ?_, ?_, ?_, ?_⟩
    · rw [hst, List.getElem?_set_self (by simp; exact halt)]
    · rw [hst, List.getElem?_set_ne hab, List.getElem?_set_self hblt]
    · intro i hia hib
      rw [hst, List.getElem?_set_ne (Ne.symm hia), List.getElem?_set_ne (Ne.symm hib)]
    · simp only [(applyAll_sh _ na).1, (applyAll_sh _ nb).1, applyAll_keys]

/-- what is known of every state the simulator cluster can reach -/
structure Reach (H : Hasher) (cfg : Cfg) (n : Nat) (causal : Bool) (c : Sim) : Prop where
  ex : ∃ routers autoAE evs, c = (Sim.init n causal routers autoAE).run H cfg evs

theorem reach_run {H : Hasher} {cfg : Cfg} {n : Nat} {causal : Bool} {c : Sim} (h : Reach H cfg n causal c)
    (evs : List SEv) : Reach H cfg n causal (c.run H cfg evs) := by
  obtain ⟨routers, autoAE, evs0, rfl⟩ := h.ex
  exact ⟨routers, autoAE, evs0 ++ evs, by simp [Sim.run, List.foldl_append]⟩

theorem reach_abs {H : Hasher} {cfg : Cfg} {n : Nat} {causal : Bool} {c : Sim} (h : Reach H cfg n causal c) :
    ∃ es : List AEv, c.abs = (ACluster.init n causal).run es ∧ ∀ e ∈ es, StrEv e := by
  obtain ⟨routers, autoAE, evs, rfl⟩ := h.ex
  obtain ⟨es, h1, h2⟩ := sim_refines_cluster_ae H cfg n causal routers autoAE evs
  exact ⟨es, h1, strEv_of_filter evs es h2⟩

theorem run_length (H : Hasher) (cfg : Cfg) (evs : List SEv) : ∀ (c : Sim),
    (c.run H cfg evs).nodes.length = c.nodes.length := by
  induction evs with
  | nil => intro c; rfl
  | cons e evs ih =>
    intro c
    simp only [Sim.run, List.foldl_cons] at ih ⊢
    rw [ih]
    cases e with
    | exec i op => simp only [Sim.step]; split <;> simp
    | gossip o => rw [step_gossip, (applied_deliverFlights _ _).len]; simp [drained]
    | _ =>
      exact step_ae (P := fun x => x.nodes.length = c.nodes.length) H cfg (fun _ _ _ h => h)
        (fun x a b h => (applied_syncStep H cfg x a b).len.trans h) c rfl _ rfl

theorem reach_length {H : Hasher} {cfg : Cfg} {n : Nat} {causal : Bool} {c : Sim} (h : Reach H cfg n causal c) :
    c.nodes.length = n := by
  obtain ⟨routers, autoAE, evs, rfl⟩ := h.ex
  rw [run_length]
  simp [Sim.init]

/-- well-formedness of everything a reachable node holds -/
theorem reach_wf {H : Hasher} {cfg : Cfg} {n : Nat} {causal : Bool} {c : Sim} (h : Reach H cfg n causal c)
    (i : Nat) (nd : SNode) (hnd : c.nodes[i]? = some nd) :
    NMap.WF nd.ps.sh.keys ∧ ∀ k v, NMap.get nd.ps.sh.keys k = some v → v.WF ∧ StrSafe HB.keyStr v := by
  obtain ⟨es, h1, h2⟩ := reach_abs h
  have hmem : nd.ps.sh ∈ c.abs.base.nodes := List.mem_of_getElem? (abs_nodes_get c i nd hnd)
  rw [h1] at hmem
  have hw := (AInv_run _ es (AInv_init n causal)).rinv.wf _ hmem
  have hl := (lwwInv_run es _ (lwwInv_init n causal) h2).nodes _ hmem
  refine ⟨hw.2.1, ?_⟩
  intro k v hg
  refine ⟨hw.1.2 _ (NMap.mem_of_get hg), ?_⟩
  obtain ⟨r, hr⟩ := Shard.kind_lww (hl k v hg)
  simp [StrSafe, strSafeCrdt, hr]

/-- every value a reachable node holds for `k` lies in the key's carrier; the node holds a value
    only for keys that were written -/
theorem reach_carrier {H : Hasher} {cfg : Cfg} {n : Nat} {causal : Bool} {c : Sim} (h : Reach H cfg n causal c)
    (k : Nat) : RegsConsistent (regsOf c.issued k) ∧
      (∀ i, ACI.Opt (InCarrier 0 (regsOf c.issued k)) (valv c k i)) ∧
      (∀ i v, valv c k i = some v → ∃ m ∈ c.issued, m.key = k) := by
  obtain ⟨routers, autoAE, evs, rfl⟩ := h.ex
  have hk := sim_kind_stable H cfg n causal routers autoAE evs k
  obtain ⟨es, h1, _⟩ := sim_refines_cluster_ae H cfg n causal routers autoAE evs
  have hiss : ((Sim.init n causal routers autoAE).run H cfg evs).issued
      = ((Sim.init n causal routers autoAE).run H cfg evs).abs.base.sent := rfl
  rw [hiss]
  have hval : ∀ i, valv ((Sim.init n causal routers autoAE).run H cfg evs) k i =
      (((Sim.init n causal routers autoAE).run H cfg evs).abs.base.nodes[i]?).bind
        (fun s => (NMap.get s.keys k).map RV.strip) := by
    intro i
    simp only [valv, Sim.abs, List.getElem?_map]
    cases ((Sim.init n causal routers autoAE).run H cfg evs).nodes[i]? <;> rfl
  rw [h1] at hk ⊢
  have hc := compat_of_kind_stable_ae n causal es k 0 hk
  have hj := (JA_of_kind_stable n causal es k 0 hk).base
  -- a value a node holds is the fold of what it absorbed
  have hfold : ∀ i v, valv ((Sim.init n causal routers autoAE).run H cfg evs) k i = some v →
      foldOpt (((ACluster.init n causal).run es).base.absorbed i k) = some v := by
    intro i v hv
    rw [hval i, h1] at hv
    cases hs : ((ACluster.init n causal).run es).base.nodes[i]? with
    | none => rw [hs] at hv; cases hv
    | some s =>
      rw [hs] at hv
      simp only [Option.bind_some] at hv
      rw [← hj.value i s hs]; exact hv
  refine ⟨hc.1, fun i v hv => foldOpt_carrier hc.1 (absorbed_in_carrier hc hj i) (hfold i v hv), ?_⟩
  intro i v hv
  cases hab : ((ACluster.init n causal).run es).base.absorbed i k with
  | nil => have := hfold i v hv; rw [hab] at this; cases this
  | cons x xs =>
    obtain ⟨m, hm, hmk, _⟩ := hj.absorbed_sent (i := i) (v := x) (by rw [hab]; simp)
    exact ⟨m, hm, hmk⟩

/-- a reachable node holds at most as many keys as were ever written -/
theorem reach_keys_le {H : Hasher} {cfg : Cfg} {n : Nat} {causal : Bool} {c : Sim} (h : Reach H cfg n causal c)
    (U : List Nat) (hU : ∀ m ∈ c.issued, m.key ∈ U) (i : Nat) (nd : SNode) (hnd : c.nodes[i]? = some nd) :
    nd.ps.sh.keys.length ≤ U.length := by
  have hwf := (reach_wf h i nd hnd).1
  have hsub : NMap.keys nd.ps.sh.keys ⊆ U := by
    intro k hk
    simp only [NMap.keys, List.mem_map] at hk
    obtain ⟨p, hp, rfl⟩ := hk
    have hg := NMap.get_of_mem hwf hp
    have hv : valv c p.1 i = some p.2.strip := by simp [valv, hnd, hg]
    obtain ⟨m, hm, hmk⟩ := (reach_carrier h p.1).2.2 i _ hv
    rw [← hmk]; exact hU m hm
  have := List.Nodup.length_le_of_subset (NMap.nodup_keys hwf) hsub
  simpa [NMap.keys] using this

/-! ## the pass -/

theorem syncStep_issued (H : Hasher) (cfg : Cfg) (c : Sim) (a b : Nat) :
    (Sim.syncStep H cfg c a b).issued = c.issued ∧ (Sim.syncStep H cfg c a b).parts = c.parts :=
  ⟨(applied_syncStep H cfg c a b).issued, (applied_syncStep H cfg c a b).parts⟩

/-- **one `run_anti_entropy_sync` of the cluster is, key by key, one exchange in the key's
    join-semilattice** — collision-free hash, `max_keys_per_sync` at least the number of keys ever
    written (`U`: any list that contains them) -/
theorem sync_step_xch (H : Hasher) (hI : Ideal H) (cfg : Cfg) (n : Nat) (causal : Bool) (c : Sim)
    (hr : Reach H cfg n causal c) (U : List Nat) (hU : ∀ m ∈ c.issued, m.key ∈ U)
    (hlen : U.length ≤ effectiveLimit currentLimitAtLeastOne cfg.limit)
    (a b : Nat) (hab : a ≠ b) (ha : a < n) (hb : b < n) (k : Nat) :
    valv (Sim.syncStep H cfg c a b) k = Flow.xch oj (valv c k) a b := by
  have hn := reach_length hr
  have halt : a < c.nodes.length := by omega
  have hblt : b < c.nodes.length := by omega
  have hna : c.nodes[a]? = some c.nodes[a] := List.getElem?_eq_getElem halt
  have hnb : c.nodes[b]? = some c.nodes[b] := List.getElem?_eq_getElem hblt
  obtain ⟨na', nb', h1, h2, h3, h4⟩ := syncStep_nodes H cfg c a b hab _ _ hna hnb
  obtain ⟨hwA, hvA⟩ := reach_wf hr a _ hna
  obtain ⟨hwB, hvB⟩ := reach_wf hr b _ hnb
  have hj := sync_round_joins H hI Sim.keyLe (effectiveDepth currentDepthBound cfg.depth)
    (effectiveLimit currentLimitAtLeastOne cfg.limit) _ _ hwA hwB hvA hvB
    (Nat.le_trans (reach_keys_le hr U hU a _ hna) hlen) (Nat.le_trans (reach_keys_le hr U hU b _ hnb) hlen) k
  rw [← h4] at hj
  simp only at hj
  obtain ⟨hR, hcar, _⟩ := reach_carrier hr k
  have hva := valv_of_get c k a _ hna
  have hvb := valv_of_get c k b _ hnb
  funext i
  simp only [Flow.xch]
  by_cases hia : i = a
  · subst hia
    simp only [true_or, if_true]
    rw [valv_of_get _ k _ _ h1, hj.1, strip_optMerge, ← hva, ← hvb]
  · by_cases hib : i = b
    · subst hib
      simp only [or_true, if_true]
      rw [valv_of_get _ k _ _ h2, hj.2, strip_optMerge, ← hva, ← hvb]
      exact (aci_rv 0 _ hR).opt.comm _ _ (hcar i) (hcar a)
    · have : ¬ (i = a ∨ i = b) := fun h => h.elim hia hib
      simp only [this, if_false]
      simp only [valv, h3 i hia hib]

theorem run_syncs_valv (H : Hasher) (hI : Ideal H) (cfg : Cfg) (n : Nat) (causal : Bool) (U : List Nat)
    (hlen : U.length ≤ effectiveLimit currentLimitAtLeastOne cfg.limit) (k : Nat) (ps : List (Nat × Nat))
    (hps : ∀ p ∈ ps, p.1 < n ∧ p.2 < n ∧ p.1 ≠ p.2) : ∀ (c : Sim), Reach H cfg n causal c →
    (∀ m ∈ c.issued, m.key ∈ U) →
    valv (c.run H cfg (ps.map (fun p => SEv.sync p.1 p.2))) k = Flow.pass oj (valv c k) ps ∧
    (c.run H cfg (ps.map (fun p => SEv.sync p.1 p.2))).issued = c.issued := by
  induction ps with
  | nil => intro c _ _; exact ⟨rfl, rfl⟩
  | cons p ps ih =>
    intro c hr hU
    have hp := hps p (by simp)
    have hstep : c.step H cfg (SEv.sync p.1 p.2) = Sim.syncStep H cfg c p.1 p.2 := rfl
    have hr1 : Reach H cfg n causal (Sim.syncStep H cfg c p.1 p.2) := by
      have := reach_run hr [SEv.sync p.1 p.2]
      simpa [Sim.run, hstep] using this
    have hiss := (syncStep_issued H cfg c p.1 p.2).1
    obtain ⟨e1, e2⟩ := ih (fun q hq => hps q (List.mem_cons_of_mem _ hq)) _ hr1 (by rw [hiss]; exact hU)
    simp only [List.map_cons, Sim.run, List.foldl_cons, Flow.pass] at e1 e2 ⊢
    rw [hstep]
    refine ⟨?_, by rw [e2, hiss]⟩
    rw [e1, sync_step_xch H hI cfg n causal c hr U hU hlen p.1 p.2 hp.2.2 hp.1 hp.2.1 k]

theorem agree_of_valv {c : Sim} {k : Nat}
    (h : ∀ i j, i < c.nodes.length → j < c.nodes.length → valv c k i = valv c k j) : Agree c.abs.base k := by
  have tr : ∀ (x : Nat) (s : Shard), c.abs.base.nodes[x]? = some s →
      x < c.nodes.length ∧ valv c k x = (NMap.get s.keys k).map RV.strip := by
    intro x s hs
    simp only [Sim.abs, List.getElem?_map] at hs
    cases hx : c.nodes[x]? with
    | none => rw [hx] at hs; cases hs
    | some nd =>
      rw [hx] at hs
      cases hs
      exact ⟨(List.getElem?_eq_some_iff.mp hx).1, valv_of_get c k x nd hx⟩
  intro i j si sj hsi hsj
  rw [← (tr i si hsi).2, ← (tr j sj hsj).2]
  exact h i j (tr i si hsi).1 (tr j sj hsj).1

/-- **C06 ∘ C18 (anti-entropy repairs whatever was lost)**: the simulator cluster in ANY reachable
    state — after any client writes on any nodes, any gossip rounds with any loss and delay, any
    partitions and heals, any earlier exchanges — followed by pairwise `run_anti_entropy_sync`s
    whose knowledge flow is complete (`Flow.FlowComplete`, decidable): every node holds the same
    content and stamp for every key.  Hypotheses: a collision-free hash (`Ideal`, as in C18) and
    `max_keys_per_sync` at least the number of keys ever written. -/
theorem anti_entropy_pass_converges (H : Hasher) (hI : Ideal H) (cfg : Cfg) (n : Nat) (causal : Bool) (c : Sim)
    (hr : Reach H cfg n causal c) (U : List Nat) (hU : ∀ m ∈ c.issued, m.key ∈ U)
    (hlen : U.length ≤ effectiveLimit currentLimitAtLeastOne cfg.limit)
    (ps : List (Nat × Nat)) (hne : ∀ p ∈ ps, p.1 ≠ p.2) (hf : Flow.FlowComplete n ps) (k : Nat) :
    Agree (c.run H cfg (ps.map (fun p => SEv.sync p.1 p.2))).abs.base k := by
  have hps : ∀ p ∈ ps, p.1 < n ∧ p.2 < n ∧ p.1 ≠ p.2 := fun p hp => ⟨(hf.1 p hp).1, (hf.1 p hp).2, hne p hp⟩
  obtain ⟨hv, _⟩ := run_syncs_valv H hI cfg n causal U hlen k ps hps c hr hU
  obtain ⟨hR, hcar, _⟩ := reach_carrier hr k
  have hlenN := reach_length (reach_run hr (ps.map (fun p => SEv.sync p.1 p.2)))
  apply agree_of_valv
  rw [hlenN, hv]
  exact fun i j hi hj => Flow.flow_agree (aci_rv 0 _ hR).opt n (valv c k) (fun i _ => hcar i) ps hf i j hi hj

theorem fullSync_eq_syncs (H : Hasher) (cfg : Cfg) (ps : List (Nat × Nat)) : ∀ (c : Sim), c.parts = [] →
    ps.foldl (fun c p => if Sim.canComm c.parts p.1 p.2 then Sim.syncStep H cfg c p.1 p.2 else c) c
      = c.run H cfg (ps.map (fun p => SEv.sync p.1 p.2)) := by
  induction ps with
  | nil => intro c _; rfl
  | cons p ps ih =>
    intro c hp
    simp only [List.foldl_cons, List.map_cons, Sim.run]
    have hc : Sim.canComm c.parts p.1 p.2 = true := by rw [hp]; rfl
    simp only [hc, if_true]
    have := ih (Sim.syncStep H cfg c p.1 p.2) (by rw [(syncStep_issued H cfg c p.1 p.2).2]; exact hp)
    simp only [Sim.run] at this
    rw [this]
    rfl

theorem allPairs_ne (n : Nat) : ∀ p ∈ Sim.allPairs n, p.1 < n ∧ p.2 < n ∧ p.1 ≠ p.2 := by
  intro p hp
  simp only [Sim.allPairs, List.mem_flatMap, List.mem_map, List.mem_range, List.mem_range'_1] at hp
  obtain ⟨i, hi, j, hj, rfl⟩ := hp
  simp only
  omega

/-- **`run_full_anti_entropy` on a cluster without partitions: ONE pass and every node holds the
    same value for every key — for every cluster size, after any history** -/
theorem full_anti_entropy_converges (H : Hasher) (hI : Ideal H) (cfg : Cfg) (n : Nat) (causal : Bool) (c : Sim)
    (hr : Reach H cfg n causal c) (hparts : c.parts = []) (U : List Nat) (hU : ∀ m ∈ c.issued, m.key ∈ U)
    (hlen : U.length ≤ effectiveLimit currentLimitAtLeastOne cfg.limit) (k : Nat) :
    Agree (c.step H cfg .fullSync).abs.base k := by
  have hn := reach_length hr
  have hst : c.step H cfg .fullSync = c.run H cfg ((Sim.allPairs n).map (fun p => SEv.sync p.1 p.2)) := by
    simp only [Sim.step, hn]
    exact fullSync_eq_syncs H cfg _ c hparts
  rw [hst]
  exact anti_entropy_pass_converges H hI cfg n causal c hr U hU hlen (Sim.allPairs n)
    (fun p hp => (allPairs_ne n p hp).2.2) (Flow.flowComplete_allPairs n) k

/-- **loss, then anti-entropy ⇒ converged READS**: any execution of the simulator cluster (client
    writes on any nodes, gossip with any loss / delay, partitions, heals, exchanges) that has no
    partition left, followed by one `run_full_anti_entropy`: every node answers `GET k` alike, for
    every key — the nodes that accepted the writes included.  Hypotheses: a collision-free hash and
    `max_keys_per_sync` at least the number of keys ever written. -/
theorem full_anti_entropy_converged_reads (H : Hasher) (hI : Ideal H) (cfg : Cfg) (n : Nat) (causal : Bool)
    (routers : List (Option Gossip.Router)) (autoAE : Bool) (evs : List SEv)
    (hparts : ((Sim.init n causal routers autoAE).run H cfg evs).parts = []) (U : List Nat)
    (hU : ∀ m ∈ ((Sim.init n causal routers autoAE).run H cfg evs).issued, m.key ∈ U)
    (hlen : U.length ≤ effectiveLimit currentLimitAtLeastOne cfg.limit) (k : Nat) (i j : Nat) (ni nj : SNode)
    (hi : ((Sim.init n causal routers autoAE).run H cfg (evs ++ [.fullSync])).nodes[i]? = some ni)
    (hj : ((Sim.init n causal routers autoAE).run H cfg (evs ++ [.fullSync])).nodes[j]? = some nj) :
    NMap.get ni.kv k = NMap.get nj.kv k := by
  refine sim_reads_agree_of_agree H cfg n causal routers autoAE _ i j ni nj hi hj k ?_
  have hrun : (Sim.init n causal routers autoAE).run H cfg (evs ++ [.fullSync]) =
      ((Sim.init n causal routers autoAE).run H cfg evs).step H cfg .fullSync := by
    simp only [Sim.run, List.foldl_append, List.foldl_cons, List.foldl_nil]
  rw [hrun] at hi hj
  -- the state before the pass is named: only that it is reachable matters
  have hr : Reach H cfg n causal ((Sim.init n causal routers autoAE).run H cfg evs) := ⟨routers, autoAE, evs, rfl⟩
  generalize (Sim.init n causal routers autoAE).run H cfg evs = c at hparts hU hi hj hr
  exact full_anti_entropy_converges H hI cfg n causal c hr hparts U hU hlen k i j ni.ps.sh nj.ps.sh
    (abs_nodes_get _ i ni hi) (abs_nodes_get _ j nj hj)

/-! ## witnesses -/

/-- three nodes pairwise partitioned; every node accepts writes nobody else hears of (one key
    written on two nodes, one deleted); the partitions are removed WITHOUT anti-entropy and the
    queue is empty: nothing would ever repair this — one `run_full_anti_entropy` does, and every
    node serves the same: the greatest-stamp write of `x`, nothing for the deleted `y`, `z` -/
theorem loss_then_full_anti_entropy_witness :
    let c := (Sim.init 3 false [] false).run toyH cfg2
      [ .partition 0 1, .partition 0 2, .partition 1 2,
        .exec 0 (.set kX [97] none), .exec 1 (.set kX [98] none), .exec 1 (.set kX [99] none),
        .exec 2 (.set kY [1] none), .exec 2 (.del [kY]), .exec 2 (.set kZ [7] (some 10)),
        .gossip [], .heal 0 1, .heal 0 2, .heal 1 2, .advance 10, .gossip [] ]
    let c' := c.step toyH cfg2 .fullSync
    c.parts = [] ∧ c.queue = [] ∧ c.syncs = 0 ∧
    kvAt c 0 kX = some (some [97]) ∧ kvAt c 1 kX = some (some [99]) ∧ kvAt c 2 kX = some none ∧
    (∀ i, i < 3 → kvAt c' i kX = some (some [99]) ∧ kvAt c' i kY = some none ∧ kvAt c' i kZ = some (some [7])) ∧
    c'.syncs = 3 := by
  decide +kernel

end C06
end RedisVerif
