import RedisVerif.Model.Server
import RedisVerif.Props.C02M7

/-!
# One node, end to end: the composed server refines ONE M7 store

`Model/Server.lean` composes the layer models — command frame → `Grammar.parseCmdZc` (C16) →
`toCmd7` → entry point (`Model/Dispatch`) → `R.N` shards over the M7 executor with per-shard clocks
(`Model/Shards7`, C03) → `RespValue` → `Resp.encode3` (C15).  `server_refines_m7`: for every list
of command frames read at non-decreasing virtual times, every shard count `N ≥ 1`, every routing
table and EVERY classification of frames into fast / batched / generic entry points, the bytes the
composed node writes are exactly the encoding of what the parsed commands answer when run one
after the other on ONE M7 store (`Redis.step`), frame by frame; frames the parser rejects answer
the parser's error text (`encode_error_into`) and change nothing; and from the time of the last
frame on no reader can tell the final shards from the final store (`Rel7`); every key has one home.

Hypothesis `Supported` (decidable, per frame).  OUTSIDE it:
* two-key commands (RENAME, RENAMENX, RPOPLPUSH, LMOVE, SORT … STORE) and MSETNX whose keys live on
  different shards — the known findings `C03:two-key:*`, `C03:multi-key:MSETNX` (refuted:
  `server_two_key_counterexample`);
* RANDOMKEY (a relation: `C03.randomkey_refines`), KEYS `*` (equal up to ORDER inside the reply:
  `C03.step7_refines` / `replyEqv7`; the byte string depends on the shard count);
* commands without an M7 counterpart answer `Out.outside` on both sides and are not claimed (list:
  header of `Model/Server.lean`; SCAN's cursor defect `C03:scan-cursor` lives there).
The connection read loop (byte stream → frames, pipelining, MULTI) stacks on the seam `Server.run`.
-/
namespace RedisVerif
namespace Server

open Shards Shards.M7 NMap C03 C02
open Redis (Entry cmdKeys)

/-- what it takes for a sharding-model command `sc` (after `post`-processing its reply) to BE the
    M7 command `c` on one executor -/
structure Same (now : Nat) (sc : Cmd sig7) (post : Reply → Reply) (c : Redis.Cmd) : Prop where
  st : ∀ s, WF s → (exec7.exec s sc).1 = (Redis.exec s now c).1
  rep : ∀ s, WF s → toM7 (post (exec7.exec s sc).2) = some (Redis.exec s now c).2
  nk : ∀ s l, (exec7.exec s sc).2 ≠ .keys l
  nr : ∀ s o, (exec7.exec s sc).2 ≠ .rkey o

theorem stepSc_refines {R : Routes} (hv : R.Valid) (hN : 0 < R.N) {st : Shards Entry} {s1 : Redis.State}
    {t now : Nat} (h : Rel7 R st s1 t) (ht : t ≤ now) (sc : Cmd sig7) (post : Reply → Reply)
    (c : Redis.Cmd) (hrt : Routable R true sc = true) (hsame : Same now sc post c) (W : Nat → Bool)
    (hcov : ∀ K, cmdKeys c = some K → ∀ k ∈ K, W (R.bytes k) = true)
    (hall : cmdKeys c = none → ∀ i, W i = true) :
    toM7 (post (execN exec7 R true (sweep W now st) sc).2) = some (Redis.step s1 now c).2 ∧
    Rel7 R (execN exec7 R true (sweep W now st) sc).1 (Redis.step s1 now c).1 now := by
  obtain ⟨hwa, hq, e1, hrel⟩ := h.step hv hN ht sc c hrt W hcov hall hsame.st
  exact ⟨by rw [eq_of_replyEqv hq (hsame.nk _) (hsame.nr _), hsame.rep _ hwa, e1], hrel⟩

theorem toM7_of_eqv7 {y : Reply} {b : Redis.Reply} (h : replyEqv7 y b = true) (hk : ∀ l, y ≠ .keys l) :
    toM7 y = some b := by
  cases y with
  | keys l => exact absurd rfl (hk l)
  | one r => simpa [replyEqv7] using h
  | many l => simpa [replyEqv7] using h
  | scan c l => simpa [replyEqv7] using h
  | rkey o => simpa [replyEqv7] using h

theorem inject_not_keys (s : Store sig7.Val) (now : Nat) (c : Redis.Cmd) (hc : c ≠ .keys) :
    ∀ l, (exec7.exec s (inject now c)).2 ≠ .keys l := fun l h =>
  have ⟨_, e⟩ := (exec7_reply_kind s _).1 l h
  hc (inject_eq_keys e)

/-- the generic path (`execute`) -/
theorem same_inject (now : Nat) (c : Redis.Cmd) (hr : ∀ ch, c ≠ .randomkey ch) (hk : c ≠ .keys) :
    Same now (inject now c) id c where
  st := fun s hs => (exec7_inject s now c hs hr).1
  rep := fun s hs => toM7_of_eqv7 (exec7_inject s now c hs hr).2 (inject_not_keys s now c hk)
  nk := fun s => inject_not_keys s now c hk
  nr := fun s => inject_not_rkey s now c hr

/-- `get_direct` IS the GET command -/
theorem getDirect_eq (s : Store sig7.Val) (k : Nat) :
    toM7 (.one (getDirect exec7 s k)) = some (Redis.execGet s k).2 ∧ (Redis.execGet s k).1 = s := by
  unfold getDirect Redis.execGet Redis.lookupStr
  cases get s k with
  | none => exact ⟨rfl, rfl⟩
  | some e =>
    obtain ⟨v, dl⟩ := e
    cases v <;> exact ⟨rfl, rfl⟩

/-- `set_direct` IS the plain SET command -/
theorem setDirect_eq (s : Store sig7.Val) (now k : Nat) (v : Redis.BS) :
    Redis.exec s now (.set k v .always .none false) = (setStr exec7 s (k, v), Redis.Reply.ok) := by
  show Redis.execSet s now k v .always .none false = _
  simp [Redis.execSet, Redis.setPlan, Redis.setCore, Redis.planDl, setStr, exec7]

/-- the pooled fast path of GET (`pooled_fast_get` → `get_direct`) -/
theorem same_fastGet (now k : Nat) : Same now (.fastGet k) id (.get k) where
  st := fun s _ => (getDirect_eq s k).2.symm
  rep := fun s _ => (getDirect_eq s k).1
  nk := fun _ _ h => by cases h
  nr := fun _ _ h => by cases h

theorem same_fastSet (now k : Nat) (v : Redis.BS) : Same now (.fastSet k v) id (.set k v .always .none false) where
  st := fun s _ => by rw [setDirect_eq]; rfl
  rep := fun s _ => by rw [setDirect_eq]; rfl
  nk := fun _ _ h => by cases h
  nr := fun _ _ h => by cases h

/-- one item of `fast_batch_get_pipeline` -/
theorem same_batchGet (now k : Nat) : Same now (.batchGet [k]) unwrap1 (.get k) where
  st := fun s _ => (getDirect_eq s k).2.symm
  rep := fun s _ => (getDirect_eq s k).1
  nk := fun _ _ h => by cases h
  nr := fun _ _ h => by cases h

theorem same_batchSet (now k : Nat) (v : Redis.BS) :
    Same now (.batchSet [(k, v)]) unwrap1 (.set k v .always .none false) where
  st := fun s _ => by rw [setDirect_eq]; rfl
  rep := fun s _ => by rw [setDirect_eq]; rfl
  nk := fun _ _ h => by cases h
  nr := fun _ _ h => by cases h

/-- the message an entry point builds (`viaPlan`) IS the command, is routable, and reaches the homes of
    the keys the command names (every shard if it names none) -/
theorem via_facts (R : Routes) (cls : FrameClass) (now : Nat) (c : Redis.Cmd) (hr : Routable7 R c = true)
    (hk : c ≠ .keys) :
    Same now (viaPlan cls now c).1 (viaPlan cls now c).2 c ∧ Routable R true (viaPlan cls now c).1 = true ∧
    (∀ K, cmdKeys c = some K → ∀ k ∈ K, recv R (viaPlan cls now c).1 (R.bytes k) = true) ∧
    (cmdKeys c = none → ∀ i, recv R (viaPlan cls now c).1 i = true) := by
  have hnr : ∀ ch, c ≠ .randomkey ch := by
    intro ch e; rw [e] at hr; cases hr
  have one : ∀ k K, some [k] = some K → ∀ x ∈ K, (R.bytes k == R.bytes x) = true := by
    intro k K e x hx; cases e; rw [List.mem_singleton.mp hx]; exact beq_self_eq_true _
  unfold viaPlan
  split
  · exact ⟨same_fastGet now _, rfl, one _, nofun⟩
  · exact ⟨same_fastSet now _ _, rfl, one _, nofun⟩
  · exact ⟨same_batchGet now _, rfl, fun K e x hx => by simpa [recv] using one _ K e x hx, nofun⟩
  · exact ⟨same_batchSet now _ _, rfl, fun K e x hx => by simpa [recv] using one _ K e x hx, nofun⟩
  · exact ⟨same_inject now _ hnr hk, routable_inject R now _ hr, recv_covers R now _ hr, recv_all R now _⟩

/-- **whichever entry point the frame class selects**, one supported command at time `now ≥ t`
    answers — after `toM7` — exactly like `Redis.step` on one store, and the shards stay
    indistinguishable from it -/
theorem execVia_refines {R : Routes} (hv : R.Valid) (hN : 0 < R.N) {st : Shards Entry} {s1 : Redis.State}
    {t now : Nat} (h : Rel7 R st s1 t) (ht : t ≤ now) (cls : FrameClass) (c : Redis.Cmd)
    (hr : Routable7 R c = true) (hk : c ≠ .keys) :
    toM7 (execVia R cls now st c).2 = some (Redis.step s1 now c).2 ∧
    Rel7 R (execVia R cls now st c).1 (Redis.step s1 now c).1 now := by
  obtain ⟨f1, f2, f3, f4⟩ := via_facts R cls now c hr hk
  rw [C02.execVia_plan]
  exact stepSc_refines hv hN h ht _ _ c f2 f1 _ f3 f4

theorem handle_refines {R : Routes} (hv : R.Valid) (hN : 0 < R.N) (classify : Classify)
    {st : Shards Entry} {s1 : Redis.State} {t now : Nat} (h : Rel7 R st s1 t) (ht : t ≤ now)
    (f : Frame) (hs : Supported R f = true) :
    (handle R classify st now f).2 = (specHandle s1 now f).2 ∧
    Rel7 R (handle R classify st now f).1 (specHandle s1 now f).1 now := by
  unfold handle specHandle
  unfold Supported at hs
  cases hp : Grammar.parseCmdZc f with
  | error e =>
    simp only
    cases encodeParseErr e <;> exact ⟨rfl, h.mono ht⟩
  | ok gc =>
    simp only [hp] at hs ⊢
    cases hc : toCmd7 gc with
    | none => exact ⟨rfl, h.mono ht⟩
    | some c =>
      simp only [hc] at hs ⊢
      have hk : c ≠ .keys := by intro e; rw [e] at hs; simp at hs
      have hr : Routable7 R c = true := by
        -- `Supported` is `Routable7` except at `.keys`
        cases c <;> first | exact hs | exact absurd rfl hk
      obtain ⟨e1, e2⟩ := execVia_refines hv hN h ht (classify f) c hr hk
      rw [e1]
      exact ⟨rfl, e2⟩

/-- any runner that hands the frames to `handle` one after the other, under whatever frame class each
    POSITION comes with (`cls x`), answers like ONE M7 store -/
theorem refines_of_handle (R : Routes) (hv : R.Valid) (hN : 0 < R.N) {α : Type} (cls : α → Classify)
    (π : α → Nat × Frame) (runX : Shards Entry → List α → Shards Entry × List Out)
    (hnil : ∀ st, runX st [] = (st, []))
    (hcons : ∀ st x xs, runX st (x :: xs) =
      ((runX (handle R (cls x) st (π x).1 (π x).2).1 xs).1,
       (handle R (cls x) st (π x).1 (π x).2).2 :: (runX (handle R (cls x) st (π x).1 (π x).2).1 xs).2))
    (fs : List α) (hm : MonoF 0 (fs.map π)) (hs : ∀ x ∈ fs, Supported R (π x).2 = true) :
    (runX (Shards.init Entry R.N) fs).2 = (specRun Redis.init (fs.map π)).2 ∧
    (∀ T, (∀ x ∈ fs, (π x).1 ≤ T) → ∀ k,
      lv T (get (abs (runX (Shards.init Entry R.N) fs).1) k) = lv T (get (specRun Redis.init (fs.map π)).1 k)) ∧
    (∀ i k, (get (shard (runX (Shards.init Entry R.N) fs).1 i) k).isSome → i = R.bytes k) := by
  have key : ∀ (fs : List α) (st : Shards Entry) (s1 : Redis.State) (t : Nat),
      Rel7 R st s1 t → MonoF t (fs.map π) → (∀ x ∈ fs, Supported R (π x).2 = true) →
      (runX st fs).2 = (specRun s1 (fs.map π)).2 ∧
      ∀ T, t ≤ T → (∀ x ∈ fs, (π x).1 ≤ T) → Rel7 R (runX st fs).1 (specRun s1 (fs.map π)).1 T := by
    intro fs
    induction fs with
    | nil => intro st s1 t h _ _; rw [hnil]; exact ⟨rfl, fun T hT _ => h.mono hT⟩
    | cons x xs ih =>
      intro st s1 t h hm hs
      have hm' : t ≤ (π x).1 ∧ MonoF (π x).1 (xs.map π) := hm
      obtain ⟨e1, e2⟩ := handle_refines hv hN (cls x) h hm'.1 (π x).2 (hs x (by simp))
      obtain ⟨e3, e4⟩ := ih _ _ _ e2 hm'.2 (fun y hy => hs y (by simp [hy]))
      rw [hcons]
      refine ⟨?_, fun T _ hx => e4 T (hx x (by simp)) (fun y hy => hx y (by simp [hy]))⟩
      show _ :: _ = (specHandle s1 (π x).1 (π x).2).2 :: (specRun (specHandle s1 (π x).1 (π x).2).1 (xs.map π)).2
      rw [e1, e3]
  obtain ⟨q, hrel⟩ := key fs _ _ 0 (rel7_init R) hm hs
  have hT : ∀ x ∈ fs, (π x).1 ≤ (fs.map fun x => (π x).1).sum := fun x hx =>
    le_sum_of_mem (List.mem_map_of_mem (f := fun x => (π x).1) hx)
  exact ⟨q, fun T hT' k => (hrel T (Nat.zero_le _) hT').view T (Nat.le_refl _) k,
    fun i k hk => ((hrel _ (Nat.zero_le _) hT).inv.home i k hk).symm⟩

/-- the composed node on `R.N` shards against ONE M7 store -/
theorem server_refines_m7 (R : Routes) (hv : R.Valid) (hN : 0 < R.N) (classify : Classify)
    (frames : List (Nat × Frame)) (hm : MonoF 0 frames) (hs : ∀ x ∈ frames, Supported R x.2 = true) :
    (run R classify (Shards.init Entry R.N) frames).2 = (specRun Redis.init frames).2 ∧
    (∀ T, (∀ x ∈ frames, x.1 ≤ T) → ∀ k,
      lv T (get (abs (run R classify (Shards.init Entry R.N) frames).1) k) =
      lv T (get (specRun Redis.init frames).1 k)) ∧
    (∀ i k, (get (shard (run R classify (Shards.init Entry R.N) frames).1 i) k).isSome → i = R.bytes k) := by
  have := refines_of_handle R hv hN (fun _ => classify) id (run R classify) (fun _ => rfl) (fun _ _ _ => rfl)
    frames (by rwa [List.map_id]) hs
  rwa [List.map_id] at this

/-- a frame the parser rejects answers the parser's error text and changes nothing (both sides) -/
theorem parse_error_changes_nothing (R : Routes) (classify : Classify) (st : Shards Entry) (now : Nat)
    (f : Frame) (e : Grammar.Err) (hp : Grammar.parseCmdZc f = .error e) :
    (handle R classify st now f).1 = st ∧
    (handle R classify st now f).2 = (match e.text with | some t => .bytes (Resp.encodeErr t) | none => .crash) := by
  unfold handle encodeParseErr
  rw [hp]
  cases he : e.text <;> simp [he]

def fr (l : List String) : Frame := l.map Grammar.s2b

/-- keys `a`, `c` on shard 0, `b` on shard 1 -/
def routesS : Routes := Routes.ofTable 2
  [(keyCode (Grammar.s2b "a"), (0, 0)), (keyCode (Grammar.s2b "b"), (1, 1)), (keyCode (Grammar.s2b "c"), (0, 0))]

theorem routesS_valid : routesS.Valid := ofTable_valid 2 _ (by decide) (by decide)

/-- strings with a deadline crossing, a sorted set with float syntax, a hash, a list, a same-shard
    RENAME, fan-outs, a rejected frame, an unknown command, lower-case names -/
def exFrames : List (Nat × Frame) :=
  [(5, fr ["SET", "a", "1", "PX", "100"]), (6, fr ["incr", "a"]), (7, fr ["ZADD", "b", "1.0", "x", "-inf", "y"]),
   (8, fr ["zrangebyscore", "b", "(-inf", "+inf", "WITHSCORES"]), (9, fr ["GET"]), (10, fr ["MGET", "a", "b", "c"]),
   (200, fr ["GET", "a"]), (201, fr ["PING"]), (202, fr ["HSET", "a", "f", "v"]), (203, fr ["HGETALL", "a"]),
   (204, fr ["LPUSH", "a", "x"]), (205, fr ["RENAME", "a", "c"]), (206, fr ["DEL", "a", "b", "c"]), (207, fr ["DBSIZE"])]

theorem exFrames_supported : MonoF 0 exFrames ∧ ∀ x ∈ exFrames, Supported routesS x.2 = true := by
  decide +kernel

example : MonoF 0 exFrames ∧ ∀ x ∈ exFrames, Supported routesS x.2 = true := exFrames_supported

/-- … also when GET / SET frames go down the fast path and the batch collectors -/
def clsFast : Classify := fun f =>
  match f with
  | [_, _] => .getFast
  | [_, _, _] => .setBatch
  | _ => .generic

example : (run routesS clsFast (Shards.init Entry 2) exFrames).2 = (specRun Redis.init exFrames).2 :=
  (server_refines_m7 routesS routesS_valid (by decide) clsFast exFrames exFrames_supported.1 exFrames_supported.2).1

/-- RENAME across shards, end to end: the bytes of the following GET differ (`$-1` vs `$1 1`) -/
def badFrames : List (Nat × Frame) :=
  [(0, fr ["SET", "a", "1"]), (0, fr ["RENAME", "a", "b"]), (0, fr ["GET", "b"])]

theorem server_two_key_counterexample :
    (run routesS (fun _ => .generic) (Shards.init Entry 2) badFrames).2[2]? = some (.bytes [36, 45, 49, 13, 10]) ∧
    (specRun Redis.init badFrames).2[2]? = some (.bytes [36, 49, 13, 10, 49, 13, 10]) ∧
    Supported routesS (fr ["RENAME", "a", "b"]) = false := by decide +kernel

end Server
end RedisVerif
