import RedisVerif.Model.Node7
import RedisVerif.Props.Server

/-!
# C02 over the composed node: every entry path, every command type, Lua scripts, time

`Props/C02M7.lean` (`linearizable_m7_single_store`) is about requests that take the GENERIC path.
The property says "whichever internal path (fast GET/SET path, batched path, generic path) carries
a command".  Here the path is part of the request (`ReqV.via cls now c`, `Model/Node7.lean`): the
message is built by the entry point the frame class selects (`Shards.dispatch`: `execute`,
`pooled_fast_get/set`, an item of `fast_batch_get/set_pipeline`, an EXEC replay), the shard adopts
the message's time and runs it (`Server.execVia`).

-/
namespace RedisVerif
namespace C02
open Actors Shards NMap Shards.M7 C03
open Redis (Entry cmdKeys Prog runProg ProgKeys)

theorem linMonoG_iff {Req Resp : Type} (time : Req → Nat) (pend : NMap Nat) (t : Nat) (l : List (Ev Req Resp)) :
    LinMonoG time pend t l ↔ LinMonoK time (· ≤ ·) (fun _ k => k) pend t l := by
  induction l generalizing pend t with
  | nil => exact Iff.rfl
  | cons e es ih =>
    cases e with
    | inv id req => exact ih _ _
    | lin id resp => unfold LinMonoG LinMonoK; cases NMap.get pend id <;> simp only [ih]
    | res id resp => exact ih _ _

section gen
variable {σA σB Req Resp : Type} [DecidableEq Resp]
  (stepA : σA → Req → σA × Resp) (stepB : σB → Req → σB × Resp) (time : Req → Nat)
  (Ok : Req → Prop) (Rel : σA → σB → Nat → Prop)

/-- the log-level simulation: if every OK request at a time `≥ t` is answered alike by `stepA` and
    `stepB` on `Rel`-related states and keeps them related, a log that replays on `stepA` replays on
    `stepB` -/
theorem replay_sim_gen
    (href : ∀ a b t req, Rel a b t → t ≤ time req → Ok req →
      (stepA a req).2 = (stepB b req).2 ∧ Rel (stepA a req).1 (stepB b req).1 (time req))
    (log : List (Ev Req Resp)) (t : Nat) (tm : NMap Nat)
    (rA rA' : RState σA Req Resp) (rB : RState σB Req Resp)
    (hrel : Rel rA.s rB.s t) (hp : rA.pend = rB.pend) (hd : rA.done = rB.done) (hn : rA.next = rB.next)
    (hwf : WF rA.pend)
    (hok : ∀ id req, get rA.pend id = some req → Ok req ∧ get tm id = some (time req))
    (hlog : ∀ id req, (.inv id req) ∈ log → Ok req)
    (hmono : LinMonoG time tm t log)
    (h : replay stepA rA log = some rA') :
    ∃ rB', replay stepB rB log = some rB' :=
  replay_sim stepA stepB time (· ≤ ·) (fun _ k => k) Ok Rel href log t tm rA rA' rB hrel hp hd hn hwf hok hlog
    ((linMonoG_iff time _ _ _).mp hmono) h

/-- actor-level linearizability w.r.t. `stepA` ∘ timed refinement of `stepA` by `stepB` =
    linearizability w.r.t. `stepB` -/
theorem linearizable_of_refinement (route : Req → Nat) (a0 : σA) (b0 : σB) (h0 : Rel a0 b0 0)
    (href : ∀ a b t req, Rel a b t → t ≤ time req → Ok req →
      (stepA a req).2 = (stepB b req).2 ∧ Rel (stepA a req).1 (stepB b req).1 (time req))
    {pool : Nat} {s : Sys σA Req Resp} (hr : Reach stepA route a0 pool s)
    (hok : ∀ id req, (.inv id req) ∈ s.log → Ok req)
    (hmono : LinMonoG time [] 0 s.log) :
    ValidLog stepB b0 s.log ∧ Linearizable stepB b0 (history s.log) :=
  linearizable_of_sim stepA route a0 stepB time (· ≤ ·) (fun _ k => k) Ok Rel b0 0 h0 href hr hok
    ((linMonoG_iff time _ _ _).mp hmono)

end gen

/-- the requests the claim is about: commands that name their keys and travel as ONE message
    (`CmdOk`: single-key commands of every type, two-key commands / MSETNX with their keys on one shard,
    one-key MGET / MSET / DEL / EXISTS), by ANY entry path; scripts whose keys live on the shard of `KEYS[1]` -/
def ReqVOk (R : Routes) : ReqV → Prop
  | .via _ _ c => CmdOk R c = true
  | .script _ k p => ∃ K, k ∈ K ∧ ProgKeys K p ∧ ∀ x ∈ K, R.bytes x = R.bytes k

theorem cmdOk_not_keys {R : Routes} {c : Redis.Cmd} (h : CmdOk R c = true) : c ≠ .keys := by
  intro e; subst e; simp [CmdOk, cmdKeys] at h

/-- **one request, by whichever path**: the N-shard node answers like ONE store and stays
    indistinguishable from it -/
theorem reqV_refines {R : Routes} (hv : R.Valid) (hN : 0 < R.N) {st : Shards Entry} {s1 : Redis.State}
    {t : Nat} (h : Rel7 R st s1 t) (req : ReqV) (ht : t ≤ req.time) (hok : ReqVOk R req) :
    (stepV R st req).2 = (specV s1 req).2 ∧ Rel7 R (stepV R st req).1 (specV s1 req).1 req.time := by
  cases req with
  | via cls now c =>
    obtain ⟨hr, _⟩ := cmdOk_keys hok
    exact Server.execVia_refines hv hN h ht cls c hr (cmdOk_not_keys hok)
  | script now k p =>
    obtain ⟨K, _, hpk, hK⟩ := hok
    obtain ⟨e1, e2⟩ := script_refines hv h ht k p K hpk hK
    refine ⟨?_, e2⟩
    have e1' : (execScript7 R now st k p).2 = (spec7 s1 (.script now k p)).2 := e1
    show toM7 (execScript7 R now st k p).2 = some (runProg (Redis.purge s1 now) now p).2
    rw [e1']; rfl

/-- **C02 over the composed node — every entry path**: every execution of the actor system whose
    shard actors run the N-shard M7 node and whose requests reach it through ANY of the entry points
    the connection handler dispatches into (generic `execute`, pooled fast GET / SET, items of the
    batch pipelines, EXEC replay) or are Lua scripts — every interleaving, any number of shards,
    clients, pooled slots, abandoned requests — in which operations take effect at non-decreasing
    virtual times is linearizable w.r.t. ONE M7 store on which every command and every whole script
    is one atomic step.  The specification `specV` ignores the path. -/
theorem linearizable_node_entry_paths (R : Routes) (hv : R.Valid) (hN : 0 < R.N) {pool : Nat}
    {s : Sys (Shards Entry) ReqV (Option Redis.Reply)}
    (hr : Reach (stepV R) (routeV R) (Shards.init Entry R.N) pool s)
    (hok : ∀ id req, (.inv id req) ∈ s.log → ReqVOk R req)
    (hmono : LinMonoG ReqV.time [] 0 s.log) :
    ValidLog specV Redis.init s.log ∧ Linearizable specV Redis.init (history s.log) :=
  linearizable_of_refinement (stepV R) specV ReqV.time (ReqVOk R) (Rel7 R) (routeV R) _ _ (rel7_init R)
    (fun _ _ _ req hrel ht hokr => reqV_refines hv hN hrel req ht hokr) hr hok hmono

/-- the specification does not depend on the path: two requests that differ only in the entry path
    are the same operation of the one-store specification -/
theorem specV_path_irrelevant (s : Redis.State) (cls cls' : FrameClass) (now : Nat) (c : Redis.Cmd) :
    specV s (.via cls now c) = specV s (.via cls' now c) := rfl

instance {Req Resp : Type} (time : Req → Nat) (pend : NMap Nat) (t : Nat) (l : List (Ev Req Resp)) :
    Decidable (LinMonoG time pend t l) := decidable_of_iff _ (linMonoG_iff time pend t l).symm

def rSetFast : ReqV := .via .setFast 5 (.set 1 [119] .always .none false)
def rAppend : ReqV := .via .generic 6 (.append 1 [120])
def rGetBatch : ReqV := .via .getBatch 7 (.get 1)
def rScript : ReqV := .script 8 1 (swapProg 1 [121])
def rGetFast : ReqV := .via .getFast 9 (.get 1)

/-- non-vacuity: a POOLED fast SET (the one pooled slot), a generic APPEND, an item of a BATCHED GET
    and a script on the same key are all in flight at the key's shard at once; the shard runs them in
    mailbox order; the pooled slot is released and reused by a pooled fast GET.  The hypotheses of
    `linearizable_node_entry_paths` hold. -/
theorem entry_path_reach : ∃ s, Reach (stepV routes7) (routeV routes7) (Shards.init Entry 2) 1 s ∧
    history s.log = [.inv 0 rSetFast, .inv 1 rAppend, .inv 2 rGetBatch, .inv 3 rScript,
      .res 0 (some .ok), .res 2 (some (.bulk [119, 120])), .res 1 (some (.int 2)), .res 3 (some (.bulk [119, 120])),
      .inv 4 rGetFast, .res 4 (some (.bulk [121]))] ∧
    (∀ id req, (.inv id req) ∈ s.log → ReqVOk routes7 req) ∧ LinMonoG ReqV.time [] 0 s.log := by
  have r0 : Reach (stepV routes7) (routeV routes7) (Shards.init Entry 2) 1 (Sys.init _ 1) := Reach.init
  have r1 := Reach.step r0 (Step.invokePooled _ 0 rSetFast 0 [] rfl rfl)
  have r2 := Reach.step r1 (Step.invokeFresh _ 1 rAppend rfl)
  have r3 := Reach.step r2 (Step.invokeBatch _ [(2, rGetBatch)] (by intro p hp; simp at hp; subst hp; rfl) (by simp))
  have r4 := Reach.step r3 (Step.invokeFresh _ 3 rScript rfl)
  have r5 := Reach.step r4 (Step.exec _ 0 ⟨0, 0, rSetFast⟩ [⟨1, 1, rAppend⟩, ⟨2, 2, rGetBatch⟩, ⟨3, 3, rScript⟩] rfl)
  have r6 := Reach.step r5 (Step.exec _ 0 ⟨1, 1, rAppend⟩ [⟨2, 2, rGetBatch⟩, ⟨3, 3, rScript⟩] rfl)
  have r7 := Reach.step r6 (Step.exec _ 0 ⟨2, 2, rGetBatch⟩ [⟨3, 3, rScript⟩] rfl)
  have r8 := Reach.step r7 (Step.exec _ 0 ⟨3, 3, rScript⟩ [] rfl)
  have r9 := Reach.step r8 (Step.retRelease _ 0 0 rSetFast 0 (some .ok) rfl rfl)
  have r10 := Reach.step r9 (Step.retDrop _ 2 2 rGetBatch 2 (some (.bulk [119, 120])) rfl rfl)
  have r11 := Reach.step r10 (Step.retDrop _ 1 1 rAppend 1 (some (.int 2)) rfl rfl)
  have r12 := Reach.step r11 (Step.retDrop _ 3 3 rScript 3 (some (.bulk [119, 120])) rfl rfl)
  have r13 := Reach.step r12 (Step.invokePooled _ 0 rGetFast 0 [] rfl rfl)
  have r14 := Reach.step r13 (Step.exec _ 0 ⟨4, 0, rGetFast⟩ [] rfl)
  have r15 := Reach.step r14 (Step.retRelease _ 0 4 rGetFast 0 (some (.bulk [121])) rfl rfl)
  refine ⟨_, r15, rfl, ?_, by decide⟩
  intro id req hm
  simp only [List.mem_append, List.mem_cons, List.not_mem_nil, or_false, reduceCtorEq,
    Ev.inv.injEq, List.foldl_cons, List.foldl_nil, postFresh] at hm
  rcases hm with ((((hm | ⟨_, rfl⟩) | ⟨_, rfl⟩) | ⟨_, rfl⟩) | ⟨_, rfl⟩) | ⟨_, rfl⟩
  · cases hm
  · show CmdOk routes7 _ = true; decide
  · show CmdOk routes7 _ = true; decide
  · show CmdOk routes7 _ = true; decide
  · exact ⟨[1], by simp, swapProg_keys 1 [121], by simp⟩
  · show CmdOk routes7 _ = true; decide

/-- … and its conclusion follows: the history of the four overlapping operations by four different
    paths, then the pooled read, is linearizable w.r.t. ONE store -/
example : Linearizable specV Redis.init
    ([.inv 0 rSetFast, .inv 1 rAppend, .inv 2 rGetBatch, .inv 3 rScript,
      .res 0 (some .ok), .res 2 (some (.bulk [119, 120])), .res 1 (some (.int 2)), .res 3 (some (.bulk [119, 120])),
      .inv 4 rGetFast, .res 4 (some (.bulk [121]))] : List (Ev ReqV (Option Redis.Reply))) := by
  obtain ⟨s, hr, hh, hok, hm⟩ := entry_path_reach
  rw [← hh]
  exact (linearizable_node_entry_paths routes7 routes7_valid (by decide) hr hok hm).2

end C02
end RedisVerif
