import RedisVerif.Props.C06Glue
import RedisVerif.Props.C06Restart

/-!
# C06, layer 2 with crashes: a restarted actor serves what its replication state says, and
  replicas that got everything back answer reads alike

`GCluster.restart` (`Model/Glue.lean`): the actor of node `i` is spawned again — empty executor,
empty replication state, Lamport clock 0 — and is fed deltas again (its own among them).

The node invariant (`GInv`: every key's served value and TTL = `materialise` of the replication
state) holds after every history of supported client commands, deliveries and restarts; composed
with layer 1 with restarts (`rs_converges_with_restarts`): compatible deltas, applied at every
node since its last restart ⇒ every two nodes answer GET / HGETALL / EXISTS identically.
-/
namespace RedisVerif
namespace C06

open Glue Redis Cluster

/-- events of a glue-cluster execution with crashes -/
inductive GREv where
  | ev (e : GEv)
  | restart (i : Nat)
  deriving Repr

def gstepR (g : GCluster) : GREv → GCluster
  | .ev e => g.step e
  | .restart i => g.restart i

def grunR (g : GCluster) (evs : List GREv) : GCluster := evs.foldl gstepR g

/-- the supported fragment, step by step (a restart is always inside) -/
def GSupportedR (g : GCluster) : List GREv → Prop
  | [] => True
  | .ev e :: es => gunsupported g e = none ∧ GSupportedR (g.step e) es
  | .restart i :: es => GSupportedR (g.restart i) es

instance : (g : GCluster) → (evs : List GREv) → Decidable (GSupportedR g evs)
  | _, [] => isTrue trivial
  | g, .ev e :: es =>
    have : Decidable (GSupportedR (g.step e) es) := instDecidableGSupportedR (g.step e) es
    by unfold GSupportedR; infer_instance
  | g, .restart i :: es =>
    have : Decidable (GSupportedR (g.restart i) es) := instDecidableGSupportedR (g.restart i) es
    by unfold GSupportedR; infer_instance

theorem grunR_proj (hist : List GREv) : ∀ (g : GCluster), AllInv g → GSupportedR g hist →
    Sim Cluster.stepR g (grunR g hist) := by
  induction hist with
  | nil => intro g h _; exact .refl h
  | cons e hist ih =>
    intro g h hs
    cases e with
    | ev e =>
      have h1 := step_ok h e hs.1
      exact h1.withCrashes.trans (ih (g.step e) h1.1 hs.2)
    | restart i =>
      have h1 := restart_ok h i
      exact h1.trans (ih (g.restart i) h1.1 hs)

/-- **served = replicated, with restarts** -/
theorem served_equals_replicated_with_restarts (n : Nat) (causal : Bool) (hist : List GREv)
    (hs : GSupportedR (GCluster.init n causal) hist) :
    ∀ nd ∈ (grunR (GCluster.init n causal) hist).nodes, ∀ k, served nd k = materialise (NMap.get nd.rs.keys k) := by
  obtain ⟨hall, _⟩ := grunR_proj hist _ (allinv_init n causal) hs
  intro nd hnd k
  exact (hall nd hnd).srv k

/-- **all replicas answer reads alike, with restarts** -/
theorem converged_reads_equal_with_restarts (n : Nat) (causal : Bool) (hist : List GREv) (k K : Nat)
    (hs : GSupportedR (GCluster.init n causal) hist)
    (hc : Compat (grunR (GCluster.init n causal) hist).proj.sent k K)
    (hd : DeliveredAll (grunR (GCluster.init n causal) hist).proj k)
    (i j : Nat) (ni nj : Node)
    (hi : (grunR (GCluster.init n causal) hist).nodes[i]? = some ni)
    (hj : (grunR (GCluster.init n causal) hist).nodes[j]? = some nj) : ReadsEqual ni nj k := by
  obtain ⟨hall, evs, hproj⟩ := grunR_proj hist _ (allinv_init n causal) hs
  rw [proj_init] at hproj
  refine reads_of_agree hall ?_ hi hj
  rw [hproj] at hc hd ⊢
  exact (rs_converges_with_restarts n causal evs k K hc hd).1

/-- non-vacuity: node 0 SETs twice, restarts, gets both deltas back, SETs again; all delivered -/
def glueRestartRun : List GREv :=
  [ .ev (.client 0 (.set kA [49] .always .none false)), .ev (.client 0 (.set kA [50] .always .none false)),
    .ev (.deliver 1 0), .ev (.deliver 1 1), .restart 0, .ev (.deliver 0 1), .ev (.deliver 0 0),
    .ev (.client 0 (.get kA)), .ev (.client 0 (.set kA [51] .always .none false)), .ev (.deliver 1 2) ]

example :
    let g := grunR (GCluster.init 2 false) glueRestartRun
    GSupportedR (GCluster.init 2 false) glueRestartRun ∧ Compat g.proj.sent kA 0 ∧ DeliveredAll g.proj kA ∧
    g.sent.map (·.val.ts.time) = [1, 2, 5] ∧
    (∀ ni ∈ g.nodes, ∀ nj ∈ g.nodes, ReadsEqual ni nj kA) := by
  decide +kernel

end C06
end RedisVerif
