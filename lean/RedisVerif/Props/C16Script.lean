import RedisVerif.Model.LuaScript
import RedisVerif.Props.C16

/-!
# C16, second half — a command invoked through `redis.call` / `redis.pcall` has the same effect and,
modulo the conversion, the same result as when a client sends it; a raising `redis.call` ends the script, the effects
of the earlier calls stay.

Model: `LuaScript.doCall / runCalls / evalScript` (= `execute_lua_script` with its two callbacks) over
the translator `Grammar.parseLua`, the conversions `LuaConv.respToLua / luaToResp`, and an ARBITRARY
executor `exec : σ → Cmd → σ × Resp` — every theorem below holds for every executor function, every
state type, every state, every script of the modelled shape (any number of calls, any nesting of the
returned tables).  The client path is `directStep` = `Grammar.parseCmd` (`Command::from_resp`) followed
by the same executor.  The frames the translator refuses although the client path accepts them are the known
findings (the counterexamples below).
-/
namespace RedisVerif
namespace C16

open Grammar LuaConv LuaScript

/-! ## 0. the translator never panics and every error it answers has a text -/

theorem lua_error_has_text (f : List Bytes) (e : Err) (h : parseLua f = .error e) : ∃ t, e.text = some t := by
  cases f with
  | nil => cases h; exact ⟨_, rfl⟩
  | cons name args =>
    rcases lua_error_alphabet name args e h with ⟨_, rfl⟩ | ⟨r, _, _, hr⟩
    · exact ⟨_, rfl⟩
    · match e, hr with
      | .arity _, _ | .unknown _, _ | .body (.lit _), _ | .body (.fmt _ _), _ => exact ⟨_, rfl⟩
      | .body .crash, hr | .body .unreachable, hr => simp [rowAllows] at hr

/-! ## 1. one call -/

section
variable {σ : Type} (exec : σ → Cmd → σ × Resp)

/-- the client path on words the client-side parser accepts -/
theorem directStep_ok {words : List Bytes} {c : Cmd} (h : parseCmd words = .ok c) (s : σ) :
    directStep exec s words = ((exec s c).1, some (exec s c).2) := by
  simp [directStep, h]

/-- what a call statement yields for a reply `r` of the executor -/
def callOutcome (prot : Bool) (s' : σ) (r : Resp) : Step σ :=
  match r with
  | .error t => if prot then .value s' (.errT t) else .raise s' t
  | r => .value s' (respToLua r)

/-- `redis.pcall` turns every reply into a value: `resp_to_lua_value` of it (an error reply: `{err = t}`) -/
theorem callOutcome_prot (s' : σ) (r : Resp) : callOutcome true s' r = .value s' (respToLua r) := by
  cases r <;> rfl

theorem doCall_ok {s : σ} {prot : Bool} {vals : List LuaVal} {w : Bytes} {ws : List Bytes} {c : Cmd}
    (hargs : argsBytes vals = some (w :: ws)) (hp : parseLua (w :: ws) = .ok c) :
    doCall exec s prot vals = callOutcome prot (exec s c).1 (exec s c).2 := by
  simp only [doCall, hargs, hp]
  rcases hx : exec s c with ⟨s', r⟩
  cases r <;> rfl

/-- full statement of "a command invoked through redis.call / redis.pcall means what it means when a
    client sends it": for EVERY words list the client path accepts, the call runs the same command -/
def C16_call_equals_direct : Prop :=
  ∀ (σ : Type) (exec : σ → Cmd → σ × Resp) (s : σ) (prot : Bool) (vals : List LuaVal) (w : Bytes) (ws : List Bytes) (c : Cmd),
    argsBytes vals = some (w :: ws) → parseCmd (w :: ws) = .ok c →
      doCall exec s prot vals = callOutcome prot (exec s c).1 (exec s c).2

/-- proved form: … for every words list the TRANSLATOR accepts (all 34 table entries, every option
    shape they accept).  The state is the state the direct execution of the client-side parse
    leaves; the value is `resp_to_lua_value` of the direct reply; an error reply is raised by
    `redis.call` and returned as `{err = text}` by `redis.pcall` — after the execution. -/
theorem call_equals_direct (s : σ) (prot : Bool) (vals : List LuaVal) (w : Bytes) (ws : List Bytes) (c : Cmd)
    (hargs : argsBytes vals = some (w :: ws)) (hp : parseLua (w :: ws) = .ok c) :
    parseCmd (w :: ws) = .ok c ∧
    directStep exec s (w :: ws) = ((exec s c).1, some (exec s c).2) ∧
    doCall exec s prot vals = callOutcome prot (exec s c).1 (exec s c).2 := by
  have hc := lua_agrees_partial w ws c hp
  exact ⟨hc, directStep_ok exec hc s, doCall_ok exec hargs hp⟩

/-- non-vacuity: `redis.pcall('hset', 'h', 'f', 1)` (an integer argument) is accepted -/
example : argsBytes [.str (s2b "hset"), .str (s2b "h"), .str (s2b "f"), .int 1] = some [s2b "hset", s2b "h", s2b "f", s2b "1"] ∧
    (parseLua [s2b "hset", s2b "h", s2b "f", s2b "1"]).isOk = true := by decide +kernel

/-- with redis.pcall a command the translator refuses is not an error of the script: the statement
    completes with the table `{err = text}` and nothing was executed -/
theorem pcall_refused_is_err_table (s : σ) (vals : List LuaVal) (w : Bytes) (ws : List Bytes) (e : Err)
    (hargs : argsBytes vals = some (w :: ws)) (hp : parseLua (w :: ws) = .error e) :
    ∃ t, e.text = some t ∧ doCall exec s true vals = .value s (.errT t) := by
  obtain ⟨t, ht⟩ := lua_error_has_text _ e hp
  exact ⟨t, ht, by simp [doCall, hargs, hp, ht]⟩

/-- the full statement fails exactly on the known findings: a command without a translator entry is
    not executed at all (here APPEND; an executor that counts its executions shows it) -/
theorem call_equals_direct_counterexample : ¬ C16_call_equals_direct := by
  intro h
  obtain ⟨hc, hl⟩ := lua_unknown_command
  obtain ⟨t, _, hd⟩ := pcall_refused_is_err_table (fun (n : Nat) (_ : Cmd) => (n + 1, Resp.int 0)) 0
    [.str (s2b "APPEND"), .str (s2b "k"), .str (s2b "v")] _ _ _ rfl hl
  have := h Nat (fun n _ => (n + 1, .int 0)) 0 true [.str (s2b "APPEND"), .str (s2b "k"), .str (s2b "v")] _ _ _ rfl hc
  rw [hd] at this
  cases this

/-- … and redis.call raises that text, again without executing anything -/
theorem call_refused_raises (s : σ) (vals : List LuaVal) (w : Bytes) (ws : List Bytes) (e : Err)
    (hargs : argsBytes vals = some (w :: ws)) (hp : parseLua (w :: ws) = .error e) :
    ∃ t, e.text = some t ∧ doCall exec s false vals = .raise s t := by
  obtain ⟨t, ht⟩ := lua_error_has_text _ e hp
  exact ⟨t, ht, by simp [doCall, hargs, hp, ht]⟩

/-- a boolean / nil / table argument makes BOTH functions raise, before anything is parsed -/
theorem bad_argument_raises (s : σ) (prot : Bool) (vals : List LuaVal) (h : argsBytes vals = none) :
    doCall exec s prot vals = .raise s msgInvalidArg := by
  simp [doCall, h]

theorem argsBytes_none_iff (vals : List LuaVal) :
    argsBytes vals = none ↔ ∃ v ∈ vals, luaArgBytes v = none := by
  induction vals with
  | nil => simp [argsBytes]
  | cons v vs ih =>
    simp only [argsBytes, List.mem_cons, exists_eq_or_imp, ← ih]
    cases luaArgBytes v <;> cases argsBytes vs <;> simp

end

/-! ## 2. the statements of a script -/

section
variable {σ : Type} (exec : σ → Cmd → σ × Resp) (env : Env)

/-- how far a script runs: all statements if nothing halted it, otherwise up to and including the
    halting one; the values of the completed statements are kept in order (after those it started with) -/
theorem run_started (acc : List LuaVal) (s : σ) (cs : List Call) :
    let r := runCallsA exec env acc s cs
    (r.halt = none → r.started = cs.length ∧ r.results.length = acc.length + cs.length) ∧
    (r.halt ≠ none → r.results.length + 1 = acc.length + r.started ∧ r.started ≤ cs.length) := by
  induction cs generalizing s acc with
  | nil => simp [runCallsA]
  | cons c cs ih =>
    simp only [runCallsA]
    cases hd : doCall exec s c.prot (c.args.map (AExpr.eval env acc)) with
    | crash => simp
    | raise s' m => simp
    | value s' v =>
      have := ih (acc ++ [v]) s'
      simp only [List.length_append, List.length_cons, List.length_nil] at this
      simp only [List.length_cons]
      constructor
      · intro h; have := this.1 h; omega
      · intro h; have := this.2 h; omega

/-- sequencing: the statements after a halting one do not run; otherwise the rest runs on the state
    and with the results the first part left -/
theorem runCallsA_append (acc : List LuaVal) (s : σ) (a b : List Call) :
    runCallsA exec env acc s (a ++ b) =
      (match (runCallsA exec env acc s a).halt with
       | some _ => runCallsA exec env acc s a
       | none =>
         let ra := runCallsA exec env acc s a
         let rb := runCallsA exec env ra.results ra.state b
         ⟨rb.state, rb.results, ra.started + rb.started, rb.halt⟩) := by
  induction a generalizing s acc with
  | nil => simp [runCallsA]
  | cons c cs ih =>
    simp only [List.cons_append, runCallsA]
    cases hd : doCall exec s c.prot (c.args.map (AExpr.eval env acc)) with
    | crash => rfl
    | raise s' m => rfl
    | value s' v =>
      simp only [ih (acc ++ [v]) s']
      cases hh : (runCallsA exec env (acc ++ [v]) s' cs).halt with
      | some h => simp only [hh]
      | none => simp only; congr 1; omega

/-- the translator knows what the client path knows for these words (decidable); it fails exactly for the
    recorded findings (no table entry; SET … KEEPTTL|EXAT|PXAT; EXPIRE with flags; ZRANGE … WITHSCORES —
    `lua_rejects_accepted_only_on`) -/
def knowsWords : Option (List Bytes) → Bool
  | some (w :: ws) => (parseLua (w :: ws)).isOk || !(parseCmd (w :: ws)).isOk
  | _ => true

/-- as many word lists as statements were started -/
theorem runWords_length (acc : List LuaVal) (s : σ) (cs : List Call) :
    (runWords exec env acc s cs).length = (runCallsA exec env acc s cs).started := by
  induction cs generalizing s acc with
  | nil => rfl
  | cons c cs ih =>
    simp only [runWords, runCallsA, List.length_cons]
    cases hd : doCall exec s c.prot (c.args.map (AExpr.eval env acc)) with
    | crash => rfl
    | raise s' m => rfl
    | value s' v => simp only [ih (acc ++ [v]) s']

/-- full statement: the keyspace after a script is the keyspace after a client has sent, one after the other,
    the words its started statements evaluated to (nothing is rolled back, nothing else happens) -/
def C16_script_effect_is_direct_prefix : Prop :=
  ∀ (σ : Type) (exec : σ → Cmd → σ × Resp) (env : Env) (s : σ) (cs : List Call),
    (runCalls exec env s cs).halt ≠ some .crash →
    (runCalls exec env s cs).state = sendAll exec s (runWords exec env [] s cs)

theorem doCall_state (acc : List LuaVal) (s : σ) (c : Call) (hk : knowsWords (c.words env acc) = true) :
    match doCall exec s c.prot (c.args.map (AExpr.eval env acc)) with
    | .value s' _ => s' = sendAll exec s [c.words env acc]
    | .raise s' _ => s' = sendAll exec s [c.words env acc]
    | .crash => False := by
  unfold knowsWords Call.words at hk
  unfold Call.words
  cases ha : argsBytes (c.args.map (AExpr.eval env acc)) with
  | none => rw [bad_argument_raises exec s c.prot _ ha]; rfl
  | some words =>
    cases words with
    | nil => simp [doCall, ha, sendAll]
    | cons w ws =>
      rw [ha] at hk
      cases hp : parseLua (w :: ws) with
      | ok cmd =>
        rw [doCall_ok exec ha hp]
        simp only [sendAll, directStep_ok exec (lua_agrees_partial w ws cmd hp)]
        cases c.prot <;> cases (exec s cmd).2 <;> rfl
      | error e =>
        have hd : directStep exec s (w :: ws) = (s, none) := by
          unfold directStep
          cases hq : parseCmd (w :: ws) with
          | ok c' => simp [hp, hq, Except.isOk, Except.toBool] at hk
          | error _ => rfl
        simp only [sendAll, hd]
        cases hprot : c.prot
        · obtain ⟨t, _, h⟩ := call_refused_raises exec s _ w ws e ha hp; rw [h]
        · obtain ⟨t, _, h⟩ := pcall_refused_is_err_table exec s _ w ws e ha hp; rw [h]

theorem sendAll_cons (s : σ) (w : Option (List Bytes)) (rest : List (Option (List Bytes))) :
    sendAll exec s (w :: rest) = sendAll exec (sendAll exec s [w]) rest := by
  cases w with
  | none => rfl
  | some l => cases l <;> rfl

/-- proved form: … when the translator knows the command of every started statement as the client path does -/
theorem script_effect_is_direct_prefix_partial (acc : List LuaVal) (s : σ) (cs : List Call)
    (hk : ∀ w ∈ runWords exec env acc s cs, knowsWords w = true) :
    (runCallsA exec env acc s cs).halt ≠ some .crash ∧
    (runCallsA exec env acc s cs).state = sendAll exec s (runWords exec env acc s cs) := by
  induction cs generalizing s acc with
  | nil => simp [runCallsA, runWords, sendAll]
  | cons c cs ih =>
    have hk1 : knowsWords (c.words env acc) = true := hk _ (by simp [runWords])
    have h1 := doCall_state exec env acc s c hk1
    simp only [runCallsA, runWords]
    cases hd : doCall exec s c.prot (c.args.map (AExpr.eval env acc)) with
    | crash => rw [hd] at h1; exact h1.elim
    | raise s' m =>
      rw [hd] at h1
      simp only [ne_eq, Option.some.injEq, reduceCtorEq, not_false_eq_true, true_and]
      exact h1
    | value s' v =>
      rw [hd] at h1
      have := ih (acc ++ [v]) s' fun w hw =>
        hk w (by simp only [runWords, hd, List.mem_cons]; exact Or.inr hw)
      exact ⟨this.1, by simp only; rw [this.2, sendAll_cons, ← h1]⟩

/-- non-vacuity: statements whose words both grammars know — SET with an integer argument, LPUSH with KEYS / ARGV,
    a statement that passes an earlier result on -/
example : knowsWords (Call.words ⟨[], []⟩ [] ⟨false, [.lit (.str (s2b "SET")), .lit (.str (s2b "k")), .lit (.int 5)]⟩) = true ∧
    knowsWords (Call.words ⟨[s2b "k"], [s2b "v"]⟩ [] ⟨true, [.lit (.str (s2b "lpush")), .key 1, .argv 1, .argv 2]⟩) = true ∧
    knowsWords (Call.words ⟨[], []⟩ [.str (s2b "old"), .int 7] ⟨true, [.lit (.str (s2b "SET")), .lit (.str (s2b "k2")), .res 0]⟩) = true ∧
    Call.words ⟨[], []⟩ [.str (s2b "old"), .int 7] ⟨true, [.lit (.str (s2b "SET")), .lit (.str (s2b "k2")), .res 1]⟩ =
      some [s2b "SET", s2b "k2", s2b "7"] := by decide +kernel

theorem refused_pcall_script (s : σ) (args : List AExpr) (w : Bytes) (ws : List Bytes) (e : Err) (c : Cmd)
    (hargs : argsBytes (args.map (AExpr.eval env [])) = some (w :: ws))
    (hl : parseLua (w :: ws) = .error e) (hc : parseCmd (w :: ws) = .ok c) :
    (runCalls exec env s [⟨true, args⟩]).halt = none ∧ (runCalls exec env s [⟨true, args⟩]).state = s ∧
    sendAll exec s (runWords exec env [] s [⟨true, args⟩]) = (exec s c).1 := by
  obtain ⟨t, _, hd⟩ := pcall_refused_is_err_table exec s _ w ws e hargs hl
  simp only [runCalls, runCallsA, runWords, Call.words, hd, hargs, sendAll, directStep_ok exec hc, and_self]

/-- the full statement fails for a statement whose command the translator does not know: the client
    path executes it, the script does not (known finding `command-unknown-to-translator`) -/
theorem script_effect_counterexample : ¬ C16_script_effect_is_direct_prefix := by
  intro h
  obtain ⟨hc, hl⟩ := lua_unknown_command
  obtain ⟨h1, h2, h3⟩ := refused_pcall_script (fun (n : Nat) _ => (n + 1, Resp.int 0)) ⟨[], []⟩ 0
    [.lit (.str (s2b "APPEND")), .lit (.str (s2b "k")), .lit (.str (s2b "v"))] _ _ _ _ rfl hl hc
  have := h Nat _ _ 0 _ (by rw [h1]; nofun)
  rw [h2, h3] at this
  cases this

/-- a script of `redis.pcall` statements whose arguments evaluate to convertible, non-empty word lists never
    ends in an error: every statement runs -/
theorem pcall_script_never_raises (acc : List LuaVal) (s : σ) (cs : List Call)
    (hp : ∀ c ∈ cs, c.prot = true)
    (hw : ∀ w ∈ runWords exec env acc s cs, ∃ x xs, w = some (x :: xs)) :
    (runCallsA exec env acc s cs).halt = none := by
  induction cs generalizing s acc with
  | nil => rfl
  | cons c cs ih =>
    have hpc := hp c (by simp)
    obtain ⟨w, ws, hwc⟩ := hw (c.words env acc) (by simp [runWords])
    simp only [runCallsA]
    obtain ⟨s', v, hd⟩ : ∃ s' v, doCall exec s c.prot (c.args.map (AExpr.eval env acc)) = .value s' v := by
      rw [hpc]
      cases hq : parseLua (w :: ws) with
      | ok cmd => exact ⟨_, _, (doCall_ok exec hwc hq).trans (callOutcome_prot ..)⟩
      | error e =>
        obtain ⟨t, _, hd⟩ := pcall_refused_is_err_table exec s _ w ws e hwc hq
        exact ⟨_, _, hd⟩
    rw [hd]
    exact ih (acc ++ [v]) s' (fun x hx => hp x (by simp [hx])) fun w' hw' =>
      hw w' (by simp only [runWords, hd, List.mem_cons]; exact Or.inr hw')

/-- the first raising statement ends the script; the statements before it have run, on the
    states the earlier ones left, and stay in effect -/
theorem raise_ends_script (acc : List LuaVal) (s : σ) (pre post : List Call) (c : Call) (s' : σ) (m : Bytes)
    (hpre : (runCallsA exec env acc s pre).halt = none)
    (hc : doCall exec (runCallsA exec env acc s pre).state c.prot
        (c.args.map (AExpr.eval env (runCallsA exec env acc s pre).results)) = .raise s' m) :
    (runCallsA exec env acc s (pre ++ c :: post)).state = s' ∧
    (runCallsA exec env acc s (pre ++ c :: post)).halt = some (.raised m) ∧
    (runCallsA exec env acc s (pre ++ c :: post)).started = pre.length + 1 ∧
    (runCallsA exec env acc s (pre ++ c :: post)).results = (runCallsA exec env acc s pre).results := by
  have hs := (run_started exec env acc s pre).1 hpre
  rw [runCallsA_append, hpre]
  simp only [runCallsA, hc, hs.1, and_self]

/-- what a reply becomes when a later statement passes it on as an argument: a bulk reply arrives byte for
    byte, an integer reply as its decimal digits; a status reply, a nil, an array or an error table is refused
    (the statement raises `Invalid argument type for redis command`) -/
theorem reply_as_argument (r : Resp) :
    luaArgBytes (respToLua r) =
      (match r with
       | .bulk (some b) => some b
       | .int i => some (intText i)
       | _ => none) := by
  cases r with
  | simple s => rfl
  | error s => rfl
  | int i => rfl
  | bulk b => cases b <;> rfl
  | array a => cases a <;> rfl

end

/-! ## 3. the reply of the EVAL -/

section
variable {σ : Type} (exec : σ → Cmd → σ × Resp) (env : Env)

/-- a script that was ended by a raised error answers that error: verbatim when it starts with an
    upper-case code word (every executor error does: `ERR …`, `WRONGTYPE …`), otherwise after `ERR ` -/
theorem script_reply_raised (s : σ) (sc : Script) (m : Bytes)
    (h : (runCalls exec env s sc.calls).halt = some (.raised m)) :
    (evalScript exec env s sc).2 = some (raiseReply m) ∧
    (evalScript exec env s sc).1 = (runCalls exec env s sc.calls).state := by
  simp [evalScript, h]

theorem raiseReply_code (m : Bytes) (h : hasCode m = true) : raiseReply m = .error m := by
  simp [raiseReply, h]

/-- `return redis.call(words…)` for a command whose direct reply is the error `t` (with a code word):
    the EVAL answers the very error reply a client gets, and the keyspace is the one the direct
    execution leaves -/
theorem call_error_reply_is_client_error (s : σ) (args : List AExpr) (w : Bytes) (ws : List Bytes) (c : Cmd)
    (t : Bytes) (ret : Ret)
    (hargs : argsBytes (args.map (AExpr.eval env [])) = some (w :: ws)) (hp : parseLua (w :: ws) = .ok c)
    (hr : (exec s c).2 = .error t) (hcode : hasCode t = true) :
    evalScript exec env s ⟨[⟨false, args⟩], ret⟩ = ((exec s c).1, some (.error t)) ∧
    directStep exec s (w :: ws) = ((exec s c).1, some (.error t)) := by
  refine ⟨?_, by rw [directStep_ok exec (lua_agrees_partial w ws c hp), hr]⟩
  simp [evalScript, runCalls, runCallsA, doCall_ok exec hargs hp, hr, callOutcome, raiseReply, hcode]

/-- the type-error text of the code base: valid UTF-8, starting with a code word (evaluated once, for the example
    below and for `Props/C16Exec.lean`) -/
def wrongTypeText : Bytes := s2b "WRONGTYPE Operation against a key holding the wrong kind of value"

theorem wrongTypeText_ok : validUtf8 wrongTypeText = true ∧ hasCode wrongTypeText = true := by decide +kernel

/-- `hasCode` evaluated: on the two code words the executor's error texts start with (`WRONGTYPE`, `ERR`), on a
    translator arity text (its first word passes for a code) and on two texts without one -/
example : hasCode (s2b "WRONGTYPE Operation against a key holding the wrong kind of value") = true ∧
    hasCode (s2b "ERR value is not an integer or out of range") = true ∧
    hasCode (s2b "GET requires 1 argument") = true ∧
    hasCode (s2b "Invalid argument type for redis command") = false ∧
    hasCode (s2b "") = false :=
  ⟨wrongTypeText_ok.2, by decide +kernel⟩

/-- full statement: `return redis.pcall(words…)` answers what the client gets for the same words -/
def C16_pcall_reply_equals_direct : Prop :=
  ∀ (σ : Type) (exec : σ → Cmd → σ × Resp) (env : Env) (s : σ) (args : List AExpr) (w : Bytes) (ws : List Bytes) (c : Cmd),
    argsBytes (args.map (AExpr.eval env [])) = some (w :: ws) → parseLua (w :: ws) = .ok c →
    evalScript exec env s ⟨[⟨true, args⟩], .res 0⟩ = ((exec s c).1, some (exec s c).2)

theorem pcall_reply_converted (s : σ) (args : List AExpr) (w : Bytes) (ws : List Bytes) (c : Cmd)
    (hargs : argsBytes (args.map (AExpr.eval env [])) = some (w :: ws)) (hp : parseLua (w :: ws) = .ok c) :
    evalScript exec env s ⟨[⟨true, args⟩], .res 0⟩ = ((exec s c).1, some (luaToResp (respToLua (exec s c).2))) := by
  have hcall := doCall_ok exec (prot := true) (s := s) hargs hp
  rw [callOutcome_prot] at hcall
  simp only [evalScript, runCalls, runCallsA, hcall, Ret.eval, List.nil_append, List.getElem?_cons_zero]

/-- proved form: … for every reply the conversion round-trips (`ConvStable`: no nil array, no nil
    inside an array) -/
theorem pcall_reply_equals_direct_partial (s : σ) (args : List AExpr) (w : Bytes) (ws : List Bytes) (c : Cmd)
    (hargs : argsBytes (args.map (AExpr.eval env [])) = some (w :: ws)) (hp : parseLua (w :: ws) = .ok c)
    (hst : ConvStable (exec s c).2 = true) :
    evalScript exec env s ⟨[⟨true, args⟩], .res 0⟩ = ((exec s c).1, some (exec s c).2) ∧
    directStep exec s (w :: ws) = ((exec s c).1, some (exec s c).2) :=
  ⟨by rw [pcall_reply_converted exec env s args w ws c hargs hp, lua_roundtrip_partial _ hst],
   directStep_ok exec (lua_agrees_partial w ws c hp) s⟩

theorem lrange_accepted :
    parseLua [s2b "LRANGE", s2b "l", s2b "0", s2b "-1"] = .ok ⟨s2b "LRange", [.s (s2b "l"), .i 0, .i (-1)]⟩ := by
  decide +kernel

/-- the conversion is not the identity on an array that contains a nil bulk (known finding
    `nil-bulk-becomes-nil-not-false` / `array-with-nil-truncated`): an executor answering such an array
    refutes the full statement.  (Which commands do: `translator_replies_conv_stable` in
    `Props/C16Exec.lean` shows that none of the translator's commands does.) -/
theorem pcall_reply_counterexample : ¬ C16_pcall_reply_equals_direct := by
  intro h
  have hl := lrange_accepted
  have ha : argsBytes (List.map (AExpr.eval ⟨[], []⟩ [])
      [.lit (.str (s2b "LRANGE")), .lit (.str (s2b "l")), .lit (.int 0), .lit (.int (-1))]) =
      some [s2b "LRANGE", s2b "l", s2b "0", s2b "-1"] := by decide +kernel
  have := (pcall_reply_converted (fun _ _ => ((), .array (some [.int 1, .bulk none, .int 3]))) ⟨[], []⟩ () _ _ _ _ ha hl).symm.trans
    (h Unit _ _ () _ _ _ _ ha hl)
  simp [respToLua, respToLuaL, luaToResp, luaToRespL] at this

/-- a script that returns the table of all its results answers the array of the converted results
    (cut at the first nil) -/
theorem script_reply_results_table (s : σ) (cs : List Call) (h : (runCalls exec env s cs).halt = none) :
    (evalScript exec env s ⟨cs, .tbl ((List.range cs.length).map .res)⟩).2 =
      some (.array (some (luaToRespL (runCalls exec env s cs).results))) := by
  have hl : (runCalls exec env s cs).results.length = cs.length := by
    simpa [runCalls] using ((run_started exec env [] s cs).1 h).2
  simp only [evalScript, h, Ret.eval, luaToResp]
  suffices hev : Ret.evalL (runCalls exec env s cs).results ((List.range cs.length).map .res) =
      (runCalls exec env s cs).results by rw [hev]
  generalize (runCalls exec env s cs).results = rs at hl
  rw [← hl]
  have key : ∀ (pre rs : List LuaVal), Ret.evalL (pre ++ rs) ((List.range' pre.length rs.length).map .res) = rs := by
    intro pre rs
    induction rs generalizing pre with
    | nil => rfl
    | cons r rs ih =>
      have := ih (pre ++ [r])
      simp only [List.append_assoc, List.length_append, List.length_singleton, List.singleton_append] at this
      simp [List.range'_succ, Ret.evalL, Ret.eval, this]
  simpa [List.range_eq_range'] using key [] rs

/-- nested tables convert level by level: arrays of arrays, each cut at its own first nil -/
theorem nested_table_reply (xs : List (List LuaVal)) :
    luaToResp (.arr (xs.map LuaVal.arr)) = .array (some (xs.map (fun l => Resp.array (some (luaToRespL l))))) := by
  simp only [luaToResp]
  congr 2
  induction xs with
  | nil => rfl
  | cons x xs ih => simp [luaToRespL, luaToResp, ih]

/-- when every result is a non-nil `ConvStable` direct reply, the returned table is the array of the
    direct replies themselves -/
theorem results_table_of_stable_replies (rs : List Resp) (h : ConvStableL rs = true) :
    luaToResp (.arr (respToLuaL rs)) = .array (some rs) := by
  simp only [luaToResp, lua_roundtrip_list rs h]

end

/-! ## 4. EVAL plumbing: the script sees the KEYS / ARGV the frame carries -/

theorem envOfEval_shape (ctor x : Bytes) (m k : Nat) (K A : List Bytes) (hm : m = K.length) :
    envOfEval ⟨ctor, [.s x, .len m] ++ K.map (fun a => Tok.s (lossy a)) ++ [.len k] ++ A.map Tok.d⟩ =
      some ⟨K.map lossy, A⟩ := by
  subst hm
  have hl : (K.map (fun a => Tok.s (lossy a))).length = K.length := by simp
  simp only [envOfEval, List.cons_append, List.nil_append, List.append_assoc]
  rw [List.take_left' hl, List.drop_left' hl]
  simp only [List.filterMap_map]
  congr 2
  · clear hl
    induction K with
    | nil => rfl
    | cons a l ih => simp [ih]
  · induction A with
    | nil => rfl
    | cons a l ih => simp [ih]

/-- `EVAL script numkeys k… a…`: the first `numkeys` words are `KEYS` (lossy strings), the rest `ARGV`
    (byte-exact), for every frame the grammar accepts -/
theorem eval_env_of_frame (script nk : Bytes) (rest : List Bytes) (n : Nat)
    (hn : parseI64 nk = some (n : Int)) (hle : n ≤ rest.length) :
    ∃ c, parseCmd (s2b "EVAL" :: script :: nk :: rest) = .ok c ∧
      envOfEval c = some ⟨(rest.take n).map lossy, rest.drop n⟩ := by
  have hf : findEntry table (kw (s2b "EVAL")) = some (.cmd (customSpec "EVAL" (.atLeast 2) (reqAtLeast "EVAL" 2)
      (CB.eval (s2b "Eval") .evalKeys))) := by rfl
  rw [parse_of_find hf]
  have hnn : ¬ ((n : Int) < 0) := by omega
  have hlt : ¬ (rest.length < n) := by omega
  refine ⟨⟨s2b "Eval", [.s (lossy script), .len ((rest.take n).map (fun a => Tok.s (lossy a))).length] ++
      (rest.take n).map (fun a => Tok.s (lossy a)) ++ [.len ((rest.drop n).map Tok.d).length] ++ (rest.drop n).map Tok.d⟩, ?_, ?_⟩
  · simp only [customSpec, Spec.run, Arity.ok, List.length_cons, Body.run, CB.eval, CustomBody.plain, Bodies.eval,
      aInt, Arg.extract, hn, bind, Except.bind, hnn, if_false, Int.toNat_natCast, hlt]
    have : decide (2 ≤ rest.length + 1 + 1) = true := by simp
    simp only [this, if_true]
  · exact envOfEval_shape _ _ _ _ _ _ (by simp)

end C16
end RedisVerif
