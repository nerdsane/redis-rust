import RedisVerif.Model.Resp
import RedisVerif.Lemmas.Resp
import RedisVerif.Lemmas.Conn
import RedisVerif.Lemmas.RespProxy

/-
  C15 — RESP decoding is total, bounded, prefix-stable; replies re-decode to themselves.

  All theorems are about the byte-exact models of `Model/Resp.lean`: `parse1` (= `RespCodec::parse`,
  codec 1) and `parse2` (= `RespParser::parse`, codec 2) AFTER the fix commits, for every byte
  string (no bound on nesting or values) and every machine environment `env` (stack
  frames available, largest uncapped allocation request granted).  `Small bs` (fewer than 2^56
  bytes) says that the input is a buffer that can exist.

  The decoders BEFORE the fix commits are the instances `codec1Pinned` / `codec2Pinned` (and
  `encode2Pinned`) of the same generic transcription; the `…_pinned_counterexample` theorems keep
  the refutations of the full statements for the pinned behaviour as kernel-checked facts, so the
  reason for every fix stays visible next to the theorem it made true.
-/
namespace RedisVerif.C15
open RedisVerif.Resp

/-! ### concrete inputs used by counterexamples and non-vacuity examples -/

/-- `$-2\r\n` -/
def bulkMinus2 : Bytes := [36, 45, 50, 13, 10]
/-- `*-5\r\n` -/
def arrayMinus5 : Bytes := [42, 45, 53, 13, 10]
/-- `*1000000000\r\n` -/
def arrayBillion : Bytes := [42, 49, 48, 48, 48, 48, 48, 48, 48, 48, 48, 13, 10]
/-- `+\ra` : a simple string line with a CR that is not followed by LF -/
def loneCr : Bytes := [43, 13, 97]
/-- `*2\r\n$3\r\nGET\r\n$1\r\nk\r\n` -/
def getK : Bytes := [42, 50, 13, 10, 36, 51, 13, 10, 71, 69, 84, 13, 10, 36, 49, 13, 10, 107, 13, 10]
/-- `*1\r\n` × depth, then `:1\r\n` -/
def nested : Nat → Bytes
  | 0 => [58, 49, 13, 10]
  | d + 1 => 42 :: 49 :: 13 :: 10 :: nested d

/-- a roomy machine: 64 frames of stack, 1 GiB per allocation request -/
def env0 : Env := { depth := 64, mem := 1073741824 }

theorem good_of (c : Codec) (h : c = codec1 ∨ c = codec2) : c.Good ∧ c.Fixed maxNesting ∧ c.CapSane ∧
    (c.prealloc = true → c.capPrealloc = true) := by
  cases h with
  | inl h => subst h; exact ⟨codec1_good, codec1_fixed, fun _ => rfl, fun _ => rfl⟩
  | inr h => subst h; exact ⟨codec2_good, codec2_fixed, fun h => by simp [codec2] at h, fun h => by simp [codec2] at h⟩

/-! ## 1. never panics, never aborts, never overflows the stack -/

/-- full statement: there is a machine on which the decoder never crashes, whatever the input -/
def C15_no_crash (c : Codec) : Prop :=
  ∃ env : Env, ∀ bs : Bytes, Small bs → (parseG c env bs).out.isCrash = false

/-- for ANY decoder of the family and ANY value `m` of its `MAX_NESTING_DEPTH`: no panic / abort of any kind on a
    machine with `m + 1` decoder frames of stack -/
theorem no_crash_param (c : Codec) (hg : c.Good) (m : Nat) (hf : c.Fixed m) (env : Env) (hd : m + 1 ≤ env.depth)
    (bs : Bytes) (hs : Small bs) : (parseG c env bs).out.isCrash = false :=
  parseD_no_crash c hg m hf env.mem env.depth 0 bs (Nat.zero_le _) (by omega) hs

/-- on every machine with at least 33 decoder frames of stack both
    repaired decoders answer value / incomplete / protocol error -/
theorem no_crash (c : Codec) (h : c = codec1 ∨ c = codec2) (env : Env) (hd : maxNesting + 1 ≤ env.depth)
    (bs : Bytes) (hs : Small bs) : (parseG c env bs).out.isCrash = false :=
  no_crash_param c (good_of c h).1 maxNesting (good_of c h).2.1 env hd bs hs

theorem no_crash_codec1 : C15_no_crash codec1 :=
  ⟨env0, fun bs hs => no_crash codec1 (Or.inl rfl) env0 (by decide) bs hs⟩

theorem no_crash_codec2 : C15_no_crash codec2 :=
  ⟨env0, fun bs hs => no_crash codec2 (Or.inr rfl) env0 (by decide) bs hs⟩

/-- the inputs that crash the pinned decoders are protocol errors for `codec1` / `codec2` -/
example : (parse1 env0 bulkMinus2).out = .error .badLen ∧ (parse2 env0 bulkMinus2).out = .error .badLen ∧
    (parse1 env0 arrayMinus5).out = .error .badLen ∧ (parse1 env0 arrayBillion).out = .incomplete .elems ∧
    (parse1 env0 arrayBillion).allocs = [] := ⟨rfl, rfl, rfl, rfl, rfl⟩
set_option maxRecDepth 8000 in
example : (parse1 env0 (nested 33)).out.errKind = some .tooDeep ∧ (parse2 env0 (nested 33)).out.errKind = some .tooDeep ∧
    (parse1 env0 (nested 32)).out.isOk = true := by decide +kernel

theorem bulk_negative_len_crashes_pinned (c : Codec) (h : c = codec1Pinned ∨ c = codec2Pinned) (env : Env) :
    (parseG c env bulkMinus2).out.isCrash = true := by
  unfold parseG
  cases env.depth with
  | zero => rfl
  | succ d =>
    rw [show bulkMinus2 = 36 :: [45, 50, 13, 10] from rfl, parseD_of_dollar]
    rcases h with rfl | rfl <;> decide

/-- PINNED behaviour (before fix f073228): `$-2\r\n` panicked both decoders on every machine -/
theorem no_crash_pinned_counterexample (c : Codec) (h : c = codec1Pinned ∨ c = codec2Pinned) : ¬ C15_no_crash c := by
  intro ⟨env, hall⟩
  have h1 := hall bulkMinus2 (by decide)
  rw [bulk_negative_len_crashes_pinned c h env] at h1
  exact absurd h1 (by decide)

/-- PINNED behaviour (before fix 37d05df): `*-5\r\n` "capacity overflow", `*230584300921369396\r\n`
    (the smallest `n` with `40 · n > isize::MAX`) the same, `*1000000000\r\n` a 40 GB request -/
theorem array_len_pinned_counterexample :
    (parseG codec1Pinned env0 arrayMinus5).out = .crash .capacityOverflow ∧
    (parseG codec1Pinned env0 [42, 50, 51, 48, 53, 56, 52, 51, 48, 48, 57, 50, 49, 51, 54, 57, 51, 57, 54, 13, 10]).out =
      .crash .capacityOverflow ∧
    (parseG codec1Pinned env0 arrayBillion).out = .crash .allocAbort ∧
    (parseG codec1Pinned env0 arrayBillion).allocs = [40000000000] := ⟨rfl, rfl, rfl, rfl⟩

/-- a first byte that is none of the five RESP2 type bytes `+ - : $ *` — every RESP3 type byte
    (`_ # , ( ! = % ~ > |`), every letter of an inline command (`PING\r\n`), every control byte — is a
    protocol error decided at that byte, whatever follows, in both decoders: neither RESP3 nor inline
    commands are accepted anywhere in the tree -/
theorem non_resp2_type_byte_is_error (c : Codec) (env : Env) (hd : 1 ≤ env.depth) (t : Nat) (rest : Bytes)
    (ht : t ≠ 43 ∧ t ≠ 45 ∧ t ≠ 58 ∧ t ≠ 36 ∧ t ≠ 42) :
    parseG c env (t :: rest) = ⟨.error .unknownType, []⟩ := by
  rw [parseG_succ c env hd, parseD_of_other c _ _ 0 rest ht]

example : (parse1 env0 [80, 73, 78, 71, 13, 10]).out = .error .unknownType ∧
    (parse2 env0 [95, 13, 10]).out = .error .unknownType ∧ (parse1 env0 [35, 116, 13, 10]).out = .error .unknownType :=
  ⟨rfl, rfl, rfl⟩

/-! ## 2. recursion depth -/

/-- full statement: some stack depth is enough for every input, of whatever size (`40 < mem`: a machine that
    grants one array element, `elemSize` = 40 bytes; `depth_bounded` does not need it) -/
def C15_depth_bounded (c : Codec) : Prop :=
  ∃ D : Nat, ∀ (mem : Nat) (bs : Bytes), 40 < mem → (parseD c mem D 0 bs).out ≠ .crash .stackOverflow

/-- for ANY decoder of the family and ANY value `m` of
    its `MAX_NESTING_DEPTH`, `m + 1` stack frames are enough for every input (the constant of the
    source, 32, is read from resp.rs by ./check and compared with the value the other theorems assume) -/
theorem depth_bounded_param (c : Codec) (m : Nat) (hm : c.maxNest = some m) (mem : Nat) (bs : Bytes) :
    (parseD c mem (m + 1) 0 bs).out ≠ .crash .stackOverflow :=
  parseD_noSO c m hm mem (m + 1) 0 bs (Nat.zero_le _) (by omega)

/-- 33 frames are enough: arrays nested deeper than `MAX_NESTING_DEPTH` = 32 are a protocol error -/
theorem depth_bounded (c : Codec) (h : c = codec1 ∨ c = codec2) : C15_depth_bounded c :=
  ⟨maxNesting + 1, fun mem bs _ => depth_bounded_param c maxNesting (good_of c h).2.1.nest mem bs⟩

/-- non-vacuity: both repaired decoders are members of the family with `m = 32`, and so is a
    hypothetical decoder with another limit -/
example : codec1.maxNest = some 32 ∧ codec2.maxNest = some 32 ∧ codec1.Good ∧ codec1.Fixed 32 ∧ codec2.Fixed 32 ∧
    ({ codec1 with maxNest := some 7 } : Codec).Fixed 7 ∧ codec1.CapSane ∧ codec2.CapSane :=
  ⟨rfl, rfl, codec1_good, codec1_fixed, codec2_fixed, ⟨rfl, fun _ => ⟨rfl, rfl⟩, rfl⟩, fun _ => rfl,
    fun h => by simp [codec2] at h⟩

set_option maxRecDepth 8000 in
/-- the limit is tight for the constant of the source: 32 nested arrays need the 33rd frame -/
example : (parseD codec1 41 32 0 (nested 32)).out.crashKind = some .stackOverflow ∧
    (parseD codec2 41 32 0 (nested 32)).out.crashKind = some .stackOverflow ∧
    (parseD codec1 41 33 0 (nested 32)).out.isOk = true := by decide +kernel

/-- PINNED behaviour (before fix 9344b88): whatever the stack size, `depth` nested arrays overflow it -/
theorem stack_overflow_pinned (c : Codec) (h : c = codec1Pinned ∨ c = codec2Pinned) (mem : Nat) (hm : 40 < mem) :
    ∀ d nest : Nat, (parseD c mem d nest (nested d)).out = .crash .stackOverflow := by
  intro d
  induction d with
  | zero => intro nest; rfl
  | succ d ih =>
    intro nest
    have htd : tooDeep c nest = false := by rcases h with rfl | rfl <;> rfl
    have hh : lenHeader c (42 :: 49 :: 13 :: 10 :: nested d) = .inr (2, 1) := by
      rcases h with rfl | rfl <;> rfl
    -- the pre-allocation for one element: 40 bytes (codec 1) or nothing (codec 2)
    have hreq : preReq c 1 ((42 :: 49 :: 13 :: 10 :: nested d).length - (2 + 2)) = 40 ∨
        preReq c 1 ((42 :: 49 :: 13 :: 10 :: nested d).length - (2 + 2)) = 0 := by
      rcases h with rfl | rfl
      · exact .inl rfl
      · exact .inr rfl
    have hne : ¬ (c.emptyCheck = true ∧ nested d = []) := fun h => by cases d <;> cases h.2
    show (parseD c mem (d + 1) nest (42 :: 49 :: 13 :: 10 :: nested d)).out = _
    rw [parseD_of_star htd, parseArray_eq, hh]
    refine arrayBody_cases (P := fun r => r.out = _) c mem _ 1 4 _ (nested d) ?_ ?_ ?_ ?_ ?_
    · intro h; cases h
    · intro _ h; cases h
    · intro h; unfold isizeMax at h; omega
    · intro _ h1 h2; rcases hreq with e | e <;> rw [e] at h1 h2 <;> omega
    · intro _ _ _
      rw [show (1 : Int).toNat = 1 from rfl, elems_succ_stop hne (by rw [ih]; rfl), ih]
      rfl

theorem depth_bounded_pinned_counterexample (c : Codec) (h : c = codec1Pinned ∨ c = codec2Pinned) :
    ¬ C15_depth_bounded c := by
  intro ⟨D, hall⟩
  exact hall 41 (nested D) (by decide) (stack_overflow_pinned c h 41 (by decide) D 0)

/-! ## 3. never over-reads: consumed ≤ length (and ≥ 1) -/

def C15_consumed_le_length (c : Codec) : Prop :=
  ∀ (env : Env) (bs : Bytes), Small bs → ∀ v k, (parseG c env bs).out = .ok v k → 1 ≤ k ∧ k ≤ bs.length

theorem consumed_le_length_codec1 : C15_consumed_le_length codec1 :=
  fun env bs hs => parseD_consumed codec1 codec1_good env.mem env.depth 0 bs hs

theorem consumed_le_length_codec2 : C15_consumed_le_length codec2 :=
  fun env bs hs => parseD_consumed codec2 codec2_good env.mem env.depth 0 bs hs

example : (parse1 env0 getK).out = .ok (.array [.bulk [71, 69, 84], .bulk [107]]) 20 := rfl

/-! ## 4. allocation is not driven by an unvalidated length field -/

/-- full statement: whatever the input and the outcome, the decoder's allocation requests sum to at
    most 3 + 40·32 = 1283 bytes per input byte (3 for copies, 40 per array level: the
    pre-allocation is capped by the bytes that follow the header, 14 bytes per remaining byte) -/
def C15_alloc_bounded (c : Codec) : Prop :=
  ∀ (env : Env) (bs : Bytes), Small bs → (parseG c env bs).alloc ≤ 1283 * bs.length

/-- for every decoder of the family and every value
    `m` of the nesting limit: at most `3 + 40·m` bytes requested per input byte, whatever the outcome
    (the pre-allocation must be capped by the input — `capPrealloc` — wherever there is one) -/
theorem alloc_bounded_param (c : Codec) (hg : c.Good) (hcs : c.CapSane) (hcap : c.prealloc = true → c.capPrealloc = true)
    (m : Nat) (hm : c.maxNest = some m) (env : Env) (bs : Bytes) (hs : Small bs) :
    (parseG c env bs).alloc ≤ (3 + 40 * m) * bs.length := by
  have := parseD_alloc_lenN c hg hcs hcap m hm env.mem env.depth 0 bs (Nat.zero_le _) hs
  unfold KN at this
  unfold Res.alloc parseG
  simpa using this

theorem alloc_bounded (c : Codec) (h : c = codec1 ∨ c = codec2) : C15_alloc_bounded c := by
  obtain ⟨hg, hf, hcs, hcap⟩ := good_of c h
  exact fun env bs hs => alloc_bounded_param c hg hcs hcap maxNesting hf.nest env bs hs

/-- every COMPLETE frame: at most 43 bytes per consumed byte, whatever the nesting -/
theorem alloc_ok_bounded (c : Codec) (h : c = codec1 ∨ c = codec2) (env : Env) (bs : Bytes) (hs : Small bs)
    (v : Val) (k : Nat) (hok : (parseG c env bs).out = .ok v k) : (parseG c env bs).alloc ≤ 43 * k := by
  obtain ⟨hg, _, hcs, _⟩ := good_of c h
  have := parseD_alloc_ok2 c hg hcs env.mem env.depth 0 bs hs v k hok
  have hpf : pf c ≤ 40 := pf_le c
  have : (3 + pf c) * k ≤ 43 * k := Nat.mul_le_mul_right _ (by omega)
  unfold Res.alloc parseG
  omega

/-- PINNED behaviour (before fix 37d05df): 13 bytes `*1000000000\r\n` requested 40 GB -/
theorem alloc_pinned_counterexample : ¬ C15_alloc_bounded codec1Pinned := by
  intro h
  have := h { depth := 8, mem := 1099511627776 } arrayBillion (by decide)
  exact absurd this (by decide)

example : (parse1 env0 getK).alloc = 84 ∧ (parse1 env0 [42, 57, 57, 57, 57, 13, 10]).alloc = 0 := by decide +kernel

/-! ## 5. prefix stability -/

/-- full statement: a decided outcome (value and consumed count, protocol error) never changes when
    more bytes arrive -/
def C15_prefix_stable (c : Codec) : Prop :=
  ∀ (env : Env) (a b : Bytes), Small (a ++ b) → (parseG c env a).out.isIncomplete = false →
    (parseG c env (a ++ b)).out = (parseG c env a).out

theorem prefix_stable_codec1 : C15_prefix_stable codec1 :=
  fun env a b hs hd => parseD_stable codec1 codec1_good env.mem env.depth 0 a b hs hd

theorem prefix_stable_codec2 : C15_prefix_stable codec2 :=
  fun env a b hs hd => parseD_stable codec2 codec2_good env.mem env.depth 0 a b hs hd

/-- consequently "more bytes needed" is never contradicted by an earlier decision -/
theorem incomplete_prefix (c : Codec) (h : c = codec1 ∨ c = codec2) (env : Env) (a b : Bytes)
    (hs : Small (a ++ b)) (hi : (parseG c env (a ++ b)).out.isIncomplete = true) :
    (parseG c env a).out.isIncomplete = true := by
  obtain ⟨hg, _, _, _⟩ := good_of c h
  cases hd : (parseG c env a).out.isIncomplete with
  | true => rfl
  | false =>
    have := parseD_stable c hg env.mem env.depth 0 a b hs hd
    unfold parseG at hi hd
    rw [this, hd] at hi
    exact absurd hi (by decide)

example : (parse1 env0 (getK ++ [1, 2, 3])).out = (parse1 env0 getK).out := rfl

/-! ## 6. "more bytes needed" is honest for lines -/

/-- full statement: a `+` / `-` / `:` line is decided as soon as a CR LF has arrived, whatever
    precedes it (in particular a CR that is not followed by LF) -/
def C15_line_completable (c : Codec) : Prop :=
  ∀ (env : Env) (t : Nat) (s : Bytes), 1 ≤ env.depth → (t = 43 ∨ t = 45 ∨ t = 58) →
    (parseG c env (t :: (s ++ [13, 10]))).out.isIncomplete = false

/-- PINNED behaviour (before fix 133a783): after `+\ra` NO continuation was ever accepted or rejected -/
theorem lone_cr_stalls_pinned (env : Env) (hd : 1 ≤ env.depth) (ext : Bytes) :
    (parseG codec1Pinned env (loneCr ++ ext)).out = .incomplete .noCrlf := by
  rw [parseG_succ _ env hd]; rfl

theorem line_completable_pinned_counterexample : ¬ C15_line_completable codec1Pinned := by
  intro h
  have h1 := h env0 43 [13, 97] (by decide) (Or.inl rfl)
  have h2 := lone_cr_stalls_pinned env0 (by decide) [13, 10]
  simp only [loneCr, List.cons_append, List.nil_append] at h2
  simp only [List.cons_append, List.nil_append] at h1
  rw [h2] at h1
  exact absurd h1 (by decide)

example : (parse1 env0 (loneCr ++ [13, 10])).out = .ok (.simple [13, 97]) 5 := rfl

/-! ## 7. fragmentation invariance of the buffer loop -/

def C15_fragmentation_invariant (c : Codec) : Prop :=
  ∀ (env : Env) (chunks : List Bytes), 1 ≤ env.depth → Small chunks.flatten →
    feedAll (fun b => (parseG c env b).out) FeedSt.init chunks =
      feedAll (fun b => (parseG c env b).out) FeedSt.init [chunks.flatten]

/-- every fragmentation of every byte stream (valid or not) yields the frames, left-over bytes and
    liveness of the unfragmented feed -/
theorem fragmentation_invariant_codec1 : C15_fragmentation_invariant codec1 :=
  fun env chunks hd hs => feedAll_fragmentation _ (parseG_spec codec1 codec1_good env hd) chunks hs

theorem fragmentation_invariant_codec2 : C15_fragmentation_invariant codec2 :=
  fun env chunks hd hs => feedAll_fragmentation _ (parseG_spec codec2 codec2_good env hd) chunks hs

example : (feedAll (fun b => (parse1 env0 b).out) FeedSt.init [[43, 79], [75, 13], [10, 58, 49, 13, 10, 43]]).frames.length = 2 := by
  decide +kernel

/-! ## 8. decode ∘ encode for each encoder -/

/-- full statement: every value of the server's reply type (`Val.wf`: integers are i64s, line texts
    are strings of the decoder's string type) with at most 32 nested arrays is written as ONE frame
    that decodes to the value with its reply lines as written on the wire (`Val.san`: CR / LF inside
    a `+` / `-` line are a space); any bytes may follow -/
def C15_encode_decode (enc : Val → Bytes) (c : Codec) : Prop :=
  ∀ (env : Env) (v : Val) (rest : Bytes), v.wf c = true → v.depth ≤ env.depth → v.arr ≤ maxNesting →
    Small (enc v ++ rest) → (parseG c env (enc v ++ rest)).out = .ok v.san (enc v).length

theorem encode2_decode (c : Codec) (h : c = codec1 ∨ c = codec2) : C15_encode_decode encode2 c := by
  obtain ⟨hg, hf, _, _⟩ := good_of c h
  intro env v rest hw hd ha hs
  exact parseD_encode c hg maxNesting hf env.mem env.depth 0 v hd (by omega) hw rest hs

theorem encode1_decode (c : Codec) (h : c = codec1 ∨ c = codec2) : C15_encode_decode encode1 c :=
  (funext encode1_eq : encode1 = encode2) ▸ encode2_decode c h

theorem encode3_decode (c : Codec) (h : c = codec1 ∨ c = codec2) : C15_encode_decode encode3 c :=
  (funext encode3_eq : encode3 = encode2) ▸ encode2_decode c h

/-- … and a value whose lines contain neither CR nor LF decodes back to ITSELF -/
theorem encode_decode_plain (c : Codec) (h : c = codec1 ∨ c = codec2) (env : Env) (v : Val) (rest : Bytes)
    (hw : v.wf c = true) (hp : v.plain = true) (hd : v.depth ≤ env.depth) (ha : v.arr ≤ maxNesting)
    (hs : Small (encode2 v ++ rest)) :
    (parseG c env (encode2 v ++ rest)).out = .ok v (encode2 v).length := by
  have := encode2_decode c h env v rest hw hd ha hs
  rw [san_plain v hp] at this
  exact this

theorem encode4_decode (c : Codec) (h : c = codec1 ∨ c = codec2) : C15_encode_decode encode4 c :=
  (funext encode4_eq : encode4 = encode2) ▸ encode2_decode c h

/-- all the server's encoders produce the same bytes: `RespCodec::encode` (1), `RespParser::encode`
    (2), the connection handler's private `encode_resp_into` (3, its own transcription
    `encodeConnS`), the simulated connection's `encode_resp` (4), `encode_resp_into` of server_persistent.rs (5) -/
theorem encoders_agree (v : Val) : encode1 v = encode2 v ∧ encode3 v = encode2 v ∧ encode4 v = encode2 v ∧
    encode5 v = encode2 v :=
  ⟨encode1_eq v, encode3_eq v, encode4_eq v, encode5_eq v⟩

/-- encoder 5 (`encode_resp_into` of the binary server_persistent.rs) -/
theorem encode5_decode (c : Codec) (h : c = codec1 ∨ c = codec2) : C15_encode_decode encode5 c :=
  (funext encode5_eq : encode5 = encode2) ▸ encode2_decode c h

/-- `encode_error_into` of server_persistent.rs: one error frame `ERR ` ++ text -/
theorem encode_error5_decode (c : Codec) (h : c = codec1 ∨ c = codec2) (env : Env) (msg rest : Bytes)
    (hw : (Val.error ([69, 82, 82, 32] ++ msg)).wf c = true) (hd : 1 ≤ env.depth) (hs : Small (encodeErr5 msg ++ rest)) :
    (parseG c env (encodeErr5 msg ++ rest)).out = .ok (Val.error ([69, 82, 82, 32] ++ msg)).san (encodeErr5 msg).length := by
  rw [encodeErr5_eq] at hs ⊢
  exact encode2_decode c h env _ rest hw (by simpa [Val.depth] using hd) (by simp [Val.arr]) hs

example : (Val.error ([69, 82, 82, 32] ++ [120, 13, 10, 121])).wf codec2 = true ∧
    (parse2 env0 (encodeErr5 [120, 13, 10, 121])).out = .ok (.error [69, 82, 82, 32, 120, 32, 32, 121]) 11 := ⟨by decide, rfl⟩

/-- encoder 6, the CLIENT side (`SimulatedReadBuffer::encode_command`, and every client that writes a
    command as an array of bulk strings): the frame `encCmd args` decodes — under RespCodec, on a
    machine with two decoder frames, whatever follows — to exactly the array of its arguments, any
    bytes in them (CR LF, NUL, non-UTF-8), consuming exactly its own length -/
theorem command_frame_decodes (env : Env) (args : List Bytes) (rest : Bytes) (hd : 2 ≤ env.depth)
    (hs : Small (Conn.encCmd args ++ rest)) :
    (parse1 env (Conn.encCmd args ++ rest)).out = .ok (.array (args.map Val.bulk)) (Conn.encCmd args).length :=
  Conn.parse1_frame env args rest hd hs

example : Conn.encCmd [[71, 69, 84], [107]] = getK := by decide +kernel
example : (parse1 env0 (Conn.encCmd [[83, 69, 84], [13, 10, 0, 255], []])).out =
      .ok (.array [.bulk [83, 69, 84], .bulk [13, 10, 0, 255], .bulk []]) 29 := rfl

/-- `encode_error_into(msg)` (protocol errors, command-parse errors) is ONE error frame that decodes
    to the error text `errText msg` as written on the wire -/
theorem encode_error_decode (c : Codec) (h : c = codec1 ∨ c = codec2) (env : Env) (msg rest : Bytes)
    (hw : (Val.error (errText msg)).wf c = true) (hd : 1 ≤ env.depth) (hs : Small (encodeErr msg ++ rest)) :
    (parseG c env (encodeErr msg ++ rest)).out = .ok (Val.error (errText msg)).san (encodeErr msg).length := by
  rw [encodeErr_eq] at hs ⊢
  exact encode2_decode c h env _ rest hw (by simpa [Val.depth] using hd) (by simp [Val.arr]) hs

/-- COUNTEREXAMPLE for the variant of the connection encoder whose two null arms are merged
    (`BulkString(None) | Array(None) => "$-1\r\n"`): the null array — the reply of an aborted EXEC —
    is written as a null bulk string and decodes to a different value, also inside an array -/
theorem null_array_as_null_bulk_counterexample :
    encode3Merged .nullArray = [36, 45, 49, 13, 10] ∧ encode3 .nullArray = [42, 45, 49, 13, 10] ∧
    (parse1 env0 (encode3Merged .nullArray)).out = .ok .nullBulk 5 ∧
    (parse2 env0 (encode3Merged (.array [.int 1, .nullArray]))).out = .ok (.array [.int 1, .nullBulk]) 13 ∧
    (parse1 env0 (encode3 .nullArray)).out = .ok .nullArray 5 :=
  ⟨by decide, by decide, rfl, rfl, rfl⟩

theorem merged_nulls_encode_decode_counterexample : ¬ C15_encode_decode encode3Merged codec1 := by
  intro h
  have h1 := h env0 .nullArray [] (by decide) (by decide) (by decide) (by decide)
  have h2 : (parseG codec1 env0 (encode3Merged .nullArray ++ [])).out = .ok .nullBulk 5 := rfl
  rw [h2] at h1
  injection h1 with hv _
  cases hv

/-- `-ERR unknown command 'FOO\r\n+INJECTED'`: an error whose text contains CR LF (the server
    builds such replies from client bytes) -/
def injected : Val := .error [70, 79, 79, 13, 10, 43, 73, 78, 74]

/-- with the sanitising encoders the reply is ONE frame -/
example : (parse1 env0 (encode2 injected)).out = .ok (.error [70, 79, 79, 32, 32, 43, 73, 78, 74]) 12 ∧
    (parse2 env0 (encode3 injected)).out = .ok (.error [70, 79, 79, 32, 32, 43, 73, 78, 74]) 12 := ⟨rfl, rfl⟩

/-- PINNED behaviour (before fix 1c13a37): the line ended at the embedded CR LF, the rest of the reply
    was read as further frames -/
theorem crlf_in_error_pinned_counterexample :
    (parse1 env0 (encode2Pinned injected)).out = .ok (.error [70, 79, 79]) 6 ∧
    (parse2 env0 (encode2Pinned injected)).out = .ok (.error [70, 79, 79]) 6 ∧
    encode1Pinned injected = encode2Pinned injected ∧ (encode2Pinned injected).length = 12 :=
  ⟨rfl, rfl, by decide, by decide⟩

/-- non-vacuity: a nested reply with a UTF-8 simple string, a binary bulk string containing CR LF,
    i64::MIN, nulls, an error with CR LF — a value of the reply type for both decoders -/
def reply : Val := .array [.simple [79, 75, 195, 169], .bulk [13, 10, 255, 0], .int (-9223372036854775808),
  .nullBulk, .array [.nullArray, .error [69, 82, 82, 13, 10, 120]]]

example : reply.wf codec1 = true ∧ reply.wf codec2 = true ∧ reply.depth ≤ env0.depth ∧ reply.arr ≤ maxNesting ∧
    reply.plain = false ∧ (Val.simple [255]).wf codec2 = false := by decide +kernel

/-! ## 9. the decoders against an independent statement of the RESP grammar

`firstCrlf bs` (Model/Resp.lean) is the index of the first adjacent pair (13, 10) of `bs`, defined
through `List.zip` / `List.findIdx?`, independently of the decoders' search loops.  A RESP line is
the bytes before the FIRST CR LF. -/

theorem grammar_of (c : Codec) (h : c = codec1 ∨ c = codec2) : c.Grammar := by
  cases h with
  | inl h => subst h; rfl
  | inr h => subst h; rfl

/-- a decoded simple string / error ends at the FIRST CR LF after the type byte: the consumed
    count is that index + 3 (type byte, line, CR LF), the text is the decoder's string conversion
    of exactly the bytes before it, and those bytes contain no CR LF -/
theorem line_ends_at_first_crlf_string (c : Codec) (h : c = codec1 ∨ c = codec2) (env : Env) (hd : 1 ≤ env.depth)
    (t : Nat) (ht : t = 43 ∨ t = 45) (rest : Bytes) (v : Val) (k : Nat)
    (hok : (parseG c env (t :: rest)).out = .ok v k) :
    ∃ p, firstCrlf rest = some p ∧ k = p + 3 ∧ firstCrlf (rest.take p) = none ∧
      v = (if t = 43 then Val.simple else Val.error) (c.str (rest.take p)) := by
  have hl : (parseLine c (if t = 43 then Val.simple else Val.error) (t :: rest)).out = .ok v k := by
    rw [parseG_succ c env hd] at hok
    rcases ht with rfl | rfl <;> exact hok
  rw [parseLine_eq, header_grammar (grammar_of c h) (by omega)] at hl
  cases hp : firstCrlf rest with
  | none => rw [hp] at hl; cases hl
  | some p =>
    rw [hp] at hl
    injection hl with hv hk
    exact ⟨p, rfl, hk.symm, firstCrlf_take rest p hp, hv.symm⟩

/-- … and an integer frame likewise: the digits are exactly the bytes before the first CR LF -/
theorem line_ends_at_first_crlf_int (c : Codec) (h : c = codec1 ∨ c = codec2) (env : Env) (hd : 1 ≤ env.depth)
    (rest : Bytes) (v : Val) (k : Nat) (hok : (parseG c env (58 :: rest)).out = .ok v k) :
    ∃ p n, firstCrlf rest = some p ∧ k = p + 3 ∧ firstCrlf (rest.take p) = none ∧
      parseI64 (rest.take p) = some n ∧ v = .int n := by
  rw [parseG_succ c env hd, parseD_of_colon, parseInt_eq, lenHeader, header_grammar (grammar_of c h) (by decide)] at hok
  cases hp : firstCrlf rest with
  | none => rw [hp] at hok; cases hok
  | some p =>
    rw [hp] at hok
    cases hn : parseI64 (rest.take p) with
    | none => simp only [hn] at hok; cases hok
    | some n =>
      simp only [hn] at hok
      injection hok with hv hk
      exact ⟨p, n, rfl, hk.symm, firstCrlf_take rest p hp, hn, hv.symm⟩

/-- once a CR LF has arrived after the type byte, a `+` / `-` / `:` frame is never reported
    incomplete: it is a value or a protocol error -/
theorem complete_line_not_incomplete (c : Codec) (h : c = codec1 ∨ c = codec2) (env : Env) (hd : 1 ≤ env.depth)
    (t : Nat) (ht : t = 43 ∨ t = 45 ∨ t = 58) (rest : Bytes) (p : Nat) (hp : firstCrlf rest = some p) :
    (parseG c env (t :: rest)).out.isIncomplete = false := by
  have hh := header_grammar (grammar_of c h) (t := t) (by omega) rest
  rw [hp] at hh
  rw [parseG_succ c env hd]
  rcases ht with rfl | rfl | rfl
  · rw [parseD_of_plus, parseLine_eq, hh]; rfl
  · rw [parseD_of_minus, parseLine_eq, hh]; rfl
  · rw [parseD_of_colon, parseInt_eq, lenHeader, hh]
    dsimp only
    cases parseI64 (rest.take p) <;> rfl

theorem findCrlf2_some : ∀ (s : Bytes), ∃ p, findCrlf2 (s ++ [13, 10]) = some p := by
  intro s
  induction s with
  | nil => exact ⟨0, rfl⟩
  | cons x xs ih =>
    obtain ⟨p, hp⟩ := ih
    cases hxs : xs ++ [13, 10] with
    | nil => simp at hxs
    | cons y ys =>
      rw [List.cons_append, hxs, findCrlf2]
      split
      · exact ⟨0, rfl⟩
      · rw [← hxs, hp]; exact ⟨p + 1, rfl⟩

theorem line_completable (c : Codec) (h : c = codec1 ∨ c = codec2) : C15_line_completable c := by
  intro env t s hd ht
  obtain ⟨p, hp⟩ := findCrlf2_some s
  exact complete_line_not_incomplete c h env hd t ht _ p (findCrlf2_eq_firstCrlf _ ▸ hp)

/-- PINNED behaviour (before fix 133a783): `find_crlf` gave up at the first CR without LF and violated
    `complete_line_not_incomplete` -/
theorem complete_line_pinned_counterexample :
    firstCrlf [97, 13, 98, 13, 10] = some 3 ∧
    (parseG codec1Pinned env0 (43 :: [97, 13, 98, 13, 10])).out.isIncomplete = true := by decide +kernel

/-- full statement: RespCodec and RespParser agree on every input — the same value (up to the
    lossy UTF-8 conversion the simulation decoder applies to line texts) with the same consumed
    count, both "more bytes needed", or the same protocol error -/
def C15_decoders_agree : Prop :=
  ∀ (env : Env) (bs : Bytes), maxNesting + 1 ≤ env.depth → Small bs →
    (parse1 env bs).out.Agrees (parse2 env bs).out

/-- they genuinely differ in ONE place: `*-5\r\n` is "Invalid array
    length" for RespCodec and the empty array for RespParser -/
theorem decoders_agree_counterexample : ¬ C15_decoders_agree := by
  intro h
  have := h env0 arrayMinus5 (by decide) (by decide)
  have h1 : (parse1 env0 arrayMinus5).out = .error .badLen := rfl
  have h2 : (parse2 env0 arrayMinus5).out = .ok (.array []) 5 := rfl
  rw [h1, h2] at this
  exact this

/-- PARTIAL, and that is the only place: on every input the decoders agree, or RespCodec
    reports "Invalid … length" (a negative array length somewhere in the frame) -/
theorem decoders_agree_partial (env : Env) (bs : Bytes) (hd : maxNesting + 1 ≤ env.depth) (hs : Small bs) :
    (parse1 env bs).out.Agrees (parse2 env bs).out ∨ (parse1 env bs).out = .error .badLen :=
  parseD_agree env.mem env.depth 0 bs (Nat.zero_le _) (by omega) hs

example : (parse1 env0 [43, 255, 13, 10]).out = .ok (.simple [255]) 4 ∧
    (parse2 env0 [43, 255, 13, 10]).out = .ok (.simple [239, 191, 189]) 4 ∧
    (Val.simple [255]).lossy = .simple [239, 191, 189] := ⟨rfl, rfl, rfl⟩

/-- frames do not overlap: decoding the concatenation of two complete frames yields the first
    frame with exactly its own length, and what is left decodes to the second frame -/
theorem frames_do_not_overlap (c : Codec) (h : c = codec1 ∨ c = codec2) (env : Env) (f1 f2 : Bytes)
    (v1 v2 : Val) (hs : Small (f1 ++ f2))
    (h1 : (parseG c env f1).out = .ok v1 f1.length) (h2 : (parseG c env f2).out = .ok v2 f2.length) :
    (parseG c env (f1 ++ f2)).out = .ok v1 f1.length ∧
    (parseG c env ((f1 ++ f2).drop f1.length)).out = .ok v2 f2.length := by
  obtain ⟨hg, _, _, _⟩ := good_of c h
  refine ⟨?_, by simpa using h2⟩
  have := parseD_stable c hg env.mem env.depth 0 f1 f2 hs (by
    unfold parseG at h1; unfold Decided; rw [h1]; rfl)
  unfold parseG at h1 ⊢
  rw [this, h1]

example : (parse1 env0 ([43, 97, 13, 13, 10] ++ [58, 49, 13, 10])).out = .ok (.simple [97, 13]) 5 ∧
    (parse1 env0 [58, 55, 13, 13, 10]).out = .error .badInt := ⟨rfl, rfl⟩

/-! ## the third reader of client frames: the shadow proxy's command-name extractor

`src/bin/shadow_proxy.rs::parse_resp_command` (a bin target; its source text is compiled into the
harness) takes the NAME of a command out of a client frame for the proxy's logs and statistics — by
splitting the buffer at CR LF, not by decoding it. -/

/-- full statement: on every frame the server's decoder accepts the proxy names the command the
    server executes (the upper-cased first element) -/
def C15_proxy_name_agrees : Prop :=
  ∀ (env : Env) (data : Bytes) (v : Val) (k : Nat), 2 ≤ env.depth → Small data →
    (parse1 env data).out = .ok v k → proxyName data = Conn.cmdName v

/-- PARTIAL: for every well-formed command (an array of bulk strings, any arguments) whose NAME contains
    no CR and whose buffer is valid UTF-8 altogether — decidable — followed by anything -/
theorem proxy_name_agrees_partial (env : Env) (name : Bytes) (args : List Bytes) (rest : Bytes) (hd : 2 ≤ env.depth)
    (hs : Small (Conn.encCmd (name :: args) ++ rest)) (hcr : 13 ∉ name)
    (hu : validUtf8 (Conn.encCmd (name :: args) ++ rest) = true) :
    (parse1 env (Conn.encCmd (name :: args) ++ rest)).out =
      .ok (Conn.cmdFrame (name :: args)) (Conn.encCmd (name :: args)).length ∧
    proxyName (Conn.encCmd (name :: args) ++ rest) = Conn.cmdName (Conn.cmdFrame (name :: args)) := by
  refine ⟨Conn.parse1_frame env (name :: args) rest hd hs, ?_⟩
  rw [proxyName_frame name args rest hcr hu]
  rfl

/-- COUNTEREXAMPLE: `*1\r\n$2\r\n\r\n\r\n` — a command whose name is CR LF: the server reads the two bytes the
    length announces, the proxy stops at the first CR LF and logs the empty name (an observation about
    the proxy's statistics; no reply depends on it) -/
theorem proxy_name_counterexample : ¬ C15_proxy_name_agrees := by
  intro h
  have := h env0 [42, 49, 13, 10, 36, 50, 13, 10, 13, 10, 13, 10] (.array [.bulk [13, 10]]) 12 (by decide) (by decide) rfl
  exact absurd this (by decide)

/-- non-vacuity: `*2\r\n$3\r\nget\r\n$1\r\nk\r\n` → `GET`; a buffer that is not UTF-8 altogether (a binary value) → nothing -/
example : proxyName (Conn.encCmd [[103, 101, 116], [107]]) = some [71, 69, 84] ∧
    proxyName (Conn.encCmd [[83, 69, 84], [107], [255]]) = none ∧ proxyName [36, 49, 13, 10, 120, 13, 10] = none := by decide +kernel

end RedisVerif.C15
