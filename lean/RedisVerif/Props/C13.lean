import RedisVerif.Model.Stream
import RedisVerif.Lemmas.StreamOps
import RedisVerif.Lemmas.StreamFold

/-!
# C13 — Compaction never changes what recovery returns

Model: `Stream.compactWith` / `compactInterleaved` and `Stream.recover` (M4) over `RV.merge` (M1).
`recState st` is what a node folds from `recover st`.

The current tree (`Stream.current.compact`: `mergeInsteadOfLatest`, only `NotFound` marks a segment
missing), no tombstone GC: for EVERY fault oracle (hence also for a compaction that dies at any
store call, or whose reads are mangled: such a segment is skipped) `recState` after = `recState`
before — a corollary of C07 + `FoldACI.fold1_replace` (replacing updates by their merge does not
change the fold).  The pinned commit (keep-latest) satisfies it fault-free under the decidable
hypotheses `KeepLatestAgreesWithMerge`, `NoTombstoneDropped`, and without a concurrent flush.
With tombstone GC the recovered states agree key by key except that a key whose merged value is a
tombstone below the cutoff may be absent, provided (`GcSafe`, decidable) no other listed segment
holds that key; a pass takes the oldest-first prefix of the candidates, so `GcSafe` can only fail
through a segment that is not a candidate or that is newer than everything compacted.  The cutoff
is the code's u64 arithmetic (`now.saturating_sub(ttl as u64)`).

Every excluded case has a kernel-checked counterexample.  Those about keep-latest and about the
TTL conversion are defects fixed after the pinned commit; those about tombstone GC (an older
value in a skipped or unreadable segment, expiry and metadata of a dropped tombstone, the
production clock) and `flush_interleaving_counterexample` hold for the current compactor too
(listed findings).  Three
variants of the pass that are not in the tree (smallest-first selection, merging a segment whose
read failed validation, a signed cutoff) show what the positive statements exclude.
-/
namespace RedisVerif
namespace C13

open _root_.RedisVerif.Stream FoldACI

/-- what a node ends up with after recovering from a store image (`none`: recovery fails) -/
def recState (st : Store) (rid : Nat) : Option (NMap RV) :=
  match recover st rid with
  | .ok r => some (foldState r.updates)
  | .error _ => none

/-- the part of a state a reader can see: tombstones read as "absent" -/
def visible (M : NMap RV) : NMap RV := M.filter (fun p => !p.2.isTombstone)

theorem recState_of_holds {c : Carrier} {st : Store} {T : List Delta} (h : Holds c st T) (rid : Nat) :
    recState st rid = some (foldState T) := by
  obtain ⟨r, hr, _, hf⟩ := h.recover rid
  simp only [recState, hr, hf]

/-- recovery cannot tell two stores apart that hold the same history -/
theorem recState_eq {c : Carrier} {st st' : Store} {T : List Delta} (h : Holds c st T) (h' : Holds c st' T)
    (rid : Nat) : recState st' rid = recState st rid :=
  (recState_of_holds h' rid).trans (recState_of_holds h rid).symm

/-! ## full-strength statements -/

/-- compaction (any code variant `cfl`), any fault oracle, any configuration incl. tombstone GC:
    what a reader sees after recovery is unchanged -/
def C13_compaction_preserves_recovery (cfl : CompactFlags) : Prop :=
  ∀ (F : Oracle) (cfg : CompactCfg) (sz : Nat) (w : World) (rid : Nat),
    w.dead = false → StoreInv w.store → Coherent (content w.store) →
    (recState (compactWith cfl F cfg sz w).1.store rid).map visible = (recState w.store rid).map visible

/-- the same with one whole flush of the persistence actor running between the compactor's reads
    and its writes: recovery returns the old content plus what the flush confirmed -/
def C13_compaction_flush_interleaving (restore : Bool) (cfl : CompactFlags) : Prop :=
  ∀ (cfg : CompactCfg) (sz : Nat) (w : World) (rid : Nat) (mid : Option (Pers × Nat)),
    w.dead = false → StoreInv w.store → cfg.cutoff = 0 →
    Coherent (content w.store ++ (match mid with | some (p, _) => p.buffer | none => [])) →
    recState (compactInterleaved restore cfl allOk cfg sz w mid).1.store rid =
      some (foldState (content w.store ++
        (match mid, (compactInterleaved restore cfl allOk cfg sz w mid).2.2 with
         | some (p, _), .flushed _ _ => p.buffer
         | _, _ => [])))

/-! ## the repaired compactor: a corollary of C07 + FoldACI -/

def repairedCompact : CompactFlags := { mergeInsteadOfLatest := true, missingOnlyNotFound := true }

/-- `mergeInsteadOfLatest`, no tombstone GC: every fault
    oracle, every selection outcome (segments over the size target skipped, `max_segments_per_
    compaction` cut), every coherent multi-replica content: the recovered state is unchanged. -/
theorem compaction_preserves_recovery_repaired (F : Oracle) (cfg : CompactCfg) (sz : Nat) (w : World)
    (rid : Nat) (hinv : StoreInv w.store) (hc : Coherent (content w.store)) (hgc : cfg.cutoff = 0) :
    recState (compactWith repairedCompact F cfg sz w).1.store rid = recState w.store rid :=
  have h := holds_content hinv hc
  recState_eq h (h.compact repairedCompact rfl rfl F hgc sz) rid

/-! ## the pinned commit (keep-latest) -/

/-- partial: the pinned keep-latest compactor, fault-free run.  Missing for
    the full statement: layouts where keep-latest-by-time disagrees with merge (equal times from
    two replicas, expiry, hashes — counterexamples below), tombstone GC (`tombstone_gc_safe_partial`
    and its counterexamples), faults (C12), a concurrent flush (`flush_interleaving_counterexample`). -/
theorem compaction_preserves_recovery_partial (cfg : CompactCfg) (sz : Nat) (w : World) (rid : Nat)
    (hd : w.dead = false) (hinv : StoreInv w.store) (hc : Coherent (content w.store))
    (hk : KeepLatestAgreesWithMerge w.store cfg) (hn : NoTombstoneDropped w.store cfg) :
    recState (compactWith pinnedFlags allOk cfg sz w).1.store rid = recState w.store rid := by
  have h := holds_content hinv hc
  have hinv' := (compact_spec pinnedFlags allOk cfg sz w hinv).1
  exact recState_eq h ((compact_replaced_pinned cfg sz w hd hinv hk).elim (h.same hinv') (h.replaced hinv' · hn)) rid

/-! ## the selection rule -/

/-- a pass of the modelled compactor takes the oldest-first
    prefix (by id) of the candidates (`size < target`), of length ≤ `max_segments_per_compaction`:
    every listed segment it leaves out is not a candidate or at least as new as all it took -/
theorem selection_oldest_first_prefix (cfg : CompactCfg) (m : Manifest) (s : SegInfo)
    (hs : s ∈ m.segments) (hns : s ∉ selectSegments cfg m) :
    cfg.target ≤ s.size ∨ ∀ t ∈ selectSegments cfg m, t.id ≤ s.id :=
  unselected_is_noncandidate_or_newer cfg m hs hns

/-- **`GcSafe` can only fail through a non-candidate or a newer, cut-off segment**: with
    oldest-first prefix selection, a value of a key whose tombstone the pass drops can survive
    outside the pass only in a segment that is not a candidate (size ≥ target) or that is strictly
    newer than every compacted segment (cut off by `max_segments_per_compaction`) — never in an
    older candidate that the pass skipped -/
theorem gc_unsafe_only_through_noncandidate_or_newer (st : Store) (cfg : CompactCfg) (q : Delta)
    (hq : q ∈ segDeltas st (removeIds (manifestOf st 0) ((selectSegments cfg (manifestOf st 0)).map (·.id)))) :
    ∃ s ∈ (manifestOf st 0).segments,
      (cfg.target ≤ s.size ∨ ∀ t ∈ selectSegments cfg (manifestOf st 0), t.id < s.id) ∧
      ∃ ds, NMap.get st (segName s.id) = some (.segment ds) ∧ q ∈ ds :=
  outside_pass_is_noncandidate_or_newer hq

/-- a variant of the selection: candidates sorted by `(size_bytes, id)` — smallest first -/
def selectSmallestFirst (cfg : CompactCfg) (m : Manifest) : List SegInfo :=
  (sortBy (·.size) (sortBy (·.id) (m.segments.filter (fun s => s.size < cfg.target)))).take cfg.maxPer

/-- a compaction pass with smallest-first selection (everything else as `compactWith`) -/
def compactSmallestFirst (fl : CompactFlags) (F : Oracle) (cfg : CompactCfg) (sz : Nat) (w : World) :
    World × CompactOut :=
  match loadOrCreate F w 0 with
  | (w1, none) => (w1, .error)
  | (w1, some m) =>
    let sel := selectSmallestFirst cfg m
    if sel.length < cfg.minSegs then (w1, .nothing) else
    let r := loadLoop fl F w1 LoadAcc.init sel
    compactFinish F cfg sz r.1 m r.2


/-! ## read faults during the pass -/

/-- current tree, no tombstone GC: the
    oracle may turn any `get` of the pass into an error or into a body that no parser accepts
    (`readCorrupt`: truncated / flipped bytes / empty, the object at rest intact).  The current
    compactor SKIPS such a segment — it stays listed and is not deleted (`loadLoop_repaired`) —
    so recovery with clean reads after the pass equals recovery with clean reads before it. -/
theorem compaction_preserves_recovery_under_read_faults (F : Oracle) (cfg : CompactCfg) (sz : Nat)
    (w : World) (rid : Nat) (hinv : StoreInv w.store) (hc : Coherent (content w.store)) (hgc : cfg.cutoff = 0) :
    recState (compact F cfg sz w).1.store rid = recState w.store rid :=
  compaction_preserves_recovery_repaired F cfg sz w rid hinv hc hgc

/-- a variant of the load loop: a segment whose read fails validation is merged anyway — with what
    the mangled body decodes to (`garbage id`) — removed from the manifest and deleted -/
def loadLoopMergeInvalid (garbage : Nat → List Delta) (F : Oracle) : World → LoadAcc → List SegInfo → World × LoadAcc
  | w, acc, [] => (w, acc)
  | w, acc, s :: rest =>
    match w.get F (segName s.id) with
    | (w1, .ok (.segment ds)) =>
      loadLoopMergeInvalid garbage F w1
        { acc with ktd := ds.foldl (keepStep true) acc.ktd, before := acc.before + ds.length,
                   actually := acc.actually ++ [s] } rest
    | (w1, .ok _) =>
      loadLoopMergeInvalid garbage F w1
        { acc with ktd := (garbage s.id).foldl (keepStep true) acc.ktd, before := acc.before + (garbage s.id).length,
                   actually := acc.actually ++ [s] } rest
    | (w1, .err _) => (w1, { acc with failed := true })

def compactMergeInvalid (garbage : Nat → List Delta) (F : Oracle) (cfg : CompactCfg) (sz : Nat) (w : World) :
    World × CompactOut :=
  match loadOrCreate F w 0 with
  | (w1, none) => (w1, .error)
  | (w1, some m) =>
    let r := loadLoopMergeInvalid garbage F w1 LoadAcc.init (selectSegments cfg m)
    compactFinish F cfg sz r.1 m r.2

/-! ## tombstone GC -/

/-- partial (repaired compactor, cutoff in Lamport units, every fault
    oracle without read corruption — with a corrupted read the pass compacts fewer segments than
    `GcSafe` was stated for): under the decidable hypothesis `GcSafe` — every tombstone the compaction drops
    belongs to a key that occurs in no listed segment outside the compaction — the recovered
    states agree key by key, except that a key whose merged value was a tombstone below the
    cutoff may be absent afterwards (it reads as deleted before and after).  Missing for the
    full statement: `GcSafe` is not established by the code (`older_value_in_skipped_segment_
    counterexample`, `dropped_tombstone_expiry_counterexample` — both layouts violate `GcSafe`), and the cutoff the code computes is not in Lamport units
    (`production_clock_counterexample`). -/
theorem tombstone_gc_safe_partial (F : Oracle) (hF : NoReadCorruption F) (cfg : CompactCfg) (sz : Nat) (w : World)
    (hinv : StoreInv w.store) (hc : Coherent (content w.store)) (hsafe : GcSafe w.store cfg) (k : Nat) :
    NMap.get (foldState (content (compactWith repairedCompact F cfg sz w).1.store)) k
        = NMap.get (foldState (content w.store)) k ∨
    (NMap.get (foldState (content (compactWith repairedCompact F cfg sz w).1.store)) k = none ∧
      ∃ T, NMap.get (foldState (content w.store)) k = some T ∧ T.isTombstone = true ∧ T.ts.time < cfg.cutoff) := by
  rcases compact_gc_safe (carrierOf (content w.store) hc) repairedCompact rfl rfl F hF cfg sz w hinv
      (inCar_of_coherent hc) hsafe k with h | ⟨h1, T, h2, h3⟩
  · exact Or.inl h
  · refine Or.inr ⟨h1, T, h2, ?_⟩
    unfold dropped at h3
    simpa using h3

/-! ## concurrent flush -/

theorem compactWith_eq_phases (fl : CompactFlags) (F : Oracle) (cfg : CompactCfg) (sz : Nat) (w : World) :
    compactWith fl F cfg sz w =
      match compactLoad fl F cfg w with
      | .inl r => r
      | .inr (w2, m, acc) => compactFinish F cfg sz w2 m acc :=
  compactWith_phases fl F cfg sz w

/-- decidable: no flush runs between the compactor's reads and its writes -/
def NoConcurrentFlush (mid : Option (Pers × Nat)) : Prop := mid = none

instance (mid : Option (Pers × Nat)) : Decidable (NoConcurrentFlush mid) := by
  unfold NoConcurrentFlush; infer_instance

theorem compactInterleaved_none (restore : Bool) (cfl : CompactFlags) (F : Oracle) (cfg : CompactCfg)
    (sz : Nat) (w : World) :
    (compactInterleaved restore cfl F cfg sz w none).1 = (compactWith cfl F cfg sz w).1 := by
  rw [compactWith_eq_phases]
  unfold compactInterleaved
  cases h : compactLoad cfl F cfg w with
  | inl r => obtain ⟨w1, out⟩ := r; rfl
  | inr r => obtain ⟨w2, m, acc⟩ := r; rfl

/-- partial: without a concurrent flush (repaired compactor) -/
theorem compaction_flush_interleaving_partial (restore : Bool) (cfg : CompactCfg) (sz : Nat) (w : World)
    (rid : Nat) (mid : Option (Pers × Nat)) (hmid : NoConcurrentFlush mid)
    (hinv : StoreInv w.store) (hgc : cfg.cutoff = 0) (hc : Coherent (content w.store)) :
    recState (compactInterleaved restore repairedCompact allOk cfg sz w mid).1.store rid =
      some (foldState (content w.store)) := by
  unfold NoConcurrentFlush at hmid
  subst hmid
  rw [compactInterleaved_none]
  exact recState_of_holds ((holds_content hinv hc).compact repairedCompact rfl rfl allOk hgc sz) rid

/-! ## counterexamples (pinned code unless stated) -/

def lww (v t r : Nat) : RV := RV.withValue [v] ⟨t, r⟩
def tomb (t r : Nat) : RV := { crdt := .lww (Lww.delete ⟨t, r⟩), vc := none, expiry := none, ts := ⟨t, r⟩, rf := none }

/-- the world after a fault-free run of a workload from the empty store -/
def after (ops : List Op) : World := (runWith pinned allOk (Sys.init [] 1) ops).w

theorem storeInv_after (ops : List Op) : StoreInv (after ops).store := storeInv_runWith pinned allOk 1 ops

def cfgAll : CompactCfg := { target := 1000, minSegs := 2, maxPer := 5, now := 0, ttlMs := 0 }

/-- two replicas write key 107 at the same Lamport time 5 -/
def equalTimesOps : List Op := [.push (107, lww 1 5 1), .flush 100, .push (107, lww 2 5 2), .flush 100]

/-- **Fixed defect C13:keep-latest:lww (equal times)** — pinned commit.  Merge picks the greater stamp `(5, r2)`;
    the compactor keeps the first delta it saw (strict `>` on the time only). -/
theorem equal_times_counterexample :
    recState (after equalTimesOps).store 1 = some [(107, lww 2 5 2)] ∧
    recState (compactWith pinnedFlags allOk cfgAll 100 (after equalTimesOps)).1.store 1 = some [(107, lww 1 5 1)] ∧
    StoreInv (after equalTimesOps).store ∧ Coherent (content (after equalTimesOps).store) ∧
    ¬ KeepLatestAgreesWithMerge (after equalTimesOps).store cfgAll := by
  refine ⟨by decide, by decide, storeInv_after _, by decide, by decide⟩

/-- `SET e v EX 100` then `SET e w` (no expiry) on one replica -/
def expiryOps : List Op :=
  [.push (101, { lww 1 3 1 with expiry := some 100000 }), .flush 100, .push (101, lww 2 4 1), .flush 100]

/-- **Fixed defect C13:keep-latest:lww (expiry)** — pinned commit.  Merge keeps the maximum expiry, the compactor the
    latest delta's: recovery's expiry changes from `Some(100000)` to `None`. -/
theorem expiry_some_then_none_counterexample :
    recState (after expiryOps).store 1 = some [(101, { lww 2 4 1 with expiry := some 100000 })] ∧
    recState (compactWith pinnedFlags allOk cfgAll 100 (after expiryOps)).1.store 1 = some [(101, lww 2 4 1)] := by
  decide

def hashOf (fs : NMap Lww) (t r : Nat) : RV := { crdt := .hash fs, vc := none, expiry := none, ts := ⟨t, r⟩, rf := none }

/-- two replicas set different fields of hash 104 -/
def hashOps : List Op :=
  [.push (104, hashOf [(102, Lww.set [1] ⟨1, 1⟩)] 1 1), .flush 100,
   .push (104, hashOf [(103, Lww.set [2] ⟨2, 2⟩)] 2 2), .flush 100]

/-- **Fixed defect C13:keep-latest:hash** — pinned commit.  Merge unions the fields, the compactor keeps the
    later delta only: field 102 (`f`) is lost. -/
theorem hash_two_replicas_counterexample :
    recState (after hashOps).store 1 = some [(104, hashOf [(102, Lww.set [1] ⟨1, 1⟩), (103, Lww.set [2] ⟨2, 2⟩)] 2 2)] ∧
    recState (compactWith pinnedFlags allOk cfgAll 100 (after hashOps)).1.store 1 =
      some [(104, hashOf [(103, Lww.set [2] ⟨2, 2⟩)] 2 2)] := by
  decide

/-- key 116 written at time 3 in a large segment (over the size target: never selected), deleted
    at time 5 in a small one; a second small segment so that the compaction runs -/
def gcOps : List Op :=
  [.push (116, lww 120 3 1), .flush 5000, .push (116, tomb 5 1), .flush 100, .push (117, lww 1 6 1), .flush 100]

/-- the production wiring: `Compactor::new` uses `ProductionTimeSource`, so the cutoff is
    wall-clock milliseconds minus the TTL (24 h) — compared with Lamport times -/
def productionCutoff : Nat := 1700000000000 - 86400000

/-- **Known finding C13:tombstone-gc:clock-domains.**  With the production clock every tombstone
    is "older than the TTL" at once: the delete at Lamport time 5 is dropped by the first
    compaction and the older value in the skipped segment resurfaces. -/
theorem production_clock_counterexample :
    (recState (after gcOps).store 1).map visible = some [(117, lww 1 6 1)] ∧
    (recState (compactWith pinnedFlags allOk { cfgAll with now := 1700000000000, ttlMs := 86400000 } 100 (after gcOps)).1.store 1).map visible
      = some [(116, lww 120 3 1), (117, lww 1 6 1)] := by
  decide

/-- **Known finding C13:tombstone-gc:older-value-resurfaces.**  Also a tombstone that IS
    older than the TTL (cutoff 100 in Lamport units) must not be dropped while an older value of
    the key lives in a segment that is not part of the compaction; the repaired
    (`mergeInsteadOfLatest`) compactor has the same defect. -/
theorem older_value_in_skipped_segment_counterexample :
    (recState (after gcOps).store 1).map visible = some [(117, lww 1 6 1)] ∧
    (recState (compactWith pinnedFlags allOk { cfgAll with now := 100, ttlMs := 0 } 100 (after gcOps)).1.store 1).map visible
      = some [(116, lww 120 3 1), (117, lww 1 6 1)] ∧
    (recState (compactWith repairedCompact allOk { cfgAll with now := 100, ttlMs := 0 } 100 (after gcOps)).1.store 1).map visible
      = some [(116, lww 120 3 1), (117, lww 1 6 1)] := by
  decide

/-- key 107: `SET … PX 2000` at time 5 and its `DEL` at time 6 (a delete keeps the value's
    `expiry_ms`) in two small segments; a newer `SET` without expiry at time 8 in a segment over
    the size target (never selected) -/
def gcExpiryOps : List Op :=
  [.push (107, { lww 13 5 1 with expiry := some 2000 }), .flush 100,
   .push (107, { tomb 6 1 with expiry := some 2000 }), .flush 100,
   .push (107, lww 16 8 1), .flush 5000]

/-- **Known finding C13:tombstone-gc:expiry-of-dropped-tombstone.**  Merge keeps the maximum /
    the present expiry (C06's expiry-merge semantics), so the tombstone at time 6 contributes
    `expiry = 2000` to the merged value although the newer write wins the register.  Dropping the
    tombstone (it is below the cutoff) removes that contribution: the recovered value is the
    same, its expiry changes from `Some 2000` to `None`.  Same root as the other GC findings — the
    key lives on in a segment outside the compaction, which `GcSafe` excludes — and the current
    (merge-instead-of-latest) compactor has it. -/
theorem dropped_tombstone_expiry_counterexample :
    recState (after gcExpiryOps).store 1 = some [(107, { lww 16 8 1 with expiry := some 2000 })] ∧
    recState (compactWith repairedCompact allOk { cfgAll with now := 100, ttlMs := 0 } 100 (after gcExpiryOps)).1.store 1
      = some [(107, lww 16 8 1)] ∧
    (compactWith repairedCompact allOk { cfgAll with now := 100, ttlMs := 0 } 100 (after gcExpiryOps)).2 = .emptied [0, 1] 1 ∧
    Coherent (content (after gcExpiryOps).store) ∧
    ¬ GcSafe (after gcExpiryOps).store { cfgAll with now := 100, ttlMs := 0 } := by
  decide

/-- Causal mode, two replicas: r1 writes key 107 (vector clock {1:1}) and deletes it ({1:2}); r2's
    concurrent newer write ({2:1}) sits in a segment over the size target -/
def gcVclockOps : List Op :=
  [.push (107, { lww 1 5 1 with vc := some [(1, 1)] }), .flush 100,
   .push (107, { tomb 6 1 with vc := some [(1, 2)] }), .flush 100,
   .push (107, { lww 2 8 2 with vc := some [(2, 1)] }), .flush 5000]

/-- **Known finding C13:tombstone-gc:metadata-of-dropped-tombstone.**  The same for every other
    merged component: the dropped tombstone is the merge of the compacted deltas of the key, and
    with it goes what they contributed to the merged value of a newer write outside the compaction
    — here the entry `{1:2}` of the vector clock. -/
theorem dropped_tombstone_vclock_counterexample :
    recState (after gcVclockOps).store 1 = some [(107, { lww 2 8 2 with vc := some [(1, 2), (2, 1)] })] ∧
    recState (compactWith repairedCompact allOk { cfgAll with now := 100, ttlMs := 0 } 100 (after gcVclockOps)).1.store 1
      = some [(107, { lww 2 8 2 with vc := some [(2, 1)] })] ∧
    Coherent (content (after gcVclockOps).store) ∧
    ¬ GcSafe (after gcVclockOps).store { cfgAll with now := 100, ttlMs := 0 } := by
  decide

/-- three candidates of uneven sizes, `max_segments_per_compaction = 2`: segment 0 (large, oldest)
    holds key 107 = v1 @10, segment 1 (small) its delete @20, segment 2 (small) another key -/
def unevenOps : List Op :=
  [.push (107, lww 1 10 1), .flush 900, .push (107, tomb 20 1), .flush 100, .push (120, lww 2 30 1), .flush 100]

def unevenCfg : CompactCfg := { target := 1000, minSegs := 2, maxPer := 2, now := 100, ttlMs := 0 }

/-- **smallest-first selection breaks tombstone GC where oldest-first does not**: oldest-first
    compacts segments 0 and 1 — the expired tombstone goes together with the value it deletes;
    smallest-first compacts segments 1 and 2, drops the tombstone and leaves the OLDER candidate
    segment 0 behind: key 107 is served again. -/
theorem smallest_first_selection_counterexample :
    (recState (after unevenOps).store 1).map visible = some [(120, lww 2 30 1)] ∧
    (compactWith repairedCompact allOk unevenCfg 100 (after unevenOps)).2 = .emptied [0, 1] 1 ∧
    (recState (compactWith repairedCompact allOk unevenCfg 100 (after unevenOps)).1.store 1).map visible
      = some [(120, lww 2 30 1)] ∧
    GcSafe (after unevenOps).store unevenCfg ∧
    (compactSmallestFirst repairedCompact allOk unevenCfg 100 (after unevenOps)).2 = .compacted [1, 2] 3 1 1 ∧
    (recState (compactSmallestFirst repairedCompact allOk unevenCfg 100 (after unevenOps)).1.store 1).map visible
      = some [(107, lww 1 10 1), (120, lww 2 30 1)] ∧
    -- the segment left behind is a candidate that is OLDER than the segments taken
    (selectSmallestFirst unevenCfg (manifestOf (after unevenOps).store 0)).map (·.id) = [1, 2] ∧
    (selectSegments unevenCfg (manifestOf (after unevenOps).store 0)).map (·.id) = [0, 1] := by
  decide

/-- two flushed segments; during the pass the read of segment 0 (store call 9) comes back with a
    flipped byte in the record region: the checksum fails, the body still decodes — to key 107 with
    a wrong value -/
def readFaultOps : List Op := [.push (107, lww 1 5 1), .flush 100, .push (108, lww 2 6 1), .flush 100]
def readFaultOracle : Oracle := fun n => if n = 9 then .readCorrupt else .ok
def cfgOne : CompactCfg := { target := 1000, minSegs := 1, maxPer := 5, now := 0, ttlMs := 0 }

/-- the current
    compactor skips the segment whose read was mangled and recovery is unchanged; the variant
    that merges it launders the mangled value into the compacted segment (fresh valid checksum)
    and deletes the only good copy: recovery with clean reads returns a different state. -/
theorem merge_invalid_segment_counterexample :
    recState (after readFaultOps).store 1 = some [(107, lww 1 5 1), (108, lww 2 6 1)] ∧
    (compact readFaultOracle cfgOne 100 (after readFaultOps)).2 = .compacted [1] 2 1 0 ∧
    recState (compact readFaultOracle cfgOne 100 (after readFaultOps)).1.store 1
      = some [(107, lww 1 5 1), (108, lww 2 6 1)] ∧
    recState (compactMergeInvalid (fun _ => [(107, lww 99 5 1)]) readFaultOracle cfgOne 100 (after readFaultOps)).1.store 1
      = some [(107, lww 99 5 1), (108, lww 2 6 1)] := by
  decide

/-- key 107 written @5 (segment 0), deleted @8 (segment 1), another key (segment 2); during the
    pass the read of segment 0 (store call 13) comes back mangled -/
def gcSkipOps : List Op :=
  [.push (107, lww 1 5 1), .flush 100, .push (107, tomb 8 1), .flush 100, .push (120, lww 2 9 1), .flush 100]
def gcSkipOracle : Oracle := fun n => if n = 13 then .readCorrupt else .ok
def gcSkipCfg : CompactCfg := { target := 1000, minSegs := 2, maxPer := 5, now := 100, ttlMs := 0 }

/-- **Known finding C13:tombstone-gc:skipped-unreadable-segment.**  Tombstone GC looks only at what
    the pass actually merged: when a selected older segment is skipped because its read was
    mangled, the pass still drops the key's tombstone, and the skipped segment brings the deleted
    value back.  Without the read fault the same pass is safe. -/
theorem gc_skipped_unreadable_segment_counterexample :
    (recState (after gcSkipOps).store 1).map visible = some [(120, lww 2 9 1)] ∧
    (recState (compact allOk gcSkipCfg 100 (after gcSkipOps)).1.store 1).map visible = some [(120, lww 2 9 1)] ∧
    (compact gcSkipOracle gcSkipCfg 100 (after gcSkipOps)).2 = .compacted [1, 2] 3 1 1 ∧
    (recState (compact gcSkipOracle gcSkipCfg 100 (after gcSkipOps)).1.store 1).map visible
      = some [(107, lww 1 5 1), (120, lww 2 9 1)] := by
  decide

/-! ## the cutoff arithmetic -/

/-- u64 TTLs (everything a configuration file can express, incl. `u64::MAX` ms = "never
    collect"): the code computes `now.saturating_sub(ttl)`
    in u64, so a TTL of at least `now` gives cutoff 0 and the pass drops no tombstone -/
theorem no_tombstone_dropped_when_ttl_exceeds_now (cfg : CompactCfg) (hu : cfg.ttlMs < 2 ^ 64)
    (h : cfg.now ≤ cfg.ttlMs) (ktd : NMap RV) : cfg.cutoff = 0 ∧ keptOf cfg ktd = ktd := by
  have hc : cfg.cutoff = 0 := by
    unfold CompactCfg.cutoff cutoffWith ttlToU64With
    split
    · have : Min.min cfg.ttlMs (2 ^ 64 - 1) = cfg.ttlMs := by
        apply Nat.min_eq_left; omega
      rw [this]; omega
    · rw [Nat.mod_eq_of_lt hu]; omega
  exact ⟨hc, keptOf_noGC hc ktd⟩

/-- with the saturating conversion (`u64::try_from(..).unwrap_or(u64::MAX)`, the current tree:
    `ttlSaturates`) the same holds for every u128 TTL
    (`Duration::MAX` included) as long as `now` is a u64 -/
theorem no_tombstone_dropped_when_ttl_exceeds_now_saturating (now ttlMs : Nat) (hn : now < 2 ^ 64)
    (h : now ≤ ttlMs) : cutoffWith true now ttlMs = 0 := by
  unfold cutoffWith ttlToU64With
  simp only [if_true]
  by_cases hle : ttlMs ≤ 2 ^ 64 - 1
  · rw [Nat.min_eq_left hle]; omega
  · rw [Nat.min_eq_right (by omega)]; omega

/-- **Fixed defect C13:tombstone-gc:ttl-truncated-to-u64** (the code before 5809ef2, `cutoffWith
    false`).  `tombstone_ttl.as_millis() as u64` truncates the u128 modulo 2^64: a TTL of 2^64 + 384 ms (`Duration::from_secs(18446744073709552)`,
    584 million years) is read as 384 ms, so at `now = 1000` the cutoff is 616 and a tombstone
    written at Lamport time 5 is dropped although its TTL is far from elapsed. -/
theorem ttl_truncation_counterexample :
    cutoffWith false 1000 (2 ^ 64 + 384) = 616 ∧ (tomb 5 1).ts.time < cutoffWith false 1000 (2 ^ 64 + 384) ∧
    cutoffWith true 1000 (2 ^ 64 + 384) = 0 := by
  decide

/-- two's-complement reading of a u64 as i64 (`x as i64`) -/
def toI64 (x : Nat) : Int := ((x + 2 ^ 63) % 2 ^ 64 : Nat) - (2 ^ 63 : Int)

/-- a signed variant of the cutoff: `now_millis_i64() - tombstone_ttl.as_millis() as i64`, compared with
    `delta_time as i64` -/
def cutoffSigned (now ttlMs : Nat) : Int := toI64 now - toI64 (ttlMs % 2 ^ 64)

def keptOfSigned (now ttlMs : Nat) (ktd : NMap RV) : NMap RV :=
  ktd.filter (fun p => !(p.2.isTombstone && decide (toI64 p.2.ts.time < cutoffSigned now ttlMs)))

/-- with the legal
    "never collect" TTL `u64::MAX` ms the code's u64 arithmetic gives cutoff 0 and keeps every
    tombstone; the signed variant reads the TTL as −1, gets cutoff `now + 1` and drops them all —
    e.g. the delete of key 116 at time 5 whose older value sits in a segment outside the pass
    (`gcOps`), which then resurfaces (the pass with cutoff `now + 1` is the model's pass with
    `now := now + 1, ttl := 0`). -/
theorem signed_cutoff_counterexample :
    ({ cfgAll with now := 1000, ttlMs := 2 ^ 64 - 1 } : CompactCfg).cutoff = 0 ∧
    cutoffSigned 1000 (2 ^ 64 - 1) = 1001 ∧
    keptOf { cfgAll with now := 1000, ttlMs := 2 ^ 64 - 1 } [(116, tomb 5 1)] = [(116, tomb 5 1)] ∧
    keptOfSigned 1000 (2 ^ 64 - 1) [(116, tomb 5 1)] = [] ∧
    (recState (compactWith repairedCompact allOk { cfgAll with now := 1000, ttlMs := 2 ^ 64 - 1 } 100 (after gcOps)).1.store 1).map visible
      = (recState (after gcOps).store 1).map visible ∧
    (recState (compactWith repairedCompact allOk { cfgAll with now := 1001, ttlMs := 0 } 100 (after gcOps)).1.store 1).map visible
      = some [(116, lww 120 3 1), (117, lww 1 6 1)] := by
  decide

theorem C13_false_pinned : ¬ C13_compaction_preserves_recovery pinnedFlags := by
  intro h
  have := h allOk cfgAll 100 (after equalTimesOps) 1 (by decide) (storeInv_after _) (by decide)
  revert this
  decide

theorem C13_false_repaired_with_gc : ¬ C13_compaction_preserves_recovery repairedCompact := by
  intro h
  have := h allOk { cfgAll with now := 100, ttlMs := 0 } 100 (after gcOps) 1 (by decide) (storeInv_after _) (by decide)
  revert this
  decide

/-- two small segments; while the compactor holds its manifest snapshot (`next = 2`) the
    persistence actor flushes key 110 -/
def raceOps : List Op := [.push (107, lww 1 5 1), .flush 100, .push (108, lww 2 6 1), .flush 100]
def racePers : Pers := { rid := 1, buffer := [(110, lww 9 7 1)] }

/-- **Known finding C13:flush-race:confirmed-flush-lost.**  Both the flush and the
    compaction allocate `manifest.next_segment_id = 2`: the compactor's `put` overwrites the
    flushed segment and its manifest — written from the snapshot taken at the start — does not
    know the flush.  The flush returned `Ok`, key 110 is gone.  Same with the repaired compactor. -/
theorem flush_interleaving_counterexample :
    (compactInterleaved false pinnedFlags allOk cfgAll 100 (after raceOps) (some (racePers, 100))).2.2 = .flushed 2 1 ∧
    recState (compactInterleaved false pinnedFlags allOk cfgAll 100 (after raceOps) (some (racePers, 100))).1.store 1
      = some [(107, lww 1 5 1), (108, lww 2 6 1)] ∧
    recState (compactInterleaved true repairedCompact allOk cfgAll 100 (after raceOps) (some (racePers, 100))).1.store 1
      = some [(107, lww 1 5 1), (108, lww 2 6 1)] := by
  decide

theorem C13_interleaving_false (restore : Bool) : ¬ C13_compaction_flush_interleaving restore repairedCompact := by
  intro h
  have := h cfgAll 100 (after raceOps) 1 (some (racePers, 100)) (by decide) (storeInv_after _) rfl (by decide)
  revert this
  cases restore <;> decide


/-! ## the current tree -/

theorem current_compact_is_repaired : current.compact = repairedCompact := rfl

/-- the current tree (`Stream.compact`), no tombstone GC:
    every fault oracle, every layout with coherent content -/
theorem compaction_preserves_recovery_current (F : Oracle) (cfg : CompactCfg) (sz : Nat) (w : World)
    (rid : Nat) (hinv : StoreInv w.store) (hc : Coherent (content w.store)) (hgc : cfg.cutoff = 0) :
    recState (compact F cfg sz w).1.store rid = recState w.store rid :=
  compaction_preserves_recovery_repaired F cfg sz w rid hinv hc hgc

/-- the witnesses of the pinned commit's keep-latest defect are preserved by the current tree -/
example :
    recState (compact allOk cfgAll 100 (after equalTimesOps)).1.store 1 = recState (after equalTimesOps).store 1 ∧
    recState (compact allOk cfgAll 100 (after expiryOps)).1.store 1 = recState (after expiryOps).store 1 ∧
    recState (compact allOk cfgAll 100 (after hashOps)).1.store 1 = recState (after hashOps).store 1 := by
  decide

/-! ## non-vacuity -/

/-- non-vacuity: a layout where a tombstone IS dropped and `GcSafe` holds (the deleted key's
    older value is inside the compaction), while `gcOps` violates `GcSafe` -/
def gcSafeOps : List Op :=
  [.push (116, lww 120 3 1), .flush 100, .push (116, tomb 5 1), .flush 100, .push (117, lww 1 6 1), .flush 5000]

example : GcSafe (after gcSafeOps).store { cfgAll with now := 100, ttlMs := 0 } ∧
    Coherent (content (after gcSafeOps).store) ∧
    (compactWith repairedCompact allOk { cfgAll with now := 100, ttlMs := 0 } 100 (after gcSafeOps)).2 = .emptied [0, 1] 1 ∧
    recState (after gcSafeOps).store 1 = some [(116, tomb 5 1), (117, lww 1 6 1)] ∧
    recState (compactWith repairedCompact allOk { cfgAll with now := 100, ttlMs := 0 } 100 (after gcSafeOps)).1.store 1
      = some [(117, lww 1 6 1)] ∧
    ¬ GcSafe (after gcOps).store { cfgAll with now := 100, ttlMs := 0 } := by
  decide



/-- three replicas, overlapping stamp ranges, a tombstone (kept: cutoff 0), one segment over the
    size target (skipped), `maxPer` cutting the selection: the hypotheses of the partial theorem
    hold and the compaction really rewrites the store -/
def exOps : List Op :=
  [.push (107, lww 1 5 1), .push (108, lww 2 9 2), .flush 100,
   .push (107, lww 3 7 3), .push (109, tomb 8 1), .flush 100,
   .push (110, lww 4 2 2), .flush 5000,
   .push (108, lww 5 11 1), .flush 100]

def exCfg : CompactCfg := { target := 1000, minSegs := 2, maxPer := 2, now := 0, ttlMs := 0 }

example : Coherent (content (after exOps).store) ∧
    KeepLatestAgreesWithMerge (after exOps).store exCfg ∧ NoTombstoneDropped (after exOps).store exCfg ∧
    (compactWith pinnedFlags allOk exCfg 150 (after exOps)).2 = .compacted [0, 1] 4 3 0 ∧
    (compactWith pinnedFlags allOk exCfg 150 (after exOps)).1.store ≠ (after exOps).store ∧
    recState (after exOps).store 1 =
      some [(107, lww 3 7 3), (108, lww 5 11 1), (109, tomb 8 1), (110, lww 4 2 2)] := by
  decide

end C13
end RedisVerif
