import RedisVerif.Model.GrammarGen
import RedisVerif.Lemmas.GrammarAlphabet
import RedisVerif.Props.C16

/-!
# C16 — the shape table is the grammar

`./check C16` extracts, from the match arms of `parser.rs`, `commands.rs` and `parse_lua_command_bytes`,
a shape descriptor per command (arity rule and text, slot kinds, tail, option table, constructors) and
compares it field by field with `Grammar.shapeRows table` / `shapeRows luaTable`.  The theorems here
say that this table is not a second, hand-kept description but the grammar the C16 theorems are about: every body is
the generic body `runGen` over its descriptor, the arity rule of every entry implies the domain of its body (so
`BErr.unreachable` is unreachable), and everything a grammar can answer for a command is named by the command's row
(so the `flits` / `ctor` columns the check compares with the source are complete, not merely declared).
-/
namespace RedisVerif
namespace C16

open Grammar

theorem takeSlots_fixed : ∀ (pre : List Arg) (args : List Bytes), pre.length ≤ args.length →
    takeSlots pre args =
      (match extractFixed pre (args.take pre.length) with
       | .ok ts => .ok (ts, args.drop pre.length)
       | .error e => .error e) := by
  intro pre
  induction pre with
  | nil => intro args _; simp [takeSlots, extractFixed]
  | cons a as ih =>
    intro args hl
    match args with
    | [] => simp at hl
    | v :: vs =>
      have hl' : as.length ≤ vs.length := by simpa using hl
      simp only [takeSlots, List.length_cons, List.take_succ_cons, List.drop_succ_cons, extractFixed, bind, Except.bind,
        pure, Except.pure, ih vs hl']
      cases a.extract v with
      | error e => rfl
      | ok t => cases extractFixed as (List.take as.length vs) <;> rfl

theorem takeOpt_nil (vs : List Bytes) : takeOpt [] vs = .ok ([], vs) := by
  cases vs <;> rfl

/-- every body is the generic body over its descriptor, wherever its domain admits the argument count -/
theorem body_run_gen (b : Body) (args : List Bytes) (h : b.gen.dom.ok args.length = true) :
    b.run args = runGen b.gen args := by
  cases b with
  | custom cb => exact cb.desc_ok args
  | const c => simp [Body.run, Body.gen, runGen, Arity.ok, takeSlots, takeOpt_nil, Tail.run, bind, Except.bind]
  | fixed c slots =>
    simp only [Body.gen, Arity.ok, beq_iff_eq] at h
    have hl : slots.length ≤ args.length := by omega
    simp only [Body.run, Body.gen, runGen, Arity.ok, h, beq_self_eq_true, takeSlots_fixed slots args hl, takeOpt_nil,
      Tail.run, bind, Except.bind, pure, Except.pure]
    rw [← h, List.take_length, List.drop_length]
    cases extractFixed slots args <;> simp
  | many c pre each =>
    simp only [Body.gen, Arity.ok, decide_eq_true_eq] at h
    simp only [Body.run, Body.gen, runGen, Arity.ok, h, decide_true, takeSlots_fixed pre args h, takeOpt_nil,
      Tail.run, bind, Except.bind, pure, Except.pure]
    cases extractFixed pre (List.take pre.length args) with
    | error e => rfl
    | ok ts =>
      simp only [List.append_nil]
      cases extractAll each (List.drop pre.length args) <;> rfl
  | pairs c pre a b' =>
    have hl : pre.length ≤ args.length := by
      simp only [Body.gen] at h
      split at h <;> simp only [Arity.ok, Bool.and_eq_true, decide_eq_true_eq] at h <;> exact h.1
    unfold runGen
    rw [h]
    simp only [Body.run, Body.gen, takeSlots_fixed pre args hl, takeOpt_nil,
      Tail.run, bind, Except.bind, pure, Except.pure]
    cases extractFixed pre (List.take pre.length args) with
    | error e => rfl
    | ok ts =>
      simp only [List.append_nil]
      cases extractPairs a b' (List.drop pre.length args) <;> rfl

/-- the arity rule of every entry of `from_resp`'s table implies the domain of its body -/
theorem table_doms_ok : (shapeRows table).all (fun r => aritySub r.arity r.gen.dom) = true := tables_evaluated.doms

theorem luaTable_doms_ok : (shapeRows luaTable).all (fun r => aritySub r.arity r.gen.dom) = true :=
  tables_evaluated.lua_doms

theorem row_mem_cmd {tbl : List Entry} {s : Spec} (h : Entry.cmd s ∈ tbl) : s.row [] ∈ shapeRows tbl := by
  simp only [shapeRows, List.mem_flatMap]
  exact ⟨.cmd s, h, by simp⟩

theorem row_mem_sub {tbl : List Entry} {n a : Bytes} {subs : List Spec} {d : Bytes → List Bytes → Res} {s : Spec}
    (h : Entry.family n a subs d ∈ tbl) (hs : s ∈ subs) : s.row (n ++ [46]) ∈ shapeRows tbl := by
  simp only [shapeRows, List.mem_flatMap]
  exact ⟨.family n a subs d, h, by simp only [List.mem_map]; exact ⟨s, hs, rfl⟩⟩

/-- a spec whose arity rule implies its body's domain runs the generic body -/
theorem spec_run_gen (s : Spec) (hd : aritySub s.arity s.body.gen.dom = true) (args : List Bytes) :
    s.run args = if s.arity.ok args.length then liftB (runGen s.body.gen args) else .error (.arity s.arityErr) := by
  rw [spec_run_lift]
  split
  · rw [body_run_gen s.body args (arity_sub hd _ ‹_›)]
  · rfl

/-- `Command::from_resp` on a command with a table entry: the row's arity test, then the generic body
    over the row's shape descriptor — for every frame -/
theorem parse_is_generic (name : Bytes) (args : List Bytes) (s : Spec)
    (h : findEntry table (kw name) = some (.cmd s)) :
    s.row [] ∈ shapeRows table ∧
    parseCmd (name :: args) =
      if s.arity.ok args.length then liftB (runGen s.body.gen args) else .error (.arity s.arityErr) := by
  have hm := row_mem_cmd (findEntry_mem h)
  have hd := List.all_eq_true.mp table_doms_ok _ hm
  exact ⟨hm, by rw [parse_of_find h]; exact spec_run_gen s hd args⟩

/-- the same one level down (CONFIG / ACL / SCRIPT / FUNCTION / CLIENT / OBJECT / DEBUG sub-commands) -/
theorem parse_is_generic_sub (name sub : Bytes) (args : List Bytes) (fam aerr : Bytes) (subs : List Spec)
    (d : Bytes → List Bytes → Res) (s : Spec)
    (h : findEntry table (kw name) = some (.family fam aerr subs d)) (hs : findSpec subs (kw sub) = some s) :
    s.row (fam ++ [46]) ∈ shapeRows table ∧
    parseCmd (name :: sub :: args) =
      if s.arity.ok args.length then liftB (runGen s.body.gen args) else .error (.arity s.arityErr) := by
  have hm := row_mem_sub (findEntry_mem h) (findSpec_mem hs)
  have hd := List.all_eq_true.mp table_doms_ok _ hm
  refine ⟨hm, ?_⟩
  simp only [parseCmd, parseWith, h, hs]
  exact spec_run_gen s hd args

/-- the redis.call translator on a command with a table entry -/
theorem parseLua_is_generic (name : Bytes) (args : List Bytes) (s : Spec)
    (h : findEntry luaTable (kw name) = some (.cmd s)) :
    s.row [] ∈ shapeRows luaTable ∧
    parseLua (name :: args) =
      if s.arity.ok args.length then liftB (runGen s.body.gen args) else .error (.arity s.arityErr) := by
  have hm := row_mem_cmd (findEntry_mem h)
  have hd := List.all_eq_true.mp luaTable_doms_ok _ hm
  refine ⟨hm, ?_⟩
  simp only [parseLua, h, parseWith]
  exact spec_run_gen s hd args

/-! ## the error / constructor alphabet of every command -/

theorem table_tails_plain : (shapeRows table).all (fun r => r.gen.tail.plain) = true := tables_evaluated.tails
theorem luaTable_tails_plain : (shapeRows luaTable).all (fun r => r.gen.tail.plain) = true := tables_evaluated.lua_tails

/-- what a grammar may answer for a command whose row is `(arityErr, d)` -/
def RowAllows (arityErr : Bytes) (d : GenDesc) : Res → Prop
  | .ok c => c.ctor ∈ d.ctors
  | .error (.arity t) => t = arityErr
  | .error (.body e) => e = .unreachable ∨ (∃ l ∈ d.lits, e = .lit l) ∨ (∃ f ∈ d.tail.fmts, ∃ w, e = .fmt f w)
  | .error (.unknown _) => False

theorem spec_allowed (s : Spec) (hd : aritySub s.arity s.body.gen.dom = true) (hp : s.body.gen.tail.plain = true)
    (args : List Bytes) : RowAllows s.arityErr s.body.gen (s.run args) := by
  rw [spec_run_gen s hd args]
  cases s.arity.ok args.length with
  | false => exact rfl
  | true =>
    simp only [if_true]
    have := runGen_allowed s.body.gen (body_gen_finOk s.body) hp args
    cases hr : runGen s.body.gen args with
    | ok c => rw [hr] at this; exact this
    | error e => rw [hr] at this; exact this

/-- everything `Command::from_resp` answers for a command with a table entry is named by the entry's row -/
theorem parse_alphabet (name : Bytes) (args : List Bytes) (s : Spec)
    (h : findEntry table (kw name) = some (.cmd s)) :
    RowAllows s.arityErr s.body.gen (parseCmd (name :: args)) := by
  have hm := row_mem_cmd (findEntry_mem h)
  rw [parse_of_find h]
  exact spec_allowed s (List.all_eq_true.mp table_doms_ok _ hm) (List.all_eq_true.mp table_tails_plain _ hm) args

/-- the same for the sub-commands of CONFIG / ACL / SCRIPT / FUNCTION / CLIENT / OBJECT / DEBUG -/
theorem parse_alphabet_sub (name sub : Bytes) (args : List Bytes) (fam aerr : Bytes) (subs : List Spec)
    (d : Bytes → List Bytes → Res) (s : Spec)
    (h : findEntry table (kw name) = some (.family fam aerr subs d)) (hs : findSpec subs (kw sub) = some s) :
    RowAllows s.arityErr s.body.gen (parseCmd (name :: sub :: args)) := by
  have hm := row_mem_sub (findEntry_mem h) (findSpec_mem hs)
  simp only [parseCmd, parseWith, h, hs]
  exact spec_allowed s (List.all_eq_true.mp table_doms_ok _ hm) (List.all_eq_true.mp table_tails_plain _ hm) args

/-- and for the redis.call translator -/
theorem parseLua_alphabet (name : Bytes) (args : List Bytes) (s : Spec)
    (h : findEntry luaTable (kw name) = some (.cmd s)) :
    RowAllows s.arityErr s.body.gen (parseLua (name :: args)) := by
  have hm := row_mem_cmd (findEntry_mem h)
  simp only [parseLua, h, parseWith]
  exact spec_allowed s (List.all_eq_true.mp luaTable_doms_ok _ hm) (List.all_eq_true.mp luaTable_tails_plain _ hm) args

/-- non-vacuity: the alphabet of SET — one constructor; the literals of the four valued options (each `notInt` and its
    own missing-value text), of an unknown word (`syntax`) and of the two conflict rules (`nxxx`, `syntax`): eleven
    entries, seven distinct; the format of the two refused options IFEQ / IFGT -/
example : setSpec.body.gen.ctors = [s2b "Set"] ∧
    setSpec.body.gen.lits = [.notInt, .setEx, .notInt, .setPx, .notInt, .setExat, .notInt, .setPxat, .syntax, .nxxx, .syntax] ∧
    setSpec.body.gen.tail.fmts = [.setNotSupported, .setNotSupported] := by
  refine ⟨rfl, by decide, by decide⟩

/-! ## the conflict rules of the option-scan commands, exactly -/

/-- SET: once the options have been scanned (`s`), the command is refused exactly when a rule of `setChecks`
    fires — NX with XX, or KEEPTTL with EX / PX / EXAT / PXAT — with the text of the first rule that does; no
    other combination of options is a conflict (SET … EX … PX …, SET … NX GET, … are accepted) -/
theorem conflict_rules_exact_set {name : Bytes} (hn : kw name = s2b "SET") (k v : Bytes) (opts : List Bytes) (s : Seen)
    (hs : scanOpts Bodies.setOpts (fun _ => some (.lit .syntax)) opts = .ok s) :
    parseCmd (name :: k :: v :: opts) =
      (match firstFiring s Desc.setChecks with
       | some l => .error (.body (.lit l))
       | none => .ok (Bodies.mkSet (.s (lossy k)) (.d v) (s.opt1 3) (s.opt1 4) (s.opt1 5) (s.opt1 6)
                  (s.has 0) (s.has 1) (s.has 2) (s.has 7))) := by
  rw [parse_set hn, Shape.set]
  simp only [runGen, Desc.set, Arity.ok, List.length_cons, takeSlots, takeOpt, Tail.run, bind, Except.bind, pure, Except.pure,
    Shape.extract_str, Shape.extract_sds, List.append_nil]
  have hd : decide (2 ≤ opts.length + 1 + 1) = true := by simp
  rw [Unk.fn_lit, hs]
  simp only [hd, finWithChecks]
  cases firstFiring s Desc.setChecks <;> rfl

/-- EXPIRE: refused exactly when NX comes with XX, GT or LT, or GT with LT -/
theorem conflict_rules_exact_expire {name : Bytes} (hn : kw name = s2b "EXPIRE") (k n : Bytes) (i : Int)
    (hi : parseI64 n = some i) (opts : List Bytes) (s : Seen)
    (hs : scanOpts Bodies.expireOpts (fun w => some (.fmt .unsupportedOption w)) opts = .ok s) :
    parseCmd (name :: k :: n :: opts) =
      (match firstFiring s Desc.expireChecks with
       | some l => .error (.body (.lit l))
       | none => .ok ⟨s2b "Expire", [.s (lossy k), .i i, .b (s.has 0), .b (s.has 1), .b (s.has 2), .b (s.has 3)]⟩) := by
  rw [parse_expire hn, Shape.expire]
  simp only [runGen, Desc.expire, Arity.ok, List.length_cons, takeSlots, takeOpt, Tail.run, bind, Except.bind, pure, Except.pure,
    Shape.extract_str, List.append_nil]
  have hx : aInt.extract n = .ok (.i i) := by simp [aInt, Arg.extract, hi]
  have hd : decide (2 ≤ opts.length + 1 + 1) = true := by simp
  rw [hx, Unk.fn_fmt]
  simp only [hs, hd, finWithChecks]
  cases firstFiring s Desc.expireChecks <;> rfl

/-- GETEX: refused exactly when more than one of EX / PX / EXAT / PXAT / PERSIST is given -/
theorem conflict_rules_exact_getex {name : Bytes} (hn : kw name = s2b "GETEX") (k : Bytes) (opts : List Bytes) (s : Seen)
    (hs : scanOpts Bodies.getexOpts (fun _ => some (.lit .syntax)) opts = .ok s) :
    parseCmd (name :: k :: opts) =
      (match firstFiring s Desc.getexChecks with
       | some l => .error (.body (.lit l))
       | none => .ok ⟨s2b "GetEx", [.s (lossy k), s.opt1 0, s.opt1 1, s.opt1 2, s.opt1 3, .b (s.has 4)]⟩) := by
  rw [parse_getex hn, Shape.getex]
  simp only [runGen, Desc.getex, Arity.ok, List.length_cons, takeSlots, takeOpt, Tail.run, bind, Except.bind, pure, Except.pure,
    Shape.extract_str, List.append_nil]
  have hd : decide (1 ≤ opts.length + 1) = true := by simp
  rw [Unk.fn_lit, hs]
  simp only [hd, finWithChecks]
  cases firstFiring s Desc.getexChecks <;> rfl

/-- every entry's declared conflict rules are what its finishing function tests (the `checks` column of the
    shape table) -/
theorem table_checks_ok (b : Body) : ChecksOk b.gen := by
  cases b with
  | custom cb => exact cb.checks_ok
  | const c => rfl
  | fixed c sl => rfl
  | many c p e => rfl
  | pairs c p a b' => rfl

/-- non-vacuity: `NX GET XX` fires the first rule, `KEEPTTL EX 5` the second, `EX 1 PX 2` none -/
example : firstFiring [(0, []), (2, []), (1, [])] Desc.setChecks = some .nxxx ∧
    firstFiring [(7, []), (3, [.i 5])] Desc.setChecks = some .syntax ∧
    firstFiring [(3, [.i 1]), (4, [.i 2])] Desc.setChecks = none ∧
    firstFiring [(4, []), (0, [.i 1])] Desc.getexChecks = some .syntax := by decide

/-- non-vacuity: the row of SET is found, its descriptor has two leading slots and a ten-entry option
    table, and the generic body answers what the grammar answers -/
example : findEntry table (kw (s2b "set")) = some (.cmd setSpec) ∧
    setSpec.body.gen.pre.length = 2 ∧
    (match setSpec.body.gen.tail with | .scan tbl _ => tbl.length | _ => 0) = 10 ∧
    liftB (runGen setSpec.body.gen [s2b "k", s2b "v", s2b "ex", s2b "5"]) = parseCmd [s2b "SET", s2b "k", s2b "v", s2b "EX", s2b "5"] :=
  ⟨by rw [show kw (s2b "set") = s2b "SET" by decide +kernel]; exact find_set, by rfl, by rfl, by decide +kernel⟩

end C16
end RedisVerif
