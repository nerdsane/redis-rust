import RedisVerif.Props.C07
import RedisVerif.Model.Lattice
import RedisVerif.Lemmas.ListFacts

/-!
# C07, every merge and everything exposed

`Props/C07.lean` proves the laws of `ReplicatedValue::merge`.  This file covers the REST of the
public surface of lattice.rs / crdt_value.rs / replicated_value.rs (`Model/Lattice.lean`):

the stand-alone `merge` of every lattice (idempotent, commutative, associative on canonical
values; for `LwwRegister` commutativity needs the tie hypothesis, `lww_tie_counterexample`; for
`PNCounter` idempotence and commutativity only), the stamp order, and the accessors, each of
which is a homomorphism into its own order, so a merged value shows the join of what the operands
show and nothing else.  `ObsAll` / `obsAll` collects EVERY public accessor of `ReplicatedValue` /
`CrdtValue` / the lattices in one record; `obs_all_idem/comm/assoc_partial` are corollaries of
the value-level theorems.  What the API exposes that is NOT a lattice operation comes with
kernel-checked witnesses: `LamportClock::merge` (`clock_merge_not_comm`, why the outer stamp uses
`Ord::max`), the deprecated `CrdtValue::merge`, which keeps `self` on a type mismatch
(`crdt_merge_deprecated_not_comm`, no caller), ORSet removal under state merge
(`orset_remove_not_inflationary`: removal is meant to travel as `apply_remove`),
`orset_eq_ignores_next_sequence`.
-/
namespace RedisVerif
namespace C07

open RV

/-! ## the stamp order -/

/-- `impl Ord for LamportClock` is a strict total order -/
theorem stamp_lt_total_order :
    (∀ a : Stamp, a.lt a = false) ∧
    (∀ a b c : Stamp, a.lt b = true → b.lt c = true → a.lt c = true) ∧
    (∀ a b : Stamp, a.lt b = true ∨ a = b ∨ b.lt a = true) := by
  refine ⟨Stamp.lt_irrefl, fun a b c => Stamp.lt_trans, ?_⟩
  intro a b
  by_cases h1 : a.lt b = true
  · exact Or.inl h1
  · by_cases h2 : b.lt a = true
    · exact Or.inr (Or.inr h2)
    · exact Or.inr (Or.inl (Stamp.eq_of_not_lt (by simpa using h1) (by simpa using h2)))

theorem stamp_cmp_spec (a b : Stamp) :
    (Stamp.cmp a b = 0 ↔ a.lt b = true) ∧ (Stamp.cmp a b = 2 ↔ (a.lt b = false ∧ b.lt a = true)) := by
  unfold Stamp.cmp
  cases a.lt b <;> cases b.lt a <;> simp

theorem stamp_cmp_eq (a b : Stamp) : Stamp.cmp a b = 1 ↔ a = b := by
  constructor
  · intro h
    unfold Stamp.cmp at h
    cases h1 : a.lt b <;> cases h2 : b.lt a <;> simp [h1, h2] at h
    exact Stamp.eq_of_not_lt h1 h2
  · intro h; subst h; simp [Stamp.cmp, Stamp.lt_irrefl]

/-- `LamportClock::merge` keeps `self.replica_id`: not commutative (public API; the outer stamp of
    `ReplicatedValue::merge` uses `Ord::max`) -/
theorem clock_merge_not_comm : Stamp.mergeClock ⟨5, 1⟩ ⟨3, 2⟩ ≠ Stamp.mergeClock ⟨3, 2⟩ ⟨5, 1⟩ := by decide

theorem stamp_max_aci (a b c : Stamp) :
    Stamp.max a a = a ∧ Stamp.max a b = Stamp.max b a ∧ Stamp.max a (Stamp.max b c) = Stamp.max (Stamp.max a b) c :=
  ⟨Stamp.max_idem a, Stamp.max_comm a b, Stamp.max_assoc a b c⟩

/-! ## LwwRegister -/

theorem lww_merge_idem (a : Lww) : Lww.merge a a = a := Lww.merge_idem a

theorem lww_merge_comm (a b : Lww) (h : a.ts = b.ts → a = b) : Lww.merge a b = Lww.merge b a :=
  Lww.merge_comm h

theorem lww_merge_assoc (a b c : Lww) : Lww.merge a (Lww.merge b c) = Lww.merge (Lww.merge a b) c :=
  Lww.merge_assoc a b c

/-- `get()` of a merge is the `get()` of the operand with the greater stamp -/
theorem lww_get_merge (a b : Lww) :
    (Lww.merge a b).get = if a.ts.lt b.ts then b.get else a.get := by
  unfold Lww.merge; split <;> rfl

/-! ## VectorClock -/

theorem vclock_merge_idem (a : NMap Nat) (ha : NMap.WF a) : VClock.merge a a = a := Crdt.aciCounter.idem _ ha

theorem vclock_merge_comm (a b : NMap Nat) (ha : NMap.WF a) (hb : NMap.WF b) :
    VClock.merge a b = VClock.merge b a := Crdt.aciCounter.comm _ _ ha hb

theorem vclock_merge_assoc (a b c : NMap Nat) (ha : NMap.WF a) (hb : NMap.WF b) (hc : NMap.WF c) :
    VClock.merge a (VClock.merge b c) = VClock.merge (VClock.merge a b) c := Crdt.aciCounter.assoc _ _ _ ha hb hc

theorem getD_optMerge_max (x y : Option Nat) :
    (optMerge Max.max x y).getD 0 = Max.max (x.getD 0) (y.getD 0) := by
  cases x <;> cases y <;> simp [optMerge]

/-- `get` is a homomorphism: the merged clock shows, per replica, the larger count -/
theorem vclock_get_merge (a b : NMap Nat) (ha : NMap.WF a) (hb : NMap.WF b) (r : Nat) :
    VClock.get (VClock.merge a b) r = Max.max (VClock.get a r) (VClock.get b r) := by
  simp only [VClock.get, VClock.merge, NMap.get_merge ha hb, getD_optMerge_max]

theorem get_of_mem {a : NMap Nat} (ha : NMap.WF a) {p : Nat × Nat} (hp : p ∈ a) :
    VClock.get a p.1 = p.2 := by
  simp [VClock.get, NMap.get_of_mem ha hp]

theorem happensBefore_le {a b : NMap Nat} (h : VClock.happensBefore a b = true) (r : Nat) :
    VClock.get a r ≤ VClock.get b r := by
  simp only [VClock.happensBefore, Bool.and_eq_true, List.all_eq_true, decide_eq_true_eq] at h
  cases hg : NMap.get a r with
  | none => simp [VClock.get, hg]
  | some v => simpa [VClock.get, hg] using h.1 (r, v) (NMap.mem_of_get hg)

/-- `happens_before` in terms of `get` (canonical clocks): below everywhere, strictly somewhere -/
theorem happensBefore_iff {a b : NMap Nat} (ha : NMap.WF a) (hb : NMap.WF b) :
    VClock.happensBefore a b = true ↔
      (∀ r, VClock.get a r ≤ VClock.get b r) ∧ ∃ r, VClock.get a r < VClock.get b r := by
  constructor
  · intro h
    refine ⟨happensBefore_le h, ?_⟩
    simp only [VClock.happensBefore, Bool.and_eq_true, Bool.or_eq_true, List.any_eq_true,
      decide_eq_true_eq, Option.isNone_iff_eq_none] at h
    rcases h.2 with ⟨p, hp, h⟩ | ⟨p, hp, hn, h⟩
    · exact ⟨p.1, by rwa [get_of_mem ha hp]⟩
    · exact ⟨p.1, by rwa [get_of_mem hb hp, VClock.get, hn]⟩
  · rintro ⟨hle, r, hr⟩
    simp only [VClock.happensBefore, Bool.and_eq_true, Bool.or_eq_true, List.all_eq_true,
      List.any_eq_true, decide_eq_true_eq, Option.isNone_iff_eq_none]
    refine ⟨fun p hp => by simpa [get_of_mem ha hp] using hle p.1, ?_⟩
    cases hga : NMap.get a r with
    | some v => exact Or.inl ⟨(r, v), NMap.mem_of_get hga, by simpa [VClock.get, hga] using hr⟩
    | none =>
      cases hgb : NMap.get b r with
      | none => simp [VClock.get, hga, hgb] at hr
      | some w =>
        exact Or.inr ⟨(r, w), NMap.mem_of_get hgb, hga, by simpa [VClock.get, hga, hgb] using hr⟩

theorem eq_of_get_eq {a b : NMap Nat} (ha : NMap.WF a) (hb : NMap.WF b)
    (h : ∀ r, VClock.get a r = VClock.get b r) : VClock.eq a b = true := by
  simp only [VClock.eq, Bool.and_eq_true, List.all_eq_true, beq_iff_eq]
  exact ⟨fun p hp => by rw [← h, get_of_mem ha hp], fun p hp => by rw [h, get_of_mem hb hp]⟩

/-- a clock does not happen before itself -/
theorem happens_before_irrefl (a : NMap Nat) (ha : NMap.WF a) : VClock.happensBefore a a = false := by
  cases h : VClock.happensBefore a a with
  | false => rfl
  | true =>
    obtain ⟨_, r, hr⟩ := (happensBefore_iff ha ha).mp h
    omega

/-- `happens_before` is asymmetric -/
theorem happens_before_asymm (a b : NMap Nat) (ha : NMap.WF a) (hb : NMap.WF b)
    (h : VClock.happensBefore a b = true) : VClock.happensBefore b a = false := by
  cases h' : VClock.happensBefore b a with
  | false => rfl
  | true =>
    obtain ⟨_, r, hr⟩ := (happensBefore_iff ha hb).mp h
    have := ((happensBefore_iff hb ha).mp h').1 r
    omega

/-- transitivity of `happens_before`, stated as the `get`-level facts of `happensBefore_iff`
    (no `WF c` needed) -/
theorem happens_before_le_trans (a b c : NMap Nat) (ha : NMap.WF a) (hb : NMap.WF b)
    (h1 : VClock.happensBefore a b = true) (h2 : VClock.happensBefore b c = true) :
    (∀ r, VClock.get a r ≤ VClock.get c r) ∧ ∃ r, VClock.get a r < VClock.get c r := by
  obtain ⟨hab, r, hr⟩ := (happensBefore_iff ha hb).mp h1
  exact ⟨fun r => Nat.le_trans (hab r) (happensBefore_le h2 r), r,
    Nat.lt_of_lt_of_le hr (happensBefore_le h2 r)⟩

theorem vclock_eq_symm (a b : NMap Nat) : VClock.eq a b = VClock.eq b a := by
  simp only [VClock.eq, Bool.and_comm]

theorem concurrent_symm (a b : NMap Nat) : VClock.concurrentWith a b = VClock.concurrentWith b a := by
  simp only [VClock.concurrentWith, vclock_eq_symm a b]
  cases VClock.happensBefore a b <;> cases VClock.happensBefore b a <;> rfl

/-- an operand never exceeds the merge, on any replica -/
theorem vclock_le_merge (a b : NMap Nat) (ha : NMap.WF a) (hb : NMap.WF b) (r : Nat) :
    VClock.get a r ≤ VClock.get (VClock.merge a b) r ∧ VClock.get b r ≤ VClock.get (VClock.merge a b) r := by
  rw [vclock_get_merge a b ha hb]
  exact ⟨Nat.le_max_left _ _, Nat.le_max_right _ _⟩

/-- … hence the merge never happens before an operand -/
theorem merge_not_before_operand (a b : NMap Nat) (ha : NMap.WF a) (hb : NMap.WF b) :
    VClock.happensBefore (VClock.merge a b) a = false := by
  cases h : VClock.happensBefore (VClock.merge a b) a with
  | false => rfl
  | true =>
    obtain ⟨_, r, hr⟩ := (happensBefore_iff (a := VClock.merge a b) (NMap.wf_merge ha hb) ha).mp h
    have := (vclock_le_merge a b ha hb r).1
    omega

/-- comparison and merge fit together: an operand equals the merge or happens before it -/
theorem operand_le_merge (a b : NMap Nat) (ha : NMap.WF a) (hb : NMap.WF b) :
    VClock.eq a (VClock.merge a b) = true ∨ VClock.happensBefore a (VClock.merge a b) = true := by
  have hm : NMap.WF (VClock.merge a b) := NMap.wf_merge ha hb
  have hle := fun r => (vclock_le_merge a b ha hb r).1
  by_cases hex : ∃ r, VClock.get a r < VClock.get (VClock.merge a b) r
  · exact Or.inr ((happensBefore_iff ha hm).mpr ⟨hle, hex⟩)
  · refine Or.inl (eq_of_get_eq ha hm fun r => Nat.le_antisymm (hle r) (Nat.not_lt.mp fun h => hex ⟨r, h⟩))

/-! ## GCounter / PNCounter -/

theorem gcounter_merge_idem (a : NMap Nat) (ha : NMap.WF a) : GCounter.merge a a = a := Crdt.aciCounter.idem _ ha

theorem gcounter_merge_comm (a b : NMap Nat) (ha : NMap.WF a) (hb : NMap.WF b) :
    GCounter.merge a b = GCounter.merge b a := Crdt.aciCounter.comm _ _ ha hb

theorem gcounter_merge_assoc (a b c : NMap Nat) (ha : NMap.WF a) (hb : NMap.WF b) (hc : NMap.WF c) :
    GCounter.merge a (GCounter.merge b c) = GCounter.merge (GCounter.merge a b) c :=
  Crdt.aciCounter.assoc _ _ _ ha hb hc

/-- `get_replica_count` is a homomorphism -/
theorem gcounter_count_merge (a b : NMap Nat) (ha : NMap.WF a) (hb : NMap.WF b) (r : Nat) :
    GCounter.replicaCount (GCounter.merge a b) r =
      Max.max (GCounter.replicaCount a r) (GCounter.replicaCount b r) := by
  simp only [GCounter.replicaCount, GCounter.merge, NMap.get_merge ha hb, getD_optMerge_max]

theorem value_cons (p : Nat × Nat) (m : NMap Nat) : GCounter.value (p :: m) = p.2 + GCounter.value m := by
  simp only [GCounter.value, List.map_cons, List.foldl_cons]
  rw [foldl_add_init]; omega

theorem value_erase {m : NMap Nat} (hm : NMap.WF m) (k : Nat) :
    GCounter.value m = GCounter.replicaCount m k + GCounter.value (NMap.erase k m) := by
  induction m with
  | nil => rfl
  | cons q m ih =>
    rw [GCounter.replicaCount, NMap.get_cons, NMap.erase]
    by_cases hq : k = q.1
    · rw [if_pos hq, if_pos hq, value_cons]; rfl
    · rw [if_neg hq, if_neg hq, value_cons, value_cons, ih (NMap.wf_cons.mp hm).2, GCounter.replicaCount]
      omega

/-- the total is the sum of the per-replica counts: monotone in every count -/
theorem value_le_of_count_le : ∀ (a b : NMap Nat), NMap.WF a → NMap.WF b →
    (∀ r, GCounter.replicaCount a r ≤ GCounter.replicaCount b r) → GCounter.value a ≤ GCounter.value b := by
  intro a
  induction a with
  | nil => intro b _ _ _; exact Nat.zero_le _
  | cons p a ih =>
    intro b ha hb h
    have ⟨hlb, hwa⟩ := NMap.wf_cons.mp ha
    have hk := h p.1
    rw [GCounter.replicaCount, NMap.get_cons, if_pos rfl] at hk
    rw [value_cons, value_erase hb p.1]
    refine Nat.add_le_add hk (ih _ hwa (NMap.wf_erase hb) fun r => ?_)
    rw [GCounter.replicaCount, GCounter.replicaCount, NMap.get_erase hb]
    by_cases hr : r = p.1
    · rw [if_pos hr, hr, NMap.get_eq_none_of_LB hlb (Nat.le_refl _)]; exact Nat.le_refl _
    · rw [if_neg hr]
      have := h r
      rwa [GCounter.replicaCount, GCounter.replicaCount, NMap.get_cons, if_neg hr] at this

/-- `value()` never decreases under merge -/
theorem gcounter_value_le_merge (a b : NMap Nat) (ha : NMap.WF a) (hb : NMap.WF b) :
    GCounter.value a ≤ GCounter.value (GCounter.merge a b) ∧
    GCounter.value b ≤ GCounter.value (GCounter.merge a b) := by
  have hm : NMap.WF (GCounter.merge a b) := NMap.wf_merge ha hb
  constructor
  · apply value_le_of_count_le a _ ha hm
    intro r; rw [gcounter_count_merge a b ha hb]; exact Nat.le_max_left _ _
  · apply value_le_of_count_le b _ hb hm
    intro r; rw [gcounter_count_merge a b ha hb]; exact Nat.le_max_right _ _

theorem pncounter_merge_idem (p n : NMap Nat) (hp : NMap.WF p) (hn : NMap.WF n) :
    Crdt.tryMerge (.pncounter p n) (.pncounter p n) = some (.pncounter p n) := by
  show some (Crdt.pncounter _ _) = _
  rw [Crdt.aciCounter.idem _ hp, Crdt.aciCounter.idem _ hn]

theorem pncounter_merge_comm (p n p' n' : NMap Nat) (hp : NMap.WF p) (hn : NMap.WF n)
    (hp' : NMap.WF p') (hn' : NMap.WF n') :
    Crdt.tryMerge (.pncounter p n) (.pncounter p' n') = Crdt.tryMerge (.pncounter p' n') (.pncounter p n) := by
  show some (Crdt.pncounter _ _) = some (Crdt.pncounter _ _)
  rw [Crdt.aciCounter.comm _ _ hp hp', Crdt.aciCounter.comm _ _ hn hn']

/-- the two halves of a PN-counter are merged independently and both totals only grow: a merged
    `value()` lies between `pos(a) − neg(a ⊔ b)` and `pos(a ⊔ b) − neg(a)` -/
theorem pncounter_halves_le_merge (p n p' n' : NMap Nat) (hp : NMap.WF p) (hn : NMap.WF n)
    (hp' : NMap.WF p') (hn' : NMap.WF n') :
    GCounter.value p ≤ GCounter.value (GCounter.merge p p') ∧
    GCounter.value n ≤ GCounter.value (GCounter.merge n n') :=
  ⟨(gcounter_value_le_merge p p' hp hp').1, (gcounter_value_le_merge n n' hn hn').1⟩

/-! ## GSet -/

theorem gset_merge_idem (a : NSet) (ha : NSet.WF a) : GSet.merge a a = a := NSet.union_idem ha

theorem gset_merge_comm (a b : NSet) (ha : NSet.WF a) (hb : NSet.WF b) : GSet.merge a b = GSet.merge b a :=
  NSet.union_comm ha hb

theorem gset_merge_assoc (a b c : NSet) (ha : NSet.WF a) (hb : NSet.WF b) (hc : NSet.WF c) :
    GSet.merge a (GSet.merge b c) = GSet.merge (GSet.merge a b) c := NSet.union_assoc ha hb hc

theorem mem_nset_union (a b : NSet) (x : Nat) : x ∈ NSet.union a b ↔ x ∈ a ∨ x ∈ b := by
  induction a with
  | nil => simp [NSet.union]
  | cons y a ih =>
    show x ∈ NSet.insert y (NSet.union a b) ↔ _
    rw [NSet.mem_insert, ih, List.mem_cons, or_assoc]

/-- membership is a homomorphism: an element is in the merge iff it is in one of the operands -/
theorem gset_contains_merge (a b : NSet) (e : Nat) :
    GSet.contains (GSet.merge a b) e = (GSet.contains a e || GSet.contains b e) := by
  simp only [GSet.contains, GSet.merge]
  rw [Bool.eq_iff_iff]
  simp only [List.contains_iff_mem, Bool.or_eq_true]
  exact mem_nset_union a b e

/-! ## ORSet -/

theorem nset_union_eq_nil (a b : NSet) : NSet.union a b = [] ↔ a = [] ∧ b = [] := by
  cases a with
  | nil => simp [NSet.union]
  | cons x a =>
    constructor
    · intro h; exact absurd h (NSet.insert_ne_nil _ _)
    · intro h; cases h.1

/-- `contains` is a homomorphism: an element is in the merged OR-set iff one of the operands has
    it (with a live tag) -/
theorem orset_contains_merge (a b : NMap NSet) (ha : NMap.WF a) (hb : NMap.WF b) (e : Nat) :
    ORSet.contains (Crdt.orsetMergeElems a b) e = (ORSet.contains a e || ORSet.contains b e) := by
  simp only [ORSet.contains, Crdt.orsetMergeElems]
  rw [NMap.get_filter _ (NMap.wf_merge ha hb), NMap.get_merge ha hb]
  cases hga : NMap.get a e <;> cases hgb : NMap.get b e <;> simp only [optMerge, Option.filter]
  · rfl
  · rename_i y
    cases y <;> simp
  · rename_i x
    cases x <;> simp
  · rename_i x y
    by_cases hu : NSet.union x y = []
    · obtain ⟨rfl, rfl⟩ := (nset_union_eq_nil x y).mp hu
      simp [NSet.union]
    · have hne : (NSet.union x y).isEmpty = false := by
        cases h : NSet.union x y with
        | nil => exact absurd h hu
        | cons _ _ => rfl
      simp only [hne, Bool.not_false, if_true]
      have : ¬ (x = [] ∧ y = []) := fun h => hu ((nset_union_eq_nil x y).mpr h)
      cases x <;> cases y <;> simp_all

/-! ## the `CrdtValue` level

Within one kind `try_merge` is `merge_with_timestamps` (`Crdt.tryMerge_of_kind_eq`, any stamps), so
its laws are those of `Props/C07.lean`. -/

theorem try_merge_idem (a : Crdt) (ha : a.WF) : Crdt.tryMerge a a = some a := by
  rw [Crdt.tryMerge_of_kind_eq rfl ⟨0, 0⟩ ⟨0, 0⟩, crdt_mwt_idem _ ha]

/-- `try_merge` of two values of one kind is commutative (registers tie-consistent; within one
    kind `tieOk` ignores its stamp arguments, so any two will do) -/
theorem try_merge_comm (a b : Crdt) (ha : a.WF) (hb : b.WF) (hk : a.kind = b.kind)
    (ht : tieOk a b ⟨0, 1⟩ ⟨0, 2⟩ = true) : Crdt.tryMerge a b = Crdt.tryMerge b a := by
  rw [Crdt.tryMerge_of_kind_eq hk ⟨0, 1⟩ ⟨0, 2⟩, Crdt.tryMerge_of_kind_eq hk.symm ⟨0, 2⟩ ⟨0, 1⟩,
    crdt_mwt_comm ha hb ht]

/-- `try_merge` is associative within one kind -/
theorem try_merge_assoc (a b c : Crdt) (ha : a.WF) (hb : b.WF) (hc : c.WF)
    (hab : a.kind = b.kind) (hbc : b.kind = c.kind) :
    (Crdt.tryMerge b c).bind (Crdt.tryMerge a) = (Crdt.tryMerge a b).bind (fun m => Crdt.tryMerge m c) := by
  have s : Stamp := ⟨0, 0⟩
  rw [Crdt.tryMerge_of_kind_eq hbc s s, Crdt.tryMerge_of_kind_eq hab s s, Option.bind_some,
    Option.bind_some, Crdt.tryMerge_of_kind_eq (hab.trans (Crdt.kind_mwt hbc s s).symm) s s,
    Crdt.tryMerge_of_kind_eq ((Crdt.kind_mwt hab s s).trans (hab.trans hbc)) s s,
    crdt_mwt_assoc_samekind s s s s s ha hb hc hab hbc]

/-! ## `ORSet::merge` (elements and sequence counters), `Hash` merge (per-field registers) -/

theorem orset_merge_comm (e e' : NMap NSet) (s s' : NMap Nat)
    (h : (Crdt.orset e s).WF) (h' : (Crdt.orset e' s').WF) :
    Crdt.orsetMergeElems e e' = Crdt.orsetMergeElems e' e ∧
    NMap.merge Max.max s s' = NMap.merge Max.max s' s :=
  ⟨Crdt.orsetMerge_comm h.1 h.2.2 h'.1 h'.2.2, Crdt.aciCounter.comm _ _ h.2.1 h'.2.1⟩

theorem orset_merge_idem (e : NMap NSet) (s : NMap Nat) (h : (Crdt.orset e s).WF) :
    Crdt.orsetMergeElems e e = e ∧ NMap.merge Max.max s s = s :=
  ⟨Crdt.orsetMerge_idem h.1 h.2.2, Crdt.aciCounter.idem _ h.2.1⟩

theorem orset_merge_assoc (e1 e2 e3 : NMap NSet) (s1 s2 s3 : NMap Nat)
    (h1 : (Crdt.orset e1 s1).WF) (h2 : (Crdt.orset e2 s2).WF) (h3 : (Crdt.orset e3 s3).WF) :
    Crdt.orsetMergeElems e1 (Crdt.orsetMergeElems e2 e3) = Crdt.orsetMergeElems (Crdt.orsetMergeElems e1 e2) e3 :=
  Crdt.orsetMerge_assoc h1.1 h1.2.2 h2.1 h2.2.2 h3.1 h3.2.2

theorem hash_merge_idem (h : NMap Lww) (hw : NMap.WF h) : NMap.merge Lww.merge h h = h :=
  Crdt.hmerge_idem hw

theorem hash_merge_comm (h h' : NMap Lww) (hw : NMap.WF h) (hw' : NMap.WF h')
    (ht : tieOk (.hash h) (.hash h') ⟨0, 1⟩ ⟨0, 2⟩ = true) :
    NMap.merge Lww.merge h h' = NMap.merge Lww.merge h' h :=
  Crdt.hmerge_comm hw hw' (tieOk_hash.mp ht)

theorem hash_merge_assoc (h1 h2 h3 : NMap Lww) (w1 : NMap.WF h1) (w2 : NMap.WF h2) (w3 : NMap.WF h3) :
    NMap.merge Lww.merge h1 (NMap.merge Lww.merge h2 h3) = NMap.merge Lww.merge (NMap.merge Lww.merge h1 h2) h3 :=
  Crdt.hmerge_assoc w1 w2 w3

/-- a field of a merged hash is the LWW merge of the operands' registers for that field -/
theorem hash_field_merge (h h' : NMap Lww) (hw : NMap.WF h) (hw' : NMap.WF h') (f : Nat) :
    NMap.get (NMap.merge Lww.merge h h') f = optMerge Lww.merge (NMap.get h f) (NMap.get h' f) :=
  NMap.get_merge hw hw' f

/-- the deprecated `CrdtValue::merge` agrees with `try_merge` on one kind and keeps `self`
    otherwise: it is not commutative (public, `#[deprecated]`, no caller in the crate) -/
theorem crdt_merge_deprecated_not_comm :
    Crdt.mergeDeprecated (.lww (Lww.set [1] ⟨1, 1⟩)) (.gcounter [(1, 1)]) ≠
      Crdt.mergeDeprecated (.gcounter [(1, 1)]) (.lww (Lww.set [1] ⟨1, 1⟩)) := by decide

theorem crdt_merge_deprecated_same_kind (a b : Crdt) (h : a.kind = b.kind) :
    some (Crdt.mergeDeprecated a b) = Crdt.tryMerge a b := by
  induction a, b, h using Crdt.same_kind_cases <;> rfl

/-! ## what is exposed that is not a lattice operation -/

/-- removing an element from an OR-set is not inflationary for the STATE merge: merged with a
    replica that has not seen the removal the element is back (removal travels as `apply_remove`) -/
theorem orset_remove_not_inflationary :
    let s := (ORSet.add [] [] 7 1)
    let r := ORSet.remove s.1 7
    Crdt.orsetMergeElems r.1 s.1 = s.1 ∧ ORSet.contains r.1 7 = false ∧
      ORSet.contains (Crdt.orsetMergeElems r.1 s.1) 7 = true ∧
      ORSet.contains (ORSet.applyRemove s.1 7 r.2) 7 = false := by decide

/-- `PartialEq for ORSet` does not look at `next_sequence` (two sets that will hand out different
    tags compare equal) -/
theorem orset_eq_ignores_next_sequence :
    let a := ORSet.add [] [] 7 1
    ORSet.eq a.1 a.1 = true ∧ a.2.1 ≠ ([] : NMap Nat) := by decide

/-! ## every accessor, one observation -/

/-- every public accessor of `ReplicatedValue`, `CrdtValue` and the lattices inside, applied to a
    value (accessors with an argument are given as the finite table of their non-default answers:
    the stored map / set itself, canonical) -/
structure ObsAll where
  get : Option Bytes                       -- ReplicatedValue::get
  isTombstone : Bool                       -- is_tombstone
  crdtType : String                        -- crdt_type / type_name
  isLww : Bool                             -- is_lww
  isHash : Bool                            -- is_hash
  lww : Option Lww                         -- lww / as_lww (value, timestamp, tombstone)
  hash : Option (NMap Lww)                 -- get_hash / as_hash (field registers)
  hashGet : List (Nat × Bytes)             -- hash_get for every field that answers
  gcounter : Option (NMap Nat)             -- as_gcounter → get_replica_count
  gcounterValue : Option Nat               -- GCounter::value
  gcounterEmpty : Option Bool              -- GCounter::is_empty
  pncounter : Option (NMap Nat × NMap Nat) -- as_pncounter
  pncounterValue : Option Int              -- PNCounter::value
  pncounterEmpty : Option Bool
  gset : Option NSet                       -- as_gset → contains / elements / len / is_empty
  orset : Option (NMap NSet × NMap Nat)    -- as_orset → get_tags, next_sequence
  orsetElements : Option (List Nat)        -- ORSet::elements / contains / len / is_empty
  vc : Option (NMap Nat)                   -- vector_clock → VectorClock::get
  expiry : Option Nat                      -- expiry_ms
  stamp : Stamp                            -- timestamp
  rf : Option Nat                          -- replication_factor / get_replication_factor
  deriving DecidableEq, Repr

def obsAll (a : RV) : ObsAll :=
  { get := a.get
    isTombstone := a.isTombstone
    crdtType := a.crdtType
    isLww := a.crdt.isLww
    isHash := a.isHash
    lww := a.lww
    hash := a.getHash
    hashGet := (a.crdt.hashOf).filterMap (fun p => p.2.get.map (fun v => (p.1, v)))
    gcounter := a.crdt.asGCounter
    gcounterValue := a.crdt.asGCounter.map GCounter.value
    gcounterEmpty := a.crdt.asGCounter.map GCounter.isEmpty
    pncounter := a.crdt.asPNCounter
    pncounterValue := a.crdt.asPNCounter.map (fun p => PNCounter.value p.1 p.2)
    pncounterEmpty := a.crdt.asPNCounter.map (fun p => PNCounter.isEmpty p.1 p.2)
    gset := a.crdt.asGSet
    orset := a.crdt.asORSet
    orsetElements := a.crdt.asORSet.map (fun p => ORSet.elements p.1)
    vc := a.vc
    expiry := a.expiry
    stamp := a.ts
    rf := a.rf }

/-- **C07 in all it exposes**: every accessor sees an idempotent, commutative (tie-consistent
    operands) and — for one kind — associative merge -/
theorem obs_all_idem (a : RV) (ha : a.WF) : obsAll (merge a a) = obsAll a := by
  rw [rv_merge_idem a ha]

theorem obs_all_comm (a b : RV) (ha : a.WF) (hb : b.WF) (ht : TieConsistent a b) :
    obsAll (merge a b) = obsAll (merge b a) := by
  rw [rv_merge_comm a b ha hb ht]

theorem obs_all_assoc_partial (a b c : RV) (ha : a.WF) (hb : b.WF) (hc : c.WF) (hk : SameKind a b c) :
    obsAll (merge a (merge b c)) = obsAll (merge (merge a b) c) := by
  rw [rv_merge_assoc_partial a b c ha hb hc hk]

/-- four of the seven fields of `obs` (`Props/C07.lean`) are fields of `obsAll` -/
theorem obs_of_obsAll (a b : RV) (h : obsAll a = obsAll b) :
    (obs a).value = (obs b).value ∧ (obs a).tombstone = (obs b).tombstone ∧
    (obs a).expiry = (obs b).expiry ∧ (obs a).stamp = (obs b).stamp := by
  have h1 := congrArg ObsAll.get h
  have h2 := congrArg ObsAll.isTombstone h
  have h3 := congrArg ObsAll.expiry h
  have h4 := congrArg ObsAll.stamp h
  exact ⟨h1, h2, h3, h4⟩

/-- the cross-kind finding seen through `hash_get`: field `f` of the two association orders -/
theorem assoc_cross_kind_seen_by_hash_get :
    (merge hashA (merge lwwB hashC)).hashGet 102 = some [49] ∧
    (merge (merge hashA lwwB) hashC).hashGet 102 = none := by decide

example : (obsAll exOr1).orsetElements = some [7] ∧ (obsAll (merge exOr1 exOr2)).orsetElements = some [7, 9] ∧
    (obsAll (merge exOr1 exOr2)).rf = some 3 ∧ (obsAll (merge exOr1 exOr2)).crdtType = "orset" := by decide

end C07
end RedisVerif
