import RedisVerif.Props.C06AE
import RedisVerif.Lemmas.SimLww
import RedisVerif.Lemmas.SimServed

/-!
# C06 over the simulator cluster — loss, delay, partitions that heal, anti-entropy

`Model/SimCluster.lean` transcribes `MultiNodeSimulation`: client `SET[EX]` / `DEL` on any node,
`gossip_round` (bounded outbox drained, broadcast or selective routing, per-send loss and delay,
partitions checked at send and at delivery, a FIFO queue whose head blocks what is behind it),
`partition`, `heal_partition` (with automatic anti-entropy), `run_anti_entropy_sync` (real Merkle
digests, divergent buckets, `max_keys_per_sync`, both delta sets built from the pre-states),
`run_full_anti_entropy`.

Every execution of the simulator cluster, of any length, is an execution of layer 1 with state
transfers (`Model/ClusterAE.lean`): the client commands are its local operations, in order;
everything else is a delivery of an issued delta or the building / application of a state
transfer.  Such an execution only ever holds LWW registers, so every key is kind-stable, and
`sim_converges_among` is **the property for the simulator cluster, no hypothesis but delivery**:
for every history of client writes on any nodes and every network behaviour the simulator can
produce (delay, reordering across senders, loss followed by redelivery or anti-entropy,
partitions that heal), once each update of a key has reached every replica responsible for it, as
a gossiped delta or inside an anti-entropy transfer, all those replicas hold the same value, and
it is the write with the greatest stamp.
-/
namespace RedisVerif
namespace C06

open Cluster ACluster SimC

/-- **the simulator cluster refines layer 1 with state transfers** -/
theorem sim_refines_cluster_ae (H : AE.Hasher) (cfg : Cfg) (n : Nat) (causal : Bool)
    (routers : List (Option Gossip.Router)) (autoAE : Bool) (evs : List SEv) :
    ∃ es : List AEv,
      ((Sim.init n causal routers autoAE).run H cfg evs).abs = (ACluster.init n causal).run es ∧
      es.filter isLocA = (evs.flatMap locsOf).map AEv.ev := by
  obtain ⟨_, es, h, hf⟩ := run_sim H cfg evs (Sim.init n causal routers autoAE) (sinv_init n causal routers autoAE)
  exact ⟨es, by rw [h, abs_init], hf⟩

/-- every delta a simulator execution ever issues is an LWW register -/
theorem sim_kind_stable (H : AE.Hasher) (cfg : Cfg) (n : Nat) (causal : Bool)
    (routers : List (Option Gossip.Router)) (autoAE : Bool) (evs : List SEv) (k : Nat) :
    KindStable ((Sim.init n causal routers autoAE).run H cfg evs).abs.base k 0 := by
  obtain ⟨es, h, hf⟩ := sim_refines_cluster_ae H cfg n causal routers autoAE evs
  rw [h]
  intro m hm _
  exact (lwwInv_run es _ (lwwInv_init n causal) (strEv_of_filter evs es hf)).sent m hm

/-- **C06 for the simulator cluster**: delivery (by gossip or anti-entropy) ⇒ the responsible
    replicas agree.  `DeliveredTo` reads the ghost absorption log of the model. -/
theorem sim_converges_among (H : AE.Hasher) (cfg : Cfg) (n : Nat) (causal : Bool)
    (routers : List (Option Gossip.Router)) (autoAE : Bool) (evs : List SEv) (k : Nat) (S : List Nat)
    (hd : DeliveredTo ((Sim.init n causal routers autoAE).run H cfg evs).abs.base S k) :
    AgreeAmong ((Sim.init n causal routers autoAE).run H cfg evs).abs.base S k := by
  have hk := sim_kind_stable H cfg n causal routers autoAE evs k
  obtain ⟨es, h, _⟩ := sim_refines_cluster_ae H cfg n causal routers autoAE evs
  rw [h] at hk hd ⊢
  exact rs_converges_among_ae n causal es k 0 S hk hd

/-- … and the agreed register is the write with the greatest stamp -/
theorem sim_winner_is_max_stamp (H : AE.Hasher) (cfg : Cfg) (n : Nat) (causal : Bool)
    (routers : List (Option Gossip.Router)) (autoAE : Bool) (evs : List SEv) (k : Nat) (S : List Nat)
    (hd : DeliveredTo ((Sim.init n causal routers autoAE).run H cfg evs).abs.base S k)
    (i : Nat) (hiS : i ∈ S) (nd : SNode)
    (hnd : ((Sim.init n causal routers autoAE).run H cfg evs).nodes[i]? = some nd)
    (v : RV) (hv : NMap.get nd.ps.sh.keys k = some v) :
    ∃ r, v.crdt = .lww r ∧
      (∃ m ∈ ((Sim.init n causal routers autoAE).run H cfg evs).issued, m.key = k ∧ m.val.crdt = .lww r) ∧
      ∀ m ∈ ((Sim.init n causal routers autoAE).run H cfg evs).issued, m.key = k → ∀ r', m.val.crdt = .lww r' →
        (r'.ts.lt r.ts = true ∨ r' = r) := by
  have hk := sim_kind_stable H cfg n causal routers autoAE evs k
  have hsi := abs_nodes_get _ i nd hnd
  obtain ⟨es, h, _⟩ := sim_refines_cluster_ae H cfg n causal routers autoAE evs
  have hiss : ((Sim.init n causal routers autoAE).run H cfg evs).issued
      = ((Sim.init n causal routers autoAE).run H cfg evs).abs.base.sent := rfl
  rw [hiss]
  rw [h] at hk hd hsi ⊢
  exact winner_is_max_stamp_ae n causal es k S hk hd i hiS nd.ps.sh hsi v hv

/-- **C06 for the simulator cluster, second half (a replica serves what its replication state
    says)**: after every history, on every node, for every key: `GET` on the node's executor
    returns exactly the live value of its replication state (nothing for a tombstone or an unknown
    key) — `execute` records what it executes, `apply_remote_deltas` writes the merged value through. -/
theorem sim_served_equals_replicated (H : AE.Hasher) (cfg : Cfg) (n : Nat) (causal : Bool)
    (routers : List (Option Gossip.Router)) (autoAE : Bool) (evs : List SEv) (i : Nat) (nd : SNode)
    (hnd : ((Sim.init n causal routers autoAE).run H cfg evs).nodes[i]? = some nd) (k : Nat) :
    NMap.get nd.kv k = (NMap.get nd.ps.sh.keys k).bind RV.get :=
  ((servedInv_run H cfg evs _ (servedInv_init n causal routers autoAE)).node nd (List.mem_of_getElem? hnd)).served k

/-- … hence replicas whose replication states agree on a key answer `GET` alike -/
theorem sim_reads_agree_of_agree (H : AE.Hasher) (cfg : Cfg) (n : Nat) (causal : Bool)
    (routers : List (Option Gossip.Router)) (autoAE : Bool) (evs : List SEv) (i j : Nat) (ni nj : SNode)
    (hi : ((Sim.init n causal routers autoAE).run H cfg evs).nodes[i]? = some ni)
    (hj : ((Sim.init n causal routers autoAE).run H cfg evs).nodes[j]? = some nj) (k : Nat)
    (h : (NMap.get ni.ps.sh.keys k).map RV.strip = (NMap.get nj.ps.sh.keys k).map RV.strip) :
    NMap.get ni.kv k = NMap.get nj.kv k := by
  rw [sim_served_equals_replicated H cfg n causal routers autoAE evs i ni hi k,
    sim_served_equals_replicated H cfg n causal routers autoAE evs j nj hj k]
  cases ha : NMap.get ni.ps.sh.keys k with
  | none =>
    cases hb : NMap.get nj.ps.sh.keys k with
    | none => rfl
    | some y => rw [ha, hb] at h; cases h
  | some x =>
    cases hb : NMap.get nj.ps.sh.keys k with
    | none => rw [ha, hb] at h; cases h
    | some y =>
      rw [ha, hb] at h
      simp only [Option.map_some, Option.some.injEq] at h
      have : x.crdt = y.crdt := by
        have := congrArg RV.crdt h
        simpa [RV.strip] using this
      simp [RV.get, this]

/-- a hasher for kernel evaluation: the key hash is the key code, the value hash an injective code
    of the stream (`Lemmas/AntiEntropy.lean`) -/
def toyH : AE.Hasher := AE.idealH

def cfg2 : Cfg := { depth := 1, limit := 1000, pendingCap := 100 }

def kvAt (c : Sim) (i k : Nat) : Option (Option Bytes) := c.nodes[i]?.map (fun nd => NMap.get nd.kv k)

/-! ## `SET … NX / XX` through the simulator node -/

/-- "a node serves what its replication state says", for histories that also contain conditional
    SETs, with the recorder gated (`true` = `currentGate`) or not (`false` = the code before
    9afba77) -/
def C06_sim_serves_replicated (gate : Bool) : Prop :=
  ∀ (H : AE.Hasher) (cfg : Cfg) (n : Nat) (causal : Bool) (routers : List (Option Gossip.Router)) (autoAE : Bool)
    (evs : List XEv) (i : Nat) (nd : SNode),
    ((Sim.init n causal routers autoAE).runX gate H cfg evs).nodes[i]? = some nd →
    ∀ k, NMap.get nd.kv k = (NMap.get nd.ps.sh.keys k).bind RV.get

/-- with the gate a conditional SET is a plain SET or nothing: every history is a plain history -/
theorem runX_gated_is_run (H : AE.Hasher) (cfg : Cfg) (evs : List XEv) : ∀ (c : Sim),
    ∃ evs' : List SEv, c.runX true H cfg evs = c.run H cfg evs' := by
  induction evs with
  | nil => intro c; exact ⟨[], rfl⟩
  | cons e evs ih =>
    intro c
    have hstep : ∃ es : List SEv, Sim.stepX true H cfg c e = c.run H cfg es := by
      cases e with
      | plain e => exact ⟨[e], rfl⟩
      | setCond i k v nx =>
        simp only [Sim.stepX]
        split
        · exact ⟨[], rfl⟩
        · split
          · exact ⟨[.exec i (.set k v none)], rfl⟩
          · exact ⟨[], rfl⟩
    obtain ⟨es1, h1⟩ := hstep
    obtain ⟨es2, h2⟩ := ih (Sim.stepX true H cfg c e)
    refine ⟨es1 ++ es2, ?_⟩
    simp only [Sim.runX, List.foldl_cons] at h2 ⊢
    rw [h2, h1]
    simp [Sim.run, List.foldl_append]

/-- **with the recorder gated the statement holds for every history** (the repaired code) -/
theorem sim_serves_replicated_gated : C06_sim_serves_replicated true := by
  intro H cfg n causal routers autoAE evs i nd hnd k
  obtain ⟨evs', h⟩ := runX_gated_is_run H cfg evs (Sim.init n causal routers autoAE)
  rw [h] at hnd
  exact sim_served_equals_replicated H cfg n causal routers autoAE evs' i nd hnd k

/-- **the code before 9afba77** (finding `C06:sim:refused-set-recorded`): `SET x a; SET x b NX` on
    node 0 of the simulator cluster: the executor refuses the second SET and keeps serving `a`, `execute` records
    it all the same — node 0's replication state says `b`, and after one gossip round node 1 serves
    `b`: the node that accepted the writes answers differently from its peer for ever. -/
theorem sim_refused_set_recorded_counterexample :
    let c := (Sim.init 2 false [] false).runX false toyH cfg2
      [ .plain (.exec 0 (.set kX [97] none)), .setCond 0 kX [98] true, .plain (.gossip []), .plain (.advance 10), .plain (.gossip []) ]
    kvAt c 0 kX = some (some [97]) ∧ kvAt c 1 kX = some (some [98]) ∧
    c.nodes[0]?.map (fun nd => (NMap.get nd.ps.sh.keys kX).bind RV.get) = some (some [98]) ∧ c.queue = [] := by
  decide +kernel

theorem C06_sim_serves_replicated_ungated_false : ¬ C06_sim_serves_replicated false := by
  intro h
  have hbad : ((Sim.init 2 false [] false).runX false toyH cfg2
      [ .plain (.exec 0 (.set kX [97] none)), .setCond 0 kX [98] true ]).nodes[0]?.map
        (fun nd => decide (NMap.get nd.kv kX = (NMap.get nd.ps.sh.keys kX).bind RV.get)) = some false := by
    decide +kernel
  cases hnd : ((Sim.init 2 false [] false).runX false toyH cfg2
      [ .plain (.exec 0 (.set kX [97] none)), .setCond 0 kX [98] true ]).nodes[0]? with
  | none => rw [hnd] at hbad; cases hbad
  | some nd =>
    have := h toyH cfg2 2 false [] false _ 0 nd hnd kX
    rw [hnd] at hbad
    simp only [Option.map_some, Option.some.injEq, decide_eq_false_iff_not] at hbad
    exact hbad this

/-! ## witnesses (kernel-evaluated with a toy hasher; the driver runs the model with SipHash) -/

/-- three nodes, node 2 cut off from both others; node 0 accepts `SET x a`, `SET x b`; a gossip
    round ships them to node 1 only (the flights to node 2 are dropped at the partition check).
    Nothing ever re-sends a delta: without anti-entropy node 2 stays empty for ever. -/
def partitionedWrites : List SEv :=
  [ .partition 0 2, .partition 1 2, .exec 0 (.set kX [97] none), .exec 0 (.set kX [98] none),
    .gossip [], .advance 10, .gossip [] ]

theorem partition_loses_deltas_for_good :
    let c := (Sim.init 3 false [] false).run toyH cfg2 (partitionedWrites ++ [.heal 0 2, .heal 1 2, .advance 10, .gossip []])
    kvAt c 0 kX = some (some [98]) ∧ kvAt c 1 kX = some (some [98]) ∧ kvAt c 2 kX = some none ∧
    c.queue = [] ∧ c.parts = [] ∧ ¬ DeliveredTo c.abs.base [0, 1, 2] kX := by
  decide +kernel

/-- the same history with `auto_anti_entropy`: healing ONE of the two partitions runs one exchange
    with a node that has the writes — every update has reached node 2 (inside a transfer), all
    three nodes hold and serve `b` -/
theorem partition_healed_by_anti_entropy :
    let c := (Sim.init 3 false [] true).run toyH cfg2 (partitionedWrites ++ [.heal 1 2])
    kvAt c 0 kX = some (some [98]) ∧ kvAt c 1 kX = some (some [98]) ∧ kvAt c 2 kX = some (some [98]) ∧
    c.syncs = 1 ∧ c.parts = [(0, 2)] ∧ DeliveredTo c.abs.base [0, 1, 2] kX := by
  decide +kernel

set_option maxRecDepth 8000 in
/-- non-vacuity of `sim_converges_among` with selective gossip: key `x` lives on replicas 1 and 2
    (nodes 0, 1); both deltas of node 0 for node 1 are lost (loss oracle), nothing re-sends them;
    an explicit exchange repairs it; node 2 (not responsible) never hears of `x` -/
example :
    let r (others : List Nat) : Option Gossip.Router := some { selective := true, targets := [(kX, others)] }
    let c := (Sim.init 3 false [r [2], r [1], r [1, 2]] false).run toyH cfg2
      [ .exec 0 (.set kX [97] none), .gossip [(true, 0)], .exec 0 (.set kX [98] none), .gossip [(true, 0)],
        .exec 1 (.set kY [1] none), .advance 5, .gossip [], .sync 0 1 ]
    DeliveredTo c.abs.base [0, 1] kX ∧ ¬ DeliveredTo c.abs.base [0, 1, 2] kX ∧ DeliveredTo c.abs.base [0, 1] kY ∧
    kvAt c 0 kX = some (some [98]) ∧ kvAt c 1 kX = some (some [98]) ∧ kvAt c 2 kX = some none ∧
    c.issued.length = 3 ∧ c.snaps.length = 2 := by
  decide +kernel

end C06
end RedisVerif
