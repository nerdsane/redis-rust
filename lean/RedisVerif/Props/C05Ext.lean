import RedisVerif.Model.Txn
import RedisVerif.Lemmas.Txn
import RedisVerif.Lemmas.TxnKV
import RedisVerif.Props.C05

/-!
# C05, second part — the whole decision table, the guarantee EXEC does give, the other front ends

`Txn.step` against its decision table as data (the harness extracts the same table from the real
handler); the isolation EXEC gives under EVERY schedule (a plain pipeline; atomic with respect to
clients whose commands are independent of the transaction — `exec_serializable_of_independent` of
`Props/C05.lean`, discharged here for clients on other keys); the connection-level and the
executor-level machine in lock step, and exactly where they part; one executor shared by several
clients (`SimulationHarness`, `RedisServer`); the replicated front end (`server_persistent`), which
has no transaction state at all.
-/
namespace RedisVerif
namespace C05

open Txn

section
variable {σ κ γ ρ : Type} [DecidableEq ρ]

attribute [local simp] rcls icls tableReply tableNext tableQueue tableWatch

/-- what `tableWatch` says about the watch list -/
def watchActHolds (a : WAct) (before after : List (κ × ρ)) : Prop :=
  match a with
  | .keep => after = before
  | .clear => after = []
  | .extend => ∃ more, after = before ++ more

/-- **`step` is the decision table**, for every backend, schedule, state and input: class of the
    reply, next `(in_transaction, transaction_errors)`, next queue length, fate of the watch list
    (the store: `step_table_store`) -/
theorem step_table (B : Backend σ κ γ ρ) (sc : List (List γ)) (t : ConnTxn κ γ ρ) (s : σ)
    (i : Input κ γ) :
    rcls (step B sc t s i).2.2 =
      tableReply t.inTxn t.errors (checkWatch B sc s t.watched).2.2 t.queue.length (icls i) ∧
    ((step B sc t s i).1.inTxn, (step B sc t s i).1.errors) = tableNext t.inTxn t.errors (icls i) ∧
    (step B sc t s i).1.queue.length = tableQueue t.inTxn t.queue.length (icls i) ∧
    watchActHolds (tableWatch t.inTxn (icls i)) t.watched (step B sc t s i).1.watched := by
  cases hin : t.inTxn
  · cases i <;> simp [step, hin, watchActHolds]
  · cases i
    case exec =>
      cases herr : t.errors
      · cases hw : (checkWatch B sc s t.watched).2.2 <;>
          simp [step, hin, herr, hw, watchActHolds, ConnTxn.idle, runQueue_length]
      · simp [step, hin, herr, watchActHolds, ConnTxn.idle]
    all_goals simp [step, hin, watchActHolds, ConnTxn.idle]

/-- inputs that may touch the store: EXEC inside MULTI, commands executed outside MULTI -/
def mayTouchStore (inTxn : Bool) : ICls → Bool
  | .exec => inTxn
  | .cmd => !inTxn
  | .unknown => !inTxn
  | _ => false

theorem step_table_store (B : Backend σ κ γ ρ) (sc : List (List γ)) (t : ConnTxn κ γ ρ) (s : σ)
    (i : Input κ γ) (h : mayTouchStore t.inTxn (icls i) = false) : (step B sc t s i).2.1 = s := by
  cases hin : t.inTxn <;> cases i <;> simp_all [step, mayTouchStore, icls]

/-- outside MULTI the queue is empty and the error flag is down -/
def Clean (t : ConnTxn κ γ ρ) : Prop := t.inTxn = false → t.queue = [] ∧ t.errors = false

theorem step_clean (B : Backend σ κ γ ρ) (sc : List (List γ)) (t : ConnTxn κ γ ρ) (s : σ)
    (i : Input κ γ) (h : Clean t) : Clean (step B sc t s i).1 := by
  unfold Clean at *
  cases hin : t.inTxn
  · have := h hin
    cases i <;> simp_all [step]
  · -- inside MULTI an input either keeps the transaction open or leaves the idle state
    cases hi : endsTxn i
    · rw [step_inside B sc t s i hin hi]; exact fun h => nomatch hin.symm.trans h
    · rw [step_ends B sc t s i hin hi]; exact fun _ => ⟨rfl, rfl⟩

/-- **every reachable state is clean**: from a fresh connection, after any trace under any
    schedules, `in_transaction = false` implies an empty queue and no error flag — the table's
    rows "outside MULTI with a non-empty queue / with the flag up" do not exist -/
theorem reachable_outside_clean (B : Backend σ κ γ ρ)
    (evs : List (Input κ γ × List (List γ))) :
    ∀ (t : ConnTxn κ γ ρ) (s : σ), Clean t → Clean (run B t s evs).1 := by
  induction evs with
  | nil => intro t s h; exact h
  | cons e rest ih =>
    intro t s h
    simp only [run]
    exact ih _ _ (step_clean B e.2 t s e.1 h)

omit [DecidableEq ρ] in
theorem idle_clean : Clean (ConnTxn.idle : ConnTxn κ γ ρ) := fun _ => ⟨rfl, rfl⟩

/-- a transaction that is never finished (connection closed, client gone, read buffer dropped
    after a protocol error) has changed nothing: after MULTI and ANY inputs other than EXEC /
    DISCARD the store is the store before MULTI -/
theorem abandoned_txn_has_no_effect (B : Backend σ κ γ ρ) (t : ConnTxn κ γ ρ) (s : σ)
    (sc : List (List γ)) (body : List (Input κ γ × List (List γ)))
    (hout : t.inTxn = false) (hb : ∀ e ∈ body, endsTxn e.1 = false) :
    (run B t s ((.multi, sc) :: body)).2.1 = s := by
  simp only [run]
  rw [table_multi B sc t s hout, run_inside B body _ s rfl hb]

/-- a protocol error inside MULTI: error reply, nothing else — in particular the transaction is
    NOT flagged (`Txn.step`, the code before 6b9d6a7; Redis closes the connection) -/
theorem table_protocol_error (B : Backend σ κ γ ρ) (sc : List (List γ)) (t : ConnTxn κ γ ρ) (s : σ) :
    step B sc t s .protoErr = (t, s, .err .protocol) := by
  cases h : t.inTxn <;> simp [step, h]

end

/-! ## a protocol error between MULTI and EXEC -/

section
variable {σ κ γ ρ : Type} [DecidableEq ρ]

/-- the two errors that, as in Redis, leave a transaction usable -/
def benignInMulti : ConnErr → Bool
  | .nestedMulti => true
  | .watchInMulti => true
  | _ => false

/-- **a queue-time error discards the transaction**: every input between MULTI and EXEC that is
    answered with an error — other than a nested MULTI / a WATCH, which Redis tolerates too —
    flags the transaction, so that EXEC answers EXECABORT and applies nothing -/
def C05_error_reply_flags (stepF : Backend σ κ γ ρ → List (List γ) → ConnTxn κ γ ρ → σ → Input κ γ →
    ConnTxn κ γ ρ × σ × Reply ρ) : Prop :=
  ∀ (B : Backend σ κ γ ρ) (sc : List (List γ)) (t : ConnTxn κ γ ρ) (s : σ) (i : Input κ γ) (e : ConnErr),
    t.inTxn = true → endsTxn i = false → (stepF B sc t s i).2.2 = .err e → benignInMulti e = false →
    (stepF B sc t s i).1.errors = true

/-- the fix changes nothing but the flag after a protocol error inside MULTI -/
theorem stepFixed_eq_step (B : Backend σ κ γ ρ) (sc : List (List γ)) (t : ConnTxn κ γ ρ) (s : σ)
    (i : Input κ γ) (h : i ≠ .protoErr ∨ t.inTxn = false) : stepFixed B sc t s i = step B sc t s i := by
  cases i <;> simp_all [stepFixed, step]

/-- **full** for the current tree (`Txn.stepFixed`, since `fix:` 6b9d6a7) -/
theorem error_reply_flags_fixed : C05_error_reply_flags (σ := σ) (κ := κ) (γ := γ) (ρ := ρ) stepFixed := by
  intro B sc t s i e hin hi hr hb
  cases i <;> simp_all [stepFixed, step, endsTxn] <;> (subst hr; simp [benignInMulti] at hb)

/-- **partial** (the pinned tree, `Txn.step`): holds for every input but the protocol error, on which
    alone the two trees differ -/
theorem error_reply_flags_partial (B : Backend σ κ γ ρ) (sc : List (List γ)) (t : ConnTxn κ γ ρ)
    (s : σ) (i : Input κ γ) (e : ConnErr) (hin : t.inTxn = true) (hi : endsTxn i = false)
    (hp : i ≠ .protoErr) (hr : (step B sc t s i).2.2 = .err e) (hb : benignInMulti e = false) :
    (step B sc t s i).1.errors = true := by
  rw [← stepFixed_eq_step B sc t s i (.inl hp)] at hr ⊢
  exact error_reply_flags_fixed B sc t s i e hin hi hr hb

end

/-- PINNED commit (before `fix:` 6b9d6a7; `Txn.step`): REFUTED — `MULTI; SET k 1; <bytes that are not RESP>; EXEC` — the
    connection answers `-ERR protocol error`, does not flag the transaction, and EXEC applies the
    rest (Redis closes the connection, so nothing is applied) -/
theorem protocol_error_not_flagged_counterexample :
    ¬ C05_error_reply_flags (σ := KV.Store) (κ := Nat) (γ := KV.Cmd) (ρ := KV.Rep) step := by
  intro h
  have := h KV.backend [] { inTxn := true, queue := [.set 1 [49]], errors := false, watched := [] } []
    .protoErr .protocol rfl rfl (by decide) rfl
  revert this
  decide

/-- the witness as a trace, the tree before 6b9d6a7 vs the current tree -/
example :
    let tr : List (Input Nat KV.Cmd) := [.multi, .cmd (.set 1 [49]), .protoErr, .exec]
    (tr.foldl (fun (a : ConnTxn Nat KV.Cmd KV.Rep × KV.Store × List (Reply KV.Rep)) i =>
        let r := stepWith false KV.backend [] a.1 a.2.1 i; (r.1, r.2.1, a.2.2 ++ [r.2.2]))
      (ConnTxn.idle, [], [])).2 =
      ([(1, .str [49])], [.ok, .queued, .err .protocol, .results [.simple .ok]]) ∧
    (tr.foldl (fun (a : ConnTxn Nat KV.Cmd KV.Rep × KV.Store × List (Reply KV.Rep)) i =>
        let r := stepWith true KV.backend [] a.1 a.2.1 i; (r.1, r.2.1, a.2.2 ++ [r.2.2]))
      (ConnTxn.idle, [], [])).2 =
      ([], [.ok, .queued, .err .protocol, .err .execAbort]) := by
  decide

section
variable {σ κ γ ρ : Type} [DecidableEq ρ]

/-! ## the strongest guarantee EXEC gives under every schedule -/

/-- the queued commands sent as a PLAIN PIPELINE outside MULTI (state `t0`), the other clients'
    commands served at the same places (`sc[j]` right before the j-th command) -/
def plainPipeline (B : Backend σ κ γ ρ) :
    List (List γ) → ConnTxn κ γ ρ → σ → List γ → List (List γ) × σ × List (Reply ρ)
  | sc, _, s, [] => (sc, s, [])
  | sc, t0, s, c :: cs =>
    let s1 := foreign B s (sc.headD [])
    let r := step B [] t0 s1 (.cmd c)
    let q := plainPipeline B sc.tail r.1 r.2.1 cs
    (q.1, q.2.1, r.2.2 :: q.2.2)

theorem plainPipeline_eq_runQueue (B : Backend σ κ γ ρ) (q : List γ) :
    ∀ (sc : List (List γ)) (t0 : ConnTxn κ γ ρ) (s : σ), t0.inTxn = false →
      (plainPipeline B sc t0 s q).1 = (runQueue B sc s q).1 ∧
      (plainPipeline B sc t0 s q).2.1 = (runQueue B sc s q).2.1 ∧
      (plainPipeline B sc t0 s q).2.2 = (runQueue B sc s q).2.2.map .plain := by
  induction q with
  | nil => intro sc t0 s _; exact ⟨rfl, rfl, rfl⟩
  | cons c cs ih =>
    intro sc t0 s h0
    have hs : step B [] t0 (foreign B s (sc.headD [])) (.cmd c) =
        (t0, (B.exec (foreign B s (sc.headD [])) c).1, .plain (B.exec (foreign B s (sc.headD [])) c).2) := by
      simp [step, h0]
    simp only [plainPipeline, runQueue, hs]
    obtain ⟨a, b, d⟩ := ih sc.tail t0 (B.exec (foreign B s (sc.headD [])) c).1 h0
    exact ⟨a, b, by rw [d]; rfl⟩

/-- **EXEC without watched keys = the same commands as a plain pipeline**, under EVERY schedule of
    the other clients: same store, same results.  This is the whole isolation the connection-level
    EXEC provides — per-command atomicity and program order, nothing more (and nothing less). -/
theorem exec_equals_pipeline (B : Backend σ κ γ ρ) (sched : List (List γ)) (t t0 : ConnTxn κ γ ρ)
    (s : σ) (hin : t.inTxn = true) (herr : t.errors = false) (hw : t.watched = [])
    (h0 : t0.inTxn = false) :
    step B sched t s .exec =
      (ConnTxn.idle,
       foreign B (plainPipeline B sched t0 s t.queue).2.1 (plainPipeline B sched t0 s t.queue).1.flatten,
       .results ((plainPipeline B sched t0 s t.queue).2.2.filterMap unplain)) := by
  obtain ⟨a, b, d⟩ := plainPipeline_eq_runQueue B t.queue sched t0 s h0
  rw [a, b, d, step_exec B sched t s hin herr rfl rfl, hw]
  simp [checkWatch, List.filterMap_map, Function.comp_def, unplain]

/-- `exec_serializable_of_independent` as membership in the serial outcomes: `C05_exec_atomic`'s
    conclusion holds for independent clients -/
theorem exec_atomic_of_independent [DecidableEq σ] (B : Backend σ κ γ ρ) (Inv : σ → Prop)
    (hinv : ∀ s c, Inv s → Inv (B.exec s c).1) (sched : List (List γ)) (t : ConnTxn κ γ ρ) (s : σ)
    (hin : t.inTxn = true) (herr : t.errors = false) (hs : Inv s)
    (hi : ∀ f ∈ sched.flatten, Indep B Inv t.queue (t.watched.map (·.1)) f) :
    ((step B sched t s .exec).2.1, (step B sched t s .exec).2.2) ∈
      (splits sched.flatten).map (fun p => serialExec B t s p.1 p.2) := by
  rw [exec_serializable_of_independent B Inv hinv sched t s hin herr hs hi]
  exact List.mem_map.mpr ⟨([], sched.flatten), mem_splits_append [] _, rfl⟩

end

/-! ## independence discharged on the concrete store: clients that work on other keys -/

/-- `c` is a single-key or key-less command that does not touch key `k` -/
def avoidsKey (k : Nat) (c : KV.Cmd) : Bool := KV.single c && decide (KV.keyOf c ≠ some k)

/-- on the concrete store a single-key command on key `kf` is independent of every transaction
    whose queued commands are single-key / key-less commands on other keys and whose watched keys
    are other keys (canonical stores; every command keeps a store canonical: `KV.exec_wf`) -/
theorem kv_indep_of_other_keys (f : KV.Cmd) (kf : Nat) (hf : KV.keyOf f = some kf)
    (q : List KV.Cmd) (ws : List Nat) (hq : ∀ c ∈ q, avoidsKey kf c = true) (hw : kf ∉ ws) :
    Indep KV.backend NMap.WF q ws f := by
  have frame_f : ∀ s, NMap.WF s → ∀ k, k ≠ kf → NMap.get (KV.exec s f).1 k = NMap.get s k :=
    fun s h k hk => KV.exec_frame s h f kf k hf hk
  -- a command on another key answers, and leaves at its key, after `f` what it does without `f`
  have after_f : ∀ (c : KV.Cmd) (kc : Nat), KV.keyOf c = some kc → kc ≠ kf → ∀ s, NMap.WF s →
      (KV.exec (KV.exec s f).1 c).2 = (KV.exec s c).2 ∧
      NMap.get (KV.exec (KV.exec s f).1 c).1 kc = NMap.get (KV.exec s c).1 kc :=
    fun c kc hkc hne s hs => KV.exec_local _ s (KV.exec_wf s hs f) hs c kc hkc (frame_f s hs kc hne)
  have hq' : ∀ c ∈ q, KV.single c = true ∧ ∀ kc, KV.keyOf c = some kc → kc ≠ kf := fun c hc => by
    have := hq c hc
    simp only [avoidsKey, Bool.and_eq_true, decide_eq_true_eq] at this
    exact ⟨this.1, fun kc hkc h => this.2 (h ▸ hkc)⟩
  refine ⟨fun c hc s hs => ?_, fun c hc s hs => ?_, fun k hk s hs =>
    (after_f (.get k) k rfl (fun h => hw (h ▸ hk)) s hs).1⟩
  · obtain ⟨hsingle, hne⟩ := hq' c hc
    show (KV.exec (KV.exec s f).1 c).1 = (KV.exec (KV.exec s c).1 f).1
    cases hkc : KV.keyOf c with
    | none => rw [(KV.exec_keyless _ s c hsingle hkc).1, (KV.exec_keyless s s c hsingle hkc).1]
    | some kc =>
      have w1 := KV.exec_wf s hs f
      have w2 := KV.exec_wf s hs c
      have frame_c := fun s h k hk => KV.exec_frame s h c kc k hkc hk
      apply NMap.ext (KV.exec_wf _ w1 c) (KV.exec_wf _ w2 f)
      intro k
      by_cases h1 : k = kc
      · subst h1
        rw [(after_f c k hkc (hne k hkc) s hs).2, frame_f _ w2 k (hne k hkc)]
      · by_cases h2 : k = kf
        · subst h2
          rw [frame_c _ w1 k h1, (KV.exec_local _ s w2 hs f k hf (frame_c s hs k h1)).2]
        · rw [frame_c _ w1 k h1, frame_f s hs k h2, frame_f _ w2 k h2, frame_c s hs k h1]
  · obtain ⟨hsingle, hne⟩ := hq' c hc
    show (KV.exec (KV.exec s f).1 c).2 = (KV.exec s c).2
    cases hkc : KV.keyOf c with
    | none => exact (KV.exec_keyless _ s c hsingle hkc).2
    | some kc => exact (after_f c kc hkc (hne kc hkc) s hs).1

/-- **EXEC on the concrete store is atomic with respect to clients that work on other keys**,
    under EVERY schedule: if every command served to the other clients while EXEC runs is a
    single-key command on a key that no queued command touches and that is not watched, the
    outcome (store, reply, watch verdict) is the serial outcome "EXEC in one piece, then the
    others" -/
theorem kv_exec_serializable_other_keys (sched : List (List KV.Cmd)) (t : ConnTxn Nat KV.Cmd KV.Rep)
    (s : KV.Store) (hin : t.inTxn = true) (herr : t.errors = false) (hs : NMap.WF s)
    (hf : ∀ f ∈ sched.flatten, ∃ kf, KV.keyOf f = some kf ∧
      (∀ c ∈ t.queue, avoidsKey kf c = true) ∧ kf ∉ t.watched.map (·.1)) :
    ((step KV.backend sched t s .exec).2.1, (step KV.backend sched t s .exec).2.2) =
      serialExec KV.backend t s [] sched.flatten :=
  exec_serializable_of_independent KV.backend NMap.WF (fun s c h => KV.exec_wf s h c) sched t s hin herr hs
    (fun f hm => by
      obtain ⟨kf, h1, h2, h3⟩ := hf f hm
      exact kv_indep_of_other_keys f kf h1 t.queue (t.watched.map (·.1)) h2 h3)

/-! ## the two machines in lock step -/

/-- two lists related element by element (core has no `Forall₂`) -/
inductive Rel2 {α β : Type} (R : α → β → Prop) : List α → List β → Prop where
  | nil : Rel2 R [] []
  | cons {a : α} {b : β} {l : List α} {m : List β} : R a b → Rel2 R l m → Rel2 R (a :: l) (b :: m)

theorem Rel2.append {α β : Type} {R : α → β → Prop} {l1 l2 : List α} {m1 m2 : List β}
    (h1 : Rel2 R l1 m1) (h2 : Rel2 R l2 m2) : Rel2 R (l1 ++ l2) (m1 ++ m2) := by
  induction h1 with
  | nil => exact h2
  | cons hab _ ih => exact Rel2.cons hab ih

section
variable {σ κ γ ρ ν : Type} [DecidableEq ρ] [DecidableEq κ] [DecidableEq ν]

/-- the common alphabet embedded into the connection-level machine's inputs -/
def toConn : XInput κ γ → Input κ γ
  | .multi => .multi
  | .exec => .exec
  | .discard => .discard
  | .unwatch => .unwatch
  | .watch ks => .watch ks
  | .cmd c => .cmd c

/-- replies up to the shape of "aborted by WATCH" (`*-1` at the connection, `$-1` at the executor)
    and the error texts both machines share -/
def toX : Reply ρ → Option (XReply ρ)
  | .ok => some .ok
  | .queued => some .queued
  | .nil => some .nil
  | .results rs => some (.results rs)
  | .plain r => some (.plain r)
  | .err .nestedMulti => some (.err .nestedMulti)
  | .err .watchInMulti => some (.err .watchInMulti)
  | .err .execWithoutMulti => some (.err .execWithoutMulti)
  | .err .discardWithoutMulti => some (.err .discardWithoutMulti)
  | .err _ => none

/-- the executor under the connection: the same `exec`, plus the raw value the executor-level
    WATCH snapshots -/
def xOf (B : Backend σ κ γ ρ) (value : σ → κ → Option ν) : XBackend σ κ γ ρ ν :=
  { exec := B.exec, value := value }

/-- the GET reply of `k` taken at `s0` tells exactly as much as the value taken at `s0`: at every
    later store the reply is unchanged iff the value is -/
def GetFaithfulAt (B : Backend σ κ γ ρ) (value : σ → κ → Option ν) (s0 : σ) (k : κ) : Prop :=
  ∀ s, B.getReply s k = B.getReply s0 k ↔ value s k = value s0 k

/-- a queued entry of the connection and the corresponding entry of the executor's queue -/
def QRel (B : Backend σ κ γ ρ) (c : γ) : XQ γ → Prop
  | .cmd c' => c = c'
  | .unwatch => c = B.unwatchCmd

/-- a snapshot of the connection and the corresponding snapshot of the executor: same key, and
    they match the current store together -/
def WRel (B : Backend σ κ γ ρ) (value : σ → κ → Option ν) (p : κ × ρ) (q : κ × Option ν) : Prop :=
  p.1 = q.1 ∧ ∀ s, B.getReply s p.1 = p.2 ↔ value s p.1 = q.2

/-- the simulation relation -/
structure Sim (B : Backend σ κ γ ρ) (value : σ → κ → Option ν) (t : ConnTxn κ γ ρ)
    (x : ExTxn κ γ ν) : Prop where
  inTxn : t.inTxn = x.inTxn
  errors : t.errors = false
  queue : Rel2 (QRel B) t.queue x.queue
  watched : Rel2 (WRel B value) t.watched x.watched

/-- what an input must satisfy for the machines to stay in step: a WATCH outside MULTI names
    fresh, distinct keys whose GET reply is faithful at this moment -/
def Guard (B : Backend σ κ γ ρ) (value : σ → κ → Option ν) (t : ConnTxn κ γ ρ) (s : σ) :
    XInput κ γ → Prop
  | .watch ks =>
    t.inTxn = true ∨
      (ks.Nodup ∧ (∀ k ∈ ks, k ∉ t.watched.map (·.1)) ∧ ∀ k ∈ ks, GetFaithfulAt B value s k)
  | _ => True

omit [DecidableEq ρ] [DecidableEq κ] [DecidableEq ν] in
theorem runSeq_xrunQueue (B : Backend σ κ γ ρ) (value : σ → κ → Option ν) (okR : ρ)
    (hU : ∀ s, B.exec s B.unwatchCmd = (s, okR)) (q : List γ) (xq : List (XQ γ))
    (h : Rel2 (QRel B) q xq) :
    ∀ s, runSeq B s q = xrunQueue (xOf B value) okR s xq := by
  induction h with
  | nil => intro s; rfl
  | @cons c xc cs xcs hc _ ih =>
    intro s
    cases xc with
    | cmd c' =>
      have : c = c' := hc
      subst this
      simp only [runSeq, xrunQueue, xOf]
      rw [ih]
      rfl
    | unwatch =>
      have : c = B.unwatchCmd := hc
      subst this
      simp only [runSeq, xrunQueue, hU]
      rw [ih]

omit [DecidableEq κ] in
theorem any_wrel (B : Backend σ κ γ ρ) (value : σ → κ → Option ν) (s : σ)
    (w : List (κ × ρ)) (xw : List (κ × Option ν)) (h : Rel2 (WRel B value) w xw) :
    w.any (fun p => decide (B.getReply s p.1 ≠ p.2)) =
      xw.any (fun p => decide (value s p.1 ≠ p.2)) := by
  induction h with
  | nil => rfl
  | @cons p q ps qs hpq _ ih =>
    simp only [List.any_cons, ih]
    obtain ⟨hk, hf⟩ := hpq
    have := hf s
    rw [← hk]
    by_cases h1 : B.getReply s p.1 = p.2
    · have h2 := this.mp h1
      simp [h1, h2]
    · have h2 : ¬ value s p.1 = q.2 := fun hh => h1 (this.mpr hh)
      simp [h1, h2]

omit [DecidableEq ρ] [DecidableEq ν] in
/-- WATCH of fresh distinct keys: the executor's map grows by the same keys in the same order -/
theorem watch_fold_fresh (value : σ → κ → Option ν) (s : σ) (ks : List κ) :
    ∀ (m : List (κ × Option ν)), ks.Nodup → (∀ k ∈ ks, k ∉ m.map (·.1)) →
      ks.foldl (fun w k => putIfAbsent k (value s k) w) m = m ++ ks.map (fun k => (k, value s k)) := by
  induction ks with
  | nil => intro m _ _; simp
  | cons k rest ih =>
    intro m hnd hfresh
    have hk : k ∉ m.map (·.1) := hfresh k (by simp)
    have hnd' : rest.Nodup := (List.nodup_cons.mp hnd).2
    have hkr : k ∉ rest := (List.nodup_cons.mp hnd).1
    simp only [List.foldl_cons]
    rw [putIfAbsent_eq, if_neg hk, ih _ hnd']
    · simp
    · intro k' hk' hmem
      simp only [List.map_append, List.map_cons, List.map_nil, List.mem_append, List.mem_singleton] at hmem
      rcases hmem with hmem | hmem
      · exact hfresh k' (by simp [hk']) hmem
      · subst hmem; exact hkr hk'

omit [DecidableEq κ] [DecidableEq ν] [DecidableEq ρ] in
theorem forall2_keys (B : Backend σ κ γ ρ) (value : σ → κ → Option ν)
    (w : List (κ × ρ)) (xw : List (κ × Option ν)) (h : Rel2 (WRel B value) w xw) :
    w.map (·.1) = xw.map (·.1) := by
  induction h with
  | nil => rfl
  | @cons p q _ _ hpq _ ih => simp [ih, hpq.1]

omit [DecidableEq ρ] [DecidableEq κ] [DecidableEq ν] in
theorem sim_idle (B : Backend σ κ γ ρ) (value : σ → κ → Option ν) :
    Sim B value (ConnTxn.idle : ConnTxn κ γ ρ) (ExTxn.idle : ExTxn κ γ ν) :=
  ⟨rfl, rfl, Rel2.nil, Rel2.nil⟩

omit [DecidableEq ρ] [DecidableEq κ] [DecidableEq ν] in
theorem rel2_watch_maps (B : Backend σ κ γ ρ) (value : σ → κ → Option ν) (s : σ) (ks : List κ) :
    (∀ k ∈ ks, GetFaithfulAt B value s k) →
      Rel2 (WRel B value) (ks.map (fun k => (k, B.getReply s k))) (ks.map (fun k => (k, value s k))) := by
  induction ks with
  | nil => intro _; exact Rel2.nil
  | cons k rest ih =>
    intro g3
    exact Rel2.cons ⟨rfl, fun s' => g3 k (by simp) s'⟩ (ih (fun k' hk' => g3 k' (by simp [hk'])))

/-- **one step in lock step**: related states, a guarded input, nobody interfering — same store,
    the same reply (up to `toX`), related states again -/
theorem sim_step (B : Backend σ κ γ ρ) (value : σ → κ → Option ν) (okR : ρ)
    (hU : ∀ s, B.exec s B.unwatchCmd = (s, okR)) (t : ConnTxn κ γ ρ) (x : ExTxn κ γ ν) (s : σ)
    (i : XInput κ γ) (hS : Sim B value t x) (hG : Guard B value t s i) :
    (step B [] t s (toConn i)).2.1 = (xstep (xOf B value) okR x s i).2.1 ∧
    toX (step B [] t s (toConn i)).2.2 = some (xstep (xOf B value) okR x s i).2.2 ∧
    Sim B value (step B [] t s (toConn i)).1 (xstep (xOf B value) okR x s i).1 := by
  obtain ⟨h1, h2, h3, h4⟩ := hS
  cases hin : t.inTxn <;> have hx : x.inTxn = _ := h1.symm.trans hin
  · -- outside MULTI
    cases i with
    | watch ks =>
      obtain ⟨g1, g2, g3⟩ : ks.Nodup ∧ (∀ k ∈ ks, k ∉ t.watched.map (·.1)) ∧ ∀ k ∈ ks, GetFaithfulAt B value s k :=
        hG.resolve_left (by rw [hin]; exact Bool.noConfusion)
      have e2 : xstep (xOf B value) okR x s (.watch ks) =
          ({ x with watched := x.watched ++ ks.map (fun k => (k, value s k)) }, s, .ok) := by
        simp only [xstep, xstepWith, hx, Bool.false_eq_true, if_false, watchPut, if_true, xOf]
        rw [watch_fold_fresh value s ks x.watched g1 (by rw [← forall2_keys B value _ _ h4]; exact g2)]
      rw [toConn, watch_snapshot_is_get B [] t s ks hin, e2]
      exact ⟨rfl, rfl, h1, h2, h3, Rel2.append h4 (rel2_watch_maps B value s ks g3)⟩
    | multi =>
      simp only [toConn, step, xstep, xstepWith, hin, hx, Bool.false_eq_true, if_false]
      exact ⟨trivial, rfl, rfl, rfl, .nil, h4⟩
    | unwatch =>
      simp only [toConn, step, xstep, xstepWith, hin, hx, Bool.false_eq_true, if_false]
      exact ⟨trivial, rfl, rfl, h2, h3, .nil⟩
    | _ =>
      simp only [toConn, step, xstep, xstepWith, xOf, hin, hx, Bool.false_eq_true, if_false]
      exact ⟨trivial, rfl, h1, h2, h3, h4⟩
  · -- inside MULTI
    cases i with
    | exec =>
      rw [toConn, xstep_exec (xOf B value) okR x s hx, exec_quiet B [] t s hin h2 noInterleaving_nil, serialExec_nil_left,
        show (x.watched.any fun p => decide ((xOf B value).value s p.1 ≠ p.2)) = _ from
          (any_wrel B value s t.watched x.watched h4).symm,
        ← runSeq_xrunQueue B value okR hU t.queue x.queue h3 s]
      split <;> exact ⟨rfl, rfl, sim_idle B value⟩
    | discard =>
      simp only [toConn, step, xstep, xstepWith, hin, hx, if_true]
      exact ⟨trivial, rfl, sim_idle B value⟩
    | unwatch =>
      simp only [toConn, step, xstep, xstepWith, hin, hx, if_true]
      exact ⟨trivial, rfl, rfl, h2, h3.append (.cons rfl .nil), h4⟩
    | cmd c =>
      simp only [toConn, step, xstep, xstepWith, hin, hx, if_true]
      exact ⟨trivial, rfl, rfl, h2, h3.append (.cons rfl .nil), h4⟩
    | _ =>
      simp only [toConn, step, xstep, xstepWith, hin, hx, if_true]
      exact ⟨trivial, rfl, h1, h2, h3, h4⟩

/-- the guard along a trace (evaluated on the connection-level run) -/
def Guarded (B : Backend σ κ γ ρ) (value : σ → κ → Option ν) :
    ConnTxn κ γ ρ → σ → List (XInput κ γ) → Prop
  | _, _, [] => True
  | t, s, i :: rest =>
    Guard B value t s i ∧
      Guarded B value (step B [] t s (toConn i)).1 (step B [] t s (toConn i)).2.1 rest

/-- **the connection-level machine simulates the executor-level machine** (and vice versa: both
    are deterministic) on every trace of the common alphabet — MULTI, EXEC, DISCARD, WATCH,
    UNWATCH, data commands — with nobody interfering, provided each WATCH outside MULTI names
    fresh keys whose GET reply is faithful at that moment: same final store, the same replies up
    to the shape of nil, related final states.  So every executor-level theorem of Props/C05.lean
    (`x_exec_equals_sequential`, `x_watch_detects_iff`, …) transfers to the connection on such
    traces; the hypotheses are exactly where the two differ (see the counterexamples below). -/
theorem conn_simulates_executor_partial (B : Backend σ κ γ ρ) (value : σ → κ → Option ν) (okR : ρ)
    (hU : ∀ s, B.exec s B.unwatchCmd = (s, okR)) (is : List (XInput κ γ)) :
    ∀ (t : ConnTxn κ γ ρ) (x : ExTxn κ γ ν) (s : σ), Sim B value t x → Guarded B value t s is →
      (run B t s (is.map (fun i => (toConn i, [])))).2.1 = (xrun (xOf B value) okR x s is).2.1 ∧
      (run B t s (is.map (fun i => (toConn i, [])))).2.2.map toX =
        (xrun (xOf B value) okR x s is).2.2.map some ∧
      Sim B value (run B t s (is.map (fun i => (toConn i, [])))).1 (xrun (xOf B value) okR x s is).1 := by
  induction is with
  | nil => intro t x s hS _; exact ⟨rfl, rfl, hS⟩
  | cons i rest ih =>
    intro t x s hS hG
    obtain ⟨g1, g2⟩ := hG
    obtain ⟨a, b, c⟩ := sim_step B value okR hU t x s i hS g1
    simp only [List.map_cons, run, xrun]
    rw [a] at g2 ⊢
    obtain ⟨a', b', c'⟩ := ih _ _ _ c g2
    exact ⟨a', by rw [b, b'], c'⟩

end

theorem getFaithfulAt_of_ne_iff {σ κ γ ρ ν : Type} [DecidableEq ρ] [DecidableEq ν] {B : Backend σ κ γ ρ}
    {value : σ → κ → Option ν} {s0 : σ} {k : κ}
    (h : ∀ s, B.getReply s k ≠ B.getReply s0 k ↔ value s k ≠ value s0 k) : GetFaithfulAt B value s0 k :=
  fun s => Decidable.not_iff_not.1 (h s)

/-- on the concrete store the GET reply of a key that is a string or missing is faithful -/
theorem kv_getFaithful (s0 : KV.Store) (k : Nat) (h : strOrMissing s0 k = true) :
    GetFaithfulAt KV.backend NMap.get s0 k :=
  getFaithfulAt_of_ne_iff fun s =>
    (watch_detects_iff s0 s k).trans (and_iff_left (by simp [nonString, h]))

/-- non-vacuity: a guarded trace on the concrete store (string keys; a WATCH, a foreign-free
    body with a run-time failing command and an UNWATCH inside MULTI), both machines side by side -/
example :
    let is : List (XInput Nat KV.Cmd) :=
      [.watch [1, 2], .cmd (.set 3 [7]), .multi, .cmd (.incr 1), .cmd (.llen 1), .unwatch, .exec,
       .watch [1], .cmd (.append 1 [48]), .multi, .cmd (.get 1), .exec]
    (run KV.backend ConnTxn.idle [(1, .str [53])] (is.map (fun i => (toConn i, [])))).2.2.map toX =
      (xrun (xOf KV.backend NMap.get) (.simple .ok) ExTxn.idle [(1, .str [53])] is).2.2.map some ∧
    (xrun (xOf KV.backend NMap.get) (.simple .ok) ExTxn.idle [(1, .str [53])] is).2.2.getLast? = some .nil := by
  decide

/-- **divergence 1 — a key watched twice**: `WATCH k` (value 0), k := 1, `WATCH k` again, k := 0,
    `MULTI; EXEC`.  The connection compares EVERY snapshot (the second one, 1, differs: nil); the
    executor keeps the FIRST (0 = 0: the queue runs).  Hence the freshness guard. -/
theorem machines_differ_on_rewatch_counterexample :
    let is : List (XInput Nat KV.Cmd) :=
      [.watch [1], .cmd (.set 1 [49]), .watch [1], .cmd (.set 1 [48]), .multi, .exec]
    (run KV.backend ConnTxn.idle [(1, .str [48])] (is.map (fun i => (toConn i, [])))).2.2.getLast? =
      some .nil ∧
    (xrun (xOf KV.backend NMap.get) (.simple .ok) ExTxn.idle [(1, .str [48])] is).2.2.getLast? =
      some (.results []) := by
  decide

/-- **divergence 2 — a watched key that is not a string**: the executor sees the push, the
    connection does not.  Hence the faithfulness guard. -/
theorem machines_differ_on_nonstring_counterexample :
    let is : List (XInput Nat KV.Cmd) := [.watch [1], .cmd (.rpush 1 [[50]]), .multi, .exec]
    (run KV.backend ConnTxn.idle [(1, .list [[49]])] (is.map (fun i => (toConn i, [])))).2.2.getLast? =
      some (.results []) ∧
    (xrun (xOf KV.backend NMap.get) (.simple .ok) ExTxn.idle [(1, .list [[49]])] is).2.2.getLast? =
      some .nil := by
  decide

/-! ## one executor shared by several clients (`SimulationHarness`, `RedisServer`) -/

section
variable {σ κ γ ρ ν : Type} [DecidableEq κ] [DecidableEq ν]

/-- the shared machine is the single-client machine on the merged input sequence: the client id
    is ignored -/
theorem xsharedRun_is_xrun (X : XBackend σ κ γ ρ ν) (okR : ρ) (evs : List (Nat × XInput κ γ)) :
    ∀ (t : ExTxn κ γ ν) (s : σ),
      (xsharedRun X okR t s evs).1 = (xrun X okR t s (evs.map (·.2))).1 ∧
      (xsharedRun X okR t s evs).2.1 = (xrun X okR t s (evs.map (·.2))).2.1 ∧
      (xsharedRun X okR t s evs).2.2.map (·.2) = (xrun X okR t s (evs.map (·.2))).2.2 := by
  induction evs with
  | nil => intro t s; exact ⟨rfl, rfl, rfl⟩
  | cons e rest ih =>
    intro t s
    obtain ⟨a, b, c⟩ := ih (xstep X okR t s e.2).1 (xstep X okR t s e.2).2.1
    simp only [xsharedRun, List.map_cons, xrun]
    exact ⟨a, b, by rw [c]⟩

/-- the replies that went to client `a` -/
def repliesOf (a : Nat) (rs : List (Nat × XReply ρ)) : List (XReply ρ) :=
  (rs.filter (fun r => r.1 == a)).map (·.2)

/-- number of results of an EXEC reply -/
def resultCount : XReply ρ → Option Nat
  | .results rs => some rs.length
  | _ => none

end

/-- the transaction of client `a` on a shared executor: `MULTI`, then `body` (data commands of any
    clients), then `EXEC` by `a`.  C05 for client `a`: EXEC returns exactly one result per command
    that `a` sent, and what the OTHER clients sent in between was executed at once (answered with
    its result, not with QUEUED). -/
def C05_x_shared_own_queue : Prop :=
  ∀ (s : KV.Store) (a : Nat) (body : List (Nat × KV.Cmd)),
    let r := xsharedRun KV.xbackend (.simple .ok) ExTxn.idle s
      ((a, .multi) :: body.map (fun e => (e.1, XInput.cmd e.2)) ++ [(a, .exec)])
    r.2.2.getLast?.map (fun x => (x.1, resultCount x.2)) =
      some (a, some (body.filter (fun e => e.1 == a)).length) ∧
    ∀ b, b ≠ a → ∀ x ∈ repliesOf b r.2.2, x ≠ .queued

/-- REFUTED for the code as it is: client 1 opens a transaction, client 2's `SET k v` is answered
    QUEUED, has no effect until client 1's EXEC, and client 1's EXEC returns a result for a command
    it never sent -/
theorem x_shared_captures_foreign_command_counterexample : ¬ C05_x_shared_own_queue := by
  intro h
  have := (h [] 1 [(2, .set 1 [118])]).1
  revert this
  decide

/-- the same run spelled out: replies `(1,+OK) (2,QUEUED) (1,[+OK])`, and the key only exists
    after client 1's EXEC -/
example :
    xsharedRun KV.xbackend (.simple .ok) ExTxn.idle []
        [(1, .multi), (2, .cmd (.set 1 [118])), (2, .cmd (.get 1)), (1, .exec)] =
      (ExTxn.idle, [(1, .str [118])],
       [(1, .ok), (2, .queued), (2, .queued), (1, .results [.simple .ok, .bulk (some [118])])]) := by
  decide

section
variable {σ κ γ ρ ν : Type} [DecidableEq κ] [DecidableEq ν]

theorem xrun_queue_cmds (X : XBackend σ κ γ ρ ν) (okR : ρ) (cs : List γ) :
    ∀ (t : ExTxn κ γ ν) (s : σ), t.inTxn = true →
      xrun X okR t s (cs.map XInput.cmd) =
        ({ t with queue := t.queue ++ cs.map XQ.cmd }, s, List.replicate cs.length .queued) := by
  induction cs with
  | nil => intro t s _; simp [xrun]
  | cons c rest ih =>
    intro t s hin
    simp only [List.map_cons, xrun, xstep, xstepWith, hin, if_true]
    rw [ih _ _ rfl]
    simp [List.replicate_succ]

theorem xrun_append (X : XBackend σ κ γ ρ ν) (okR : ρ) (a b : List (XInput κ γ)) :
    ∀ (t : ExTxn κ γ ν) (s : σ),
      xrun X okR t s (a ++ b) =
        ((xrun X okR (xrun X okR t s a).1 (xrun X okR t s a).2.1 b).1,
         (xrun X okR (xrun X okR t s a).1 (xrun X okR t s a).2.1 b).2.1,
         (xrun X okR t s a).2.2 ++ (xrun X okR (xrun X okR t s a).1 (xrun X okR t s a).2.1 b).2.2) := by
  induction a with
  | nil => intro t s; rfl
  | cons e rest ih => intro t s; simp [xrun, ih]

/-- **partial**: when only ONE client speaks between its MULTI and its EXEC (the hypothesis is on
    the trace: every event of the window carries the same client id), the shared executor gives
    that client a transaction: all QUEUED, one result per command, store untouched until EXEC -/
theorem x_shared_single_speaker_partial (X : XBackend σ κ γ ρ ν) (okR : ρ) (s : σ) (a : Nat)
    (t : ExTxn κ γ ν) (ht : t.inTxn = false) (hw : t.watched = []) (cs : List γ) :
    let r := xsharedRun X okR t s ((a, .multi) :: cs.map (fun c => (a, XInput.cmd c)) ++ [(a, .exec)])
    r.1 = ExTxn.idle ∧ r.2.1 = (xrunQueue X okR s (cs.map XQ.cmd)).1 ∧
    r.2.2.map (·.2) =
      .ok :: (List.replicate cs.length .queued ++ [.results (xrunQueue X okR s (cs.map XQ.cmd)).2]) ∧
    (xrunQueue X okR s (cs.map XQ.cmd)).2.length = cs.length := by
  intro r
  obtain ⟨e1, e2, e3⟩ := xsharedRun_is_xrun X okR
    ((a, .multi) :: cs.map (fun c => (a, XInput.cmd c)) ++ [(a, .exec)]) t s
  have hmap : (((a, XInput.multi) :: cs.map (fun c => (a, XInput.cmd c)) ++ [(a, XInput.exec)] :
        List (Nat × XInput κ γ)).map (fun x => x.2)) =
      (XInput.multi :: cs.map XInput.cmd) ++ [XInput.exec] := by
    simp [List.map_map, Function.comp_def]
  rw [hmap] at e1 e2 e3
  have hm : xstep X okR t s .multi = ({ t with inTxn := true, queue := [] }, s, .ok) := by
    simp [xstep, xstepWith, ht]
  have hx : xrun X okR t s (XInput.multi :: cs.map XInput.cmd ++ [XInput.exec]) =
      (ExTxn.idle, (xrunQueue X okR s (cs.map XQ.cmd)).1,
       .ok :: (List.replicate cs.length .queued ++ [.results (xrunQueue X okR s (cs.map XQ.cmd)).2])) := by
    rw [List.cons_append]
    simp only [xrun]
    rw [hm, xrun_append, xrun_queue_cmds X okR cs _ s rfl]
    simp only [xrun, List.nil_append]
    rw [xstep_exec X okR _ s rfl]
    simp [hw]
  rw [hx] at e1 e2 e3
  exact ⟨e1, e2, e3, by rw [xrunQueue_length]; simp⟩

end

/-- non-vacuity: a single-speaker window on the concrete store -/
example :
    xsharedRun KV.xbackend (.simple .ok) ExTxn.idle [(1, .str [48])]
        ((7, .multi) :: [KV.Cmd.incr 1, .get 1].map (fun c => (7, XInput.cmd c)) ++ [(7, .exec)]) =
      (ExTxn.idle, [(1, .str [49])],
       [(7, .ok), (7, .queued), (7, .queued), (7, .results [.int 1, .bulk (some [49])])]) := by
  decide

/-! ## the replicated front end (`ReplicatedShardedState::execute`, `server_persistent`) -/

section
variable {σ κ γ ρ : Type}

/-- the decision table of the replicated front end: it has no transaction state at all -/
theorem r_table (exec : σ → γ → σ × ρ) (s : σ) :
    rstep (κ := κ) exec s .multi = (s, .errUnknown) ∧
    rstep (κ := κ) exec s .exec = (s, .errUnknown) ∧
    rstep (κ := κ) exec s .discard = (s, .errUnknown) ∧
    rstep (κ := κ) exec s .unwatch = (s, .errUnknown) ∧
    (∀ ks : List κ, rstep exec s (.watch ks) = (s, .ok)) ∧
    ∀ c, rstep (κ := κ) exec s (.cmd c) = ((exec s c).1, .plain (exec s c).2) :=
  ⟨rfl, rfl, rfl, rfl, fun _ => rfl, fun _ => rfl⟩

/-- the data commands of an input sequence -/
def dataCmds : List (XInput κ γ) → List γ
  | [] => []
  | .cmd c :: rest => c :: dataCmds rest
  | _ :: rest => dataCmds rest

/-- **nothing is ever queued there**: whatever MULTI / EXEC / DISCARD / WATCH / UNWATCH are mixed
    in, the store after a trace is the consecutive run of its data commands — each takes effect
    at once -/
theorem r_never_queues (exec : σ → γ → σ × ρ) (is : List (XInput κ γ)) :
    ∀ s, (rrun exec s is).1 = (is.foldl (fun s i => (rstep exec s i).1) s) ∧
      (rrun exec s is).1 = (dataCmds is).foldl (fun s c => (exec s c).1) s := by
  induction is with
  | nil => intro s; exact ⟨rfl, rfl⟩
  | cons i rest ih =>
    intro s
    obtain ⟨a, b⟩ := ih (rstep exec s i).1
    refine ⟨by simp only [rrun, List.foldl_cons]; exact a, ?_⟩
    simp only [rrun]
    rw [b]
    cases i <;> rfl

end

/-- C05's first clause on the replicated front end: between MULTI and EXEC nothing reaches the
    store -/
def C05_r_queued_has_no_effect : Prop :=
  ∀ (s : KV.Store) (cs : List KV.Cmd),
    (rrun (κ := Nat) KV.exec s (.multi :: cs.map XInput.cmd)).1 = s

/-- REFUTED: `MULTI` is answered `-ERR unknown command` and `SET k v` is applied at once -/
theorem r_queued_has_effect_counterexample : ¬ C05_r_queued_has_no_effect := by
  intro h
  have := h [] [.set 1 [118]]
  revert this
  decide

example :
    rrun (κ := Nat) KV.exec [] [.watch [1], .multi, .cmd (.set 1 [118]), .cmd (.get 1), .exec] =
      ([(1, .str [118])],
       [.ok, .errUnknown, .plain (.simple .ok), .plain (.bulk (some [118])), .errUnknown]) := by
  decide

/-! ## fan-out commands inside EXEC (concrete store) -/

/-- MSET / MGET / multi-key DEL queued and replayed by EXEC: one result each, equal to the
    consecutive run — `exec_equals_sequential_partial` instantiated on bodies with fan-out
    commands, a duplicate key in DEL, a non-string key in MGET -/
theorem kv_mset_mget_del_in_exec :
    run KV.backend ConnTxn.idle [(3, .list [[7]])]
      [(.multi, []), (.cmd (.mset [(1, [49]), (2, [50])]), []), (.cmd (.mget [1, 3, 2, 9]), []),
       (.cmd (.delm [1, 1, 3]), []), (.cmd (.mget [1, 2]), []), (.exec, [])] =
    (ConnTxn.idle, [(2, .str [50])],
     [.ok, .queued, .queued, .queued, .queued,
      .results [.simple .ok, .marr [some [49], none, some [50], none], .int 2,
                .marr [none, some [50]]]]) := by
  decide

/-- `step_table`: one reachable state per row class, spelled out on the concrete store -/
example :
    let t : ConnTxn Nat KV.Cmd KV.Rep :=
      { inTxn := true, queue := [.set 1 [49], .get 1], errors := false, watched := [(2, .bulk none)] }
    rcls (step KV.backend [] t [] .exec).2.2 = .results 2 ∧
    rcls (step KV.backend [] t [(2, .str [1])] .exec).2.2 = .nil ∧
    rcls (step KV.backend [] { t with errors := true } [] .exec).2.2 = .err .execAbort ∧
    rcls (step KV.backend [] t [] .protoErr).2.2 = .err .protocol ∧
    (step KV.backend [] t [] .protoErr).1 = t := by decide

/-- `exec_equals_pipeline` under a NON-empty schedule: the foreign `SET k 2` between the two
    queued commands shows in EXEC exactly as it shows in the plain pipeline -/
example :
    let t : ConnTxn Nat KV.Cmd KV.Rep :=
      { inTxn := true, queue := [.set 1 [49], .get 1], errors := false, watched := [] }
    let sc : List (List KV.Cmd) := [[], [.set 1 [50]]]
    step KV.backend sc t [] .exec = (ConnTxn.idle, [(1, .str [50])], .results [.simple .ok, .bulk (some [50])]) ∧
    plainPipeline KV.backend sc ConnTxn.idle [] t.queue =
      ([], [(1, .str [50])], [.plain (.simple .ok), .plain (.bulk (some [50]))]) := by decide

/-! ## hypotheses that name a key per foreign command, checked by evaluation -/

section
attribute [local instance] decExistsEqSome

/-- non-vacuity of `kv_exec_serializable_other_keys`: a transaction on keys 1 and 2 (key 1 watched)
    with the other clients writing keys 3 and 4 between its store accesses — the hypotheses hold and
    the outcome is the serial one (contrast `exec_not_isolated_counterexample`, where the foreign
    write hits key 1) -/
example :
    let t : ConnTxn Nat KV.Cmd KV.Rep :=
      { inTxn := true, queue := [.set 1 [49], .get 1, .incr 2, .ping], errors := false,
        watched := [(1, .bulk (some [48]))] }
    let s : KV.Store := [(1, .str [48]), (4, .list [[7]])]
    let sched : List (List KV.Cmd) := [[], [.set 3 [50]], [.rpush 4 [[8]]], [], [.del 3, .sadd 5 9]]
    NMap.WF s ∧
    (∀ f ∈ sched.flatten, ∃ kf, KV.keyOf f = some kf ∧ (∀ c ∈ t.queue, avoidsKey kf c = true) ∧
      kf ∉ t.watched.map (·.1)) ∧
    ((step KV.backend sched t s .exec).2.1, (step KV.backend sched t s .exec).2.2) =
      ([(1, .str [49]), (2, .str [49]), (4, .list [[7], [8]]), (5, .set [9])],
       .results [.simple .ok, .bulk (some [49]), .int 1, .simple .pong]) := by
  decide

end

end C05
end RedisVerif
