import RedisVerif.Model.Replica
import RedisVerif.Lemmas.Replica

/-!
# C08 — Newest write wins: a node's stamps only grow, also across restart

Model: `RedisVerif.Shard` (M2, `Model/Replica.lean`) = `ShardReplicaState` plus the
`ApplyRecoveredState` arm of `ReplicatedShardActor`.

The invariant is **clock domination** (`Shard.Inv`): in every reachable shard state the Lamport
clock is ≥ the time of every stamp stored (outer and inner), for every interleaving of local
writes, remote deltas and recovered values.  From it: the delta of every effective local write
carries a stamp strictly greater than every stamp the node holds (for *any* key, stronger than the
property asks) and than every stamp of every value it was *ever* handed, remote or recovered;
stamps issued along a history never repeat or decrease, where crash + recovery is a history that
starts again from `Shard.init` and replays recovered values; such a write wins the merge against
the observed value on every replica, whichever way round the merge is taken and whatever the
observed value's CRDT kind.  The same holds for a whole node (`ShardedNode` = all shards of a
`ReplicatedShardedState`): after `apply_recovered_state(checkpoint, deltas)` every shard's writes
are stamped above EVERY recovered value routed to it, tombstones included
(`node_recovery_skip_tombstones_counterexample`: a recovery loop that skips tombstones breaks it).
FLUSHDB/FLUSHALL leave the replication state and its clock alone (`flush_keeps_clock`;
`flush_resets_clock_counterexample`: a flush that re-initialises it repeats stamps).
`recovered_without_clock_update_counterexample`: the pinned commit (ApplyRecoveredState did not
advance the clock) violates the property; repaired by a `fix:` commit.
-/
namespace RedisVerif
namespace C08

open Shard

def run (s : Shard) (ops : List Op) : Shard := ops.foldl (fun s o => (step s o).1) s

/-! ## full-strength statements -/

/-- every reachable state is clock-dominated -/
def C08_clock_dominates : Prop :=
  ∀ (rid : Nat) (causal : Bool) (ops : List Op), (∀ o ∈ ops, OpOk o) →
    (run (Shard.init rid causal) ops).Inv

/-- a write acknowledged after the node has observed a value `v` (in its store now, or handed to
    it earlier as a remote delta or a recovered value) carries a strictly greater stamp than
    every stamp of `v` -/
def C08_newest_write_wins : Prop :=
  ∀ (s : Shard) (pre post : List Op) (k : Nat) (v : RV) (o w : Op) (d : RV),
    s.Inv → (∀ x ∈ pre ++ o :: post, OpOk x) → (o = .remote k v ∨ o = .recovered k v) →
    let s' := run s (pre ++ o :: post)
    effective s' w = true → (step s' w).2 = some d →
    ∀ t ∈ v.allStamps, t.lt d.ts = true

/-! ## what one step does

`step_spec`, `clock_monotone` and `hwrite_clock` stand in `Lemmas/Replica.lean`: the cluster lemmas
(`Lemmas/LocalOp.lean` onwards) rest on them too. -/

theorem dominated_new (rid : Nat) : (RV.new rid).Dominated := dominated_lww rfl (Nat.le_refl _)

theorem run_clock_monotone (s : Shard) (ops : List Op) :
    s.clock.time ≤ (run s ops).clock.time := by
  induction ops generalizing s with
  | nil => exact Nat.le_refl _
  | cons o ops ih =>
    exact Nat.le_trans (clock_monotone s o).1 (ih (step s o).1)

/-! ## the invariant -/

/-- **clock domination is preserved by every step** (local ops, remote deltas, recovery) -/
theorem inv_step (s : Shard) (op : Op) (h : s.Inv) (hop : OpOk op) : (step s op).1.Inv := by
  rcases step_spec s op with ⟨hs, _⟩ | ⟨_, _, _, _, hs, _, hle, hdom, _⟩ <;> rw [hs]
  · exact h
  · exact inv_insert h hle (hdom h hop).1 (hdom h hop).2

theorem inv_remote (s : Shard) (k : Nat) (d : RV) (h : s.Inv) (hd : d.Dominated) :
    (applyRemote s k d).Inv :=
  inv_step s (.remote k d) h hd

theorem run_inv (s : Shard) (ops : List Op) (h : s.Inv) (hops : ∀ o ∈ ops, OpOk o) :
    (run s ops).Inv := by
  induction ops generalizing s with
  | nil => exact h
  | cons o ops ih =>
    exact ih (step s o).1 (inv_step s o h (hops o (by simp)))
      (fun x hx => hops x (by simp [hx]))

/-- **C08 (clock domination), every reachable state** -/
theorem reachable_inv : C08_clock_dominates := by
  intro rid causal ops hops
  exact run_inv _ ops (inv_init rid causal) hops

/-! ## issued stamps -/

/-- the delta of an effective local write is stamped with the new clock value, which is
    strictly later than the old one -/
theorem issued_stamp_is_new_clock (s : Shard) (op : Op) (he : effective s op = true) :
    ∃ d, (step s op).2 = some d ∧ d.ts = (step s op).1.clock ∧ s.clock.time < d.ts.time := by
  rcases step_spec s op with ⟨_, h⟩ | ⟨_, _, _, rv', hs, _, _, _, h⟩
  · rw [h] at he; cases he
  · obtain ⟨h1, h2, h3⟩ := h he
    exact ⟨rv', h1, by rw [hs]; exact h2, by rw [h2]; exact h3⟩

theorem covered_lt_issued {s : Shard} {w : Op} {d : RV} (he : effective s w = true)
    (hd : (step s w).2 = some d) {t : Stamp} (ht : t.time ≤ s.clock.time) : t.lt d.ts = true := by
  obtain ⟨d', hd', _, hlt⟩ := issued_stamp_is_new_clock s w he
  rw [hd] at hd'; cases hd'
  exact Stamp.lt_of_time_lt (Nat.lt_of_le_of_lt ht hlt)

theorem inv_covers {s : Shard} (h : s.Inv) {p : Nat × RV} (hp : p ∈ s.keys) {t : Stamp}
    (ht : t ∈ p.2.allStamps) : t.time ≤ s.clock.time := by
  have ⟨h1, h2⟩ := h.2 p hp
  rcases List.mem_cons.mp ht with rfl | ht
  · exact h1
  · exact Nat.le_trans (h2 t ht) h1

/-- **C08 (issued stamp beats everything held)**: the stamp of an effective local write is
    strictly greater than every stamp (outer and inner) of every value the node holds, for any
    key -/
theorem issued_stamp_gt_seen (s : Shard) (op : Op) (d : RV) (h : s.Inv)
    (he : effective s op = true) (hd : (step s op).2 = some d) :
    ∀ p ∈ s.keys, ∀ t ∈ p.2.allStamps, t.lt d.ts = true :=
  fun _ hp _ ht => covered_lt_issued he hd (inv_covers h hp ht)

/-- a stamp covered by the clock stays covered -/
theorem seen_stays_seen (s : Shard) (ops : List Op) (t : Stamp) (h : t.time ≤ s.clock.time) :
    t.time ≤ (run s ops).clock.time :=
  Nat.le_trans h (run_clock_monotone s ops)

theorem run_append (s : Shard) (a b : List Op) : run s (a ++ b) = run (run s a) b := by
  simp [run, List.foldl_append]

/-- being handed a value (remote delta or recovered value) anywhere in a history covers all its
    stamps: the clock is updated past the outer stamp, which dominates the inner ones, and never
    goes back -/
theorem run_covers (s : Shard) {ops : List Op} {k : Nat} {v : RV} {o : Op} (hv : v.Dominated)
    (ho : o = .remote k v ∨ o = .recovered k v) (hmem : o ∈ ops) :
    ∀ t ∈ v.allStamps, t.time < (run s ops).clock.time := by
  intro t ht
  obtain ⟨pre, suf, rfl⟩ := List.append_of_mem hmem
  have htime : t.time ≤ v.ts.time := by
    rcases List.mem_cons.mp ht with rfl | ht
    · exact Nat.le_refl _
    · exact hv t ht
  have hstep : v.ts.time < (step (run s pre) o).1.clock.time := by
    have hm := Nat.le_max_right (run s pre).clock.time v.ts.time
    rcases ho with rfl | rfl
    · simp only [step, applyRemote, Stamp.update_time]; omega
    · simp only [step, applyRecovered, applyRecoveredWith, if_true, Stamp.update_time]; omega
  have hmono : (step (run s pre) o).1.clock.time ≤ (run s (pre ++ o :: suf)).clock.time := by
    rw [run_append]
    exact run_clock_monotone (step (run s pre) o).1 suf
  omega

theorem dominated_of_opOk {o : Op} {k : Nat} {v : RV} (h : OpOk o)
    (ho : o = .remote k v ∨ o = .recovered k v) : v.Dominated := by
  rcases ho with rfl | rfl <;> exact h

/-- **C08 (newest write wins)**: across any history — any interleaving of local writes, remote
    deltas and recovered values before and after — a write acknowledged after the node was
    handed `v` carries a stamp strictly greater than every stamp of `v`. -/
theorem newest_write_wins : C08_newest_write_wins := by
  intro s pre post k v o w d _ hops ho s' he hd t ht
  exact covered_lt_issued he hd (Nat.le_of_lt
    (run_covers s (dominated_of_opOk (hops o (by simp)) ho) ho (by simp) t ht))

/-- stamps issued along a history, in order -/
def issued : Shard → List Op → List Stamp
  | _, [] => []
  | s, o :: ops =>
    match effective s o, (step s o).2 with
    | true, some d => d.ts :: issued (step s o).1 ops
    | _, _ => issued (step s o).1 ops

theorem issued_gt_clock (s : Shard) (ops : List Op) :
    ∀ t ∈ issued s ops, s.clock.time < t.time := by
  induction ops generalizing s with
  | nil => intro t ht; cases ht
  | cons o ops ih =>
    intro t ht
    simp only [issued] at ht
    have hmono := (clock_monotone s o).1
    split at ht
    · rename_i d he hd
      obtain ⟨d', hd', hclk, hlt⟩ := issued_stamp_is_new_clock s o he
      rw [hd] at hd'; cases hd'
      cases ht with
      | head => exact hlt
      | tail _ ht' => have := ih _ t ht'; omega
    · have := ih _ t ht; omega

/-- **C08 (stamps never repeat or decrease)**: the stamps a node issues along any history are
    strictly increasing (hence pairwise distinct) -/
theorem issued_strictly_increasing (s : Shard) (ops : List Op) :
    (issued s ops).Pairwise (fun a b => a.lt b = true) := by
  induction ops generalizing s with
  | nil => exact List.Pairwise.nil
  | cons o ops ih =>
    simp only [issued]
    split
    · rename_i d he hd
      obtain ⟨d', hd', hclk, _⟩ := issued_stamp_is_new_clock s o he
      rw [hd] at hd'; cases hd'
      refine List.Pairwise.cons ?_ (ih _)
      intro t ht
      apply Stamp.lt_of_time_lt
      have := issued_gt_clock _ ops t ht
      rw [hclk]; exact this
    · exact ih _

/-- **C08 (across restart)**: a new incarnation that recovers a value stamped `t` by the same
    node (own previously issued stamp, from checkpoint, segments or WAL — all arrive as
    `recovered` / `remote` ops) never issues a stamp ≤ `t` again. -/
theorem no_repeat_across_restart (rid : Nat) (causal : Bool) (pre post : List Op) (k : Nat)
    (v : RV) (o : Op) (hops : ∀ x ∈ pre ++ o :: post, OpOk x)
    (ho : o = .remote k v ∨ o = .recovered k v) :
    ∀ rest, ∀ t ∈ issued (run (Shard.init rid causal) (pre ++ o :: post)) rest,
      v.ts.lt t = true := by
  intro rest t ht
  have h0 := issued_gt_clock _ rest t ht
  have h1 := run_covers (ops := pre ++ o :: post) (Shard.init rid causal)
    (dominated_of_opOk (hops o (by simp)) ho) ho (by simp) v.ts List.mem_cons_self
  exact Stamp.lt_of_time_lt (Nat.lt_trans h1 h0)

/-! ## the newer write wins the merge, on every replica, both ways round -/

/-- a fresh LWW write (SET / DEL tombstone: register stamp = outer stamp) whose stamp beats every
    stamp of `a` supersedes `a` under merge in both argument orders, whatever `a`'s kind -/
theorem lww_write_supersedes (a d : RV) (r : Lww) (hd : d.crdt = .lww r) (hr : r.ts = d.ts)
    (hgt : ∀ t ∈ a.allStamps, t.lt d.ts = true) :
    (RV.merge a d).crdt = d.crdt ∧ (RV.merge d a).crdt = d.crdt
      ∧ (RV.merge a d).ts = d.ts ∧ (RV.merge d a).ts = d.ts := by
  have houter : a.ts.lt d.ts = true := hgt a.ts List.mem_cons_self
  have hnot : ¬ d.ts.lt a.ts = true := by rw [Stamp.lt_asymm houter]; exact Bool.false_ne_true
  have hcr : Crdt.mergeWithTimestamps a.crdt d.crdt a.ts d.ts = d.crdt ∧
      Crdt.mergeWithTimestamps d.crdt a.crdt d.ts a.ts = d.crdt := by
    rw [hd]
    by_cases hk : a.crdt.kind = 0
    · -- two registers: the write's stamp beats the stored register's
      obtain ⟨x, hx⟩ := kind_lww hk
      have hxr : x.ts.lt r.ts = true := by
        rw [hr]
        exact hgt x.ts (List.mem_cons_of_mem _ (by rw [RV.innerStamps, hx]; exact List.mem_cons_self))
      rw [hx]
      exact ⟨congrArg Crdt.lww (if_pos hxr),
        congrArg Crdt.lww (if_neg (by rw [Stamp.lt_asymm hxr]; exact Bool.false_ne_true))⟩
    · -- two kinds: decided by the outer stamps
      rw [Crdt.mwt_of_kind_ne hk, Crdt.mwt_of_kind_ne (Ne.symm hk), if_pos houter, if_neg hnot]
      exact ⟨rfl, rfl⟩
  exact ⟨hcr.1, hcr.2, if_pos houter, if_neg hnot⟩

/-! ## the pinned commit violated the property (fixed) -/

/-- **Fixed defect C08:recovered-clock** — with `ApplyRecoveredState` not advancing the clock
    (`updClock = false`), a node that recovers its own value stamped (50, r1) from a checkpoint
    issues (1, r1) for the next write, and every replica keeps the pre-restart value. -/
theorem recovered_without_clock_update_counterexample :
    let old := RV.withValue [111] ⟨50, 1⟩
    let s := applyRecoveredWith false (Shard.init 1 false) 7 old
    let d := (recordWrite s 7 [110] none).2
    d.ts.lt old.ts = true ∧ (RV.merge old d).get = some [111] := by
  decide

/-! ## non-vacuity -/

example :
    let s := run (Shard.init 1 true)
      [.write 7 [1] none, .remote 7 (RV.withValue [2] ⟨9, 2⟩), .hwrite 8 [(1, [3]), (2, [4])],
       .recovered 9 (RV.withValue [5] ⟨40, 1⟩)]
    s.Inv ∧ effective s (.hdelete 8 [2]) = true ∧ effective s (.delete 7) = true
      ∧ s.clock.time = 41 := by
  decide

open ShardedNode

/-! ## FLUSHDB / FLUSHALL on a replicated shard -/

/-- **a flush keeps the clock**: after FLUSHDB/FLUSHALL (which leaves the replication state alone)
    the shard is still clock-dominated, and every write it acknowledges later — after any further
    history — is stamped strictly above every stamp it held before the flush -/
theorem flush_keeps_clock (s : Shard) (h : s.Inv) :
    (flush s).Inv ∧
    ∀ (post : List Op) (w : Op) (d : RV), effective (run (flush s) post) w = true →
      (step (run (flush s) post) w).2 = some d →
      ∀ p ∈ s.keys, ∀ t ∈ p.2.allStamps, t.lt d.ts = true := by
  refine ⟨h, fun post w d he hd p hp t ht => ?_⟩
  exact covered_lt_issued he hd (seen_stays_seen s post t (inv_covers h hp ht))

/-- a flush that re-initialises the replication state (`*self = ShardReplicaState::new(..)`):
    SET k ×3 (stamps 1, 2, 3); FLUSHALL; SET k → acknowledged with (1, r) < (3, r); a peer that holds
    the third write keeps serving it -/
theorem flush_resets_clock_counterexample :
    let s := run (Shard.init 1 false) [.write 7 [97] none, .write 7 [98] none, .write 7 [99] none]
    let old := (NMap.get s.keys 7).getD (RV.new 1)
    let d := (recordWrite (flushWith true s) 7 [110] none).2
    old.ts = ⟨3, 1⟩ ∧ d.ts = ⟨1, 1⟩ ∧ d.ts.lt old.ts = true ∧ (RV.merge old d).get = some [99] := by
  decide

/-! ## node level: recovery of a whole `ReplicatedShardedState` -/

/-- the recovery messages shard `s` receives: its checkpoint entries, then its deltas -/
def shardRecoveryOps (route : Nat → Nat) (s : Nat) (ckpt deltas : List (Nat × RV)) : List Op :=
  (ckpt.filter (fun p => route p.1 = s)).map (fun p => Op.recovered p.1 p.2) ++
  (deltas.filter (fun p => route p.1 = s)).map (fun p => Op.remote p.1 p.2)

theorem getElem_onShard (nd : ShardedNode) (j s : Nat) (f : Shard → Shard) :
    (nd.onShard j f)[s]? = if j = s then (nd[s]?).map f else nd[s]? := by
  unfold onShard
  by_cases hj : j = s
  · subst hj
    cases hg : nd[j]? with
    | none => simp [hg]
    | some sh =>
      have hlt : j < nd.length := (List.getElem?_eq_some_iff.mp hg).1
      simp [hlt]
  · cases hg : nd[j]? with
    | none => simp [hj]
    | some sh => simp [hj, List.getElem?_set_ne hj]

/-- routing a list of per-key messages through `onShard` = each shard folds its own messages -/
theorem fold_onShard (route : Nat → Nat) (g : Nat × RV → Shard → Shard) (s : Nat)
    (l : List (Nat × RV)) : ∀ nd : ShardedNode,
    (l.foldl (fun nd p => nd.onShard (route p.1) (g p)) nd)[s]? =
      (nd[s]?).map (fun sh => (l.filter (fun p => route p.1 = s)).foldl (fun sh p => g p sh) sh) := by
  induction l with
  | nil => intro nd; simp
  | cons p l ih =>
    intro nd
    rw [List.foldl_cons, ih, getElem_onShard]
    by_cases hp : route p.1 = s
    · simp only [hp, if_true, List.filter_cons, decide_true, List.foldl_cons, Option.map_map]
      rfl
    · simp [hp, List.filter_cons]

theorem run_map {α : Type} (f : α → Op) (l : List α) (sh : Shard) :
    run sh (l.map f) = l.foldl (fun sh x => (step sh (f x)).1) sh :=
  List.foldl_map

/-- after `apply_recovered_state` every shard has run exactly its own recovery messages -/
theorem recoverNode_shard (route : Nat → Nat) (nd : ShardedNode) (ckpt deltas : List (Nat × RV))
    (s : Nat) :
    (recoverNode false route nd ckpt deltas)[s]? =
      (nd[s]?).map (fun sh => run sh (shardRecoveryOps route s ckpt deltas)) := by
  unfold recoverNode
  simp only [Bool.false_and, Bool.false_eq_true, if_false]
  rw [fold_onShard route (fun p sh => sh.applyRemote p.1 p.2) s deltas,
    fold_onShard route (fun p sh => sh.applyRecovered p.1 p.2) s ckpt]
  cases nd[s]? with
  | none => rfl
  | some sh =>
    simp only [Option.map_some, shardRecoveryOps, run_append, run_map]
    rfl

/-- after `apply_recovered_state` the clock of shard `s` is strictly above every stamp of every
    recovered value routed to `s`, and stays there -/
theorem recovery_clock_covers (route : Nat → Nat) (nd : ShardedNode)
    (ckpt deltas : List (Nat × RV)) (hdom : ∀ p ∈ ckpt ++ deltas, p.2.Dominated)
    (s : Nat) (sh' : Shard) (hs : (recoverNode false route nd ckpt deltas)[s]? = some sh')
    (p : Nat × RV) (hp : p ∈ ckpt ++ deltas) (hr : route p.1 = s) (post : List Op) :
    ∀ t ∈ p.2.allStamps, t.time < (run sh' post).clock.time := by
  rw [recoverNode_shard] at hs
  obtain ⟨sh, _, rfl⟩ := Option.map_eq_some_iff.mp hs
  rw [← run_append]
  have hf : p ∈ ckpt.filter (fun p => route p.1 = s) ∨ p ∈ deltas.filter (fun p => route p.1 = s) :=
    (List.mem_append.mp hp).imp (fun h => List.mem_filter.mpr ⟨h, by simp [hr]⟩)
      (fun h => List.mem_filter.mpr ⟨h, by simp [hr]⟩)
  rcases hf with hf | hf
  · exact run_covers sh (hdom p hp) (Or.inr rfl)
      (List.mem_append_left _ (List.mem_append_left _ (List.mem_map.mpr ⟨p, hf, rfl⟩)))
  · exact run_covers sh (hdom p hp) (Or.inl rfl)
      (List.mem_append_left _ (List.mem_append_right _ (List.mem_map.mpr ⟨p, hf, rfl⟩)))

/-- **C08 at node level (start-up recovery dominates)**: after
    `ReplicatedShardedState::apply_recovered_state(checkpoint, deltas)` on any node, for EVERY
    recovered value routed to shard `s` — live values, tombstones, hashes alike — every write that
    shard acknowledges afterwards (after any further history `post`) is stamped strictly above
    every stamp of that value. -/
theorem node_recovery_dominates (route : Nat → Nat) (nd : ShardedNode)
    (ckpt deltas : List (Nat × RV)) (hdom : ∀ p ∈ ckpt ++ deltas, p.2.Dominated)
    (s : Nat) (sh' : Shard) (hs : (recoverNode false route nd ckpt deltas)[s]? = some sh')
    (p : Nat × RV) (hp : p ∈ ckpt ++ deltas) (hr : route p.1 = s)
    (post : List Op) (w : Op) (d : RV)
    (he : effective (run sh' post) w = true) (hd : (step (run sh' post) w).2 = some d) :
    ∀ t ∈ p.2.allStamps, t.lt d.ts = true :=
  fun t ht => covered_lt_issued he hd (Nat.le_of_lt
    (recovery_clock_covers route nd ckpt deltas hdom s sh' hs p hp hr post t ht))

/-- … hence such a write wins the merge on a peer that holds the recovered value -/
theorem node_recovery_write_wins (route : Nat → Nat) (nd : ShardedNode)
    (ckpt deltas : List (Nat × RV)) (hdom : ∀ p ∈ ckpt ++ deltas, p.2.Dominated)
    (s : Nat) (sh' : Shard) (hs : (recoverNode false route nd ckpt deltas)[s]? = some sh')
    (p : Nat × RV) (hp : p ∈ ckpt ++ deltas) (hr : route p.1 = s)
    (k : Nat) (v : Bytes) (e : Option Nat) :
    (RV.merge p.2 (recordWrite sh' k v e).2).crdt = (recordWrite sh' k v e).2.crdt ∧
    (RV.merge (recordWrite sh' k v e).2 p.2).crdt = (recordWrite sh' k v e).2.crdt := by
  have hgt := node_recovery_dominates route nd ckpt deltas hdom s sh' hs p hp hr []
    (.write k v e) (recordWrite sh' k v e).2 rfl rfl
  have := lww_write_supersedes p.2 (recordWrite sh' k v e).2 (Lww.set v sh'.clock.tick) rfl rfl hgt
  exact ⟨this.1, this.2.1⟩

/-- the variant that skips tombstones in the checkpoint loop ("deleted keys have nothing to
    restore"): SET k; SET k; DEL k (tombstone @3); checkpoint; restart; recover; SET k v3 is
    acknowledged with stamp (1, r) < (3, r), and a peer that holds the tombstone drops it -/
theorem node_recovery_skip_tombstones_counterexample :
    let tomb : RV := { crdt := .lww (Lww.delete ⟨3, 1⟩), vc := none, expiry := none, ts := ⟨3, 1⟩, rf := none }
    let nd := recoverNode true (fun k => k % 2) (ShardedNode.init 1 false 2) [(6, tomb)] []
    ∃ sh, nd[0]? = some sh ∧
      (recordWrite sh 6 [118] none).2.ts.lt tomb.ts = true ∧
      (RV.merge tomb (recordWrite sh 6 [118] none).2).get = none := by
  decide

/-- non-vacuity: a checkpoint with a live value, a tombstone and a hash spread over two shards,
    plus a delta; both shards' clocks end above everything recovered for them -/
example :
    let tomb : RV := { crdt := .lww (Lww.delete ⟨3, 1⟩), vc := none, expiry := none, ts := ⟨3, 1⟩, rf := none }
    let ckpt : List (Nat × RV) := [(6, tomb), (7, RV.withValue [1] ⟨9, 1⟩),
      (8, { RV.new 1 with crdt := .hash [(1, Lww.delete ⟨5, 1⟩)], ts := ⟨5, 1⟩ })]
    let deltas : List (Nat × RV) := [(6, RV.withValue [2] ⟨4, 2⟩)]
    let nd := recoverNode false (fun k => k % 2) (ShardedNode.init 1 false 2) ckpt deltas
    (∀ p ∈ ckpt ++ deltas, p.2.Dominated) ∧
      (nd[0]?).map (·.clock.time) = some 7 ∧ (nd[1]?).map (·.clock.time) = some 10 ∧
      ((nd[0]?).map (fun sh => (recordWrite sh 6 [118] none).2.ts.time)) = some 8 := by
  decide

end C08
end RedisVerif
