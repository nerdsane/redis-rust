import RedisVerif.Props.C16
import RedisVerif.Props.C16Script

/-!
# C16 — the RESP → Lua → RESP conversion, for every reply

`roundTrip` is what a client receives when a script passes a command's reply on (`return redis.call(…)`), as a
structural function on replies: a nil array becomes a nil bulk, a status / error text that is not UTF-8 becomes the
empty array, an array is cut at its first nil element (the recorded finding `C16:lua:nil-bulk-becomes-nil-not-false`).
The conversion is the identity exactly on `ConvStable`, the domain of `lua_roundtrip_partial` (Props/C16.lean).
-/
namespace RedisVerif
namespace C16

open Grammar LuaConv LuaScript

mutual
/-- what `lua_to_resp (resp_to_lua_value r)` is, as a function on replies -/
def roundTrip : Resp → Resp
  | .simple s => if validUtf8 s then .simple s else .array (some [])
  | .error s => if validUtf8 s then .error s else .array (some [])
  | .int i => .int i
  | .bulk b => .bulk b
  | .array none => .bulk none
  | .array (some xs) => .array (some (roundTripL xs))
/-- the elements up to the first nil one, each converted -/
def roundTripL : List Resp → List Resp
  | [] => []
  | x :: xs => if isNil x then [] else roundTrip x :: roundTripL xs
end

theorem respToLua_nil_of_isNil {x : Resp} (h : isNil x = true) : respToLua x = .nil := by
  cases x with
  | simple s => simp [isNil] at h
  | error s => simp [isNil] at h
  | int i => simp [isNil] at h
  | bulk b => cases b <;> simp_all [respToLua, isNil]
  | array a => cases a <;> simp_all [respToLua, isNil]

mutual
/-- the conversion there and back, for EVERY reply -/
theorem lua_roundtrip_exact : ∀ r : Resp, luaToResp (respToLua r) = roundTrip r
  | .simple s => by simp [respToLua, luaToResp, roundTrip]
  | .error s => by simp [respToLua, luaToResp, roundTrip]
  | .int i => by simp [respToLua, luaToResp, roundTrip]
  | .bulk none => by simp [respToLua, luaToResp, roundTrip]
  | .bulk (some b) => by simp [respToLua, luaToResp, roundTrip]
  | .array none => by simp [respToLua, luaToResp, roundTrip]
  | .array (some xs) => by simp only [respToLua, luaToResp, roundTrip, lua_roundtrip_exact_list xs]
theorem lua_roundtrip_exact_list : ∀ xs : List Resp, luaToRespL (respToLuaL xs) = roundTripL xs
  | [] => by simp [respToLuaL, luaToRespL, roundTripL]
  | x :: xs => by
    simp only [respToLuaL, roundTripL]
    cases hn : isNil x with
    | true => simp [respToLua_nil_of_isNil hn, luaToRespL]
    | false =>
      rw [luaToRespL_cons (respToLua_ne_nil hn), lua_roundtrip_exact x, lua_roundtrip_exact_list xs]
      simp
end

theorem isNil_roundTrip_of_not {x : Resp} (h : isNil x = false) : isNil (roundTrip x) = false := by
  cases x with
  | simple s => simp only [roundTrip]; split <;> rfl
  | error s => simp only [roundTrip]; split <;> rfl
  | int i => rfl
  | bulk b => cases b <;> simp_all [roundTrip, isNil]
  | array a => cases a <;> simp_all [roundTrip, isNil]

mutual
/-- whatever comes back is a fixed point of the conversion -/
theorem roundTrip_stable : ∀ r : Resp, ConvStable (roundTrip r) = true
  | .simple s => by
    simp only [roundTrip]
    split
    · simpa [ConvStable]
    · simp [ConvStable, ConvStableL]
  | .error s => by
    simp only [roundTrip]
    split
    · simpa [ConvStable]
    · simp [ConvStable, ConvStableL]
  | .int i => by simp [roundTrip, ConvStable]
  | .bulk b => by simp [roundTrip, ConvStable]
  | .array none => by simp [roundTrip, ConvStable]
  | .array (some xs) => by simp only [roundTrip, ConvStable, roundTripL_stable xs]
theorem roundTripL_stable : ∀ xs : List Resp, ConvStableL (roundTripL xs) = true
  | [] => by simp [roundTripL, ConvStableL]
  | x :: xs => by
    simp only [roundTripL]
    cases hn : isNil x with
    | true => simp [ConvStableL]
    | false =>
      simp only [Bool.false_eq_true, if_false, ConvStableL, isNil_roundTrip_of_not hn, roundTrip_stable x,
        roundTripL_stable xs, Bool.not_false, Bool.and_self]
end

/-- the conversion gives the reply back EXACTLY on `ConvStable` -/
theorem lua_roundtrip_iff (r : Resp) : luaToResp (respToLua r) = r ↔ ConvStable r = true := by
  constructor
  · intro h
    rw [lua_roundtrip_exact] at h
    rw [← h]
    exact roundTrip_stable r
  · exact lua_roundtrip_partial r

/-- passing a reply through a second script changes nothing more -/
theorem roundTrip_idempotent (r : Resp) : roundTrip (roundTrip r) = roundTrip r := by
  rw [← lua_roundtrip_exact (roundTrip r)]
  exact lua_roundtrip_partial _ (roundTrip_stable r)

/-- the elements in front of the first nil, converted: a PREFIX of the element-wise conversion -/
theorem roundTripL_prefix : ∀ xs : List Resp, roundTripL xs <+: xs.map roundTrip
  | [] => by simp [roundTripL]
  | x :: xs => by
    simp only [roundTripL, List.map_cons]
    split
    · exact List.nil_prefix
    · exact (List.prefix_cons_inj _).mpr (roundTripL_prefix xs)

theorem roundTrip_array_prefix (xs : List Resp) :
    ∃ ys, roundTrip (.array (some xs)) = .array (some ys) ∧ ys <+: xs.map roundTrip :=
  ⟨roundTripL xs, by simp [roundTrip], roundTripL_prefix xs⟩

/-- the number of elements in front of the first nil one -/
def beforeNil : List Resp → Nat
  | [] => 0
  | x :: xs => if isNil x then 0 else beforeNil xs + 1

theorem roundTripL_length : ∀ xs : List Resp, (roundTripL xs).length = beforeNil xs
  | [] => rfl
  | x :: xs => by
    simp only [roundTripL, beforeNil]
    split
    · rfl
    · simp [roundTripL_length xs]

/-- an array without a nil element keeps its length; one with a nil element is strictly shorter -/
theorem roundTrip_array_length (xs : List Resp) :
    (roundTripL xs).length = xs.length ↔ xs.all (fun x => !isNil x) = true := by
  induction xs with
  | nil => simp [roundTripL]
  | cons x xs ih =>
    simp only [roundTripL, List.all_cons, Bool.and_eq_true, Bool.not_eq_true']
    cases hn : isNil x with
    | true => simp
    | false => simp [ih]

/-- integer replies of any size pass unchanged (no detour through a Lua float) -/
theorem integer_reply_exact (i : Int) : luaToResp (respToLua (.int i)) = .int i := by
  simp [respToLua, luaToResp]

/-- bulk strings pass byte for byte: empty, binary, not UTF-8 -/
theorem bulk_reply_exact (b : Bytes) : luaToResp (respToLua (.bulk (some b))) = .bulk (some b) := by
  simp [respToLua, luaToResp]

/-- a status reply never comes back as a bulk string nor the reverse: `{ok = s}` and `s` stay apart -/
theorem status_reply_exact (s : Bytes) (h : validUtf8 s = true) :
    luaToResp (respToLua (.simple s)) = .simple s ∧ luaToResp (respToLua (.bulk (some s))) = .bulk (some s) ∧
    Resp.simple s ≠ .bulk (some s) := by
  refine ⟨by simp [respToLua, luaToResp, h], by simp [respToLua, luaToResp], by intro h'; cases h'⟩

/-! ## what `return redis.pcall(…)` answers, for EVERY executor, state and reply

  `pcall_reply_equals_direct_partial` needs `ConvStable` of the direct reply.  With `roundTrip` the statement holds without
  a hypothesis on the reply: the EVAL answers `roundTrip` of what the client gets for the same words (an error reply stays
  the error reply: `redis.pcall` hands the script `{err = …}`, which converts back), and leaves the state the client's
  command leaves. -/

theorem pcall_reply_exact {σ : Type} (exec : σ → Cmd → σ × Resp) (env : Env) (s : σ) (args : List AExpr)
    (w : Bytes) (ws : List Bytes) (c : Cmd)
    (hargs : argsBytes (args.map (AExpr.eval env [])) = some (w :: ws)) (hp : parseLua (w :: ws) = .ok c) :
    evalScript exec env s ⟨[⟨true, args⟩], .res 0⟩ = ((exec s c).1, some (roundTrip (exec s c).2)) ∧
    directStep exec s (w :: ws) = ((exec s c).1, some (exec s c).2) :=
  ⟨by rw [pcall_reply_converted exec env s args w ws c hargs hp, lua_roundtrip_exact],
   directStep_ok exec (lua_agrees_partial w ws c hp) s⟩

/-- hence: script and client get the SAME reply exactly when the direct reply is `ConvStable` (for every executor) -/
theorem pcall_reply_same_iff {σ : Type} (exec : σ → Cmd → σ × Resp) (env : Env) (s : σ) (args : List AExpr)
    (w : Bytes) (ws : List Bytes) (c : Cmd)
    (hargs : argsBytes (args.map (AExpr.eval env [])) = some (w :: ws)) (hp : parseLua (w :: ws) = .ok c) :
    (evalScript exec env s ⟨[⟨true, args⟩], .res 0⟩).2 = (directStep exec s (w :: ws)).2 ↔
      ConvStable (exec s c).2 = true := by
  obtain ⟨h1, h2⟩ := pcall_reply_exact exec env s args w ws c hargs hp
  rw [h1, h2]
  simp only [Option.some.injEq]
  rw [← lua_roundtrip_exact]
  exact lua_roundtrip_iff _

/-- non-vacuity / pinned shapes: a nil deep inside cuts only the array that holds it; a nil ARRAY cuts as a nil bulk
    does; a status that is not UTF-8 becomes the empty array; i64 extremes stay -/
example :
    roundTrip (.array (some [.int 1, .array (some [.bulk (some [120]), .bulk none, .int 7]), .int 3])) =
      .array (some [.int 1, .array (some [.bulk (some [120])]), .int 3]) ∧
    roundTrip (.array (some [.int 1, .array none, .int 3])) = .array (some [.int 1]) ∧
    roundTrip (.simple [0xff]) = .array (some []) ∧
    roundTrip (.array (some [.int 9223372036854775807, .int (-9223372036854775808)])) =
      .array (some [.int 9223372036854775807, .int (-9223372036854775808)]) := by
  have h : validUtf8 [0xff] = false := by decide
  simp [roundTrip, roundTripL, isNil, h]

end C16
end RedisVerif
