import RedisVerif.Model.Conn
import RedisVerif.Lemmas.Conn
import RedisVerif.Lemmas.ConnWrite
import RedisVerif.Lemmas.ConnSim
import RedisVerif.Lemmas.ConnJunk
import RedisVerif.Lemmas.ConnFix

/-
  C04 — pipelining: exactly one reply per command, in order, however the bytes arrive.

  Theorems about `Conn.run` (Model/Conn.lean), the transcription of the read loop of
  `OptimizedConnectionHandler` with its batching gate, the two collectors, the fast path and the
  generic decoder.

  THE CODE AS IT IS (fix de38a13 of the GET/SET recognisers: HEADER_LEN = 13, LF / UTF-8 tests, an
  incomplete frame is left to the generic parser, collected commands are always executed, the gate
  asks the ACL) is `Config.repaired = true ∧ headerLen = 13` (`cfgR`, `Repaired13`).  Its theorems come
  from those about `DeadCfg` configurations through `repaired_transparent`: for every byte stream the
  repaired connection does what it does with the recognisers off, up to the path label.  `DeadCfg`
  covers the reference loop (recognisers never entered) and the PINNED code (`repaired = false`,
  HEADER_LEN = 14: off by one, dead for well-formed frames — `cfg14`, `cfgG`, `cfgPinned`),
  kept so that the counterexamples about the behaviour before the fixes stay kernel-checked statements
  about the same model (`cfg13`: the one-character "fix" alone loses replies).

  A pipeline is `cmds : List Cmd` (`Cmd` = the list of its bulk-string arguments); its byte stream is
  `stream cmds`; a segmentation is any `segs : List Bytes` with `segs.flatten = stream cmds`; the
  handler cuts every segment further into reads of `readSize` bytes.  No bound on the number of
  commands, their sizes, the number or position of the cuts.
-/
namespace RedisVerif.C04
open RedisVerif.Resp RedisVerif.Conn

/-- actions that produce exactly one reply -/
def replyCount : List Action → Nat
  | [] => 0
  | .exec _ _ :: rest => 1 + replyCount rest
  | .protoErr :: rest => 1 + replyCount rest
  | .overflow :: rest => 1 + replyCount rest
  | .dropped _ :: rest => replyCount rest
  | .crash :: _ => 0

def hasDropped : List Action → Bool
  | [] => false
  | .dropped _ :: _ => true
  | _ :: rest => hasDropped rest

/-- `GET k`, `PING`, `SET k v` -/
def cmdSetKV : Cmd := [[83, 69, 84], [107], [118]]
def cmdGetK : Cmd := [[71, 69, 84], [107]]
def cmdPing : Cmd := [[80, 73, 78, 71]]

/-- default thresholds (`min_pipeline_buffer` 60, `batch_threshold` 2, `read_buffer_size` 8192) with `HEADER_LEN = 14`
    (the code before de38a13); `maxBuffer` and `env` are sample values (the Rust default is 512 MiB) -/
def cfg14 : Config := { minPipeline := 60, batchThreshold := 2, headerLen := 14, readSize := 8192,
                        maxBuffer := 1000000, checked := true, nameGuard := false, codec := codec1,
                        env := { depth := 64, mem := 1073741824 } }
/-- the pinned recognisers (HEADER_LEN = 14) with the guarded `check_acl_permission` of fix 5f3bab5
    (`parts.first()`); `cfg14` keeps the pinned `parts[0]` (`nameGuard := false`) for the counterexamples
    about the behaviour before that fix (for pipelines without an empty / white-space-only command name the
    two behave alike: `CmdOK`).  The code as it is: `cfgR` (section 6) -/
def cfgG : Config := { cfg14 with nameGuard := true }
/-- the code before the fix commits: wrapping length arithmetic, the pinned decoder -/
def cfgPinned : Config := { cfg14 with checked := false, codec := codec1Pinned }
/-- the same with the constant "fixed" to the real header length -/
def cfg13 : Config := { cfg14 with headerLen := 13, nameGuard := true }
/-- `*1\r\n$0\r\n\r\n`: a command whose name is the empty string; `*1\r\n$2\r\n\r\n\r\n`: CR LF as a name -/
def cmdEmptyName : Cmd := [[]]
def cmdCrlfName : Cmd := [[13, 10]]

/-! ## 1. segmentation independence / one reply per command / path irrelevance -/

/-- full statement, for a value `h` of the recognisers' `HEADER_LEN` and a value `guard` of
    "`check_acl_permission` tolerates a command name without a non-white-space character": every
    segmentation of every well-formed pipeline — ANY command names and arguments —, under every
    batching configuration, executes every command exactly once, in order (on the generic path) -/
def C04_segmentation_independent (h : Nat) (guard : Bool) : Prop :=
  ∀ (cfg : Config), cfg.headerLen = h → cfg.repaired = false → cfg.nameGuard = guard → cfg.codec = codec1 → 2 ≤ cfg.env.depth →
  ∀ (cmds : List Cmd) (segs : List Bytes), segs.flatten = stream cmds →
    Small (stream cmds) → (stream cmds).length ≤ cfg.maxBuffer →
    run cfg segs = execAll cmds

/-- the general form: `CmdOK cfg c` = two decoder frames of stack, and the name guard is on OR the
    name of `c` is not empty / white space only -/
theorem segmentation_independent_cmdok (cfg : Config) (h14 : DeadCfg cfg) (hc : cfg.codec = codec1)
    (hd : 1 ≤ cfg.env.depth) (cmds : List Cmd) (segs : List Bytes) (h : segs.flatten = stream cmds)
    (hs : Small (stream cmds)) (hmax : (stream cmds).length ≤ cfg.maxBuffer) (hok : ∀ c ∈ cmds, CmdOK cfg c) :
    run cfg segs = execAll cmds :=
  run_wf cfg h14 hc hd cmds segs h hs hmax hok

/-- HEADER_LEN = 14 (the recognisers before fix de38a13) and the guarded `check_acl_permission` (fix 5f3bab5);
    for the code as it is: `segmentation_independent_repaired` -/
theorem segmentation_independent : C04_segmentation_independent 14 true :=
  fun cfg h14 hr hg hc hd cmds segs h hs hmax =>
    run_wf cfg (DeadCfg.of14 hr h14) hc (by omega) cmds segs h hs hmax (fun _ _ => ⟨hd, Or.inl hg⟩)

/-- PARTIAL, the PINNED code before fix 5f3bab5 (`parts[0]`): for pipelines in which no command NAME is empty or white
    space only (`nameWs`, decidable) -/
theorem segmentation_independent_partial (cfg : Config) (h14 : DeadCfg cfg) (hc : cfg.codec = codec1)
    (hd : 2 ≤ cfg.env.depth) (cmds : List Cmd) (segs : List Bytes) (h : segs.flatten = stream cmds)
    (hs : Small (stream cmds)) (hmax : (stream cmds).length ≤ cfg.maxBuffer)
    (hname : ∀ c ∈ cmds, nameWs c = false) :
    run cfg segs = execAll cmds :=
  run_wf cfg h14 hc (by omega) cmds segs h hs hmax (fun c hcm => ⟨hd, Or.inr (hname c hcm)⟩)

/-- COUNTEREXAMPLE, PINNED behaviour (before fix 5f3bab5): `PING`, then the well-formed frame `*1\r\n$0\r\n\r\n` (a command
    whose name is the empty string), then `PING`: `check_acl_permission` indexes `parts[0]` of
    `"".split_whitespace()` and panics — ONE reply, then the task (release: the server) is gone
    (fix 5f3bab5; the witness is a corpus case of `./check`) -/
theorem empty_name_counterexample : ¬ C04_segmentation_independent 14 false := by
  intro h
  have := h cfg14 rfl rfl rfl rfl (by decide) [cmdPing, cmdEmptyName, cmdPing]
    [stream [cmdPing, cmdEmptyName, cmdPing]] (by simp) (by decide) (by decide)
  have hc : hasCrash (run cfg14 [stream [cmdPing, cmdEmptyName, cmdPing]]) = true := by decide +kernel
  rw [this] at hc
  exact absurd hc (by decide)

/-- the same for a name of CR LF, a tab and U+00A0, arriving byte by byte; not inside MULTI (there the
    unknown command is answered with an error and the transaction is marked) -/
example : hasCrash (run cfg14 ((stream [[[13, 10, 9, 194, 160], [120]]]).map (fun b => [b]))) = true ∧
    replyCount (run cfg14 [stream [cmdPing, cmdCrlfName]]) = 1 ∧
    hasCrash (run cfg14 [stream [[[77, 85, 76, 84, 73]], cmdEmptyName, [[69, 88, 69, 67]]]]) = false ∧
    hasCrash (run cfgG [stream [cmdPing, cmdEmptyName, cmdPing]]) = false ∧
    nameWs cmdGetK = false ∧ nameWs [[32, 97]] = false ∧ nameWs [[226, 128, 139]] = false := by decide +kernel

/-- with HEADER_LEN = 13 the collectors come alive: six pipelined `GET k` in one segment are
    executed as a batch, but ONE `GET k` in a 60-byte buffer (here: followed by three PINGs) is
    consumed by `collect_get_keys`, found to be fewer than `batch_threshold`, and never answered -/
theorem header13_counterexample : ¬ C04_segmentation_independent 13 true := by
  intro h
  have := h cfg13 rfl rfl rfl rfl (by decide) [cmdGetK, cmdPing, cmdPing, cmdPing]
    [stream [cmdGetK, cmdPing, cmdPing, cmdPing]] (by simp) (by decide) (by decide)
  have hc : replyCount (run cfg13 [stream [cmdGetK, cmdPing, cmdPing, cmdPing]]) = 3 := by decide +kernel
  rw [this] at hc
  exact absurd hc (by decide)

theorem replies_execAll_length : ∀ (s : ExSt) (cmds : List Cmd), (replies s (execAll cmds)).length = cmds.length := by
  intro s cmds
  induction cmds generalizing s with
  | nil => simp [execAll, replies]
  | cons c cs ih =>
    simp only [execAll, List.map_cons, replies, List.length_cons]
    have := ih (execFrame s (cmdFrame c)).1
    simp only [execAll] at this
    rw [this]

theorem hasCrash_execAll (cmds : List Cmd) : hasCrash (execAll cmds) = false :=
  ConnW.anyCrash_eq _ ▸ ConnW.anyCrash_execAll cmds

/-- exactly one reply per command -/
theorem one_reply_per_command (cfg : Config) (h14 : DeadCfg cfg) (hc : cfg.codec = codec1) (hd : 1 ≤ cfg.env.depth)
    (cmds : List Cmd) (segs : List Bytes) (h : segs.flatten = stream cmds)
    (hs : Small (stream cmds)) (hmax : (stream cmds).length ≤ cfg.maxBuffer) (hok : ∀ c ∈ cmds, CmdOK cfg c) :
    (replies ExSt.init (run cfg segs)).length = cmds.length := by
  rw [segmentation_independent_cmdok cfg h14 hc hd cmds segs h hs hmax hok]
  exact replies_execAll_length _ _

/-- … each equal to the reply the command gets when every command arrives alone, in its own
    segment, under any other configuration -/
theorem replies_as_sent_alone (cfg cfg' : Config) (h14 : DeadCfg cfg) (h14' : DeadCfg cfg')
    (hc : cfg.codec = codec1) (hc' : cfg'.codec = codec1)
    (hd : 1 ≤ cfg.env.depth) (hd' : 1 ≤ cfg'.env.depth)
    (cmds : List Cmd) (segs : List Bytes) (h : segs.flatten = stream cmds)
    (hs : Small (stream cmds)) (hmax : (stream cmds).length ≤ cfg.maxBuffer) (hmax' : (stream cmds).length ≤ cfg'.maxBuffer)
    (hok : ∀ c ∈ cmds, CmdOK cfg c) (hok' : ∀ c ∈ cmds, CmdOK cfg' c) (s : ExSt) :
    replies s (run cfg segs) = replies s (run cfg' (cmds.map encCmd)) := by
  rw [segmentation_independent_cmdok cfg h14 hc hd cmds segs h hs hmax hok,
    segmentation_independent_cmdok cfg' h14' hc' hd' cmds (cmds.map encCmd) rfl hs hmax' hok']

/-- which path carried a command cannot matter: on well-formed input the batch collectors and the
    fast path never carry one (`DeadCfg`: the recognisers take no well-formed frame) -/
theorem path_irrelevant (cfg : Config) (h14 : DeadCfg cfg) (hc : cfg.codec = codec1) (hd : 1 ≤ cfg.env.depth)
    (cmds : List Cmd) (segs : List Bytes) (h : segs.flatten = stream cmds)
    (hs : Small (stream cmds)) (hmax : (stream cmds).length ≤ cfg.maxBuffer) (hok : ∀ c ∈ cmds, CmdOK cfg c) :
    ∀ a ∈ run cfg segs, ∃ f, a = .exec f .generic := by
  rw [segmentation_independent_cmdok cfg h14 hc hd cmds segs h hs hmax hok]
  intro a ha
  simp only [execAll, List.mem_map] at ha
  obtain ⟨c, _, hc⟩ := ha
  exact ⟨_, hc.symm⟩

/-- non-vacuity: a real pipeline satisfies the hypotheses, cut inside a header and inside a payload -/
example : CmdOK cfg14 cmdGetK ∧ Small (stream [cmdGetK, cmdPing]) ∧
    replyCount (run cfg14 [(stream [cmdGetK, cmdPing]).take 6, ((stream [cmdGetK, cmdPing]).drop 6).take 11,
      (stream [cmdGetK, cmdPing]).drop 17]) = 2 := by decide +kernel

/-! ## 1b. the overflow guard (`buffer.len() + n > max_buffer_size`) -/

def hasOverflow : List Action → Bool
  | [] => false
  | .overflow :: _ => true
  | _ :: rest => hasOverflow rest

/-- full statement: under every legal configuration (`1 ≤ read_size`) a pipeline — of ANY length —
    whose every frame leaves `read_size - 1` bytes of room below `max_buffer_size` never gets
    `-ERR buffer overflow`: every command is executed once, in order, for every segmentation.
    (The slack is what the read loop really needs: before a read the buffer holds at most
    `|frame| - 1` bytes of an incomplete frame, and the read brings at most `read_size` more; with
    `|frame| + read_size > max + 1` a segmentation exists that trips the guard.  For a stream that
    fits into `max_buffer_size` altogether no slack is needed: `segmentation_independent`.) -/
def C04_no_overflow_below_limit (onR : Config → St → Bytes → St × List Action) : Prop :=
  ∀ (cfg : Config), DeadCfg cfg → cfg.codec = codec1 → 1 ≤ cfg.env.depth → 1 ≤ cfg.readSize →
  ∀ (cmds : List Cmd) (segs : List Bytes), segs.flatten = stream cmds → Small (stream cmds) →
    (∀ c ∈ cmds, (encCmd c).length + cfg.readSize ≤ cfg.maxBuffer + 1) → (∀ c ∈ cmds, CmdOK cfg c) →
    ((segs.flatMap (fun s => splitReads cfg.readSize s.length s)).foldl
      (fun (acc : St × List Action) c => let (s', a) := onR cfg acc.1 c; (s', acc.2 ++ a)) (St.init, [])).2
      = execAll cmds

theorem no_overflow_below_limit : C04_no_overflow_below_limit onRead :=
  fun cfg h14 hc hd hrs cmds segs h hs hfr hok => run_wf_frames cfg h14 hc hd hrs cmds segs h hs hfr hok

/-- the slack is tight: `max_buffer_size = read_size = 32`, two 14-byte PINGs and one more byte
    of a third — 14 bytes of incomplete frame left, a read of 32 … the guard fires in the code as it
    is as soon as `|frame| + read_size > max + 1` and the reads fall badly -/
example : hasOverflow (run { cfg14 with readSize := 32, maxBuffer := 32 }
    [(stream [cmdPing, cmdPing, cmdPing, cmdPing, cmdPing]).take 32, (stream [cmdPing, cmdPing, cmdPing, cmdPing, cmdPing]).drop 32]) = true := by
  decide +kernel

/-- full statement: a pipeline that fits into `max_buffer_size` ALTOGETHER never gets the overflow
    error, whatever the read size and the segmentation (no slack needed: the buffer never holds
    more than what was sent) -/
def C04_no_overflow_when_stream_fits (onR : Config → St → Bytes → St × List Action) : Prop :=
  ∀ (cfg : Config), DeadCfg cfg → cfg.codec = codec1 → 1 ≤ cfg.env.depth →
  ∀ (cmds : List Cmd) (segs : List Bytes), segs.flatten = stream cmds → Small (stream cmds) →
    (stream cmds).length ≤ cfg.maxBuffer → (∀ c ∈ cmds, CmdOK cfg c) →
    ((segs.flatMap (fun s => splitReads cfg.readSize s.length s)).foldl
      (fun (acc : St × List Action) c => let (s', a) := onR cfg acc.1 c; (s', acc.2 ++ a)) (St.init, [])).2
      = execAll cmds

theorem no_overflow_when_stream_fits : C04_no_overflow_when_stream_fits onRead :=
  fun cfg h14 hc hd cmds segs h hs hmax hok => run_wf cfg h14 hc hd cmds segs h hs hmax hok

/-- COUNTEREXAMPLE for the guard that adds the CAPACITY of the read buffer instead of the bytes read
    (`onReadCap`: `buffer.len() + read_buf.len() > max`): with `max_buffer_size = read_size = 64`
    (accepted by PerformanceConfig::validate) a 28-byte pipeline cut in two — 36 bytes of room to
    spare — is answered `-ERR buffer overflow` -/
theorem overflow_guard_capacity_counterexample : ¬ C04_no_overflow_when_stream_fits onReadCap := by
  intro h
  have := h { cfg14 with readSize := 64, maxBuffer := 64 } (by decide) rfl (by decide)
    [cmdPing, cmdPing] [(stream [cmdPing, cmdPing]).take 5, (stream [cmdPing, cmdPing]).drop 5]
    (by decide) (by decide) (by decide) (by decide)
  have hov : hasOverflow (runCap { cfg14 with readSize := 64, maxBuffer := 64 }
      [(stream [cmdPing, cmdPing]).take 5, (stream [cmdPing, cmdPing]).drop 5]) = true := by decide +kernel
  unfold runCap at hov
  rw [this] at hov
  exact absurd hov (by decide)

example : hasOverflow (run { cfg14 with readSize := 64, maxBuffer := 64 }
    [(stream [cmdPing, cmdPing]).take 5, (stream [cmdPing, cmdPing]).drop 5]) = false := by decide +kernel

/-! ## 2. malformed input -/

/-- full statement: arbitrary bytes after a well-formed pipeline never crash the connection, never
    make it swallow a frame, and leave the actions for the pipeline untouched -/
def C04_malformed_is_error (cfg : Config) : Prop :=
  ∀ (cmds : List Cmd) (junk : Bytes) (segs : List Bytes), segs.flatten = stream cmds ++ junk →
    Small (stream cmds ++ junk) → (stream cmds ++ junk).length ≤ cfg.maxBuffer → (∀ c ∈ cmds, CmdOK cfg c) →
    hasCrash (run cfg segs) = false ∧ hasDropped (run cfg segs) = false ∧
      (run cfg segs).take cmds.length = execAll cmds

/-- `*2\r\n$3\r\nGET\r\nX$1\r\nk\r\n`: a byte of garbage where the `$` of the key should be -/
def getLookalike : Bytes := [42, 50, 13, 10, 36, 51, 13, 10, 71, 69, 84, 13, 10, 88, 36, 49, 13, 10, 107, 13, 10]
/-- `*2\r\n$3\r\nGET\r\nX$18446744073709551615\r\nab` -/
def getHugeLen : Bytes := [42, 50, 13, 10, 36, 51, 13, 10, 71, 69, 84, 13, 10, 88, 36,
  49, 56, 52, 52, 54, 55, 52, 52, 48, 55, 51, 55, 48, 57, 53, 53, 49, 54, 49, 53, 13, 10, 97, 98]

/-- PART 1, full statement for a value `guard` of the name guard: neither the recognisers, nor the
    decoder, nor the command step panic — for ALL bytes in ALL segmentations (no well-formedness, no
    size hypothesis beyond `max_buffer_size < 2^56`) -/
def C04_malformed_no_crash (guard : Bool) : Prop :=
  ∀ (cfg : Config), cfg.checked = true → cfg.nameGuard = guard → cfg.codec = codec1 →
    maxNesting + 1 ≤ cfg.env.depth → cfg.maxBuffer < 72057594037927936 →
    ∀ (segs : List Bytes), hasCrash (run cfg segs) = false

/-- holds for the code as it is (guarded `check_acl_permission`, fix 5f3bab5) -/
theorem malformed_no_crash : C04_malformed_no_crash true :=
  fun cfg hck hng hc hd hmax segs => run_no_crash cfg hck hng hc hd hmax segs

/-- COUNTEREXAMPLE, PINNED behaviour (before fix 5f3bab5): 11 bytes `*1\r\n$0\r\n\r\n` -/
theorem malformed_no_crash_counterexample : ¬ C04_malformed_no_crash false := by
  intro h
  have := h cfg14 rfl rfl rfl (by decide) (by decide) [stream [cmdEmptyName]]
  have hc : hasCrash (run cfg14 [stream [cmdEmptyName]]) = true := by decide +kernel
  rw [this] at hc
  exact absurd hc (by decide)

/-- PARTIAL, the PINNED code: no panic on any segmentation of a well-formed pipeline in which no
    command name is empty / white space only -/
theorem no_crash_wellformed_partial (cfg : Config) (h14 : DeadCfg cfg) (hc : cfg.codec = codec1)
    (hd : 2 ≤ cfg.env.depth) (cmds : List Cmd) (segs : List Bytes) (h : segs.flatten = stream cmds)
    (hs : Small (stream cmds)) (hmax : (stream cmds).length ≤ cfg.maxBuffer)
    (hname : ∀ c ∈ cmds, nameWs c = false) :
    hasCrash (run cfg segs) = false := by
  rw [segmentation_independent_partial cfg h14 hc hd cmds segs h hs hmax hname]
  exact hasCrash_execAll cmds

/-- PART 3 (earlier replies untouched) holds for all bytes that may follow a well-formed pipeline
    and all segmentations: the commands of the pipeline are executed exactly once, in order, before
    anything else happens -/
theorem malformed_keeps_earlier (cfg : Config) (h14 : DeadCfg cfg) (hc : cfg.codec = codec1)
    (cmds : List Cmd) (junk : Bytes) (segs : List Bytes) (h : segs.flatten = stream cmds ++ junk)
    (hs : Small (stream cmds ++ junk)) (hmax : (stream cmds ++ junk).length ≤ cfg.maxBuffer)
    (hok : ∀ c ∈ cmds, CmdOK cfg c) :
    (run cfg segs).take cmds.length = execAll cmds := by
  obtain ⟨tail, ht⟩ := run_junk cfg h14 hc cmds junk segs h hs hmax hok
  rw [ht]
  have : (execAll cmds).length = cmds.length := by simp [execAll]
  rw [← this, List.take_left']
  rfl

theorem replyCount_execAll_append (cmds : List Cmd) (rest : List Action) :
    replyCount (execAll cmds ++ rest) = cmds.length + replyCount rest := by
  induction cmds with
  | nil => simp [execAll]
  | cons c cs ih =>
    simp only [execAll, List.map_cons, List.cons_append, replyCount, List.length_cons] at ih ⊢
    rw [ih]; omega

/-- PART 2 (never silence), PARTIAL: a malformed frame that does NOT begin like an array (its first
    byte is not `*` — so it is no member and no prefix of the look-alike class, whose members all
    begin `*2\r\n$3\r\nGET` / `*3\r\n$3\r\nSET`) and that the decoder rejects (`parse1 junk` is a protocol
    error: decidable) is answered with `-ERR protocol error` RIGHT AFTER the replies to the
    well-formed commands before it — for every segmentation (the frame may share reads with the
    commands, be cut anywhere, arrive byte by byte), every configuration.  With
    `malformed_keeps_earlier` and `malformed_no_crash`: error reply, never silence, a hang or a crash,
    earlier replies untouched.  (For frames beginning with `*` the statement is refuted by the
    look-alikes: `malformed_is_error_counterexample`.) -/
theorem malformed_gets_error_partial (cfg : Config) (h14 : DeadCfg cfg) (hc : cfg.codec = codec1)
    (hd : 1 ≤ cfg.env.depth) (cmds : List Cmd) (junk : Bytes) (segs : List Bytes)
    (h : segs.flatten = stream cmds ++ junk) (hstar : junk.head? ≠ some 42) (e : Err)
    (hrej : (parse1 cfg.env junk).out = .error e)
    (hs : Small (stream cmds ++ junk)) (hmax : (stream cmds ++ junk).length ≤ cfg.maxBuffer)
    (hok : ∀ c ∈ cmds, CmdOK cfg c) :
    (∃ tail, run cfg segs = execAll cmds ++ Action.protoErr :: tail) ∧ cmds.length + 1 ≤ replyCount (run cfg segs) := by
  obtain ⟨tail, ht⟩ := run_junk_error cfg h14 hc hd cmds junk segs h (Or.inl hstar) e hrej hs hmax hok
  refine ⟨⟨tail, ht⟩, ?_⟩
  rw [ht, replyCount_execAll_append]
  simp only [replyCount]
  omega

/-- non-vacuity: `?x\r\n`, `$-2\r\n`, `:x\r\n` satisfy the hypotheses; cut inside the last command and
    byte by byte through the malformed frame, PING and GET are answered, then the protocol error -/
example : ([63, 120, 13, 10] : Bytes).head? ≠ some 42 ∧ (parse1 cfg14.env [63, 120, 13, 10]).out.errKind = some .unknownType ∧
    (parse1 cfg14.env [36, 45, 50, 13, 10]).out.errKind = some .badLen ∧ (parse1 cfg14.env [58, 120, 13, 10]).out.errKind = some .badInt ∧
    replyCount (run cfg14 ([(stream [cmdPing, cmdGetK]).take 20, (stream [cmdPing, cmdGetK]).drop 20 ++ [36]] ++
      [[45], [50], [13], [10]])) = 3 := by decide +kernel

/-- the frames that crashed the pinned code (`cfgPinned`) get a protocol error with checked arithmetic and `codec1`,
    after the reply to PING -/
example : hasCrash (run cfg14 [stream [cmdPing] ++ getHugeLen.take 20, getHugeLen.drop 20]) = false ∧
    replyCount (run cfg14 [stream [cmdPing] ++ getHugeLen.take 20, getHugeLen.drop 20]) = 2 ∧
    replyCount (run cfg14 [stream [cmdPing], [36, 45, 50, 13, 10]]) = 2 := by decide +kernel

/-- the second clause (no silence) fails for the code before de38a13 (for the code as it is:
    `malformed_is_error_repaired`): the recognisers indexed with 14 into a 13-byte header, so the malformed look-alike is executed as `GET k` by the fast path (a data
    reply, not an error) … -/
theorem malformed_accepted_counterexample :
    replyCount (run cfg14 [getLookalike]) = 1 ∧ hasCrash (run cfg14 [getLookalike]) = false ∧
    (parse1 cfg14.env getLookalike).out = .error .unknownType := ⟨by decide, by decide, rfl⟩

/-- … and in a buffer of at least `min_pipeline_buffer` bytes it is consumed by `collect_get_keys`
    and, being alone (1 < batch_threshold), dropped: three replies for four frames -/
theorem malformed_silence_counterexample :
    hasDropped (run cfg14 [getLookalike ++ stream [cmdPing, cmdPing, cmdPing]]) = true ∧
    replyCount (run cfg14 [getLookalike ++ stream [cmdPing, cmdPing, cmdPing]]) = 3 := by decide +kernel

theorem malformed_is_error_counterexample : ¬ C04_malformed_is_error cfg14 := by
  intro h
  have := (h [] (getLookalike ++ stream [cmdPing, cmdPing, cmdPing]) [getLookalike ++ stream [cmdPing, cmdPing, cmdPing]]
    (by simp [stream]) (by decide) (by decide) (by intro c hc; cases hc)).2.1
  rw [malformed_silence_counterexample.1] at this
  exact absurd this (by decide)

/-- PINNED behaviour (before fix fc366d4): `key_start + key_len + 2` wrapped for a declared length of
    2^64-1, the bounds test passed, the slice panicked: 39 bytes crashed the server -/
theorem recogniser_overflow_pinned_counterexample : hasCrash (run cfgPinned [getHugeLen]) = true := by decide +kernel

/-- PINNED behaviour (before fix f073228): the decoder's `$-2\r\n` panic reached the connection -/
theorem codec_crash_pinned_counterexample :
    hasCrash (run cfgPinned [stream [cmdPing], [36, 45, 50, 13, 10]]) = true ∧
    replyCount (run cfgPinned [stream [cmdPing], [36, 45, 50, 13, 10]]) = 1 := by decide +kernel

/-! ## 2b. the look-alike class, exactly (the CAUSE of the known findings `C04:malformed-*:*-lookalike*`) -/

/-- with HEADER_LEN = 14 the GET recognisers (`collect_get_keys`, `try_fast_get`) accept EXACTLY the
    byte strings of the class `GetLookalike`: 13-byte header, one arbitrary byte, `$`, a usize
    without CR, CR, one arbitrary byte, the key, two arbitrary bytes, anything -/
theorem lookalike_accepted_iff (buf key : Bytes) (total : Nat) :
    recogGet 14 true buf = .get key total ↔ GetLookalike buf key total :=
  ⟨getLookalike_of_accepted buf key total, getLookalike_accepted buf key total⟩

/-- no well-formed RESP command ever takes the fast path or is taken by a collector: for every
    buffer that is a prefix of a stream of well-formed command frames the fast path declines or
    waits, and both collectors return the buffer untouched (HEADER_LEN = 14 makes them dead code
    for well-formed input — a PERFORMANCE defect, the replies are those of the generic path) -/
theorem fast_path_dead_for_wellformed (ck inTx : Bool) (fuel : Nat) (buf rest : Bytes) (cmds : List Cmd)
    (h : buf ++ rest = stream cmds) :
    (fastPath 14 ck inTx buf = .notFast ∨ fastPath 14 ck inTx buf = .needMore) ∧
    collectGet 14 ck fuel buf = some ([], buf) ∧ collectSet 14 ck fuel buf = some ([], buf) := by
  refine ⟨?_, collectGet_dead ck fuel buf rest cmds h, collectSet_dead ck fuel buf rest cmds h⟩
  cases cmds with
  | nil =>
    simp [stream] at h
    rw [h.1]
    left
    unfold fastPath
    cases inTx <;> simp
  | cons c cs =>
    rw [stream_cons] at h
    cases fastPath_dead ck inTx buf rest (stream cs) c h with
    | inl hh => exact Or.inl hh
    | inr hh => exact Or.inr hh.1

/-- consequently no member of the look-alike class is (a prefix of) a well-formed pipeline: the
    known findings concern malformed input only -/
theorem lookalike_is_malformed (buf key : Bytes) (total : Nat) (hl : GetLookalike buf key total)
    (rest : Bytes) (cmds : List Cmd) : buf ++ rest ≠ stream cmds := by
  intro h
  have hacc := (lookalike_accepted_iff buf key total).2 hl
  cases cmds with
  | nil =>
    simp [stream] at h
    rw [h.1, recogGet_nil] at hacc
    cases hacc
  | cons c cs =>
    rw [stream_cons] at h
    cases recogGet_dead true buf rest (stream cs) c h with
    | inl hh => rw [hh] at hacc; cases hacc
    | inr hh => rw [hh.1] at hacc; cases hacc

example : GetLookalike getLookalike [107] 21 :=
  ⟨getHdrU, 88, [49], 10, [13, 10], Or.inl rfl, rfl, by decide, by decide, by decide, rfl, by decide⟩

/-- `PING`, then `*2\r\n$3\r\nGET\r\nX$4\r\nab` — a proper PREFIX of a look-alike: the RESP grammar
    already rejects it (byte X where a type byte belongs), but `try_fast_get` answers "need more
    data" and the error reply is withheld (known finding `C04:malformed-stall:get-lookalike-prefix`) -/
theorem lookalike_prefix_stalls_counterexample :
    replyCount (run cfg14 [stream [cmdPing], getLookalike.take 15 ++ [52, 13, 10, 97, 98]]) = 1 ∧
    hasCrash (run cfg14 [stream [cmdPing], getLookalike.take 15 ++ [52, 13, 10, 97, 98]]) = false ∧
    (parse1 cfg14.env (getLookalike.take 15 ++ [52, 13, 10, 97, 98])).out.errKind = some .unknownType := by
  decide +kernel

/-! ## 3. connections do not leak into each other through the shared buffer pool -/

/-- full statement: whatever the earlier (or concurrent) connections of the server did — EOF in the
    middle of a frame, replies that could not be written, a buffer overflow — and in whatever order
    connections are accepted and finish, every connection starts from an empty read buffer and an
    empty write buffer: its client receives exactly what it receives from a server that never had
    another client (`pool.clears` = `buf.clear()` in `BufferPoolAsync::release`) -/
def C04_fresh_connection_state (clears : Bool) : Prop :=
  ∀ (cfg : Config) (poolSize : Nat) (specs : List ConnSpec) (evs : List Ev),
    let srv := serve cfg (Pool.init poolSize clears) specs evs
    srv.pool.AllEmpty ∧ ∀ o ∈ srv.outs, ∃ spec, specs[o.1]? = some spec ∧ o.2 = solo cfg spec

theorem fresh_connection_state : C04_fresh_connection_state true := by
  intro cfg n specs evs
  have := serve_ok cfg specs evs ⟨Pool.init n true, [], []⟩
    ⟨Pool.init_allEmpty n true, rfl, by intro o ho; cases ho⟩
  exact ⟨this.1, this.2.2⟩

/-- a connection over the shared pool is answered as the same connection alone on the server -/
theorem connections_independent (cfg : Config) (poolSize : Nat) (specs : List ConnSpec) (evs : List Ev)
    (i : Nat) (out : List Action') (h : (i, out) ∈ (serve cfg (Pool.init poolSize true) specs evs).outs) :
    ∃ spec, specs[i]? = some spec ∧
      (serve cfg (Pool.init poolSize true) [spec] [Ev.start 0]).outs = [(0, out)] := by
  obtain ⟨spec, hs, ho⟩ := (fresh_connection_state cfg poolSize specs evs).2 (i, out) h
  refine ⟨spec, hs, ?_⟩
  have h1 := Pool.acquire_empty (Pool.init poolSize true) (Pool.init_allEmpty _ _)
  have h2 := Pool.acquire_empty _ h1.2.1
  simp only [serve, List.foldl_cons, List.foldl_nil, srvStep, List.getElem?_cons_zero, List.nil_append]
  simp only at ho
  rw [ho, solo, h1.1, h2.1]

/-- composed with `segmentation_independent`: on a server with a shared buffer pool, whatever its
    other connections did, a connection that sends a well-formed pipeline (in any segmentation, and
    whose replies can be written) gets every command executed exactly once, in order -/
theorem pooled_one_reply_per_command (cfg : Config) (h14 : DeadCfg cfg) (hc : cfg.codec = codec1)
    (hd : 1 ≤ cfg.env.depth) (poolSize : Nat) (specs : List ConnSpec) (evs : List Ev)
    (i : Nat) (out : List Action') (h : (i, out) ∈ (serve cfg (Pool.init poolSize true) specs evs).outs)
    (cmds : List Cmd) (segs : List Bytes) (hspec : specs[i]? = some ⟨segs, none⟩)
    (hseg : segs.flatten = stream cmds) (hs : Small (stream cmds)) (hmax : (stream cmds).length ≤ cfg.maxBuffer)
    (hok : ∀ c ∈ cmds, CmdOK cfg c) :
    out = (execAll cmds).map Action'.act := by
  obtain ⟨spec, hs1, ho⟩ := (fresh_connection_state cfg poolSize specs evs).2 (i, out) h
  simp only at hs1 ho
  rw [hspec] at hs1
  cases hs1
  rw [ho, solo, runConn_eq_run, segmentation_independent_cmdok cfg h14 hc hd cmds segs hseg hs hmax hok]
  congr 1
  unfold execAll
  induction cmds with
  | nil => rfl
  | cons c cs ih => simp [Action.isDropped]

/-- `*2\r\n$3\r\nGET\r\n$5\r\nab` — a client that disconnects in the middle of a frame -/
def midFrame : Bytes := [42, 50, 13, 10, 36, 51, 13, 10, 71, 69, 84, 13, 10, 36, 53, 13, 10, 97, 98]

/-- non-vacuity: after that client, a pipeline `PING`, `GET k` on the same one-buffer pool -/
example : ((serve cfg14 (Pool.init 1 true) [⟨[midFrame], none⟩, ⟨[stream [cmdPing, cmdGetK]], none⟩] (seqEvents 2)).outs.map
    (fun o => o.2.length)) = [0, 2] := by decide +kernel

/-- WITHOUT the `buf.clear()` in `release` the statement fails: the stale half frame is parsed in
    front of the next client's pipeline (its PING is swallowed as the rest of a bulk string) -/
theorem release_without_clear_counterexample : ¬ C04_fresh_connection_state false := by
  intro h
  have := (h cfg14 1 [⟨[midFrame], none⟩] (seqEvents 1)).1
  have hne : ((serve cfg14 (Pool.init 1 false) [⟨[midFrame], none⟩] (seqEvents 1)).pool.q.all Buf.isEmpty) = false := by
    decide +kernel
  have hall : ((serve cfg14 (Pool.init 1 false) [⟨[midFrame], none⟩] (seqEvents 1)).pool.q.all Buf.isEmpty) = true := by
    rw [List.all_eq_true]
    intro b hb
    rw [this b hb]
    rfl
  rw [hall] at hne
  exact absurd hne (by decide)

def anyProtoErr : List Action' → Bool
  | [] => false
  | .act .protoErr :: _ => true
  | _ :: rest => anyProtoErr rest

/-- … and the next client is answered wrongly: `PING`, `GET k` are answered with the reply to
    `GET "ab*1\r"` and a protocol error -/
example : ((serve cfg14 (Pool.init 1 false) [⟨[midFrame], none⟩, ⟨[stream [cmdPing, cmdGetK]], none⟩] (seqEvents 2)).outs.map
    (fun o => anyProtoErr o.2)) = [false, true] ∧
  ((serve cfg14 (Pool.init 1 true) [⟨[midFrame], none⟩, ⟨[stream [cmdPing, cmdGetK]], none⟩] (seqEvents 2)).outs.map
    (fun o => anyProtoErr o.2)) = [false, false] := by decide +kernel

/-! ## 4. the WRITE side: the bytes on the wire (Model/ConnWrite.lean)

Sections 1–3 are about WHICH frames are executed (`Action`s).  Here the replies are encoded into
the write buffer (`encode_resp_into` / `encode_error_into`), flushed at the end of every read by
`write_all` + `flush`, and the peer's socket answers every `poll_write` as it likes: it takes any
number `≥ 1` of the remaining bytes (partial writes), or returns `Ok(0)`, or fails; `poll_flush`
may fail; a `read()` may fail.  The executor is ANY function `Exec σ` over ANY state type. -/

open RedisVerif.ConnW

/-- full statement, for a value `h` of `HEADER_LEN`: for every executor, every well-formed pipeline,
    every segmentation of the READS and every segmentation of the WRITES (a peer that takes any
    number ≥ 1 of bytes per `poll_write` and never fails), under every configuration, the byte
    stream the client receives is exactly the concatenation of the encoded replies of the
    commands, executed once each, in command order -/
def C04_bytes_written (h : Nat) (guard : Bool) : Prop :=
  ∀ (σ : Type) (ex : Exec σ) (s0 : σ) (cfg : Config), cfg.headerLen = h → cfg.repaired = false → cfg.nameGuard = guard →
    cfg.codec = codec1 → 2 ≤ cfg.env.depth →
  ∀ (cmds : List Cmd) (segs : List Bytes) (script : List WEv), segs.flatten = stream cmds →
    Small (stream cmds) → (stream cmds).length ≤ cfg.maxBuffer → NoFail script = true →
    (runW cfg ex s0 script segs none).out = replyBytes ex s0 (cmds.map cmdFrame)

/-- the general form (`CmdOK`: name guard on, or no command name empty / white space only) -/
theorem bytes_written_cmdok (σ : Type) (ex : Exec σ) (s0 : σ) (cfg : Config) (h14 : DeadCfg cfg)
    (hc : cfg.codec = codec1) (hd : 1 ≤ cfg.env.depth) (cmds : List Cmd) (segs : List Bytes) (script : List WEv)
    (h : segs.flatten = stream cmds) (hs : Small (stream cmds)) (hmax : (stream cmds).length ≤ cfg.maxBuffer)
    (hok : ∀ c ∈ cmds, CmdOK cfg c) (hnf : NoFail script = true) :
    (runW cfg ex s0 script segs none).out = replyBytes ex s0 (cmds.map cmdFrame) := by
  have hrun := segmentation_independent_cmdok cfg h14 hc hd cmds segs h hs hmax hok
  have hnc : hasCrash (run cfg segs) = false := hrun ▸ hasCrash_execAll cmds
  rw [runW_eq cfg ex s0 script segs hnf hnc, hrun, encActs_execAll]

theorem bytes_written : C04_bytes_written 14 true :=
  fun σ ex s0 cfg h14 hr hg hc hd cmds segs script h hs hmax hnf =>
    bytes_written_cmdok σ ex s0 cfg (DeadCfg.of14 hr h14) hc (by omega) cmds segs script h hs hmax (fun _ _ => ⟨hd, Or.inl hg⟩) hnf

/-- with HEADER_LEN = 13 the byte stream lacks the reply of a consumed-and-dropped GET -/
theorem bytes_written_header13_counterexample : ¬ C04_bytes_written 13 true := by
  intro h
  have := h ExSt refExec ExSt.init cfg13 rfl rfl rfl rfl (by decide) [cmdGetK, cmdPing, cmdPing, cmdPing]
    [stream [cmdGetK, cmdPing, cmdPing, cmdPing]] [] (by simp) (by decide) (by decide) rfl
  have hl : (runW cfg13 refExec ExSt.init [] [stream [cmdGetK, cmdPing, cmdPing, cmdPing]] none).out.length = 21 := by
    decide +kernel
  rw [this] at hl
  exact absurd hl (by decide)

/-- PINNED behaviour (before fix 5f3bab5): after `PING` and the empty-named command the peer has the reply to PING only
    if the two arrive in different reads — in ONE read the panic takes the unflushed `+PONG` with it -/
theorem bytes_written_empty_name_counterexample : ¬ C04_bytes_written 14 false := by
  intro h
  have := h ExSt refExec ExSt.init cfg14 rfl rfl rfl rfl (by decide) [cmdPing, cmdEmptyName]
    [stream [cmdPing, cmdEmptyName]] [] (by simp) (by decide) (by decide) rfl
  have hl : (runW cfg14 refExec ExSt.init [] [stream [cmdPing, cmdEmptyName]] none).out.length = 0 := by decide +kernel
  rw [this] at hl
  exact absurd hl (by decide)

/-- … hence equal to what the client receives when every command arrives alone, in its own
    segment, under any other configuration, from a peer that takes every write whole -/
theorem bytes_as_sent_alone (σ : Type) (ex : Exec σ) (s0 : σ) (cfg cfg' : Config)
    (h14 : DeadCfg cfg) (h14' : DeadCfg cfg') (hc : cfg.codec = codec1) (hc' : cfg'.codec = codec1)
    (hd : 1 ≤ cfg.env.depth) (hd' : 1 ≤ cfg'.env.depth)
    (cmds : List Cmd) (segs : List Bytes) (script : List WEv) (h : segs.flatten = stream cmds)
    (hs : Small (stream cmds)) (hmax : (stream cmds).length ≤ cfg.maxBuffer) (hmax' : (stream cmds).length ≤ cfg'.maxBuffer)
    (hok : ∀ c ∈ cmds, CmdOK cfg c) (hok' : ∀ c ∈ cmds, CmdOK cfg' c) (hnf : NoFail script = true) :
    (runW cfg ex s0 script segs none).out = (runW cfg' ex s0 [] (cmds.map encCmd) none).out := by
  rw [bytes_written_cmdok σ ex s0 cfg h14 hc hd cmds segs script h hs hmax hok hnf,
    bytes_written_cmdok σ ex s0 cfg' h14' hc' hd' cmds (cmds.map encCmd) [] rfl hs hmax' hok' rfl]

/-- a peer that fails, closes or stops at ANY point (a failed `poll_write` after any number of
    partial writes, `Ok(0)`, a failed flush), a `read()` that fails after any number of reads: the
    client has received a PREFIX of the correct reply stream — never a reply out of order, never a
    reply to another command, never bytes that are not replies -/
theorem written_is_prefix (σ : Type) (ex : Exec σ) (s0 : σ) (cfg : Config) (h14 : DeadCfg cfg)
    (hc : cfg.codec = codec1) (hd : 1 ≤ cfg.env.depth)
    (cmds : List Cmd) (segs : List Bytes) (script : List WEv) (stopAfter : Option Nat) (h : segs.flatten = stream cmds)
    (hs : Small (stream cmds)) (hmax : (stream cmds).length ≤ cfg.maxBuffer) (hok : ∀ c ∈ cmds, CmdOK cfg c) :
    (runW cfg ex s0 script segs stopAfter).out <+: replyBytes ex s0 (cmds.map cmdFrame) := by
  have hrun := segmentation_independent_cmdok cfg h14 hc hd cmds segs h hs hmax hok
  have hnc : hasCrash (run cfg segs) = false := hrun ▸ hasCrash_execAll cmds
  have := runW_prefix cfg ex s0 script segs stopAfter hnc
  rwa [hrun, encActs_execAll] at this

/-- The client has sent ANY PREFIX of a well-formed
    pipeline (`rest` is what it has not sent yet: the cut may fall at any byte), in any segmentation,
    and waits.  Then exactly the commands `done` that are complete in what it sent have been
    executed, the bytes it has received are exactly the replies to `done` — all of them, none
    stranded in the write buffer until more input arrives — and what the handler still holds (`pre`)
    is a proper prefix of the next frame. -/
theorem nothing_withheld (σ : Type) (ex : Exec σ) (s0 : σ) (cfg : Config) (h14 : DeadCfg cfg)
    (hc : cfg.codec = codec1) (hd : 1 ≤ cfg.env.depth)
    (cmds : List Cmd) (segs : List Bytes) (rest : Bytes) (script : List WEv) (h : segs.flatten ++ rest = stream cmds)
    (hs : Small (stream cmds)) (hmax : (stream cmds).length ≤ cfg.maxBuffer) (hok : ∀ c ∈ cmds, CmdOK cfg c)
    (hnf : NoFail script = true) :
    ∃ (done left : List Cmd) (pre : Bytes), cmds = done ++ left ∧ segs.flatten = stream done ++ pre ∧
      (∀ c cs, left = c :: cs → pre.length < (encCmd c).length) ∧
      run cfg segs = execAll done ∧
      (runW cfg ex s0 script segs none).out = replyBytes ex s0 (done.map cmdFrame) := by
  obtain ⟨done, left, pre, tx', e1, e2, e3, e4⟩ :=
    reads_wf_prefix cfg h14 hc hd (chunksOf cfg segs) cmds [] rest false []
      (by simp [chunksOf, flatMap_splitReads_flatten, h]) hs hmax hok
      (by intro c cs _; have := encCmd_len_pos c; simp; omega)
  have hrun : run cfg segs = execAll done := by
    have := congrArg Prod.snd e4
    simpa [run, feedSegs, St.init, chunksOf] using this
  have hnc : hasCrash (run cfg segs) = false := hrun ▸ hasCrash_execAll done
  refine ⟨done, left, pre, e1, ?_, e3, hrun, ?_⟩
  · have : segs.flatten ++ rest = (stream done ++ pre) ++ rest := by
      rw [h, e1, stream_append, List.append_assoc, e2]
    exact List.append_cancel_right this
  · rw [runW_eq cfg ex s0 script segs hnf hnc, hrun, encActs_execAll]

/-- non-vacuity: `SET k v`, `GET k` and 13 of the 14 bytes of a third command have arrived (in two segments, the
    peer takes 4 bytes at a time): both replies are on the wire -/
example : (runW cfg14 refExec ExSt.init [.accept 4, .accept 4, .accept 4, .accept 4]
    [(stream [cmdSetKV, cmdGetK, cmdPing]).take 30, ((stream [cmdSetKV, cmdGetK, cmdPing]).drop 30).take 30] none).out =
    [43, 79, 75, 13, 10, 36, 49, 13, 10, 118, 13, 10] ∧ (stream [cmdSetKV, cmdGetK]).length = 47 ∧ (stream [cmdSetKV, cmdGetK, cmdPing]).length = 61 := by decide +kernel

/-- REFINEMENT for ARBITRARY input bytes (well-formed or not): what the peer receives is (a prefix
    of, and with a peer that never refuses exactly) the encoding of the actions of `Conn.run` —
    every action-level theorem of sections 1–3 is a theorem about the bytes on the wire -/
theorem written_refines_actions (σ : Type) (ex : Exec σ) (s0 : σ) (cfg : Config) (hck : cfg.checked = true)
    (hng : cfg.nameGuard = true) (hc : cfg.codec = codec1) (hd : maxNesting + 1 ≤ cfg.env.depth) (hmax : cfg.maxBuffer < 72057594037927936)
    (segs : List Bytes) (script : List WEv) (stopAfter : Option Nat) :
    (runW cfg ex s0 script segs stopAfter).out <+: (encActs ex s0 (run cfg segs)).2 ∧
    (NoFail script = true → (runW cfg ex s0 script segs none).out = (encActs ex s0 (run cfg segs)).2) := by
  have hnc := run_no_crash cfg hck hng hc hd hmax segs
  exact ⟨runW_prefix cfg ex s0 script segs stopAfter hnc, fun hnf => runW_eq cfg ex s0 script segs hnf hnc⟩

/-- with C15's `decode ∘ encode`: a client that feeds what it receives — cut into ANY
    fragments — to the buffer loop around either decoder obtains exactly one frame per command, in
    command order, the i-th being the reply of the i-th command (as written on the wire), with no
    byte left over.  `ValOK`: the executor's replies are values of the reply type that fit the
    client's stack and nest at most 32 arrays. -/
theorem client_decodes_one_reply_per_command (σ : Type) (ex : Exec σ) (s0 : σ) (cfg : Config)
    (h14 : DeadCfg cfg) (hc : cfg.codec = codec1) (hd : 1 ≤ cfg.env.depth)
    (cmds : List Cmd) (segs : List Bytes) (script : List WEv) (h : segs.flatten = stream cmds)
    (hs : Small (stream cmds)) (hmax : (stream cmds).length ≤ cfg.maxBuffer) (hok : ∀ c ∈ cmds, CmdOK cfg c)
    (hnf : NoFail script = true)
    (c : Codec) (hcc : c = codec1 ∨ c = codec2) (cenv : Env) (hcd : 1 ≤ cenv.depth)
    (hex : ∀ s f p, ValOK c cenv (ex s f p).2)
    (chunks : List Bytes) (hch : chunks.flatten = (runW cfg ex s0 script segs none).out)
    (hsm : Small (runW cfg ex s0 script segs none).out) :
    feedAll (fun b => (parseG c cenv b).out) FeedSt.init chunks =
      ⟨(replyVals ex s0 (cmds.map cmdFrame)).map (fun v => Frame.val v.san), [], false⟩ ∧
    (replyVals ex s0 (cmds.map cmdFrame)).length = cmds.length := by
  have hb := bytes_written_cmdok σ ex s0 cfg h14 hc hd cmds segs script h hs hmax hok hnf
  rw [hb, replyBytes_eq] at hch hsm
  refine ⟨feedAll_encoded c hcc cenv hcd _ (replyVals_ok ex _ hex _ _) chunks hch hsm, ?_⟩
  rw [replyVals_length, List.length_map]

/-- non-vacuity of the hypotheses: an executor whose every reply is `+OK` satisfies `ValOK` for both
    decoders; the guarded default configuration satisfies the hypotheses of `written_refines_actions`
    and `malformed_no_crash` -/
example : (∀ (s : Unit) (f : Val) (p : Path), ValOK codec2 cfg14.env ((fun (u : Unit) (_ : Val) (_ : Path) => (u, Val.simple [79, 75])) s f p).2) ∧
    cfgG.checked = true ∧ cfgG.nameGuard = true ∧ cfgG.codec = codec1 ∧ maxNesting + 1 ≤ cfgG.env.depth ∧
    cfgG.maxBuffer < 72057594037927936 :=
  ⟨fun _ _ _ => (by decide : ValOK codec2 cfg14.env (Val.simple [79, 75])), rfl, rfl, rfl, by decide, by decide⟩

/-- non-vacuity: `SET k v`, `GET k`, `PING` cut inside a header; the peer takes 1, 7, 2 bytes, then
    everything; the client gets `+OK\r\n$1\r\nv\r\n+PONG\r\n` and decodes three replies from 3-byte pieces -/
example : NoFail [.accept 1, .accept 7, .accept 2] = true ∧
    (runW cfg14 refExec ExSt.init [.accept 1, .accept 7, .accept 2]
      [(stream [cmdSetKV, cmdGetK, cmdPing]).take 9, (stream [cmdSetKV, cmdGetK, cmdPing]).drop 9] none).out =
      [43, 79, 75, 13, 10, 36, 49, 13, 10, 118, 13, 10, 43, 80, 79, 78, 71, 13, 10] := by decide +kernel

/-- … and a peer that fails after 6 bytes has received the first reply and one byte of the second -/
example : (runW cfg14 refExec ExSt.init [.accept 6, .fail] [stream [cmdSetKV, cmdGetK, cmdPing]] none).out =
    [43, 79, 75, 13, 10, 36] ∧
    (runW cfg14 refExec ExSt.init [.accept 6, .accept 0] [stream [cmdSetKV, cmdGetK, cmdPing]] none).ended = true := by
  decide +kernel

/-! ## 5. the MIRROR the repository's own connection tests use (Model/ConnSim.lean)

`SimulatedConnection::process` (src/simulator/connection.rs) is a second, hand-written implementation
of the read loop ("This mirrors `OptimizedConnectionHandler::run()`"): the repository's pipelining
tests run IT, not the production handler.  What does a test through the mirror say about the
production loop? -/

section mirror
open RedisVerif.ConnSim

/-- full statement: on every input, in every segmentation, the mirror answers as many frames as the
    production handler (with the guarded `check_acl_permission`) does -/
def C04_mirror_faithful (cmdErr : Val → Bool) : Prop :=
  ∀ (chunks : List Bytes), Small chunks.flatten →
    (simRun cfgG.env cmdErr chunks).done.length = replyCount (run cfgG chunks)

/-- PARTIAL — and stronger on its domain: on every WELL-FORMED pipeline of commands the command
    parser accepts, for any two segmentations (the mirror's random partial reads, the network's
    segments and the handler's read size), under every configuration, the mirror executes exactly the
    frames the production handler executes, in the same order, each once -/
theorem mirror_agrees_on_wellformed_partial (cfg : Config) (h14 : DeadCfg cfg) (hc : cfg.codec = codec1)
    (cmdErr : Val → Bool) (cmds : List Cmd) (chunks segs : List Bytes)
    (hch : chunks.flatten = stream cmds) (hseg : segs.flatten = stream cmds)
    (hs : Small (stream cmds)) (hmax : (stream cmds).length ≤ cfg.maxBuffer) (hok : ∀ c ∈ cmds, CmdOK cfg c)
    (hd : 2 ≤ cfg.env.depth) (hce : ∀ c ∈ cmds, cmdErr (cmdFrame c) = false) :
    (simRun cfg.env cmdErr chunks).done = execFrames (run cfg segs) ∧
    (simRun cfg.env cmdErr chunks).buf = [] ∧ (simRun cfg.env cmdErr chunks).crashed = false := by
  rw [simRun_wf cfg.env cmdErr hd cmds chunks hch hs hce,
    segmentation_independent_cmdok cfg h14 hc (by omega) cmds segs hseg hs hmax hok, execFrames_execAll]
  exact ⟨rfl, rfl, rfl⟩

/-- `GET` without a key: a well-formed frame that `Command::from_resp_zero_copy` rejects -/
def isGetNoKey : Val → Bool
  | .array [.bulk [71, 69, 84]] => true
  | _ => false

/-- COUNTEREXAMPLE 1: a frame the RESP grammar rejects (`?x\r\n`) — the production handler answers
    `-ERR protocol error`, the mirror clears its buffer and answers NOTHING -/
theorem mirror_silent_on_protocol_error_counterexample : ¬ C04_mirror_faithful (fun _ => false) := by
  intro h
  have := h [[63, 120, 13, 10]] (by decide)
  exact absurd this (by decide)

/-- COUNTEREXAMPLE 2: `GET` (no key), then `PING`, in one read — the production handler answers both
    (an error, then PONG); the mirror `break`s at the rejected command without a reply and leaves
    PING unexecuted in its buffer until more bytes arrive -/
theorem mirror_stalls_after_rejected_command_counterexample : ¬ C04_mirror_faithful isGetNoKey := by
  intro h
  have := h [stream [[[71, 69, 84]], cmdPing]] (by decide)
  exact absurd this (by decide)

example : replyCount (run cfgG [stream [[[71, 69, 84]], cmdPing]]) = 2 ∧
    (simRun cfgG.env isGetNoKey [stream [[[71, 69, 84]], cmdPing]]).done.length = 0 ∧
    (simRun cfgG.env isGetNoKey [stream [[[71, 69, 84]], cmdPing]]).buf = stream [cmdPing] ∧
    (simRun cfgG.env isGetNoKey [(stream [cmdGetK, cmdPing]).take 7, (stream [cmdGetK, cmdPing]).drop 7]).done.length = 2 := by
  decide +kernel

end mirror

/-! ## 6. THE CODE AS IT IS: the repaired recognisers (fix de38a13: HEADER_LEN = 13, LF and UTF-8 tests, an
incomplete frame is left to the generic parser, collected commands are always executed, the gate
asks the ACL) — `Config.repaired = true`, `headerLen = 13`

The six findings `C04:malformed-{accepted,silence}:*-lookalike`, `C04:malformed-stall:*-lookalike-prefix` (fixed)
had ONE cause (the recognisers index a 13-byte header with 14); changing the constant alone is
refuted above (`header13_counterexample`).  What follows is proved about the model of the repaired
code (the model follows the source through `VERIF_C04_INCOMPLETE` / `VERIF_C04_HEADER_LEN`; `./check`
reports a broken proof obligation when the source reads anything but 13 / `NotFastPath`). -/

/-- the repaired code with the default thresholds -/
def cfgR : Config := { cfg14 with headerLen := 13, nameGuard := true, repaired := true }

example : Repaired13 cfgR := ⟨rfl, rfl, rfl, by decide⟩

/-- the look-alike class is empty: whatever a repaired recogniser takes — in any buffer that can
    exist — is a frame that the generic decoder decodes to the very same command (name as written,
    key, value), consuming the very same bytes; and a repaired recogniser never answers "need more
    data" (the cause of the stalls), it takes a frame or leaves it to the decoder -/
theorem repaired_recognisers_sound (env : Env) (hd : 2 ≤ env.depth) (buf : Bytes) (hs : Small buf) :
    (∀ key total, recogGetR 13 buf = .get key total →
      (parse1 env buf).out = .ok (getFrameN buf key) total ∧ validUtf8 key = true) ∧
    (∀ key val total, recogSetR 13 buf = .set key val total →
      (parse1 env buf).out = .ok (setFrameN buf key val) total ∧ validUtf8 key = true) ∧
    ((∃ k t, recogGetR 13 buf = .get k t) ∨ recogGetR 13 buf = .notFast) ∧
    ((∃ k v t, recogSetR 13 buf = .set k v t) ∨ recogSetR 13 buf = .notFast) :=
  ⟨fun key total h => let r := (recogGetR_decoded env hd buf key total hs h).1; ⟨r.1, r.2.2.2⟩,
   fun key val total h => let r := (recogSetR_decoded env hd buf key val total hs h).1; ⟨r.1, r.2.2.2⟩,
   recogGetR_cases 13 buf, recogSetR_cases 13 buf⟩

/-- bytes a recogniser takes (0 = it declines / waits) -/
def took : Recog → Nat
  | .get _ t => t
  | .set _ _ t => t
  | _ => 0

/-- non-vacuity: a well-formed `GET k` / `get k` / `SET k v` IS taken (the paths are alive), a key that is
    not UTF-8 is left to the generic path, the look-alike of `HEADER_LEN = 14` and a lone CR in the length line are declined -/
example : took (recogGetR 13 (encCmd cmdGetK)) = 20 ∧ took (recogGetR 13 (encCmd [[103, 101, 116], [107]])) = 20 ∧
    took (recogSetR 13 (encCmd cmdSetKV)) = 27 ∧ took (recogGetR 13 (encCmd [[71, 69, 84], [255]])) = 0 ∧
    took (recogGetR 13 getLookalike) = 0 ∧
    took (recogGetR 13 [42, 50, 13, 10, 36, 51, 13, 10, 71, 69, 84, 13, 10, 36, 49, 13, 88, 107, 13, 10]) = 0 := by decide +kernel

/-- for EVERY byte stream (well-formed or not) in EVERY segmentation, under every
    batching configuration, the repaired connection does exactly what it does with the recognisers
    switched off (`cfg.off`: a user without unrestricted keys — the generic decoder carries
    everything): the same frames in the same order, the same protocol errors, the same end — only
    the label of the path that carried a frame differs.  Every statement about the generic loop is
    a statement about the repaired connection. -/
theorem repaired_transparent (cfg : Config) (hR : Repaired13 cfg) (hmax : cfg.maxBuffer < 72057594037927936)
    (segs : List Bytes) :
    (run cfg segs).map Action.noPath = (run cfg.off segs).map Action.noPath :=
  run_transparent cfg hR hmax segs

/-- full statement for the repaired code: every segmentation of every well-formed pipeline, under
    every batching configuration, executes every command exactly once, in order — on whichever path -/
def C04_segmentation_independent_repaired (h : Nat) : Prop :=
  ∀ (cfg : Config), cfg.headerLen = h → cfg.repaired = true → cfg.nameGuard = true → cfg.codec = codec1 → 2 ≤ cfg.env.depth →
  cfg.maxBuffer < 72057594037927936 →
  ∀ (cmds : List Cmd) (segs : List Bytes), segs.flatten = stream cmds →
    Small (stream cmds) → (stream cmds).length ≤ cfg.maxBuffer →
    (run cfg segs).map Action.noPath = execAll cmds

theorem segmentation_independent_repaired : C04_segmentation_independent_repaired 13 := by
  intro cfg h13 hrep hg hc hd hmb cmds segs h hs hmax
  rw [run_transparent cfg ⟨hrep, h13, hc, hd⟩ hmb segs,
    run_wf cfg.off (DeadCfg.off cfg hrep) hc (by have : cfg.off.env = cfg.env := rfl; rw [this]; omega) cmds segs h hs hmax
      (fun _ _ => ⟨hd, Or.inl hg⟩), noPath_execAll]

/-- exactly one reply per command, each equal to the reply the command gets when every command
    arrives alone, in its own segment, under any other repaired configuration -/
theorem one_reply_per_command_repaired (cfg cfg' : Config) (hR : Repaired13 cfg) (hR' : Repaired13 cfg')
    (hg : cfg.nameGuard = true) (hg' : cfg'.nameGuard = true)
    (hmb : cfg.maxBuffer < 72057594037927936) (hmb' : cfg'.maxBuffer < 72057594037927936)
    (cmds : List Cmd) (segs : List Bytes) (h : segs.flatten = stream cmds)
    (hs : Small (stream cmds)) (hmax : (stream cmds).length ≤ cfg.maxBuffer) (hmax' : (stream cmds).length ≤ cfg'.maxBuffer)
    (s : ExSt) :
    (replies ExSt.init (run cfg segs)).length = cmds.length ∧
    replies s (run cfg segs) = replies s (run cfg' (cmds.map encCmd)) := by
  have e1 := segmentation_independent_repaired cfg hR.2.1 hR.1 hg hR.2.2.1 hR.2.2.2 hmb cmds segs h hs hmax
  have e2 := segmentation_independent_repaired cfg' hR'.2.1 hR'.1 hg' hR'.2.2.1 hR'.2.2.2 hmb' cmds (cmds.map encCmd) rfl hs hmax'
  refine ⟨?_, ?_⟩
  · rw [← replies_noPath, e1]; exact replies_execAll_length _ _
  · rw [← replies_noPath (run cfg segs), ← replies_noPath (run cfg' _), e1, e2]

/-- FULL statement of the second sentence of the property for the repaired code, without the restriction of
    `malformed_gets_error_partial` to frames that do not begin with `*`: ANY bytes after a well-formed pipeline, in any
    segmentation: no panic, no frame consumed without a reply, the replies to the pipeline
    untouched; and when the decoder rejects the trailing frame it is answered with
    `-ERR protocol error` right after the replies to the commands before it -/
def C04_malformed_is_error_repaired (cfg : Config) : Prop :=
  ∀ (cmds : List Cmd) (junk : Bytes) (segs : List Bytes), segs.flatten = stream cmds ++ junk →
    Small (stream cmds ++ junk) → (stream cmds ++ junk).length ≤ cfg.maxBuffer → (∀ c ∈ cmds, CmdOK cfg c) →
    hasCrash (run cfg segs) = false ∧ hasDropped (run cfg segs) = false ∧
    ((run cfg segs).map Action.noPath).take cmds.length = execAll cmds ∧
    (∀ e, (parse1 cfg.env junk).out = .error e →
      ∃ tail, (run cfg segs).map Action.noPath = execAll cmds ++ Action.protoErr :: tail)

theorem hasDropped_of_noDropped : ∀ (acts : List Action), (∀ a ∈ acts, a.isDropped = false) → hasDropped acts = false := by
  intro acts
  induction acts with
  | nil => intro _; rfl
  | cons a as ih =>
    intro h
    have ha := h a (List.mem_cons_self ..)
    have := ih (fun x hx => h x (List.mem_cons_of_mem _ hx))
    cases a <;> first | exact this | cases ha

theorem malformed_is_error_repaired (cfg : Config) (hR : Repaired13 cfg) (hck : cfg.checked = true)
    (hg : cfg.nameGuard = true) (hd : maxNesting + 1 ≤ cfg.env.depth) (hmb : cfg.maxBuffer < 72057594037927936) :
    C04_malformed_is_error_repaired cfg := by
  intro cmds junk segs h hs hmax hok
  have htr := run_transparent cfg hR hmb segs
  have hokoff : ∀ c ∈ cmds, CmdOK cfg.off c := hok
  obtain ⟨tail, ht⟩ := run_junk cfg.off (DeadCfg.off cfg hR.1) hR.2.2.1 cmds junk segs h hs hmax hokoff
  refine ⟨run_no_crash cfg hck hg hR.2.2.1 hd hmb segs,
    hasDropped_of_noDropped _ (run_noDropped cfg hR.1 segs), ?_, ?_⟩
  · rw [htr, ht, List.map_append, noPath_execAll]
    have : (execAll cmds).length = cmds.length := by simp [execAll]
    rw [← this, List.take_left']
    rfl
  · intro e hrej
    obtain ⟨tail', ht'⟩ := run_junk_error cfg.off (DeadCfg.off cfg hR.1) hR.2.2.1
      (by have : cfg.off.env = cfg.env := rfl; rw [this]; unfold maxNesting at hd; omega)
      cmds junk segs h (Or.inr ⟨hR.1, rfl⟩) e hrej hs hmax hokoff
    refine ⟨tail'.map Action.noPath, ?_⟩
    rw [htr, ht', List.map_append, noPath_execAll]
    rfl

def firstIsProtoErr : List Action → Bool
  | .protoErr :: _ => true
  | _ => false

/-- non-vacuity, on the witnesses of the six known findings: under the repaired configuration the
    look-alike is answered with a protocol error — alone, in a buffer above `min_pipeline_buffer`
    with three PINGs behind it (four replies for four frames, nothing dropped; the handler clears
    its buffer at a protocol error, so the PINGs of the same read go with it: one reply),
    and as a prefix after a PING (no stall) — and the well-formed `GET k` that `HEADER_LEN = 13`
    alone would drop below `batch_threshold` (`header13_counterexample`) is answered -/
example : firstIsProtoErr (run cfgR [getLookalike]) = true ∧ replyCount (run cfgR [getLookalike]) = 1 ∧
    hasDropped (run cfgR [getLookalike ++ stream [cmdPing, cmdPing, cmdPing]]) = false ∧
    firstIsProtoErr (run cfgR [getLookalike ++ stream [cmdPing, cmdPing, cmdPing]]) = true ∧
    replyCount (run cfgR [stream [cmdPing], getLookalike.take 15 ++ [52, 13, 10, 97, 98]]) = 2 ∧
    replyCount (run cfgR [stream [cmdGetK, cmdPing, cmdPing, cmdPing]]) = 4 ∧
    hasDropped (run cfgR [stream [cmdGetK, cmdPing, cmdPing, cmdPing]]) = false := by decide +kernel

/-- an executor that answers a frame the same on every path does not see the path labels -/
theorem encActs_noPath {σ : Type} (ex : Exec σ) (hex : ∀ s f p, ex s f p = ex s f .generic) :
    ∀ (acts : List Action) (s : σ), encActs ex s (acts.map Action.noPath) = encActs ex s acts := by
  intro acts
  induction acts with
  | nil => intro s; rfl
  | cons a as ih =>
    intro s
    cases a with
    | exec f p => simp only [List.map_cons, Action.noPath, encActs, ih, hex s f p]
    | dropped f => simp only [List.map_cons, Action.noPath, encActs, ih]
    | protoErr => simp only [List.map_cons, Action.noPath, encActs, ih]
    | overflow => simp only [List.map_cons, Action.noPath, encActs, ih]
    | crash => simp only [List.map_cons, Action.noPath, encActs]

/-- the bytes on the wire, repaired code: for every executor that answers a frame the same on every
    path (`get_direct` IS GET, `set_direct` IS plain SET: C03's `execVia_refines`), every well-formed
    pipeline, every segmentation of the reads and of the writes, the client receives exactly the
    concatenation of the encoded replies, in command order -/
theorem bytes_written_repaired (σ : Type) (ex : Exec σ) (s0 : σ) (hex : ∀ s f p, ex s f p = ex s f .generic)
    (cfg : Config) (hR : Repaired13 cfg) (hck : cfg.checked = true) (hg : cfg.nameGuard = true)
    (hd : maxNesting + 1 ≤ cfg.env.depth) (hmb : cfg.maxBuffer < 72057594037927936)
    (cmds : List Cmd) (segs : List Bytes) (script : List WEv) (h : segs.flatten = stream cmds)
    (hs : Small (stream cmds)) (hmax : (stream cmds).length ≤ cfg.maxBuffer) (hnf : NoFail script = true) :
    (runW cfg ex s0 script segs none).out = replyBytes ex s0 (cmds.map cmdFrame) := by
  have hrun := segmentation_independent_repaired cfg hR.2.1 hR.1 hg hR.2.2.1 hR.2.2.2 hmb cmds segs h hs hmax
  have hnc := run_no_crash cfg hck hg hR.2.2.1 hd hmb segs
  rw [runW_eq cfg ex s0 script segs hnf hnc, ← encActs_noPath ex hex, hrun, encActs_execAll]

example : ∀ (s : ExSt) (f : Val) (p : Path), refExec s f p = refExec s f .generic := fun _ _ _ => rfl

/-- `nothing_withheld` for the code as it is: the client has sent ANY PREFIX of a
    well-formed pipeline (cut at any byte), in any segmentation, and waits — exactly the commands complete
    in what it sent have been executed (on whichever path) and the bytes it has received are exactly
    their replies: no reply is stranded until more input arrives, no recogniser waits for bytes the
    decoder does not need -/
theorem nothing_withheld_repaired (σ : Type) (ex : Exec σ) (s0 : σ) (hex : ∀ s f p, ex s f p = ex s f .generic)
    (cfg : Config) (hR : Repaired13 cfg) (hck : cfg.checked = true) (hg : cfg.nameGuard = true)
    (hd : maxNesting + 1 ≤ cfg.env.depth) (hmb : cfg.maxBuffer < 72057594037927936)
    (cmds : List Cmd) (segs : List Bytes) (rest : Bytes) (script : List WEv) (h : segs.flatten ++ rest = stream cmds)
    (hs : Small (stream cmds)) (hmax : (stream cmds).length ≤ cfg.maxBuffer) (hnf : NoFail script = true) :
    ∃ (done left : List Cmd) (pre : Bytes), cmds = done ++ left ∧ segs.flatten = stream done ++ pre ∧
      (∀ c cs, left = c :: cs → pre.length < (encCmd c).length) ∧
      (run cfg segs).map Action.noPath = execAll done ∧
      (runW cfg ex s0 script segs none).out = replyBytes ex s0 (done.map cmdFrame) := by
  obtain ⟨done, left, pre, e1, e2, e3, e4, _⟩ :=
    nothing_withheld σ ex s0 cfg.off (DeadCfg.off cfg hR.1) hR.2.2.1
      (by have : cfg.off.env = cfg.env := rfl; rw [this]; unfold maxNesting at hd; omega)
      cmds segs rest script h hs hmax (fun _ _ => ⟨hR.2.2.2, Or.inl hg⟩) hnf
  have htr := run_transparent cfg hR hmb segs
  have hrun : (run cfg segs).map Action.noPath = execAll done := by rw [htr, e4, noPath_execAll]
  have hnc := run_no_crash cfg hck hg hR.2.2.1 hd hmb segs
  refine ⟨done, left, pre, e1, e2, e3, hrun, ?_⟩
  rw [runW_eq cfg ex s0 script segs hnf hnc, ← encActs_noPath ex hex, hrun, encActs_execAll]

/-- a peer that fails, closes or stops at ANY point, a `read()` that fails: the client of the code as
    it is has received a PREFIX of the correct reply stream -/
theorem written_is_prefix_repaired (σ : Type) (ex : Exec σ) (s0 : σ) (hex : ∀ s f p, ex s f p = ex s f .generic)
    (cfg : Config) (hR : Repaired13 cfg) (hck : cfg.checked = true) (hg : cfg.nameGuard = true)
    (hd : maxNesting + 1 ≤ cfg.env.depth) (hmb : cfg.maxBuffer < 72057594037927936)
    (cmds : List Cmd) (segs : List Bytes) (script : List WEv) (stopAfter : Option Nat) (h : segs.flatten = stream cmds)
    (hs : Small (stream cmds)) (hmax : (stream cmds).length ≤ cfg.maxBuffer) :
    (runW cfg ex s0 script segs stopAfter).out <+: replyBytes ex s0 (cmds.map cmdFrame) := by
  have hrun := segmentation_independent_repaired cfg hR.2.1 hR.1 hg hR.2.2.1 hR.2.2.2 hmb cmds segs h hs hmax
  have hnc := run_no_crash cfg hck hg hR.2.2.1 hd hmb segs
  have := runW_prefix cfg ex s0 script segs stopAfter hnc
  rwa [← encActs_noPath ex hex, hrun, encActs_execAll] at this

/-- `client_decodes_one_reply_per_command` for the code as it is: a client that feeds what it receives — cut into ANY
    fragments — to the buffer loop around either decoder obtains exactly one frame per command, in
    command order, nothing left over -/
theorem client_decodes_one_reply_per_command_repaired (σ : Type) (ex : Exec σ) (s0 : σ)
    (hex : ∀ s f p, ex s f p = ex s f .generic)
    (cfg : Config) (hR : Repaired13 cfg) (hck : cfg.checked = true) (hg : cfg.nameGuard = true)
    (hd : maxNesting + 1 ≤ cfg.env.depth) (hmb : cfg.maxBuffer < 72057594037927936)
    (cmds : List Cmd) (segs : List Bytes) (script : List WEv) (h : segs.flatten = stream cmds)
    (hs : Small (stream cmds)) (hmax : (stream cmds).length ≤ cfg.maxBuffer) (hnf : NoFail script = true)
    (c : Codec) (hcc : c = codec1 ∨ c = codec2) (cenv : Env) (hcd : 1 ≤ cenv.depth)
    (hval : ∀ s f p, ValOK c cenv (ex s f p).2)
    (chunks : List Bytes) (hch : chunks.flatten = (runW cfg ex s0 script segs none).out)
    (hsm : Small (runW cfg ex s0 script segs none).out) :
    feedAll (fun b => (parseG c cenv b).out) FeedSt.init chunks =
      ⟨(replyVals ex s0 (cmds.map cmdFrame)).map (fun v => Frame.val v.san), [], false⟩ ∧
    (replyVals ex s0 (cmds.map cmdFrame)).length = cmds.length := by
  have hb := bytes_written_repaired σ ex s0 hex cfg hR hck hg hd hmb cmds segs script h hs hmax hnf
  rw [hb, replyBytes_eq] at hch hsm
  refine ⟨feedAll_encoded c hcc cenv hcd _ (replyVals_ok ex _ hval _ _) chunks hch hsm, ?_⟩
  rw [replyVals_length, List.length_map]

end RedisVerif.C04
