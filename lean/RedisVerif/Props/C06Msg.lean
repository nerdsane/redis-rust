import RedisVerif.Props.C06
import RedisVerif.Lemmas.GossipSim

/-!
# C06, message level — the code between `record_*` and `apply_remote_delta`

Model `Model/Gossip.lean`: per node the shard with its bounded outbox `pending_deltas`
(`MAX_PENDING_DELTAS`, oldest dropped), the `GossipState` (epoch, bounded outbound queue
`MAX_OUTBOUND_QUEUE`, oldest dropped, optional selective router), the configuration the gossip
loop reads (peers, `enabled`, what `collect_deltas` returns, the peer-id arithmetic of the loop's
`peer_map`); a wire of frames the network may hand over in any order, any number of times, or
never; events: client command, gossip-loop tick (with an oracle bit per send), heartbeat,
`set_router`, reception (with "frame above the size limit").

**Refinement to layer 1** (`msg_refines_cluster`): every message-level execution, of any length,
with any capacities, any losses, is an execution of the cluster model (`Model/Cluster.lean`) with
exactly the same local operations in the same order and some `deliver` events in between: each
delta is delivered 0..n times, never altered, never invented.  So every layer-1 theorem holds of
the replication states of every message-level execution.  `rs_converges_among` is layer 1 for a
SET of responsible replicas (selective gossip, a replication factor that changed at run time):
once every delta of the key has reached every replica of `S`, the replicas of `S` agree, whatever
the others hold, whoever wrote.  `non_owner_writer_stays_stale`: with selective gossip a node
outside the key's replica set that accepted a write is never told about later writes and answers
differently from the responsible replicas although every update has reached every one of them
(the property's "including the node that accepted the write" fails for such a writer).

Loss for good has one kernel-checked witness per cause (`outbound_overflow_loses_delta`,
`pending_overflow_loses_delta`, `send_failure_loses_delta`, `unfixed_peer_map_loses_delta` — the
gossip loops' `peer_map` has the off-by-one that faccb9f repaired in
`GossipRouter::from_config` —, `oversized_frame_loses_delta`): in each the network delivers every
frame it was given, no node crashes, and two replicas disagree for ever (no anti-entropy in the
production binary).  `Props/C06Delivery.lean` states the converse: with none of these losses
every delta reaches every replica it was routed to.
-/
namespace RedisVerif
namespace C06

open Cluster Gossip Gossip.MCluster

/-! ## layer 1 for a set of responsible replicas -/

/-- every delta issued for key `k` has been applied at every replica of `S` other than its origin -/
def DeliveredTo (c : Cluster) (S : List Nat) (k : Nat) : Prop :=
  ∀ m ∈ c.sent, m.key = k → ∀ j ∈ S, j ≠ m.origin → (⟨j, k, m.val⟩ : Absorbed) ∈ c.log

instance (c : Cluster) (S : List Nat) (k : Nat) : Decidable (DeliveredTo c S k) := by
  unfold DeliveredTo; infer_instance

/-- the replicas of `S` agree on the CRDT content and stamp of key `k` -/
def AgreeAmong (c : Cluster) (S : List Nat) (k : Nat) : Prop :=
  ∀ i ∈ S, ∀ j ∈ S, ∀ (si sj : Shard), c.nodes[i]? = some si → c.nodes[j]? = some sj →
    (NMap.get si.keys k).map RV.strip = (NMap.get sj.keys k).map RV.strip

theorem hasAll_of_deliveredTo {c : Cluster} (hsl : SentLog c) {S : List Nat} {k : Nat}
    (hd : DeliveredTo c S k) {j : Nat} (hjS : j ∈ S) : HasAll c j k :=
  hasAll_of_others hsl (fun m hm hk ho => hd m hm hk j hjS ho)

/-- **C06 for the replicas responsible for the key**: any number of nodes, any history, any set
    `S` of replicas; every delta of `k` applied at every replica of `S` (other than its origin) ⇒
    the replicas of `S` hold the same content and stamp.  (`S` = all nodes is
    `rs_converges_partial`.) -/
theorem rs_converges_among (n : Nat) (causal : Bool) (evs : List Ev) (k K : Nat) (S : List Nat)
    (hk : KindStable ((init n causal).run evs) k K)
    (hd : DeliveredTo ((init n causal).run evs) S k) : AgreeAmong ((init n causal).run evs) S k := by
  have hc := compat_of_kind_stable n causal evs k K hk
  have hj : J ((init n causal).run evs).sent k K ((init n causal).run evs) :=
    J_run hc (init n causal) evs (J_init _ k K n causal) (fun m hm => hm)
  have hsl := sentLog_run _ evs (sentLog_init n causal)
  intro i hiS j hjS si sj hsi hsj
  exact hj.value_eq hc hsi hsj (hasAll_of_deliveredTo hsl hd hiS) (hasAll_of_deliveredTo hsl hd hjS)

theorem delivered_to_all (c : Cluster) (k : Nat) :
    Delivered c k ↔ DeliveredTo c (List.range c.nodes.length) k := by
  unfold Delivered DeliveredTo
  constructor
  · intro h m hm hk j hj ho; exact h m hm hk j (List.mem_range.mp hj) ho
  · intro h m hm hk j hj ho; exact h m hm hk j (List.mem_range.mpr hj) ho

/-! ## refinement -/

theorem init_nodes_get (causal : Bool) (cfgs : List NodeCfg) (i : Nat) (nd : MNode)
    (h : (MCluster.init causal cfgs).nodes[i]? = some nd) :
    ∃ cfg, cfgs[i]? = some cfg ∧ nd = initNode i causal cfg := by
  simp only [MCluster.init, List.getElem?_map, List.getElem?_zip_eq_some, Option.map_eq_some_iff] at h
  obtain ⟨p, ⟨hr, hc⟩, hnd⟩ := h
  have hlt : i < cfgs.length := (List.getElem?_eq_some_iff.mp hc).1
  rw [List.getElem?_range hlt] at hr
  simp only [Option.some.injEq] at hr
  exact ⟨p.2, hc, by rw [← hnd, ← hr]⟩

theorem init_inv (causal : Bool) (cfgs : List NodeCfg) : MInv (MCluster.init causal cfgs) := by
  refine ⟨?_, ?_, ?_⟩
  · intro i nd h m hm
    obtain ⟨cfg, _, rfl⟩ := init_nodes_get causal cfgs i nd h
    simp [initNode, PShard.init] at hm
  · intro i nd h m hm
    obtain ⟨cfg, _, rfl⟩ := init_nodes_get causal cfgs i nd h
    simp [initNode, GState.init, MCluster.deltasOf] at hm
  · intro pk hpk; simp [MCluster.init] at hpk

theorem init_abs (causal : Bool) (cfgs : List NodeCfg) :
    (MCluster.init causal cfgs).abs = Cluster.init cfgs.length causal := by
  simp only [MCluster.abs, MCluster.init, Cluster.init, List.map_map]
  congr 1
  calc _ = ((List.range cfgs.length).zip cfgs).map ((fun i => Shard.init (i + 1) causal) ∘ Prod.fst) := rfl
    _ = _ := by rw [← List.map_map, List.map_fst_zip (by simp)]

/-- **the message level refines the cluster model**: for all capacities, configurations (a node
    may even list itself as a peer: its own deltas then come back to it, which the cluster model
    allows), and event lists — client commands, gossip ticks with arbitrary send failures,
    heartbeats, router changes, receptions in any order / multiplicity, oversized frames — the
    replication states, the history of issued deltas and the absorption log are those of a
    layer-1 execution whose local operations are exactly the client commands, in order; all its
    other events are `deliver`s. -/
theorem msg_refines_cluster (cp : Caps) (causal : Bool) (cfgs : List NodeCfg) (evs : List MEv) :
    ∃ es : List Ev,
      ((MCluster.init causal cfgs).run cp evs).abs = (Cluster.init cfgs.length causal).run es ∧
      es.filter isLoc = evs.flatMap locOf := by
  obtain ⟨_, es, h, hf⟩ := run_sim cp evs (MCluster.init causal cfgs) (init_inv causal cfgs)
  exact ⟨es, by rw [h, init_abs], hf⟩

/-- the layer-1 convergence theorem, stated of the message-level execution itself -/
theorem msg_level_converges_among (cp : Caps) (causal : Bool) (cfgs : List NodeCfg)
    (evs : List MEv) (k K : Nat) (S : List Nat)
    (hk : KindStable ((MCluster.init causal cfgs).run cp evs).abs k K)
    (hd : DeliveredTo ((MCluster.init causal cfgs).run cp evs).abs S k) :
    AgreeAmong ((MCluster.init causal cfgs).run cp evs).abs S k := by
  obtain ⟨es, h, _⟩ := msg_refines_cluster cp causal cfgs evs
  rw [h] at hk hd ⊢
  exact rs_converges_among _ causal es k K S hk hd

/-- every delta on the wire, in any queue, of any message-level execution is dominated, and every
    node satisfies the clock invariant (C08) — lifted from layer 1 -/
theorem msg_level_dominated (cp : Caps) (causal : Bool) (cfgs : List NodeCfg) (evs : List MEv) :
    (∀ nd ∈ ((MCluster.init causal cfgs).run cp evs).nodes, nd.ps.sh.Inv) ∧
    (∀ m ∈ ((MCluster.init causal cfgs).run cp evs).issued, m.val.Dominated) := by
  obtain ⟨es, h, _⟩ := msg_refines_cluster cp causal cfgs evs
  have := sent_dominated_of_run cfgs.length causal es
  rw [← h] at this
  refine ⟨?_, this.2⟩
  intro nd hnd
  exact this.1 nd.ps.sh (by simp only [MCluster.abs, List.mem_map]; exact ⟨nd, hnd, rfl⟩)

/-! ## witnesses: how a delta is lost for good -/

/-- broadcast configuration of node `rid` in a cluster of `n` (peers = all other node indices) -/
def bcast (n rid : Nat) (fixed : Bool) : NodeCfg :=
  { enabled := true, rid := rid, peers := (List.range n).filter (· ≠ rid - 1), collect := false,
    peerIdFixed := fixed, router := none }

def kX : Nat := 120
def kY : Nat := 121
def kZ : Nat := 122

def valueAt (c : MCluster) (i k : Nat) : Option (Option Bytes) :=
  c.nodes[i]?.map (fun nd => (NMap.get nd.ps.sh.keys k).bind RV.get)

/-- "the network did its job": every frame put on the wire was handed over -/
def recvAll (n : Nat) : List MEv := (List.range n).map (fun p => MEv.recv p false)

/-- outbound capacity 2: node 0 accepts SET x, SET y, SET z between two ticks; the tick ships
    what is left of the queue, the network delivers everything — node 1 never learns `x` -/
def overflowRun : List MEv :=
  [ .loc 0 (.write kX [1] none) [], .loc 0 (.write kY [2] none) [], .loc 0 (.write kZ [3] none) [],
    .tick 0 [] [] ] ++ recvAll 2

theorem outbound_overflow_loses_delta :
    let c := (MCluster.init false [bcast 2 1 true, bcast 2 2 true]).run ⟨100, 2⟩ overflowRun
    c.wire.length = 2 ∧ (c.nodes.all (fun nd => nd.g.outbound.isEmpty && nd.ps.pending.length ≤ 100)) ∧
    valueAt c 0 kX = some (some [1]) ∧ valueAt c 1 kX = some none ∧
    valueAt c 1 kY = some (some [2]) ∧ valueAt c 1 kZ = some (some [3]) ∧
    c.lost.map (fun l => (l.1.key, l.2.1)) = [(kX, Loss.outboundOverflow)] ∧
    ¬ DeliveredTo c.abs [0, 1] kX := by
  decide +kernel

/-- the same through the shard's outbox (a deployment whose gossip loop collects
    `pending_deltas`, `enabled = false` so that `execute` does not queue as well): capacity 2 -/
def pendingRun : List MEv :=
  [ .loc 0 (.write kX [1] none) [], .loc 0 (.write kY [2] none) [], .loc 0 (.write kZ [3] none) [],
    .tick 0 [] [] ] ++ recvAll 1

theorem pending_overflow_loses_delta :
    let cfg (rid : Nat) : NodeCfg := { bcast 2 rid true with enabled := false, collect := true }
    let c := (MCluster.init false [cfg 1, cfg 2]).run ⟨2, 10000⟩ pendingRun
    valueAt c 0 kX = some (some [1]) ∧ valueAt c 1 kX = some none ∧
    valueAt c 1 kY = some (some [2]) ∧ valueAt c 1 kZ = some (some [3]) ∧
    c.lost.map (fun l => (l.1.key, l.2.1)) = [(kX, Loss.pendingOverflow)] := by
  decide +kernel

/-- a send that fails is not repeated: three nodes, the frame for node 2 fails once -/
def sendFailRun : List MEv :=
  [ .loc 0 (.write kX [1] none) [], .tick 0 [] [true, false], .tick 0 [] [], .tick 0 [] [] ] ++ recvAll 3

theorem send_failure_loses_delta :
    let c := (MCluster.init false [bcast 3 1 true, bcast 3 2 true, bcast 3 3 true]).run caps sendFailRun
    valueAt c 1 kX = some (some [1]) ∧ valueAt c 2 kX = some none ∧
    c.lost.map (fun l => (l.1.key, l.2.1, l.2.2)) = [(kX, Loss.sendFailed, some 2)] := by
  decide +kernel

/-- selective gossip through the gossip loop as it is (`peerIdFixed = false`): replica 1 of 3,
    the key's targets are replicas 2 and 3; the loop's `peer_map` knows ids {1, 3} — the frame for
    replica 2 has no address and is dropped; with the repaired arithmetic it arrives -/
def selRouter : Router := { selective := true, targets := [(kX, [2, 3])] }

def selCfg (n rid : Nat) (fixed : Bool) : NodeCfg := { bcast n rid fixed with router := some selRouter }

def peerMapRun : List MEv := [ .loc 0 (.write kX [1] none) [], .tick 0 [] [] ] ++ recvAll 2

theorem unfixed_peer_map_loses_delta :
    let c := (MCluster.init false [selCfg 3 1 false, selCfg 3 2 false, selCfg 3 3 false]).run caps peerMapRun
    let c' := (MCluster.init false [selCfg 3 1 true, selCfg 3 2 true, selCfg 3 3 true]).run caps peerMapRun
    peerMap (selCfg 3 1 false) = [(1, 1), (3, 2)] ∧ peerMap (selCfg 3 1 true) = [(2, 1), (3, 2)] ∧
    valueAt c 1 kX = some none ∧ valueAt c 2 kX = some (some [1]) ∧
    c.lost.map (fun l => (l.1.key, l.2.1)) = [(kX, Loss.noAddress)] ∧
    valueAt c' 1 kX = some (some [1]) ∧ valueAt c' 2 kX = some (some [1]) ∧ c'.lost = [] := by
  decide +kernel

/-- a frame above the receiver's limit is dropped (and never re-sent) -/
theorem oversized_frame_loses_delta :
    let c := (MCluster.init false [bcast 2 1 true, bcast 2 2 true]).run caps
      [ .loc 0 (.write kX [1] none) [], .tick 0 [] [], .recv 0 true ]
    valueAt c 1 kX = some none ∧ c.lost.map (fun l => (l.1.key, l.2.1, l.2.2)) = [(kX, Loss.tooLarge, some 1)] := by
  decide +kernel

/-! ## selective gossip: a writer outside the replica set -/

/-- four nodes; key `x` is replicated on replicas 1 and 2 (nodes 0, 1).  Node 3 (replica 4, not
    responsible) accepts `SET x a` and ships it to both owners; node 0 then accepts `SET x b` and
    ships it to the other owner.  Every update has reached every responsible replica; they agree
    on `b`; node 3, which accepted the first write, serves `a` for ever. -/
def ownerRouter (others : List Nat) : Router := { selective := true, targets := [(kX, others)] }

def ownerCfgs : List NodeCfg :=
  [ { bcast 4 1 true with router := some (ownerRouter [2]) },
    { bcast 4 2 true with router := some (ownerRouter [1]) },
    { bcast 4 3 true with router := some (ownerRouter [1, 2]) },
    { bcast 4 4 true with router := some (ownerRouter [1, 2]) } ]

def nonOwnerRun : List MEv :=
  [ .loc 3 (.write kX [97] none) [], .tick 3 [] [], .recv 0 false, .recv 1 false,
    .loc 0 (.write kX [98] none) [], .tick 0 [] [], .recv 2 false ]

theorem non_owner_writer_stays_stale :
    let c := (MCluster.init false ownerCfgs).run caps nonOwnerRun
    c.lost = [] ∧ c.wire.length = 3 ∧
    DeliveredTo c.abs [0, 1] kX ∧ KindStable c.abs kX 0 ∧
    valueAt c 0 kX = some (some [98]) ∧ valueAt c 1 kX = some (some [98]) ∧
    valueAt c 3 kX = some (some [97]) ∧ ¬ Delivered c.abs kX := by
  decide +kernel

/-! ## non-vacuity -/

/-- three nodes, broadcast, concurrent writers, duplicate and reordered receptions, a send failure
    repaired by a later write of the same key: everything delivered, all agree -/
def goodMsgRun : List MEv :=
  [ .loc 0 (.write kX [1] none) [], .loc 1 (.write kX [2] none) [], .tick 0 [] [true, false],
    .tick 1 [] [], .recv 2 false, .recv 0 false, .recv 1 false, .recv 0 false,
    .loc 0 (.delete kX) [], .heartbeat 0, .tick 0 [] [], .recv 3 false, .recv 5 false, .recv 4 false,
    .loc 2 (.write kY [3] none) [], .tick 2 [] [], .recv 7 false, .recv 8 false ]

example :
    let c := (MCluster.init true [bcast 3 1 false, bcast 3 2 false, bcast 3 3 false]).run caps goodMsgRun
    KindStable c.abs kX 0 ∧ c.issued.length = 4 ∧ c.wire.length = 9 ∧
    DeliveredTo c.abs [0, 1] kX ∧ ¬ Delivered c.abs kX ∧ c.lost.length = 1 := by
  decide +kernel

end C06
end RedisVerif
