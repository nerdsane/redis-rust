import RedisVerif.Props.C09
import RedisVerif.Props.C14Bincode
import RedisVerif.Lemmas.WalCompose

/-!
# C09 ∘ C10 ∘ C14 — an acknowledged delta comes back from recovery, bit-identical

One theorem across the three models:

* C09 (`Model/WalActor.lean`): the group-commit actor over the rotator over a store with per-file
  synced length and a fault oracle — `durable_survives`: an `Ok`-acked ENTRY is in the crash image;
* C10 (`Model/Wal.lean`): what recovery reads from a file image — here used along the reachable
  stores of the C09 model (`Lemmas/WalSource.lean`: every file of every store of every history is a
  prefix of a clean image of entries that were appended), so that EVERYTHING recovery returns was
  written: nothing invented, nothing altered, whatever was torn, failed, crashed or truncated;
* C14 (`Model/Bincode.lean`): the payload of an entry is the byte-exact bincode encoding of the
  delta of the `Write` message (`WalEntry::from_delta`), the checksum is the executable CRC-32, and
  `to_delta` is the model's own bincode decoder.
-/
namespace RedisVerif
namespace C09

open Wal Bincode Driver Concrete

/-- at EVERY instant of EVERY history — whatever the faults, torn appends, crashes, restarts and
    truncations — `recover_entries_after(T)` on the crash image succeeds, and every delta it returns
    was carried by a `Write` message stamped `≥ T`: recovery neither fails on, invents nor alters
    anything -/
theorem recovery_returns_only_written_deltas (φ : Nat → Outcome) (maxSize : Nat) (devs : List DEv)
    (hfit : ∀ p ∈ writesOf devs, DeltaFits p.1 p.2) (t : Nat) (st : Store)
    (hst : (Actor.run true false φ .v2 crc32 maxSize (devs.map DEv.toEv)).rot.w.storeAt t = some st) (T : Nat) :
    ∃ ds, recoverAfter .v2 crc32 deDelta T (crashImage st) = some ds ∧
      ∀ d ∈ ds, ∃ ts, (d, ts) ∈ writesOf devs ∧ T ≤ ts := by
  obtain ⟨ds, hds, hsub, -⟩ := recoverAfter_sublist_written φ maxSize devs hfit t st hst T
  refine ⟨ds, hds, fun d hd => ?_⟩
  obtain ⟨p, hp, rfl⟩ := List.mem_map.mp (hsub.subset hd)
  exact ⟨p.2, (List.mem_filter.mp hp).1, of_decide_eq_true (List.mem_filter.mp hp).2⟩

/-- C09 ∘ C10 ∘ C14: a `write_durable(delta, ts)` that was answered `Ok` — the ack `r` carries
    the id of that call — is returned by `recover_entries_after(T)` on the crash image at every
    later instant, for every `T ≤ ts`: the call succeeds and the list contains the very delta (and the
    entry on disk is `from_delta(delta, ts)`, byte for byte: `r.entry = entryOf d ts`), unless a
    `TruncateUpTo` at or above `ts` was handled.  All message sequences, batchings, rotation
    thresholds, fault oracles, incarnations, crash instants. -/
theorem acked_delta_recovered_bit_identical (φ : Nat → Outcome) (maxSize : Nat) (devs : List DEv)
    (hfit : ∀ p ∈ writesOf devs, DeltaFits p.1 p.2) :
    ∀ r ∈ (Actor.run true false φ .v2 crc32 maxSize (devs.map DEv.toEv)).acks, r.res = .ok →
      ∃ d ts, (r.id, d, ts) ∈ durableWritesOf devs ∧ r.entry = entryOf d ts ∧
        ∀ t st, r.io ≤ t →
          (Actor.run true false φ .v2 crc32 maxSize (devs.map DEv.toEv)).rot.w.storeAt t = some st →
          (∀ T, T ≤ ts → ∃ ds, recoverAfter .v2 crc32 deDelta T (crashImage st) = some ds ∧ d ∈ ds) ∨
            ts < (Actor.run true false φ .v2 crc32 maxSize (devs.map DEv.toEv)).tbound := by
  intro r hr hok
  obtain ⟨q, hq, hid, hent⟩ := (ackSrc_run devs true false φ maxSize).1 r hr
  obtain ⟨id, d, ts⟩ := q
  simp only at hid hent
  subst hid
  refine ⟨d, ts, hq, hent, fun t st hle hst => ?_⟩
  have hfd : DeltaFits d ts := by
    -- the call is one of the writes of the history
    have : (d, ts) ∈ writesOf devs := by
      clear hr hok hent hst hle
      induction devs with
      | nil => cases hq
      | cons ev rest ih =>
        cases ev with
        | write id' d' ts' =>
          simp only [durableWritesOf, List.mem_cons] at hq
          rcases hq with h | h
          · cases h; simp [writesOf]
          · exact List.mem_cons_of_mem _ (ih (fun p hp => hfit p (List.mem_cons_of_mem _ hp)) h)
        | forget id' d' ts' =>
          exact List.mem_cons_of_mem _ (ih (fun p hp => hfit p (List.mem_cons_of_mem _ hp)) hq)
        | tick => exact ih hfit hq
        | truncate T => exact ih hfit hq
        | flush => exact ih hfit hq
        | reopen c => exact ih hfit hq
    exact hfit _ this
  rcases durable_survives .v2 crc32 φ maxSize _ (ok_of_fits devs hfit) r hr hok t st hle hst with hdur | htr
  · left
    intro T hT
    obtain ⟨ds, hds, -, h1⟩ := recoverAfter_sublist_written φ maxSize devs hfit t st hst T
    exact ⟨ds, hds, h1 d ts (hent ▸ hdur) hfd hT⟩
  · right
    rw [hent] at htr
    exact htr

/-- the payload on disk is bit-identical to what `bincode::serialize(delta)` produced: two deltas
    whose entries coincide are the same delta (bincode's encoding is injective on representable
    values) — so "the entry is recovered" and "the delta is recovered" say the same thing -/
theorem entryOf_injective (d d' : WDelta) (ts ts' : Nat) (hd : DeltaFits d ts) (hd' : DeltaFits d' ts')
    (h : entryOf d ts = entryOf d' ts') : d = d' ∧ ts = ts' := by
  have h1 : delta.enc d = delta.enc d' := congrArg Entry.data h
  have h2 : ts = ts' := congrArg Entry.ts h
  exact ⟨C14.bincode_enc_injective d d' hd.1 hd'.1 h1, h2⟩

-- non-vacuity: the sample deltas of C14 (every CRDT kind) fit
example : ∀ d ∈ C14.sampleDeltas, deDelta (delta.enc d) = some d ∧ (delta.enc d).length < 2 ^ 32 := by decide +kernel

end C09
end RedisVerif
