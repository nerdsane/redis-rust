import RedisVerif.Props.C14Bincode
import RedisVerif.Lemmas.WalBytes

/-!
# C14 — every single-byte corruption position of a segment, with CRC-32 (no checksum hypothesis)

`covered_corruption_detected` (Props/C14.lean) needs two `CrcDetects` hypotheses.  For the executable
CRC-32 and ONE replaced byte they are theorems, so the statement of the property holds outright:

`segment_single_byte_corruption`: take any written segment image (header as `SegmentWriter::finish`
writes it, ANY record bytes, the footer written for them), replace ONE byte — anywhere: covered
header fields, stored header checksum, header padding, records, stored data checksum, footer size
fields, footer magic — by any value (every single-bit flip included): reading the result is an ERROR,
or returns exactly what the pristine image returns.  Never different data.
-/
namespace RedisVerif
namespace C14

open Wal Codec Driver Concrete WalBytes

/-- the first `CrcDetects` hypothesis of `covered_corruption_detected`, for a written header with one byte
    overwritten: bytes 0..30 are a checksummed block -/
theorem segment_header_byte (n a b : Nat) {hdr' : Bytes} (d : Dmg1 (segHeader crc32 n a b) hdr')
    (hne : hdr'.take 30 ≠ (segHeader crc32 n a b).take 30) :
    crc32 ((hdr'.take 30).take 26) ≠ leVal (((hdr'.take 30).drop 26).take 4) := by
  have h30 : (segHeader crc32 n a b).take 30 = segCovered n a b ++ le 4 (crc32 (segCovered n a b)) := by
    unfold segHeader; rw [← List.append_assoc]
    exact List.take_left' (by rw [List.length_append, segCovered_length, le_length])
  have d30 := d.take 30
  rw [h30] at d30 hne
  have := (d30.seal (bytes_of_allBytes (allBytes_segCovered n a b))).resolve_left hne
  rwa [segCovered_length] at this

/-- the second, for records and stored data checksum (footer bytes 0..4) with one byte overwritten: together they
    are a checksummed block -/
theorem segment_data_byte {recs recs' foot' : Bytes} (hb : ∀ x ∈ recs, x < 256)
    (d : Dmg1 (recs ++ (segFooter crc32 recs).take 4) (recs' ++ foot'.take 4)) (hl : recs'.length = recs.length)
    (hne : recs' ≠ recs ∨ foot'.take 4 ≠ (segFooter crc32 recs).take 4) : crc32 recs' ≠ leVal (foot'.take 4) := by
  rw [(segFooter_written crc32 recs).1] at d hne
  rcases d.seal hb with e | e
  · obtain ⟨e1, e2⟩ := List.append_inj e hl
    exact (hne.elim (· e1) (· e2)).elim
  · rwa [← hl, List.take_left' rfl, List.drop_left' rfl, List.take_take, Nat.min_self] at e

/-- one byte of the 24-byte footer replaced, header and records whatever they are -/
theorem segment_footer_byte {δ : Type} (strict : Bool) (de : Bytes → Option δ) (hdr recs : Bytes)
    (i v : Nat) (hv : v < 256) (hb : ∀ x ∈ recs, x < 256) :
    IsErr (readSegParts strict crc32 de hdr recs ((segFooter crc32 recs).set i v)) ∨
      readSegParts strict crc32 de hdr recs ((segFooter crc32 recs).set i v)
        = readSegParts strict crc32 de hdr recs (segFooter crc32 recs) :=
  covered_corruption_detected strict crc32 de hdr recs _ hdr recs _ (segFooter_written crc32 recs).2.1
    (fun h => absurd rfl h) (segment_data_byte hb ((Dmg1.take ⟨i, v, hv, rfl⟩ 4).append_left recs) rfl)

/-- ONE byte of a written segment image replaced by any value, at ANY position: the read is an
    error or returns exactly what the pristine image returns -/
theorem segment_single_byte_corruption {δ : Type} (strict : Bool) (de : Bytes → Option δ) (n a b : Nat) (recs : Bytes)
    (p v : Nat) (hb : ∀ x ∈ recs, x < 256) (hv : v < 256) :
    IsErr (readSegment strict crc32 de ((segHeader crc32 n a b ++ (recs ++ segFooter crc32 recs)).set p v)) ∨
      readSegment strict crc32 de ((segHeader crc32 n a b ++ (recs ++ segFooter crc32 recs)).set p v)
        = readSegment strict crc32 de (segHeader crc32 n a b ++ (recs ++ segFooter crc32 recs)) := by
  have hh : (segHeader crc32 n a b).length = 40 := segHeader_length crc32 n a b _ (by simp)
  obtain ⟨-, hmagic, hf⟩ := segFooter_written crc32 recs
  -- header and checksummed records each with at most one byte overwritten, footer sizes and magic whatever they are
  have key := fun hdr' recs' foot' dh dr hl =>
    covered_corruption_detected strict crc32 de (segHeader crc32 n a b) recs (segFooter crc32 recs) hdr' recs' foot' hmagic
      (segment_header_byte n a b dh) (segment_data_byte hb dr hl)
  rw [readSegment_append _ _ _ _ _ _ hh hf]
  -- the overwritten byte lies in one of the three parts
  rcases Dmg1.append ⟨p, v, hv, rfl⟩ with ⟨hdr', dh, e⟩ | ⟨rf', drf, e⟩
  · rw [e, readSegment_append _ _ _ _ _ _ (dh.length.trans hh) hf]
    exact key hdr' recs _ dh (Dmg1.refl _) rfl
  · rcases drf.append with ⟨recs', dr, e'⟩ | ⟨foot', df, e'⟩
    · rw [e, e', readSegment_append _ _ _ _ _ _ hh hf]
      exact key _ recs' _ (Dmg1.refl _) (dr.append_right _) dr.length
    · rw [e, e', readSegment_append _ _ _ _ _ _ hh (df.length.trans hf)]
      exact key _ recs foot' (Dmg1.refl _) ((df.take 4).append_left recs) rfl

/-- for what `SegmentWriter::finish` wrote (payloads = byte strings) -/
theorem written_segment_single_byte_corruption {δ : Type} (strict : Bool) (de : Bytes → Option δ)
    (ps : List Bytes) (ts : List Nat) (img : Bytes) (hw : writeSegment crc32 ps ts = some img)
    (hb : ∀ q ∈ ps, ∀ x ∈ q, x < 256) (p v : Nat) (hp : p < img.length) (hv : v < 256) :
    IsErr (readSegment strict crc32 de (img.set p v)) ∨
      readSegment strict crc32 de (img.set p v) = readSegment strict crc32 de img := by
  obtain rfl := writeSegment_eq_some hw
  exact segment_single_byte_corruption strict de _ _ _ (records ps) p v
    (bytes_of_allBytes (allBytes_records ps (fun q hq => allBytes_of_bytes (hb q hq)))) hv

end C14
end RedisVerif

/-!
## checkpoints

The same for a written checkpoint image, at every position except the 4-byte data-length field
(48..52: a changed length moves the footer, so the footer checksum is computed over other bytes —
a string the linearity argument says nothing about; `checkpoint_truncation_detected` and the
footer-checksum hypothesis of `checkpoint_corruption_detected` cover it).
-/
namespace RedisVerif
namespace C14

open Wal Codec Driver Concrete WalBytes

/-- one byte of the payload overwritten: the data checksum notices, whatever the header fields -/
theorem checkpoint_payload_byte {σ : Type} (de : Bytes → Option σ) (A B C : Bytes) {payload payload' : Bytes}
    (hb : ∀ x ∈ payload, x < 256) (d : Dmg1 payload payload') :
    payload' = payload ∨ IsErr (readChkParts crc32 de A B C payload' (chkFooter crc32 payload)) := by
  refine (d.crc hb).imp id fun h => isErr_of_ne_ok fun s hok => h ?_
  rw [(readChkParts_eq_ok hok).2.2, (chkFooter_fields crc32 payload).2.2.1,
    leVal_le 4 _ (by simpa using Crc.crc32_lt payload hb)]

/-- one byte of the 16-byte footer overwritten: the footer is a checksummed block, 12 bytes and their checksum -/
theorem checkpoint_footer_byte {σ : Type} (de : Bytes → Option σ) (A B C payload : Bytes) {foot' : Bytes}
    (d : Dmg1 (chkFooter crc32 payload) foot') :
    foot' = chkFooter crc32 payload ∨ IsErr (readChkParts crc32 de A B C payload foot') := by
  have hX : (le 4 (crc32 payload) ++ le 8 payload.length).length = 12 := by simp [le_length]
  have hXb : ∀ x ∈ le 4 (crc32 payload) ++ le 8 payload.length, x < 256 :=
    bytes_of_allBytes (by rw [Bincode.allBytes_append, Bincode.allBytes_le, Bincode.allBytes_le]; rfl)
  refine (Dmg1.seal hXb d).imp id fun h => isErr_of_ne_ok fun s hok => h ?_
  rw [hX]; exact (readChkParts_eq_ok hok).2.1

/-- one byte of the 48-byte header overwritten: an error, or the reader sees the same fields.  Of the five fields the
    two covered ones and the stored checksum make a checksummed block; padding and reserved bytes are not looked at. -/
theorem checkpoint_header_byte {σ : Type} (de : Bytes → Option σ) (k t l : Nat) (payload foot : Bytes) {hdr' : Bytes}
    (hd : Dmg1 (chkHeader crc32 k t l) hdr') :
    IsErr (readChkParts crc32 de (hdr'.take 6) ((hdr'.drop 8).take 24) (hdr'.drop 44) payload foot) ∨
      (hdr'.take 6 = chkCoveredA ∧ (hdr'.drop 8).take 24 = chkCoveredB k t l ∧
        hdr'.drop 44 = le 4 (crc32 (chkCoveredA ++ chkCoveredB k t l))) := by
  have hB := chkCoveredB_length k t l
  obtain ⟨A', pad', B', res', C', rfl, hA, hp, hB', hr, hC, d⟩ : ∃ A' pad' B' res' C' : Bytes,
      hdr' = A' ++ (pad' ++ (B' ++ (res' ++ C'))) ∧ A'.length = 6 ∧ pad'.length = 2 ∧ B'.length = 24 ∧ res'.length = 12 ∧
      C'.length = 4 ∧
      Dmg1 ((chkCoveredA ++ chkCoveredB k t l) ++ le 4 (crc32 (chkCoveredA ++ chkCoveredB k t l))) ((A' ++ B') ++ C') := by
    unfold chkHeader at hd
    rcases hd.append with ⟨A', d, rfl⟩ | ⟨_, d1, rfl⟩
    · exact ⟨A', _, _, _, _, rfl, d.length, rfl, hB, by simp, le_length _ _, (d.append_right _).append_right _⟩
    rcases d1.append with ⟨pad', d, rfl⟩ | ⟨_, d2, rfl⟩
    · exact ⟨_, pad', _, _, _, rfl, rfl, d.length, hB, by simp, le_length _ _, Dmg1.refl _⟩
    rcases d2.append with ⟨B', d, rfl⟩ | ⟨_, d3, rfl⟩
    · exact ⟨_, _, B', _, _, rfl, rfl, rfl, d.length.trans hB, by simp, le_length _ _, (d.append_left _).append_right _⟩
    rcases d3.append with ⟨res', d, rfl⟩ | ⟨C', d, rfl⟩
    · exact ⟨_, _, _, res', _, rfl, rfl, rfl, hB, d.length.trans (by simp), le_length _ _, Dmg1.refl _⟩
    · exact ⟨_, _, _, _, C', rfl, rfl, rfl, hB, by simp, d.length.trans (le_length _ _), d.append_left _⟩
  obtain ⟨-, s1, s2, s3⟩ := chkHdr_slices A' pad' B' res' C' hA hp hB' hr hC
  have hAB : (A' ++ B').length = (chkCoveredA ++ chkCoveredB k t l).length := by
    rw [List.length_append, List.length_append, hA, hB', hB]; rfl
  rw [s1, s2, s3]
  rcases d.seal (bytes_of_allBytes (allBytes_chkCovered k t l)) with e | e
  · obtain ⟨e1, e2⟩ := List.append_inj e hAB
    obtain ⟨e3, e4⟩ := List.append_inj e1 hA
    exact .inr ⟨e3, e4, e2⟩
  · rw [← hAB, List.take_left' rfl, List.drop_left' rfl, List.take_of_length_le (Nat.le_of_eq hC)] at e
    exact .inl (isErr_of_ne_ok fun s hok => e (readChkParts_eq_ok hok).1)

/-- ONE byte of a written checkpoint image replaced by any value, at any position outside the
    data-length field (48..52): the read is an error or returns exactly what the pristine image returns -/
theorem checkpoint_single_byte_corruption {σ : Type} (de : Bytes → Option σ) (k t l : Nat) (payload : Bytes)
    (p v : Nat) (hl : payload.length < 2 ^ 32) (hb : ∀ x ∈ payload, x < 256) (hv : v < 256)
    (hp : p < (writeCheckpoint crc32 k t l payload).length) (hnl : p < 48 ∨ 52 ≤ p) :
    IsErr (readCheckpoint crc32 de ((writeCheckpoint crc32 k t l payload).set p v)) ∨
      readCheckpoint crc32 de ((writeCheckpoint crc32 k t l payload).set p v)
        = readCheckpoint crc32 de (writeCheckpoint crc32 k t l payload) := by
  have hlen := leVal_le 4 payload.length (by simpa using hl)
  have hf := chkFooter_length crc32 payload
  obtain ⟨hh, s1, s2, s3⟩ := chkHeader_fields crc32 k t l [0, 0] (List.replicate 12 0) rfl (by simp)
  rw [← chkHeader_eq] at hh s1 s2 s3
  -- an image with the written length field reads as its fields
  have rd := fun (hdr' payload' foot' : Bytes) (hh' : hdr'.length = 48) (hf' : foot'.length = 16)
      (hl' : payload'.length = payload.length) =>
    (congrArg (readCheckpoint crc32 de) (by rw [List.append_nil])).trans
      (readCheckpoint_append crc32 de hdr' (le 4 payload.length) payload' foot' [] hh' (le_length _ _) hf'
        (hlen.trans hl'.symm))
  unfold writeCheckpoint
  rw [rd _ payload _ hh hf rfl, s1, s2, s3]
  rcases hnl with h48 | h52
  · rw [set_append_left _ _ _ _ (by omega)]
    have d : Dmg1 (chkHeader crc32 k t l) _ := ⟨p, v, hv, rfl⟩
    rw [rd _ payload _ (d.length.trans hh) hf rfl]
    exact (checkpoint_header_byte de k t l payload _ d).imp id fun ⟨e1, e2, e3⟩ => by rw [e1, e2, e3]
  · obtain ⟨j, rfl⟩ : ∃ j, p = (chkHeader crc32 k t l).length + ((le 4 payload.length).length + j) :=
      ⟨p - 52, by rw [hh, le_length]; omega⟩
    rw [set_append_right, set_append_right]
    rcases Dmg1.append ⟨j, v, hv, rfl⟩ with ⟨payload', d, e⟩ | ⟨foot', d, e⟩
    · rw [e, rd _ payload' _ hh hf d.length, s1, s2, s3]
      exact (checkpoint_payload_byte de _ _ _ hb d).symm.imp id fun e => by rw [e]
    · rw [e, rd _ payload foot' hh (d.length.trans hf) rfl, s1, s2, s3]
      exact (checkpoint_footer_byte de _ _ _ payload d).symm.imp id fun e => by rw [e]

end C14
end RedisVerif
