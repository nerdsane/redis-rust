import RedisVerif.Props.C06Msg
import RedisVerif.Lemmas.GossipAcc

/-!
# C06, message level: when does every delta reach every peer?

`Props/C06Msg.lean` shows five ways a delta is lost for good (outbox overflow, outbound-queue
overflow, a failed send, a target without address, an oversized frame).  This file proves that
these are ALL the ways, for broadcast gossip (no selective router — what
`ReplicatedShardedState::new` builds and `server_persistent` runs):

In every reachable state, every delta a node issued is, for every peer the node is configured
with, still in the node's outbound queue, or on the wire to that peer, or recorded lost (`lost` is
the model's ghost ledger of the five causes).  Hence: nothing of key `k` lost, no delta of `k` left
in a queue (the loops have ticked), the network has handed over every frame it was given ⇒ every
delta of `k` has been applied at every configured peer of its origin; with complete peer lists
that is `DeliveredTo` all nodes, and then (one CRDT kind) all nodes agree: the layer-1 theorem with
the delivery hypothesis DISCHARGED from "no loss".

The condition is exact in this sense: each clause is needed (`C06Msg`: one witness per cause, plus
`send_failure_loses_delta` for "the network hands over what it was given" read as "the send
succeeded"), and together they suffice.
-/
namespace RedisVerif
namespace C06

open Gossip

def isSetRouter : MEv → Bool
  | .setRouter _ _ => true
  | _ => false

/-- broadcast gossip: no selective router, replication enabled -/
def BroadcastCfg (cfg : NodeCfg) : Prop :=
  cfg.enabled = true ∧ (cfg.router.map (·.selective)).getD false = false

instance (cfg : NodeCfg) : Decidable (BroadcastCfg cfg) := by unfold BroadcastCfg; infer_instance

theorem routedFor_broadcast (g : GState) (order : List Nat) (ds : List Msg) (h : g.isSelective = false) :
    g.routedFor order ds = if ds.isEmpty then [] else [⟨none, .deltaBatch g.me ds g.epoch⟩] := by
  unfold GState.routedFor GState.isSelective at *
  split
  · rfl
  · cases hr : g.router with
    | none => rfl
    | some r => simp only [hr] at h; simp [h]

theorem routedFor_targets (g : GState) (order : List Nat) (ds : List Msg) (h : g.isSelective = false) :
    ∀ r ∈ g.routedFor order ds, r.target = none := by
  rw [routedFor_broadcast g order ds h]
  split
  · intro r hr; cases hr
  · intro r hr; simp only [List.mem_singleton] at hr; rw [hr]

theorem queueDeltas_router (cap : Nat) (g : GState) (order : List Nat) (ds : List Msg) :
    (g.queueDeltas cap order ds).router = g.router := by
  unfold GState.queueDeltas; split <;> rfl

theorem isSelective_of_router {g g' : GState} (h : g'.router = g.router) : g'.isSelective = g.isSelective := by
  unfold GState.isSelective; rw [h]

/-- the accounting invariant of broadcast gossip (the simulator twin is `SimC.SAcc`) -/
structure Acc (c : MCluster) : Prop where
  /-- every issued delta was issued by an existing node -/
  org : ∀ m ∈ c.issued, ∃ nd, c.nodes[m.origin]? = some nd
  /-- every node gossips by broadcast: no selective router, replication on, no targeted frame queued -/
  bc : ∀ nd ∈ c.nodes, nd.g.isSelective = false ∧ nd.cfg.enabled = true ∧ ∀ r ∈ nd.g.outbound, r.target = none
  /-- every issued delta is, for every configured peer of its origin, queued at the origin, on the
      wire to that peer, or recorded lost -/
  acc : ∀ m ∈ c.issued, ∀ nd, c.nodes[m.origin]? = some nd → ∀ a ∈ nd.cfg.peers,
    m ∈ MCluster.deltasOf nd.g.outbound ∨ (∃ pk ∈ c.wire, pk.to = a ∧ m ∈ pk.msg.payload) ∨ (∃ l ∈ c.lost, l.1 = m)

/-- pushing broadcast messages: targets stay `none` -/
theorem push_targets (cap : Nat) (g : GState) (ms : List Routed) (h1 : ∀ r ∈ g.outbound, r.target = none)
    (h2 : ∀ r ∈ ms, r.target = none) : ∀ r ∈ (g.push cap ms).outbound, r.target = none := by
  intro r hr
  simp only [GState.push] at hr
  have := mem_enforceCap hr
  rcases List.mem_append.mp this with h | h
  · exact h1 r h
  · exact h2 r h

/-- after a push every delta of the old queue and of the pushed messages is kept or in the overflow -/
theorem push_split (cap : Nat) (g : GState) (ms : List Routed) (m : Msg)
    (h : m ∈ MCluster.deltasOf g.outbound ∨ m ∈ MCluster.deltasOf ms) :
    m ∈ MCluster.deltasOf (g.push cap ms).outbound ∨ m ∈ MCluster.deltasOf (overflow cap (g.outbound ++ ms)) := by
  have hm : m ∈ MCluster.deltasOf (g.outbound ++ ms) := by
    rw [deltasOf_append, List.mem_append]; exact h
  rcases mem_deltasOf_split cap _ m hm with h | h
  · exact Or.inr h
  · exact Or.inl h

theorem queueDeltas_split (cap : Nat) (g : GState) (order : List Nat) (ds : List Msg) (m : Msg)
    (h : m ∈ MCluster.deltasOf g.outbound) :
    m ∈ MCluster.deltasOf (g.queueDeltas cap order ds).outbound ∨
    m ∈ MCluster.deltasOf (overflow cap (g.outbound ++ g.routedFor order ds)) := by
  unfold GState.queueDeltas
  split
  · exact Or.inl h
  · exact push_split cap g _ m (Or.inl h)

theorem lost_of_overflow {c : List (Msg × Loss × Option Nat)} {q : List Routed} {m : Msg}
    (h : m ∈ MCluster.deltasOf q) :
    ∃ l ∈ c ++ (MCluster.deltasOf q).map (fun x => (x, Loss.outboundOverflow, (none : Option Nat))), l.1 = m :=
  ⟨(m, Loss.outboundOverflow, none), List.mem_append_right _ (List.mem_map.mpr ⟨m, h, rfl⟩), rfl⟩

/-- the accounting after node `i` moved: the copies of the other nodes' deltas stay where they
    were (the wire and the ledger only grow); for the deltas of `i` the caller says where each copy is -/
theorem acc_set {c : MCluster} (ha : Acc c) {i : Nat} {nd nd' : MNode} (hn : c.nodes[i]? = some nd)
    (hcfg : nd'.cfg = nd.cfg)
    (hbc : nd'.g.isSelective = false ∧ ∀ r ∈ nd'.g.outbound, r.target = none)
    {wire' : List Packet} {issued' : List Msg} {lost' : List (Msg × Loss × Option Nat)} (log' : List Absorbed)
    (hw : ∀ pk ∈ c.wire, pk ∈ wire') (hl : ∀ l ∈ c.lost, l ∈ lost')
    (hnew : ∀ m ∈ issued', m ∈ c.issued ∨ m.origin = i)
    (hacc : ∀ m ∈ issued', m.origin = i → ∀ a ∈ nd.cfg.peers,
      m ∈ MCluster.deltasOf nd'.g.outbound ∨ (∃ pk ∈ wire', pk.to = a ∧ m ∈ pk.msg.payload) ∨
        (∃ l ∈ lost', l.1 = m)) :
    Acc ⟨c.nodes.set i nd', wire', issued', log', lost'⟩ := by
  have hilt : i < c.nodes.length := (List.getElem?_eq_some_iff.mp hn).1
  refine ⟨?_, ?_, ?_⟩
  · intro m hm
    by_cases ho : m.origin = i
    · exact ⟨_, by rw [ho]; exact List.getElem?_set_self hilt⟩
    · obtain ⟨nd0, h0⟩ := ha.org m ((hnew m hm).resolve_right ho)
      exact ⟨nd0, by simp only; rw [List.getElem?_set_ne (Ne.symm ho)]; exact h0⟩
  · intro x hx
    rcases Cluster.mem_set hx with rfl | hx
    · exact ⟨hbc.1, by rw [hcfg]; exact (ha.bc nd (List.mem_of_getElem? hn)).2.1, hbc.2⟩
    · exact ha.bc x hx
  · intro m hm nd0 hnd0 a hpa
    rcases getElem?_set_cases hnd0 with ⟨ho, rfl⟩ | ⟨ho, hnd0⟩
    · exact hacc m hm ho a (hcfg ▸ hpa)
    · rcases ha.acc m ((hnew m hm).resolve_right ho) nd0 hnd0 a hpa with h | ⟨pk, hpk, h⟩ | ⟨l, hl', h⟩
      · exact Or.inl h
      · exact Or.inr (Or.inl ⟨pk, hw pk hpk, h⟩)
      · exact Or.inr (Or.inr ⟨l, hl l hl', h⟩)

theorem acc_step (cp : Caps) (c : MCluster) (ha : Acc c) (e : MEv) (hne : isSetRouter e = false) :
    Acc (c.step cp e) := by
  -- where a copy of an old delta of node `i` is, when only the wire and the ledger grew
  have keep : ∀ {i : Nat} {nd : MNode}, c.nodes[i]? = some nd → ∀ {wire' : List Packet}
      {lost' : List (Msg × Loss × Option Nat)}, (∀ pk ∈ c.wire, pk ∈ wire') → (∀ l ∈ c.lost, l ∈ lost') →
      ∀ m ∈ c.issued, m.origin = i → ∀ a ∈ nd.cfg.peers,
        m ∈ MCluster.deltasOf nd.g.outbound ∨ (∃ pk ∈ wire', pk.to = a ∧ m ∈ pk.msg.payload) ∨
          (∃ l ∈ lost', l.1 = m) := by
    intro i nd hn wire' lost' hw hl m hm ho a hpa
    rcases ha.acc m hm nd (ho ▸ hn) a hpa with h | ⟨pk, hpk, h⟩ | ⟨l, hl', h⟩
    · exact Or.inl h
    · exact Or.inr (Or.inl ⟨pk, hw pk hpk, h⟩)
    · exact Or.inr (Or.inr ⟨l, hl l hl', h⟩)
  cases e with
  | setRouter i r => simp [isSetRouter] at hne
  | loc i op order =>
    cases hn : c.nodes[i]? with
    | none => simp only [MCluster.step, hn]; exact ha
    | some nd =>
      have hbc := ha.bc nd (List.mem_of_getElem? hn)
      cases hd : (Shard.step nd.ps.sh op.toOp).2 with
      | none =>
        have hlo : nd.ps.localOp cp.pending i op = ({ nd.ps with sh := (Shard.step nd.ps.sh op.toOp).1 }, none) := by
          simp only [PShard.localOp, hd]
        simp only [MCluster.step, hn, hlo]
        refine acc_set ha hn ?_ ?_ _ (fun _ h => h) (fun _ h => h) (fun _ h => Or.inl h) ?_
        · rfl
        · exact ⟨hbc.1, hbc.2.2⟩
        · exact fun m hm ho => keep hn (fun _ h => h) (fun _ h => h) m hm ho
      | some d =>
        have hlo : nd.ps.localOp cp.pending i op =
            ({ sh := (Shard.step nd.ps.sh op.toOp).1,
               pending := enforceCap cp.pending (nd.ps.pending ++ [⟨i, op.key, d⟩]) }, some d) := by
          simp only [PShard.localOp, hd]
        simp only [MCluster.step, hn, hlo, hbc.2.1, if_true]
        have hq : nd.g.queueDeltas cp.outbound order [⟨i, op.key, d⟩] =
            nd.g.push cp.outbound (nd.g.routedFor order [⟨i, op.key, d⟩]) := by
          simp [GState.queueDeltas]
        rw [hq]
        have hnew : (⟨i, op.key, d⟩ : Msg) ∈ MCluster.deltasOf (nd.g.routedFor order [⟨i, op.key, d⟩]) := by
          rw [routedFor_broadcast nd.g order _ hbc.1]
          simp [MCluster.deltasOf, GMsg.payload, GMsg.intoDeltas]
        refine acc_set ha hn ?_ ?_ _ (fun _ h => h)
          (fun l hl => List.mem_append_left _ (List.mem_append_left _ hl))
          (fun m hm => (List.mem_append.mp hm).imp id (fun h => by rw [List.mem_singleton.mp h])) ?_
        · rfl
        · exact ⟨by simpa [GState.push, GState.isSelective] using hbc.1,
            push_targets _ _ _ hbc.2.2 (routedFor_targets nd.g order _ hbc.1)⟩
        intro m hm ho a hpa
        -- queued before or just queued: kept by the push or in its overflow; else where it was
        have hcase : (m ∈ MCluster.deltasOf nd.g.outbound ∨
            m ∈ MCluster.deltasOf (nd.g.routedFor order [⟨i, op.key, d⟩])) ∨
            (∃ pk ∈ c.wire, pk.to = a ∧ m ∈ pk.msg.payload) ∨ (∃ l ∈ c.lost, l.1 = m) := by
          rcases List.mem_append.mp hm with hm | hm
          · rcases keep hn (fun _ h => h) (fun _ h => h) m hm ho a hpa with h | h | h
            · exact Or.inl (Or.inl h)
            · exact Or.inr (Or.inl h)
            · exact Or.inr (Or.inr h)
          · rw [List.mem_singleton.mp hm]; exact Or.inl (Or.inr hnew)
        rcases hcase with h | h | ⟨l, hl, hlm⟩
        · rcases push_split cp.outbound nd.g _ m h with h | h
          · exact Or.inl h
          · exact Or.inr (Or.inr (lost_of_overflow (c := c.lost ++ _) h))
        · exact Or.inr (Or.inl h)
        · exact Or.inr (Or.inr ⟨l, List.mem_append_left _ (List.mem_append_left _ hl), hlm⟩)
  | tick i order oks =>
    cases hn : c.nodes[i]? with
    | none => simp only [MCluster.step, hn]; exact ha
    | some nd =>
      have hbc := ha.bc nd (List.mem_of_getElem? hn)
      simp only [MCluster.step, hn]
      -- the queue just before it is drained
      have hsel1 : nd.g.advanceEpoch.isSelective = false := by
        simpa [GState.advanceEpoch, GState.isSelective] using hbc.1
      have hq1t : ∀ r ∈ nd.g.advanceEpoch.outbound, r.target = none := by
        simpa [GState.advanceEpoch] using hbc.2.2
      have hqt : ∀ (ds : List Msg), ∀ r ∈ (nd.g.advanceEpoch.queueDeltas cp.outbound order ds).outbound, r.target = none := by
        intro ds
        unfold GState.queueDeltas
        split
        · exact hq1t
        · exact push_targets _ _ _ hq1t (routedFor_targets _ order ds hsel1)
      refine acc_set ha hn ?_ ⟨?_, fun r hr => by simp [GState.drainOutbound] at hr⟩ _
        (fun pk h => List.mem_append_left _ h) (fun l hl => List.mem_append_left _ (List.mem_append_left _ hl))
        (fun _ h => Or.inl h) ?_
      · rfl
      · have : ((nd.g.advanceEpoch.queueDeltas cp.outbound order
            (if nd.cfg.collect then nd.ps.drain else (nd.ps, [])).2).drainOutbound.1).router = nd.g.router := by
          simp only [GState.drainOutbound, queueDeltas_router]; rfl
        rw [isSelective_of_router this]; exact hbc.1
      · intro m hm ho a hpa
        rcases keep hn (wire' := c.wire) (lost' := c.lost) (fun _ h => h) (fun _ h => h) m hm ho a hpa
          with h | ⟨pk, hpk, hto, hpay⟩ | ⟨l, hl, hlm⟩
        · -- queued: after queue_deltas it is kept or overflowed; what is kept is sent or send-failed
          have hq1 : m ∈ MCluster.deltasOf nd.g.advanceEpoch.outbound := by simpa [GState.advanceEpoch] using h
          rcases queueDeltas_split cp.outbound nd.g.advanceEpoch order
            (if nd.cfg.collect then nd.ps.drain else (nd.ps, [])).2 m hq1 with hk | hk
          · simp only [MCluster.deltasOf, List.mem_flatMap] at hk
            obtain ⟨r, hr, hmr⟩ := hk
            rcases sendAll_broadcast_complete nd.cfg _ oks (hqt _) r
              (by simpa [GState.drainOutbound] using hr) a hpa with hp | hl
            · exact Or.inr (Or.inl ⟨⟨a, r.msg⟩, List.mem_append_right _ (by simpa [GState.drainOutbound] using hp), rfl, hmr⟩)
            · exact Or.inr (Or.inr ⟨(m, Loss.sendFailed, some a),
                List.mem_append_right _ (by simpa [GState.drainOutbound] using hl m hmr), rfl⟩)
          · exact Or.inr (Or.inr ⟨(m, Loss.outboundOverflow, none),
              List.mem_append_left _ (List.mem_append_right _ (List.mem_map.mpr ⟨m, hk, rfl⟩)), rfl⟩)
        · exact Or.inr (Or.inl ⟨pk, List.mem_append_left _ hpk, hto, hpay⟩)
        · exact Or.inr (Or.inr ⟨l, List.mem_append_left _ (List.mem_append_left _ hl), hlm⟩)
  | heartbeat i =>
    cases hn : c.nodes[i]? with
    | none => simp only [MCluster.step, hn]; exact ha
    | some nd =>
      have hbc := ha.bc nd (List.mem_of_getElem? hn)
      simp only [MCluster.step, hn]
      refine acc_set ha hn ?_ ?_ _
        (fun _ h => h) (fun l hl => List.mem_append_left _ hl) (fun _ h => Or.inl h) ?_
      · rfl
      · exact ⟨by simpa [GState.queueHeartbeat, GState.push, GState.isSelective] using hbc.1,
          push_targets _ _ _ hbc.2.2 (fun r hr => by rw [List.mem_singleton.mp hr])⟩
      intro m hm ho a hpa
      rcases keep hn (wire' := c.wire) (lost' := c.lost) (fun _ h => h) (fun _ h => h) m hm ho a hpa
        with h | h | ⟨l, hl, hlm⟩
      · rcases push_split cp.outbound nd.g [⟨none, .heartbeat nd.g.me nd.g.epoch⟩] m (Or.inl h) with h | h
        · exact Or.inl h
        · exact Or.inr (Or.inr ⟨(m, Loss.outboundOverflow, none),
            List.mem_append_right _ (List.mem_map.mpr ⟨m, h, rfl⟩), rfl⟩)
      · exact Or.inr (Or.inl h)
      · exact Or.inr (Or.inr ⟨l, List.mem_append_left _ hl, hlm⟩)
  | recv p tooLarge =>
    cases hw : c.wire[p]? with
    | none => simp only [MCluster.step, hw]; exact ha
    | some pk =>
      cases hn : c.nodes[pk.to]? with
      | none => simp only [MCluster.step, hw, hn]; exact ha
      | some nd =>
        have hbc := ha.bc nd (List.mem_of_getElem? hn)
        simp only [MCluster.step, hw, hn]
        cases tooLarge with
        | true =>
          -- only the ledger grows
          simp only [if_true]
          refine ⟨ha.org, ha.bc, fun m hm nd' hnd' a hpa => ?_⟩
          rcases ha.acc m hm nd' hnd' a hpa with h | h | ⟨l, hl, hlm⟩
          · exact Or.inl h
          · exact Or.inr (Or.inl h)
          · exact Or.inr (Or.inr ⟨l, List.mem_append_left _ hl, hlm⟩)
        | false =>
          simp only [Bool.false_eq_true, if_false]
          refine acc_set ha hn ?_ ?_ _ (fun _ h => h) (fun _ h => h) (fun _ h => Or.inl h) ?_
          · rfl
          · exact ⟨hbc.1, hbc.2.2⟩
          · exact fun m hm ho => keep hn (fun _ h => h) (fun _ h => h) m hm ho

theorem acc_init (causal : Bool) (cfgs : List NodeCfg) (hb : ∀ cfg ∈ cfgs, BroadcastCfg cfg) :
    Acc (MCluster.init causal cfgs) := by
  refine ⟨?_, ?_, ?_⟩
  · intro m hm; simp [MCluster.init] at hm
  rotate_left
  · intro m hm; simp [MCluster.init] at hm
  intro nd hnd
  obtain ⟨i, hi⟩ := List.getElem?_of_mem hnd
  obtain ⟨cfg, hc, rfl⟩ := init_nodes_get causal cfgs i nd hi
  have := hb cfg (List.mem_of_getElem? hc)
  refine ⟨?_, this.1, fun r hr => by simp [MCluster.initNode, GState.init] at hr⟩
  simp only [MCluster.initNode, GState.isSelective, GState.init]
  cases hr : cfg.router with
  | none => rfl
  | some r => have := this.2; simp only [hr, Option.map_some, Option.getD_some] at this; exact this

theorem acc_run (cp : Caps) (evs : List MEv) : ∀ (c : MCluster), Acc c →
    (∀ e ∈ evs, isSetRouter e = false) → Acc (c.run cp evs) := by
  induction evs with
  | nil => intro c h _; exact h
  | cons e evs ih =>
    intro c h hne
    exact ih (c.step cp e) (acc_step cp c h e (hne e List.mem_cons_self))
      (fun e' he' => hne e' (List.mem_cons_of_mem _ he'))

/-- **every copy is accounted for** (broadcast gossip, any capacities, any send failures, any
    network behaviour): queued at the origin, on the wire to the peer, or in the ledger of losses -/
theorem copy_accounted (cp : Caps) (causal : Bool) (cfgs : List NodeCfg) (evs : List MEv)
    (hb : ∀ cfg ∈ cfgs, BroadcastCfg cfg) (hr : ∀ e ∈ evs, isSetRouter e = false) :
    Acc ((MCluster.init causal cfgs).run cp evs) :=
  acc_run cp evs _ (acc_init causal cfgs hb) hr

/-- the node configuration never changes -/
theorem cfg_step (cp : Caps) (c : MCluster) (e : MEv) :
    (c.step cp e).nodes.map (·.cfg) = c.nodes.map (·.cfg) := by
  cases e with
  | loc j op order =>
    simp only [MCluster.step]
    split
    · rfl
    · rename_i nd hn
      split <;> exact map_set_same hn rfl
  | recv p tl =>
    simp only [MCluster.step]
    split
    · rfl
    · split
      · rfl
      · rename_i nd hn
        split
        · rfl
        · exact map_set_same hn rfl
  | _ =>
    simp only [MCluster.step]
    split
    · rfl
    · rename_i nd hn
      exact map_set_same hn rfl

theorem init_cfgs (causal : Bool) (cfgs : List NodeCfg) :
    (MCluster.init causal cfgs).nodes.map (·.cfg) = cfgs := by
  simp only [MCluster.init, List.map_map]
  exact List.map_snd_zip (by simp)

theorem run_cfg (cp : Caps) (causal : Bool) (cfgs : List NodeCfg) (evs : List MEv) {i : Nat} {nd : MNode}
    (hnd : ((MCluster.init causal cfgs).run cp evs).nodes[i]? = some nd) : cfgs[i]? = some nd.cfg := by
  have hrun : ∀ (evs : List MEv) (c : MCluster), (c.run cp evs).nodes.map (·.cfg) = c.nodes.map (·.cfg) := by
    intro evs
    induction evs with
    | nil => intro c; rfl
    | cons e evs ih => intro c; exact (ih (c.step cp e)).trans (cfg_step cp c e)
  rw [← init_cfgs causal cfgs, ← hrun evs, List.getElem?_map, hnd]
  rfl

/-- **the delivery condition**: nothing of key `k` in the ledger of losses, no delta of `k` left in
    an outbound queue, every frame on the wire handed over ⇒ every delta of `k` has been applied
    at every peer its origin is configured with -/
theorem delivered_of_no_loss (cp : Caps) (causal : Bool) (cfgs : List NodeCfg) (evs : List MEv) (k : Nat)
    (hb : ∀ cfg ∈ cfgs, BroadcastCfg cfg) (hr : ∀ e ∈ evs, isSetRouter e = false)
    (hlost : ∀ l ∈ ((MCluster.init causal cfgs).run cp evs).lost, l.1.key ≠ k)
    (hq : ∀ nd ∈ ((MCluster.init causal cfgs).run cp evs).nodes, ∀ m ∈ MCluster.deltasOf nd.g.outbound, m.key ≠ k)
    (hw : ∀ pk ∈ ((MCluster.init causal cfgs).run cp evs).wire, ∀ m ∈ pk.msg.payload, m.key = k →
      (⟨pk.to, k, m.val⟩ : Absorbed) ∈ ((MCluster.init causal cfgs).run cp evs).log) :
    ∀ m ∈ ((MCluster.init causal cfgs).run cp evs).issued, m.key = k →
      ∀ cfg, cfgs[m.origin]? = some cfg → ∀ a ∈ cfg.peers,
        (⟨a, k, m.val⟩ : Absorbed) ∈ ((MCluster.init causal cfgs).run cp evs).log := by
  intro m hm hk cfg hcfg a hpa
  have hacc := copy_accounted cp causal cfgs evs hb hr
  obtain ⟨nd, hnd⟩ := hacc.org m hm
  have hc : nd.cfg = cfg := by
    have := run_cfg cp causal cfgs evs hnd
    rw [hcfg] at this
    exact (Option.some.inj this).symm
  rcases hacc.acc m hm nd hnd a (hc ▸ hpa) with h | ⟨pk, hpk, hto, hpay⟩ | ⟨l, hl, hlm⟩
  · exact absurd hk (hq nd (List.mem_of_getElem? hnd) m h)
  · have := hw pk hpk m hpay hk
    rw [hto] at this; exact this
  · exact absurd (hlm ▸ hk) (hlost l hl)

/-- complete peer lists: every node is configured with every other node -/
def FullMesh (cfgs : List NodeCfg) : Prop :=
  ∀ p ∈ (List.range cfgs.length).zip cfgs, ∀ j, j < cfgs.length → j ≠ p.1 → j ∈ p.2.peers

instance (cfgs : List NodeCfg) : Decidable (FullMesh cfgs) := by
  unfold FullMesh; infer_instance

/-- **convergence from "no loss"**: broadcast gossip over a full mesh, one CRDT kind for the key,
    nothing of the key lost, queues empty, the network delivered what it was given ⇒ all nodes
    hold the same content and stamp for the key -/
theorem converges_of_no_loss (cp : Caps) (causal : Bool) (cfgs : List NodeCfg) (evs : List MEv) (k K : Nat)
    (hb : ∀ cfg ∈ cfgs, BroadcastCfg cfg) (hmesh : FullMesh cfgs) (hr : ∀ e ∈ evs, isSetRouter e = false)
    (hk : KindStable ((MCluster.init causal cfgs).run cp evs).abs k K)
    (hlost : ∀ l ∈ ((MCluster.init causal cfgs).run cp evs).lost, l.1.key ≠ k)
    (hq : ∀ nd ∈ ((MCluster.init causal cfgs).run cp evs).nodes, ∀ m ∈ MCluster.deltasOf nd.g.outbound, m.key ≠ k)
    (hw : ∀ pk ∈ ((MCluster.init causal cfgs).run cp evs).wire, ∀ m ∈ pk.msg.payload, m.key = k →
      (⟨pk.to, k, m.val⟩ : Absorbed) ∈ ((MCluster.init causal cfgs).run cp evs).log) :
    AgreeAmong ((MCluster.init causal cfgs).run cp evs).abs (List.range cfgs.length) k := by
  apply msg_level_converges_among cp causal cfgs evs k K _ hk
  intro m hm hmk j hj ho
  have hjlt : j < cfgs.length := List.mem_range.mp hj
  have hacc := copy_accounted cp causal cfgs evs hb hr
  obtain ⟨nd, hnd⟩ := hacc.org m hm
  have hc0 := run_cfg cp causal cfgs evs hnd
  have hin : (m.origin, nd.cfg) ∈ (List.range cfgs.length).zip cfgs := by
    apply List.mem_of_getElem? (i := m.origin)
    rw [List.getElem?_zip_eq_some]
    exact ⟨List.getElem?_range (List.getElem?_eq_some_iff.mp hc0).1, hc0⟩
  exact delivered_of_no_loss cp causal cfgs evs k hb hr hlost hq hw m hm hmk nd.cfg hc0 j
    (hmesh _ hin j hjlt ho)

/-- non-vacuity: three nodes, full mesh, concurrent writers, everything ticked and handed over -/
def noLossRun : List MEv :=
  [ .loc 0 (.write kX [1] none) [], .loc 1 (.write kX [2] none) [], .loc 2 (.write kX [3] none) [],
    .tick 0 [] [], .tick 1 [] [], .tick 2 [] [], .heartbeat 1, .tick 1 [] [] ] ++ recvAll 8

example :
    let cfgs := [bcast 3 1 false, bcast 3 2 false, bcast 3 3 false]
    let c := (MCluster.init false cfgs).run caps noLossRun
    (∀ cfg ∈ cfgs, BroadcastCfg cfg) ∧ FullMesh cfgs ∧ c.lost = [] ∧ c.wire.length = 8 ∧
    KindStable c.abs kX 0 ∧ (c.nodes.all (fun nd => nd.g.outbound.isEmpty)) ∧
    valueAt c 0 kX = some (some [3]) ∧ valueAt c 1 kX = some (some [3]) ∧ valueAt c 2 kX = some (some [3]) := by
  decide +kernel

end C06
end RedisVerif
