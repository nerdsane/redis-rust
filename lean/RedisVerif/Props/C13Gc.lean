import RedisVerif.Props.C13

/-!
# C13 — tombstone GC where the code DOES establish `GcSafe`: the full pass

`tombstone_gc_safe_partial` (Props/C13.lean) needs the hypothesis `GcSafe`: every tombstone the
pass drops belongs to a key that occurs in no listed segment outside the pass.  The code does not
establish it in general (known findings C13:tombstone-gc:*).  It does establish it when its own
selection rule takes EVERY listed segment — every segment is a candidate (`size <
target_segment_size`) and the pass is not cut by `max_segments_per_compaction` — and the manifest
holds no checkpoint (the stores of the workloads never do: `StoreInv`): then nothing is outside
the pass.  `FullPass` is that condition, a decidable predicate on the manifest and the
configuration alone (no look into the segments).

For such passes the FULL first sentence of C13 holds at EVERY cutoff (tombstone GC included, the
production clock's "every tombstone is expired" included), for every fault oracle without read
corruption: what a reader sees after recovery (tombstones read as absent) is unchanged by the
compaction.  Dropping either conjunct of `FullPass` loses it (`full_pass_needed_counterexample`:
the known findings, restated against this hypothesis).
-/
namespace RedisVerif
namespace C13

open _root_.RedisVerif.Stream FoldACI

/-- the pass takes every listed segment: all are candidates, and there are no more than
    `max_segments_per_compaction` of them -/
def FullPass (st : Store) (cfg : CompactCfg) : Prop :=
  (∀ s ∈ (manifestOf st 0).segments, s.size < cfg.target) ∧ (manifestOf st 0).segments.length ≤ cfg.maxPer

instance (st : Store) (cfg : CompactCfg) : Decidable (FullPass st cfg) := by
  unfold FullPass; infer_instance

theorem selectSegments_full {cfg : CompactCfg} {m : Manifest}
    (h1 : ∀ s ∈ m.segments, s.size < cfg.target) (h2 : m.segments.length ≤ cfg.maxPer) (s : SegInfo) :
    s ∈ selectSegments cfg m ↔ s ∈ m.segments := by
  unfold selectSegments
  have hf : m.segments.filter (fun s => decide (s.size < cfg.target)) = m.segments :=
    List.filter_eq_self.mpr (fun a ha => by simpa using h1 a ha)
  rw [hf, List.take_of_length_le (by rw [length_sortBy]; exact h2), mem_sortBy]

theorem removeIds_full {cfg : CompactCfg} {m : Manifest}
    (h1 : ∀ s ∈ m.segments, s.size < cfg.target) (h2 : m.segments.length ≤ cfg.maxPer) :
    removeIds m ((selectSegments cfg m).map (·.id)) = [] := by
  unfold removeIds
  apply List.filter_eq_nil_iff.mpr
  intro s hs
  have : s.id ∈ (selectSegments cfg m).map (·.id) :=
    List.mem_map.mpr ⟨s, (selectSegments_full h1 h2 s).mpr hs, rfl⟩
  simpa using this

/-- **the code's selection rule establishes `GcSafe` for a full pass** -/
theorem gcSafe_of_fullPass {st : Store} {cfg : CompactCfg} (h : FullPass st cfg) : GcSafe st cfg := by
  unfold GcSafe
  intro p _ _ q hq
  rw [removeIds_full h.1 h.2] at hq
  simp [segDeltas] at hq

/-- **tombstone_gc_safe for full passes** — no `GcSafe` hypothesis: current compactor, every
    cutoff, every fault oracle without read corruption: key by key the recovered content is
    unchanged, except that a key whose merged value was a tombstone below the cutoff may be gone -/
theorem tombstone_gc_safe_full_pass (F : Oracle) (hF : NoReadCorruption F) (cfg : CompactCfg) (sz : Nat) (w : World)
    (hinv : StoreInv w.store) (hc : Coherent (content w.store)) (hfull : FullPass w.store cfg) (k : Nat) :
    NMap.get (foldState (content (compactWith repairedCompact F cfg sz w).1.store)) k
        = NMap.get (foldState (content w.store)) k ∨
    (NMap.get (foldState (content (compactWith repairedCompact F cfg sz w).1.store)) k = none ∧
      ∃ T, NMap.get (foldState (content w.store)) k = some T ∧ T.isTombstone = true ∧ T.ts.time < cfg.cutoff) :=
  tombstone_gc_safe_partial F hF cfg sz w hinv hc (gcSafe_of_fullPass hfull) k

/-! ## what a reader sees -/

/-- **compaction_preserves_recovery for full passes, tombstone GC included** — the first sentence
    of C13 at full strength for every pass that takes all listed segments: current compactor,
    EVERY cutoff (hence every clock, every TTL), every fault oracle without read corruption
    (failed calls, torn puts, the death of the process at any call), every coherent layout: what
    a reader sees after recovery — tombstones read as absent — is the same before and after -/
theorem compaction_preserves_visible_full_pass (F : Oracle) (hF : NoReadCorruption F) (cfg : CompactCfg) (sz : Nat)
    (w : World) (rid : Nat) (hinv : StoreInv w.store) (hc : Coherent (content w.store))
    (hfull : FullPass w.store cfg) :
    (recState (compactWith repairedCompact F cfg sz w).1.store rid).map visible =
      (recState w.store rid).map visible := by
  have h := holds_content hinv hc
  -- with tombstone GC the store after the pass holds a history of its own: its listed content
  have hcar' : InCar _ (content (compactWith repairedCompact F cfg sz w).1.store) :=
    (compact_replaced repairedCompact rfl rfl F cfg sz w hinv).elim (fun he => by rw [he]; exact h.listed)
      (fun ⟨_, _, _, hr⟩ => replaced_inCar _ h.listed hr)
  rw [recState_of_holds (holds_self (compact_spec repairedCompact F cfg sz w hinv).1 hcar') rid, recState_of_holds h rid]
  simp only [Option.map_some, Option.some.injEq]
  unfold visible
  apply NMap.ext (NMap.wf_filter _ (wf_foldState _)) (NMap.wf_filter _ (wf_foldState _))
  intro k
  rw [NMap.get_filter _ (wf_foldState _), NMap.get_filter _ (wf_foldState _)]
  rcases tombstone_gc_safe_full_pass F hF cfg sz w hinv hc hfull k with h | ⟨h1, T, h2, h3, _⟩
  · rw [h]
  · rw [h1, h2]
    simp [Option.filter, h3]

/-- the same for the current tree -/
theorem compaction_preserves_visible_full_pass_current (F : Oracle) (hF : NoReadCorruption F) (cfg : CompactCfg)
    (sz : Nat) (w : World) (rid : Nat) (hinv : StoreInv w.store) (hc : Coherent (content w.store))
    (hfull : FullPass w.store cfg) :
    (recState (compact F cfg sz w).1.store rid).map visible = (recState w.store rid).map visible := by
  unfold compact
  rw [current_compact_is_repaired]
  exact compaction_preserves_visible_full_pass F hF cfg sz w rid hinv hc hfull

/-- the entry point of the compaction worker (`compact_if_needed`: the `max_segments` threshold, then
    `compact`) — every threshold, every cutoff, a pass that takes every listed segment -/
theorem compact_if_needed_preserves_visible_full_pass (F : Oracle) (hF : NoReadCorruption F) (cfg : CompactCfg)
    (maxSegs sz : Nat) (w : World) (rid : Nat) (hinv : StoreInv w.store) (hc : Coherent (content w.store))
    (hfull : FullPass w.store cfg) :
    (recState (compactIfNeeded F cfg maxSegs sz w).1.store rid).map visible = (recState w.store rid).map visible := by
  unfold compactIfNeeded
  rcases compactIfNeededWith_cases current.compact F cfg maxSegs sz w with h | ⟨w1, hs, h⟩
  · rw [h]
  · rw [h, ← hs]
    exact compaction_preserves_visible_full_pass_current F hF cfg sz w1 rid (hs ▸ hinv) (hs ▸ hc) (hs ▸ hfull)

/-! ## both conjuncts of `FullPass` are needed; non-vacuity -/

/-- a late-arriving older value: the delete of key 116 (time 5) is flushed first, the older value
    (time 3, from another replica) last -/
def lateOps : List Op :=
  [.push (116, tomb 5 1), .flush 100, .push (117, lww 1 6 1), .flush 100, .push (116, lww 120 3 2), .flush 100]

/-- **both conjuncts of `FullPass` are needed** (current compactor, cutoff 100 in Lamport units).
    First conjunct: the layout of the known finding C13:tombstone-gc:older-value-resurfaces — the
    older value sits in a segment over the size target.  Second conjunct: all three segments are
    candidates but `max_segments_per_compaction = 2` cuts the newest one off, which holds the
    late-arriving older value.  In both the deleted key is readable again after the compaction. -/
theorem full_pass_needed_counterexample :
    (¬ FullPass (after gcOps).store { cfgAll with now := 100, ttlMs := 0 } ∧
     (manifestOf (after gcOps).store 0).segments.length ≤ cfgAll.maxPer ∧
     (recState (compactWith repairedCompact allOk { cfgAll with now := 100, ttlMs := 0 } 100 (after gcOps)).1.store 1).map visible
       ≠ (recState (after gcOps).store 1).map visible) ∧
    (¬ FullPass (after lateOps).store { cfgAll with maxPer := 2, now := 100, ttlMs := 0 } ∧
     (∀ s ∈ (manifestOf (after lateOps).store 0).segments, s.size < cfgAll.target) ∧
     (recState (compactWith repairedCompact allOk { cfgAll with maxPer := 2, now := 100, ttlMs := 0 } 100 (after lateOps)).1.store 1).map visible
       ≠ (recState (after lateOps).store 1).map visible) := by
  decide

/-- non-vacuity: a full pass that DOES drop a tombstone (cutoff 100, tombstone at 5): the recovered
    state changes (the tombstone is gone), what a reader sees does not -/
example :
    FullPass (after gcSafeOps).store { cfgAll with target := 10000, now := 100, ttlMs := 0 } ∧
    Coherent (content (after gcSafeOps).store) ∧
    (compactWith repairedCompact allOk { cfgAll with target := 10000, now := 100, ttlMs := 0 } 150 (after gcSafeOps)).2
      = .compacted [0, 1, 2] 3 1 1 ∧
    (recState (compactWith repairedCompact allOk { cfgAll with target := 10000, now := 100, ttlMs := 0 } 150 (after gcSafeOps)).1.store 1).map visible
      = (recState (after gcSafeOps).store 1).map visible ∧
    recState (compactWith repairedCompact allOk { cfgAll with target := 10000, now := 100, ttlMs := 0 } 150 (after gcSafeOps)).1.store 1
      ≠ recState (after gcSafeOps).store 1 := by
  decide

end C13
end RedisVerif
