import RedisVerif.Props.C06
import RedisVerif.Lemmas.GlueCluster

/-!
# C06, layer 2 — "what a replica serves to clients equals what its replication state says"

Model: `Model/Glue.lean` — one `ReplicatedShardActor` = (`exec` : the reference Redis model M7
stepped at the actor's constant instant 0, `rs` : the shard replication state M2);
`Node.client` = `Execute` arm (execute, gate `command_applied`, `record_mutation_post_execute` on
the POST-state), `Node.deliver` = `apply_remote_delta_impl` (merge, then re-materialise the merged
value), `GCluster` = n such nodes whose `rs` components form the layer-1 `Cluster`.

For every history (any length) of client commands and deliveries on a node that lies in the
supported fragment (`Glue.Supported`, decidable: it runs the model), for every key, the entry the
executor serves (value AND remaining TTL, `Redis.view` at instant 0) is `materialise` of the
replication state's value.  There is one kernel-checked `…_counterexample` per excluded class
(`Glue.Reason`); each is replayed on the real actors by `harness/src/c06.rs scenarios()` on every
run.  (`SET … EXAT/PXAT/KEEPTTL`, `INCR*/APPEND` on keys with a TTL, a remote hash over a local
string and multi-key `DEL` lie inside the fragment, by `fix:` commits of /repo; `example`s of
supported histories cover them.)  Layer 1 composed with layer 2: under `KindStable`, `Delivered`
and the cluster-level supported fragment, all nodes answer GET / HGETALL / EXISTS identically,
and for a string key that answer is the value of the write with the greatest (time, replica)
stamp.
-/
namespace RedisVerif
namespace C06

open Glue Redis

/-! ## full-strength statements -/

/-- every node, after every history, serves for every key what its replication state says -/
def C06_served_equals_replicated : Prop :=
  ∀ (rid : Nat) (causal : Bool) (hist : List NEv) (k : Nat),
    served ((Node.init rid causal).run hist) k =
      materialise (NMap.get ((Node.init rid causal).run hist).rs.keys k)

/-- GET, HGETALL and EXISTS of one key are answered alike by two nodes -/
def ReadsEqual (a b : Node) (k : Nat) : Prop :=
  (execStep a.exec (.get k)).2 = (execStep b.exec (.get k)).2 ∧
  (execStep a.exec (.hgetall k)).2 = (execStep b.exec (.hgetall k)).2 ∧
  (execStep a.exec (.exists [k])).2 = (execStep b.exec (.exists [k])).2

instance (a b : Node) (k : Nat) : Decidable (ReadsEqual a b k) := by
  unfold ReadsEqual; infer_instance

/-- once every delta of a key has been delivered everywhere, all nodes answer reads alike -/
def C06_converged_reads_equal : Prop :=
  ∀ (n : Nat) (causal : Bool) (hist : List GEv) (k : Nat),
    Delivered ((GCluster.init n causal).run hist).proj k →
    ∀ (i j : Nat) (ni nj : Node),
      ((GCluster.init n causal).run hist).nodes[i]? = some ni →
      ((GCluster.init n causal).run hist).nodes[j]? = some nj → ReadsEqual ni nj k

/-! ## the proved forms -/

/-- **C06 (a replica serves what its replication state says), partial**: hypothesis
    `Glue.Supported` (decidable).  Outside it only: commands the recorder ignores that change the
    keyspace (outside the property's command list) and malformed deltas (non-canonical, empty
    register, other CRDT kinds, `expiry_ms` 0 or beyond `i64`) — one counterexample theorem
    each, below.  Inside it: SET with every option, DEL, INCR/DECR/INCRBY/DECRBY/APPEND/GETSET
    with or without TTL, HSET/HDEL/HINCRBY, failing and wrong-type commands, every read, and
    deliveries of arbitrary well-formed string / hash / tombstone deltas including type changes. -/
theorem served_equals_replicated_partial (rid : Nat) (causal : Bool) (hist : List NEv)
    (hs : Supported (Node.init rid causal) hist) (k : Nat) :
    served ((Node.init rid causal).run hist) k =
      materialise (NMap.get ((Node.init rid causal).run hist).rs.keys k) :=
  (ginv_run (ginv_init rid causal) hist hs).srv k

/-- **C06 (… also after a restart)**: a checkpoint (distinct keys, canonical values, in-range
    expiries — all decidable) recovered into a fresh actor through `ApplyRecoveredState`: the
    actor serves what its replication state says.  (Recovery over a key the node already knows is
    a plain insert without merge: `recovered_over_existing_counterexample`.) -/
theorem recovered_serves_replicated_partial (rid : Nat) (causal : Bool) (kvs : List (Nat × RV))
    (hnd : (kvs.map (·.1)).Nodup) (hok : ∀ p ∈ kvs, p.2.WF ∧ ExpiryOk p.2) (k : Nat) :
    served (recoverAll (Node.init rid causal) kvs) k =
      materialise (NMap.get (recoverAll (Node.init rid causal) kvs).rs.keys k) :=
  (ginv_recoverAll kvs _ (ginv_init rid causal) (fun _ _ => rfl) hnd hok).srv k

/-! ### reads depend on the served value only -/

/-- value part of what a node serves -/
def servedVal (n : Node) (k : Nat) : Option Value := (served n k).map (·.val)

theorem servedVal_eq (n : Node) (k : Nat) :
    servedVal n k = (NMap.get (purge n.exec 0) k).map (·.val) := by
  simp only [servedVal, served_eq, Option.map_map]
  cases NMap.get (purge n.exec 0) k <;> rfl

theorem reads_of_servedVal {a b : Node} {k : Nat} (h : servedVal a k = servedVal b k) :
    ReadsEqual a b k := by
  rw [servedVal_eq, servedVal_eq] at h
  simp only [ReadsEqual, execStep, step, exec, execGet, execHGetAll, execExists, lookupStr,
    lookupHash, List.filter_cons, List.filter_nil]
  cases ha : NMap.get (purge a.exec 0) k with
  | none =>
    cases hb : NMap.get (purge b.exec 0) k with
    | none => simp
    | some eb => rw [ha, hb] at h; simp at h
  | some ea =>
    cases hb : NMap.get (purge b.exec 0) k with
    | none => rw [ha, hb] at h; simp at h
    | some eb =>
      rw [ha, hb] at h
      simp only [Option.map_some, Option.some.injEq] at h
      simp only [h, Option.isSome_some, if_true]
      cases eb.val <;> simp

/-- value part of `materialise`: a function of the CRDT content alone -/
def matValOf : Crdt → Option Value
  | .lww r => r.get.map Value.str
  | .hash h =>
    (match liveFields h with
     | [] => none
     | p :: l => some (.hash (p :: l)))
  | _ => none

theorem materialise_val (rv : RV) : (materialise (some rv)).map (·.val) = matValOf rv.crdt := by
  obtain ⟨crdt, vc, expiry, ts, rf⟩ := rv
  cases crdt with
  | lww r => simp only [materialise, matValOf]; cases r.get <;> rfl
  | hash h => simp only [materialise, matValOf]; cases liveFields h <;> rfl
  | _ => rfl

theorem materialise_val_of_strip {o1 o2 : Option RV} (h : o1.map RV.strip = o2.map RV.strip) :
    (materialise o1).map (·.val) = (materialise o2).map (·.val) := by
  cases o1 with
  | none =>
    cases o2 with
    | none => rfl
    | some b => simp at h
  | some a =>
    cases o2 with
    | none => simp at h
    | some b =>
      simp only [Option.map_some, Option.some.injEq] at h
      have hc : a.crdt = b.crdt := by have := congrArg RV.crdt h; simpa [RV.strip] using this
      rw [materialise_val, materialise_val, hc]

theorem reads_of_agree {g : GCluster} (hall : AllInv g) {k : Nat} (hagree : Agree g.proj k) {i j : Nat}
    {ni nj : Node} (hi : g.nodes[i]? = some ni) (hj : g.nodes[j]? = some nj) : ReadsEqual ni nj k := by
  have hstrip := hagree i j ni.rs nj.rs (by rw [proj_nodes_get, hi]; rfl) (by rw [proj_nodes_get, hj]; rfl)
  apply reads_of_servedVal
  simp only [servedVal]
  rw [(hall ni (List.mem_of_getElem? hi)).srv k, (hall nj (List.mem_of_getElem? hj)).srv k]
  exact materialise_val_of_strip hstrip

/-- **C06 (all replicas answer reads alike), partial** — layer 1 composed with layer 2: for every
    number of nodes and every history of client commands and deliveries in the supported fragment
    of the cluster (`Glue.GSupported` = the node-level fragment at every step; a multi-key DEL is
    split per key as `ReplicatedShardedState::execute` does), for every key whose deltas keep one
    CRDT kind and have all been delivered
    everywhere: every two nodes — the writer included — answer GET, HGETALL and EXISTS identically. -/
theorem converged_reads_equal_partial (n : Nat) (causal : Bool) (hist : List GEv) (k K : Nat)
    (hs : GSupported (GCluster.init n causal) hist)
    (hk : KindStable ((GCluster.init n causal).run hist).proj k K)
    (hd : Delivered ((GCluster.init n causal).run hist).proj k)
    (i j : Nat) (ni nj : Node)
    (hi : ((GCluster.init n causal).run hist).nodes[i]? = some ni)
    (hj : ((GCluster.init n causal).run hist).nodes[j]? = some nj) : ReadsEqual ni nj k := by
  obtain ⟨hall, evs, hproj⟩ := run_proj hist _ (allinv_init n causal) hs
  rw [proj_init] at hproj
  refine reads_of_agree hall ?_ hi hj
  rw [hproj] at hk hd ⊢
  exact rs_converges_of_kind_stable n causal evs k K hk hd

/-- **C06 (the agreed value is the greatest-stamp write), at the level of what clients read**:
    for a key that only ever held strings, what every node serves is the value of a register
    issued for the key whose stamp is greater than the stamp of every other write of the key. -/
theorem served_winner_partial (n : Nat) (causal : Bool) (hist : List GEv) (k : Nat)
    (hs : GSupported (GCluster.init n causal) hist)
    (hk : KindStable ((GCluster.init n causal).run hist).proj k 0)
    (hd : Delivered ((GCluster.init n causal).run hist).proj k)
    (i : Nat) (ni : Node) (hi : ((GCluster.init n causal).run hist).nodes[i]? = some ni)
    (v : RV) (hv : NMap.get ni.rs.keys k = some v) :
    ∃ r : Lww, servedVal ni k = r.get.map Value.str ∧
      (∃ m ∈ ((GCluster.init n causal).run hist).sent, m.key = k ∧ m.val.crdt = .lww r) ∧
      ∀ m ∈ ((GCluster.init n causal).run hist).sent, m.key = k → ∀ r', m.val.crdt = .lww r' →
        (r'.ts.lt r.ts = true ∨ r' = r) := by
  obtain ⟨hall, evs, (hproj : _ = Cluster.run _ evs)⟩ := run_proj hist _ (allinv_init n causal) hs
  rw [proj_init] at hproj
  have hpi : ((Cluster.init n causal).run evs).nodes[i]? = some ni.rs := by
    rw [← hproj, proj_nodes_get, hi]; rfl
  have hsent : ((GCluster.init n causal).run hist).sent = ((Cluster.init n causal).run evs).sent :=
    congrArg Cluster.sent hproj
  rw [hproj] at hk hd
  obtain ⟨r, hr, hex, hmax⟩ :=
    winner_is_max_stamp_of_kind_stable n causal evs k hk hd i ni.rs hpi v hv
  refine ⟨r, ?_, by rw [hsent]; exact hex, by rw [hsent]; exact hmax⟩
  simp only [servedVal]
  rw [(hall ni (List.mem_of_getElem? hi)).srv k, hv, materialise_val, hr]
  rfl

/-! ## counterexamples: one per excluded class (each replayed on the real actors) -/

/-- a tombstone issued by replica 2 at time 30 -/
def foreignTombstone : RV :=
  { crdt := .lww (Lww.delete ⟨30, 2⟩), vc := none, expiry := none, ts := ⟨30, 2⟩, rf := none }

def kA : Nat := 7
def kB : Nat := 8
def fF' : Nat := 3

/-- `MSET a w` on a fresh node: the executor has `a`, the replication state does not -/
def nonReplicatedRun : List NEv := [.client (.mset [(kA, [119])])]

theorem non_replicated_writer_counterexample :
    unsupported (Node.init 1 false) (.client (.mset [(kA, [119])])) = some .nonReplicatedWriter ∧
    served ((Node.init 1 false).run nonReplicatedRun) kA ≠
      materialise (NMap.get ((Node.init 1 false).run nonReplicatedRun).rs.keys kA) := by
  decide +kernel

/-! ### supported histories of the classes that `fix:` commits of /repo brought into the fragment -/

/-- `SET a v PXAT 5000`; `SET a v EX 100; SET a w KEEPTTL`; `SET c 5 EX 100; INCR c; APPEND c 1` -/
def expiryOptsRun : List NEv :=
  [ .client (.set kA [118] .always (.pxat 5000) false),
    .client (.set kA [118] .always (.ex 100) false), .client (.set kA [119] .always .keepttl false),
    .client (.set kB [53] .always (.ex 100) false), .client (.incr kB), .client (.append kB [49]) ]

example : Supported (Node.init 1 false) expiryOptsRun ∧
    (served ((Node.init 1 false).run expiryOptsRun) kA).map (·.ttl) = some (some 100000) ∧
    (served ((Node.init 1 false).run expiryOptsRun) kB).map (·.ttl) = some (some 100000) := by
  decide +kernel

/-- the delta of `HSET x f 1` issued by replica 2 -/
def hashDelta : RV := ((Shard.init 2 false).recordHashWrite kA [(fF', [49])]).2

/-- `SET x v` on node 1, then the concurrent `HSET x f 1` of node 2 arrives and wins by stamp:
    the string is deleted, the hash is served -/
def hashOverStringRun : List NEv :=
  [.client (.set kA [118] .always .none false), .deliver kA hashDelta]

example : Supported (Node.init 1 false) hashOverStringRun ∧
    (served ((Node.init 1 false).run hashOverStringRun) kA).map (·.val) =
      some (.hash [(fF', [49])]) := by
  decide +kernel

/-- a crafted register that is neither a tombstone nor a value -/
def emptyRegister : RV :=
  { crdt := .lww { value := none, ts := ⟨5, 9⟩, tomb := false }, vc := none, expiry := none,
    ts := ⟨5, 9⟩, rf := none }

def badDeltaRun : List NEv := [.client (.set kA [118] .always .none false), .deliver kA emptyRegister]

theorem bad_delta_counterexample :
    ¬ Supported (Node.init 1 false) badDeltaRun ∧
    served ((Node.init 1 false).run badDeltaRun) kA ≠
      materialise (NMap.get ((Node.init 1 false).run badDeltaRun).rs.keys kA) := by
  decide +kernel

/-- a crafted live value with `expiry_ms = 0`: `SET … PX 0` is rejected -/
def expiryZero : RV := { RV.withValue [118] ⟨5, 9⟩ with expiry := some 0 }

def expiryZeroRun : List NEv := [.deliver kA expiryZero]

theorem expiry_zero_counterexample :
    unsupported (Node.init 1 false) (.deliver kA expiryZero) = some .expiryRange ∧
    served ((Node.init 1 false).run expiryZeroRun) kA ≠
      materialise (NMap.get ((Node.init 1 false).run expiryZeroRun).rs.keys kA) := by
  decide +kernel

/-- `SET a v`, then a recovered tombstone for `a`: plain insert, nothing is deleted -/
theorem recovered_over_existing_counterexample :
    served ((((Node.init 1 false).client (.set kA [118] .always .none false)).1).recovered kA foreignTombstone) kA ≠
      materialise (NMap.get
        ((((Node.init 1 false).client (.set kA [118] .always .none false)).1).recovered kA foreignTombstone).rs.keys kA) := by
  decide +kernel

/-- FLUSHALL / FLUSHDB at the actor: the executor is emptied, the replication state (keys AND
    Lamport clock) is left as it is — the recorder's `FlushDb | FlushAll => None` -/
theorem flush_leaves_replication_state (n : Node) :
    (n.client .flushall).1.rs = n.rs ∧ (n.client .flushdb).1.rs = n.rs ∧
    (n.client .flushall).1.exec = [] ∧ (n.client .flushdb).1.exec = [] := by
  simp [Node.client, record, execStep, Redis.step, Redis.exec, Redis.execFlush, applied,
    Redis.Reply.isError, Redis.Reply.ok]

/-- `SET a v; FLUSHALL`: the node serves nothing, its replication state (hence `snapshot_state()`,
    the checkpoint, and the node itself after a restart) still holds `a` — an instance of the
    non-replicated-writer class (FLUSH* is outside the property's command list) -/
def flushLingersRun : List NEv := [.client (.set kA [118] .always .none false), .client .flushall]

theorem flushall_lingers_counterexample :
    ¬ Supported (Node.init 1 false) flushLingersRun ∧
    served ((Node.init 1 false).run flushLingersRun) kA = none ∧
    materialise (NMap.get ((Node.init 1 false).run flushLingersRun).rs.keys kA) ≠ none := by
  decide +kernel

theorem C06_served_equals_replicated_false : ¬ C06_served_equals_replicated := fun h =>
  non_replicated_writer_counterexample.2 (h 1 false nonReplicatedRun kA)

/-- the shard actor hands back ONE delta per command: for `DEL a b` only b's tombstone (this is
    why `ReplicatedShardedState::execute` sends one DEL per key) -/
theorem shard_multi_key_del_hands_back_last_delta :
    ((((Node.init 1 false).run
        [.client (.set kA [49] .always .none false), .client (.set kB [50] .always .none false)]).client
        (.del [kA, kB])).2.2).map (·.1) = some kB := by
  decide +kernel

/-- `SETNX a w` on node 0 of two (a writer the recorder ignores): nothing is sent, so everything
    sent is delivered, yet node 1 does not serve `a` -/
def nonReplicatedClusterRun : List GEv := [.client 0 (.setnx kA [119])]

theorem non_replicated_cluster_counterexample :
    ¬ GSupported (GCluster.init 2 false) nonReplicatedClusterRun ∧
    Delivered ((GCluster.init 2 false).run nonReplicatedClusterRun).proj kA ∧
    KindStable ((GCluster.init 2 false).run nonReplicatedClusterRun).proj kA 0 ∧
    ¬ (∀ (i j : Nat) (ni nj : Node),
        ((GCluster.init 2 false).run nonReplicatedClusterRun).nodes[i]? = some ni →
        ((GCluster.init 2 false).run nonReplicatedClusterRun).nodes[j]? = some nj →
        ReadsEqual ni nj kA) := by
  refine ⟨by decide, by decide, by decide, ?_⟩
  intro h
  have := h 0 1 _ _ rfl rfl
  revert this
  decide +kernel

theorem C06_converged_reads_equal_false : ¬ C06_converged_reads_equal := fun h =>
  non_replicated_cluster_counterexample.2.2.2
    (h 2 false nonReplicatedClusterRun kA non_replicated_cluster_counterexample.2.1)

/-! ## the front end since e29f660: MSET is one SET per pair -/

/-- an MSET is never outside the fragment: its step keeps every node's invariant (served =
    replicated) and is a run of layer-1 steps, one delta per pair -/
theorem mset_split_step_ok (g : GCluster) (h : AllInv g) (i : Nat) (kvs : List (Nat × BS)) :
    AllInv (g.step (.client i (.mset kvs))) ∧
    ∃ evs : List Ev, (g.step (.client i (.mset kvs))).proj = g.proj.run evs :=
  mset_ok g h i kvs

/-- the MSET ships its pairs; after delivery both nodes serve them -/
theorem mset_split_replicates :
    let g := (GCluster.init 2 false).run [.client 0 (.mset [(kA, [119]), (kB, [120])]), .deliver 1 0, .deliver 1 1]
    g.sent.length = 2 ∧ Delivered g.proj kA ∧ Delivered g.proj kB ∧
    (∀ ni ∈ g.nodes, ∀ nj ∈ g.nodes, ReadsEqual ni nj kA ∧ ReadsEqual ni nj kB) := by
  decide +kernel

/-- **fixed defect C06:front-end:multi-key-routed-by-first-key** (e29f660): before the repair the
    MSET went whole to one shard actor, which does not record it — nothing was shipped, the peer
    never served the pair -/
theorem mset_unsplit_counterexample :
    let g := (GCluster.init 2 false).runPre [.client 0 (.mset [(kA, [119])])]
    g.sent = [] ∧ ¬ (∀ ni ∈ g.nodes, ∀ nj ∈ g.nodes, ReadsEqual ni nj kA) := by
  decide +kernel

/-! ## non-vacuity -/

/-- one node: conditional SETs (one rejected), GET-flavoured SET, expiry, INCRBY, APPEND on keys
    without TTL, GETSET, DEL, hash writes / deletes / HINCRBY, a failing HSET on a string, reads,
    and deliveries of a foreign string (stale and fresh), a foreign hash and a tombstone -/
def goodNodeRun : List NEv :=
  [ .client (.set kA [53] .always .none false), .client (.set kA [54] .nx .none false),
    .client (.set kA [55] .xx (.px 1500) true), .client (.incrby kB 5), .client (.append kB [49]),
    .client (.getset kA [56]), .client (.hset 9 [(fF', [49]), (4, [50])]), .client (.hincrby 9 fF' 2),
    .client (.hdel 9 [4]), .client (.hset kA [(fF', [49])]), .client (.get kA), .client (.ttl kA),
    .deliver kA (RV.withValue [57] ⟨1, 2⟩), .deliver kA (RV.withValue [58] ⟨9, 2⟩),
    .deliver 9 { hashDelta with ts := ⟨20, 2⟩ }, .client (.del [kB, 9]), .client (.hset 9 [(4, [51])]),
    .deliver kB foreignTombstone ]

set_option maxRecDepth 4000 in
example : Supported (Node.init 1 true) goodNodeRun ∧ goodNodeRun.length = 18 ∧
    served ((Node.init 1 true).run goodNodeRun) kA ≠ none ∧
    served ((Node.init 1 true).run goodNodeRun) 9 ≠ none ∧
    (NMap.get ((Node.init 1 true).run goodNodeRun).rs.keys kB).map RV.strip = some foreignTombstone := by
  decide +kernel

/-- a checkpoint with a string carrying a TTL, a hash with a live and a tombstoned field, and a
    tombstone -/
def goodCheckpoint : List (Nat × RV) :=
  [ (kA, { RV.withValue [118] ⟨4, 2⟩ with expiry := some 5000 }),
    (9, { hashDelta with crdt := .hash [(fF', Lww.set [49] ⟨1, 2⟩), (4, Lww.delete ⟨2, 2⟩)] }),
    (kB, foreignTombstone) ]

example : (goodCheckpoint.map (·.1)).Nodup ∧ (∀ p ∈ goodCheckpoint, p.2.WF ∧ ExpiryOk p.2) ∧
    served (recoverAll (Node.init 1 false) goodCheckpoint) kA ≠ none ∧
    served (recoverAll (Node.init 1 false) goodCheckpoint) 9 ≠ none := by
  decide +kernel

/-- three nodes, concurrent writers on one string key and on different fields of one hash key,
    reordered and duplicated deliveries, everything delivered in the end -/
def goodClusterRun : List GEv :=
  [ .client 0 (.set kA [49] .always (.ex 100) false), .client 1 (.set kA [50] .nx .none false),
    .client 2 (.incr kA), .client 0 (.hset 9 [(fF', [49])]), .client 1 (.hset 9 [(4, [50])]),
    .client 1 (.hdel 9 [4]), .client 2 (.get kA),
    .deliver 1 0, .deliver 2 0, .deliver 2 1, .deliver 0 1, .deliver 0 2, .deliver 1 2,
    .deliver 1 2, .deliver 1 3, .deliver 2 3, .deliver 0 5, .deliver 0 4, .deliver 2 5,
    .deliver 2 4, .deliver 2 4,
    -- a multi-key DEL: one tombstone per key (messages 6 and 7)
    .client 0 (.del [kA, 9]), .deliver 1 6, .deliver 1 7, .deliver 2 7, .deliver 2 6 ]

example : GSupported (GCluster.init 3 false) goodClusterRun ∧
    KindStable ((GCluster.init 3 false).run goodClusterRun).proj kA 0 ∧
    Delivered ((GCluster.init 3 false).run goodClusterRun).proj kA ∧
    KindStable ((GCluster.init 3 false).run goodClusterRun).proj 9 5 ∧
    Delivered ((GCluster.init 3 false).run goodClusterRun).proj 9 ∧
    ((GCluster.init 3 false).run goodClusterRun).sent.length = 8 := by
  decide +kernel

end C06
end RedisVerif
