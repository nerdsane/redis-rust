import RedisVerif.Model.RouteTable
import RedisVerif.Model.Shards7
import RedisVerif.Lemmas.ListFacts

/-
  The routing table (`Model/RouteTable.lean`: one row per `Command` variant — arm of
  `ShardedActorState::execute`, field `get_primary_key` returns; derived from the source AND from the
  binary on every run and compared with the model's) IS the routing of the sharding model.
  Registered under C03.
-/
namespace RedisVerif
namespace Shards
namespace RouteTable

open Grammar (Tok)
open Server (toCmd7 keyCode)
open M7 (recv inject)

/-- pairwise distinct, as a Boolean test (the `Decidable` instance of `List.Nodup` on 127 strings
    costs three times as much to evaluate) -/
def distinctB : List Nat → Bool
  | [] => true
  | a :: l => l.all (· != a) && distinctB l

theorem nodup_of_distinctB : ∀ {l : List Nat}, distinctB l = true → l.Nodup
  | [], _ => List.Pairwise.nil
  | a :: l, h => by
    simp only [distinctB, Bool.and_eq_true, List.all_eq_true, bne_iff_ne] at h
    exact List.nodup_cons.mpr ⟨fun hm => h.1 a hm rfl, nodup_of_distinctB h.2⟩

theorem rendered_names_distinct : (routeTable.map fun r => Grammar.s2b r.ctor).Nodup :=
  List.Pairwise.of_map (S := (· ≠ ·)) keyCode (fun _ _ h e => h (congrArg keyCode e))
    (by rw [List.map_map]; exact nodup_of_distinctB (by decide +kernel))

/-- one row per constructor; 127 variants -/
theorem route_table_rows_distinct : (routeTable.map (·.ctor)).Nodup :=
  List.Pairwise.of_map (S := (· ≠ ·)) Grammar.s2b (fun _ _ h e => h (congrArg Grammar.s2b e))
    (by rw [List.map_map]; exact rendered_names_distinct)

theorem lookupIn_of_mem {r : Row} : ∀ {rs : List Row}, (rs.map fun r => Grammar.s2b r.ctor).Nodup → r ∈ rs →
    lookupIn (Grammar.s2b r.ctor) rs = some r
  | r' :: rs, hnd, hm => by
    rw [List.map_cons, List.nodup_cons] at hnd
    rw [lookupIn]
    rcases List.mem_cons.mp hm with rfl | hm
    · rw [if_pos (beq_self_eq_true _)]
    · rw [if_neg, lookupIn_of_mem hnd.2 hm]
      intro e
      rw [eq_of_beq e] at hnd
      exact hnd.1 (List.mem_map.mpr ⟨r, hm, rfl⟩)

def rowOf (ctor : List Nat) : Option (Arm × KeySel) := (lookup ctor).map fun r => (r.arm, r.sel)

/-- a lookup needs no comparison of names, only the place of the row -/
theorem rowOf_row {n : String} {arm : Arm} {sel : KeySel} (h : ⟨n, arm, sel⟩ ∈ routeTable) :
    rowOf (Grammar.s2b n) = some (arm, sel) := by
  rw [rowOf, lookup, lookupIn_of_mem rendered_names_distinct h]; rfl

/-- `r ∈ routeTable` for a row written out -/
macro "in_table" : tactic => `(tactic| (unfold routeTable; repeat constructor))

theorem strToks_strs (ts : List Tok) (ks : List Nat) (h : Server.strs ts = some ks) : strToks ts = ks := by
  fun_induction Server.strs ts generalizing ks with
  | case1 => cases h; rfl
  | case2 b ts ih =>
    obtain ⟨a, ha, rfl⟩ := Option.map_eq_some_iff.mp h
    rw [strToks, ih a ha]
  | case3 => cases h

theorem strToks_strSds (ts : List Tok) (kvs : List (Nat × List Nat)) (h : Server.strSds ts = some kvs) :
    strToks ts = kvs.map (·.1) := by
  fun_induction Server.strSds ts generalizing kvs with
  | case1 => cases h; rfl
  | case2 k v ts ih =>
    obtain ⟨a, ha, rfl⟩ := Option.map_eq_some_iff.mp h
    simp [strToks, ih a ha]
  | case3 => cases h

theorem selKey_first_strs (n : Nat) (ts : List Tok) (ks : List Nat) (h : Server.strs ts = some ks) :
    selKey (.first 0) (.len n :: ts) = ks.head? := by
  fun_induction Server.strs ts generalizing ks with
  | case1 => cases h; rfl
  | case2 b ts =>
    obtain ⟨a, _, rfl⟩ := Option.map_eq_some_iff.mp h
    rfl
  | case3 => cases h

theorem selKey_first_strSds (n : Nat) (ts : List Tok) (kvs : List (Nat × List Nat))
    (h : Server.strSds ts = some kvs) : selKey (.first 0) (.len n :: ts) = kvs.head?.map (·.1) := by
  fun_induction Server.strSds ts generalizing kvs with
  | case1 => cases h; rfl
  | case2 k v ts =>
    obtain ⟨a, _, rfl⟩ := Option.map_eq_some_iff.mp h
    rfl
  | case3 => cases h

/-- the row of `gc`'s constructor, read on `gc`'s fields, is the routing of the M7 command `c` -/
def Agrees (R : Routes) (now : Nat) (gc : Grammar.Cmd) (c : Redis.Cmd) : Prop :=
  ∃ arm sel, rowOf gc.ctor = some (arm, sel) ∧
    (∀ i, recvOf R arm sel gc.toks i = recv R (inject now c) i) ∧
    (arm = .primary → selKey sel gc.toks = (Redis.cmdKeys c).bind List.head?)

/-- the two kinds of row the single-message commands have.  The command and the fields are concrete up
    to their arguments, so both sides of the two equations compute to the same test
    `R.bytes (keyCode k) == i` resp. to the same key. -/
macro "route_leaf" : tactic => `(tactic| first
  | exact ⟨.primary, .tok 0, rowOf_row (by in_table), fun _ => rfl, fun _ => rfl⟩
  | exact ⟨.allShards, .none, rowOf_row (by in_table), fun _ => rfl, nofun⟩)

theorem agrees_of_toCmd7 (R : Routes) (now : Nat) (ctor : List Nat) (toks : List Tok) (c : Redis.Cmd)
    (h : toCmd7 ⟨ctor, toks⟩ = some c) : Agrees R now ⟨ctor, toks⟩ c := by
  unfold toCmd7 at h
  dsimp only at h
  -- by the shape of the fields, then down the chain of constructor names
  split at h
  all_goals
    repeat
      rw [ite_eq_some] at h
      obtain ⟨hc, h⟩ | ⟨-, h⟩ := h
      · cases eq_of_beq hc
        first
          | (cases h; route_leaf)
          | (obtain ⟨x, -, rfl⟩ := Option.map_eq_some_iff.mp h; route_leaf)
          | ((repeat' split at h) <;> first | (cases h; route_leaf) | cases h)
  all_goals try cases h
  -- the multi-key family `.len _ :: rest`: MGET, DEL, EXISTS, MSET, MSETNX
  rename_i n rest
  rw [ite_eq_some] at h
  obtain ⟨hc, h⟩ | ⟨-, h⟩ := h
  · cases eq_of_beq hc
    obtain ⟨ks, hx, rfl⟩ := Option.map_eq_some_iff.mp h
    refine ⟨.eachKey, .first 0, rowOf_row (by in_table), fun i => ?_, nofun⟩
    show (strToks rest).any _ = ks.any _
    rw [strToks_strs _ _ hx]
  rw [ite_eq_some] at h
  obtain ⟨hc, h⟩ | ⟨-, h⟩ := h
  · cases eq_of_beq hc
    obtain ⟨ks, hx, rfl⟩ := Option.map_eq_some_iff.mp h
    refine ⟨.eachKeyIfMany, .first 0, rowOf_row (by in_table), fun i => ?_, nofun⟩
    show (if (strToks rest).length > 1 then (strToks rest).any _ else
        match selKey (.first 0) (.len n :: rest) with
        | some k => R.bytes k == i
        | none => 0 == i) =
      if ks.length > 1 then ks.any _ else cmdShard R true (Cmd.del (S := M7.sig7) ks) == i
    rw [strToks_strs _ _ hx, selKey_first_strs n _ _ hx]
    cases ks <;> rfl
  rw [ite_eq_some] at h
  obtain ⟨hc, h⟩ | ⟨-, h⟩ := h
  · cases eq_of_beq hc
    obtain ⟨ks, hx, rfl⟩ := Option.map_eq_some_iff.mp h
    refine ⟨.eachKey, .first 0, rowOf_row (by in_table), fun i => ?_, nofun⟩
    show (strToks rest).any _ = ks.any _
    rw [strToks_strs _ _ hx]
  rw [ite_eq_some] at h
  obtain ⟨hc, h⟩ | ⟨-, h⟩ := h
  · cases eq_of_beq hc
    obtain ⟨kvs, hx, rfl⟩ := Option.map_eq_some_iff.mp h
    refine ⟨.eachKey, .first 0, rowOf_row (by in_table), fun i => ?_, nofun⟩
    show (strToks rest).any _ = kvs.any _
    rw [strToks_strSds _ _ hx, List.any_map]; rfl
  rw [ite_eq_some] at h
  obtain ⟨hc, h⟩ | ⟨-, h⟩ := h
  · cases eq_of_beq hc
    obtain ⟨kvs, hx, rfl⟩ := Option.map_eq_some_iff.mp h
    refine ⟨.primary, .first 0, rowOf_row (by in_table), fun i => ?_, fun _ => ?_⟩
    · show (match selKey (.first 0) (.len n :: rest) with
          | some k => R.bytes k == i
          | none => 0 == i) = (cmdShard R true (Cmd.msetnx (S := M7.sig7) kvs) == i)
      rw [selKey_first_strSds n _ _ hx]
      cases kvs <;> rfl
    · rw [selKey_first_strSds n _ _ hx]
      cases kvs <;> rfl
  cases h

/-- **the routing table is the model's routing**: for every rendered command the composed node knows,
    the row of its constructor exists and, read on the command's fields, selects exactly the shards
    the sharding model sends a message to -/
theorem route_table_is_model_routing (R : Routes) (now : Nat) (gc : Grammar.Cmd) (c : Redis.Cmd)
    (h : toCmd7 gc = some c) :
    ∃ r, lookup gc.ctor = some r ∧ ∀ i, recvOf R r.arm r.sel gc.toks i = recv R (inject now c) i := by
  obtain ⟨arm, sel, hl, hr, _⟩ := agrees_of_toCmd7 R now gc.ctor gc.toks c h
  obtain ⟨r, hlk, e⟩ := Option.map_eq_some_iff.mp hl
  cases e
  exact ⟨r, hlk, hr⟩

/-- **no command is routed by a non-key argument**: a default-arm row routes by the FIRST key the M7
    command names -/
theorem route_table_routes_by_first_key (gc : Grammar.Cmd) (c : Redis.Cmd) (h : toCmd7 gc = some c)
    (r : Row) (hr : lookup gc.ctor = some r) (hp : r.arm = .primary) :
    selKey r.sel gc.toks = (Redis.cmdKeys c).bind List.head? := by
  -- the third clause of `Agrees` mentions neither the routes nor the time: any instance will do
  obtain ⟨arm, sel, hl, _, hk⟩ := agrees_of_toCmd7 (Routes.ofTable 1 []) 0 gc.ctor gc.toks c h
  rw [rowOf, hr] at hl
  cases hl
  exact hk hp

/-- **the table inside the end-to-end node**: when the composed node (`Server.handle`) takes a frame down the
    generic path, the shards that adopt the frame's time are exactly the ones the row of the parsed
    command selects, and the command runs on them as the sharding model says -/
theorem handle_sweeps_table_shards (R : Routes) (classify : Server.Classify) (st : Shards Redis.Entry) (now : Nat)
    (f : Server.Frame) (gc : Grammar.Cmd) (c : Redis.Cmd) (hp : Grammar.parseCmdZc f = .ok gc)
    (hc : toCmd7 gc = some c) (hg : dispatch (classify f) = .execute) :
    ∃ r, lookup gc.ctor = some r ∧
      (Server.handle R classify st now f).1 =
        (execN M7.exec7 R true (M7.sweep (recvOf R r.arm r.sel gc.toks) now st) (inject now c)).1 := by
  obtain ⟨r, hr, hrecv⟩ := route_table_is_model_routing R now gc c hc
  refine ⟨r, hr, ?_⟩
  have hfun : recvOf R r.arm r.sel gc.toks = recv R (inject now c) := funext hrecv
  rw [hfun]
  unfold Server.handle
  simp only [hp, hc]
  have : Server.execVia R (classify f) now st c = M7.execNT7code R now st c := by
    unfold Server.execVia
    rw [hg]
  rw [this]
  cases M7.toM7 (M7.execNT7code R now st c).2 <;> rfl

theorem route_table_size : routeTable.length = 127 := by decide +kernel

/-- the 13 rows outside the default arm `.primary` -/
theorem route_table_explicit_arms :
    (routeTable.filter (fun r => r.arm != .primary)).map (·.ctor) =
      ["MGet", "MSet", "Del", "Exists", "Keys", "FlushDb", "FlushAll", "Time", "Scan", "Info", "Ping",
       "DbSize", "RandomKey"] := by decide +kernel

/-! non-vacuity and sensitivity: on two shards with `a ↦ 0`, `b ↦ 1` -/

def R2 : Routes := Routes.ofTable 2
  (NMap.ofList [(keyCode (Grammar.s2b "a"), (0, 0)), (keyCode (Grammar.s2b "b"), (1, 1))])

def renameAB : Grammar.Cmd := ⟨Grammar.s2b "Rename", [.s (Grammar.s2b "a"), .s (Grammar.s2b "b")]⟩

example : (toCmd7 renameAB).map Redis.cmdKeys =
    some (some [keyCode (Grammar.s2b "a"), keyCode (Grammar.s2b "b")]) := by decide +kernel

/-- the row of RENAME sends `RENAME a b` to shard 0 (the home of `a`) only … -/
example : (List.range 2).map (recvOf R2 .primary (.tok 0) renameAB.toks) = [true, false] := by decide +kernel

/-- … a row that routed by the SECOND field (a non-primary argument) would send it to shard 1: such a
    table is not the model's routing (the conclusion of `route_table_is_model_routing` fails for
    RENAME) -/
theorem route_by_second_field_counterexample :
    ∃ i, recvOf R2 .primary (.tok 1) renameAB.toks i ≠
      recv R2 (inject 0 (.rename (keyCode (Grammar.s2b "a")) (keyCode (Grammar.s2b "b")))) i :=
  ⟨0, by decide +kernel⟩

/-- `DEL a b` goes to both homes, `DEL a` to one -/
example : (List.range 2).map (recvOf R2 .eachKeyIfMany (.first 0)
    [.len 2, .s (Grammar.s2b "a"), .s (Grammar.s2b "b")]) = [true, true] := by decide +kernel
example : (List.range 2).map (recvOf R2 .eachKeyIfMany (.first 0) [.len 1, .s (Grammar.s2b "b")]) = [false, true] := by
  decide +kernel

end RouteTable
end Shards
end RedisVerif
