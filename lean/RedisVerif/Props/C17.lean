import RedisVerif.Lemmas.RedisStep
import RedisVerif.Lemmas.RedisX

/-!
# C17 — a failing command changes nothing; a read-only command changes nothing

Property text: "A command that replies with an error leaves the visible keyspace and all TTLs
exactly as they were, even when it names several keys or elements and only one of them is at
fault.  A command classified as read-only never changes the visible keyspace."

The theorems are about the reference model `Model.Redis` (M7) — for EVERY state (reachable or
not), every instant and every modelled command.  `view s now` is the whole visible keyspace:
key ↦ (type+value, remaining TTL).  They are transferred to /repo by (i) the C01
correspondence (real executor = model, reply and keyspace after every step), (ii) the snapshot
oracle of the C17 harness on the real executor, (iii) the comparison of `isReadOnly` with the
real `Command::is_read_only` on every generated command.
-/
namespace RedisVerif.C17
open RedisVerif RedisVerif.Redis

def C17_error_is_noop : Prop :=
  ∀ (s : State) (now : Nat) (c : Cmd),
    (step s now c).2.isError = true → view (step s now c).1 now = view s now

/-- `isReadOnly` = transcription of `Command::is_read_only` -/
def C17_readonly_is_noop : Prop :=
  ∀ (s : State) (now : Nat) (c : Cmd),
    isReadOnly c = true → view (step s now c).1 now = view s now

theorem error_is_noop : C17_error_is_noop := by
  intro s now c he
  unfold step at *
  rw [exec_err he, view_purge]

theorem readonly_is_noop : C17_readonly_is_noop := by
  intro s now c hr
  unfold step
  rw [exec_ro hr, view_purge]

/-! ### soundness of the read-only classification table

`isReadOnly` is the model's copy of the table in `Command::is_read_only` (src/redis/command.rs);
the harness compares the two on every generated command, so a changed table entry surfaces as a
correspondence disagreement on the `ro=` field, and the sweep oracle of harness/src/c17.rs turns
it into a concrete command + state whenever the entry is unsound. -/

/-- full statement, for an arbitrary classification table `ro`: whatever the table calls
    read-only returns the very state it was given (not merely an equivalent view) -/
def C17_readonly_classification_sound (ro : Cmd → Bool) : Prop :=
  ∀ c : Cmd, ro c = true → ∀ (s : State) (now : Nat), (exec s now c).1 = s

theorem readonly_classification_sound : C17_readonly_classification_sound isReadOnly :=
  fun _ h _ _ => exec_ro h

/-- the table `is_read_only` would be with "GETEX without an expiry option is a plain GET" written as the
    pattern `GetEx { ex: None, px: None, exat: None, pxat: None, .. }`: the `..` swallows `persist`, so
    both `GETEX k` and `GETEX k PERSIST` become read-only -/
def isReadOnlySeeded : Cmd → Bool
  | .getex _ .none => true
  | .getex _ .persist => true
  | c => isReadOnly c

/-- … and that table is NOT sound: `SET s v PX 5000; GETEX s PERSIST` drops the deadline -/
theorem readonly_classification_counterexample :
    ¬ C17_readonly_classification_sound isReadOnlySeeded := by
  intro h
  have := h (.getex 1 .persist) rfl [(1, ⟨.str [118], some 6000⟩)] 1000
  revert this
  decide

/-- the other half of that pattern (GETEX with no option at all) is sound -/
theorem getex_without_option_is_noop (s : State) (now k : Nat) : (exec s now (.getex k .none)).1 = s := by
  simp only [exec, execGetEx]
  split
  · rfl
  · rfl
  · simp [getExPlan]

/-- "…and all TTLs exactly as they were": nothing changes at any LATER instant either -/
theorem error_is_noop_future (s : State) (now t : Nat) (c : Cmd) (ht : now ≤ t)
    (he : (step s now c).2.isError = true) : view (step s now c).1 t = view s t := by
  unfold step at *
  rw [exec_err he, view_purge_le s ht]

theorem readonly_is_noop_future (s : State) (now t : Nat) (c : Cmd) (ht : now ≤ t)
    (hr : isReadOnly c = true) : view (step s now c).1 t = view s t := by
  unfold step
  rw [exec_ro hr, view_purge_le s ht]

theorem noop_sequence (s : State) (now : Nat) (cs : List Cmd)
    (h : ∀ c ∈ cs, isReadOnly c = true) :
    view (run s (cs.map (fun c => (now, c)))).1 now = view s now := by
  induction cs generalizing s with
  | nil => rfl
  | cons c cs ih =>
    simp only [List.map_cons, run]
    rw [ih _ (fun c' hc' => h c' (List.mem_cons_of_mem _ hc'))]
    exact readonly_is_noop s now c (h c (List.mem_cons_self ..))

/-- all-or-nothing for the multi-key conditional write: MSETNX that answers 0 (some key existed,
    whichever position it has in the argument list) has written none of the pairs -/
theorem msetnx_all_or_nothing (s : State) (now : Nat) (kvs : List (Nat × BS))
    (h : (step s now (.msetnx kvs)).2 = .int 0) : view (step s now (.msetnx kvs)).1 now = view s now := by
  unfold step at *
  simp only [exec, execMSetNx] at *
  split at h
  · rename_i hc
    simp only [hc, if_true]
    exact view_purge s now
  · simp at h

/-! ## scripts (EVAL of a sequence of `redis.call`s)

The property text quantifies over "the full command set (including … scripts)".  For a script the
statement is FALSE — in Redis itself and in /repo alike: a `redis.call` that fails after an earlier
call has written aborts the script, EVAL replies with the error, and the earlier write stays (no
rollback).  Full statement, counterexample, and the part that does hold. -/

def C17_script_error_is_noop : Prop :=
  ∀ (s : State) (now : Nat) (cs : List Cmd),
    (stepScript s now cs).2.isError = true → view (stepScript s now cs).1 now = view s now

/-- `EVAL "redis.call('SET','a','x'); redis.call('INCR','l')"` with `l` a list: WRONGTYPE, and `a` is set -/
theorem script_error_counterexample : ¬ C17_script_error_is_noop := by
  intro h
  have := h [(2, ⟨.list [[120]], none⟩)] 1000 [.set 1 [120] .always .none false, .incr 2] (by decide)
  revert this
  decide

/-- every call that ran before the failing one (or all of them, if none fails) is read-only -/
def prefixReadOnly (s : State) (now : Nat) : List Cmd → Bool
  | [] => true
  | c :: cs =>
    match (step s now c).2 with
    | .err _ => true
    | _ => isReadOnly c && prefixReadOnly (step s now c).1 now cs

/-- what holds: the failing call itself contributes nothing, so a script whose calls before the
    failing one only read leaves the visible keyspace unchanged — whether it fails or not -/
theorem script_error_is_noop_partial (s : State) (now : Nat) (cs : List Cmd)
    (h : prefixReadOnly s now cs = true) : view (stepScript s now cs).1 now = view s now := by
  induction cs generalizing s with
  | nil => rfl
  | cons c cs ih =>
    simp only [stepScript]
    simp only [prefixReadOnly] at h
    split
    · rename_i e he
      exact error_is_noop s now c (by rw [he]; rfl)
    · rename_i hne
      split at h
      · rename_i e he; exact absurd he (hne e)
      · simp only [Bool.and_eq_true] at h
        rw [ih _ h.2]
        exact readonly_is_noop s now c h.1

/-- the failing call leaves the state of the calls before it: a script that fails at its FIRST
    call changes nothing -/
theorem script_first_call_error_is_noop (s : State) (now : Nat) (c : Cmd) (cs : List Cmd)
    (he : (step s now c).2.isError = true) :
    (stepScript s now (c :: cs)).2 = (step s now c).2 ∧
    view (stepScript s now (c :: cs)).1 now = view s now := by
  simp only [stepScript]
  cases hr : (step s now c).2 with
  | err e => exact ⟨rfl, error_is_noop s now c he⟩
  | _ => rw [hr] at he; cases he

-- non-vacuity: a script that reads, then fails
example : prefixReadOnly [(2, ⟨.list [[120]], none⟩)] 1000 [.llen 2, .incr 2, .del [2]] = true := by decide
example : (stepScript [(2, ⟨.list [[120]], none⟩)] 1000 [.llen 2, .incr 2, .del [2]]).2 = .err .wrongType := by decide

/-! ## non-vacuity: concrete failing commands in a state with mixed types and a deadline -/

/-- a = "10" (deadline 2000), b = list ["x"], c = "abc" -/
def st0 : State :=
  [(1, ⟨.str [49, 48], some 2000⟩), (2, ⟨.list [[120]], none⟩), (3, ⟨.str [97, 98, 99], none⟩)]

example : Inv st0 := by decide
example : (step st0 1000 (.incr 2)).2 = .err .wrongType := by decide
example : (step st0 1000 (.incr 3)).2 = .err .notInt := by decide
example : (step st0 1000 (.incrby 1 9223372036854775807)).2 = .err .overflow := by decide
-- SET … GET on a non-string, although the SET part alone would succeed
example : (step st0 1000 (.set 2 [118] .always .none true)).2 = .err .wrongType := by decide
example : (step st0 1000 (.set 1 [118] .always (.ex 0) false)).2 = .err .invalidExpire := by decide
example : (step st0 1000 (.rename 9 1)).2 = .err .noSuchKey := by decide
-- the failing command really is a no-op on the visible keyspace (instance of the theorem)
example : view (step st0 1000 (.incr 2)).1 1000 = view st0 1000 := by decide
-- two-key command whose SECOND key is at fault: the source list keeps its element
example : (step st0 1000 (.rpoplpush 2 1)).2 = .err .wrongType ∧
    view (step st0 1000 (.rpoplpush 2 1)).1 1000 = view st0 1000 := by decide
example : (step st0 1000 (.lmove 2 3 .left .right)).2 = .err .wrongType := by decide
-- SORT src STORE dst with a wrong-type source:
-- dst = a (deadline 2000) keeps value and deadline; also with a non-numeric element in the source
example : (step [(1, ⟨.list [[120]], some 2000⟩), (2, ⟨.hash [(5, [1])], none⟩)] 1000 (.sort 2 (some 1))).2 = .err .wrongType ∧
    view (step [(1, ⟨.list [[120]], some 2000⟩), (2, ⟨.hash [(5, [1])], none⟩)] 1000 (.sort 2 (some 1))).1 1000 =
      view [(1, ⟨.list [[120]], some 2000⟩), (2, ⟨.hash [(5, [1])], none⟩)] 1000 := by decide
example : (step st0 1000 (.sort 2 (some 1))).2 = .err .notDouble ∧
    view (step st0 1000 (.sort 2 (some 1))).1 1000 = view st0 1000 := by decide
-- multi-element commands on a key of the wrong type
example : (step st0 1000 (.sadd 2 [5, 6, 7])).2 = .err .wrongType := by decide
example : (step st0 1000 (.hset 1 [(5, [1]), (6, [2])])).2 = .err .wrongType := by decide
example : (step st0 1000 (.zadd 3 ⟨false, false, false, false, false⟩ [([1], .fin 1), ([2], .pinf)])).2 = .err .wrongType := by decide
-- bad index, bad score bound
example : (step st0 1000 (.lset 2 5 [1])).2 = .err .indexRange := by decide
example : (step st0 1000 (.zcount 2 none (some ⟨false, .pinf⟩))).2 = .err .notFloat := by decide
-- MSETNX with the third pair at fault answers 0
example : (step st0 1000 (.msetnx [(8, [1]), (9, [2]), (3, [3])])).2 = .int 0 := by decide
-- read-only commands with non-trivial replies
example : (step st0 1000 (.ttl 1)).2 = .int 1 := by decide
example : (step st0 1000 (.mget [1, 2, 3])).2 = .arr [.bulk [49, 48], .nil, .bulk [97, 98, 99]] := by decide
-- …and a non-failing write DOES change the view, so `view` is not blind
example : view (step st0 1000 (.incr 1)).1 1000 ≠ view st0 1000 := by decide

/-! ## the commands outside `Cmd` (`Model/RedisX.lean`: SETBIT / GETBIT, BatchSet / BatchGet, KEYS pattern) -/

theorem x_error_is_noop (s : State) (now : Nat) (c : RedisX.XCmd)
    (he : (RedisX.stepX s now c).2.isError = true) : view (RedisX.stepX s now c).1 now = view s now := by
  unfold RedisX.stepX at *
  rw [RedisX.execX_err he, view_purge]

theorem x_readonly_is_noop (s : State) (now : Nat) (c : RedisX.XCmd)
    (hr : RedisX.isReadOnlyX c = true) : view (RedisX.stepX s now c).1 now = view s now := by
  unfold RedisX.stepX
  rw [RedisX.execX_ro hr, view_purge]

-- BatchGet is not classified read-only by `Command::is_read_only` although it only reads
example : RedisX.isReadOnlyX (.batchget [1, 2]) = false := rfl
example : (RedisX.stepX st0 1000 (.setbit 2 3 1)).2 = .err .wrongType := by decide

end RedisVerif.C17
