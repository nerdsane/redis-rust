import RedisVerif.Props.C12
import RedisVerif.Lemmas.StreamActor

/-!
# C12 above the writer — sink → bridge → bounded mailbox → persistence actor → `flush`

Model: `StreamActor.run` (M4b): every schedule of the three tasks of `integration.rs` (the code
that calls `DeltaSinkSender::send`, the bridge `run_delta_sink_bridge`, `PersistenceActor::run`)
is a list of events `send | drain | bridgeTick | stopBridge | reqPush | reqFlush | reqShutdown |
actor sz | advance ms`; the store calls of every flush are decided by the same fault oracle as in
`Props/C12.lean` (so every crash point and every transient failure is covered); the write-buffer
configuration (`flush_interval`, `max_size_bytes`, `max_deltas`, `backpressure_threshold_bytes`)
and the mailbox capacity are universally quantified.

* `actor_refines_stream_run` — the store, the buffer and the confirmed set of every actor run are
  those of a `Stream.run` of pushes and flushes whose pushes are exactly the accepted updates:
  every theorem of `Props/C12.lean` lifts; `actor_crash_consistent` is the lifted
  `crash_consistent_flush_partial`.
* `accepted_update_never_discarded` — the third sentence of C12 at this level: whatever `push`
  accepted is in the buffer or in a confirmed segment, after every event, for every oracle
  (failed flushes, death of the process), every configuration.
* `sink_conservation` — nothing handed to the sink is unaccounted for: it is on its way (sink,
  mailbox, buffer), confirmed, rejected by back-pressure (logged), skipped (rest of a batch after
  the first rejected update), or dropped without a trace (`let _ = try_send(..)` on a full or
  closed mailbox, `send` after the bridge is gone, messages still queued when the actor exits).
* `C12_sink_nothing_lost` (full strength: the last two classes stay empty) is FALSE for the code
  that exists — by design ("fire-and-forget … best-effort durability", integration.rs) —:
  `mailbox_full_drop_counterexample`, `batch_remainder_skipped_counterexample`,
  `send_after_bridge_exit_counterexample`; `sink_nothing_lost_partial` proves it while the process
  keeps running below the mailbox capacity and the back-pressure threshold.
* `write_buffer_failed_flush_drops_counterexample` — the pinned stand-alone `WriteBuffer::flush`
  (write_buffer.rs) took the deltas before the `put` and dropped them when it failed (fixed defect,
  ed7c4a2); `write_buffer_failed_flush_keeps_repaired` / `_current` for the repaired tree.
-/
namespace RedisVerif
namespace C12

open _root_.RedisVerif.Stream _root_.RedisVerif.StreamActor

/-! ## refinement -/

/-- **the actor refines `Stream.run`** — every configuration, capacity, oracle, event trace -/
theorem actor_refines_stream_run (F : Oracle) (cfg : WbCfg) (cap : Nat) (st : Store) (rid now : Nat)
    (evs : List Ev) :
    ∃ ops, NoCompaction ops ∧
      core (StreamActor.run F cfg cap (A.init st rid now) evs) = Stream.run F (Sys.init st rid) ops ∧
      (StreamActor.run F cfg cap (A.init st rid now) evs).accepted = pushes ops := by
  obtain ⟨ops, h1, h2, h3⟩ := core_run F cfg cap (A.init st rid now) evs
  exact ⟨ops, h1, h2, by simpa [A.init] using h3⟩

/-- **crash consistency above the writer**: for every write-buffer configuration, mailbox
    capacity, fault oracle (hence every crash point and every failed store call) and every
    schedule of sends, bridge iterations, ticks, flush / shutdown requests and actor steps:
    recovery succeeds on the store that is left, the manifest references only complete objects,
    and every update of every flush that returned `Ok` is among the updates recovery returns. -/
theorem actor_crash_consistent (F : Oracle) (cfg : WbCfg) (cap : Nat) (rid now : Nat) (evs : List Ev) :
    OkAnd (recover (StreamActor.run F cfg cap (A.init [] rid now) evs).w.store rid) (fun r =>
      ∀ d ∈ (StreamActor.run F cfg cap (A.init [] rid now) evs).acked, d ∈ r.updates) ∧
    refsComplete (StreamActor.run F cfg cap (A.init [] rid now) evs).w.store = true := by
  obtain ⟨ops, hno, hcore, _⟩ := actor_refines_stream_run F cfg cap [] rid now evs
  have hw : (StreamActor.run F cfg cap (A.init [] rid now) evs).w = (Stream.run F (Sys.init [] rid) ops).w :=
    congrArg Sys.w hcore
  have ha : (StreamActor.run F cfg cap (A.init [] rid now) evs).acked = (Stream.run F (Sys.init [] rid) ops).acked :=
    congrArg Sys.acked hcore
  rw [hw, ha]
  exact ⟨crash_consistent_flush_partial current F rid ops hno, (crash_consistent_structural current F rid ops).2⟩

/-- **bounded memory**: the mailbox never holds more than `cap` messages — the purpose of the
    bounded channel, for every schedule -/
theorem mailbox_never_exceeds_capacity (F : Oracle) (cfg : WbCfg) (cap : Nat) (st : Store) (rid now : Nat)
    (evs : List Ev) : (StreamActor.run F cfg cap (A.init st rid now) evs).mailbox.length ≤ cap :=
  TraceInv.run_inv (step F cfg cap) (fun a => a.mailbox.length ≤ cap)
    (fun s e hs => bounded_step F cfg cap s e hs) (A.init st rid now) (by simp [A.init]) evs

/-! ## what `push` accepted is never discarded -/

/-- **an accepted update is never discarded** — after every event of every schedule, for every
    oracle and configuration, the accepted updates are exactly the buffer plus the confirmed ones -/
theorem accepted_update_never_discarded (F : Oracle) (cfg : WbCfg) (cap : Nat) (st : Store) (rid now : Nat)
    (evs : List Ev) :
    List.Perm (StreamActor.run F cfg cap (A.init st rid now) evs).accepted
      ((StreamActor.run F cfg cap (A.init st rid now) evs).x.p.buffer ++
       (StreamActor.run F cfg cap (A.init st rid now) evs).acked) := by
  rw [List.perm_iff_count]
  intro d
  have := (inv_run F cfg cap _ evs (inv_init st rid now)).2 d
  rw [this, List.count_append]

/-! ## conservation -/

/-- **conservation**: every update handed to the sink is on its way, confirmed, rejected, skipped
    or dropped — as multisets, after every event of every schedule -/
theorem sink_conservation (F : Oracle) (cfg : WbCfg) (cap : Nat) (st : Store) (rid now : Nat) (evs : List Ev) :
    List.Perm (StreamActor.run F cfg cap (A.init st rid now) evs).sent
      (inFlight (StreamActor.run F cfg cap (A.init st rid now) evs) ++
       (StreamActor.run F cfg cap (A.init st rid now) evs).acked ++
       (StreamActor.run F cfg cap (A.init st rid now) evs).rejected ++
       (StreamActor.run F cfg cap (A.init st rid now) evs).skipped ++
       (StreamActor.run F cfg cap (A.init st rid now) evs).dropped) := by
  rw [List.perm_iff_count]
  intro d
  have := (inv_run F cfg cap _ evs (inv_init st rid now)).1 d
  rw [this]
  simp only [ledger, inFlight, List.count_append]

/-- full-strength statement: nothing handed to the sink is lost without at least a log line -/
def C12_sink_nothing_lost (cap : Nat) : Prop :=
  ∀ (F : Oracle) (cfg : WbCfg) (rid now : Nat) (evs : List Ev),
    (StreamActor.run F cfg cap (A.init [] rid now) evs).skipped = [] ∧
    (StreamActor.run F cfg cap (A.init [] rid now) evs).dropped = []

def sd (k v t klen : Nat) : SDelta := (c12Delta k v t, klen)

def bigCfg : WbCfg := { intervalNs := 3600000000000, maxSize := 1000000, maxDeltas := 1000000, backpressure := 1000000 }

/-- the mailbox is full (here: capacity 1, the real one is `channelCapacity`): the batch of the
    second bridge iteration is dropped by `let _ = try_send(..)` — no error, no log -/
theorem mailbox_full_drop_counterexample : ¬ C12_sink_nothing_lost 1 := by
  intro h
  have := (h allOk bigCfg 1 0 [.send (sd 97 1 5 1), .drain, .send (sd 98 2 6 1), .drain]).2
  revert this
  decide

/-- back-pressure inside a batch: the first update is accepted (the check precedes the add), the
    second is rejected (logged) and the loop `break`s: the third is never attempted -/
theorem batch_remainder_skipped_counterexample : ¬ C12_sink_nothing_lost channelCapacity := by
  intro h
  have := (h allOk { bigCfg with backpressure := 1 } 1 0
    [.send (sd 97 1 5 1), .send (sd 98 2 6 1), .send (sd 99 3 7 1), .drain, .actor 100]).1
  revert this
  decide

/-- a `send` after the bridge task has ended returns `Err(Disconnected)`, which
    `ReplicatedShardedState::execute` ignores -/
theorem send_after_bridge_exit_counterexample : ¬ C12_sink_nothing_lost channelCapacity := by
  intro h
  have := (h allOk bigCfg 1 0 [.stopBridge, .send (sd 97 1 5 1)]).2
  revert this
  decide

/-- **nothing is lost while the process keeps running, partial form of `C12_sink_nothing_lost`**:
    decidable hypotheses — no shutdown is requested (`keepsRunning`), the trace is no longer than
    the mailbox capacity (so no `try_send` can find it full), and the byte estimates of everything
    handed in stay within the back-pressure threshold.  Then, for every fault oracle (failed
    flushes, death of the process), every flush configuration and every interleaving: nothing is
    rejected, skipped or dropped — every update handed to the sink is on its way or confirmed. -/
theorem sink_nothing_lost_partial (F : Oracle) (cfg : WbCfg) (cap : Nat) (rid now : Nat) (evs : List Ev)
    (hrun : ∀ e ∈ evs, e.keepsRunning = true) (hcap : evs.length ≤ cap)
    (hbp : evsEst evs ≤ cfg.backpressure) :
    (StreamActor.run F cfg cap (A.init [] rid now) evs).rejected = [] ∧
    (StreamActor.run F cfg cap (A.init [] rid now) evs).skipped = [] ∧
    (StreamActor.run F cfg cap (A.init [] rid now) evs).dropped = [] ∧
    List.Perm (StreamActor.run F cfg cap (A.init [] rid now) evs).sent
      (inFlight (StreamActor.run F cfg cap (A.init [] rid now) evs) ++
       (StreamActor.run F cfg cap (A.init [] rid now) evs).acked) := by
  have hq0 : Quiet (A.init [] rid now) 0 0 := by
    refine ⟨rfl, rfl, by simp [A.init], by simp [A.init, PX.init, mboxEst, estOf_nil], rfl, rfl, rfl, by simp [A.init]⟩
  have hq := quiet_run F cfg cap evs (A.init [] rid now) 0 0 hq0 hrun (by omega) (by omega)
  obtain ⟨_, _, _, _, hr, hs, hd, _⟩ := hq
  refine ⟨hr, hs, hd, ?_⟩
  have := sink_conservation F cfg cap [] rid now evs
  rw [hr, hs, hd] at this
  simpa using this

/-- non-vacuity: a trace with a failed flush satisfies the hypotheses and confirms something -/
example :
    let evs : List Ev := [.send (sd 97 1 5 1), .send (sd 98 2 6 1), .drain, .actor 100, .bridgeTick, .actor 100,
                          .send (sd 99 3 7 1), .drain, .actor 100]
    let cfg : WbCfg := { bigCfg with maxDeltas := 2 }
    let F : Oracle := fun n => if n = 1 then .fail else .ok
    (∀ e ∈ evs, e.keepsRunning = true) ∧ evs.length ≤ channelCapacity ∧ evsEst evs ≤ cfg.backpressure ∧
    (StreamActor.run F cfg channelCapacity (A.init [] 1 0) evs).acked.length = 2 ∧
    (StreamActor.run F cfg channelCapacity (A.init [] 1 0) evs).x.p.buffer.length = 1 ∧
    (StreamActor.run F cfg channelCapacity (A.init [] 1 0) evs).w.calls = 6 := by
  decide

/-- on those traces the other classes behave as the conservation theorem says (non-vacuity of
    the classes): one accepted + one rejected + one skipped; and a dropped batch -/
example :
    let a := StreamActor.run allOk { bigCfg with backpressure := 1 } channelCapacity (A.init [] 1 0)
      [.send (sd 97 1 5 1), .send (sd 98 2 6 1), .send (sd 99 3 7 1), .drain, .actor 100]
    a.accepted = [c12Delta 97 1 5] ∧ a.rejected = [c12Delta 98 2 6] ∧ a.skipped = [c12Delta 99 3 7] ∧
    a.x.p.buffer = [c12Delta 97 1 5] ∧ a.dropped = [] := by
  decide

/-! ## the stand-alone WriteBuffer -/

/-- full-strength statement for `WriteBuffer::flush`, parameterised by the code variant -/
def C12_write_buffer_failed_flush_keeps (restore : Bool) : Prop :=
  ∀ (F : Oracle) (w : World) (b : WB),
    (wbFlushWith restore F w b).2.2 = some false → (wbFlushWith restore F w b).2.1.deltas = b.deltas

/-- **fixed defect C12:write-buffer:failed-flush-drops-buffer** (pinned variant; repaired by ed7c4a2): two
    accepted updates, the `put` fails: `flush` returns `Err` and `pending_count()` is 0 -/
theorem write_buffer_failed_flush_drops_counterexample : ¬ C12_write_buffer_failed_flush_keeps false := by
  intro h
  have := h (fun _ => .fail) (World.init []) { deltas := [c12Delta 97 1 5, c12Delta 98 2 6], bytes := 146, counter := 0 }
    (by decide)
  revert this
  decide

/-- `WriteBuffer::flush` by outcome, either variant, every oracle: `Ok(Some(key))` empties the
    buffer and stores the segment under the counter name; `Err` keeps the deltas (repaired) or
    drops them (pinned) -/
theorem wbFlushWith_spec (restore : Bool) (F : Oracle) (w : World) (b : WB) :
    match (wbFlushWith restore F w b).2.2 with
    | none => True
    | some true => (wbFlushWith restore F w b).2.1.deltas = [] ∧
        NMap.get (wbFlushWith restore F w b).1.store (wbName b.counter) = some (.segment b.deltas)
    | some false => (wbFlushWith restore F w b).2.1.deltas = if restore then b.deltas else [] := by
  unfold wbFlushWith
  cases hb : b.deltas with
  | nil => trivial
  | cons d0 rest =>
    simp only
    cases hp : w.put F (wbName b.counter) (Obj.segment (d0 :: rest)) with
    | mk w' res =>
      cases res with
      | err e => cases restore <;> rfl
      | ok u => exact ⟨rfl, by rw [put_ok hp, NMap.get_insert]; simp⟩

/-- the repaired variant keeps them (and the byte count), for every oracle -/
theorem write_buffer_failed_flush_keeps_repaired : C12_write_buffer_failed_flush_keeps true := by
  intro F w b h
  have := wbFlushWith_spec true F w b
  rw [h] at this
  exact this

/-- the current tree is the repaired variant (`StreamActor.wbRestores = true` since ed7c4a2) -/
theorem write_buffer_current : wbFlush = wbFlushWith wbRestores := rfl

/-- … so the current `WriteBuffer::flush` keeps the accepted updates on every error -/
theorem write_buffer_failed_flush_keeps_current (F : Oracle) (w : World) (b : WB)
    (h : (wbFlush F w b).2.2 = some false) : (wbFlush F w b).2.1.deltas = b.deltas :=
  write_buffer_failed_flush_keeps_repaired F w b h

/-- an `Ok` flush of the WriteBuffer empties it and stores the segment under the counter name -/
theorem write_buffer_ok_flush (restore : Bool) (F : Oracle) (w : World) (b : WB)
    (h : (wbFlushWith restore F w b).2.2 = some true) :
    (wbFlushWith restore F w b).2.1.deltas = [] ∧
    NMap.get (wbFlushWith restore F w b).1.store (wbName b.counter) = some (.segment b.deltas) := by
  have := wbFlushWith_spec restore F w b
  rw [h] at this
  exact this

/-! ## what C12 needs from `ObjectStore::put`, and what `LocalFsObjectStore::put` gives

The crash-consistency theorems quantify over oracles with `crash` (the call had no effect) and
`crashPartial` / `failPartial` (an object every parser rejects is left under the target name, an
older object under that name is gone).  `LocalFsObjectStore::put` writes in place
(`tokio::fs::write`: create + truncate, then `write_all`), so it is NOT atomic — but every
intermediate file content is a proper prefix of the object, and the formats reject every proper
prefix (checked exhaustively on real segments / checkpoints / manifests by harness/src/c12x.rs):
its crash images are exactly those three. -/

/-- every file content during the write is a prefix of the object's bytes -/
theorem localfs_put_content_is_prefix (data lens : List Nat) (k : Nat) (c : List Nat)
    (h : fsAfter data lens k = some c) : ∃ n, c = data.take n := by
  cases k with
  | zero => simp [fsAfter] at h
  | succ k => simp only [fsAfter, Option.some.injEq] at h; exact ⟨_, h.symm⟩

/-- **the crash images of the in-place write are those of the model's `put`**: for a format whose
    reader rejects every proper prefix of an encoding, after any number of file-level steps a
    reader of the final name sees the old object (`crash`), nothing it accepts (`crashPartial`:
    torn), or the complete new object -/
theorem localfs_put_crash_images (parse : List Nat → Option Obj) (data : List Nat) (o : Obj)
    (hfull : parse data = some o) (hpre : ∀ n, n < data.length → parse (data.take n) = none)
    (old : Option (List Nat)) (lens : List Nat) (k : Nat) :
    (fsVisible old data lens k).bind parse = old.bind parse ∨
    (fsVisible old data lens k).bind parse = none ∨
    (fsVisible old data lens k).bind parse = some o := by
  unfold fsVisible
  cases hk : fsAfter data lens k with
  | none => exact Or.inl rfl
  | some c =>
    obtain ⟨n, hn⟩ := localfs_put_content_is_prefix data lens k c hk
    subst hn
    by_cases hlt : n < data.length
    · exact Or.inr (Or.inl (by simp [hpre n hlt]))
    · right; right
      have : data.take n = data := List.take_of_length_le (by omega)
      simp [this, hfull]

/-- … and it is not atomic: an older complete object under the name is destroyed by a `put` that
    never completes (first step = truncate) — the model's `crashPartial` / `failPartial` -/
theorem localfs_put_not_atomic :
    ∃ (parse : List Nat → Option Obj) (data lens : List Nat) (old : List Nat) (k : Nat),
      parse old ≠ none ∧ (fsVisible (some old) data lens k).bind parse = none := by
  refine ⟨fun b => if b = [7] then some .torn else if b = [1, 2] then some (.segment []) else none,
    [1, 2], [1, 1], [7], 1, by decide, by decide⟩

end C12
end RedisVerif
