import RedisVerif.Props.C06Heal

/-!
# C06 over the `AntiEntropyManager` message protocol

`AE.Mgr` (`Model/AntiEntropy.lean`, tied to the real manager by C18's `M*` ops) answers a
`SyncRequest` — built from digests of ANY age, for a bucket list or the whole state — from the
responder's CURRENT state, and the requester merges the `SyncResponse` whenever it arrives.

The response is, delta by delta, a state transfer of layer 1 with transfers
(`Model/ClusterAE.lean`): building it = `snapshot` events at the responder; merging it (at once,
late, twice) = `applySnap` events at the requester, whose key map afterwards is `applyDeltas` of
the response (C18's `stale_pull_merges` describes it key by key).

So every execution that interleaves client writes, gossip deliveries and manager-protocol pulls in
any order, with any loss, is an execution of `ACluster`, and `rs_converges_among_ae` /
`winner_is_max_stamp_ae` hold of it: once every update of a key has reached every responsible
replica — inside a `SyncResponse` or as a gossiped delta — they agree.
`mgr_pull_repairs_loss_witness`: a delta lost for good, repaired by one full-state pull whose
response is merged late, after another write.
-/
namespace RedisVerif
namespace C06

open Cluster ACluster SimC AE

/-- the responder's side of a pull -/
def pullEvs (p : Nat) (resp : List (Nat × RV)) : List AEv := resp.map (fun q => AEv.snapshot p q.1)

/-- the requester's side: the transfers `start … start+len-1` -/
def mergeEvs (r start len : Nat) : List AEv := (List.range' start len).map (fun i => AEv.applySnap r i)

/-- **a `SyncResponse` is a block of state transfers** -/
theorem mgr_response_is_transfers (H : Hasher) (m : Mgr) (req : Request) (C : ACluster) (p : Nat) (sp : Shard)
    (hp : C.base.nodes[p]? = some sp) (hwf : NMap.WF sp.keys) :
    C.run (pullEvs p (m.handleSyncRequest H req (NMap.keys sp.keys) sp.keys).2.deltas) =
      { C with snaps := C.snaps ++
          Sim.snapsOf C.base.log p (m.handleSyncRequest H req (NMap.keys sp.keys) sp.keys).2.deltas } := by
  apply run_snapshots p sp _ C hp
  intro q hq
  exact (C18.stale_pull_merges H m req (NMap.keys sp.keys) sp.keys [] hwf (List.Perm.refl _) 0).1 q hq

/-- **merging a response is applying its transfers**, whenever that happens: `sn` = the block at
    positions `start …` of the transfers in flight, `sr` = the requester's state AT MERGE TIME -/
theorem mgr_merge_is_apply (C : ACluster) (r : Nat) (sr : Shard) (hr : C.base.nodes[r]? = some sr)
    (sn : List Snap) (start : Nat) (hsn : ∀ t, t < sn.length → C.snaps[start + t]? = sn[t]?) :
    C.run (mergeEvs r start sn.length) =
      { C with base := { C.base with
          nodes := C.base.nodes.set r (Gossip.MCluster.applyAll sr (sn.map snapMsg))
          log := C.base.log ++ Sim.absorbedOf r sn } } :=
  run_applySnaps r sn start sr C hr hsn

/-- … and the requester's keys afterwards are `applyDeltas` of the response -/
theorem mgr_merge_keys (src : Nat) (resp : List (Nat × RV)) (log : List Absorbed) (sr : Shard) :
    (Gossip.MCluster.applyAll sr ((Sim.snapsOf log src resp).map snapMsg)).keys = applyDeltas sr.keys resp := by
  rw [snapsOf_msgs, applyAll_keys]

/-! ## witness -/

def mgr0 : Mgr := Mgr.new 1 1 1000 1000 true

/-- node 0 accepts `SET x a`, `SET x b`; node 1 gets only the first delta (the second is lost for
    good).  Node 0 answers a full-state `SyncRequest` of node 1 (response = transfers 0 …); node 0
    then accepts `SET y c`; the response is merged LATE at node 1, twice: node 1 holds `b` for `x`
    — every update of `x` has reached it — and nothing yet for `y` (written after the answer). -/
theorem mgr_pull_repairs_loss_witness :
    let c0 := (ACluster.init 2 false).run
      [ .ev (.loc 0 (.write kX [97] none)), .ev (.loc 0 (.write kX [98] none)), .ev (.deliver 1 0) ]
    let resp := (mgr0.handleSyncRequest idealH ⟨2, 1, default, none⟩ [kX] (c0.base.nodes[0]?.map (·.keys)).get!).2.deltas
    let c := c0.run (pullEvs 0 resp ++ [.ev (.loc 0 (.write kY [99] none))] ++ mergeEvs 1 0 resp.length ++ mergeEvs 1 0 resp.length)
    resp.map (·.1) = [kX] ∧ valAt c0 1 kX = some (some [97]) ∧
    valAt c 1 kX = some (some [98]) ∧ valAt c 0 kX = some (some [98]) ∧ valAt c 1 kY = some none ∧
    Delivered c.base kX ∧ KindStable c.base kX 0 ∧ ¬ Delivered c.base kY := by
  decide +kernel

end C06
end RedisVerif
