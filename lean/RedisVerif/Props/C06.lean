import RedisVerif.Lemmas.ClusterInv
import RedisVerif.Lemmas.RegsUnique
import RedisVerif.Lemmas.TwoDeltas

/-!
# C06 — Replicas converge once updates are delivered

Model: `RedisVerif.Cluster` (`Model/Cluster.lean`): n replicas' replication states (M2), the
monotone history of issued deltas, and an arbitrary list of `deliver` events (any message to any
other node, any time, any number of times, any order).

Layer 1 (this file): convergence of the *replication state*, for every number of nodes and
every schedule of local writes and deliveries.  For a key whose deltas keep ONE CRDT kind
(`KindStable`, decidable), once every delta of the key has been applied at every other node
(`Delivered`), all nodes hold the same CRDT content and the same stamp, the node that accepted the
write included; `Compat` (canonical form, "a (slot, stamp) pair identifies one register") is
derived from `KindStable`, being proved of every execution in `Lemmas/RegsUnique.lean`.  WITHOUT
kind stability a key with at most two distinct deltas in the whole history (e.g. a concurrent
`SET` and `HSET` with equal Lamport time on two nodes) still converges: only commutativity and
idempotence of the merge are used (`Lemmas/TwoDeltas.lean`), so `cross_kind_divergence_counterexample`
(three deltas, non-associativity) is the smallest shape of the known finding `C06:cross-kind-order`.
The outer stamp of every shipped delta dominates the register stamps inside it, so a receiver,
whose clock follows outer stamps only, writes above everything it stored;
`hdel_keeps_outer_stamp_counterexample`: a `hash_delete` that leaves the outer stamp alone breaks
exactly this.  The full statements `C06_rs_converges` (no `Compat`) and `C06_full_value_converges`
(expiry included) are FALSE of the code (known findings).

Layer 2 (command → delta glue and re-materialisation into the executor, "what a replica serves
equals what its replication state says") is proved in `Props/C06Glue.lean` over the glue model
`Model/Glue.lean`; see DESIGN.md §4 C06.
-/
namespace RedisVerif
namespace C06

open Cluster

/-- every delta issued for key `k` has been applied at every other node at least once -/
def Delivered (c : Cluster) (k : Nat) : Prop :=
  ∀ m ∈ c.sent, m.key = k → ∀ j, j < c.nodes.length → j ≠ m.origin →
    (⟨j, k, m.val⟩ : Absorbed) ∈ c.log

instance (c : Cluster) (k : Nat) : Decidable (Delivered c k) := by
  unfold Delivered; infer_instance

/-- all nodes agree on the CRDT content and stamp of key `k` -/
def Agree (c : Cluster) (k : Nat) : Prop :=
  ∀ (i j : Nat) (si sj : Shard), c.nodes[i]? = some si → c.nodes[j]? = some sj →
    (NMap.get si.keys k).map RV.strip = (NMap.get sj.keys k).map RV.strip

/-- … and on every field of the replicated value (expiry, vector clock, rf included) -/
def AgreeFull (c : Cluster) (k : Nat) : Prop :=
  ∀ (i j : Nat) (si sj : Shard), c.nodes[i]? = some si → c.nodes[j]? = some sj →
    NMap.get si.keys k = NMap.get sj.keys k

/-! ## full-strength statements -/

def C06_rs_converges : Prop :=
  ∀ (n : Nat) (causal : Bool) (evs : List Ev) (k : Nat),
    Delivered ((init n causal).run evs) k → Agree ((init n causal).run evs) k

def C06_full_value_converges : Prop :=
  ∀ (n : Nat) (causal : Bool) (evs : List Ev) (k : Nat),
    Delivered ((init n causal).run evs) k → AgreeFull ((init n causal).run evs) k

/-! ## the proved form -/

theorem hasAll_of_delivered {n : Nat} {causal : Bool} {evs : List Ev} {k : Nat}
    (hd : Delivered ((init n causal).run evs) k) {j : Nat} (hj : j < ((init n causal).run evs).nodes.length) :
    HasAll ((init n causal).run evs) j k :=
  hasAll_of_others (sentLog_run _ evs (sentLog_init n causal)) (fun m hm hk ho => hd m hm hk j hj ho)

/-- **C06 (replication state converges), partial**: hypothesis `Compat` on the deltas of the key
    (decidable).  What is missing for `C06_rs_converges`: keys whose deltas mix CRDT kinds
    (`cross_kind_divergence_counterexample`). -/
theorem rs_converges_partial (n : Nat) (causal : Bool) (evs : List Ev) (k K : Nat)
    (hc : Compat ((init n causal).run evs).sent k K)
    (hd : Delivered ((init n causal).run evs) k) : Agree ((init n causal).run evs) k := by
  have hj : J ((init n causal).run evs).sent k K ((init n causal).run evs) :=
    J_run hc (init n causal) evs (J_init _ k K n causal) (fun m hm => hm)
  intro i j si sj hsi hsj
  exact hj.value_eq hc hsi hsj (hasAll_of_delivered hd (List.getElem?_eq_some_iff.mp hsi).1)
    (hasAll_of_delivered hd (List.getElem?_eq_some_iff.mp hsj).1)

/-- **C06 (the agreed value is the write with the greatest stamp)**, LWW keys: the register every
    node ends with is the register of some write of the key, and every other write of the key
    carries a strictly smaller stamp (or is that same register). -/
theorem winner_is_max_stamp (n : Nat) (causal : Bool) (evs : List Ev) (k : Nat)
    (hc : Compat ((init n causal).run evs).sent k 0)
    (hd : Delivered ((init n causal).run evs) k)
    (i : Nat) (si : Shard) (hsi : ((init n causal).run evs).nodes[i]? = some si)
    (v : RV) (hv : NMap.get si.keys k = some v) :
    ∃ r, v.crdt = .lww r ∧
      (∃ m ∈ ((init n causal).run evs).sent, m.key = k ∧ m.val.crdt = .lww r) ∧
      ∀ m ∈ ((init n causal).run evs).sent, m.key = k → ∀ r', m.val.crdt = .lww r' →
        (r'.ts.lt r.ts = true ∨ r' = r) :=
  (J_run hc (init n causal) evs (J_init _ k 0 n causal) (fun m hm => hm)).winner hc hsi
    (hasAll_of_delivered hd (List.getElem?_eq_some_iff.mp hsi).1) hv

/-! ## the only real hypothesis is kind stability -/

/-- every delta issued for key `k` has CRDT kind `K` (decidable) -/
def KindStable (c : Cluster) (k K : Nat) : Prop := ∀ m ∈ c.sent, m.key = k → m.val.crdt.kind = K

instance (c : Cluster) (k K : Nat) : Decidable (KindStable c k K) := by
  unfold KindStable; infer_instance

/-- `Compat` follows from kind stability alone: canonical form and "a (slot, stamp) pair
    identifies one register" are theorems about every execution (`Lemmas/RegsUnique.lean`) -/
theorem compat_of_kind_stable (n : Nat) (causal : Bool) (evs : List Ev) (k K : Nat)
    (h : KindStable ((init n causal).run evs) k K) :
    Compat ((init n causal).run evs).sent k K :=
  ⟨regs_consistent_of_run n causal evs k,
    fun m hm hk => ⟨sent_wf_of_run n causal evs m hm, h m hm hk⟩⟩

/-- **C06 (replication state converges)** for every key that keeps one data type: any number of
    nodes, any history of local writes, any delivery schedule (order, duplication, redelivery). -/
theorem rs_converges_of_kind_stable (n : Nat) (causal : Bool) (evs : List Ev) (k K : Nat)
    (hk : KindStable ((init n causal).run evs) k K)
    (hd : Delivered ((init n causal).run evs) k) : Agree ((init n causal).run evs) k :=
  rs_converges_partial n causal evs k K (compat_of_kind_stable n causal evs k K hk) hd

/-- **C06 (greatest stamp wins)** for every key that only ever held strings -/
theorem winner_is_max_stamp_of_kind_stable (n : Nat) (causal : Bool) (evs : List Ev) (k : Nat)
    (hk : KindStable ((init n causal).run evs) k 0)
    (hd : Delivered ((init n causal).run evs) k)
    (i : Nat) (si : Shard) (hsi : ((init n causal).run evs).nodes[i]? = some si)
    (v : RV) (hv : NMap.get si.keys k = some v) :
    ∃ r, v.crdt = .lww r ∧
      (∃ m ∈ ((init n causal).run evs).sent, m.key = k ∧ m.val.crdt = .lww r) ∧
      ∀ m ∈ ((init n causal).run evs).sent, m.key = k → ∀ r', m.val.crdt = .lww r' →
        (r'.ts.lt r.ts = true ∨ r' = r) :=
  winner_is_max_stamp n causal evs k (compat_of_kind_stable n causal evs k 0 hk) hd i si hsi v hv

/-! ## counterexamples (known findings) -/

theorem agree_idx {c : Cluster} {k : Nat} (h : Agree c k) (i j : Nat) (hi : i < c.nodes.length)
    (hj : j < c.nodes.length) :
    (NMap.get c.nodes[i].keys k).map RV.strip = (NMap.get c.nodes[j].keys k).map RV.strip :=
  h i j _ _ (List.getElem?_eq_getElem hi) (List.getElem?_eq_getElem hj)

theorem agreeFull_idx {c : Cluster} {k : Nat} (h : AgreeFull c k) (i j : Nat)
    (hi : i < c.nodes.length) (hj : j < c.nodes.length) :
    NMap.get c.nodes[i].keys k = NMap.get c.nodes[j].keys k :=
  h i j _ _ (List.getElem?_eq_getElem hi) (List.getElem?_eq_getElem hj)

def kH : Nat := 104
def fF : Nat := 102
def fG : Nat := 103

/-- HSET h f 1; SET h v; HSET h g 2 on node 0; node 1 receives the three deltas in issue order,
    node 2 receives them as 2nd, 3rd, 1st.  Everything is delivered everywhere. -/
def crossKindRun : List Ev :=
  [ .loc 0 (.hwrite kH [(fF, [49])]), .loc 0 (.write kH [118] none), .loc 0 (.hwrite kH [(fG, [50])]),
    .deliver 1 0, .deliver 1 1, .deliver 1 2,
    .deliver 2 1, .deliver 2 2, .deliver 2 0 ]

/-- **Known finding C06:cross-kind-order** (consequence of C07:assoc:cross-kind): with a type
    change on the key, delivery order decides the surviving hash fields. -/
theorem cross_kind_divergence_counterexample :
    Delivered ((init 3 false).run crossKindRun) kH ∧ ¬ Agree ((init 3 false).run crossKindRun) kH := by
  refine ⟨by decide +kernel, ?_⟩
  intro h
  have := agree_idx h 1 2 (by decide) (by decide)
  revert this
  decide +kernel

theorem C06_rs_converges_false : ¬ C06_rs_converges := by
  intro h
  exact cross_kind_divergence_counterexample.2
    (h 3 false crossKindRun kH cross_kind_divergence_counterexample.1)

/-- SET k v1 PX 5000; SET k v2 on node 0, both delivered to node 1. -/
def expiryRun : List Ev :=
  [ .loc 0 (.write kH [1] (some 5000)), .loc 0 (.write kH [2] none), .deliver 1 0, .deliver 1 1 ]

/-- **Known finding C06:expiry-merge-max**: expiry is merged by `max`/`Some`-wins, so a later
    write without expiry clears it on the writer only; the peer keeps the old expiry. -/
theorem expiry_divergence_counterexample :
    Delivered ((init 2 false).run expiryRun) kH ∧ ¬ AgreeFull ((init 2 false).run expiryRun) kH := by
  refine ⟨by decide +kernel, ?_⟩
  intro h
  have := agreeFull_idx h 0 1 (by decide) (by decide)
  revert this
  decide +kernel

theorem C06_full_value_converges_false : ¬ C06_full_value_converges := by
  intro h
  exact expiry_divergence_counterexample.2
    (h 2 false expiryRun kH expiry_divergence_counterexample.1)

/-! ## convergence without kind stability: at most two distinct deltas -/

/-- no `HSET` without a pair (the parser never produces one; `record_hash_write` with no field
    keeps the old stamp, so it would be a type change that does not absorb the old value) -/
def emptyHWrite : Ev → Bool
  | .loc _ (.hwrite _ []) => true
  | _ => false

def NoEmptyHWrite (evs : List Ev) : Prop := ∀ e ∈ evs, emptyHWrite e = false

instance (evs : List Ev) : Decidable (NoEmptyHWrite evs) := by
  unfold NoEmptyHWrite; infer_instance

/-- the distinct things replicas have to agree on for key `k`: the stripped deltas -/
def deltasOf (c : Cluster) (k : Nat) : List RV :=
  (c.sent.filter (fun m => m.key = k)).map (·.val.strip)

/-- at most two distinct deltas for the key, tie-consistent with each other (decidable) -/
def TwoDeltas (c : Cluster) (k : Nat) : Prop :=
  deltasOf c k = [] ∨
  ∃ a ∈ deltasOf c k, ∃ b ∈ deltasOf c k,
    (∀ x ∈ deltasOf c k, x = a ∨ x = b) ∧ C07.TieConsistent a b

instance (c : Cluster) (k : Nat) : Decidable (TwoDeltas c k) := by
  unfold TwoDeltas; infer_instance

/-- **C06 (replication state converges), two deltas, any kinds**: for every number of nodes and
    every history (no empty HSET), a key for which at most two distinct deltas were ever issued —
    of the same or of DIFFERENT CRDT kinds, with equal or different Lamport times — is held
    identically by all nodes once every delta has been applied everywhere, whatever the order
    and the duplication.  No `KindStable`. -/
theorem rs_converges_two_deltas (n : Nat) (causal : Bool) (evs : List Ev) (k : Nat)
    (hne : NoEmptyHWrite evs)
    (h2 : TwoDeltas ((init n causal).run evs) k)
    (hd : Delivered ((init n causal).run evs) k) : Agree ((init n causal).run evs) k := by
  have hne' : ∀ e ∈ evs, ∀ i k', e ≠ .loc i (.hwrite k' []) := by
    intro e he i k' heq
    have := hne e he
    rw [heq] at this
    simp [emptyHWrite] at this
  have hj : J ((init n causal).run evs).sent k 0 ((init n causal).run evs) :=
    J_run_any (init n causal) evs hne' (J_init _ k 0 n causal) (fun m hm => hm)
  intro i j si sj hsi hsj
  have hi := hasAll_of_delivered hd (List.getElem?_eq_some_iff.mp hsi).1
  have hjj := hasAll_of_delivered hd (List.getElem?_eq_some_iff.mp hsj).1
  -- everything absorbed is one of the deltas of the key
  have hin : ∀ i' v, v ∈ ((init n causal).run evs).absorbed i' k →
      v ∈ deltasOf ((init n causal).run evs) k := by
    intro i' v hv
    obtain ⟨m, hm, hmk, hmv⟩ := hj.absorbed_sent hv
    simp only [deltasOf, List.mem_map, List.mem_filter, decide_eq_true_eq]
    exact ⟨m, ⟨hm, hmk⟩, hmv⟩
  rcases h2 with hnil | ⟨a, ha, b, hb, hall, htie⟩
  · -- no delta at all: nobody holds the key
    have hnone : ∀ i', ((init n causal).run evs).absorbed i' k = [] := by
      intro i'
      cases hl : ((init n causal).run evs).absorbed i' k with
      | nil => rfl
      | cons v l =>
        have := hin i' v (by rw [hl]; simp)
        rw [hnil] at this; cases this
    rw [hj.value i si hsi, hj.value j sj hsj, hnone i, hnone j]
  · have hwf : ∀ x ∈ deltasOf ((init n causal).run evs) k, x.WF ∧ TwoDeltas.Stripped x := by
      intro x hx
      simp only [deltasOf, List.mem_map, List.mem_filter] at hx
      obtain ⟨m, ⟨hm, _⟩, rfl⟩ := hx
      exact ⟨RV.strip_wf (hj.sent_ok m hm).2, TwoDeltas.stripped_strip _⟩
    have t := TwoDeltas.table (hwf a ha).1 (hwf b hb).1 (hwf a ha).2 (hwf b hb).2 htie
    refine hj.value_eq_of_aci (TwoDeltas.aci t) (fun i' v hv => ?_) hsi hsj hi hjj
    rcases hall v (hin i' v hv) with h | h
    · exact Or.inl h
    · exact Or.inr (Or.inl h)

/-- the concurrent first writes of two kinds with EQUAL Lamport time: node 0 `SET p v` @(1,r1),
    node 1 `HSET p f x` @(1,r2), cross-delivered with a duplicate -/
def tieRun : List Ev :=
  [ .loc 0 (.write kH [118] none), .loc 1 (.hwrite kH [(fF, [120])]),
    .deliver 1 0, .deliver 0 1, .deliver 1 0 ]

example : NoEmptyHWrite tieRun ∧ TwoDeltas ((init 2 false).run tieRun) kH ∧
    Delivered ((init 2 false).run tieRun) kH ∧
    ¬ KindStable ((init 2 false).run tieRun) kH 0 ∧ ¬ KindStable ((init 2 false).run tieRun) kH 5 ∧
    (((init 2 false).run tieRun).sent.map (·.val.ts)) = [⟨1, 1⟩, ⟨1, 2⟩] := by
  decide +kernel

section Domination
open Shard

/-! ## what a node ships dominates what it carries (why write-after-receive converges)

The convergence proofs above use this through `J.sent_ok` / `Shard.Inv` (clock domination, C08):
a delivered delta advances the receiver's Lamport clock only by its OUTER stamp
(`apply_remote_delta`: `lamport_clock.update(&delta.value.timestamp)`), so the receiver's next
write is stamped above the registers it just stored only because the outer stamp of every shipped
delta dominates every register stamp inside it. -/

/-- **every delta a node ships has an outer stamp ≥ (in time) every register stamp inside it**
    — all local operations of M2: `record_write`, `record_delete`, `record_hash_write`,
    `record_hash_delete` (each per-field tick is followed by `self.timestamp = *clock`) -/
theorem delta_outer_stamp_dominates (s : Shard) (op : LOp) (d : RV) (h : s.Inv)
    (hd : (step s op.toOp).2 = some d) : d.Dominated := by
  have hinv' : (step s op.toOp).1.Inv := Shard.inv_local s op h
  have hget := Shard.local_get s op d hd
  exact (Shard.dominated_of_get hinv' hget).2

/-- **a receiver that adopts the outer stamp of a dominated delta has a clock ≥ everything it
    stores** (outer and inner stamps of every key, the merged one included) -/
theorem receiver_clock_dominates_stored (r : Shard) (k : Nat) (d : RV) (h : r.Inv) (hd : d.Dominated) :
    ∀ p ∈ (applyRemote r k d).keys, ∀ t ∈ p.2.allStamps, t.time ≤ (applyRemote r k d).clock.time := by
  have hinv := C08.inv_remote r k d h hd
  intro p hp t ht
  have ⟨h1, h2⟩ := hinv.2 p hp
  simp only [RV.allStamps, List.mem_cons] at ht
  rcases ht with rfl | ht
  · exact h1
  · exact Nat.le_trans (h2 t ht) h1

/-- … hence its next effective write is stamped above every register it holds: it cannot be
    beaten, at any replica, by something it had already stored -/
theorem receiver_next_write_above_stored (r : Shard) (k : Nat) (d : RV) (h : r.Inv) (hd : d.Dominated)
    (w : Op) (dw : RV) (he : effective (applyRemote r k d) w = true)
    (hw : (step (applyRemote r k d) w).2 = some dw) :
    ∀ p ∈ (applyRemote r k d).keys, ∀ t ∈ p.2.allStamps, t.lt dw.ts = true :=
  C08.issued_stamp_gt_seen (applyRemote r k d) w dw (C08.inv_remote r k d h hd) he hw

/-- the variant of `hash_delete` that leaves the outer stamp alone (A: HSET p f1..f4; HDEL p f1..f4):
    the shipped delta is not dominated; the receiver B (which had the HSET) ends with a clock BELOW a
    tombstone it stores, its HSET of f4 is stamped below that tombstone, and A drops the write -/
theorem hdel_keeps_outer_stamp_counterexample :
    let a0 := (recordHashWrite (Shard.init 1 false) 9 [(1, [49]), (2, [49]), (3, [49]), (4, [49])])
    let b0 := applyRemote (Shard.init 2 false) 9 a0.2
    let del := recordHashDeleteKeepOuter a0.1 9 [1, 2, 3, 4]
    ∃ d, del.2 = some d ∧ ¬ d.Dominated ∧
      (let b1 := applyRemote b0 9 d
       let w := recordHashWrite b1 9 [(4, [122])]
       b1.clock.time < 8 ∧ w.2.ts.time = 7 ∧
       (RV.merge d w.2).crdt.hashOf.map (fun p => (p.1, p.2.tomb)) =
         [(1, true), (2, true), (3, true), (4, true)]) := by
  decide +kernel

end Domination

/-- every message ever sent in any execution is dominated, and every node is clock-dominated -/
theorem sent_dominated_of_run (n : Nat) (causal : Bool) (evs : List Ev) :
    (∀ s ∈ ((init n causal).run evs).nodes, s.Inv) ∧
    (∀ m ∈ ((init n causal).run evs).sent, m.val.Dominated) :=
  have h := RInv_run _ evs (RInv_init n causal)
  ⟨fun s hs => (h.wf s hs).2, fun m hm => (h.sent_wf m hm).2⟩

/-! ## non-vacuity: a concurrent, reordered, duplicated schedule meeting the hypotheses -/

def goodRun : List Ev :=
  [ .loc 0 (.write 7 [1] none), .loc 1 (.write 7 [2] none), .loc 2 (.write 7 [3] none),
    .deliver 0 1, .deliver 0 1, .deliver 1 2, .deliver 2 0, .loc 0 (.delete 7),
    .deliver 1 0, .deliver 0 2, .deliver 2 1, .deliver 1 3, .deliver 2 3, .deliver 2 3 ]

example : Compat ((init 3 true).run goodRun).sent 7 0 ∧ Delivered ((init 3 true).run goodRun) 7
    ∧ KindStable ((init 3 true).run goodRun) 7 0
    ∧ ((init 3 true).run goodRun).sent.length = 4 := by
  decide +kernel

end C06
end RedisVerif
