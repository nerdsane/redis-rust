import RedisVerif.Props.C06Msg
import RedisVerif.Lemmas.ClusterAE

/-!
# C06 with anti-entropy — "loss followed by redelivery OR ANTI-ENTROPY, partitions that heal"

Layer 1 in `Props/C06.lean` and `C06Msg.lean` lets a node absorb *issued deltas* only.  What
anti-entropy hands over is not an issued delta: `get_keys_in_buckets` / `handle_sync_request` /
`get_all_deltas` wrap the VALUE the sender holds now — the merge of everything it has absorbed —
and the receiver feeds it to the same `apply_remote_delta`.  `Model/ClusterAE.lean` adds exactly
that to the cluster model: `snapshot i k` builds a transfer from node `i`'s current value of `k`,
`applySnap j idx` applies a transfer at node `j`, at any later time, any number of times, or never
(a late, duplicated or lost `SyncResponse`; the crosswise exchange of `run_anti_entropy_sync`; a
full-state push after a partition healed).

`rs_converges_among_ae` is **one theorem for every way an update can reach a replica**: once every
update of the key has reached every replica of a set `S` of responsible replicas, by a delivery of
the delta itself or inside a transferred value, the replicas of `S` hold the same content and
stamp.  The only hypothesis besides delivery is that the key keeps one data type (`KindStable`,
decidable; `Compat` is derived from it).  The witnesses: a delta lost for good with and without a
later transfer from a node that has it; a transfer built BEFORE a newer write and applied after it
does not roll the newer write back.
-/
namespace RedisVerif
namespace C06

open Cluster ACluster

/-- `Compat` follows from kind stability in executions with state transfers too -/
theorem compat_of_kind_stable_ae (n : Nat) (causal : Bool) (evs : List AEv) (k K : Nat)
    (h : KindStable ((ACluster.init n causal).run evs).base k K) :
    Compat ((ACluster.init n causal).run evs).base.sent k K :=
  ⟨regs_consistent_of_runA n causal evs k,
    fun m hm hk => ⟨sent_wf_of_runA n causal evs m hm, h m hm hk⟩⟩

theorem JA_of_kind_stable (n : Nat) (causal : Bool) (evs : List AEv) (k K : Nat)
    (h : KindStable ((ACluster.init n causal).run evs).base k K) :
    JA ((ACluster.init n causal).run evs).base.sent k K ((ACluster.init n causal).run evs) :=
  JA_run (compat_of_kind_stable_ae n causal evs k K h) _ evs (JA_init _ k K n causal) (fun m hm => hm)

theorem sentLog_of_runA (n : Nat) (causal : Bool) (evs : List AEv) :
    SentLog ((ACluster.init n causal).run evs).base :=
  sentLog_runA _ evs (sentLog_init n causal)

/-- **C06 with anti-entropy (replication state converges among the responsible replicas)**.
    `DeliveredTo` reads the absorption log, to which a state transfer contributes every delta the
    transferred value had absorbed. -/
theorem rs_converges_among_ae (n : Nat) (causal : Bool) (evs : List AEv) (k K : Nat) (S : List Nat)
    (hk : KindStable ((ACluster.init n causal).run evs).base k K)
    (hd : DeliveredTo ((ACluster.init n causal).run evs).base S k) :
    AgreeAmong ((ACluster.init n causal).run evs).base S k := by
  have hc := compat_of_kind_stable_ae n causal evs k K hk
  have hj := (JA_of_kind_stable n causal evs k K hk).base
  have hsl := sentLog_of_runA n causal evs
  intro i hiS j hjS si sj hsi hsj
  exact hj.value_eq hc hsi hsj (hasAll_of_deliveredTo hsl hd hiS) (hasAll_of_deliveredTo hsl hd hjS)

/-- … for all nodes -/
theorem rs_converges_ae (n : Nat) (causal : Bool) (evs : List AEv) (k K : Nat)
    (hk : KindStable ((ACluster.init n causal).run evs).base k K)
    (hd : Delivered ((ACluster.init n causal).run evs).base k) :
    Agree ((ACluster.init n causal).run evs).base k := by
  have := rs_converges_among_ae n causal evs k K _ hk ((delivered_to_all _ k).mp hd)
  intro i j si sj hsi hsj
  exact this i (List.mem_range.mpr (List.getElem?_eq_some_iff.mp hsi).1)
    j (List.mem_range.mpr (List.getElem?_eq_some_iff.mp hsj).1) si sj hsi hsj

/-- **C06 with anti-entropy (the agreed value is the write with the greatest stamp)**, string keys:
    a responsible replica that every update has reached — as a delta or inside a transferred
    value — holds the register of some write of the key, and every other write of the key carries
    a strictly smaller stamp (or is that register). -/
theorem winner_is_max_stamp_ae (n : Nat) (causal : Bool) (evs : List AEv) (k : Nat) (S : List Nat)
    (hk : KindStable ((ACluster.init n causal).run evs).base k 0)
    (hd : DeliveredTo ((ACluster.init n causal).run evs).base S k)
    (i : Nat) (hiS : i ∈ S) (si : Shard) (hsi : ((ACluster.init n causal).run evs).base.nodes[i]? = some si)
    (v : RV) (hv : NMap.get si.keys k = some v) :
    ∃ r, v.crdt = .lww r ∧
      (∃ m ∈ ((ACluster.init n causal).run evs).base.sent, m.key = k ∧ m.val.crdt = .lww r) ∧
      ∀ m ∈ ((ACluster.init n causal).run evs).base.sent, m.key = k → ∀ r', m.val.crdt = .lww r' →
        (r'.ts.lt r.ts = true ∨ r' = r) :=
  (JA_of_kind_stable n causal evs k 0 hk).base.winner (compat_of_kind_stable_ae n causal evs k 0 hk) hsi
    (hasAll_of_deliveredTo (sentLog_of_runA n causal evs) hd hiS) hv

/-- an execution without state transfers is a layer-1 execution (the new model extends the old) -/
theorem runA_ev (c : ACluster) (es : List Ev) :
    (c.run (es.map AEv.ev)).base = c.base.run es ∧ (c.run (es.map AEv.ev)).snaps = c.snaps := by
  rw [ACluster.runA_ev]; exact ⟨rfl, rfl⟩

/-! ## witnesses -/

def valAt (c : ACluster) (i k : Nat) : Option (Option Bytes) :=
  c.base.nodes[i]?.map (fun s => (NMap.get s.keys k).bind RV.get)

/-- three nodes; node 0 accepts `SET x a` then `SET x b`; node 1 receives both deltas, node 2
    only the first: the second delta is lost for good on its way to node 2 -/
def lossRun : List AEv :=
  [ .ev (.loc 0 (.write kX [97] none)), .ev (.loc 0 (.write kX [98] none)),
    .ev (.deliver 1 0), .ev (.deliver 1 1), .ev (.deliver 2 0) ]

theorem lost_delta_without_transfer :
    let c := (ACluster.init 3 false).run lossRun
    KindStable c.base kX 0 ∧ ¬ Delivered c.base kX ∧
    valAt c 0 kX = some (some [98]) ∧ valAt c 1 kX = some (some [98]) ∧ valAt c 2 kX = some (some [97]) := by
  decide +kernel

/-- … later node 1 (not the writer) hands node 2 the value it holds: every update has reached
    every node, all agree — the writer included -/
theorem lost_delta_repaired_by_transfer :
    let c := (ACluster.init 3 false).run (lossRun ++ [.snapshot 1 kX, .applySnap 2 0])
    KindStable c.base kX 0 ∧ Delivered c.base kX ∧
    valAt c 0 kX = some (some [98]) ∧ valAt c 1 kX = some (some [98]) ∧ valAt c 2 kX = some (some [98]) := by
  decide +kernel

/-- a transfer built BEFORE a newer write and applied AFTER it (a late `SyncResponse`), twice:
    the newer write stays; the stale transfer only adds what it carries -/
theorem stale_transfer_harmless :
    let c := (ACluster.init 2 false).run
      [ .ev (.loc 0 (.write kX [97] none)), .snapshot 0 kX, .ev (.loc 0 (.write kX [98] none)),
        .ev (.deliver 1 1), .applySnap 1 0, .applySnap 1 0 ]
    KindStable c.base kX 0 ∧ Delivered c.base kX ∧
    valAt c 0 kX = some (some [98]) ∧ valAt c 1 kX = some (some [98]) := by
  decide +kernel

/-- non-vacuity: hash key, concurrent writers, a delta lost and repaired by a transfer, a delete,
    all delivered among the responsible replicas {0, 2} while node 1 stays behind -/
example :
    let c := (ACluster.init 3 true).run
      [ .ev (.loc 0 (.hwrite kY [(1, [49])])), .ev (.loc 2 (.hwrite kY [(2, [50])])),
        .ev (.deliver 1 0), .snapshot 2 kY, .applySnap 0 0, .snapshot 0 kY, .applySnap 2 1,
        .ev (.loc 0 (.hdelete kY [2])), .snapshot 0 kY, .applySnap 2 2 ]
    KindStable c.base kY 5 ∧ DeliveredTo c.base [0, 2] kY ∧ ¬ Delivered c.base kY ∧ c.snaps.length = 3 := by
  decide +kernel

end C06
end RedisVerif
