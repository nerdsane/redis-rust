import RedisVerif.Props.C06Heal
import RedisVerif.Props.C19
import RedisVerif.Lemmas.SimAcc
import RedisVerif.Lemmas.SimQuiet

/-!
# C06 — no loss ⇒ delivered ⇒ converged, broadcast AND selective gossip (∘ C19)

The delivery hypothesis of `sim_converges_among`, discharged for gossip alone: in the simulator
cluster, as long as nothing is lost (`CalmRun`, decidable: no outbox overflow, no gossip round
while a partition exists, no packet loss — delay, reordering across senders and head-of-line
blocking are all allowed), every delta is, for every node its origin's gossip round sends it to,
in the origin's outbox, in flight to that node, or absorbed by it (`Lemmas/SimAcc.lean`).

Hence, with outboxes and queue empty, every update of `k` has reached every replica of every `S`
the routers cover (`Covers`, decidable), and the replicas of `S` hold the same value and answer
`GET` alike (no kind hypothesis: `sim_kind_stable`).

**Selective gossip ∘ C19**: when every node's routing table is the ring's
(`targets k = get_gossip_targets(k, self)`, what `GossipRouter::route_selective` asks the
`HashRing`; C19's `targets_exact` + `replicas_are_members`), the routers cover the OWNERS
`get_replicas(k)` of every key, whoever writes.  So with selective gossip and no loss the owners of
a key converge; a writer outside the replica set is included as a SOURCE (its delta reaches every
owner) though not as a reader (`non_owner_writer_stays_stale`).
-/
namespace RedisVerif
namespace C06

open Cluster ACluster SimC

/-- every replica of `S` is a gossip destination of every possible writer of `k` -/
def Covers (routers : List (Option Gossip.Router)) (n : Nat) (S : List Nat) (k : Nat) : Prop :=
  ∀ o, o < n → ∀ j ∈ S, j ≠ o → j < n ∧ j ∈ destsOf routers n o k

instance (routers : List (Option Gossip.Router)) (n : Nat) (S : List Nat) (k : Nat) : Decidable (Covers routers n S k) := by
  unfold Covers
  exact decidable_of_iff (∀ o ∈ List.range n, ∀ j ∈ S, j ≠ o → j < n ∧ j ∈ destsOf routers n o k)
    ⟨fun h o ho => h o (List.mem_range.mpr ho), fun h o ho => h o (List.mem_range.mp ho)⟩

theorem run_routers (H : AE.Hasher) (cfg : Cfg) (evs : List SEv) : ∀ (c : Sim), (c.run H cfg evs).routers = c.routers := by
  induction evs with
  | nil => intro c; rfl
  | cons e evs ih =>
    intro c
    simp only [Sim.run, List.foldl_cons] at ih ⊢
    rw [ih]
    cases e with
    | exec i op =>
      simp only [Sim.step]
      split <;> rfl
    | gossip o => rw [step_gossip]; exact (applied_deliverFlights _ _).routers
    | _ =>
      exact step_ae (P := fun x => x.routers = c.routers) H cfg (fun _ _ _ h => h)
        (fun x a b h => (applied_syncStep H cfg x a b).routers.trans h) c rfl _ rfl

/-- **no loss, outboxes and queue empty ⇒ delivered** to every set of replicas the routers cover -/
theorem sim_calm_delivers (H : AE.Hasher) (cfg : Cfg) (n : Nat) (causal : Bool)
    (routers : List (Option Gossip.Router)) (autoAE : Bool) (evs : List SEv)
    (hcalm : CalmRun H cfg (Sim.init n causal routers autoAE) evs)
    (hq : ((Sim.init n causal routers autoAE).run H cfg evs).queue = [])
    (hp : ∀ nd ∈ ((Sim.init n causal routers autoAE).run H cfg evs).nodes, nd.ps.pending = [])
    (k : Nat) (S : List Nat) (hcov : Covers routers n S k) :
    DeliveredTo ((Sim.init n causal routers autoAE).run H cfg evs).abs.base S k := by
  have hacc := sacc_run H cfg evs _ (acc_init n causal routers autoAE) hcalm
  have hlen : ((Sim.init n causal routers autoAE).run H cfg evs).nodes.length = n :=
    reach_length (H := H) (cfg := cfg) (causal := causal) ⟨routers, autoAE, evs, rfl⟩
  have hrt : ((Sim.init n causal routers autoAE).run H cfg evs).routers = routers := run_routers H cfg evs _
  intro m hm hmk j hjS hjo
  have hm' : m ∈ ((Sim.init n causal routers autoAE).run H cfg evs).issued := hm
  have ho := hacc.iorg m hm'
  rw [hlen] at ho
  obtain ⟨hjn, hjd⟩ := hcov m.origin ho j hjS hjo
  have := delivered_of_quiet _ hacc hq hp m hm' j (by rw [hrt, hlen]; unfold dests; rw [hmk]; exact hjd) (by rw [hlen]; exact hjn)
  rw [hmk] at this
  exact this

/-- **no loss ⇒ the covered replicas converge and answer `GET` alike** -/
theorem sim_calm_converges_among (H : AE.Hasher) (cfg : Cfg) (n : Nat) (causal : Bool)
    (routers : List (Option Gossip.Router)) (autoAE : Bool) (evs : List SEv)
    (hcalm : CalmRun H cfg (Sim.init n causal routers autoAE) evs)
    (hq : ((Sim.init n causal routers autoAE).run H cfg evs).queue = [])
    (hp : ∀ nd ∈ ((Sim.init n causal routers autoAE).run H cfg evs).nodes, nd.ps.pending = [])
    (k : Nat) (S : List Nat) (hcov : Covers routers n S k) :
    AgreeAmong ((Sim.init n causal routers autoAE).run H cfg evs).abs.base S k ∧
    ∀ i ∈ S, ∀ j ∈ S, ∀ (ni nj : SNode),
      ((Sim.init n causal routers autoAE).run H cfg evs).nodes[i]? = some ni →
      ((Sim.init n causal routers autoAE).run H cfg evs).nodes[j]? = some nj →
      NMap.get ni.kv k = NMap.get nj.kv k := by
  have hag := sim_converges_among H cfg n causal routers autoAE evs k S
    (sim_calm_delivers H cfg n causal routers autoAE evs hcalm hq hp k S hcov)
  refine ⟨hag, ?_⟩
  intro i hi j hj ni nj hni hnj
  exact sim_reads_agree_of_agree H cfg n causal routers autoAE evs i j ni nj hni hnj k
    (hag i hi j hj ni.ps.sh nj.ps.sh (abs_nodes_get _ i ni hni) (abs_nodes_get _ j nj hnj))

/-! ## delay and reordering alone: two rounds hand everything over -/

theorem calmRun_append (H : AE.Hasher) (cfg : Cfg) (evs1 evs2 : List SEv) : ∀ (c : Sim),
    CalmRun H cfg c evs1 → CalmRun H cfg (c.run H cfg evs1) evs2 → CalmRun H cfg c (evs1 ++ evs2) := by
  induction evs1 with
  | nil => intro c _ h2; exact h2
  | cons e evs ih =>
    intro c h1 h2
    exact ⟨h1.1, ih _ h1.2 (by simpa [Sim.run] using h2)⟩

/-- **no loss: ANY calm history followed by `converge(2)`** (`advance D; gossip_round` twice, delays
    ≤ `D`, no packet lost, no partition in place) **⇒ the covered replicas converge and answer `GET`
    alike** — the queue-empty / outbox-empty hypotheses of `sim_calm_converges_among` are
    discharged: whatever was delayed or reordered before, two rounds hand everything over.
    `hdue` (decidable): nothing in the queue is due later than `D` ms from now. -/
theorem sim_converge2_converges_among (H : AE.Hasher) (cfg : Cfg) (n : Nat) (causal : Bool)
    (routers : List (Option Gossip.Router)) (autoAE : Bool) (evs : List SEv) (D : Nat) (o1 o2 : List (Bool × Nat))
    (hD : 1 ≤ D) (hcalm : CalmRun H cfg (Sim.init n causal routers autoAE) evs)
    (hparts : ((Sim.init n causal routers autoAE).run H cfg evs).parts = [])
    (hdue : ∀ f ∈ ((Sim.init n causal routers autoAE).run H cfg evs).queue,
      f.due ≤ ((Sim.init n causal routers autoAE).run H cfg evs).now + D)
    (ho1 : ∀ p ∈ o1, p.1 = false ∧ p.2 ≤ D) (ho2 : ∀ p ∈ o2, p.1 = false)
    (k : Nat) (S : List Nat) (hcov : Covers routers n S k) :
    AgreeAmong ((Sim.init n causal routers autoAE).run H cfg (evs ++ quiesce D o1 o2)).abs.base S k ∧
    ∀ i ∈ S, ∀ j ∈ S, ∀ (ni nj : SNode),
      ((Sim.init n causal routers autoAE).run H cfg (evs ++ quiesce D o1 o2)).nodes[i]? = some ni →
      ((Sim.init n causal routers autoAE).run H cfg (evs ++ quiesce D o1 o2)).nodes[j]? = some nj →
      NMap.get ni.kv k = NMap.get nj.kv k := by
  have hrun : (Sim.init n causal routers autoAE).run H cfg (evs ++ quiesce D o1 o2) =
      ((Sim.init n causal routers autoAE).run H cfg evs).run H cfg (quiesce D o1 o2) := by
    simp [Sim.run, List.foldl_append]
  obtain ⟨hp, hq⟩ := quiesce_quiet H cfg ((Sim.init n causal routers autoAE).run H cfg evs) D o1 o2 hD hparts hdue
    (fun p hp => (ho1 p hp).2)
  have hcalm2 := quiesce_calm H cfg ((Sim.init n causal routers autoAE).run H cfg evs) D o1 o2 hD hparts hdue ho1 ho2
  have hall := calmRun_append H cfg evs (quiesce D o1 o2) _ hcalm hcalm2
  rw [← hrun] at hp hq
  exact sim_calm_converges_among H cfg n causal routers autoAE (evs ++ quiesce D o1 o2) hall hq hp k S hcov

/-! ## selective gossip: the routing tables are the ring's (C19) -/

/-- node `i`'s router is selective and its table for key `k` is what the ring answers
    (`get_gossip_targets(k, i + 1)`; `pos` = the key's ring position) -/
def RingDerived (ring : Ring.HashRing) (pos : Nat → Nat) (routers : List (Option Gossip.Router)) (n k : Nat) : Prop :=
  ∀ i, i < n → ∃ r, routers[i]? = some (some r) ∧ r.selective = true ∧
    r.targetsOf k = Ring.gossipTargets ring (pos k) (i + 1)

/-- the owners of `k` as node indices (`get_replicas(k)`, replica id − 1) -/
def owners (ring : Ring.HashRing) (pos : Nat → Nat) (k : Nat) : List Nat :=
  (Ring.getReplicas ring (pos k)).map (· - 1)

/-- **C19 ∘ C06**: ring-derived routing tables cover the owners of the key, whoever writes -/
theorem ring_routers_cover_owners (hashV : Nat → Nat → Nat) (ring : Ring.HashRing) (pos : Nat → Nat)
    (routers : List (Option Gossip.Router)) (n k : Nat) (hr : Ring.Reachable hashV ring)
    (hmem : ∀ t ∈ ring.phys, 1 ≤ t ∧ t ≤ n) (hd : RingDerived ring pos routers n k) :
    Covers routers n (owners ring pos k) k := by
  intro o ho j hj hjo
  simp only [owners, List.mem_map] at hj
  obtain ⟨t, ht, rfl⟩ := hj
  have htm := hmem t (C19.replicas_are_members hashV ring (pos k) ring.rf hr t ht)
  obtain ⟨r, hro, hsel, htab⟩ := hd o ho
  refine ⟨by omega, ?_⟩
  unfold destsOf
  simp only [hro, hsel, if_true, List.mem_map]
  refine ⟨t, ?_, rfl⟩
  rw [htab]
  exact (C19.targets_exact ring (pos k) (o + 1) t).mpr ⟨ht, by omega⟩

/-- **selective gossip, no loss ⇒ the owners of the key converge** -/
theorem selective_no_loss_converges_among_owners (hashV : Nat → Nat → Nat) (ring : Ring.HashRing) (pos : Nat → Nat)
    (H : AE.Hasher) (cfg : Cfg) (n : Nat) (causal : Bool) (routers : List (Option Gossip.Router)) (autoAE : Bool)
    (evs : List SEv) (k : Nat) (hr : Ring.Reachable hashV ring) (hmem : ∀ t ∈ ring.phys, 1 ≤ t ∧ t ≤ n)
    (hd : RingDerived ring pos routers n k)
    (hcalm : CalmRun H cfg (Sim.init n causal routers autoAE) evs)
    (hq : ((Sim.init n causal routers autoAE).run H cfg evs).queue = [])
    (hp : ∀ nd ∈ ((Sim.init n causal routers autoAE).run H cfg evs).nodes, nd.ps.pending = []) :
    AgreeAmong ((Sim.init n causal routers autoAE).run H cfg evs).abs.base (owners ring pos k) k ∧
    ∀ i ∈ owners ring pos k, ∀ j ∈ owners ring pos k, ∀ (ni nj : SNode),
      ((Sim.init n causal routers autoAE).run H cfg evs).nodes[i]? = some ni →
      ((Sim.init n causal routers autoAE).run H cfg evs).nodes[j]? = some nj →
      NMap.get ni.kv k = NMap.get nj.kv k :=
  sim_calm_converges_among H cfg n causal routers autoAE evs hcalm hq hp k _
    (ring_routers_cover_owners hashV ring pos routers n k hr hmem hd)

/-! ## witnesses -/

set_option maxRecDepth 8000 in
/-- non-vacuity (broadcast): three nodes, concurrent writers, delays that reorder arrivals across
    senders, a partition that only delays (no round runs while it exists): calm, quiet, covered —
    all three serve the same -/
example :
    let evs : List SEv :=
      [ .exec 0 (.set kX [97] none), .exec 1 (.set kX [98] none), .exec 2 (.del [kX]), .gossip [(false, 9), (false, 1)],
        .partition 0 1, .advance 5, .heal 0 1, .gossip [], .exec 2 (.set kX [99] (some 5)), .advance 10, .gossip [],
        .advance 10, .gossip [] ]
    let c := (Sim.init 3 false [] false).run toyH cfg2 evs
    CalmRun toyH cfg2 (Sim.init 3 false [] false) evs ∧ c.queue = [] ∧ (c.nodes.all fun nd => nd.ps.pending.isEmpty) ∧
    Covers [] 3 [0, 1, 2] kX ∧ c.issued.length = 3 ∧
    kvAt c 0 kX = some (some [99]) ∧ kvAt c 1 kX = some (some [99]) ∧ kvAt c 2 kX = some (some [99]) := by
  decide +kernel

set_option maxRecDepth 8000 in
/-- a packet lost ⇒ not calm — and indeed not delivered -/
example :
    let evs : List SEv := [ .exec 0 (.set kX [97] none), .gossip [(true, 0)], .advance 10, .gossip [] ]
    let c := (Sim.init 2 false [] false).run toyH cfg2 evs
    ¬ CalmRun toyH cfg2 (Sim.init 2 false [] false) evs ∧ c.queue = [] ∧ ¬ DeliveredTo c.abs.base [0, 1] kX := by
  decide +kernel

end C06
end RedisVerif
