import RedisVerif.Model.Txn
import RedisVerif.Lemmas.Txn

/-!
# C05 — MULTI/EXEC is all-or-nothing and equals the sequential run; WATCH aborts on change

Model: `RedisVerif.Txn` (`Model/Txn.lean`).  `Txn.step` is the connection-level state machine of
`production/connection_optimized.rs` over an abstract executor `Backend`, with the other clients as
a schedule of foreign commands at every await point of EXEC; `Txn.xstep` is the executor-level
machine of `redis/executor/transaction_ops.rs` (one `&mut self`: nothing interleaves); `KV` is a
small concrete store for the driver and for the kernel-checked counterexamples.

What holds at full strength, what holds only when nobody interferes during EXEC (`NoInterleaving`,
`…_partial`), and what the code as it is violates (`…_counterexample`, each replayed on the real code
by the harness) is said at each theorem.

EXEC against the other clients is described once: `exec_serializable_of_independent` (every command
they get served is independent of the transaction: the serial outcome).  "Nobody interferes" is its
empty case (`exec_quiet`), from which the `…_partial` theorems are read off.
-/
namespace RedisVerif
namespace C05

open Txn

/-- inputs that end a transaction -/
def endsTxn {κ γ : Type} : Input κ γ → Bool
  | .exec => true
  | .discard => true
  | _ => false

def isQueuedOrErr {ρ : Type} : Reply ρ → Bool
  | .queued => true
  | .err _ => true
  | _ => false

def isCmd {κ γ : Type} : Input κ γ → Bool
  | .cmd _ => true
  | _ => false

def isCmdOrLocal {κ γ : Type} : Input κ γ → Bool
  | .cmd _ => true
  | .connLocal _ => true
  | _ => false

/-- every input of the body is a plain data command -/
def AllCmd {κ γ : Type} (body : List (Input κ γ)) : Prop := body.all isCmd = true

instance {κ γ : Type} (body : List (Input κ γ)) : Decidable (AllCmd body) := by
  unfold AllCmd; infer_instance

def unplain {ρ : Type} : Reply ρ → Option ρ
  | .plain r => some r
  | _ => none

/-- Commands sent between MULTI and EXEC have no effect and no result. -/
def C05_queued_has_no_effect : Prop :=
  ∀ (σ κ γ ρ : Type) [DecidableEq ρ] (B : Backend σ κ γ ρ) (t : ConnTxn κ γ ρ) (s : σ)
    (body : List (Input κ γ × List (List γ))),
    t.inTxn = true → (∀ e ∈ body, endsTxn e.1 = false) →
    (run B t s body).2.1 = s ∧ (run B t s body).1.inTxn = true ∧
    (run B t s body).1.watched = t.watched ∧
    ∀ r ∈ (run B t s body).2.2, isQueuedOrErr r = true

/-- EXEC is atomic with respect to the other clients: whatever they do while it runs, the outcome
    (store, reply) is that of an EXEC executed in one piece at some point of their command
    sequence. -/
def C05_exec_atomic : Prop :=
  ∀ (σ κ γ ρ : Type) [DecidableEq ρ] [DecidableEq σ] (B : Backend σ κ γ ρ) (t : ConnTxn κ γ ρ) (s : σ)
    (sched : List (List γ)),
    t.inTxn = true → t.errors = false →
    ((step B sched t s .exec).2.1, (step B sched t s .exec).2.2) ∈
      (splits sched.flatten).map (fun p => serialExec B t s p.1 p.2)

/-- the contract of the EXEC loop's dispatcher for the connection-level commands of a body: it
    answers them as the connection does outside MULTI and does not touch the store
    (`execute_connection_level`, since the `fix:` commit) -/
def LocalFaithfulOn {σ κ γ ρ : Type} (B : Backend σ κ γ ρ) (body : List (Input κ γ)) : Prop :=
  ∀ c, Input.connLocal c ∈ body → ∀ s, B.exec s c = (s, B.localReply c)

/-- the conclusion of `C05_exec_equals_outside` for one backend and one body -/
def ExecEqualsOutside {σ κ γ ρ : Type} [DecidableEq ρ] (B : Backend σ κ γ ρ) (t : ConnTxn κ γ ρ)
    (s : σ) (body : List (Input κ γ)) (sc sched : List (List γ)) : Prop :=
  (run B t s ((.multi, sc) :: body.map (fun i => (i, sc)) ++ [(.exec, sched)])).2.1 =
    (run B t s (body.map (fun i => (i, sc)))).2.1 ∧
  (run B t s ((.multi, sc) :: body.map (fun i => (i, sc)) ++ [(.exec, sched)])).2.2.getLast? =
    some (.results ((run B t s (body.map (fun i => (i, sc)))).2.2.filterMap unplain))

/-- EXEC returns, per queued command, the result the same command gets when the body is sent
    outside MULTI (bodies of data commands and connection-level commands; nobody interferes). -/
def C05_exec_equals_outside : Prop :=
  ∀ (σ κ γ ρ : Type) [DecidableEq ρ] (B : Backend σ κ γ ρ) (t : ConnTxn κ γ ρ) (s : σ)
    (body : List (Input κ γ)) (sc sched : List (List γ)),
    t.inTxn = false → t.watched = [] → body.all isCmdOrLocal = true → NoInterleaving sched →
    LocalFaithfulOn B body → ExecEqualsOutside B t s body sc sched

/-- If the value (of whatever type) of a watched key at EXEC differs from its value when WATCH
    was issued (store `s0`), EXEC returns nil and applies nothing.  Concrete store, nobody
    interferes during EXEC. -/
def C05_watch_detects_change : Prop :=
  ∀ (t : ConnTxn Nat KV.Cmd KV.Rep) (s0 s : KV.Store) (k : Nat),
    t.inTxn = true → t.errors = false → (k, KV.backend.getReply s0 k) ∈ t.watched →
    NMap.get s k ≠ NMap.get s0 k →
    step KV.backend [] t s .exec = (ConnTxn.idle, s, .nil)

/-- executor level, trace form with a repeated WATCH: `WATCH k` (store `s0`), … `WATCH k` again
    (store `s1`), `MULTI`, `EXEC` (store `s`): if the value of `k` at EXEC differs from its value
    at the FIRST watch, EXEC returns nil (re-watching a watched key must not forget the change —
    in Redis it is a no-op).  `keepFirst` selects the tree: `false` = pinned commit. -/
def C05_x_rewatch_keeps_first_of (keepFirst : Bool) : Prop :=
  ∀ (s0 s1 s : KV.Store) (k : Nat),
    let t1 := (xstepWith keepFirst KV.xbackend (.simple .ok) ExTxn.idle s0 (.watch [k])).1
    let t2 := (xstepWith keepFirst KV.xbackend (.simple .ok) t1 s1 (.watch [k])).1
    let t3 := (xstepWith keepFirst KV.xbackend (.simple .ok) t2 s1 .multi).1
    NMap.get s k ≠ NMap.get s0 k →
    (xstepWith keepFirst KV.xbackend (.simple .ok) t3 s .exec).2.2 = .nil

def C05_x_rewatch_keeps_first : Prop := C05_x_rewatch_keeps_first_of true

section
variable {σ κ γ ρ : Type} [DecidableEq ρ]
variable (B : Backend σ κ γ ρ) (sc : List (List γ)) (t : ConnTxn κ γ ρ) (s : σ)

/-- MULTI outside: enters the transaction with an empty queue; the watch list is kept -/
theorem table_multi (h : t.inTxn = false) :
    step B sc t s .multi = ({ t with inTxn := true, queue := [], errors := false }, s, .ok) := by
  simp [step, h]

/-- nested MULTI: error, nothing changes (the transaction goes on and is NOT flagged) -/
theorem table_nested_multi (h : t.inTxn = true) :
    step B sc t s .multi = (t, s, .err .nestedMulti) := by
  simp [step, h]

/-- WATCH inside MULTI: error, nothing changes (not flagged, nothing watched) -/
theorem table_watch_in_multi (ks : List κ) (h : t.inTxn = true) :
    step B sc t s (.watch ks) = (t, s, .err .watchInMulti) := by
  simp [step, h]

theorem table_exec_without_multi (h : t.inTxn = false) :
    step B sc t s .exec = (t, s, .err .execWithoutMulti) := by
  simp [step, h]

/-- DISCARD outside: error; in particular the watch list is kept -/
theorem table_discard_without_multi (h : t.inTxn = false) :
    step B sc t s .discard = (t, s, .err .discardWithoutMulti) := by
  simp [step, h]

theorem table_unknown_in_multi (c : γ) (h : t.inTxn = true) :
    step B sc t s (.unknown c) = ({ t with errors := true }, s, .err .unknownInMulti) := by
  simp [step, h]

theorem table_parse_error_in_multi (h : t.inTxn = true) :
    step B sc t s .parseErr = ({ t with errors := true }, s, .err .parse) := by
  simp [step, h]

theorem table_parse_error_outside (h : t.inTxn = false) :
    step B sc t s .parseErr = (t, s, .err .parse) := by
  simp [step, h]

theorem table_unknown_outside (c : γ) (h : t.inTxn = false) :
    step B sc t s (.unknown c) = (t, (B.exec s c).1, .plain (B.exec s c).2) := by
  simp [step, h]

theorem table_unwatch (h : t.inTxn = false) :
    step B sc t s .unwatch = ({ t with watched := [] }, s, .ok) := by
  simp [step, h]

/-- inside MULTI, UNWATCH is queued like a data command -/
theorem table_unwatch_in_multi (h : t.inTxn = true) :
    step B sc t s .unwatch = ({ t with queue := t.queue ++ [B.unwatchCmd] }, s, .queued) := by
  simp [step, h]

/-- connection-level commands: answered by the connection outside MULTI, queued inside (and
    answered by the EXEC loop's dispatcher `B.exec` — see `exec_equals_outside`) -/
theorem table_conn_local (c : γ) :
    step B sc t s (.connLocal c) =
      if t.inTxn then ({ t with queue := t.queue ++ [c] }, s, .queued)
      else (t, s, .plain (B.localReply c)) := by
  cases h : t.inTxn <;> simp [step, h]

/-- after EXEC (every branch) the state is idle: queue, flag and watch list cleared -/
theorem table_exec_resets (h : t.inTxn = true) : (step B sc t s .exec).1 = ConnTxn.idle := by
  simp only [step, h, if_true]
  split
  · rfl
  · split <;> rfl

/-- EXEC of a transaction that is not flagged: the watch comparison (`w`); if it fails, nil; otherwise
    the queue (`r`); in both cases what is left of the schedule is served in one block afterwards.
    Used as `step_exec … rfl rfl`, which puts the two phases in for `w` and `r`. -/
theorem step_exec (hin : t.inTxn = true) (herr : t.errors = false)
    {w} (hw : checkWatch B sc s t.watched = w) {r} (hr : runQueue B w.1 w.2.1 t.queue = r) :
    step B sc t s .exec =
      (ConnTxn.idle,
       if w.2.2 then (foreign B w.2.1 w.1.flatten, .nil) else (foreign B r.2.1 r.1.flatten, .results r.2.2)) := by
  subst hw hr
  simp only [step, hin, herr, if_true, Bool.false_eq_true, if_false]
  split <;> rfl

end

section
variable {σ κ γ ρ : Type} [DecidableEq ρ]

/-- the inputs that are refused at queue time -/
def queueTimeError {κ γ : Type} : Input κ γ → Bool
  | .unknown _ => true
  | .chanStub _ => true
  | .parseErr => true
  | _ => false

/-- the command an input puts on the queue of an open transaction, if any -/
def queues (B : Backend σ κ γ ρ) : Input κ γ → Option γ
  | .cmd c | .connLocal c => some c
  | .unwatch => some B.unwatchCmd
  | _ => none

/-- the answer to an input that does not end the open transaction -/
def bodyReply : Input κ γ → Reply ρ
  | .multi => .err .nestedMulti
  | .watch _ => .err .watchInMulti
  | .chanStub _ => .err .noperm
  | .unknown _ => .err .unknownInMulti
  | .parseErr => .err .parse
  | .protoErr => .err .protocol
  | _ => .queued

omit [DecidableEq ρ] in
theorem isQueuedOrErr_bodyReply (i : Input κ γ) : isQueuedOrErr (bodyReply i : Reply ρ) = true := by
  cases i <;> rfl

/-- **inside MULTI, an input other than EXEC / DISCARD only edits the transaction**: it appends at
    most one command to the queue, raises the flag iff it is refused at queue time, and touches
    nothing else — store, watch list and `in_transaction` included -/
theorem step_inside (B : Backend σ κ γ ρ) (sc : List (List γ)) (t : ConnTxn κ γ ρ) (s : σ)
    (i : Input κ γ) (hin : t.inTxn = true) (hi : endsTxn i = false) :
    step B sc t s i =
      ({ t with queue := t.queue ++ (queues B i).toList, errors := t.errors || queueTimeError i },
       s, bodyReply i) := by
  obtain ⟨a, q, e, w⟩ := t
  obtain rfl : a = true := hin
  cases i <;> first | exact Bool.noConfusion hi | simp [step, queues, queueTimeError, bodyReply]

/-- … and so does a whole body without EXEC / DISCARD -/
theorem run_inside (B : Backend σ κ γ ρ) (body : List (Input κ γ × List (List γ))) :
    ∀ (t : ConnTxn κ γ ρ) (s : σ), t.inTxn = true → (∀ e ∈ body, endsTxn e.1 = false) →
      run B t s body =
        ({ t with queue := t.queue ++ body.flatMap (fun e => (queues B e.1).toList),
                  errors := t.errors || body.any (fun e => queueTimeError e.1) },
         s, body.map (fun e => bodyReply e.1)) := by
  induction body with
  | nil => intro t s _ _; simp [run]
  | cons e rest ih =>
    intro t s hin hb
    simp only [run, step_inside B e.2 t s e.1 hin (hb e (List.mem_cons_self ..))]
    rw [ih _ _ ?_ fun x hx => hb x (List.mem_cons_of_mem _ hx)]
    · simp [List.append_assoc, Bool.or_assoc]
    · exact hin

theorem queued_has_no_effect : C05_queued_has_no_effect := by
  intro σ κ γ ρ _ B t s body hin hb
  rw [run_inside B body t s hin hb]
  exact ⟨rfl, hin, rfl, fun r hr => by
    obtain ⟨e, _, rfl⟩ := List.mem_map.1 hr
    exact isQueuedOrErr_bodyReply e.1⟩

/-- one result per queued command, under every schedule -/
theorem exec_result_count (B : Backend σ κ γ ρ) (sched : List (List γ)) (t : ConnTxn κ γ ρ) (s : σ)
    (rs : List ρ) (hin : t.inTxn = true) (h : (step B sched t s .exec).2.2 = .results rs) :
    rs.length = t.queue.length := by
  simp only [step, hin, if_true] at h
  split at h
  · simp at h
  · split at h
    · simp at h
    · simp at h
      rw [← h]; exact runQueue_length B t.queue _ _

/-! ### EXEC against clients whose commands are independent of the transaction -/

/-- a foreign command `f` is INDEPENDENT of a transaction (queue `q`, watched keys `ws`) on the
    stores satisfying `Inv`: it commutes with every queued command, does not change what a queued
    command answers, and does not change what GET answers for a watched key -/
structure Indep (B : Backend σ κ γ ρ) (Inv : σ → Prop) (q : List γ) (ws : List κ) (f : γ) : Prop where
  store : ∀ c ∈ q, ∀ s, Inv s → (B.exec (B.exec s f).1 c).1 = (B.exec (B.exec s c).1 f).1
  reply : ∀ c ∈ q, ∀ s, Inv s → (B.exec (B.exec s f).1 c).2 = (B.exec s c).2
  watch : ∀ k ∈ ws, ∀ s, Inv s → B.getReply (B.exec s f).1 k = B.getReply s k

omit [DecidableEq ρ] in
theorem foreign_inv (B : Backend σ κ γ ρ) (Inv : σ → Prop)
    (hinv : ∀ s c, Inv s → Inv (B.exec s c).1) (h : List γ) :
    ∀ s, Inv s → Inv (foreign B s h) := by
  induction h with
  | nil => intro s hs; exact hs
  | cons f h' ih => intro s hs; exact ih _ (hinv s f hs)

omit [DecidableEq ρ] in
theorem runSeq_inv (B : Backend σ κ γ ρ) (Inv : σ → Prop)
    (hinv : ∀ s c, Inv s → Inv (B.exec s c).1) (q : List γ) :
    ∀ s, Inv s → Inv (runSeq B s q).1 := by
  induction q with
  | nil => intro s hs; exact hs
  | cons c cs ih => intro s hs; exact ih _ (hinv s c hs)

section
variable (B : Backend σ κ γ ρ) (Inv : σ → Prop) (hinv : ∀ s c, Inv s → Inv (B.exec s c).1)
  (q0 : List γ) (ws0 : List κ)
include hinv

omit [DecidableEq ρ] in
/-- a command that leaves every store as it is (a read) is independent of every transaction -/
theorem indep_of_noop {f : γ} (h : ∀ s, Inv s → (B.exec s f).1 = s) : Indep B Inv q0 ws0 f :=
  ⟨fun c _ s hs => by rw [h s hs, h _ (hinv s c hs)], fun _ _ s hs => by rw [h s hs],
    fun _ _ s hs => by rw [h s hs]⟩

omit [DecidableEq ρ] in
/-- a batch of independent foreign commands moves across one queued command -/
theorem exec_after_batch {c : γ} (hc : c ∈ q0) (h : List γ) :
    (∀ f ∈ h, Indep B Inv q0 ws0 f) → ∀ s, Inv s →
      B.exec (foreign B s h) c = (foreign B (B.exec s c).1 h, (B.exec s c).2) := by
  induction h with
  | nil => intro _ s _; rfl
  | cons f h' ih =>
    intro hi s hs
    have hf := hi f (List.mem_cons_self ..)
    show B.exec (foreign B (B.exec s f).1 h') c = (foreign B (B.exec (B.exec s c).1 f).1 h', _)
    rw [ih (fun g hg => hi g (List.mem_cons_of_mem _ hg)) _ (hinv s f hs), hf.store c hc s hs,
      hf.reply c hc s hs]

omit [DecidableEq ρ] in
/-- phase 2 of EXEC against independent clients, started after a prefix `pre` of their commands: the
    consecutive run at the start store, then all of the others -/
theorem runQueue_independent (q : List γ) :
    (∀ c ∈ q, c ∈ q0) → ∀ (sc : List (List γ)) (pre : List γ) (s : σ), Inv s →
      (∀ f ∈ pre ++ sc.flatten, Indep B Inv q0 ws0 f) →
      foreign B (runQueue B sc (foreign B s pre) q).2.1 (runQueue B sc (foreign B s pre) q).1.flatten =
        foreign B (runSeq B s q).1 (pre ++ sc.flatten) ∧
      (runQueue B sc (foreign B s pre) q).2.2 = (runSeq B s q).2 := by
  induction q with
  | nil => intro _ sc pre s _ _; exact ⟨(foreign_append B s pre _).symm, rfl⟩
  | cons c cs ih =>
    intro hq sc pre s hs hi
    -- the head slot joins the prefix, and the whole prefix moves across `c`
    rw [← headD_append_tail_flatten sc, ← List.append_assoc] at hi ⊢
    simp only [runQueue, runSeq, ← foreign_append]
    rw [exec_after_batch B Inv hinv q0 ws0 (hq c (List.mem_cons_self ..)) _ (List.forall_mem_append.1 hi).1 s hs]
    obtain ⟨i1, i2⟩ := ih (fun x hx => hq x (List.mem_cons_of_mem c hx)) sc.tail _ _ (hinv s c hs) hi
    exact ⟨i1, by rw [i2]⟩

omit [DecidableEq ρ] in
theorem getReply_after_batch {k : κ} (hk : k ∈ ws0) (h : List γ) :
    (∀ f ∈ h, Indep B Inv q0 ws0 f) → ∀ s, Inv s → B.getReply (foreign B s h) k = B.getReply s k := by
  induction h with
  | nil => intro _ s _; rfl
  | cons f h' ih =>
    intro hi s hs
    show B.getReply (foreign B (B.exec s f).1 h') k = B.getReply s k
    rw [ih (fun g hg => hi g (List.mem_cons_of_mem _ hg)) _ (hinv s f hs),
      (hi f (List.mem_cons_self ..)).watch k hk s hs]

/-- phase 1 of EXEC against independent clients, started after a prefix `pre` of their commands: the
    store stays the start store plus a prefix of the others' commands, nothing of them is lost, and
    the verdict is that of an immediate comparison at the start store -/
theorem checkWatch_independent (ws : List (κ × ρ)) :
    (∀ p ∈ ws, p.1 ∈ ws0) → ∀ (sc : List (List γ)) (pre : List γ) (s : σ), Inv s →
      (∀ f ∈ pre ++ sc.flatten, Indep B Inv q0 ws0 f) →
      (∃ pre', (checkWatch B sc (foreign B s pre) ws).2.1 = foreign B s pre' ∧
        pre' ++ (checkWatch B sc (foreign B s pre) ws).1.flatten = pre ++ sc.flatten) ∧
      (checkWatch B sc (foreign B s pre) ws).2.2 = ws.any (fun p => decide (B.getReply s p.1 ≠ p.2)) := by
  induction ws with
  | nil => intro _ sc pre s _ _; exact ⟨⟨pre, rfl, rfl⟩, rfl⟩
  | cons p rest ih =>
    intro hw sc pre s hs hi
    rw [← headD_append_tail_flatten sc, ← List.append_assoc] at hi ⊢
    have hg := getReply_after_batch B Inv hinv q0 ws0 (hw p (List.mem_cons_self ..)) _
      (List.forall_mem_append.1 hi).1 s hs
    simp only [checkWatch, ← foreign_append, hg, List.any_cons]
    by_cases he : B.getReply s p.1 = p.2
    · rw [if_pos he]
      simpa [he] using ih (fun x hx => hw x (List.mem_cons_of_mem _ hx)) sc.tail _ s hs hi
    · rw [if_neg he]
      exact ⟨⟨_, rfl, rfl⟩, by simp [he]⟩

end

theorem serialExec_nil_left (B : Backend σ κ γ ρ) (t : ConnTxn κ γ ρ) (s : σ) (post : List γ) :
    serialExec B t s [] post =
      if t.watched.any (fun p => decide (B.getReply s p.1 ≠ p.2)) then (foreign B s post, .nil)
      else (foreign B (runSeq B s t.queue).1 post, .results (runSeq B s t.queue).2) := rfl

/-- **EXEC is atomic with respect to independent clients**, under EVERY schedule: if every command
    the other clients get served while EXEC runs is independent of the transaction (commutes with
    the queued commands, leaves their replies and the watched keys' GET replies alone — clients
    working on other keys), the outcome — store, reply, watch verdict — is exactly the serial
    outcome "EXEC in one piece, then the others" -/
theorem exec_serializable_of_independent (B : Backend σ κ γ ρ) (Inv : σ → Prop)
    (hinv : ∀ s c, Inv s → Inv (B.exec s c).1) (sched : List (List γ)) (t : ConnTxn κ γ ρ) (s : σ)
    (hin : t.inTxn = true) (herr : t.errors = false) (hs : Inv s)
    (hi : ∀ f ∈ sched.flatten, Indep B Inv t.queue (t.watched.map (·.1)) f) :
    ((step B sched t s .exec).2.1, (step B sched t s .exec).2.2) =
      serialExec B t s [] sched.flatten := by
  have h := checkWatch_independent B Inv hinv t.queue (t.watched.map (·.1))
    t.watched (fun p hp => List.mem_map.mpr ⟨p, hp, rfl⟩) sched [] s hs (fun f hf => hi f hf)
  simp only [foreign_nil, List.nil_append] at h
  obtain ⟨⟨pre, p1, p2⟩, v⟩ := h
  rw [serialExec_nil_left, step_exec B sched t s hin herr rfl rfl, v]
  split
  · rw [checkWatch_foreign]
  · obtain ⟨r1, r2⟩ := runQueue_independent B Inv hinv t.queue (t.watched.map (·.1)) t.queue
      (fun _ h => h) _ pre s hs (p2 ▸ hi)
    rw [p1, r1, r2, p2]

/-- EXEC when nobody interferes: the watch comparison and the consecutive run of the queue in one
    piece (`serialExec` with nothing before and nothing after).  This is the empty case of
    `exec_serializable_of_independent`: there is no command to be independent of. -/
theorem exec_quiet (B : Backend σ κ γ ρ) (sched : List (List γ)) (t : ConnTxn κ γ ρ) (s : σ)
    (hin : t.inTxn = true) (herr : t.errors = false) (hq : NoInterleaving sched) :
    step B sched t s .exec = (ConnTxn.idle, serialExec B t s [] []) := by
  have h := exec_serializable_of_independent B (fun _ => True) (fun _ _ _ => trivial) sched t s hin herr trivial
    (by rw [noInterleaving_flatten hq]; exact fun _ h => nomatch h)
  rw [noInterleaving_flatten hq] at h
  exact Prod.ext (table_exec_resets B sched t s hin) h

omit [DecidableEq ρ] in
theorem any_ne_eq_true_iff {α β : Type} [DecidableEq β] {ws : List (α × β)} {f : α → β} :
    ws.any (fun p => decide (f p.1 ≠ p.2)) = true ↔ ∃ p ∈ ws, f p.1 ≠ p.2 := by simp

omit [DecidableEq ρ] in
theorem any_ne_eq_false {α β : Type} [DecidableEq β] {ws : List (α × β)} {f : α → β}
    (h : ∀ p ∈ ws, f p.1 = p.2) : ws.any (fun p => decide (f p.1 ≠ p.2)) = false :=
  List.any_eq_false.2 fun p hp => by simp [h p hp]

/-- EXEC when nobody interferes and the watched keys read as they did at WATCH: the consecutive
    run of the queue — store and results — with one result per queued command -/
theorem exec_equals_sequential_partial (B : Backend σ κ γ ρ) (sched : List (List γ))
    (t : ConnTxn κ γ ρ) (s : σ) (hin : t.inTxn = true) (herr : t.errors = false)
    (hq : NoInterleaving sched) (hw : ∀ p ∈ t.watched, B.getReply s p.1 = p.2) :
    step B sched t s .exec =
      (ConnTxn.idle, (runSeq B s t.queue).1, .results (runSeq B s t.queue).2) ∧
    (runSeq B s t.queue).2.length = t.queue.length := by
  rw [exec_quiet B sched t s hin herr hq, serialExec_nil_left, any_ne_eq_false hw]
  exact ⟨rfl, runSeq_length B t.queue s⟩

/-! ### the boundary of isolation: where a foreign command must sit to be visible -/

theorem exec_isolated_of_no_foreign_step [DecidableEq σ] (B : Backend σ κ γ ρ)
    (sched : List (List γ)) (t : ConnTxn κ γ ρ) (s : σ) (hin : t.inTxn = true)
    (herr : t.errors = false) (hq : NoInterleaving sched) :
    ((step B sched t s .exec).2.1, (step B sched t s .exec).2.2) = serialExec B t s [] [] :=
  congrArg Prod.snd (exec_quiet B sched t s hin herr hq)

/-- the same as membership in the serial outcomes: with no interleaving EXEC is (trivially)
    atomic, watch check included -/
theorem exec_atomic_partial [DecidableEq σ] (B : Backend σ κ γ ρ) (sched : List (List γ))
    (t : ConnTxn κ γ ρ) (s : σ) (hin : t.inTxn = true) (herr : t.errors = false)
    (hq : NoInterleaving sched) :
    ((step B sched t s .exec).2.1, (step B sched t s .exec).2.2) ∈
      (splits sched.flatten).map (fun p => serialExec B t s p.1 p.2) := by
  rw [exec_isolated_of_no_foreign_step B sched t s hin herr hq, noInterleaving_flatten hq]
  exact List.mem_singleton.2 rfl

/-- foreign commands served BEFORE EXEC's first store access are the same as foreign commands
    served before the EXEC -/
theorem exec_head_slot (B : Backend σ κ γ ρ) (a : List γ) (tl : List (List γ))
    (t : ConnTxn κ γ ρ) (s : σ) (hin : t.inTxn = true) (herr : t.errors = false) :
    step B (a :: tl) t s .exec = step B ([] :: tl) t (foreign B s a) .exec := by
  rw [step_exec B _ t s hin herr rfl rfl, step_exec B _ t _ hin herr rfl rfl]
  cases hw : t.watched with
  | cons p rest => obtain ⟨k, old⟩ := p; simp [checkWatch, foreign_nil]
  | nil =>
    cases hqq : t.queue with
    | cons c cs => simp [checkWatch, runQueue, foreign_nil]
    | nil => simp [checkWatch, runQueue, foreign_append]

theorem mem_splits_append {α : Type} (a b : List α) : (a, b) ∈ splits (a ++ b) := by
  simp only [splits, List.mem_map, List.mem_range]
  exact ⟨a.length, by simp; omega, by simp⟩

/-- slot 0 is served before EXEC's first store access, so it may hold anything: if the commands of
    the later slots are independent of the transaction, the outcome is the serial one "slot 0, EXEC in
    one piece, the rest" -/
theorem exec_serializable_after_head_slot (B : Backend σ κ γ ρ) (Inv : σ → Prop)
    (hinv : ∀ s c, Inv s → Inv (B.exec s c).1) (sched : List (List γ)) (t : ConnTxn κ γ ρ) (s : σ)
    (hin : t.inTxn = true) (herr : t.errors = false) (hs : Inv (foreign B s (sched.headD [])))
    (hi : ∀ f ∈ sched.tail.flatten, Indep B Inv t.queue (t.watched.map (·.1)) f) :
    ((step B sched t s .exec).2.1, (step B sched t s .exec).2.2) =
      serialExec B t s (sched.headD []) sched.tail.flatten := by
  cases sched with
  | nil => exact exec_serializable_of_independent B Inv hinv [] t s hin herr hs hi
  | cons a tl =>
    rw [exec_head_slot B a tl t s hin herr]
    exact exec_serializable_of_independent B Inv hinv ([] :: tl) t _ hin herr hs hi

/-- **boundary of `C05_exec_atomic`**: if every foreign command of the schedule is served before
    EXEC's first store access (slot 0), EXEC is atomic — the outcome is the serial outcome "all
    foreign commands first" -/
theorem exec_isolated_of_foreign_before_first_access [DecidableEq σ] (B : Backend σ κ γ ρ)
    (sched : List (List γ)) (t : ConnTxn κ γ ρ) (s : σ) (hin : t.inTxn = true)
    (herr : t.errors = false) (hq : NoInterleaving sched.tail) :
    ((step B sched t s .exec).2.1, (step B sched t s .exec).2.2) ∈
      (splits sched.flatten).map (fun p => serialExec B t s p.1 p.2) := by
  rw [exec_serializable_after_head_slot B (fun _ => True) (fun _ _ _ => trivial) sched t s hin herr trivial
    (by rw [noInterleaving_flatten hq]; exact fun _ h => nomatch h), ← headD_append_tail_flatten sched]
  exact List.mem_map.mpr ⟨_, mem_splits_append _ _, rfl⟩

/-- **EXEC can only fail to be atomic through a foreign command served after its first store
    access**: a non-serializable outcome implies that some slot ≥ 1 of the schedule is non-empty -/
theorem not_isolated_only_through_foreign_step [DecidableEq σ] (B : Backend σ κ γ ρ)
    (sched : List (List γ)) (t : ConnTxn κ γ ρ) (s : σ) (hin : t.inTxn = true)
    (herr : t.errors = false)
    (hns : ((step B sched t s .exec).2.1, (step B sched t s .exec).2.2) ∉
      (splits sched.flatten).map (fun p => serialExec B t s p.1 p.2)) :
    ¬ NoInterleaving sched.tail :=
  fun hq => hns (exec_isolated_of_foreign_before_first_access B sched t s hin herr hq)

theorem run_append (B : Backend σ κ γ ρ) (a b : List (Input κ γ × List (List γ))) :
    ∀ (t : ConnTxn κ γ ρ) (s : σ),
      run B t s (a ++ b) =
        ((run B (run B t s a).1 (run B t s a).2.1 b).1,
         (run B (run B t s a).1 (run B t s a).2.1 b).2.1,
         (run B t s a).2.2 ++ (run B (run B t s a).1 (run B t s a).2.1 b).2.2) := by
  induction a with
  | nil => intro t s; rfl
  | cons e rest ih => intro t s; simp [run, ih]

/-- `MULTI`, a body without EXEC / DISCARD, one more input `e`: the body only builds the transaction
    `T` that `e` meets (used as `run_multi_body … rfl`) -/
theorem run_multi_body (B : Backend σ κ γ ρ) (t : ConnTxn κ γ ρ) (s : σ) (sc : List (List γ))
    (body : List (Input κ γ × List (List γ))) (e : Input κ γ × List (List γ)) (hout : t.inTxn = false)
    (hb : ∀ x ∈ body, endsTxn x.1 = false) {T}
    (hT : ({ t with inTxn := true, queue := body.flatMap (fun x => (queues B x.1).toList),
                    errors := body.any (fun x => queueTimeError x.1) } : ConnTxn κ γ ρ) = T) :
    run B t s ((.multi, sc) :: body ++ [e]) =
      ((step B e.2 T s e.1).1, (step B e.2 T s e.1).2.1,
       .ok :: (body.map (fun x => bodyReply x.1) ++ [(step B e.2 T s e.1).2.2])) := by
  subst hT
  rw [List.cons_append]
  simp only [run]
  rw [table_multi B sc t s hout, run_append, run_inside B body _ s rfl hb]
  rfl

omit [DecidableEq ρ] in
theorem isCmdOrLocal_cases {i : Input κ γ} (h : isCmdOrLocal i = true) :
    (∃ c, i = .cmd c) ∨ ∃ c, i = .connLocal c := by
  cases i <;> first | exact .inl ⟨_, rfl⟩ | exact .inr ⟨_, rfl⟩ | cases h

theorem run_outside_mixed (B : Backend σ κ γ ρ) (sc : List (List γ)) (body : List (Input κ γ)) :
    ∀ (t : ConnTxn κ γ ρ) (s : σ), t.inTxn = false → body.all isCmdOrLocal = true →
      LocalFaithfulOn B body →
      run B t s (body.map (fun i => (i, sc))) =
        (t, (runSeq B s (body.flatMap fun i => (queues B i).toList)).1,
         (runSeq B s (body.flatMap fun i => (queues B i).toList)).2.map .plain) := by
  induction body with
  | nil => intro t s _ _ _; rfl
  | cons i rest ih =>
    intro t s hout hb hl
    obtain ⟨hi, hr⟩ : isCmdOrLocal i = true ∧ rest.all isCmdOrLocal = true := by simpa using hb
    have hl' : LocalFaithfulOn B rest := fun c hc => hl c (List.mem_cons_of_mem _ hc)
    rcases isCmdOrLocal_cases hi with ⟨c, rfl⟩ | ⟨c, rfl⟩ <;>
      simp only [List.map_cons, run, step, hout, Bool.false_eq_true, if_false, List.flatMap_cons, queues,
        Option.toList, List.singleton_append, runSeq, ih _ _ hout hr hl']
    rw [hl c (List.mem_cons_self ..) s]

/-- `MULTI body EXEC` with nobody interfering, nothing watched and no input of the body refused:
    the consecutive run of what the body queues -/
theorem txn_run (B : Backend σ κ γ ρ) (t : ConnTxn κ γ ρ) (s : σ)
    (body : List (Input κ γ × List (List γ))) (sc sched : List (List γ)) (hout : t.inTxn = false)
    (hw : t.watched = []) (hb : ∀ x ∈ body, endsTxn x.1 = false ∧ queueTimeError x.1 = false)
    (hq : NoInterleaving sched) {q} (hq' : body.flatMap (fun x => (queues B x.1).toList) = q) :
    run B t s ((.multi, sc) :: body ++ [(.exec, sched)]) =
      (ConnTxn.idle, (runSeq B s q).1,
       .ok :: (body.map (fun x => bodyReply x.1) ++ [.results (runSeq B s q).2])) := by
  subst hq'
  rw [run_multi_body B t s sc body _ hout (fun x hx => (hb x hx).1) rfl,
    (exec_equals_sequential_partial B sched _ s rfl
      (List.any_eq_false.2 fun x hx => by simp [(hb x hx).2]) hq (by rw [hw]; exact fun _ h => nomatch h)).1]

/-- a whole transaction `MULTI c₁ … cₙ EXEC` with nobody interfering during EXEC: replies
    `OK, QUEUED × n, [r₁ … rₙ]`, and `(store, r₁ … rₙ)` is exactly what the same connection gets
    by sending `c₁ … cₙ` outside MULTI -/
theorem txn_equals_sequential_partial (B : Backend σ κ γ ρ) (t : ConnTxn κ γ ρ) (s : σ)
    (cs : List γ) (sc sched : List (List γ)) (hout : t.inTxn = false) (hw : t.watched = [])
    (hq : NoInterleaving sched) :
    run B t s ((.multi, sc) :: cs.map (fun c => (Input.cmd c, sc)) ++ [(.exec, sched)]) =
      (ConnTxn.idle, (runSeq B s cs).1,
       .ok :: (List.replicate cs.length .queued ++ [.results (runSeq B s cs).2])) ∧
    run B t s (cs.map (fun c => (Input.cmd c, sc))) =
      (t, (runSeq B s cs).1, (runSeq B s cs).2.map .plain) ∧
    (runSeq B s cs).2.length = cs.length := by
  have h1 := txn_run B t s (cs.map fun c => (Input.cmd c, sc)) sc sched hout hw
    (fun x hx => by obtain ⟨c, _, rfl⟩ := List.mem_map.1 hx; exact ⟨rfl, rfl⟩) hq (q := cs)
    (by simp [List.flatMap_map, queues])
  have h2 := run_outside_mixed B sc (cs.map Input.cmd) t s hout (by simp [isCmdOrLocal])
    (fun c hc => by simp at hc)
  simp only [List.map_map, List.flatMap_map, Function.comp_def, queues, bodyReply, Option.toList,
    List.flatMap_singleton', List.map_const'] at h1 h2
  exact ⟨h1, h2, runSeq_length B cs s⟩

/-- **full** (`C05_exec_equals_outside`): for bodies of data commands AND connection-level
    commands, EXEC returns per queued command what the same input returns outside MULTI, and
    leaves the same store — given the dispatcher contract `LocalFaithfulOn` (which the pinned
    commit's EXEC loop did not meet: `connection_level_command_pinned_counterexample`) -/
theorem exec_equals_outside : C05_exec_equals_outside := by
  intro σ κ γ ρ _ B t s body sc sched hout hw hb hq hl
  unfold ExecEqualsOutside
  rw [run_outside_mixed B sc body t s hout hb hl,
    txn_run B t s _ sc sched hout hw (fun x hx => by
      obtain ⟨i, hi, rfl⟩ := List.mem_map.1 hx
      rcases isCmdOrLocal_cases (List.all_eq_true.1 hb i hi) with ⟨c, rfl⟩ | ⟨c, rfl⟩ <;> exact ⟨rfl, rfl⟩)
      hq (List.flatMap_map ..),
    ← List.cons_append, List.getLast?_concat]
  exact ⟨rfl, by simp [List.filterMap_map, Function.comp_def, unplain]⟩

/-- bodies of data commands only need no contract at all -/
theorem exec_equals_outside_partial (B : Backend σ κ γ ρ) (t : ConnTxn κ γ ρ) (s : σ)
    (body : List (Input κ γ)) (sc sched : List (List γ))
    (hout : t.inTxn = false) (hw : t.watched = []) (hb : AllCmd body) (hq : NoInterleaving sched) :
    ExecEqualsOutside B t s body sc sched := by
  have hb' : ∀ i ∈ body, isCmd i = true := List.all_eq_true.1 hb
  refine exec_equals_outside σ κ γ ρ B t s body sc sched hout hw
    (List.all_eq_true.2 fun i hi => ?_) hq (fun c hc => nomatch hb' _ hc)
  have := hb' i hi
  cases i <;> first | rfl | cases this

/-! ## DISCARD, EXECABORT, failed WATCH: nothing of the transaction reaches the store -/

theorem discard_leaves_store (B : Backend σ κ γ ρ) (sched : List (List γ)) (t : ConnTxn κ γ ρ)
    (s : σ) (hin : t.inTxn = true) :
    step B sched t s .discard = (ConnTxn.idle, s, .ok) := by
  simp [step, hin]

/-- inside MULTI, EXEC and DISCARD leave the idle state -/
theorem step_ends (B : Backend σ κ γ ρ) (sc : List (List γ)) (t : ConnTxn κ γ ρ) (s : σ)
    (i : Input κ γ) (hin : t.inTxn = true) (hi : endsTxn i = true) :
    (step B sc t s i).1 = ConnTxn.idle := by
  cases i with
  | exec => exact table_exec_resets B sc t s hin
  | discard => exact congrArg Prod.fst (discard_leaves_store B sc t s hin)
  | _ => cases hi

/-- `MULTI body DISCARD`, for every body: store untouched, state reset (watches dropped) -/
theorem discard_txn_leaves_store (B : Backend σ κ γ ρ) (t : ConnTxn κ γ ρ) (s : σ)
    (body : List (Input κ γ × List (List γ))) (sc sched : List (List γ))
    (hout : t.inTxn = false) (hb : ∀ e ∈ body, endsTxn e.1 = false) :
    (run B t s ((.multi, sc) :: body ++ [(.discard, sched)])).1 = ConnTxn.idle ∧
    (run B t s ((.multi, sc) :: body ++ [(.discard, sched)])).2.1 = s := by
  rw [run_multi_body B t s sc body _ hout hb rfl, discard_leaves_store B sched _ _ rfl]
  exact ⟨rfl, rfl⟩

/-- EXEC after a queue-time error, under every schedule: EXECABORT, and the store holds the other
    clients' commands only -/
theorem execabort_leaves_store (B : Backend σ κ γ ρ) (sched : List (List γ)) (t : ConnTxn κ γ ρ)
    (s : σ) (hin : t.inTxn = true) (herr : t.errors = true) :
    step B sched t s .exec = (ConnTxn.idle, foreign B s sched.flatten, .err .execAbort) := by
  simp [step, hin, herr]

/-- `MULTI b₁ bad b₂ EXEC`: whatever else is in the body, one refused input makes EXEC answer
    EXECABORT and the store holds the other clients' commands only -/
theorem execabort_txn_leaves_store (B : Backend σ κ γ ρ) (t : ConnTxn κ γ ρ) (s : σ)
    (b1 b2 : List (Input κ γ × List (List γ))) (bad : Input κ γ) (sc sc' sched : List (List γ))
    (hout : t.inTxn = false) (h1 : ∀ e ∈ b1, endsTxn e.1 = false)
    (h2 : ∀ e ∈ b2, endsTxn e.1 = false) (hbad : queueTimeError bad = true) :
    (run B t s ((.multi, sc) :: (b1 ++ (bad, sc') :: b2) ++ [(.exec, sched)])).2.1 =
      foreign B s sched.flatten ∧
    (run B t s ((.multi, sc) :: (b1 ++ (bad, sc') :: b2) ++ [(.exec, sched)])).2.2.getLast? =
      some (.err .execAbort) := by
  have hb : ∀ e ∈ b1 ++ (bad, sc') :: b2, endsTxn e.1 = false := by
    intro e he
    rcases List.mem_append.1 he with he | he
    · exact h1 e he
    · rcases List.mem_cons.1 he with rfl | he
      · cases bad <;> first | rfl | cases hbad
      · exact h2 e he
  rw [run_multi_body B t s sc _ _ hout hb rfl, ← List.cons_append, List.getLast?_concat,
    execabort_leaves_store B sched _ _ rfl (by simp [hbad])]
  exact ⟨rfl, rfl⟩

/-- EXEC whose watch check fails, under every schedule: nil, and the store holds the other
    clients' commands only -/
theorem watchfail_leaves_store (B : Backend σ κ γ ρ) (sched : List (List γ)) (t : ConnTxn κ γ ρ)
    (s : σ) (hin : t.inTxn = true) (herr : t.errors = false)
    (hf : (checkWatch B sched s t.watched).2.2 = true) :
    step B sched t s .exec = (ConnTxn.idle, foreign B s sched.flatten, .nil) := by
  rw [step_exec B sched t s hin herr rfl rfl, if_pos hf, checkWatch_foreign]

/-- WATCH stores, per key, the reply of GET at that moment (appended; earlier snapshots stay) -/
theorem watch_snapshot_is_get (B : Backend σ κ γ ρ) (sc : List (List γ)) (t : ConnTxn κ γ ρ)
    (s : σ) (ks : List κ) (hout : t.inTxn = false) :
    step B sc t s (.watch ks) =
      ({ t with watched := t.watched ++ ks.map (fun k => (k, B.getReply s k)) }, s, .ok) := by
  simp [step, hout]

/-- a repeated WATCH of the same key keeps the earlier snapshot (connection level): both are
    compared at EXEC -/
theorem rewatch_keeps_first_snapshot (B : Backend σ κ γ ρ) (sc : List (List γ)) (t : ConnTxn κ γ ρ)
    (s : σ) (ks : List κ) (p : κ × ρ) (hout : t.inTxn = false) (hp : p ∈ t.watched) :
    p ∈ (step B sc t s (.watch ks)).1.watched := by
  rw [watch_snapshot_is_get B sc t s ks hout]
  simp [hp]

/-- if the GET-visible value of a watched key at EXEC differs from its snapshot, EXEC returns nil
    and applies nothing -/
theorem watch_detects_change_partial (B : Backend σ κ γ ρ) (sched : List (List γ))
    (t : ConnTxn κ γ ρ) (s : σ) (k : κ) (old : ρ) (hin : t.inTxn = true) (herr : t.errors = false)
    (hq : NoInterleaving sched) (hm : (k, old) ∈ t.watched) (hd : B.getReply s k ≠ old) :
    step B sched t s .exec = (ConnTxn.idle, s, .nil) := by
  rw [exec_quiet B sched t s hin herr hq, serialExec_nil_left, if_pos (any_ne_eq_true_iff.2 ⟨(k, old), hm, hd⟩)]
  rfl

/-- **exact boundary of the WATCH abort** (nobody interferes during EXEC): EXEC answers nil iff
    the GET reply of some watched key differs from its snapshot — no spurious abort, no missed
    GET-visible change -/
theorem exec_aborts_iff_partial (B : Backend σ κ γ ρ) (sched : List (List γ)) (t : ConnTxn κ γ ρ)
    (s : σ) (hin : t.inTxn = true) (herr : t.errors = false) (hq : NoInterleaving sched) :
    (step B sched t s .exec).2.2 = .nil ↔ ∃ p ∈ t.watched, B.getReply s p.1 ≠ p.2 := by
  rw [exec_quiet B sched t s hin herr hq, serialExec_nil_left, ← any_ne_eq_true_iff]
  cases t.watched.any fun p => decide (B.getReply s p.1 ≠ p.2) <;> simp

/-! ### WATCH … MULTI … EXEC as a trace, with the other clients' commands between the inputs -/

/-- an event seen by the store: an input of the modelled connection (with the other clients'
    schedule during it) or a command of another client between two inputs -/
inductive Event (κ γ : Type) where
  | inp (i : Input κ γ) (sc : List (List γ))
  | other (c : γ)

def runE (B : Backend σ κ γ ρ) :
    ConnTxn κ γ ρ → σ → List (Event κ γ) → ConnTxn κ γ ρ × σ
  | t, s, [] => (t, s)
  | t, s, .inp i sc :: rest => runE B (step B sc t s i).1 (step B sc t s i).2.1 rest
  | t, s, .other c :: rest => runE B t (B.exec s c).1 rest

/-- events that keep the watch list while the connection is outside MULTI: anything but MULTI
    and UNWATCH (EXEC / DISCARD outside MULTI are errors and change nothing) -/
def keepsOutside : Event κ γ → Bool
  | .inp .multi _ => false
  | .inp .unwatch _ => false
  | _ => true

/-- events that keep the transaction open: anything but EXEC and DISCARD -/
def keepsInside : Event κ γ → Bool
  | .inp i _ => !endsTxn i
  | .other _ => true

theorem step_keeps (B : Backend σ κ γ ρ) (sc : List (List γ)) (t : ConnTxn κ γ ρ) (s : σ)
    (i : Input κ γ) (p : κ × ρ) (b : Bool) (hb : t.inTxn = b) (hp : p ∈ t.watched)
    (hi : (if b then keepsInside (.inp i sc) else keepsOutside (.inp i sc)) = true) :
    (step B sc t s i).1.inTxn = b ∧ p ∈ (step B sc t s i).1.watched := by
  cases b
  · cases i <;> simp_all [step, keepsOutside]
  · rw [step_inside B sc t s i hb (by simpa [keepsInside] using hi)]
    exact ⟨hb, hp⟩

/-- along events that keep the connection on its side of MULTI (`b` = inside) a snapshot stays in
    the watch list and the connection stays on that side -/
theorem runE_keeps (B : Backend σ κ γ ρ) (p : κ × ρ) (b : Bool) (evs : List (Event κ γ)) :
    ∀ (t : ConnTxn κ γ ρ) (s : σ), t.inTxn = b → p ∈ t.watched →
      (∀ e ∈ evs, (if b then keepsInside e else keepsOutside e) = true) →
      (runE B t s evs).1.inTxn = b ∧ p ∈ (runE B t s evs).1.watched := by
  induction evs with
  | nil => intro t s h hp _; exact ⟨h, hp⟩
  | cons e rest ih =>
    intro t s hb hp hall
    have he := hall e (List.mem_cons_self ..)
    have hr := fun x hx => hall x (List.mem_cons_of_mem e hx)
    cases e with
    | other c => exact ih t _ hb hp hr
    | inp i sc =>
      obtain ⟨h1, h2⟩ := step_keeps B sc t s i p b hb hp he
      exact ih _ _ h1 h2 hr

theorem runE_append (B : Backend σ κ γ ρ) (a b : List (Event κ γ)) :
    ∀ (t : ConnTxn κ γ ρ) (s : σ),
      runE B t s (a ++ b) = runE B (runE B t s a).1 (runE B t s a).2 b := by
  induction a with
  | nil => intro t s; rfl
  | cons e rest ih => intro t s; cases e <;> simp [runE, ih]

/-- `WATCH … k …` at store `s0`; then anything but MULTI/UNWATCH, interleaved with any commands of
    other clients; `MULTI`; then any body, again interleaved with other clients; `EXEC` with
    nobody interfering during it: if GET of `k` then answers differently than at WATCH time, EXEC
    applies nothing and answers nil (or EXECABORT when the body contained a refused input) -/
theorem watch_txn_detects_change_partial (B : Backend σ κ γ ρ) (t : ConnTxn κ γ ρ) (s0 : σ)
    (ks : List κ) (k : κ) (mid body : List (Event κ γ)) (sc sc' sched : List (List γ))
    (hout : t.inTxn = false) (hk : k ∈ ks)
    (hmid : ∀ e ∈ mid, keepsOutside e = true) (hbody : ∀ e ∈ body, keepsInside e = true)
    (hq : NoInterleaving sched) :
    let r := runE B t s0 (.inp (.watch ks) sc :: mid ++ [.inp .multi sc'] ++ body)
    B.getReply r.2 k ≠ B.getReply s0 k →
    (step B sched r.1 r.2 .exec).2.1 = r.2 ∧
    ((step B sched r.1 r.2 .exec).2.2 = .nil ∨ (step B sched r.1 r.2 .exec).2.2 = .err .execAbort) := by
  intro r hd
  -- the snapshot `(k, GET k at s0)` taken by WATCH survives `mid`, MULTI and `body` (`runE_keeps`), and the
  -- transaction is open at the end; then `execabort_leaves_store` or `watch_detects_change_partial`
  have hr : r = runE B t s0 (.inp (.watch ks) sc :: mid ++ [.inp .multi sc'] ++ body) := rfl
  rw [List.cons_append, List.cons_append] at hr
  simp only [runE] at hr
  rw [watch_snapshot_is_get B sc t s0 ks hout, List.append_assoc, runE_append] at hr
  have hp0 : (k, B.getReply s0 k) ∈
      ({ t with watched := t.watched ++ ks.map (fun k => (k, B.getReply s0 k)) } : ConnTxn κ γ ρ).watched := by
    simp only [List.mem_append, List.mem_map]
    exact Or.inr ⟨k, hk, rfl⟩
  obtain ⟨m1, m2⟩ := runE_keeps B (k, B.getReply s0 k) false mid
    { t with watched := t.watched ++ ks.map (fun k => (k, B.getReply s0 k)) } s0 hout hp0 hmid
  generalize runE B { t with watched := t.watched ++ ks.map (fun k => (k, B.getReply s0 k)) } s0 mid = rm at hr m1 m2
  simp only [List.cons_append, List.nil_append, runE] at hr
  rw [table_multi B sc' rm.1 rm.2 m1] at hr
  obtain ⟨b1, b2⟩ := runE_keeps B (k, B.getReply s0 k) true body
    { rm.1 with inTxn := true, queue := [], errors := false } rm.2 rfl m2 hbody
  rw [← hr] at b1 b2
  cases herr : r.1.errors with
  | true =>
    rw [execabort_leaves_store B sched r.1 r.2 b1 herr, noInterleaving_flatten hq]
    exact ⟨rfl, Or.inr rfl⟩
  | false =>
    rw [watch_detects_change_partial B sched r.1 r.2 k _ b1 herr hq b2 hd]
    exact ⟨rfl, Or.inl rfl⟩

end

/-- the key is a string or missing -/
def strOrMissing (s : KV.Store) (k : Nat) : Bool :=
  match NMap.get s k with
  | some (.str _) => true
  | none => true
  | _ => false

/-- the key holds a non-string value (list, hash, set or sorted set) -/
def nonString (s : KV.Store) (k : Nat) : Bool := !strOrMissing s k

/-- **exact characterisation of what the connection-level GET-reply snapshot sees** (concrete
    store): the snapshot comparison detects a change of the value of `k` between `s0` (WATCH) and
    `s` (EXEC) iff the value differs and the key is not a NON-STRING value (list, hash, set, sorted
    set) at BOTH moments.  Invisible transitions are exactly non-string → different non-string
    (element added / removed / replaced, field value, score, type change among list / hash / set /
    zset: the GET reply is the constant WRONGTYPE error at both moments); every transition that
    involves a string or a missing key on either side is detected. -/
theorem watch_detects_iff (s0 s : KV.Store) (k : Nat) :
    KV.backend.getReply s k ≠ KV.backend.getReply s0 k ↔
      (NMap.get s k ≠ NMap.get s0 k ∧ ¬ (nonString s0 k = true ∧ nonString s k = true)) := by
  simp only [KV.backend, KV.backendWith, KV.execWith, nonString, strOrMissing]
  cases h0 : NMap.get s0 k with
  | none =>
    cases h1 : NMap.get s k with
    | none => simp
    | some v1 => cases v1 <;> simp
  | some v0 =>
    cases h1 : NMap.get s k with
    | none => cases v0 <;> simp
    | some v1 => cases v0 <;> cases v1 <;> simp

theorem get_reply_faithful (s0 s : KV.Store) (k : Nat) (hv : NMap.get s k ≠ NMap.get s0 k)
    (hs : strOrMissing s0 k = true ∨ strOrMissing s k = true) :
    KV.backend.getReply s k ≠ KV.backend.getReply s0 k :=
  (watch_detects_iff s0 s k).2 ⟨hv, fun ⟨a, b⟩ => by rcases hs with h | h <;> simp [nonString, h] at a b⟩

/-- hence, with nobody interfering during EXEC, a watched key whose value changed is missed
    exactly when it held a non-string (list, set, hash, …) at WATCH time and holds a non-string at
    EXEC time: both GET replies are the WRONGTYPE error -/
theorem exec_proceeds_on_list_change (t : ConnTxn Nat KV.Cmd KV.Rep) (s0 s : KV.Store) (k : Nat)
    (hin : t.inTxn = true) (herr : t.errors = false)
    (hw : t.watched = [(k, KV.backend.getReply s0 k)]) :
    (step KV.backend [] t s .exec).2.2 ≠ .nil ↔
      (NMap.get s k = NMap.get s0 k ∨ (nonString s0 k = true ∧ nonString s k = true)) := by
  rw [Ne, exec_aborts_iff_partial KV.backend [] t s hin herr noInterleaving_nil, hw]
  simp only [List.mem_singleton, exists_eq_left]
  rw [watch_detects_iff]
  by_cases h1 : NMap.get s k = NMap.get s0 k <;> simp [h1]

/-- concrete store: every change of a watched key that is a string or missing before or after
    (set, overwritten, appended, incremented, deleted, created, replaced by a list, a list replaced
    by a string) makes EXEC return nil and apply nothing -/
theorem watch_detects_change_strings_partial (t : ConnTxn Nat KV.Cmd KV.Rep) (s0 s : KV.Store)
    (k : Nat) (hin : t.inTxn = true) (herr : t.errors = false)
    (hm : (k, KV.backend.getReply s0 k) ∈ t.watched) (hv : NMap.get s k ≠ NMap.get s0 k)
    (hs : strOrMissing s0 k = true ∨ strOrMissing s k = true) :
    step KV.backend [] t s .exec = (ConnTxn.idle, s, .nil) :=
  watch_detects_change_partial KV.backend [] t s k _ hin herr noInterleaving_nil hm
    (get_reply_faithful s0 s k hv hs)

/-! ## counterexamples: what the code as it is violates (each replayed on the real code by the
harness as a fixed corpus case) -/

/-- a list key `w = [1]` is watched (its snapshot is the WRONGTYPE error), another client pushes
    `2`, then `MULTI; SET x 1; EXEC` succeeds: `*1 +OK` instead of nil -/
theorem watch_nonstring_counterexample : ¬ C05_watch_detects_change := by
  intro h
  have := h { inTxn := true, queue := [.set 2 [49]], errors := false,
              watched := [(1, .err .wrongType)] }
    [(1, .list [[49]])] [(1, .list [[49], [50]])] 1 rfl rfl (by decide) (by decide)
  revert this
  decide

/-- the same run, spelled out as a trace: WATCH w; (other client: RPUSH w 2); MULTI; SET x 1; EXEC -/
example :
    let s0 : KV.Store := [(1, .list [[49]])]
    let r1 := run KV.backend ConnTxn.idle s0 [(.watch [1], [])]
    let s1 := foreign KV.backend r1.2.1 [.rpush 1 [[50]]]
    (run KV.backend r1.1 s1 [(.multi, []), (.cmd (.set 2 [49]), []), (.exec, [])]).2.2 =
      [.ok, .queued, .results [.simple .ok]] := by decide

/-- `MULTI; SET k 1; GET k; EXEC` while another client's `SET k 2` is served between the two
    queued commands: EXEC answers `[OK, "2"]` — no atomic EXEC before or after the foreign write
    produces that -/
theorem exec_not_isolated_counterexample : ¬ C05_exec_atomic := by
  intro h
  have := h KV.Store Nat KV.Cmd KV.Rep KV.backend
    { inTxn := true, queue := [.set 1 [49], .get 1], errors := false, watched := [] }
    [] [[], [.set 1 [50]]] rfl rfl
  revert this
  decide

/-- `WATCH k` (k = "0"); `MULTI; GET k; EXEC` while another client's `SET k F` is served between
    the watch comparison and the first queued command: EXEC succeeds and returns the foreign
    value although the watched key no longer has its WATCH-time value when the queue runs -/
theorem watched_key_changed_after_check_counterexample : ¬ C05_exec_atomic := by
  intro h
  have := h KV.Store Nat KV.Cmd KV.Rep KV.backend
    { inTxn := true, queue := [.get 1], errors := false, watched := [(1, .bulk (some [48]))] }
    [(1, .str [48])] [[], [.set 1 [70]]] rfl rfl
  revert this
  decide

/-- the concrete store's dispatcher (current tree) meets the contract for every connection-level
    command it knows -/
theorem kv_local_faithful (body : List (Input Nat KV.Cmd))
    (h : ∀ c, Input.connLocal c ∈ body → ∃ l, c = .loc l) : LocalFaithfulOn KV.backend body := by
  intro c hc s
  obtain ⟨l, rfl⟩ := h c hc
  cases l <;> rfl

/-- hence on the concrete store (current tree) `MULTI; …; AUTH x; …; EXEC` answers what the same
    inputs answer outside MULTI — in particular `MULTI; AUTH x; EXEC` = `[+OK]` -/
theorem kv_exec_equals_outside (t : ConnTxn Nat KV.Cmd KV.Rep) (s : KV.Store)
    (body : List (Input Nat KV.Cmd)) (sc sched : List (List KV.Cmd))
    (hout : t.inTxn = false) (hw : t.watched = []) (hb : body.all isCmdOrLocal = true)
    (hl : ∀ c, Input.connLocal c ∈ body → ∃ l, c = .loc l) (hq : NoInterleaving sched) :
    ExecEqualsOutside KV.backend t s body sc sched :=
  exec_equals_outside _ _ _ _ KV.backend t s body sc sched hout hw hb hq (kv_local_faithful body hl)

/-- PINNED commit (before the `fix:` commit; `KV.backendWith false` = every queued command goes to
    the shard executor): `MULTI; AUTH x; EXEC` answered `[-ERR AUTH is handled at connection
    level …]` whereas `AUTH x` outside MULTI answers `+OK` -/
theorem connection_level_command_pinned_counterexample :
    ¬ ExecEqualsOutside (KV.backendWith false) ConnTxn.idle [] [.connLocal (.loc .auth)] [] [] := by
  unfold ExecEqualsOutside
  decide

/-! ## executor level (`transaction_ops.rs`): everything holds at full strength -/

section
variable {σ κ γ ρ ν : Type} [DecidableEq κ] [DecidableEq ν]

def xendsTxn : XInput κ γ → Bool
  | .exec => true
  | .discard => true
  | _ => false

def xisQueuedOrErr : XReply ρ → Bool
  | .queued => true
  | .err _ => true
  | _ => false

theorem x_step_body (X : XBackend σ κ γ ρ ν) (okR : ρ) (t : ExTxn κ γ ν) (s : σ) (i : XInput κ γ)
    (hin : t.inTxn = true) (hi : xendsTxn i = false) :
    (xstep X okR t s i).2.1 = s ∧ (xstep X okR t s i).1.inTxn = true ∧
    (xstep X okR t s i).1.watched = t.watched ∧ xisQueuedOrErr (xstep X okR t s i).2.2 = true := by
  cases i <;> simp_all [xstep, xstepWith, xendsTxn, xisQueuedOrErr]

/-- executor level: between MULTI and EXEC/DISCARD every input leaves the store alone and is
    answered QUEUED or with an error -/
theorem x_queued_has_no_effect (X : XBackend σ κ γ ρ ν) (okR : ρ) (body : List (XInput κ γ)) :
    ∀ (t : ExTxn κ γ ν) (s : σ), t.inTxn = true → (∀ e ∈ body, xendsTxn e = false) →
    (xrun X okR t s body).2.1 = s ∧ (xrun X okR t s body).1.inTxn = true ∧
    (xrun X okR t s body).1.watched = t.watched ∧
    ∀ r ∈ (xrun X okR t s body).2.2, xisQueuedOrErr r = true := by
  induction body with
  | nil => intro t s h _; simp [xrun, h]
  | cons e rest ih =>
    intro t s hin hb
    obtain ⟨h1, h2, h3, h4⟩ := x_step_body X okR t s e hin (hb e (by simp))
    obtain ⟨i1, i2, i3, i4⟩ :=
      ih (xstep X okR t s e).1 (xstep X okR t s e).2.1 h2 (fun x hx => hb x (by simp [hx]))
    simp only [xrun]
    refine ⟨by rw [i1, h1], i2, by rw [i3, h3], ?_⟩
    intro r hr
    simp at hr
    rcases hr with hr | hr
    · rw [hr]; exact h4
    · exact i4 r hr

omit [DecidableEq κ] [DecidableEq ν] in
theorem xrunQueue_length (X : XBackend σ κ γ ρ ν) (okR : ρ) (q : List (XQ γ)) :
    ∀ (s : σ), (xrunQueue X okR s q).2.length = q.length := by
  induction q with
  | nil => intro s; rfl
  | cons c cs ih => intro s; cases c <;> simp [xrunQueue, ih]

theorem xstep_exec (X : XBackend σ κ γ ρ ν) (okR : ρ) (t : ExTxn κ γ ν) (s : σ)
    (hin : t.inTxn = true) :
    xstep X okR t s .exec =
      if t.watched.any (fun p => decide (X.value s p.1 ≠ p.2)) then (ExTxn.idle, s, .nil)
      else (ExTxn.idle, (xrunQueue X okR s t.queue).1, .results (xrunQueue X okR s t.queue).2) := by
  simp only [xstep, xstepWith, hin, if_true]

/-- executor level EXEC with unchanged watched keys: the consecutive run of the queue (there is
    no await: nothing can interleave), one result per queued command -/
theorem x_exec_equals_sequential (X : XBackend σ κ γ ρ ν) (okR : ρ) (t : ExTxn κ γ ν) (s : σ)
    (hin : t.inTxn = true) (hw : ∀ p ∈ t.watched, X.value s p.1 = p.2) :
    xstep X okR t s .exec =
      (ExTxn.idle, (xrunQueue X okR s t.queue).1, .results (xrunQueue X okR s t.queue).2) ∧
    (xrunQueue X okR s t.queue).2.length = t.queue.length := by
  rw [xstep_exec X okR t s hin, any_ne_eq_false hw]
  exact ⟨rfl, xrunQueue_length X okR t.queue s⟩

/-- executor level: ANY change of the value of a watched key (any type) aborts EXEC, which
    applies nothing -/
theorem x_watch_detects_change (X : XBackend σ κ γ ρ ν) (okR : ρ) (t : ExTxn κ γ ν) (s : σ)
    (k : κ) (v0 : Option ν) (hin : t.inTxn = true) (hm : (k, v0) ∈ t.watched)
    (hd : X.value s k ≠ v0) :
    xstep X okR t s .exec = (ExTxn.idle, s, .nil) := by
  rw [xstep_exec X okR t s hin, if_pos (any_ne_eq_true_iff.2 ⟨(k, v0), hm, hd⟩)]

/-- **executor level, exact boundary** (any backend, any value type): EXEC answers nil ⇔ the
    stored value of some watched key differs from its snapshot — the snapshot is the whole value
    (`Option<Value>` compared with `!=`), nothing of it is invisible -/
theorem x_watch_detects_iff (X : XBackend σ κ γ ρ ν) (okR : ρ) (t : ExTxn κ γ ν) (s : σ)
    (hin : t.inTxn = true) :
    (xstep X okR t s .exec).2.2 = .nil ↔ ∃ p ∈ t.watched, X.value s p.1 ≠ p.2 := by
  rw [xstep_exec X okR t s hin, ← any_ne_eq_true_iff]
  cases t.watched.any fun p => decide (X.value s p.1 ≠ p.2) <;> simp

theorem x_watchfail_leaves_store (X : XBackend σ κ γ ρ ν) (okR : ρ) (t : ExTxn κ γ ν) (s : σ)
    (hin : t.inTxn = true) (h : (xstep X okR t s .exec).2.2 = .nil) :
    (xstep X okR t s .exec).2.1 = s := by
  rw [xstep_exec X okR t s hin] at h ⊢
  revert h
  cases (t.watched.any fun p => decide (X.value s p.1 ≠ p.2)) <;> simp

theorem x_discard_leaves_store (X : XBackend σ κ γ ρ ν) (okR : ρ) (t : ExTxn κ γ ν) (s : σ)
    (hin : t.inTxn = true) : xstep X okR t s .discard = (ExTxn.idle, s, .ok) := by
  simp [xstep, xstepWith, hin]

omit [DecidableEq ν] in
/-- `entry(k).or_insert(v)`: nothing when `k` has an entry, otherwise a new entry at the end -/
theorem putIfAbsent_eq (k : κ) (v : Option ν) (m : List (κ × Option ν)) :
    putIfAbsent k v m = if k ∈ m.map (·.1) then m else m ++ [(k, v)] := by
  induction m with
  | nil => rfl
  | cons q rest ih =>
    by_cases hk : k = q.1
    · simp [putIfAbsent, hk]
    · by_cases hr : k ∈ rest.map (·.1) <;> simp_all [putIfAbsent]

/-- executor level WATCH (current tree): the store is untouched, every snapshot taken by an
    earlier WATCH stands, and every named key is watched — with its current value unless it
    already was watched -/
theorem x_watch_snapshot (X : XBackend σ κ γ ρ ν) (okR : ρ) (t : ExTxn κ γ ν) (s : σ)
    (ks : List κ) (hout : t.inTxn = false) :
    (xstep X okR t s (.watch ks)).2.1 = s ∧
    (∀ p ∈ t.watched, p ∈ (xstep X okR t s (.watch ks)).1.watched) ∧
    ∀ k ∈ ks, (∃ v, (k, v) ∈ t.watched) ∨
      (k, X.value s k) ∈ (xstep X okR t s (.watch ks)).1.watched := by
  simp only [xstep, xstepWith, hout, Bool.false_eq_true, if_false, true_and, watchPut, if_true]
  suffices h : ∀ (ks : List κ) (w : List (κ × Option ν)),
      (∀ p ∈ w, p ∈ ks.foldl (fun w k => putIfAbsent k (X.value s k) w) w) ∧
      ∀ k ∈ ks, (∃ v, (k, v) ∈ w) ∨
        (k, X.value s k) ∈ ks.foldl (fun w k => putIfAbsent k (X.value s k) w) w from h ks t.watched
  intro ks
  induction ks with
  | nil => exact fun w => ⟨fun _ h => h, fun _ h => nomatch h⟩
  | cons a rest ih =>
    intro w
    obtain ⟨iA, iB⟩ := ih (putIfAbsent a (X.value s a) w)
    -- the map after `a`: the old entries, and the snapshot of `a` unless `a` had one
    have hput : (∀ p ∈ w, p ∈ putIfAbsent a (X.value s a) w) ∧
        (∀ q ∈ putIfAbsent a (X.value s a) w, q ∈ w ∨ q = (a, X.value s a)) ∧
        ((∃ v, (a, v) ∈ w) ∨ (a, X.value s a) ∈ putIfAbsent a (X.value s a) w) := by
      rw [putIfAbsent_eq]
      split
      · rename_i h
        obtain ⟨⟨_, v⟩, hm, rfl⟩ := List.mem_map.1 h
        exact ⟨fun _ h => h, fun _ h => .inl h, .inl ⟨v, hm⟩⟩
      · exact ⟨fun _ h => List.mem_append_left _ h, fun q h => by simpa using h, .inr (by simp)⟩
    obtain ⟨h1, h2, h3⟩ := hput
    refine ⟨fun p hp => iA p (h1 p hp), fun k hk => ?_⟩
    rcases List.mem_cons.1 hk with rfl | hk
    · exact h3.imp id (iA _)
    · rcases iB k hk with ⟨v, hv⟩ | h
      · rcases h2 _ hv with h | h
        · exact .inl ⟨v, h⟩
        · cases h; exact .inr (iA _ hv)
      · exact .inr h

theorem x_table_nested_multi (X : XBackend σ κ γ ρ ν) (okR : ρ) (t : ExTxn κ γ ν) (s : σ)
    (h : t.inTxn = true) : xstep X okR t s .multi = (t, s, .err .nestedMulti) := by
  simp [xstep, xstepWith, h]

theorem x_table_watch_in_multi (X : XBackend σ κ γ ρ ν) (okR : ρ) (t : ExTxn κ γ ν) (s : σ)
    (ks : List κ) (h : t.inTxn = true) :
    xstep X okR t s (.watch ks) = (t, s, .err .watchInMulti) := by
  simp [xstep, xstepWith, h]

theorem x_table_without_multi (X : XBackend σ κ γ ρ ν) (okR : ρ) (t : ExTxn κ γ ν) (s : σ)
    (h : t.inTxn = false) :
    xstep X okR t s .exec = (t, s, .err .execWithoutMulti) ∧
    xstep X okR t s .discard = (t, s, .err .discardWithoutMulti) := by
  simp [xstep, xstepWith, h]

/-- at the executor level there is no queue-time rejection: every command, unknown ones
    included, is queued (no EXECABORT on this path) -/
theorem x_table_everything_is_queued (X : XBackend σ κ γ ρ ν) (okR : ρ) (t : ExTxn κ γ ν) (s : σ)
    (c : γ) (h : t.inTxn = true) :
    xstep X okR t s (.cmd c) = ({ t with queue := t.queue ++ [.cmd c] }, s, .queued) := by
  simp [xstep, xstepWith, h]

end

/-- **full** (`C05_x_rewatch_keeps_first`, current tree): `WATCH k; …; WATCH k; MULTI; EXEC` —
    a change of `k` since the FIRST watch aborts EXEC -/
theorem x_rewatch_keeps_first : C05_x_rewatch_keeps_first := by
  intro s0 s1 s k
  simp [xstepWith, watchPut, putIfAbsent, ExTxn.idle, KV.xbackend]
  intro h
  simp [h]

/-- PINNED commit (before the `fix:` commit): `SET k 0; WATCH k; SET k 1; WATCH k; MULTI; …;
    EXEC` succeeded — the second WATCH overwrote the snapshot (`HashMap::insert`) -/
theorem x_rewatch_forgets_change_pinned_counterexample : ¬ C05_x_rewatch_keeps_first_of false := by
  intro h
  have := h [(1, .str [48])] [(1, .str [49])] [(1, .str [49])] 1 (by decide)
  revert this
  decide

/-! ### executor level on the concrete store: every type, scores included -/

/-- the executor-level WATCH of a backend that compares snapshots through `proj` detects EVERY
    change of the stored value of a watched key (string, list, hash, set, sorted set incl. its
    scores, creation, deletion, type change) -/
def C05_x_detects_every_change (proj : KV.Val → KV.Val) : Prop :=
  ∀ (t : ExTxn Nat KV.Cmd KV.Val) (s0 s : KV.Store) (k : Nat),
    t.inTxn = true → (k, (NMap.get s0 k).map proj) ∈ t.watched →
    NMap.get s k ≠ NMap.get s0 k →
    xstep (KV.xbackendProj proj) (.simple .ok) t s .exec = (ExTxn.idle, s, .nil)

/-- **full**: the current code compares the whole `Value` (`proj = id`) -/
theorem x_detects_every_change : C05_x_detects_every_change id := by
  intro t s0 s k hin hm hne
  apply x_watch_detects_change (KV.xbackendProj id) (.simple .ok) t s k _ hin hm
  simpa [KV.xbackendProj] using hne

/-- on the concrete store, with `k` watched at `s0`: EXEC aborts ⇔ the value of `k` differs —
    for ALL five types, scores of a sorted set included (contrast `watch_detects_iff` for the
    connection level, where every non-string → non-string change is invisible) -/
theorem x_watch_detects_iff_kv (t : ExTxn Nat KV.Cmd KV.Val) (s0 s : KV.Store) (k : Nat)
    (hin : t.inTxn = true) (hw : t.watched = [(k, NMap.get s0 k)]) :
    (xstep KV.xbackend (.simple .ok) t s .exec).2.2 = .nil ↔ NMap.get s k ≠ NMap.get s0 k := by
  rw [x_watch_detects_iff KV.xbackend (.simple .ok) t s hin, hw]
  simp [KV.xbackend]

/-- an equality on sorted sets that ignores the scores (same cardinality, same members in the
    same rank order) breaks it: `ZADD board 10 alice 20 bob; WATCH board; ZADD board 15 alice;
    MULTI; SET winner bob; EXEC` runs the queue although the value of `board` changed -/
theorem x_score_blind_equality_counterexample : ¬ C05_x_detects_every_change KV.blindScores := by
  intro h
  have := h { inTxn := true, queue := [.cmd (.set 9 [98])],
              watched := [(1, (some (KV.Val.zset [(5, 10), (6, 20)])).map KV.blindScores)] }
    [(1, .zset [(5, 10), (6, 20)])] [(1, .zset [(5, 15), (6, 20)])] 1 rfl (by decide) (by decide)
  revert this
  decide

/-- the same input on the current model: detected; and one witness per type of a change the
    executor level sees although the connection level (GET-reply snapshot) does not -/
example :
    let w (v : KV.Val) : ExTxn Nat KV.Cmd KV.Val :=
      { inTxn := true, queue := [.cmd (.set 9 [98])], watched := [(1, some v)] }
    let nil (v v' : KV.Val) : Bool :=
      decide ((xstep KV.xbackend (.simple .ok) (w v) [(1, v')] .exec).2.2 = .nil)
    -- sorted set: score-only change keeping the rank order; with reorder; one-member set
    nil (.zset [(5, 10), (6, 20)]) (.zset [(5, 15), (6, 20)]) = true ∧
    nil (.zset [(5, 10), (6, 20)]) (.zset [(5, 25), (6, 20)]) = true ∧
    nil (.zset [(5, 10)]) (.zset [(5, 11)]) = true ∧
    -- hash: field value change; set: member replaced (same cardinality); list: same-length
    nil (.hash [(7, [1])]) (.hash [(7, [2])]) = true ∧
    nil (.set [3]) (.set [4]) = true ∧
    nil (.list [[1], [2]]) (.list [[9], [2]]) = true ∧
    -- type change, and the unchanged value
    nil (.list [[1]]) (.set [1]) = true ∧
    nil (.zset [(5, 10)]) (.zset [(5, 10)]) = false := by decide

/-! ## non-vacuity: concrete, non-trivial instances of the hypotheses -/

/-- `queued_has_no_effect`: a body with data commands, an unknown command, an arity error, a
    nested MULTI, a WATCH, an UNWATCH and a connection-level command -/
example :
    let body : List (Input Nat KV.Cmd × List (List KV.Cmd)) :=
      [(.cmd (.set 1 [49]), []), (.unknown .unknown, []), (.parseErr, []), (.multi, []),
       (.watch [1], []), (.unwatch, []), (.connLocal (.loc .auth), []), (.cmd (.rpush 2 [[1]]), [])]
    (∀ e ∈ body, endsTxn e.1 = false) ∧
    run KV.backend { inTxn := true, queue := [], errors := false, watched := [] } [(1, .str [48])] body
      = ({ inTxn := true, queue := [.set 1 [49], .unwatch, .loc .auth, .rpush 2 [[1]]],
           errors := true, watched := [] }, [(1, .str [48])],
         [.queued, .err .unknownInMulti, .err .parse, .err .nestedMulti, .err .watchInMulti,
          .queued, .queued, .queued]) := by decide

/-- `txn_equals_sequential_partial` / `exec_equals_outside_partial`: a body that includes a
    command failing at run time (LLEN on a string) and a type change -/
example :
    run KV.backend ConnTxn.idle [(1, .str [48])]
      [(.multi, []), (.cmd (.append 1 [49]), []), (.cmd (.llen 1), []), (.cmd (.del 1), []),
       (.cmd (.rpush 1 [[7]]), []), (.cmd (.lrange 1), []), (.exec, [[], []])]
    = (ConnTxn.idle, [(1, .list [[7]])],
       [.ok, .queued, .queued, .queued, .queued, .queued,
        .results [.int 2, .err .wrongType, .int 1, .int 1, .arr [[7]]]]) ∧
    NoInterleaving ([[], []] : List (List KV.Cmd)) := by decide

/-- `exec_equals_sequential_partial` with a satisfied watch -/
example :
    let t : ConnTxn Nat KV.Cmd KV.Rep :=
      { inTxn := true, queue := [.set 1 [50]], errors := false, watched := [(1, .bulk (some [48]))] }
    (∀ p ∈ t.watched, KV.backend.getReply [(1, .str [48])] p.1 = p.2) ∧
    step KV.backend [] t [(1, .str [48])] .exec = (ConnTxn.idle, [(1, .str [50])], .results [.simple .ok]) := by
  decide

/-- `watch_detects_change_partial` / `_strings_partial`: string overwritten; key deleted; string
    replaced by a list -/
example :
    let t : ConnTxn Nat KV.Cmd KV.Rep :=
      { inTxn := true, queue := [.set 2 [50]], errors := false, watched := [(1, .bulk (some [48]))] }
    step KV.backend [] t [(1, .str [49])] .exec = (ConnTxn.idle, [(1, .str [49])], .nil) ∧
    step KV.backend [] t [] .exec = (ConnTxn.idle, [], .nil) ∧
    step KV.backend [] t [(1, .list [[48]])] .exec = (ConnTxn.idle, [(1, .list [[48]])], .nil) ∧
    strOrMissing [(1, .str [48])] 1 = true := by decide

/-- `watch_txn_detects_change_partial`: WATCH k; other client SET k; own GET; MULTI; SET x;
    other client APPEND k; EXEC → nil, nothing applied -/
example :
    let mid : List (Event Nat KV.Cmd) := [.other (.set 1 [49]), .inp (.cmd (.get 1)) []]
    let body : List (Event Nat KV.Cmd) := [.inp (.cmd (.set 2 [50])) [], .other (.append 1 [50])]
    let r := runE KV.backend ConnTxn.idle [(1, .str [48])]
      (.inp (.watch [1]) [] :: mid ++ [.inp .multi []] ++ body)
    (∀ e ∈ mid, keepsOutside e = true) ∧ (∀ e ∈ body, keepsInside e = true) ∧
    KV.backend.getReply r.2 1 ≠ KV.backend.getReply [(1, .str [48])] 1 ∧
    step KV.backend [] r.1 r.2 .exec = (ConnTxn.idle, [(1, .str [49, 50])], .nil) := by decide

/-- `execabort_leaves_store` / `watchfail_leaves_store` under a NON-empty schedule: the other
    client's write is there, the transaction's is not -/
example :
    step KV.backend [[.set 3 [7]]]
      { inTxn := true, queue := [.set 1 [50]], errors := true, watched := [] } [] .exec
      = (ConnTxn.idle, [(3, .str [7])], .err .execAbort) ∧
    step KV.backend [[.set 1 [7]]]
      { inTxn := true, queue := [.set 2 [50]], errors := false, watched := [(1, .bulk none)] } [] .exec
      = (ConnTxn.idle, [(1, .str [7])], .nil) := by decide

/-- executor level: a watched LIST key that another command pushes to IS detected there -/
example :
    let t : ExTxn Nat KV.Cmd KV.Val :=
      { inTxn := true, queue := [.cmd (.set 2 [49])], watched := [(1, some (.list [[49]]))] }
    xstep KV.xbackend (.simple .ok) t [(1, .list [[49], [50]])] .exec
      = (ExTxn.idle, [(1, .list [[49], [50]])], .nil) ∧
    xstep KV.xbackend (.simple .ok) t [(1, .list [[49]])] .exec
      = (ExTxn.idle, [(1, .list [[49]]), (2, .str [49])], .results [.simple .ok]) := by decide

end C05
end RedisVerif
