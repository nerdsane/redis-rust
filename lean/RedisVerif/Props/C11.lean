import RedisVerif.Model.Stream
import RedisVerif.Lemmas.Stream
import RedisVerif.Lemmas.Apply

/-!
# C11 — Recovery returns exactly the merge of everything persisted, idempotently

Model: `Stream.recover`, `Stream.recoverWithWalWith` (M4, `Model/Stream.lean`) over
`RV.merge` (M1).  What the node ends up with is `foldState r.updates`: checkpoint entries,
then the deltas, applied with `apply_remote_delta` (= per-key fold of `RV.merge`).

Under the manifest invariant recovery returns, as a set, the checkpoint entries plus the deltas
of every listed segment; on the carrier where C07 proves the three merge laws (`Coherent`,
decidable) a fold depends only on that set (`FoldACI`): hence exactness, independence of order,
tolerance of duplicates, idempotence.  The application step
`ReplicatedShardedState::apply_recovered_state` (`Model/Apply.lean`, on top of M2) is a per-key
fold of the same updates, for every router.

Two places of the code are modelled in two variants.  `Manifest.compactSegmentsWith bump`:
the pinned commit's `compact_segments` does not advance `next_segment_id` (`bump = false`) and
keeps the invariant only when the checkpoint covers allocated ids; the current tree bumps.
`recoverWithWalWith hwmFilter`: the pinned commit drops WAL entries below a high-water mark
(`hwmFilter = true`); the current tree replays every entry.  The counterexamples for the pinned
values are at the end of the file.
-/
namespace RedisVerif
namespace C11

open _root_.RedisVerif.Stream FoldACI

/-! ## the manifest invariant -/

/-- `Manifest::verify_invariants` (sorted strictly by id, every id below `next`, no segment at or
    below the checkpoint) plus the conjunct that makes it inductive: the checkpoint only covers
    ids that have been allocated. -/
def ManifestInv (m : Manifest) : Prop :=
  m.segments.Pairwise (fun a b => a.id < b.id) ∧
  (∀ s ∈ m.segments, s.id < m.next) ∧
  (∀ c, m.checkpoint = some c → c.last < m.next ∧ ∀ s ∈ m.segments, s.id > c.last)

instance (m : Manifest) : Decidable (ManifestInv m) :=
  inferInstanceAs (Decidable (_ ∧ _ ∧ ∀ c ∈ m.checkpoint, c.last < m.next ∧ ∀ s ∈ m.segments, s.id > c.last))

theorem manifest_inv_new (rid : Nat) : ManifestInv (Manifest.new rid) := by
  refine ⟨List.Pairwise.nil, ?_, ?_⟩
  · intro s hs; cases hs
  · intro c hc; cases hc

theorem manifest_inv_allocate {m : Manifest} (h : ManifestInv m) : ManifestInv m.allocate.2 := by
  obtain ⟨h1, h2, h3⟩ := h
  refine ⟨h1, ?_, ?_⟩
  · intro s hs; exact Nat.lt_succ_of_lt (h2 s hs)
  · intro c hc
    exact ⟨Nat.lt_succ_of_lt (h3 c hc).1, (h3 c hc).2⟩

/-- `add_segment` preserves the invariant for a fresh id above the checkpoint -/
theorem manifest_inv_addSegment {m : Manifest} {info : SegInfo} (h : ManifestInv m)
    (hne : ∀ s ∈ m.segments, s.id ≠ info.id)
    (hchk : ∀ c, m.checkpoint = some c → c.last < info.id) :
    ManifestInv (m.addSegment info) := by
  obtain ⟨h1, h2, h3⟩ := h
  refine ⟨pairwise_insertSeg h1 hne, ?_, ?_⟩
  · intro s hs
    simp only [Manifest.addSegment] at hs ⊢
    rcases (mem_insertSeg info m.segments s).mp hs with h | h
    · subst h; split <;> omega
    · have := h2 s h; split <;> omega
  · intro c hc
    have hc' : m.checkpoint = some c := hc
    simp only [Manifest.addSegment]
    refine ⟨?_, ?_⟩
    · have := (h3 c hc').1; split <;> omega
    · intro s hs
      rcases (mem_insertSeg info m.segments s).mp hs with h | h
      · subst h; exact hchk c hc'
      · exact (h3 c hc').2 s h

/-- what `flush` does to the manifest: allocate, then add the segment under that id -/
theorem manifest_inv_flush_step {m : Manifest} (h : ManifestInv m) (count size lo hi : Nat) :
    ManifestInv (m.allocate.2.addSegment
      { id := m.allocate.1, count := count, size := size, minTs := lo, maxTs := hi }) := by
  apply manifest_inv_addSegment (manifest_inv_allocate h)
  · intro s hs
    have := h.2.1 s hs
    show s.id ≠ m.next
    omega
  · intro c hc
    exact (h.2.2 c hc).1

/-- `compact_segments` keeps the invariant when the checkpoint covers only allocated ids
    afterwards: by hypothesis, or because `next_segment_id` is bumped past it -/
theorem manifest_inv_compactSegmentsWith {m : Manifest} (h : ManifestInv m) (bump : Bool) (c : ChkInfo)
    (hc : bump = true ∨ c.last < m.next) : ManifestInv (m.compactSegmentsWith bump c) := by
  obtain ⟨h1, h2, _⟩ := h
  have hn : m.next ≤ (m.compactSegmentsWith bump c).next ∧ c.last < (m.compactSegmentsWith bump c).next := by
    simp only [Manifest.compactSegmentsWith]
    rcases hc with rfl | hc
    · simp only [if_true]; omega
    · split <;> omega
  refine ⟨List.Pairwise.filter _ h1, fun s hs => Nat.lt_of_lt_of_le (h2 s (List.mem_filter.mp hs).1) hn.1, ?_⟩
  intro c' hc'
  cases Option.some.inj hc'
  exact ⟨hn.2, fun s hs => by simpa using (List.mem_filter.mp hs).2⟩

/-- `compact_segments` of the PINNED commit (no bump) preserves the invariant only when the
    checkpoint covers allocated ids (`c.last < next`); see
    `checkpoint_before_first_flush_counterexample` for the remaining case -/
theorem manifest_inv_compactSegments_pinned {m : Manifest} (h : ManifestInv m) (c : ChkInfo)
    (hc : c.last < m.next) : ManifestInv (m.compactSegmentsWith false c) :=
  manifest_inv_compactSegmentsWith h false c (Or.inr hc)

/-- with `next_segment_id = max(next_segment_id, last_segment_id + 1)` it is unconditional -/
theorem manifest_inv_compactSegments_repaired {m : Manifest} (h : ManifestInv m) (c : ChkInfo) :
    ManifestInv (m.compactSegmentsWith true c) :=
  manifest_inv_compactSegmentsWith h true c (Or.inl rfl)

/-- **`compact_segments` of the current tree preserves the manifest invariant**, for every
    checkpoint (also one taken before the first flush) -/
theorem manifest_inv_compactSegments {m : Manifest} (h : ManifestInv m) (c : ChkInfo) :
    ManifestInv (m.compactSegments c) :=
  manifest_inv_compactSegments_repaired h c

/-! ## what recovery selects -/

/-- the checkpoint entries the manifest points to -/
def chkEntries (st : Store) (m : Manifest) : List Delta :=
  match m.checkpoint with
  | none => []
  | some c =>
    match NMap.get st (chkName c.name) with
    | some (.checkpoint state _) => state
    | _ => []

/-- everything persisted under the manifest: checkpoint entries and the deltas of EVERY listed segment -/
def persisted (st : Store) (m : Manifest) : List Delta := chkEntries st m ++ segDeltas st m.segments

theorem mem_segmentsToLoad {m : Manifest} (h : ManifestInv m) (s : SegInfo) :
    s ∈ segmentsToLoad m ↔ s ∈ m.segments := by
  unfold segmentsToLoad
  rw [mem_sortBy]
  cases hc : m.checkpoint with
  | none => rfl
  | some c =>
    simp only [List.mem_filter]
    constructor
    · exact fun h => h.1
    · intro hs
      exact ⟨hs, by simpa using (h.2.2 c hc).2 s hs⟩

theorem recover_manifest_updates {st : Store} {rid : Nat} {r : Recovered} (h : recover st rid = .ok r) :
    r.updates = chkEntries st r.manifest ++ segDeltas st (segmentsToLoad r.manifest) := by
  unfold recover at h
  split at h
  · cases h
  · rename_i m hm
    split at h
    · cases h
    · rename_i chk hchk
      split at h
      · cases h
      · rename_i ds hds
        cases h
        simp only [Recovered.updates]
        rw [loadSegments_ok hds]
        congr 1
        unfold chkEntries
        cases hc : m.checkpoint with
        | none =>
          simp only [hc] at hchk
          cases hchk
          rfl
        | some c =>
          simp only [hc] at hchk
          split at hchk
          · rename_i state lst hg
            cases hchk
            simp [hg]
          · cases hchk
          · cases hchk

/-- under the manifest invariant the updates recovery returns are, as a
    set, exactly the checkpoint entries plus the deltas of every listed segment — no listed
    segment is skipped, whatever the stamps (`min_timestamp` only orders the replay). -/
theorem recover_selects_all {st : Store} {rid : Nat} {r : Recovered}
    (h : recover st rid = .ok r) (hinv : ManifestInv r.manifest) :
    ∀ d, d ∈ r.updates ↔ d ∈ persisted st r.manifest := by
  intro d
  rw [recover_manifest_updates h]
  unfold persisted
  simp only [List.mem_append]
  rw [mem_segDeltas_congr (mem_segmentsToLoad hinv) d]

/-! ## exactness, order, duplicates, repetition -/

/-- full-strength statement: the recovered state is exactly the merge of the persisted updates,
    whatever order / multiplicity the ground truth is listed in -/
def C11_recover_exact : Prop :=
  ∀ (st : Store) (rid : Nat) (r : Recovered), recover st rid = .ok r → ManifestInv r.manifest →
    Coherent (persisted st r.manifest) →
    ∀ truth : List Delta, (∀ d, d ∈ truth ↔ d ∈ persisted st r.manifest) →
      foldState r.updates = foldState truth

theorem coherent_updates {st : Store} {rid : Nat} {r : Recovered} (h : recover st rid = .ok r)
    (hinv : ManifestInv r.manifest) (hc : Coherent (persisted st r.manifest)) : Coherent r.updates :=
  coherent_of_subset hc (fun d hd => (recover_selects_all h hinv d).mp hd)

theorem recover_exact : C11_recover_exact := by
  intro st rid r h hinv hc truth htruth
  exact foldState_eq_of_same_set (coherent_updates h hinv hc)
    (fun d => by rw [recover_selects_all h hinv d, htruth d])

/-- two store layouts holding the same set of updates (segments permuted, split differently,
    updates moved between checkpoint and segments, stamps interleaved across segments) recover to
    the same state -/
theorem recover_order_independent {st st' : Store} {rid rid' : Nat} {r r' : Recovered}
    (h : recover st rid = .ok r) (h' : recover st' rid' = .ok r')
    (hinv : ManifestInv r.manifest) (hinv' : ManifestInv r'.manifest)
    (hc : Coherent (persisted st r.manifest))
    (hsame : ∀ d, d ∈ persisted st r.manifest ↔ d ∈ persisted st' r'.manifest) :
    foldState r.updates = foldState r'.updates :=
  recover_exact st rid r h hinv hc r'.updates (fun d => by rw [recover_selects_all h' hinv' d, hsame d])

/-- duplicated updates (the same delta in several segments, in the checkpoint and a segment, the
    whole recovery result replayed again behind itself) do not change the state -/
theorem recover_duplicate_tolerant {st : Store} {rid : Nat} {r : Recovered}
    (h : recover st rid = .ok r) (hinv : ManifestInv r.manifest)
    (hc : Coherent (persisted st r.manifest)) (dups : List Delta) (hd : ∀ d ∈ dups, d ∈ r.updates) :
    foldState (r.updates ++ dups) = foldState r.updates :=
  foldState_append_sub (coherent_updates h hinv hc) hd

/-- repeating recovery on a node that already holds its result (and possibly more: `extra`)
    changes nothing, however often -/
theorem recover_idempotent {r : Recovered} (extra : List Delta)
    (hc : Coherent (extra ++ r.updates)) :
    applyAll (foldState (extra ++ r.updates)) r.updates = foldState (extra ++ r.updates) := by
  rw [← foldState_append]
  exact foldState_append_sub hc (fun d hd => List.mem_append.mpr (Or.inr hd))

/-- nothing recovery returns is lost in the fold: every update is absorbed by the state -/
theorem recover_absorbs_every_update {st : Store} {rid : Nat} {r : Recovered}
    (h : recover st rid = .ok r) (hinv : ManifestInv r.manifest)
    (hc : Coherent (persisted st r.manifest)) {k : Nat} {v : RV}
    (hp : (k, v) ∈ persisted st r.manifest) :
    ∃ u, NMap.get (foldState r.updates) k = some u ∧ RV.merge v u = u :=
  absorbed_of_mem (coherent_updates h hinv hc) ((recover_selects_all h hinv (k, v)).mpr hp)


/-! ## the applied state: `ReplicatedShardedState::apply_recovered_state` -/

/-- the checkpoint's value of a key (a `HashMap` has at most one; of a list the last wins) -/
def chkValue (chk : Option (List Delta)) (k : Nat) : Option RV := (vals k (chk.getD [])).getLast?

/-- full-strength statement: on a fresh node, for every router, every key ends up with the
    checkpoint value of the key (if any) with the key's deltas merged in, in order -/
def C11_apply_recovered_equals_fold : Prop :=
  ∀ (route : Nat → Nat) (rid : Nat) (causal : Bool) (chk : Option (List Delta)) (deltas : List Delta) (k : Nat),
    (applyRecoveredState route (Node.fresh rid causal) chk deltas).value route k =
      match chkValue chk k with
      | some c => some ((vals k deltas).foldl RV.merge c)
      | none => fold1 RV.merge (vals k deltas)

theorem fresh_value (route : Nat → Nat) (rid : Nat) (causal : Bool) (k : Nat) :
    (Node.fresh rid causal).value route k = none := rfl

/-- no entry of the checkpoint and no delta is skipped or
    re-ordered per key by the application step, whatever the router and the iteration order of
    the checkpoint map -/
theorem apply_recovered_equals_fold : C11_apply_recovered_equals_fold := by
  intro route rid causal chk deltas k
  unfold applyRecoveredState chkValue
  rw [value_foldl_deltas, value_foldl_chk, fresh_value]
  cases (vals k (chk.getD [])).getLast? with
  | some c => exact foldl_opt_some RV.merge _ c
  | none => exact (fold1_eq_foldl RV.merge _).symm

/-- with a checkpoint that is a map (distinct keys) the applied state is, key by key, the fold
    of the recovered updates -/
theorem apply_recovered_equals_foldState (route : Nat → Nat) (rid : Nat) (causal : Bool)
    (chk : Option (NMap RV)) (hwf : ∀ m, chk = some m → NMap.WF m) (deltas : List Delta) (k : Nat) :
    (applyRecoveredState route (Node.fresh rid causal) chk deltas).value route k =
      NMap.get (foldState (chk.getD [] ++ deltas)) k := by
  rw [apply_recovered_equals_fold, get_foldState, vals_append]
  unfold chkValue
  have hw : NMap.WF (chk.getD []) := by
    cases chk with
    | none => exact NMap.wf_nil
    | some m => exact hwf m rfl
  rw [vals_of_wf hw]
  cases NMap.get (chk.getD []) k <;> simp [fold1]

/-- **recovery end to end** (`StreamingIntegration::recover` on a fresh node): every key holds
    exactly the merge of everything persisted for it — independent of the router, of segment
    order, of how updates are split over checkpoint and segments, and of duplicated updates -/
theorem recover_and_apply_exact {st : Store} {rid : Nat} {r : Recovered} (route : Nat → Nat) (causal : Bool)
    (h : recover st rid = .ok r) (hinv : ManifestInv r.manifest)
    (hwf : ∀ m, r.chk = some m → NMap.WF m)
    (hc : Coherent (persisted st r.manifest))
    (truth : List Delta) (htruth : ∀ d, d ∈ truth ↔ d ∈ persisted st r.manifest) (k : Nat) :
    (applyRecoveredState route (Node.fresh rid causal) r.chk r.deltas).value route k =
      NMap.get (foldState truth) k := by
  rw [apply_recovered_equals_foldState route rid causal r.chk hwf r.deltas k]
  have := recover_exact st rid r h hinv hc truth htruth
  unfold Recovered.updates at this
  rw [this]

/-- applying the recovered state a second time (recovery
    repeated on a node that already holds its result) changes no key -/
theorem apply_recovered_idempotent (route : Nat → Nat) (rid : Nat) (causal : Bool)
    (chk : Option (List Delta)) (deltas : List Delta) (hc : Coherent deltas) (k : Nat) :
    (applyRecoveredState route (applyRecoveredState route (Node.fresh rid causal) chk deltas) chk deltas).value route k
      = (applyRecoveredState route (Node.fresh rid causal) chk deltas).value route k := by
  unfold applyRecoveredState
  rw [value_foldl_deltas, value_foldl_chk, value_foldl_deltas, value_foldl_chk, fresh_value]
  cases (vals k (chk.getD [])).getLast? with
  | some c => rfl
  | none =>
    -- no checkpoint value: the key's deltas folded in twice, in the lifted merge (absent = identity)
    exact ((carrierOf deltas hc).aci k).opt.fold_twice (ACI.opt_none _)
      (ACI.opt_map_some (inCar_vals (inCar_of_coherent hc) k))

/-- non-vacuity: the checkpoint holds `session` = tombstone @10, a
    later segment holds `session` = "alive" @5: the applied value is the tombstone -/
example : (applyRecoveredState (fun k => k % 16) (Node.fresh 1 false)
      (some [(1, RV.withValue [107] ⟨3, 1⟩), (2, { crdt := .lww (Lww.delete ⟨10, 1⟩), vc := none, expiry := none, ts := ⟨10, 1⟩, rf := none })])
      [(2, RV.withValue [97] ⟨5, 1⟩), (3, RV.withValue [111] ⟨7, 1⟩)]).value (fun k => k % 16) 2
    = some { crdt := .lww (Lww.delete ⟨10, 1⟩), vc := none, expiry := none, ts := ⟨10, 1⟩, rf := none } := by
  decide

/-! ## WAL replay -/

/-- full-strength statement, parameterised by the code variant: no WAL entry is dropped -/
def C11_wal_complete (hwmFilter : Bool) : Prop :=
  ∀ (st : Store) (rid : Nat) (wal : List (Nat × Delta)) (r : Recovered),
    recoverWithWalWith hwmFilter st rid wal = .ok r → ∀ e ∈ wal, e.2 ∈ r.deltas

/-- **proved for the code after the `fix:` commit** (replay every WAL entry; merge is idempotent, so entries
    already contained in segments are harmless: `recover_duplicate_tolerant`) -/
theorem recover_with_wal_complete : C11_wal_complete false := by
  intro st rid wal r h e he
  unfold recoverWithWalWith at h
  split at h
  · cases h
  · rename_i r0 _
    cases h
    simp only [Bool.false_eq_true, if_false, List.mem_append, List.mem_map]
    exact Or.inr ⟨e, he, rfl⟩

/-- **no WAL entry is dropped by `recover_with_wal` of the current tree** -/
theorem recover_with_wal_complete_current (st : Store) (rid : Nat) (wal : List (Nat × Delta))
    (r : Recovered) (h : recoverWithWal st rid wal = .ok r) : ∀ e ∈ wal, e.2 ∈ r.deltas :=
  recover_with_wal_complete st rid wal r h

def hwmOf (m : Manifest) : Nat := m.segments.foldl (fun a s => Max.max a s.maxTs) 0

/-- decidable hypothesis under which the pinned commit's filter is complete -/
def WalStampsAboveHwm (st : Store) (rid : Nat) (wal : List (Nat × Delta)) : Prop :=
  match recover st rid with
  | .ok r => ∀ e ∈ wal, e.1 ≥ hwmOf r.manifest
  | .error _ => True

instance (st : Store) (rid : Nat) (wal : List (Nat × Delta)) : Decidable (WalStampsAboveHwm st rid wal) := by
  unfold WalStampsAboveHwm
  split <;> infer_instance

/-- **partial, pinned commit (with the high-water-mark filter)**: complete when every WAL entry is stamped at or above the
    greatest `max_timestamp` of the listed segments.  Missing for the full statement: entries of
    a shard / replica whose clock is behind another one's flushed maximum —
    `hwm_filter_counterexample`. -/
theorem recover_with_wal_complete_partial (st : Store) (rid : Nat) (wal : List (Nat × Delta))
    (r : Recovered) (hw : WalStampsAboveHwm st rid wal)
    (h : recoverWithWalWith true st rid wal = .ok r) : ∀ e ∈ wal, e.2 ∈ r.deltas := by
  intro e he
  unfold recoverWithWalWith at h
  unfold WalStampsAboveHwm at hw
  split at h
  · cases h
  · rename_i r0 hr0
    rw [hr0] at hw
    cases h
    simp only [if_true, List.mem_append, List.mem_map, List.mem_filter]
    refine Or.inr ⟨e, ⟨he, ?_⟩, rfl⟩
    have := hw e he
    simpa [hwmOf] using this

/-- with every WAL entry replayed the recovered state is exactly the merge of everything
    persisted in the object store and in the WAL -/
theorem recover_with_wal_exact {st : Store} {rid : Nat} {wal : List (Nat × Delta)} {r : Recovered}
    (h : recoverWithWalWith false st rid wal = .ok r) (hinv : ManifestInv r.manifest)
    (hc : Coherent (persisted st r.manifest ++ wal.map (·.2)))
    (truth : List Delta)
    (htruth : ∀ d, d ∈ truth ↔ d ∈ persisted st r.manifest ++ wal.map (·.2)) :
    foldState r.updates = foldState truth := by
  unfold recoverWithWalWith at h
  split at h
  · cases h
  · rename_i r0 hr0
    simp only [Bool.false_eq_true, if_false] at h
    cases h
    have hmem : ∀ d, d ∈ ({ r0 with deltas := r0.deltas ++ wal.map (·.2) } : Recovered).updates ↔
        d ∈ persisted st r0.manifest ++ wal.map (·.2) := by
      intro d
      show d ∈ _ ++ (r0.deltas ++ _) ↔ _
      rw [← List.append_assoc]
      exact List.mem_append.trans ((or_congr_left (recover_selects_all hr0 hinv d)).trans List.mem_append.symm)
    exact foldState_eq_of_same_set (coherent_of_subset hc (fun d hd => (hmem d).mp hd))
      (fun d => by rw [hmem d, htruth d])

/-- the current tree: the state recovered with WAL replay is exactly the merge of everything
    persisted in the object store and in the WAL -/
theorem recover_with_wal_exact_current {st : Store} {rid : Nat} {wal : List (Nat × Delta)} {r : Recovered}
    (h : recoverWithWal st rid wal = .ok r) (hinv : ManifestInv r.manifest)
    (hc : Coherent (persisted st r.manifest ++ wal.map (·.2)))
    (truth : List Delta)
    (htruth : ∀ d, d ∈ truth ↔ d ∈ persisted st r.manifest ++ wal.map (·.2)) :
    foldState r.updates = foldState truth :=
  recover_with_wal_exact h hinv hc truth htruth

/-! ## counterexamples (pinned commit; both defects are fixed in the current tree) -/

def lwwAt (v t rid : Nat) : RV := RV.withValue [v] ⟨t, rid⟩

/-- store of the §6.1 replay: one flushed segment of shard A holding key 97 (`a`) at stamp 1000 -/
def hwmStore : Store :=
  NMap.ofList
    [(manifestName, .manifest
        { version := 1, rid := 1, checkpoint := none, next := 1,
          segments := [{ id := 0, count := 1, size := 100, minTs := 1000, maxTs := 1000 }] }),
     (segName 0, .segment [(97, lwwAt 1 1000 1)])]

/-- the WAL still holds an entry of shard B (key 98, `b`) stamped 5, not yet flushed -/
def hwmWal : List (Nat × Delta) := [(5, (98, lwwAt 2 5 1))]

/-- **Fixed defect C11:wal-hwm-filter** (see known_findings.json, `fixed`).  The high-water-mark
    filter of the pinned commit's `recover_with_wal`
    drops a WAL entry whose stamp is below the greatest stamp of any flushed segment, although
    nothing else holds that update. -/
theorem hwm_filter_counterexample : ¬ C11_wal_complete true := by
  intro h
  have := h hwmStore 1 hwmWal
    { manifest := { version := 1, rid := 1, checkpoint := none, next := 1,
                    segments := [{ id := 0, count := 1, size := 100, minTs := 1000, maxTs := 1000 }] },
      chk := none, deltas := [(97, lwwAt 1 1000 1)] } (by rfl) (5, (98, lwwAt 2 5 1)) (by decide)
  revert this
  decide

/-- the same layout is recovered completely by the current tree -/
example : OkAnd (recoverWithWal hwmStore 1 hwmWal)
    (fun r => foldState r.updates = [(97, lwwAt 1 1000 1), (98, lwwAt 2 5 1)]) := by decide

/-- manifest history: fresh manifest, checkpoint taken before the first flush
    (`last_segment_id = 0`, the only value the API can be given), then the first flush -/
def chkFirstManifest (bump : Bool) : Manifest :=
  let m1 := (Manifest.new 1).compactSegmentsWith bump { name := 7, last := 0 }
  m1.allocate.2.addSegment { id := m1.allocate.1, count := 1, size := 100, minTs := 3, maxTs := 3 }

def chkFirstStore (bump : Bool) : Store :=
  NMap.ofList
    [(manifestName, .manifest (chkFirstManifest bump)),
     (segName (chkFirstManifest bump).segments.head!.id, .segment [(97, lwwAt 1 3 1)]),
     (chkName 7, .checkpoint [] 0)]

/-- **Fixed defect C11:checkpoint-before-first-flush** (see known_findings.json, `fixed`).  Segment
    ids start at 0 and the pinned commit's `compact_segments` does not advance `next_segment_id`: the first flush after a checkpoint
    taken on a manifest without segments gets id 0, breaks the manifest invariant
    (`debug_assert` only) and is skipped by recovery's `id > last_segment_id` filter although the
    manifest lists it. -/
theorem checkpoint_before_first_flush_counterexample :
    ¬ ManifestInv (chkFirstManifest false) ∧
    OkAnd (recover (chkFirstStore false) 1)
      (fun r => (97, lwwAt 1 3 1) ∈ persisted (chkFirstStore false) r.manifest ∧ r.updates = []) := by
  decide

/-- in the current tree the same history keeps the invariant and loses nothing -/
example : ManifestInv (chkFirstManifest true) ∧
    OkAnd (recover (chkFirstStore true) 1) (fun r => r.updates = [(97, lwwAt 1 3 1)]) := by
  decide

/-! ## non-vacuity -/

/-- three replicas / interleaved clocks: segment 1 is older by stamp than segment 0, both hold key
    97, the checkpoint holds key 98 that segment 1 updates with a hash-free LWW write -/
def exStore : Store :=
  NMap.ofList
    [(manifestName, .manifest
        { version := 5, rid := 1, checkpoint := some { name := 9, last := 3 }, next := 6,
          segments := [{ id := 4, count := 2, size := 10, minTs := 40, maxTs := 50 },
                       { id := 5, count := 2, size := 10, minTs := 7, maxTs := 45 }] }),
     (segName 4, .segment [(97, lwwAt 1 40 1), (99, lwwAt 3 50 2)]),
     (segName 5, .segment [(97, lwwAt 2 7 3), (98, lwwAt 4 45 3)]),
     (chkName 9, .checkpoint [(98, lwwAt 5 20 2)] 3)]

example : OkAnd (recover exStore 1) (fun r =>
      ManifestInv r.manifest ∧ Coherent (persisted exStore r.manifest) ∧
      r.updates.length = 5 ∧
      foldState r.updates = [(97, lwwAt 1 40 1), (98, lwwAt 4 45 3), (99, lwwAt 3 50 2)] ∧
      foldState r.updates.reverse = foldState r.updates) := by
  decide

example : WalStampsAboveHwm exStore 1 [(50, (100, lwwAt 9 50 1))] ∧
    ¬ WalStampsAboveHwm hwmStore 1 hwmWal := by decide

end C11
end RedisVerif
