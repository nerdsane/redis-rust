import RedisVerif.Props.C05Ext
import RedisVerif.Lemmas.Txn7

/-!
# C05 over the M7 reference executor: every command type, deadlines and the clock inside the model

`Props/C05.lean` / `Props/C05Ext.lean` hold for every executor (`Txn.Backend`) and discharge the
executor-specific hypotheses (GET-reply faithfulness, independence of clients on other keys, the
dispatcher contract) on the small store `KV`.  Here the machines run over the M7 reference executor
(`Model/Redis.lean`: the model C01 ties to the real `CommandExecutor` — about 95 commands of all
five value types, multi-key and expiry commands, the clock) and the same hypotheses are discharged
there, so that the claims are about transactions over the whole command set, with time passing.
-/
namespace RedisVerif
namespace C05
open Txn Txn7 NMap
open Redis (State Cmd Entry purge cmdKeys)

/-! ## EXEC = the reference model's consecutive run -/

/-- **EXEC over M7 equals `Redis.run`**: nobody interferes, every snapshot still matches — EXEC
    returns M7's replies to the queued commands run consecutively at the node's instant, one per
    command, and the node holds M7's resulting keyspace -/
theorem m7_exec_equals_redis_run (sched : List (List Cmd7)) (t : ConnTxn Nat Cmd7 Rep7) (n : Node)
    (cs : List Cmd) (hin : t.inTxn = true) (herr : t.errors = false) (hq : t.queue = cs.map .data)
    (hs : NoInterleaving sched) (hw : ∀ p ∈ t.watched, backend7.getReply n p.1 = p.2) (hn : NodeOk n) :
    step backend7 sched t n .exec =
      (ConnTxn.idle,
       { s := purge (Redis.run n.s (cs.map (fun c => (n.now, c)))).1 n.now, now := n.now },
       .results ((Redis.run n.s (cs.map (fun c => (n.now, c)))).2.map .data)) ∧
    (Redis.run n.s (cs.map (fun c => (n.now, c)))).2.length = cs.length := by
  obtain ⟨e, l⟩ := exec_equals_sequential_partial backend7 sched t n hin herr hs hw
  obtain ⟨r1, r2⟩ := runSeq7_eq_run cs n hn
  rw [hq] at e l
  rw [e, r1, r2]
  refine ⟨rfl, ?_⟩
  rw [r1] at l
  simpa using l

/-- a schedule in which nothing happens but the clock: it reads `ts[i]` when EXEC replays its
    (i+1)-th command -/
def tickSched (ts : List Nat) : List (List Cmd7) := ts.map (fun t => [.tick t])

/-- non-decreasing instants, none before `a` -/
def MonoFrom : Nat → List Nat → Prop
  | _, [] => True
  | a, t :: ts => a ≤ t ∧ MonoFrom t ts

instance : ∀ (a : Nat) (ts : List Nat), Decidable (MonoFrom a ts)
  | _, [] => isTrue trivial
  | a, t :: ts => by
    unfold MonoFrom
    have := instDecidableMonoFrom t ts
    infer_instance

theorem step_purge_le (s : State) {a b : Nat} (h : a ≤ b) (c : Cmd) :
    Redis.step (purge s a) b c = Redis.step s b c := by
  simp only [Redis.step, Redis.purge_purge_le s h]

theorem foreign_tick {n : Node} {r : State} {t : Nat} (hr : n.s = purge r n.now) (h : n.now ≤ t) :
    foreign backend7 n [Cmd7.tick t] = { s := purge r t, now := t } := by
  show ({ s := purge n.s t, now := t } : Node) = _
  rw [hr, Redis.purge_purge_le r h]

theorem runQueue_ticks (cs : List Cmd) : ∀ (ts : List Nat) (n : Node) (r : State),
    ts.length = cs.length → MonoFrom n.now ts → n.s = purge r n.now →
    (runQueue backend7 (tickSched ts) n (cs.map .data)).2.2 = (Redis.run r (ts.zip cs)).2.map .data := by
  induction cs with
  | nil => intro ts n r hl _ _; cases ts <;> simp_all [runQueue, Redis.run]
  | cons c rest ih =>
    intro ts n r hl hm hr
    cases ts with
    | nil => simp at hl
    | cons t ts' =>
      obtain ⟨h1, h2⟩ := hm
      have hl' : ts'.length = rest.length := by simpa using hl
      simp only [tickSched, List.map_cons, runQueue, List.headD_cons, List.tail_cons, List.zip_cons_cons,
        Redis.run]
      rw [foreign_tick hr h1, show backend7.exec _ (.data c) = _ from exec7_purged r t c]
      simp only [List.map_cons]
      congr 1
      exact ih ts' { s := purge (Redis.step r t c).1 t, now := t } (Redis.step r t c).1 hl' h2 rfl

/-- **time may pass during EXEC**: no watched keys, nobody interferes, but the clock reads `ts[i]`
    (non-decreasing, not before the node's instant) when the (i+1)-th queued command is replayed —
    EXEC's results are `Redis.run` of the commands AT THOSE INSTANTS: a key whose deadline is reached
    between two queued commands is gone for the second, exactly as in the consecutive run -/
theorem m7_exec_timed (t : ConnTxn Nat Cmd7 Rep7) (n : Node) (cs : List Cmd) (ts : List Nat)
    (hin : t.inTxn = true) (herr : t.errors = false) (hw : t.watched = []) (hq : t.queue = cs.map .data)
    (hl : ts.length = cs.length) (hm : MonoFrom n.now ts) (hn : NodeOk n) :
    (step backend7 (tickSched ts) t n .exec).2.2 = .results ((Redis.run n.s (ts.zip cs)).2.map .data) := by
  rw [step_exec backend7 _ t n hin herr rfl rfl, hw, hq]
  exact congrArg Reply.results (runQueue_ticks cs ts n n.s hl hm hn.2.symm)

theorem monoFrom_append_left {a : Nat} {l1 l2 : List Nat} (h : MonoFrom a (l1 ++ l2)) : MonoFrom a l1 := by
  induction l1 generalizing a with
  | nil => trivial
  | cons x l ih => exact ⟨h.1, ih h.2⟩

theorem monoFrom_append_right {a : Nat} {l1 l2 : List Nat} (h : MonoFrom a (l1 ++ l2)) :
    MonoFrom (l1.getLastD a) l2 := by
  induction l1 generalizing a with
  | nil => exact h
  | cons x l ih =>
    have := ih h.2
    cases l with
    | nil => exact h.2
    | cons y l' => simpa [List.getLastD] using this

/-- the verdict of the watch comparison when only time passes: the (i+1)-th snapshot is compared
    with the reply of GET at the instant `ts[i]` -/
def timedWatchFails (r : State) : List Nat → List (Nat × Rep7) → Bool
  | t :: ts, (k, old) :: ws =>
    if Rep7.data (Redis.step r t (.get k)).2 = old then timedWatchFails r ts ws else true
  | _, _ => false

/-- phase 1 of EXEC under the schedule "tick `ts[i]` before slot `i`": the verdict is `timedWatchFails`, and when
    no snapshot fails the ticks `ts` are used up and the node stands at the last of them -/
theorem checkWatch_ticks (ws : List (Nat × Rep7)) : ∀ (ts rest : List Nat) (n : Node) (r : State),
    ts.length = ws.length → MonoFrom n.now ts → n.s = purge r n.now →
    (checkWatch backend7 (tickSched (ts ++ rest)) n ws).2.2 = timedWatchFails r ts ws ∧
    (timedWatchFails r ts ws = false →
      (checkWatch backend7 (tickSched (ts ++ rest)) n ws).1 = tickSched rest ∧
      (checkWatch backend7 (tickSched (ts ++ rest)) n ws).2.1 =
        { s := purge r (ts.getLastD n.now), now := ts.getLastD n.now }) := by
  induction ws with
  | nil =>
    intro ts rest n r hl _ hr
    cases ts with
    | nil =>
      refine ⟨rfl, fun _ => ⟨rfl, ?_⟩⟩
      show n = { s := purge r n.now, now := n.now }
      rw [← hr]
    | cons _ _ => simp at hl
  | cons p ws ih =>
    intro ts rest n r hl hm hr
    obtain ⟨k, old⟩ := p
    cases ts with
    | nil => simp at hl
    | cons t ts' =>
      obtain ⟨h1, h2⟩ := hm
      have hl' : ts'.length = ws.length := by simpa using hl
      have hs1 := foreign_tick hr h1
      have hget : backend7.getReply { s := purge r t, now := t } k = .data (Redis.step r t (.get k)).2 := by
        show Rep7.data (Redis.step (purge r t) t (.get k)).2 = _
        rw [step_purge_le r (Nat.le_refl t)]
      rw [show tickSched ((t :: ts') ++ rest) = [Cmd7.tick t] :: tickSched (ts' ++ rest) from rfl]
      simp only [checkWatch, List.headD_cons, List.tail_cons, timedWatchFails, hs1, hget]
      by_cases he : Rep7.data (Redis.step r t (.get k)).2 = old
      · rw [if_pos he, if_pos he]
        obtain ⟨a, b⟩ := ih ts' rest { s := purge r t, now := t } r hl' h2 rfl
        refine ⟨a, fun hf => ?_⟩
        obtain ⟨b1, b2⟩ := b hf
        refine ⟨b1, ?_⟩
        rw [b2]
        cases ts' with
        | nil => rfl
        | cons x xs => simp [List.getLastD]
      · rw [if_neg he, if_neg he]
        exact ⟨rfl, fun hf => by cases hf⟩

/-- **EXEC when only time passes, watch comparison included**: the clock reads `tw[i]` when the
    (i+1)-th snapshot is compared and `tq[j]` when the (j+1)-th queued command is replayed
    (non-decreasing).  EXEC answers nil iff some snapshot differs from the reply of GET AT THE INSTANT
    OF ITS COMPARISON (a watched key whose deadline is reached while EXEC is comparing is a change);
    otherwise its results are `Redis.run` of the queue at the instants of replay. -/
theorem m7_exec_timed_watch (t : ConnTxn Nat Cmd7 Rep7) (n : Node) (cs : List Cmd) (tw tq : List Nat)
    (hin : t.inTxn = true) (herr : t.errors = false) (hq : t.queue = cs.map .data)
    (hlw : tw.length = t.watched.length) (hlq : tq.length = cs.length)
    (hm : MonoFrom n.now (tw ++ tq)) (hn : NodeOk n) :
    (step backend7 (tickSched (tw ++ tq)) t n .exec).2.2 =
      if timedWatchFails n.s tw t.watched then .nil
      else .results ((Redis.run n.s (tq.zip cs)).2.map .data) := by
  have hmw : MonoFrom n.now tw := monoFrom_append_left hm
  obtain ⟨v, rest⟩ := checkWatch_ticks t.watched tw tq n n.s hlw hmw hn.2.symm
  rw [step_exec backend7 _ t n hin herr rfl rfl, v]
  cases hf : timedWatchFails n.s tw t.watched
  · obtain ⟨r1, r2⟩ := rest hf
    simp only [Bool.false_eq_true, if_false]
    rw [r1, r2, hq]
    have hmq : MonoFrom (tw.getLastD n.now) tq := monoFrom_append_right hm
    rw [runQueue_ticks cs tq { s := purge n.s (tw.getLastD n.now), now := tw.getLastD n.now } n.s hlq hmq rfl]
  · rfl

/-- non-vacuity of `m7_exec_timed_watch`: a watched key with deadline 1100; the comparison happens
    at 1100: nil.  At 1099: the queue runs, and its second GET (at 1100) finds the key gone. -/
example :
    let n : Node := { s := [(1, { val := .str [118], dl := some 1100 })], now := 1000 }
    let t : ConnTxn Nat Cmd7 Rep7 :=
      { inTxn := true, queue := [.data (.get 1), .data (.get 1)], errors := false,
        watched := [(1, .data (.bulk [118]))] }
    (step backend7 (tickSched ([1100] ++ [1100, 1100])) t n .exec).2.2 = .nil ∧
    (step backend7 (tickSched ([1099] ++ [1099, 1100])) t n .exec).2.2 =
      .results [.data (.bulk [118]), .data .nil] := by
  decide

/-- non-vacuity of `m7_exec_timed`: `SET k v PX 100` at 1000, then `MULTI; GET k; GET k; EXEC` with
    the clock at 1099 for the first GET and at 1100 for the second: `[v, nil]` -/
example :
    let n : Node := { s := [(1, { val := .str [118], dl := some 1100 })], now := 1000 }
    let t : ConnTxn Nat Cmd7 Rep7 :=
      { inTxn := true, queue := [.data (.get 1), .data (.get 1)], errors := false, watched := [] }
    NodeOk n ∧ MonoFrom n.now [1099, 1100] ∧
    (step backend7 (tickSched [1099, 1100]) t n .exec).2.2 = .results [.data (.bulk [118]), .data .nil] := by
  decide

/-! ## EXEC answers, per queued input, what the input answers outside MULTI -/

theorem m7_local_faithful (body : List (Input Nat Cmd7))
    (h : ∀ c, Input.connLocal c ∈ body → ∃ l, c = .loc l) : LocalFaithfulOn backend7 body := by
  intro c hc s
  obtain ⟨l, rfl⟩ := h c hc
  rfl

/-- `MULTI; body; EXEC` over M7 (data commands of every type and connection-level commands):
    the store and the results are those of the body sent outside MULTI -/
theorem m7_exec_equals_outside (t : ConnTxn Nat Cmd7 Rep7) (n : Node)
    (body : List (Input Nat Cmd7)) (sc sched : List (List Cmd7))
    (hout : t.inTxn = false) (hw : t.watched = []) (hb : body.all isCmdOrLocal = true)
    (hl : ∀ c, Input.connLocal c ∈ body → ∃ l, c = .loc l) (hq : NoInterleaving sched) :
    ExecEqualsOutside backend7 t n body sc sched :=
  exec_equals_outside _ _ _ _ backend7 t n body sc sched hout hw hb hq (m7_local_faithful body hl)

/-! ## WATCH over M7: what the GET-reply snapshot sees, deadlines included -/

/-- the key holds a live NON-STRING value (list, set, hash, sorted set) at the node's instant -/
def nonString7 (n : Node) (k : Nat) : Bool :=
  match value7 n k with
  | some (.str _) => false
  | none => false
  | some _ => true

theorem getReply7_eq (n : Node) (k : Nat) :
    backend7.getReply n k = .data (Redis.execGet (purge n.s n.now) k).2 := rfl

/-- **exact characterisation of the connection-level snapshot over M7**: between the node at WATCH
    (`n0`) and the node at EXEC (`n`) — any commands of any type, any passing of time in between —
    the GET reply differs iff the VALUE of the key (what is live of it) differs and the key is not a
    live non-string at BOTH moments -/
theorem m7_watch_detects_iff (n0 n : Node) (k : Nat) :
    backend7.getReply n k ≠ backend7.getReply n0 k ↔
      (value7 n k ≠ value7 n0 k ∧ ¬ (nonString7 n0 k = true ∧ nonString7 n k = true)) := by
  simp only [getReply7_eq, nonString7, value7, vis, Redis.execGet, Redis.lookupStr]
  cases h0 : NMap.get (purge n0.s n0.now) k with
  | none =>
    cases h1 : NMap.get (purge n.s n.now) k with
    | none => simp
    | some e1 => obtain ⟨v1, d1⟩ := e1; cases v1 <;> simp
  | some e0 =>
    obtain ⟨v0, d0⟩ := e0
    cases h1 : NMap.get (purge n.s n.now) k with
    | none => cases v0 <;> simp
    | some e1 => obtain ⟨v1, d1⟩ := e1; cases v0 <;> cases v1 <;> simp

/-- every change of the value of a watched key that is a string or missing (or expired) before or
    after makes EXEC return nil and apply nothing -/
theorem m7_watch_detects_change_strings (t : ConnTxn Nat Cmd7 Rep7) (n0 n : Node) (k : Nat)
    (hin : t.inTxn = true) (herr : t.errors = false)
    (hm : (k, backend7.getReply n0 k) ∈ t.watched) (hv : value7 n k ≠ value7 n0 k)
    (hs : nonString7 n0 k = false ∨ nonString7 n k = false) :
    step backend7 [] t n .exec = (ConnTxn.idle, n, .nil) :=
  watch_detects_change_partial backend7 [] t n k _ hin herr noInterleaving_nil hm
    ((m7_watch_detects_iff n0 n k).mpr ⟨hv, by
      rintro ⟨a, b⟩
      rcases hs with h | h
      · rw [h] at a; cases a
      · rw [h] at b; cases b⟩)

/-- **a deadline that is reached is a change the snapshot sees, whatever the type**: a key that is
    live at WATCH and whose deadline has been reached at EXEC (nothing else touched it) makes EXEC
    return nil -/
theorem m7_watch_detects_deadline (t : ConnTxn Nat Cmd7 Rep7) (n0 n : Node) (k : Nat) (e : Entry) (d : Nat)
    (hin : t.inTxn = true) (herr : t.errors = false)
    (hm : (k, backend7.getReply n0 k) ∈ t.watched) (h0 : vis n0 k = some e)
    (hkeep : NMap.get n.s k = some e) (hd : e.dl = some d) (hpast : d ≤ n.now) (hwf : NMap.WF n.s) :
    step backend7 [] t n .exec = (ConnTxn.idle, n, .nil) := by
  have hgone : vis n k = none := by
    simp only [vis, Redis.get_purge hwf, hkeep, Option.filter, Redis.live, hd]
    simp [Nat.not_lt.mpr hpast]
  apply m7_watch_detects_change_strings t n0 n k hin herr hm
  · simp [value7, h0, hgone]
  · right; simp [nonString7, value7, hgone]

/-- non-vacuity: a LIST with a deadline, watched at 1000, EXEC at its deadline -/
example :
    let n0 : Node := { s := [(1, { val := .list [[97]], dl := some 1100 })], now := 1000 }
    let n : Node := { s := n0.s, now := 1100 }
    let t : ConnTxn Nat Cmd7 Rep7 :=
      { inTxn := true, queue := [.data (.llen 1)], errors := false, watched := [(1, backend7.getReply n0 1)] }
    (step backend7 [] t n .exec).2 = (n, .nil) := by
  decide

/-- the full statement over M7: every change of the VALUE of a watched key, of whatever type,
    between WATCH (`n0`) and EXEC (`n`) makes EXEC return nil -/
def C05_m7_watch_detects_change : Prop :=
  ∀ (t : ConnTxn Nat Cmd7 Rep7) (n0 n : Node) (k : Nat),
    t.inTxn = true → t.errors = false → (k, backend7.getReply n0 k) ∈ t.watched →
    value7 n k ≠ value7 n0 k → (step backend7 [] t n .exec).2.2 = .nil

/-- refuted on M7 by the same witness as on the small store: `RPUSH w 1; WATCH w; RPUSH w 2;
    MULTI; SET x 1; EXEC` proceeds (known finding `C05:watch:non-string-key-change-undetected`) -/
theorem m7_watch_nonstring_counterexample : ¬ C05_m7_watch_detects_change := by
  intro h
  have := h
    { inTxn := true, queue := [.data (.set 9 [49] .always .none false)], errors := false,
      watched := [(4, .data (.err .wrongType))] }
    { s := [(4, { val := .list [[49]], dl := none })], now := 1000 }
    { s := [(4, { val := .list [[49], [50]], dl := none })], now := 1000 } 4 rfl rfl (by decide) (by decide)
  revert this
  decide

/-- GET-reply faithfulness on M7: the snapshot of a key that is a string or missing (or expired) at
    WATCH tells exactly as much as its value -/
theorem m7_getFaithful (n0 : Node) (k : Nat) (h : nonString7 n0 k = false) :
    GetFaithfulAt backend7 value7 n0 k :=
  getFaithfulAt_of_ne_iff fun n => (m7_watch_detects_iff n0 n k).trans (and_iff_left (by simp [h]))

/-- **the connection-level machine simulates the executor-level machine over M7** on guarded
    traces (each WATCH names fresh keys that are strings or missing at that moment): same node, same
    replies up to the shape of nil -/
theorem m7_conn_simulates_executor (is : List (XInput Nat Cmd7)) (t : ConnTxn Nat Cmd7 Rep7)
    (x : ExTxn Nat Cmd7 Redis.Value) (n : Node) (hS : Sim backend7 value7 t x)
    (hG : Guarded backend7 value7 t n is) :
    (run backend7 t n (is.map (fun i => (toConn i, [])))).2.1 =
      (xrun (xOf backend7 value7) (.other (.simple .ok)) x n is).2.1 ∧
    (run backend7 t n (is.map (fun i => (toConn i, [])))).2.2.map toX =
      (xrun (xOf backend7 value7) (.other (.simple .ok)) x n is).2.2.map some :=
  let r := conn_simulates_executor_partial backend7 value7 (.other (.simple .ok)) (fun _ => rfl) is t x n hS hG
  ⟨r.1, r.2.1⟩

/-! ## isolation over M7: clients that work on other keys -/

/-- a foreign command that names its keys (`keysOf f = some Kf`: any data command of the model that
    is not KEYS / DBSIZE / FLUSH* / RANDOMKEY, or a key-less command; NOT a tick) is independent of
    every transaction whose queued commands name keys outside `Kf` and whose watched keys are
    outside `Kf` -/
theorem m7_indep (f : Cmd7) (Kf : List Nat) (hf : keysOf f = some Kf) (q : List Cmd7) (ws : List Nat)
    (hq : ∀ c ∈ q, ∃ Kc, keysOf c = some Kc ∧ ∀ k ∈ Kf, k ∉ Kc) (hw : ∀ k ∈ ws, k ∉ Kf) :
    Indep backend7 NodeOk q ws f := by
  cases f with
  | data fd =>
    have hfd : cmdKeys fd = some Kf := hf
    refine ⟨?_, ?_, ?_⟩
    · intro c hc n hn
      obtain ⟨Kc, hkc, hdis⟩ := hq c hc
      show (exec7 (exec7 n (.data fd)).1 c).1 = (exec7 (exec7 n c).1 (.data fd)).1
      cases c with
      | data cd => exact (exec7_commute hn fd cd Kf Kc hfd hkc hdis).1
      | tick t => cases hkc
      | _ => rfl
    · intro c hc n hn
      obtain ⟨Kc, hkc, hdis⟩ := hq c hc
      show (exec7 (exec7 n (.data fd)).1 c).2 = (exec7 n c).2
      cases c with
      | data cd => exact (exec7_commute hn fd cd Kf Kc hfd hkc hdis).2.1
      | tick t => cases hkc
      | _ => rfl
    · intro k hk n hn
      exact getReply7_congr (exec7_ok hn _) hn rfl k (exec7_frame hn fd Kf hfd k (hw k hk))
  | tick t => cases hf
  | _ => exact ⟨fun _ _ _ _ => rfl, fun _ _ _ _ => rfl, fun _ _ _ _ => rfl⟩

/-- a READ-ONLY command of another client (any read of the reference model, on ANY keys — the
    transaction's own keys included — and the keyspace-wide reads KEYS / DBSIZE / RANDOMKEY) leaves a
    node as it is, hence is independent of every transaction -/
theorem m7_indep_readonly (f : Cmd) (hro : Redis.isReadOnly f = true) (q : List Cmd7) (ws : List Nat) :
    Indep backend7 NodeOk q ws (.data f) :=
  indep_of_noop backend7 NodeOk (fun _ c h => exec7_ok h c) q ws fun n hn => by
    show (exec7 n (.data f)).1 = n
    rw [exec7_data hn, Redis.exec_ro hro, hn.2]

/-- **EXEC over M7 is atomic with respect to readers and to clients on other keys**, under EVERY
    schedule: every command served to the other clients while EXEC runs is either READ-ONLY (on any
    keys) or names keys the transaction neither queues nor watches — the outcome of the transaction
    (node, reply, watch verdict) is the serial one.  (What a concurrent READER sees in between is
    the reader's matter: it may see half of the transaction — per-command atomicity only.) -/
theorem m7_exec_serializable (sched : List (List Cmd7)) (t : ConnTxn Nat Cmd7 Rep7)
    (n : Node) (hin : t.inTxn = true) (herr : t.errors = false) (hn : NodeOk n)
    (hf : ∀ f ∈ sched.flatten,
      (∃ d, f = .data d ∧ Redis.isReadOnly d = true) ∨
      ∃ Kf, keysOf f = some Kf ∧
        (∀ c ∈ t.queue, ∃ Kc, keysOf c = some Kc ∧ ∀ k ∈ Kf, k ∉ Kc) ∧
        ∀ k ∈ t.watched.map (·.1), k ∉ Kf) :
    ((step backend7 sched t n .exec).2.1, (step backend7 sched t n .exec).2.2) =
      serialExec backend7 t n [] sched.flatten :=
  exec_serializable_of_independent backend7 NodeOk (fun s c h => exec7_ok h c) sched t n hin herr hn
    (fun f hm => by
      rcases hf f hm with ⟨d, rfl, hro⟩ | ⟨Kf, h1, h2, h3⟩
      · exact m7_indep_readonly d hro t.queue (t.watched.map (·.1))
      · exact m7_indep f Kf h1 t.queue (t.watched.map (·.1)) h2 h3)

/-- **EXEC over M7 is atomic with respect to clients that work on other keys**, under EVERY
    schedule: if every command served to the other clients while EXEC runs names its keys, and
    those keys are named by no queued command and are not watched, the outcome (node, reply, watch
    verdict) is the serial outcome "EXEC in one piece, then the others".  All command types of the
    reference model: single-key commands of the five value types, two-key and multi-key commands,
    expiry commands. -/
theorem m7_exec_serializable_other_keys (sched : List (List Cmd7)) (t : ConnTxn Nat Cmd7 Rep7)
    (n : Node) (hin : t.inTxn = true) (herr : t.errors = false) (hn : NodeOk n)
    (hf : ∀ f ∈ sched.flatten, ∃ Kf, keysOf f = some Kf ∧
      (∀ c ∈ t.queue, ∃ Kc, keysOf c = some Kc ∧ ∀ k ∈ Kf, k ∉ Kc) ∧
      ∀ k ∈ t.watched.map (·.1), k ∉ Kf) :
    ((step backend7 sched t n .exec).2.1, (step backend7 sched t n .exec).2.2) =
      serialExec backend7 t n [] sched.flatten :=
  m7_exec_serializable sched t n hin herr hn (fun f hm => .inr (hf f hm))

/-- non-vacuity of the reader case: `MULTI; INCR 1; INCR 1; EXEC` with another client's `GET 1`,
    `KEYS`, `DBSIZE` served between the replayed commands: the transaction's outcome is the serial one -/
example :
    let t : ConnTxn Nat Cmd7 Rep7 :=
      { inTxn := true, queue := [.data (.incr 1), .data (.incr 1)], errors := false, watched := [(1, .data .nil)] }
    let sched : List (List Cmd7) := [[], [.data (.get 1)], [.data .keys, .data .dbsize], [.data (.lrange 1 0 (-1))]]
    (∀ f ∈ sched.flatten, ∃ d, f = .data d ∧ Redis.isReadOnly d = true) ∧
    (step backend7 sched t (Node.init 1000) .exec).2.2 = .results [.data (.int 1), .data (.int 2)] := by
  refine ⟨?_, by decide⟩
  intro f hf
  simp only [List.flatten_cons, List.flatten_nil, List.nil_append, List.append_nil, List.cons_append,
    List.mem_cons, List.not_mem_nil, or_false] at hf
  rcases hf with rfl | rfl | rfl | rfl <;> exact ⟨_, rfl, rfl⟩

/-- the atomicity statement for the M7 instance -/
def C05_m7_exec_atomic : Prop :=
  ∀ (t : ConnTxn Nat Cmd7 Rep7) (n : Node) (sched : List (List Cmd7)),
    t.inTxn = true → t.errors = false → NodeOk n →
    ((step backend7 sched t n .exec).2.1, (step backend7 sched t n .exec).2.2) ∈
      (splits sched.flatten).map (fun p => serialExec backend7 t n p.1 p.2)

/-- refuted on M7: `MULTI; INCR k; INCR k; EXEC` with the other client's `SET k 10` served between
    the two replayed commands answers `[1, 11]` — no atomic EXEC before or after the SET gives that
    (known finding `C05:exec:not-isolated`) -/
theorem m7_exec_not_isolated_counterexample : ¬ C05_m7_exec_atomic := by
  intro h
  have := h
    { inTxn := true, queue := [.data (.incr 1), .data (.incr 1)], errors := false, watched := [] }
    (Node.init 1000) [[], [.data (.set 1 [49, 48] .always .none false)]] rfl rfl (by decide)
  revert this
  decide

/-! ## the executor-level machine over M7 -/

theorem xrunQueue7_eq_run (cs : List Cmd) (n : Node) (hn : NodeOk n) :
    xrunQueue xbackend7 (.other (.simple .ok)) n (cs.map (fun c => XQ.cmd (.data c))) =
      ({ s := purge (Redis.run n.s (cs.map (fun c => (n.now, c)))).1 n.now, now := n.now },
       (Redis.run n.s (cs.map (fun c => (n.now, c)))).2.map .data) := by
  obtain ⟨r1, r2⟩ := runSeq7_eq_run cs n hn
  rw [← r1, ← r2]
  clear r1 r2 hn
  induction cs generalizing n with
  | nil => rfl
  | cons c rest ih =>
    simp only [List.map_cons, xrunQueue, runSeq]
    rw [show xbackend7.exec n (.data c) = backend7.exec n (.data c) from rfl, ih]

/-- executor-level EXEC over M7 (`transaction_ops.rs`: one `&mut self`, one instant): the watched
    values are unchanged — M7's consecutive run of the queue -/
theorem m7_x_exec_equals_redis_run (t : ExTxn Nat Cmd7 Redis.Value) (n : Node) (cs : List Cmd)
    (hin : t.inTxn = true) (hq : t.queue = cs.map (fun c => XQ.cmd (.data c)))
    (hw : ∀ p ∈ t.watched, value7 n p.1 = p.2) (hn : NodeOk n) :
    xstep xbackend7 (.other (.simple .ok)) t n .exec =
      (ExTxn.idle,
       { s := purge (Redis.run n.s (cs.map (fun c => (n.now, c)))).1 n.now, now := n.now },
       .results ((Redis.run n.s (cs.map (fun c => (n.now, c)))).2.map .data)) := by
  rw [(x_exec_equals_sequential xbackend7 _ t n hin hw).1, hq, xrunQueue7_eq_run cs n hn]

/-- executor level over M7, exact boundary: nil ⇔ the live VALUE (type and content, any of the
    five types) of some watched key differs from its snapshot.  A deadline that has been reached is
    such a change (the value is gone); a TTL-only change (EXPIRE / PERSIST) is not. -/
theorem m7_x_watch_detects_iff (t : ExTxn Nat Cmd7 Redis.Value) (n : Node) (hin : t.inTxn = true) :
    (xstep xbackend7 (.other (.simple .ok)) t n .exec).2.2 = .nil ↔ ∃ p ∈ t.watched, value7 n p.1 ≠ p.2 :=
  x_watch_detects_iff xbackend7 _ t n hin

/-- a TTL-only change of a watched key is no change of its value: both machines proceed
    (`WATCH k; PEXPIRE k 500; MULTI; GET k; EXEC`) — within the property, which is value-based -/
example :
    let n0 : Node := { s := [(1, { val := .str [118], dl := none })], now := 1000 }
    let n := (exec7 n0 (.data (.pexpire 1 500 ⟨false, false, false, false⟩))).1
    n.s = [(1, { val := .str [118], dl := some 1500 })] ∧
    value7 n 1 = value7 n0 1 ∧ backend7.getReply n 1 = backend7.getReply n0 1 := by
  decide

/-! ## hypotheses that name the keys of every foreign command, checked by evaluation -/

section
attribute [local instance] decExistsEqSome

/-- non-vacuity of `m7_exec_serializable_other_keys`: a transaction on keys 1 and 2 (key 1 watched;
    a list command, an expiry command) with the other clients running a two-key RENAME 3→4, an MSET
    on 5 and 6, and a ZADD on 7 between its store accesses: the hypotheses hold -/
example :
    let t : ConnTxn Nat Cmd7 Rep7 :=
      { inTxn := true,
        queue := [.data (.rpush 2 [[97]]), .data (.get 1), .data (.pexpire 2 50 ⟨false, false, false, false⟩), .ping],
        errors := false, watched := [(1, .data (.bulk [48]))] }
    let sched : List (List Cmd7) :=
      [[], [.data (.rename 3 4)], [.data (.mset [(5, [49]), (6, [50])])], [], [.data (.zadd 7 ⟨false, false, false, false, false⟩ [([109], .fin 3)])]]
    ∀ f ∈ sched.flatten, ∃ Kf, keysOf f = some Kf ∧
      (∀ c ∈ t.queue, ∃ Kc, keysOf c = some Kc ∧ ∀ k ∈ Kf, k ∉ Kc) ∧
      ∀ k ∈ t.watched.map (·.1), k ∉ Kf := by
  decide

end

end C05
end RedisVerif
