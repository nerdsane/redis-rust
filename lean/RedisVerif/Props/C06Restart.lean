import RedisVerif.Props.C06

/-!
# C06 with crashes: a node restarts empty and gets its own deltas back

History shape (class "restart over old state"): node r issues deltas, crashes, comes back with an
empty `ShardReplicaState` (clock 0), receives deltas again — its OWN old ones among them, from its
WAL (`apply_recovered_state(None, deltas)` = `apply_remote_deltas`), from a peer's redelivery or
anti-entropy — and accepts writes again.

For every number of nodes, every history of local writes, deliveries (to anybody, the origin
included) and restarts: if the deltas of the key are compatible (`Compat`: one kind, a (slot,
stamp) pair names one register — decidable) and every delta of the key has been applied at EVERY
node since that node's last restart (`DeliveredAll`), all nodes hold the same content and stamp,
and every node satisfies the clock invariant of C08 (`Shard.Inv`), which is what makes a write
after recovery supersede what was recovered; `apply_remote_delta` advancing the clock for EVERY
delta, own ones included, is what preserves it across a restart.
`own_echo_skips_clock_counterexample` is the variant "do not advance the clock for a delta
stamped with our own replica id".  `write_before_own_recovery_counterexample`: `Compat` is not for
free once state can be lost: a node that writes BEFORE it has its own history back re-issues stamp
(1, r1) under the code that exists as well (C08: "across restart the claim is relative to what
recovery hands back"); the binaries recover before they serve, so this order needs lost data.
Without restarts `Delivered` of `Props/C06.lean` (every OTHER node) is `DeliveredAll`
(`restart_free_delivered_all`: a node has absorbed what it issued).
-/
namespace RedisVerif
namespace C06

open Cluster

/-- every delta issued for key `k` has been applied at EVERY node (the origin included: after a
    restart it has to get its own deltas back) since that node last restarted -/
def DeliveredAll (c : Cluster) (k : Nat) : Prop :=
  ∀ m ∈ c.sent, m.key = k → ∀ j, j < c.nodes.length → (⟨j, k, m.val⟩ : Absorbed) ∈ c.log

instance (c : Cluster) (k : Nat) : Decidable (DeliveredAll c k) := by
  unfold DeliveredAll; infer_instance

theorem restart_free_delivered_all (n : Nat) (causal : Bool) (evs : List Ev) (k : Nat)
    (hd : Delivered ((init n causal).run evs) k) : DeliveredAll ((init n causal).run evs) k :=
  fun m hm hk _ hj => hasAll_of_delivered hd hj m hm hk

/-- **C06 with restarts**: any number of nodes; any history of local writes, deliveries (own
    deltas echoed back included) and restarts with an empty state; for a key whose deltas are
    compatible, once every delta of the key has been applied at every node since its last
    restart, all nodes hold the same CRDT content and stamp — and every node satisfies the C08
    clock invariant (its Lamport clock dominates every stamp it stores). -/
theorem rs_converges_with_restarts (n : Nat) (causal : Bool) (evs : List REv) (k K : Nat)
    (hc : Compat ((init n causal).runR evs).sent k K)
    (hd : DeliveredAll ((init n causal).runR evs) k) :
    Agree ((init n causal).runR evs) k ∧ ∀ s ∈ ((init n causal).runR evs).nodes, s.Inv := by
  have hj : J ((init n causal).runR evs).sent k K ((init n causal).runR evs) :=
    J_runR hc (init n causal) evs (J_init _ k K n causal) (fun m hm => hm)
  refine ⟨?_, fun s hs => (hj.nodes_inv s hs).1⟩
  intro i j si sj hsi hsj
  exact hj.value_eq hc hsi hsj (fun m hm hk => hd m hm hk i (List.getElem?_eq_some_iff.mp hsi).1)
    (fun m hm hk => hd m hm hk j (List.getElem?_eq_some_iff.mp hsj).1)

/-! ## witnesses -/

def kR : Nat := 107

/-- r1 (node 0) writes k three times and ships to node 1; r1 restarts empty; its three deltas
    come back (WAL replay / redelivery); r1 writes k again and ships -/
def restartRun : List REv :=
  [ .ev (.loc 0 (.write kR [1] none)), .ev (.loc 0 (.write kR [2] none)), .ev (.loc 0 (.write kR [3] none)),
    .ev (.deliver 1 0), .ev (.deliver 1 1), .ev (.deliver 1 2),
    .restart 0,
    .ev (.deliver 0 0), .ev (.deliver 0 1), .ev (.deliver 0 2),
    .ev (.loc 0 (.write kR [4] none)),
    .ev (.deliver 1 3) ]

/-- the code that exists: the echoes advance r1's clock past (3, r1); the fourth write is stamped
    (5, r1) and wins everywhere -/
example :
    let c := (init 2 false).runR restartRun
    Compat c.sent kR 0 ∧ DeliveredAll c kR ∧ (c.sent.map (·.val.ts.time)) = [1, 2, 3, 5] ∧
    (c.nodes.map (fun s => (NMap.get s.keys kR).bind RV.get)) = [some [4], some [4]] := by
  decide +kernel

/-- **the variant that skips the clock update for own-stamped deltas**: after the restart the
    echoes leave r1's clock at 0, the fourth write is stamped (1, r1) — a stamp r1 had already used
    for another value — the peer keeps the third write, r1 serves the fourth: delivered everywhere,
    never equal -/
theorem own_echo_skips_clock_counterexample :
    let c := restartRun.foldl stepSkipOwn (init 2 false)
    DeliveredAll c kR ∧ ¬ Compat c.sent kR 0 ∧ (c.sent.map (·.val.ts.time)) = [1, 2, 3, 1] ∧
    (c.nodes.map (fun s => (NMap.get s.keys kR).bind RV.get)) = [some [4], some [3]] ∧
    -- right after the echoes r1's clock (0) is below a stamp it stores (3): the C08 invariant is gone
    ((restartRun.take 10).foldl stepSkipOwn (init 2 false)).nodes.map (fun s => decide s.Inv) = [false, true] ∧
    ((init 2 false).runR (restartRun.take 10)).nodes.map (fun s => decide s.Inv) = [true, true] := by
  decide +kernel

/-- a node that writes BEFORE it has its own history back re-uses stamp (1, r1) under the code that
    exists too: `Compat` fails, the replicas disagree although everything is delivered -/
def earlyWriteRun : List REv :=
  [ .ev (.loc 0 (.write kR [1] none)), .ev (.deliver 1 0), .restart 0,
    .ev (.loc 0 (.write kR [9] none)), .ev (.deliver 1 1), .ev (.deliver 0 0), .ev (.deliver 0 1) ]

theorem write_before_own_recovery_counterexample :
    let c := (init 2 false).runR earlyWriteRun
    DeliveredAll c kR ∧ ¬ Compat c.sent kR 0 ∧ (c.sent.map (·.val.ts)) = [⟨1, 1⟩, ⟨1, 1⟩] ∧
    (c.nodes.map (fun s => (NMap.get s.keys kR).bind RV.get)) = [some [9], some [1]] := by
  decide +kernel

/-- recovery first (what the binaries do): no write of node `i` between its restart and the
    re-delivery of every delta it had issued before — decidable on the event list -/
def RecoversBeforeWrite (n : Nat) (causal : Bool) : List REv → List REv → Prop
  | _, [] => True
  | pre, e :: rest =>
    (match e with
     | .ev (.loc i _) =>
       -- every delta node i had issued is in its log again
       ∀ m ∈ ((init n causal).runR pre).sent, m.origin = i →
         (⟨i, m.key, m.val⟩ : Absorbed) ∈ ((init n causal).runR pre).log
     | _ => True) ∧ RecoversBeforeWrite n causal (pre ++ [e]) rest

example : RecoversBeforeWrite 2 false [] restartRun ∧ ¬ RecoversBeforeWrite 2 false [] earlyWriteRun := by
  constructor
  · simp only [RecoversBeforeWrite, restartRun]; decide +kernel
  · simp only [RecoversBeforeWrite, earlyWriteRun]; decide +kernel

end C06
end RedisVerif
