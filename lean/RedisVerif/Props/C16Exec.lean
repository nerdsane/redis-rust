import RedisVerif.Model.Redis
import RedisVerif.Props.C16Script

/-!
# C16 over the executor model M7 — for which commands is the RESP ↔ Lua conversion exact?

`Props/C16Script.lean` works over an arbitrary executor.  Here the executor is the reference model `Redis.exec` (M7, the
model C01 ties to `CommandExecutor::execute`): for each of the 34 commands the translator knows (`luaOp`) the reply is
`ConvStable` in every state, so a script gets exactly the reply a client gets; MGET (no translator entry) is the
family that would be excluded.
-/
namespace RedisVerif
namespace C16

open Grammar LuaConv LuaScript

/-- the text of a `Redis.Err` as far as this file needs it: the code word (`WRONGTYPE` for a type error, `ERR`
    otherwise); what matters here is "starts with an upper-case code word" and "valid UTF-8" -/
def m7ErrText (e : Redis.Err) : Bytes :=
  if e == .wrongType then s2b "WRONGTYPE Operation against a key holding the wrong kind of value"
  else s2b "ERR command failed"

def elemResp : Redis.Elem → Resp
  | .bulk b => .bulk (some b)
  | .key c => .bulk (some (Redis.codeBytes c))
  | .nil => .bulk none
  | .int i => .int i

/-- a reply of the executor model as a RESP value -/
def toResp : Redis.Reply → Resp
  | .simple s => .simple (s2b s)
  | .err e => .error (m7ErrText e)
  | .int i => .int i
  | .bulk b => .bulk (some b)
  | .key c => .bulk (some (Redis.codeBytes c))
  | .nil => .bulk none
  | .arr l => .array (some (l.map elemResp))

/-- the status texts the executor model answers -/
def statusTexts : List String := ["OK", "string", "list", "set", "hash", "zset", "none"]

/-- replies without a nil inside an array and with a known status text -/
def Good : Redis.Reply → Bool
  | .simple s => statusTexts.contains s
  | .arr l => l.all (fun e => e != .nil)
  | _ => true

theorem m7ErrText_ok (e : Redis.Err) : validUtf8 (m7ErrText e) = true ∧ hasCode (m7ErrText e) = true := by
  unfold m7ErrText
  split
  · exact wrongTypeText_ok
  · decide +kernel

theorem good_conv_stable (r : Redis.Reply) (h : Good r = true) : ConvStable (toResp r) = true := by
  cases r with
  | simple s =>
    simp only [Good, statusTexts, List.contains_cons, List.contains_nil, Bool.or_false, Bool.or_eq_true, beq_iff_eq] at h
    rcases h with rfl | rfl | rfl | rfl | rfl | rfl | rfl <;> decide +kernel
  | err e => exact (m7ErrText_ok e).1
  | int i => rfl
  | bulk b => rfl
  | key c => rfl
  | nil => rfl
  | arr l =>
    simp only [Good, List.all_eq_true, bne_iff_ne, ne_eq] at h
    simp only [toResp, ConvStable]
    induction l with
    | nil => rfl
    | cons e es ih =>
      have he := h e (by simp)
      have := ih (fun x hx => h x (by simp [hx]))
      simp only [List.map_cons, ConvStableL, this, Bool.and_true]
      cases e <;> simp_all [elemResp, isNil, ConvStable]

/-- every error text of the executor model starts with an upper-case code word: a raising
    `redis.call` makes the EVAL answer it verbatim (`raiseReply_code`) -/
theorem m7_err_has_code (e : Redis.Err) : hasCode (m7ErrText e) = true := (m7ErrText_ok e).2

/-- the commands that have an entry in the translator's table, as constructors of the executor
    model's command type (ZRANGE without WITHSCORES, EXPIRE without flags: the shapes the translator
    can build) -/
def luaOp : Redis.Cmd → Bool
  | .get _ | .set _ _ _ _ _ | .del _ | .incr _ | .decr _ | .incrby _ _ | .hget _ _ | .hset _ _ | .hdel _ _
  | .lpush _ _ | .rpush _ _ | .lpop _ | .rpop _ | .llen _ | .sadd _ _ | .srem _ _ | .smembers _ | .exists _
  | .expire _ _ _ | .ttl _ | .type _ | .hincrby _ _ _ | .lrange _ _ _ | .rpoplpush _ _ | .lmove _ _ _ _
  | .hgetall _ | .sismember _ _ | .zadd _ _ _ | .zrem _ _ | .zrange _ _ _ _ | .zscore _ _ | .zcard _
  | .zcount _ _ _ | .zrangebyscore _ _ _ _ _ => true
  | _ => false

theorem good_setCore (s : Redis.State) (k : Nat) (v : Redis.BS) (c : Redis.SetCond) (g : Bool) (p : Redis.DlPlan) :
    Good (Redis.setCore s k v c g p).2 = true := by
  unfold Redis.setCore
  split
  · rfl
  · split <;> cases g <;> simp only [Bool.false_eq_true, if_false, if_true] <;>
      first | rfl | (unfold Redis.oldStrReply; split <;> rfl)

theorem good_incrBy (s : Redis.State) (k : Nat) (d : Int) : Good (Redis.execIncrBy s k d).2 = true := by
  unfold Redis.execIncrBy
  split
  · rfl
  · rfl
  · split
    · rfl
    · split <;> rfl

theorem good_expireAt (s : Redis.State) (now k : Nat) (w : Int) (f : Redis.ExpFlags) :
    Good (Redis.expireAt s now k w f).2 = true := by
  unfold Redis.expireAt
  split
  · rfl
  · split
    · rfl
    · split <;> rfl

theorem good_lmove (s : Redis.State) (a b : Nat) (f t : Redis.Side) : Good (Redis.execLMove s a b f t).2 = true := by
  unfold Redis.execLMove
  split
  · rfl
  · rfl
  · split
    · rfl
    · split
      · rfl
      · split <;> rfl

theorem all_map_ne_nil {α : Type} (l : List α) (f : α → Redis.Elem) (hf : ∀ a, f a ≠ .nil) :
    (l.map f).all (fun e => e != .nil) = true := by
  simp only [List.all_map, List.all_eq_true, Function.comp_apply, bne_iff_ne, ne_eq]
  exact fun a _ => hf a

theorem zElems_ne_nil (ws : Bool) (z : Redis.ZL) : (Redis.zElems ws z).all (fun e => e != .nil) = true := by
  simp only [Redis.zElems, List.all_flatMap, List.all_eq_true]
  intro p _
  cases ws <;> simp

/-- the reply of every command the translator knows, in every state, at every instant: no nil
    inside an array, a known status text -/
theorem good_exec (s : Redis.State) (now : Nat) (op : Redis.Cmd) (h : luaOp op = true) :
    Good (Redis.exec s now op).2 = true := by
  cases op <;> first | exact Bool.noConfusion h | dsimp only [Redis.exec]
  case del ks | «exists» ks => rfl
  case incr k | decr k | incrby k d => exact good_incrBy ..
  case rpoplpush a b | lmove a b f t => exact good_lmove ..
  case get k | llen k | srem k ms | sismember k m | hdel k fs | zrem k ms | zcard k =>
    simp only [Redis.execGet, Redis.execLLen, Redis.execSRem, Redis.execSIsMember, Redis.execHDel, Redis.execZRem,
      Redis.execZCard]
    split <;> rfl
  case lpush k vs | rpush k vs | sadd k ms | hset k fvs =>
    simp only [Redis.execPush, Redis.execSAdd, Redis.execHSet]
    split; rfl; split <;> rfl
  case lpop k | rpop k | hget k f | zscore k m =>
    simp only [Redis.execPop, Redis.execHGet, Redis.execZScore]
    split; rfl; rfl; split <;> rfl
  case set k v c e g => unfold Redis.execSet; split; rfl; exact good_setCore ..
  case type k => unfold Redis.execType; split; rfl; (rename_i e _; cases e.val <;> rfl)
  case expire k v f =>
    unfold Redis.execExpire
    split; rfl; split; rfl; split; rfl; exact good_expireAt ..
  case ttl k => unfold Redis.execTtl Redis.ttlReply; split; rfl; split <;> rfl
  case lrange k a b =>
    unfold Redis.execLRange
    split; rfl; rfl
    exact all_map_ne_nil _ _ (fun _ => by simp)
  case smembers k =>
    unfold Redis.execSMembers
    split; rfl; rfl
    exact all_map_ne_nil _ _ (fun _ => by simp)
  case hgetall k =>
    unfold Redis.execHGetAll
    split; rfl; rfl
    simp only [Good, List.all_flatMap, List.all_eq_true]
    intro p _; simp
  case hincrby k f d =>
    unfold Redis.execHIncrBy
    split; rfl; rfl; split; rfl; split <;> rfl
  case zadd k f ps =>
    unfold Redis.execZAdd
    split; rfl; split; rfl; split; rfl; (split <;> rfl); rfl
  case zrange k a b ws =>
    unfold Redis.execZRange
    split; rfl; rfl; exact zElems_ne_nil ..
  case zcount k lo hi => unfold Redis.execZCount; split; (split <;> rfl); rfl
  case zrangebyscore k lo hi ws lim =>
    unfold Redis.execZRangeByScore
    split; (split; rfl; rfl; exact zElems_ne_nil ..); rfl

/-- for each of the translator's commands, in every state and at every instant, the reply of the
    executor model round-trips through `resp_to_lua_value` / `lua_to_resp` -/
theorem translator_replies_conv_stable (s : Redis.State) (now : Nat) (op : Redis.Cmd) (h : luaOp op = true) :
    ConvStable (toResp (Redis.exec s now op).2) = true :=
  good_conv_stable _ (good_exec s now op h)

/-- `Redis.exec` as an executor of the script model, through ANY reading `sem` of the grammar's
    commands as commands of the executor model (the field-level reading is C01's tie, not fixed here);
    a command `sem` cannot read changes nothing and answers an error -/
def m7Exec (sem : Cmd → Option Redis.Cmd) (now : Nat) (s : Redis.State) (c : Cmd) : Redis.State × Resp :=
  match sem c with
  | some op => ((Redis.step s now op).1, toResp (Redis.step s now op).2)
  | none => (s, .error (s2b "ERR unknown command"))

/-- second half of C16 on the executor model: for every reading `sem` that maps the commands the
    translator accepts to `luaOp` commands, every state, every instant, every `redis.pcall(words…)`
    the translator accepts: the script `return redis.pcall(words…)` leaves exactly the keyspace and
    answers exactly the reply of the client path.  No command of the translator's table is excluded. -/
theorem call_equals_direct_on_M7 (sem : Cmd → Option Redis.Cmd) (now : Nat) (s : Redis.State) (env : Env)
    (args : List AExpr) (w : Bytes) (ws : List Bytes) (c : Cmd)
    (hargs : argsBytes (args.map (AExpr.eval env [])) = some (w :: ws)) (hp : parseLua (w :: ws) = .ok c)
    (hsem : ∀ op, sem c = some op → luaOp op = true) :
    evalScript (m7Exec sem now) env s ⟨[⟨true, args⟩], .res 0⟩ = directStep (m7Exec sem now) s (w :: ws) ∧
    parseCmd (w :: ws) = .ok c := by
  have hst : ConvStable (m7Exec sem now s c).2 = true := by
    unfold m7Exec
    cases hs : sem c with
    | none => show ConvStable (Resp.error (s2b "ERR unknown command")) = true; decide +kernel
    | some op => exact translator_replies_conv_stable _ now op (hsem op hs)
  obtain ⟨h1, h2⟩ := pcall_reply_equals_direct_partial (m7Exec sem now) env s args w ws c hargs hp hst
  exact ⟨by rw [h1, h2], lua_agrees_partial w ws c hp⟩

/-- a reading of three constructors, for the example below -/
def semDemo (c : Cmd) : Option Redis.Cmd :=
  match c.toks with
  | [.s _] => if c.ctor = s2b "Get" then some (.get 1) else if c.ctor = s2b "HGetAll" then some (.hgetall 1) else none
  | [.s _, .i a, .i b] => if c.ctor = s2b "LRange" then some (.lrange 1 a b) else none
  | _ => none

/-- non-vacuity: the hypothesis `hsem` for an accepted LRANGE, and the instance: on a keyspace holding the list
    `l = [a]`, `return redis.pcall('LRANGE', 'l', 0, -1)` answers the array the client gets -/
example : parseLua [s2b "LRANGE", s2b "l", s2b "0", s2b "-1"] = .ok ⟨s2b "LRange", [.s (s2b "l"), .i 0, .i (-1)]⟩ ∧
    (∀ op, semDemo ⟨s2b "LRange", [.s (s2b "l"), .i 0, .i (-1)]⟩ = some op → luaOp op = true) ∧
    (m7Exec semDemo 0 [(1, ⟨.list [[97]], none⟩)] ⟨s2b "LRange", [.s (s2b "l"), .i 0, .i (-1)]⟩).2 =
      .array (some [.bulk (some [97])]) := by
  refine ⟨lrange_accepted, ?_, by rfl⟩
  intro op h
  have : op = .lrange 1 0 (-1) := by
    simp only [semDemo] at h
    exact (Option.some.inj h).symm
  subst this
  rfl

/-! ## the script semantics of the code refines the script specification of the reference model

`Redis.stepScript` (Model/Redis.lean, used by C01 / C17) is Redis' own rule for a script that is a straight
sequence of `redis.call` on data commands ending in `return 'done'`: every call runs as the command itself at the same
instant, the first call that replies with an error raises it, the script stops there and the reply is that error;
what the earlier calls wrote stays.  `m7StepScript` below is the same function, clause by clause.  The theorem says that the
TRANSCRIPTION of `execute_lua_script` (`LuaScript.evalScript`: argument conversion, translator, execution, error
unwrapping with the code-word rule, `lua_to_resp`) instantiated with the reference executor computes exactly this
specification, for every state, instant and script of that form whose commands the translator knows. -/

def m7StepScript (s : Redis.State) (now : Nat) : List Redis.Cmd → Redis.State × Redis.Reply
  | [] => (s, .bulk [100, 111, 110, 101])
  | c :: cs =>
    match (Redis.step s now c).2 with
    | .err e => ((Redis.step s now c).1, .err e)
    | _ => m7StepScript (Redis.step s now c).1 now cs

/-- a statement `redis.call(w1, …, wn)` with literal string words -/
def litCall (ws : List Bytes) : Call := ⟨false, ws.map (fun w => AExpr.lit (.str w))⟩

theorem argsBytes_lits (env : Env) (acc : List LuaVal) (ws : List Bytes) :
    argsBytes ((litCall ws).args.map (AExpr.eval env acc)) = some ws := by
  induction ws with
  | nil => rfl
  | cons w ws ih =>
    simp only [litCall, List.map_cons, AExpr.eval, argsBytes, luaArgBytes] at ih ⊢
    rw [ih]

theorem toResp_error_iff (r : Redis.Reply) (t : Bytes) : toResp r = .error t ↔ ∃ e, r = .err e ∧ t = m7ErrText e := by
  cases r <;> simp [toResp, eq_comm]

theorem runCallsA_m7 (sem : Cmd → Option Redis.Cmd) (now : Nat) (env : Env) :
    ∀ (stmts : List (List Bytes × Cmd × Redis.Cmd)) (acc : List LuaVal) (s : Redis.State),
    (∀ x ∈ stmts, x.1 ≠ [] ∧ parseLua x.1 = .ok x.2.1 ∧ sem x.2.1 = some x.2.2) →
    let r := runCallsA (m7Exec sem now) env acc s (stmts.map (fun x => litCall x.1))
    let m := m7StepScript s now (stmts.map (·.2.2))
    r.state = m.1 ∧ ((∃ e, m.2 = .err e ∧ r.halt = some (.raised (m7ErrText e))) ∨
      (m.2 = .bulk [100, 111, 110, 101] ∧ r.halt = none)) := by
  intro stmts
  induction stmts with
  | nil => intro acc s _; exact ⟨rfl, Or.inr ⟨rfl, rfl⟩⟩
  | cons x xs ih =>
    intro acc s h
    obtain ⟨hne, hp, hs⟩ := h x (by simp)
    obtain ⟨w, ws, hw⟩ := List.exists_cons_of_ne_nil hne
    have hargs : argsBytes ((litCall x.1).args.map (AExpr.eval env acc)) = some (w :: ws) :=
      hw ▸ argsBytes_lits env acc x.1
    simp only [List.map_cons, runCallsA, m7StepScript, doCall_ok (m7Exec sem now) hargs (hw ▸ hp), m7Exec, hs]
    cases (Redis.step s now x.2.2).2 with
    | err e => exact ⟨rfl, Or.inl ⟨e, rfl, rfl⟩⟩
    | _ => simp only [toResp, callOutcome]; exact ih _ _ (fun y hy => h y (by simp [hy]))

/-- the transcription of `execute_lua_script` over the reference executor computes the reference model's script
    rule: same final keyspace, same reply (the first error reply, or `done`), for every state, instant and script
    of `redis.call` statements with literal words that the translator knows -/
theorem script_refines_m7_spec (sem : Cmd → Option Redis.Cmd) (now : Nat) (env : Env) (s : Redis.State)
    (stmts : List (List Bytes × Cmd × Redis.Cmd))
    (h : ∀ x ∈ stmts, x.1 ≠ [] ∧ parseLua x.1 = .ok x.2.1 ∧ sem x.2.1 = some x.2.2) :
    evalScript (m7Exec sem now) env s ⟨stmts.map (fun x => litCall x.1), .lit (.str (s2b "done"))⟩ =
      ((m7StepScript s now (stmts.map (·.2.2))).1, some (toResp (m7StepScript s now (stmts.map (·.2.2))).2)) := by
  obtain ⟨hst, hh⟩ := runCallsA_m7 sem now env stmts [] s h
  simp only [evalScript, runCalls]
  rcases hh with ⟨e, he, hhalt⟩ | ⟨hd, hhalt⟩
  · rw [hhalt, he, hst]
    simp only [toResp, raiseReply, m7_err_has_code e, if_true]
  · rw [hhalt, hd, hst]
    simp only [Ret.eval, luaToResp, toResp]
    rfl

/-- non-vacuity: `redis.call('GET','l')` on a keyspace where `l` is a list — the hypothesis holds, the specification
    stops with WRONGTYPE and leaves the list, and so does the transcription -/
example : (∀ x ∈ [(([s2b "GET", s2b "l"] : List Bytes), (⟨s2b "Get", [.s (s2b "l")]⟩ : Cmd), Redis.Cmd.get 1)],
      x.1 ≠ [] ∧ parseLua x.1 = .ok x.2.1 ∧ semDemo x.2.1 = some x.2.2) ∧
    (m7StepScript [(1, ⟨.list [[97]], none⟩)] 0 [.get 1]).2 = .err .wrongType := by
  refine ⟨?_, by rfl⟩
  intro x hx
  simp only [List.mem_cons, List.mem_nil_iff, or_false] at hx
  subst hx
  exact ⟨by simp, by decide, by rfl⟩

/-- the replies the conversion would NOT carry: a nil inside an array — MGET of a missing key on the
    empty keyspace.  MGET has no translator entry (it is refused in scripts: known finding); the
    statement says what adding it without repairing the nil conversion would do. -/
theorem mget_reply_not_conv_stable :
    ConvStable (toResp (Redis.exec [] 0 (.mget [5, 7])).2) = false ∧
    luaToResp (respToLua (toResp (Redis.exec [] 0 (.mget [5, 7])).2)) = .array (some []) :=
  ⟨by decide, by rfl⟩

end C16
end RedisVerif
