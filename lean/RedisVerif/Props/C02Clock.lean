import RedisVerif.Props.C02Node

/-!
# C02 with PER-SHARD clocks: the global monotonicity hypothesis weakened

`linearizable_m7_single_store` / `linearizable_node_entry_paths` assume `LinMono(G)`: the virtual times at which
operations take effect never go backwards along the whole log.  The node has no global clock: a message makes ITS
shard adopt its time (`set_time`), other shards keep theirs; two clients whose requests go to different shards may
take effect in either order of their stamps.  Here the hypothesis is per shard, and the specification is ONE store
with PER-KEY LAZY EXPIRY (`specL`: the request's own keys are judged at its time, nothing else is touched).

Still a hypothesis (stamps are read before the enqueue, so two clients of one shard can invert them); it is what the
harness' timed histories satisfy (the clock is advanced between phases only).
-/
namespace RedisVerif
namespace C02
open Actors Shards NMap Shards.M7 C03
open Redis (Entry cmdKeys Prog runProg ProgKeys LocalOn)

open Server (Same execVia execSc)

/-- one sharding command `sc` that stands for the M7 command `c` (`Same`), after the shards in `W` swept
    at `now`: `W` covers the home shards of `c`'s keys and none of those is ahead of `now`.  The one
    store purges only `c`'s keys — `c` is local on them — and the swept shards move to `now`. -/
theorem stepSc_refines_V {R : Routes} (hv : R.Valid) (hN : 0 < R.N) {st : Shards Entry} {s1 : Redis.State}
    {ts : Nat → Nat} {now : Nat} (h : Rel7V R st s1 ts) (sc : Cmd sig7) (post : Reply → Reply)
    (c : Redis.Cmd) (K : List Nat) (hK : cmdKeys c = some K)
    (hrt : Routable R true sc = true) (hsame : Same now sc post c) (W : Nat → Bool)
    (hcov : ∀ k ∈ K, W (R.bytes k) = true) (hts : ∀ k ∈ K, ts (R.bytes k) ≤ now) :
    toM7 (post (execN exec7 R true (sweep W now st) sc).2) = some (Redis.exec (purgeOn K s1 now) now c).2 ∧
    Rel7V R (execN exec7 R true (sweep W now st) sc).1 (Redis.exec (purgeOn K s1 now) now c).1
      (advClock W now ts) := by
  have hinv0 := inv_sweep h.inv W now
  obtain ⟨hi, ha, hq⟩ := shards_refine_single_m7 R hv hN hinv0 sc hrt
  obtain ⟨e1, hrel⟩ := h.step now W (Redis.exec_localOn now c K hK).toShards hcov hts hi
    (ha.trans (hsame.st _ hinv0.wf_abs))
  exact ⟨by rw [eq_of_replyEqv hq (hsame.nk _) (hsame.nr _), hsame.rep _ hinv0.wf_abs, e1], hrel⟩

/-- a script runs on the home shard of its first key, so all its keys have to live there -/
def ReqLOk (R : Routes) : ReqL → Prop
  | .via _ _ c => CmdOk R c = true
  | .script _ keys p => keys ≠ [] ∧ ProgKeys keys p ∧ ∀ x ∈ keys, R.bytes x = R.bytes (keys.headD 0)

theorem reqL_refines {R : Routes} (hv : R.Valid) (hN : 0 < R.N) {st : Shards Entry} {s1 : Redis.State}
    {ts : Nat → Nat} (h : Rel7V R st s1 ts) (req : ReqL) (hok : ReqLOk R req) (hc : okClock R ts req) :
    (stepL R st req).2 = (specL s1 req).2 ∧ Rel7V R (stepL R st req).1 (specL s1 req).1 (advL R ts req) := by
  cases req with
  | via cls now c =>
    obtain ⟨hr, K, hK⟩ := cmdOk_keys hok
    obtain ⟨f1, f2, f3, _⟩ := Server.via_facts R cls now c hr (cmdOk_not_keys hok)
    have hkeys : (ReqL.via cls now c).keys = K := by simp [ReqL.keys, hK]
    have hts : ∀ k ∈ K, ts (R.bytes k) ≤ now := fun k hk => hc k (by rw [hkeys]; exact hk)
    obtain ⟨e1, e2⟩ := stepSc_refines_V hv hN h (viaPlan cls now c).1 (viaPlan cls now c).2 c K hK f2 f1
      (recv R (viaPlan cls now c).1) (f3 K hK) hts
    have hspec : specL s1 (.via cls now c) =
        ((Redis.exec (purgeOn K s1 now) now c).1, some (Redis.exec (purgeOn K s1 now) now c).2) := by
      simp [specL, hK]
    rw [hspec]
    show toM7 (execVia R cls now st c).2 = _ ∧ Rel7V R (execVia R cls now st c).1 _ _
    rw [execVia_plan]
    exact ⟨e1, e2⟩
  | script now keys p =>
    obtain ⟨_, hpk, hK⟩ := hok
    have L := (Redis.prog_localOn now hpk).toShards
    obtain ⟨hi, ha, hq⟩ := refine_onShard (inv_sweep h.inv (fun j => j == R.bytes (keys.headD 0)) now)
      (R.bytes (keys.headD 0)) (hv _).2 L hK
    obtain ⟨e1, hrel⟩ := h.step now _ L (fun x hx => by simp [hK x hx]) hc hi ha
    exact ⟨congrArg (fun r => toM7 (Reply.one (.ext r))) (hq.trans e1), hrel⟩

theorem linMonoT_iff {Req Resp τ : Type} (okT : τ → Req → Prop) (adv : τ → Req → τ) (pend : NMap Req) (t : τ)
    (l : List (Ev Req Resp)) : LinMonoT okT adv pend t l ↔ LinMonoK id okT adv pend t l := by
  induction l generalizing pend t with
  | nil => exact Iff.rfl
  | cons e es ih =>
    cases e with
    | inv id req => exact ih _ _
    | lin id resp => unfold LinMonoT LinMonoK; cases NMap.get pend id <;> simp only [ih]
    | res id resp => exact ih _ _

section clock
variable {σA σB Req Resp τ : Type} [DecidableEq Resp]
  (stepA : σA → Req → σA × Resp) (stepB : σB → Req → σB × Resp)
  (Ok : Req → Prop) (okT : τ → Req → Prop) (adv : τ → Req → τ) (Rel : σA → σB → τ → Prop)

theorem replay_sim_clock
    (href : ∀ a b t req, Rel a b t → okT t req → Ok req →
      (stepA a req).2 = (stepB b req).2 ∧ Rel (stepA a req).1 (stepB b req).1 (adv t req))
    (log : List (Ev Req Resp)) (t : τ) (tm : NMap Req)
    (rA rA' : RState σA Req Resp) (rB : RState σB Req Resp)
    (hrel : Rel rA.s rB.s t) (hp : rA.pend = rB.pend) (hd : rA.done = rB.done) (hn : rA.next = rB.next)
    (hwf : WF rA.pend)
    (hok : ∀ id req, get rA.pend id = some req → Ok req ∧ get tm id = some req)
    (hlog : ∀ id req, (.inv id req) ∈ log → Ok req)
    (hmono : LinMonoT okT adv tm t log)
    (h : replay stepA rA log = some rA') :
    ∃ rB', replay stepB rB log = some rB' :=
  replay_sim stepA stepB id okT adv Ok Rel href log t tm rA rA' rB hrel hp hd hn hwf hok hlog
    ((linMonoT_iff _ _ _ _ _).mp hmono) h

theorem linearizable_of_clock_refinement (route : Req → Nat) (a0 : σA) (b0 : σB) (t0 : τ) (h0 : Rel a0 b0 t0)
    (href : ∀ a b t req, Rel a b t → okT t req → Ok req →
      (stepA a req).2 = (stepB b req).2 ∧ Rel (stepA a req).1 (stepB b req).1 (adv t req))
    {pool : Nat} {s : Sys σA Req Resp} (hr : Reach stepA route a0 pool s)
    (hok : ∀ id req, (.inv id req) ∈ s.log → Ok req)
    (hmono : LinMonoT okT adv [] t0 s.log) :
    ValidLog stepB b0 s.log ∧ Linearizable stepB b0 (history s.log) :=
  linearizable_of_sim stepA route a0 stepB id okT adv Ok Rel b0 t0 h0 href hr hok
    ((linMonoT_iff _ _ _ _ _).mp hmono)

end clock

/-- **C02 over the composed node, PER-SHARD clocks**: every execution of the actor system — every
    interleaving, any number of shards / clients / pooled slots, abandoned requests, every entry path —
    in which every operation takes effect at a time not earlier than the time THE SHARD(S) OF ITS KEYS
    last adopted (`okClock`: nothing is assumed about the order of times across shards) is linearizable
    w.r.t. ONE store with per-key lazy expiry (`specL`) -/
theorem linearizable_node_per_shard_clocks (R : Routes) (hv : R.Valid) (hN : 0 < R.N) {pool : Nat}
    {s : Sys (Shards Entry) ReqL (Option Redis.Reply)}
    (hr : Reach (stepL R) (routeL R) (Shards.init Entry R.N) pool s)
    (hok : ∀ id req, (.inv id req) ∈ s.log → ReqLOk R req)
    (hmono : LinMonoT (okClock R) (advL R) [] (fun _ => 0) s.log) :
    ValidLog specL Redis.init s.log ∧ Linearizable specL Redis.init (history s.log) :=
  linearizable_of_clock_refinement (stepL R) specL (ReqLOk R) (okClock R) (advL R) (Rel7V R) (routeL R) _ _ _
    (rel7V_init R) (fun _ _ _ req hrel hc hokr => reqL_refines hv hN hrel req hokr hc) hr hok hmono

instance {Req Resp τ : Type} (okT : τ → Req → Prop) [∀ t r, Decidable (okT t r)] (adv : τ → Req → τ)
    (pend : NMap Req) (t : τ) (l : List (Ev Req Resp)) : Decidable (LinMonoT okT adv pend t l) :=
  decidable_of_iff _ (linMonoT_iff okT adv pend t l).symm

def lSet : ReqL := .via .generic 10 (.set 1 [97] .always (.px 5) false)
def lStale : ReqL := .via .getFast 5 (.get 2)
def lLate : ReqL := .via .generic 20 (.get 1)

/-- non-vacuity, and more than `linearizable_node_entry_paths` covers: client 0 writes key 1 (shard 0) at
    time 10 with a deadline; client 1's pooled GET of key 2 (shard 1) carries the STALE stamp 5 (it read
    the clock before client 0 did and was scheduled later) and takes effect AFTER the write; client 2
    reads key 1 at time 20 (expired).  The effect times 10, 5, 20 are not monotone — `LinMonoG` fails —
    but every shard sees non-decreasing times. -/
theorem per_shard_clock_reach : ∃ s, Reach (stepL routes7) (routeL routes7) (Shards.init Entry 2) 1 s ∧
    history s.log = [.inv 0 lSet, .inv 1 lStale, .res 0 (some .ok), .res 1 (some .nil), .inv 2 lLate, .res 2 (some .nil)] ∧
    (∀ id req, (.inv id req) ∈ s.log → ReqLOk routes7 req) ∧
    LinMonoT (okClock routes7) (advL routes7) [] (fun _ => 0) s.log ∧
    ¬ LinMonoG ReqL.time [] 0 s.log := by
  have r0 : Reach (stepL routes7) (routeL routes7) (Shards.init Entry 2) 1 (Sys.init _ 1) := Reach.init
  have r1 := Reach.step r0 (Step.invokeFresh _ 0 lSet rfl)
  have r2 := Reach.step r1 (Step.invokePooled _ 1 lStale 0 [] rfl rfl)
  have r3 := Reach.step r2 (Step.exec _ 0 ⟨0, 1, lSet⟩ [] rfl)
  have r4 := Reach.step r3 (Step.exec _ 1 ⟨1, 0, lStale⟩ [] rfl)
  have r5 := Reach.step r4 (Step.retDrop _ 0 0 lSet 1 (some .ok) rfl rfl)
  have r6 := Reach.step r5 (Step.retRelease _ 1 1 lStale 0 (some .nil) rfl rfl)
  have r7 := Reach.step r6 (Step.invokeFresh _ 2 lLate rfl)
  have r8 := Reach.step r7 (Step.exec _ 0 ⟨2, 2, lLate⟩ [] rfl)
  have r9 := Reach.step r8 (Step.retDrop _ 2 2 lLate 2 (some .nil) rfl rfl)
  refine ⟨_, r9, rfl, ?_, by decide, by decide⟩
  intro id req hm
  simp only [List.mem_append, List.mem_cons, List.not_mem_nil, or_false, reduceCtorEq, Ev.inv.injEq] at hm
  rcases hm with ((hm | ⟨_, rfl⟩) | ⟨_, rfl⟩) | ⟨_, rfl⟩
  · cases hm
  · show CmdOk routes7 _ = true; decide
  · show CmdOk routes7 _ = true; decide
  · show CmdOk routes7 _ = true; decide

example : Linearizable specL Redis.init
    ([.inv 0 lSet, .inv 1 lStale, .res 0 (some .ok), .res 1 (some .nil), .inv 2 lLate, .res 2 (some .nil)] :
      List (Ev ReqL (Option Redis.Reply))) := by
  obtain ⟨s, hr, hh, hok, hm, _⟩ := per_shard_clock_reach
  rw [← hh]
  exact (linearizable_node_per_shard_clocks routes7 routes7_valid (by decide) hr hok hm).2

/-- why the clock condition is per SHARD and cannot be dropped: keys 1 and 3 live on shard 0.  Key 3 gets the
    deadline 18; a GET of key 1 at time 20 makes shard 0 adopt 20 and evict key 3 with it; a request for
    key 3 stamped 16 that takes effect afterwards finds nothing on the node, while one store with lazy
    expiry would still show the value at 16.  `okClock` fails for that last request. -/
theorem stale_stamp_same_shard_counterexample :
    let r1 : ReqL := .via .generic 10 (.set 3 [118] .always (.px 8) false)
    let r2 : ReqL := .via .generic 20 (.get 1)
    let r3 : ReqL := .via .generic 16 (.get 3)
    let n2 := (stepL routes7 (stepL routes7 (Shards.init Entry 2) r1).1 r2).1
    let s2 := (specL (specL Redis.init r1).1 r2).1
    (stepL routes7 n2 r3).2 = some .nil ∧ (specL s2 r3).2 = some (.bulk [118]) ∧
    ¬ okClock routes7 (advL routes7 (advL routes7 (fun _ => 0) r1) r2) r3 := by decide

end C02
end RedisVerif
