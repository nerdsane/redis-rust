import RedisVerif.Model.ExecutorScan

/-!
# C01 — SCAN paging (`execute_scan` / `execute_hscan` / `execute_zscan` of scan_ops.rs)

Redis' guarantee: "a full iteration — starting at cursor 0 and following the returned cursor until it
is 0 again — returns every element that is present during the whole iteration".  For the code's paging
arithmetic this is `scan_complete_partial`: for every key list, every `COUNT ≥ 1` (below `usize::MAX`) the
full iteration terminates and returns exactly the (sorted, matching) keys, each once.

The full statement for EVERY count a `Command::Scan` can carry is false (`scan_count_zero_counterexample`):
`count = 0` answers an empty page with the cursor unchanged — from cursor 0 that reads "iteration
complete, no keys".  Both parsers refuse `COUNT < 1` with a syntax error as Redis does, so `COUNT 0` and
`COUNT -1` (= `usize::MAX`) do not reach the executor (`scan_pass` keeps both as witnesses: a parser that
accepts them is a VIOLATION, finding `C01:scan-count-nonpositive-accepted`), and the executor takes
`count.saturating_add(1)`, so `usize::MAX` is an ordinary count (`scan_count_max_complete`).
-/
namespace RedisVerif.C01Scan
open RedisVerif RedisVerif.Executor

/-- full statement: whatever COUNT the command carries, a full iteration returns the keys -/
def C01_scan_complete : Prop :=
  ∀ (keys : List Nat) (count : Nat), ∃ fuel, scanAll keys count fuel 0 = some keys

theorem scanPage_eq {α : Type} (keys : List α) (cursor count : Nat) (h1 : 1 ≤ count)
    (hk : keys.length < two64 - 1) :
    scanPage keys cursor count =
      if count < keys.length - cursor then some (cursor + count, (keys.drop cursor).take count)
      else some (0, keys.drop cursor) := by
  unfold scanPage
  have hlen : ((keys.drop cursor).take (min (count + 1) (two64 - 1))).length =
      min (min (count + 1) (two64 - 1)) (keys.length - cursor) := by
    rw [List.length_take, List.length_drop]
  rw [hlen]
  by_cases hbig : count < keys.length - cursor
  · rw [if_pos (by omega), if_pos hbig, List.take_take, Nat.min_eq_left (by omega)]
  · rw [if_neg (by omega), if_neg hbig, List.take_of_length_le (by rw [List.length_drop]; omega)]

theorem scanAll_drop {α : Type} (keys : List α) (count : Nat) (h1 : 1 ≤ count) (hk : keys.length < two64 - 1) :
    ∀ (fuel cursor : Nat), keys.length - cursor < fuel →
      scanAll keys count fuel cursor = some (keys.drop cursor) := by
  intro fuel
  induction fuel with
  | zero => intro cursor h; omega
  | succ fuel ih =>
    intro cursor hf
    rw [scanAll, scanPage_eq keys cursor count h1 hk]
    by_cases hbig : count < keys.length - cursor
    · rw [if_pos hbig]
      simp only [if_neg (show ¬ cursor + count = 0 by omega)]
      rw [ih (cursor + count) (by omega), Option.map_some, ← List.drop_drop, List.take_append_drop]
    · rw [if_neg hbig]
      rfl
/-- **SCAN is complete for every `COUNT ≥ 1`** (any `usize`): the full iteration terminates after at most
    `len + 1` calls and returns exactly the key list, in order, each key once. -/
theorem scan_complete_partial (keys : List Nat) (count : Nat) (h1 : 1 ≤ count) (hk : keys.length < two64 - 1) :
    scanAll keys count (keys.length + 1) 0 = some keys := by
  have := scanAll_drop keys count h1 hk (keys.length + 1) 0 (by omega)
  simpa using this

/-- every page holds at most `count + 1` keys and a non-zero cursor comes with a page of exactly `count` -/
theorem scan_page_bounds {α : Type} (keys : List α) (cursor count next : Nat) (page : List α)
    (h : scanPage keys cursor count = some (next, page)) :
    page.length ≤ count + 1 ∧ (next ≠ 0 → page.length = count ∧ next = cursor + count) := by
  unfold scanPage at h
  split at h
  · rename_i hgt
    cases h
    refine ⟨by simp [List.length_take]; omega, fun _ => ⟨?_, rfl⟩⟩
    simp only [List.length_take] at hgt ⊢
    omega
  · cases h
    exact ⟨by simp [List.length_take]; omega, fun hne => absurd rfl hne⟩

/-- `SCAN 0 COUNT 0` on a non-empty keyspace: cursor 0, no keys — "nothing to iterate" -/
theorem scan_count_zero_counterexample : scanAll [7] 0 5 0 = some [] := by decide

/-- … and from a non-zero cursor COUNT 0 never advances (the same cursor comes back, here 5 times) -/
theorem scan_count_zero_never_advances : scanAll [7, 8, 9] 0 5 1 = none ∧
    scanPage [7, 8, 9] 1 0 = some (1, []) := by decide

/-- `count = usize::MAX` is an ordinary count (`saturating_add`): one page with everything -/
theorem scan_count_max_complete : scanAll [7, 8, 9] (two64 - 1) 2 0 = some [7, 8, 9] := by decide

theorem C01_scan_complete_counterexample : ¬ C01_scan_complete := by
  intro h
  obtain ⟨fuel, hf⟩ := h [7] 0
  cases fuel with
  | zero => simp [scanAll] at hf
  | succ f => simp [scanAll, scanPage, two64] at hf

/-- non-vacuity: three pages of two -/
example : scanAll [1, 2, 3, 4, 5] 2 6 0 = some [1, 2, 3, 4, 5] := by decide

/-- SCAN never touches the state (C17: it is classified read-only) -/
theorem scan_is_noop (cs : CState) (cursor : Nat) (pat : Option Redis.BS) (count : Option Nat)
    (cs' : CState) (r : Nat × List Nat) (h : cScan cs cursor pat count = some (cs', r)) : cs' = cs := by
  unfold cScan at h
  cases hp : scanPage (scanKeys cs pat) cursor (count.getD 10) with
  | none => rw [hp] at h; cases h
  | some q => rw [hp] at h; cases h; rfl

end RedisVerif.C01Scan
