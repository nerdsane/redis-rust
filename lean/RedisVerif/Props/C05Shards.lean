import RedisVerif.Props.C05M7
import RedisVerif.Props.C03M7

/-!
# C05 ∘ C03 — EXEC on a sharded node

The production node is `R.N` shard actors, each with its own store and clock; EXEC replays the
queue through `ShardedActorState::execute`, command by command.  `Props/C03M7.lean`
(`run7_refines`) shows that such a consecutive timed run answers like `Redis.run` on one store;
composed with `Props/C05M7.lean`: the shard count is unobservable to a transaction that nobody
interleaves with.
-/
namespace RedisVerif
namespace C05
open Txn Txn7
open Shards Shards.M7 C03
open Redis (State Cmd purge)

theorem mono7_const (now : Nat) (cs : List Cmd) : Mono7 now (cs.map (fun c => (now, c))) := by
  induction cs with
  | nil => trivial
  | cons c rest ih => exact ⟨Nat.le_refl now, ih⟩

theorem mono7_of_monoFrom : ∀ (a : Nat) (ts : List Nat) (cs : List Cmd), MonoFrom a ts → Mono7 a (ts.zip cs)
  | _, [], _, _ => trivial
  | _, _ :: _, [], _ => trivial
  | a, t :: ts, c :: cs, h => ⟨h.1, mono7_of_monoFrom t ts cs h.2⟩

/-- **EXEC = the consecutive run on `R.N` shards**: the node of the one-store model and the sharded
    node are indistinguishable to a reader from the node's instant on (`Rel7`); every queued command
    is routable (not RANDOMKEY; two-key commands / MSETNX with their keys on one shard); nobody
    interferes and the snapshots match.  Then the results of EXEC are, one by one, the replies the
    `R.N` shards give to the queued commands executed consecutively. -/
theorem m7_exec_equals_sharded_run (R : Routes) (hv : R.Valid) (hN : 0 < R.N) (st : Shards Redis.Entry)
    (sched : List (List Cmd7)) (t : ConnTxn Nat Cmd7 Rep7) (n : Node) (cs : List Cmd)
    (hin : t.inTxn = true) (herr : t.errors = false) (hq : t.queue = cs.map .data)
    (hs : NoInterleaving sched) (hw : ∀ p ∈ t.watched, backend7.getReply n p.1 = p.2) (hn : NodeOk n)
    (hrel : Rel7 R st n.s n.now) (hr : ∀ c ∈ cs, Routable7 R c = true) :
    ∃ rs : List Redis.Reply,
      (step backend7 sched t n .exec).2.2 = .results (rs.map .data) ∧ rs.length = cs.length ∧
      repliesEqv7 (run7 R st (cs.map (fun c => (n.now, c)))).2 rs = true := by
  obtain ⟨e, l⟩ := m7_exec_equals_redis_run sched t n cs hin herr hq hs hw hn
  refine ⟨(Redis.run n.s (cs.map (fun c => (n.now, c)))).2, by rw [e], l, ?_⟩
  exact (run7_refines hv hN (cs.map (fun c => (n.now, c)))
    (fun x hx => by
      obtain ⟨c, hc, rfl⟩ := List.mem_map.mp hx
      exact hr c hc) hrel (mono7_const n.now cs)).1

/-- … and when time passes between the replayed commands (no watched keys): the results are the
    replies of the `R.N` shards to the queued commands at the instants of replay -/
theorem m7_exec_timed_equals_sharded_run (R : Routes) (hv : R.Valid) (hN : 0 < R.N) (st : Shards Redis.Entry)
    (t : ConnTxn Nat Cmd7 Rep7) (n : Node) (cs : List Cmd) (ts : List Nat)
    (hin : t.inTxn = true) (herr : t.errors = false) (hw : t.watched = []) (hq : t.queue = cs.map .data)
    (hl : ts.length = cs.length) (hm : MonoFrom n.now ts) (hn : NodeOk n)
    (hrel : Rel7 R st n.s n.now) (hr : ∀ c ∈ cs, Routable7 R c = true) :
    ∃ rs : List Redis.Reply,
      (step backend7 (tickSched ts) t n .exec).2.2 = .results (rs.map .data) ∧
      repliesEqv7 (run7 R st (ts.zip cs)).2 rs = true := by
  refine ⟨(Redis.run n.s (ts.zip cs)).2, m7_exec_timed t n cs ts hin herr hw hq hl hm hn, ?_⟩
  exact (run7_refines hv hN (ts.zip cs)
    (fun x hx => hr x.2 (List.of_mem_zip hx).2) hrel (mono7_of_monoFrom n.now ts cs hm)).1

/-- non-vacuity: two shards (keys 1 and 3 on shard 0, key 2 on shard 1: `C03.routes7`), an empty
    node; `MULTI; SET 1 a; RPUSH 2 x; MSET 1 b 3 c; DEL 1 2; EXEC` — the hypotheses hold -/
example :
    let cs : List Cmd := [.set 1 [97] .always .none false, .rpush 2 [[120]], .mset [(1, [98]), (3, [99])], .del [1, 2]]
    routes7.Valid ∧ 0 < routes7.N ∧ Rel7 routes7 (Shards.init Redis.Entry routes7.N) (Node.init 1000).s (Node.init 1000).now ∧
    (∀ c ∈ cs, Routable7 routes7 c = true) ∧ NodeOk (Node.init 1000) :=
  ⟨routes7_valid, by decide, (rel7_init routes7).mono (Nat.zero_le _), by decide, nodeOk_init 1000⟩

end C05
end RedisVerif
