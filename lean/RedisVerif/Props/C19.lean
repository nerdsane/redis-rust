import RedisVerif.Model.Ring
import RedisVerif.Lemmas.Ring
import RedisVerif.Lemmas.Crdt

/-!
# C19 — Key placement is a function of membership; selective gossip reaches every owner

Model: `RedisVerif.Ring` (M8, `Model/Ring.lean`) = `HashRing`, `GossipRouter`, `GossipState::queue_deltas`.
`hashV` (position of a virtual node) is an arbitrary function and a key is its ring position:
nothing below depends on SipHash.  Theorems quantify over every `HashRing` value reachable
through `new` / `add_node` / `remove_node` (`Reachable`), any number of nodes, virtual nodes,
any replication factor, any key position.
-/
namespace RedisVerif
namespace C19

open Ring

/-! ## full-strength statements -/

/-- every join order of the same membership yields the same ring (`tb` = the sort key of
    `add_node`: `.joinOrder` is the code before f1f7630, `.total` the current one) -/
def C19_ring_order_independent (tb : TieBreak) : Prop :=
  ∀ (hashV : Nat → Nat → Nat) (nodes nodes' : List Nat) (vnodes rf : Nat), nodes.Perm nodes' →
    (newTB tb hashV nodes vnodes rf).ring = (newTB tb hashV nodes' vnodes rf).ring

/-- … hence the same ordered replica list for every key -/
def C19_replicas_order_independent (tb : TieBreak) : Prop :=
  ∀ (hashV : Nat → Nat → Nat) (nodes nodes' : List Nat) (vnodes rf keyPos : Nat), nodes.Perm nodes' →
    getReplicas (newTB tb hashV nodes vnodes rf) keyPos = getReplicas (newTB tb hashV nodes' vnodes rf) keyPos

def C19_replicas_count_distinct : Prop :=
  ∀ (hashV : Nat → Nat → Nat) (r : HashRing) (keyPos rf : Nat), Reachable hashV r → 1 ≤ r.vnodes →
    (getReplicasWithRf r keyPos rf).length = min rf r.phys.length ∧ (getReplicasWithRf r keyPos rf).Nodup

def C19_minimal_disruption_remove : Prop :=
  ∀ (hashV : Nat → Nat → Nat) (r : HashRing) (x keyPos : Nat), Reachable hashV r →
    ¬ x ∈ getReplicas r keyPos → getReplicas (removeNode r x) keyPos = getReplicas r keyPos

def C19_minimal_disruption_add : Prop :=
  ∀ (hashV : Nat → Nat → Nat) (r : HashRing) (x keyPos : Nat), Reachable hashV r →
    ¬ x ∈ getReplicas (addNode hashV r x) keyPos →
    getReplicas (addNode hashV r x) keyPos = getReplicas r keyPos

def C19_targets_exact : Prop :=
  ∀ (r : HashRing) (keyPos sender t : Nat),
    t ∈ gossipTargets r keyPos sender ↔ t ∈ getReplicas r keyPos ∧ t ≠ sender

/-- the router knows an address for every other member -/
def PeersCoverMembers (ring : HashRing) (rt : Router) : Prop :=
  ∀ m ∈ ring.phys, m ≠ rt.self → (rt.peers.get m).isSome = true

instance (ring : HashRing) (rt : Router) : Decidable (PeersCoverMembers ring rt) := by
  unfold PeersCoverMembers; infer_instance

/-- every delta is handed to every responsible replica other than the sender, and to nobody
    else (in the order of the batch, once each) -/
def C19_route_covers_owners : Prop :=
  ∀ (hashV : Nat → Nat → Nat) (ring : HashRing) (rt : Router) (deltas : List Nat) (t : Nat),
    Reachable hashV ring → PeersCoverMembers ring rt →
    row (routeSelective ring rt deltas) t
      = deltas.filter (fun d => decide (t ∈ getReplicas ring d) && (t != rt.self))

/-- `from_config` registers exactly the other members `{1..n+1} \ {replica_id}` of a cluster
    of `n` peers + self with sequential ids -/
def C19_from_config_peer_ids (a : PeerIdArith) : Prop :=
  ∀ (replicaId npeers id : Nat), 1 ≤ replicaId → replicaId ≤ npeers + 1 →
    ((NMap.get (fromConfigPeers a replicaId npeers) id).isSome = true
      ↔ (1 ≤ id ∧ id ≤ npeers + 1 ∧ id ≠ replicaId))

/-! ## placement is a function of the membership set -/

/-- **C19 (join order), partial**: under `PosInjective` the ring does not depend on the order in
    which the members joined — for either sort key.  Missing for `C19_ring_order_independent .joinOrder`:
    memberships in which two distinct virtual nodes hash to the same position (a 64-bit SipHash
    collision) — there the statement is false for the code before f1f7630: `ring_order_collision_counterexample`
    (abstract hash) and `ring_order_sip13_counterexample` (the REAL hash, two real node ids). -/
theorem ring_order_independent_tb_partial (tb : TieBreak) (hashV : Nat → Nat → Nat) (nodes nodes' : List Nat)
    (vnodes rf : Nat) (hp : nodes.Perm nodes') (hinj : PosInjective hashV nodes vnodes) :
    (newTB tb hashV nodes vnodes rf).ring = (newTB tb hashV nodes' vnodes rf).ring :=
  (newTB_placement_eq tb hashV vnodes rf hp
    (keySeparates_of_posInjective (newTB_reachable ..) (posInjective_newTB rf hinj))).1

theorem ring_order_independent_partial (hashV : Nat → Nat → Nat) (nodes nodes' : List Nat)
    (vnodes rf : Nat) (hp : nodes.Perm nodes') (hinj : PosInjective hashV nodes vnodes) :
    (new hashV nodes vnodes rf).ring = (new hashV nodes' vnodes rf).ring :=
  ring_order_independent_tb_partial _ hashV nodes nodes' vnodes rf hp hinj

/-- **C19 (same replica list on every node), partial** (same hypothesis) -/
theorem replicas_order_independent_tb_partial (tb : TieBreak) (hashV : Nat → Nat → Nat) (nodes nodes' : List Nat)
    (vnodes rf keyPos : Nat) (hp : nodes.Perm nodes') (hinj : PosInjective hashV nodes vnodes) :
    getReplicas (newTB tb hashV nodes vnodes rf) keyPos = getReplicas (newTB tb hashV nodes' vnodes rf) keyPos :=
  (newTB_placement_eq tb hashV vnodes rf hp
    (keySeparates_of_posInjective (newTB_reachable ..) (posInjective_newTB rf hinj))).2 keyPos

theorem replicas_order_independent_partial (hashV : Nat → Nat → Nat) (nodes nodes' : List Nat)
    (vnodes rf keyPos : Nat) (hp : nodes.Perm nodes') (hinj : PosInjective hashV nodes vnodes) :
    getReplicas (new hashV nodes vnodes rf) keyPos = getReplicas (new hashV nodes' vnodes rf) keyPos :=
  replicas_order_independent_tb_partial _ hashV nodes nodes' vnodes rf keyPos hp hinj

/-- **C19 (join order), FULL statement, for the current sort key**: when `add_node` sorts by
    (position, node id, virtual index) the ring is a function of the membership SET — for EVERY
    hash function (colliding or not), every membership, every two join orders, every vnode count.
    No hypothesis about SipHash is left. -/
theorem ring_order_independent_total : C19_ring_order_independent .total :=
  fun hashV _ _ vnodes rf hp => (newTB_placement_eq .total hashV vnodes rf hp (keySeparates_total (newTB_tb ..))).1

/-- … hence every node computes the same ordered replica list for every key (FULL statement) -/
theorem replicas_order_independent_total : C19_replicas_order_independent .total :=
  fun hashV _ _ vnodes rf keyPos hp =>
    (newTB_placement_eq .total hashV vnodes rf hp (keySeparates_total (newTB_tb ..))).2 keyPos

/-- the same for ANY two reachable rings (any history of `add_node` / `remove_node`, not only
    `new`) that hold the same membership set: with the current sort key the ring is determined -/
theorem ring_determined_by_members_total (hashV : Nat → Nat → Nat) (r₁ r₂ : HashRing)
    (h1 : Reachable hashV r₁) (h2 : Reachable hashV r₂) (ht1 : r₁.tb = .total) (ht2 : r₂.tb = .total)
    (hv : r₁.vnodes = r₂.vnodes) (hm : ∀ y, y ∈ r₁.phys ↔ y ∈ r₂.phys) (keyPos rf : Nat) :
    r₁.ring = r₂.ring ∧ getReplicasWithRf r₁ keyPos rf = getReplicasWithRf r₂ keyPos rf :=
  (placement_eq_of_same_members h1 h2 (ht1.trans ht2.symm) hv hm (keySeparates_total ht1)).imp_right (· keyPos rf)

/-- **C19 (join order), for the positions the code computes**: `hash_virtual_node(node, i) =
    sip(node as 8 LE bytes, i as 4 LE bytes)`; for every collision-free byte hash `sip`, every
    membership, every two join orders, every vnode count: the same ring, hence (next theorem) the
    same replica list for every key on every node.  NOTE: the hypothesis is a property
    of the hash function — and the REAL function does not have it (`sip13_vnode_collision`,
    `sip13_not_injective`): for SipHash-1-3 these two theorems say nothing; what holds for the real
    hash is `_partial` (per membership) and, for the current sort key, `ring_order_independent_total`. -/
theorem ring_order_independent_sip (sip : List Nat → Nat) (hs : ∀ a b, sip a = sip b → a = b)
    (nodes nodes' : List Nat) (vnodes rf : Nat) (hp : nodes.Perm nodes') :
    (new (vnodePos sip) nodes vnodes rf).ring = (new (vnodePos sip) nodes' vnodes rf).ring :=
  ring_order_independent_partial (vnodePos sip) nodes nodes' vnodes rf hp (posInjective_vnodePos hs nodes vnodes)

theorem replicas_order_independent_sip (sip : List Nat → Nat) (hs : ∀ a b, sip a = sip b → a = b)
    (kb : Nat → List Nat) (nodes nodes' : List Nat) (vnodes rf key : Nat) (hp : nodes.Perm nodes') :
    getReplicas (new (vnodePos sip) nodes vnodes rf) (keyPosOf sip kb key)
      = getReplicas (new (vnodePos sip) nodes' vnodes rf) (keyPosOf sip kb key) :=
  replicas_order_independent_partial (vnodePos sip) nodes nodes' vnodes rf _ hp (posInjective_vnodePos hs nodes vnodes)

/-- the hypothesis is necessary for the code before f1f7630: with colliding positions the stable sort
    by position alone keeps join order -/
theorem ring_order_collision_counterexample :
    (newTB .joinOrder (fun _ _ => 7) [1, 2] 1 1).ring ≠ (newTB .joinOrder (fun _ _ => 7) [2, 1] 1 1).ring
    ∧ getReplicas (newTB .joinOrder (fun _ _ => 7) [1, 2] 1 1) 0 ≠ getReplicas (newTB .joinOrder (fun _ _ => 7) [2, 1] 1 1) 0 := by
  decide +kernel

theorem C19_ring_order_independent_false : ¬ C19_ring_order_independent .joinOrder := by
  intro h
  exact ring_order_collision_counterexample.1
    (h (fun _ _ => 7) [1, 2] [2, 1] 1 1 (List.Perm.swap 2 1 []))

/-! ### a REAL collision of `hash_virtual_node`

  Found by a distinguished-point collision search over `node ↦ SipHash-1-3(node as u64 LE ++ 0u32 LE)`
  (≈ 2³² evaluations, one minute): two replica ids whose FIRST virtual node lands on the same ring
  position.  The kernel evaluates `Sip.sip13` (the transcription of `DefaultHasher`) on both. -/

def collA : Nat := 8995953703207198936
def collB : Nat := 7408622316112464113
def collPos : Nat := 10313838947909466769

/-- `hash_virtual_node(ReplicaId(collA), 0) = hash_virtual_node(ReplicaId(collB), 0)` -/
theorem sip13_vnode_collision :
    vnodePos Sip.sip13 collA 0 = collPos ∧ vnodePos Sip.sip13 collB 0 = collPos ∧ collA ≠ collB
    ∧ collA < 2 ^ 64 ∧ collB < 2 ^ 64 := by
  decide +kernel

/-- the 64-bit function is not collision-free on the inputs of `hash_virtual_node` (of course: it
    maps 2⁹⁶ inputs to 2⁶⁴ values — but here are two): the hypothesis of `ring_order_independent_sip`
    is false for the real hash, `PosInjective` fails for a real two-node membership -/
theorem sip13_not_injective : ¬ (∀ a b, Sip.sip13 a = Sip.sip13 b → a = b) := by
  intro h
  have := h (HB.le64 collA ++ HB.le32 0) (HB.le64 collB ++ HB.le32 0)
    (by have := sip13_vnode_collision; unfold vnodePos at this; rw [this.1, this.2.1])
  revert this; decide

theorem sip13_not_posInjective : ¬ PosInjective (vnodePos Sip.sip13) [collA, collB] 1 := by
  intro h
  have := (h collA (by simp) collB (by simp) 0 (by omega) 0 (by omega)
    (by rw [sip13_vnode_collision.1, sip13_vnode_collision.2.1])).1
  exact sip13_vnode_collision.2.2.1 this

/-- **the code before f1f7630, the real hash, a real membership**: `HashRing::new(vec![A, B], 1, 1)` and
    `HashRing::new(vec![B, A], 1, 1)` are different rings, and EVERY key is placed on `A` by the
    first and on `B` by the second — two nodes that learnt the same two members in different
    orders disagree about the owner of every key (finding
    `C19:order:position-collision:join-order-decides`) -/
theorem ring_order_sip13_counterexample :
    (newTB .joinOrder (vnodePos Sip.sip13) [collA, collB] 1 1).ring
      ≠ (newTB .joinOrder (vnodePos Sip.sip13) [collB, collA] 1 1).ring
    ∧ ∀ keyPos, getReplicas (newTB .joinOrder (vnodePos Sip.sip13) [collA, collB] 1 1) keyPos = [collA]
        ∧ getReplicas (newTB .joinOrder (vnodePos Sip.sip13) [collB, collA] 1 1) keyPos = [collB] := by
  have e1 : newTB .joinOrder (vnodePos Sip.sip13) [collA, collB] 1 1
      = { ring := [⟨collPos, collA, 0⟩, ⟨collPos, collB, 0⟩], vnodes := 1, rf := 1, phys := [collA, collB], tb := .joinOrder } := by
    decide
  have e2 : newTB .joinOrder (vnodePos Sip.sip13) [collB, collA] 1 1
      = { ring := [⟨collPos, collB, 0⟩, ⟨collPos, collA, 0⟩], vnodes := 1, rf := 1, phys := [collB, collA], tb := .joinOrder } := by
    decide
  rw [e1, e2]
  refine ⟨by decide, ?_⟩
  intro keyPos
  have hs : ∀ (x y : Nat), startIdx [⟨collPos, x, 0⟩, ⟨collPos, y, 0⟩] keyPos = 0 := by
    intro x y
    unfold startIdx
    by_cases h : keyPos ≤ collPos <;> simp [List.findIdx_cons, h]
  constructor <;>
  · unfold getReplicas getReplicasWithRf
    simp only [List.length_cons, List.length_nil, Nat.zero_add, hs]
    decide

/-- … and with the current sort key the same two memberships give ONE ring -/
theorem ring_order_sip13_total :
    (newTB .total (vnodePos Sip.sip13) [collA, collB] 1 1).ring
      = (newTB .total (vnodePos Sip.sip13) [collB, collA] 1 1).ring :=
  ring_order_independent_total _ _ _ _ _ (List.Perm.swap _ _ [])

/-! ## exactly min(rf, cluster size) distinct replicas -/

/-- **C19 (count)**: for every reachable ring with at least one virtual node per physical node,
    every key position and every (per-key) replication factor -/
theorem replicas_count_distinct : C19_replicas_count_distinct := by
  intro hashV r keyPos rf hr hv
  exact ⟨replicas_length hr.wf (hr.covered hv) keyPos rf, replicas_nodup hr.wf keyPos rf⟩

/-- … and they are members -/
theorem replicas_are_members (hashV : Nat → Nat → Nat) (r : HashRing) (keyPos rf : Nat)
    (hr : Reachable hashV r) : ∀ a ∈ getReplicasWithRf r keyPos rf, a ∈ r.phys :=
  replicas_subset_phys hr.wf keyPos rf

/-- `virtual_nodes_per_physical = 0`: the ring stays empty and no key is placed anywhere,
    whatever the membership (a configuration the property does not cover) -/
theorem replicas_vnodes_zero (hashV : Nat → Nat → Nat) (r : HashRing) (keyPos rf : Nat)
    (hr : Reachable hashV r) (hv : r.vnodes = 0) : getReplicasWithRf r keyPos rf = [] := by
  have : r.ring = [] := List.eq_nil_iff_forall_not_mem.mpr fun s hs => by have := (hr.mem_ring.mp hs).2.1; omega
  rw [getReplicasWithRf_eq_take hr.wf, this]
  exact List.take_nil

/-! ## membership changes move only the keys that gain or lose the node -/

/-- **C19 (remove)**: a key whose replica list does not contain `x` keeps its list when `x` leaves -/
theorem minimal_disruption_remove : C19_minimal_disruption_remove :=
  fun _ r x keyPos hr hx => replicas_removeNode hr.wf x keyPos r.rf hx

/-- **C19 (add)**: a key whose new replica list does not contain the joining node `x` kept its list -/
theorem minimal_disruption_add : C19_minimal_disruption_add := by
  intro hashV r x keyPos hr hx
  by_cases hmem : x ∈ r.phys
  · rw [addNode_of_mem hmem]
  · have hr' := Reachable.add (hashV := hashV) x hr
    have h := minimal_disruption_remove hashV (addNode hashV r x) x keyPos hr' hx
    rw [removeNode_addNode hr.wf hmem] at h
    exact h.symm

/-! ## selective gossip -/

/-- **C19 (targets)**: `get_gossip_targets k sender = get_replicas k \ {sender}` -/
theorem targets_exact : C19_targets_exact := by
  intro r keyPos sender t
  unfold gossipTargets
  simp [List.mem_filter]

/-- what `route_selective` hands to `t`, with no assumption on the address book: the deltas whose
    key `t` is responsible for, `t` not being the sender, *and* `t` having a known address -/
theorem route_selective_exact (hashV : Nat → Nat → Nat) (ring : HashRing) (rt : Router)
    (deltas : List Nat) (t : Nat) (hr : Reachable hashV ring) :
    row (routeSelective ring rt deltas) t
      = deltas.filter (fun d => decide (t ∈ gossipTargets ring d rt.self) && (rt.peers.get t).isSome) := by
  unfold routeSelective
  rw [(route_outer hr.wf deltas [] NMap.wf_nil).2 t]
  simp [row, NMap.get]

/-- **C19 (coverage)**: provided `peer_addresses ⊇ members \ {self}` -/
theorem route_covers_owners : C19_route_covers_owners := by
  intro hashV ring rt deltas t hr hcov
  rw [route_selective_exact hashV ring rt deltas t hr]
  apply List.filter_congr
  intro d _
  by_cases ht : t ∈ gossipTargets ring d rt.self
  · have ht' := (targets_exact ring d rt.self t).mp ht
    have hmem := replicas_are_members hashV ring d ring.rf hr t ht'.1
    have := hcov t hmem ht'.2
    simp [ht, this, ht'.1, ht'.2]
  · have : ¬ (t ∈ getReplicas ring d ∧ t ≠ rt.self) := fun h => ht ((targets_exact ring d rt.self t).mpr h)
    simp only [ht, decide_false, Bool.false_and]
    by_cases h1 : t ∈ getReplicas ring d
    · have h2 : t = rt.self := by
        apply Classical.byContradiction; intro h2; exact this ⟨h1, h2⟩
      simp [h2]
    · simp [h1]

/-- **C19 (nobody else)**, unconditionally: whoever is handed a delta is a responsible replica
    other than the sender -/
theorem route_nobody_else (hashV : Nat → Nat → Nat) (ring : HashRing) (rt : Router)
    (deltas : List Nat) (t d : Nat) (hr : Reachable hashV ring)
    (h : d ∈ row (routeSelective ring rt deltas) t) :
    d ∈ deltas ∧ t ∈ getReplicas ring d ∧ t ≠ rt.self := by
  rw [route_selective_exact hashV ring rt deltas t hr, List.mem_filter] at h
  obtain ⟨hd, hc⟩ := h
  simp only [Bool.and_eq_true, decide_eq_true_eq] at hc
  exact ⟨hd, (targets_exact ring d rt.self t).mp hc.1⟩

/-- `GossipState::queue_deltas` below the queue capacity: one `TargetedDelta` per replica that
    is responsible for at least one key of the batch, carrying exactly that replica's deltas -/
theorem queue_deltas_covers_owners (hashV : Nat → Nat → Nat) (cap : Nat) (ring : HashRing)
    (rt : Router) (deltas : List Nat) (t : Nat) (ds : List Nat) (hr : Reachable hashV ring)
    (hcov : PeersCoverMembers ring rt) (hsel : rt.selective = true) (hne : deltas ≠ [])
    (hcap : (routeSelective ring rt deltas).length ≤ cap) :
    Msg.targeted t ds ∈ queueDeltas cap ring (some rt) [] deltas
      ↔ ds = deltas.filter (fun d => decide (t ∈ getReplicas ring d) && (t != rt.self)) ∧ ds ≠ [] := by
  rw [queueDeltas_eq cap ring _ _ hne, List.nil_append,
    capQ_of_le (Nat.le_trans (length_batch_le ring deltas hsel) hcap), mem_batch_targeted hr.wf hsel,
    route_covers_owners hashV ring rt deltas t hr hcov]

/-! ## `GossipRouter::from_config` -/

/-- **C19 (peer ids), the current arithmetic** `i + 1 >= replica_id`: exactly the other members,
    for every cluster size and every position of self -/
theorem from_config_peer_ids : C19_from_config_peer_ids .fixed := by
  intro r n id h1 h2
  rw [registered_iff]
  omega

/-- … and the `i`-th configured address goes to the `i`-th other member in id order -/
theorem from_config_addresses_fixed (replicaId npeers id : Nat) (h1 : 1 ≤ replicaId)
    (h2 : replicaId ≤ npeers + 1) (hid : 1 ≤ id ∧ id ≤ npeers + 1 ∧ id ≠ replicaId) :
    NMap.get (fromConfigPeers .fixed replicaId npeers) id
      = some (if id < replicaId then id - 1 else id - 2) := by
  rw [get_fromConfigPeers, peerId_fixed]
  by_cases hlt : id < replicaId
  · rw [if_pos hlt, if_neg (by omega)]; omega
  · rw [if_neg hlt, if_pos (by omega)]; omega

/-- what the code before faccb9f registers: ids `1..replica_id` (*including self*) and
    `replica_id+2..n+1` — the member `replica_id + 1` is never given an address -/
theorem from_config_pinned_ids (replicaId npeers id : Nat) :
    (NMap.get (fromConfigPeers .pinned replicaId npeers) id).isSome = true
      ↔ (1 ≤ id ∧ id ≤ replicaId ∧ id ≤ npeers) ∨ (replicaId + 2 ≤ id ∧ id ≤ npeers + 1) := by
  rw [fromConfigPeers_pinned, registered_iff]
  omega

/-- **Before faccb9f (finding C19:from_config:peer-id-off-by-one).**  Replica 1 of a 3-node cluster with
    peers `[n2, n3]` registers the ids `{1, 3}`: node 2 has no address. -/
theorem from_config_peer_ids_counterexample : ¬ C19_from_config_peer_ids .pinned := by
  intro h
  have := (h 1 2 2 (by decide) (by decide)).mpr (by decide)
  revert this
  decide

/-- the peer-id table of the witness, as registered before faccb9f / by the current code -/
theorem from_config_witness :
    fromConfigPeers .pinned 1 2 = [(1, 0), (3, 1)] ∧ fromConfigPeers .fixed 1 2 = [(2, 0), (3, 1)] := by
  decide

/-- positions used by the end-to-end witness below (3 nodes, 1 virtual node each) -/
def exHash : Nat → Nat → Nat := fun node i => node * 10 + i

/-- … and its consequence for the property: on a 3-node ring with rf = 3 every node owns every
    key, replica 1 routes a delta for a key at position 5, and node 2 — an owner — is handed
    nothing, silently. -/
theorem from_config_pinned_starves_owner :
    2 ∈ getReplicas (new exHash [1, 2, 3] 1 3) 5
    ∧ row (routeSelective (new exHash [1, 2, 3] 1 3) (fromConfigWith .pinned 1 2 true) [5]) 2 = []
    ∧ row (routeSelective (new exHash [1, 2, 3] 1 3) (fromConfigWith .fixed 1 2 true) [5]) 2 = [5] := by
  decide

/-- with the current arithmetic the hypothesis of `route_covers_owners` is discharged for
    every cluster with sequential ids `1..n+1` -/
theorem from_config_fixed_covers_members (ring : HashRing) (replicaId npeers : Nat) (sel : Bool)
    (h1 : 1 ≤ replicaId) (h2 : replicaId ≤ npeers + 1)
    (hm : ∀ m ∈ ring.phys, 1 ≤ m ∧ m ≤ npeers + 1) :
    PeersCoverMembers ring (fromConfigWith .fixed replicaId npeers sel) := by
  intro m hmem hne
  exact (from_config_peer_ids replicaId npeers m h1 h2).mpr ⟨(hm m hmem).1, (hm m hmem).2, hne⟩

/-! ## replication factor: a larger RF extends the list (hot-key promotion / demotion) -/

/-- **C19 (per-key RF)**: for `rf₁ ≤ rf₂` the replica list for `rf₁` is a prefix of the list for
    `rf₂` — `AdaptiveReplicationManager::get_rf_for_key` raising a hot key from `base_rf` to
    `hot_key_rf` only ADDS owners (no owner loses the key), demotion drops only the added ones -/
theorem replicas_rf_prefix (hashV : Nat → Nat → Nat) (r : HashRing) (keyPos rf₁ rf₂ : Nat)
    (hr : Reachable hashV r) (hle : rf₁ ≤ rf₂) :
    getReplicasWithRf r keyPos rf₁ <+: getReplicasWithRf r keyPos rf₂ :=
  replicas_rf_take hr.wf keyPos rf₁ rf₂ hle ▸ List.take_prefix _ _

/-- … in particular the primary never depends on the replication factor (`rf ≥ 1`) -/
theorem primary_rf_independent (hashV : Nat → Nat → Nat) (r : HashRing) (keyPos rf₁ rf₂ : Nat)
    (hr : Reachable hashV r) (h1 : 1 ≤ rf₁) (h2 : 1 ≤ rf₂) (hv : 1 ≤ r.vnodes) (hne : r.phys ≠ []) :
    (getReplicasWithRf r keyPos rf₁).head? = (getReplicasWithRf r keyPos rf₂).head? := by
  rw [getReplicasWithRf_eq_take hr.wf, getReplicasWithRf_eq_take hr.wf, List.head?_take, List.head?_take,
    if_neg (by omega), if_neg (by omega)]

/-! ## sequences of membership changes -/

/-- a membership change: `(true, x)` = `add_node(x)`, `(false, x)` = `remove_node(x)` -/
def applyChange (hashV : Nat → Nat → Nat) (r : HashRing) (c : Bool × Nat) : HashRing :=
  if c.1 then addNode hashV r c.2 else removeNode r c.2

/-- no change of the sequence involves the key: a leaving node is not in the key's list when it
    leaves, a joining node is not in the key's list once it has joined -/
def Uninvolved (hashV : Nat → Nat → Nat) (keyPos : Nat) : HashRing → List (Bool × Nat) → Prop
  | _, [] => True
  | r, c :: cs =>
    (if c.1 then ¬ c.2 ∈ getReplicas (addNode hashV r c.2) keyPos else ¬ c.2 ∈ getReplicas r keyPos)
      ∧ Uninvolved hashV keyPos (applyChange hashV r c) cs

/-- **C19 (minimal disruption, any number of changes)**: by induction over the sequence -/
theorem minimal_disruption_sequence (hashV : Nat → Nat → Nat) (keyPos : Nat) (cs : List (Bool × Nat)) :
    ∀ (r : HashRing), Reachable hashV r → Uninvolved hashV keyPos r cs →
      getReplicas (cs.foldl (applyChange hashV) r) keyPos = getReplicas r keyPos := by
  induction cs with
  | nil => intro r _ _; rfl
  | cons c cs ih =>
    intro r hr hu
    obtain ⟨h1, h2⟩ := hu
    rw [List.foldl_cons]
    have hr' : Reachable hashV (applyChange hashV r c) := by
      unfold applyChange; split
      · exact Reachable.add _ hr
      · exact Reachable.remove _ hr
    rw [ih _ hr' h2]
    unfold applyChange
    cases hc : c.1 with
    | true =>
      rw [hc] at h1
      simp only [if_true] at h1 ⊢
      exact minimal_disruption_add hashV r c.2 keyPos hr h1
    | false =>
      rw [hc] at h1
      simp only [Bool.false_eq_true, if_false] at h1 ⊢
      exact minimal_disruption_remove hashV r c.2 keyPos hr h1

/-- the ring with its version counter refines the ring: every theorem above applies to it -/
theorem vring_new_ring (hashV : Nat → Nat → Nat) (nodes : List Nat) (vnodes rf : Nat) :
    (VRing.new hashV nodes vnodes rf).ring = new hashV nodes vnodes rf := by
  unfold VRing.new new
  have : ∀ (l : List Nat) (v : VRing), (l.foldl (VRing.add hashV) v).ring = l.foldl (addNode hashV) v.ring := by
    intro l
    induction l with
    | nil => intro v; rfl
    | cons x xs ih =>
      intro v
      rw [List.foldl_cons, List.foldl_cons, ih]
      congr 1
      unfold VRing.add
      split
      · rename_i h; unfold addNode; rw [if_pos h]
      · rfl
  exact this nodes _

/-! ## `GossipState` with epochs, and the gossip loops of `production/gossip_manager.rs` -/

/-- the epoch-carrying queue refines the plain queue of `queue_deltas_covers_owners` -/
theorem gstate_queue_refines (cap : Nat) (ring : HashRing) (g : GState) (deltas : List Nat) :
    (g.queueDeltas cap ring deltas).queue.map (·.1) = queueDeltas cap ring g.router (g.queue.map (·.1)) deltas := by
  by_cases hne : deltas = []
  · subst hne; rfl
  · rw [GState.queueDeltas_queue cap ring g hne, queueDeltas_eq cap ring _ _ hne, map_capQ, List.map_append, List.map_map]
    exact congrArg (fun b => capQ cap (_ ++ b)) (List.map_id _)

/-- a targeted message is written to exactly the address the loop's map holds for its target —
    and to NOBODY when the map has no entry (the loop logs at debug level and goes on) -/
theorem dispatch_targeted (pm : NMap Nat) (npeers : Nat) (q : List (Msg × Nat)) (i t e : Nat) (ds : List Nat) :
    (i, (Msg.targeted t ds, e)) ∈ dispatch pm npeers q ↔ (Msg.targeted t ds, e) ∈ q ∧ pm.get t = some i := by
  unfold dispatch
  rw [List.mem_flatMap]
  constructor
  · rintro ⟨⟨msg, ep⟩, hm, h⟩
    cases msg
    case targeted t' ds' =>
      simp only at h
      cases hg : pm.get t' with
      | none => rw [hg] at h; cases h
      | some a =>
        rw [hg, List.mem_singleton] at h
        cases h
        exact ⟨hm, hg⟩
    -- a broadcast or a heartbeat is written as itself, never as a targeted message
    all_goals
      simp only [List.mem_map, Prod.mk.injEq] at h
      obtain ⟨_, _, _, h, _⟩ := h
      cases h
  · rintro ⟨hm, hg⟩
    exact ⟨(Msg.targeted t ds, e), hm, by simp [hg]⟩

/-- with the corrected arithmetic the map sends a target id to the peer index that stands for
    that member -/
theorem loop_address_fixed (replicaId npeers t : Nat) (h1 : 1 ≤ replicaId) (h2 : replicaId ≤ npeers + 1)
    (ht : 1 ≤ t ∧ t ≤ npeers + 1 ∧ t ≠ replicaId) :
    ∃ i, NMap.get (fromConfigPeers .fixed replicaId npeers) t = some i ∧ i < npeers ∧ memberOfIndex replicaId i = t := by
  obtain ⟨i, hi, hp⟩ := (isSome_get_fromConfigPeers ..).mp ((from_config_peer_ids replicaId npeers t h1 h2).mpr ht)
  exact ⟨i, (get_fromConfigPeers ..).mpr ⟨hi, hp⟩, hi, hp⟩

/-- what the first tick drains, below the capacity: the batch, at epoch 1 -/
theorem tick_queue (cap : Nat) (ring : HashRing) (me : Nat) (router : Option Router) {deltas : List Nat}
    (hne : deltas ≠ []) (hcap : (batch ring router deltas).length ≤ cap) :
    ((GState.new me router).advanceEpoch.queueDeltas cap ring deltas).queue = (batch ring router deltas).map (·, 1) := by
  rw [GState.queueDeltas_queue cap ring _ hne]
  exact capQ_of_le (by simpa [GState.new, GState.advanceEpoch] using hcap)

/-- **C19 (the gossip loop reaches every owner), corrected address arithmetic**: one tick of a
    gossip loop of replica `me` in a sequentially numbered cluster `1..n+1`, router from
    `from_config`, empty queue, below the queue capacity: for every delta of the batch and every
    responsible replica `t ≠ me` a `TargetedDelta` carrying that delta is written to the configured
    peer that IS member `t`. -/
theorem loop_reaches_every_owner_fixed (hashV : Nat → Nat → Nat) (cap : Nat) (ring : HashRing)
    (me npeers : Nat) (deltas : List Nat) (d t : Nat) (hr : Reachable hashV ring)
    (h1 : 1 ≤ me) (h2 : me ≤ npeers + 1) (hm : ∀ m ∈ ring.phys, 1 ≤ m ∧ m ≤ npeers + 1)
    (hcap : (routeSelective ring (fromConfigWith .fixed me npeers true) deltas).length ≤ cap)
    (hd : d ∈ deltas) (ht : t ∈ getReplicas ring d) (hne : t ≠ me) :
    ∃ i ds, memberOfIndex me i = t ∧ d ∈ ds
      ∧ (i, (Msg.targeted t ds, 1)) ∈ (loopTick .fixed cap ring me npeers (GState.new me (some (fromConfigWith .fixed me npeers true))) deltas).1 := by
  have hmem := replicas_are_members hashV ring d ring.rf hr t ht
  obtain ⟨i, hi, _, hmi⟩ := loop_address_fixed me npeers t h1 h2 ⟨(hm t hmem).1, (hm t hmem).2, hne⟩
  let rt := fromConfigWith .fixed me npeers true
  have hcov : PeersCoverMembers ring rt := from_config_fixed_covers_members ring me npeers true h1 h2 hm
  have hdne : deltas ≠ [] := by intro h; rw [h] at hd; cases hd
  let ds := deltas.filter (fun d => decide (t ∈ getReplicas ring d) && (t != rt.self))
  have hdin : d ∈ ds := by
    simp only [ds, List.mem_filter, Bool.and_eq_true, decide_eq_true_eq, bne_iff_ne]
    exact ⟨hd, ht, hne⟩
  refine ⟨i, ds, hmi, hdin, ?_⟩
  unfold loopTick
  simp only [GState.drain]
  rw [dispatch_targeted, tick_queue cap ring me _ hdne (Nat.le_trans (length_batch_le ring deltas rfl) hcap)]
  exact ⟨List.mem_map_of_mem ((mem_batch_targeted hr.wf rfl).mpr
    ⟨(route_covers_owners hashV ring rt deltas t hr hcov).symm, fun h => by rw [h] at hdin; cases hdin⟩), hi⟩

/-- **C19 (broadcast mode)**: with a router that is not selective (or none at all) one tick writes
    the whole batch, as one `DeltaBatch`, to EVERY configured peer — whatever address arithmetic the
    loop uses (the address map is only consulted for targeted messages) -/
theorem loop_broadcast_reaches_everyone (a : PeerIdArith) (cap : Nat) (ring : HashRing) (me npeers : Nat)
    (router : Option Router) (deltas : List Nat) (i : Nat) (hcap : 1 ≤ cap) (hne : deltas ≠ [])
    (hsel : ∀ rt, router = some rt → rt.selective = false) (hi : i < npeers) :
    deliveredTo (loopTick a cap ring me npeers (GState.new me router) deltas).1 i = deltas := by
  have hb := batch_of_not_selective ring deltas hsel
  have hq : ((GState.new me router).advanceEpoch.queueDeltas cap ring deltas).queue = [(Msg.broadcast deltas, 1)] := by
    rw [tick_queue cap ring me router hne (by rw [hb]; exact hcap), hb]; rfl
  unfold loopTick GState.drain
  simp only [hq, dispatch, List.flatMap_cons, List.flatMap_nil, List.append_nil, deliveredTo]
  -- of the copies written to the peers `0 … npeers-1` exactly one goes to `i`
  have : ((List.range npeers).map fun j => (j, (Msg.broadcast deltas, 1))).filter (fun e => e.1 == i)
      = [(i, (Msg.broadcast deltas, 1))] := by
    rw [List.filter_map]
    show ((List.range npeers).filter fun j => j == i).map _ = _
    rw [List.filter_beq, List.nodup_range.count, if_pos (List.mem_range.mpr hi)]; rfl
  rw [this]
  simp

/-- **Fixed defect C19:gossip-loop:peer-map:off-by-one** (9dce37c).  Before 9dce37c the loops of
    `production/gossip_manager.rs` build their address map with the arithmetic that
    faccb9f corrected in `GossipRouter::from_config`.  Replica 1 of a 3-node cluster (rf 3, peers
    `[n2, n3]`, router from `from_config`) queues a `TargetedDelta` for owner 2 — and the loop finds
    no address for id 2 (it registered ids {1, 3}): node 2 (peer index 0) is sent nothing, silently.
    With the current arithmetic (`loopArith`) it is sent the delta. -/
theorem loop_pinned_starves_owner :
    2 ∈ getReplicas (new exHash [1, 2, 3] 1 3) 5
    ∧ memberOfIndex 1 0 = 2
    ∧ deliveredTo (loopTick .pinned 10000 (new exHash [1, 2, 3] 1 3) 1 2 (GState.new 1 (some (fromConfig 1 2 true))) [5]).1 0 = []
    ∧ deliveredTo (loopTick .fixed 10000 (new exHash [1, 2, 3] 1 3) 1 2 (GState.new 1 (some (fromConfig 1 2 true))) [5]).1 0 = [5]
    ∧ loopArith = .fixed := by
  decide +kernel

/-- **Fixed defect C19:gossip-loop:config:gossip_interval_ms=0:panics** (0da3af9).  `gossip_interval_ms`
    is an unvalidated `u64`; with 0 both gossip loops panic in `tokio::time::interval` before the
    first tick and no update is ever sent; with the period clamped to at least 1 ms every
    configured value starts a ticking loop -/
theorem gossip_interval_zero_panics :
    loopStart false 0 = .panicZeroPeriod ∧ loopStart false 1 = .ticksEvery 1
    ∧ (∀ ms, loopStart true ms ≠ .panicZeroPeriod) ∧ currentIntervalClamped = true := by
  refine ⟨rfl, rfl, ?_, rfl⟩
  intro ms h
  simp [loopStart] at h

/-! ## non-vacuity: concrete non-trivial values satisfy the hypotheses -/

/-- an injective placement of 3 × 2 virtual nodes, interleaved on the ring -/
def exHash2 : Nat → Nat → Nat := fun node i => (node * 37 + i * 53) % 101

example : PosInjective exHash2 [1, 2, 3] 2
    ∧ (new exHash2 [1, 2, 3] 2 2).ring = (new exHash2 [3, 1, 2] 2 2).ring
    ∧ (new exHash2 [1, 2, 3] 2 2).ring.map Slot.node = [3, 2, 1, 3, 2, 1]
    ∧ getReplicas (new exHash2 [1, 2, 3] 2 2) 20 = [2, 1]
    ∧ getReplicas (new exHash2 [1, 2, 3] 2 2) 30 = [1, 3]
    ∧ getReplicas (new exHash2 [1, 2, 3] 2 2) 100 = [3, 2] := by
  decide +kernel

-- a key that does not involve node 3 keeps its placement when 3 leaves; one that does, changes
example : ¬ 3 ∈ getReplicas (new exHash2 [1, 2, 3] 2 2) 20
    ∧ getReplicas (removeNode (new exHash2 [1, 2, 3] 2 2) 3) 20 = [2, 1]
    ∧ getReplicas (removeNode (new exHash2 [1, 2, 3] 2 2) 3) 30 = [1, 2] := by
  decide +kernel

-- an address book that covers the members, and a non-empty routing result
example : PeersCoverMembers (new exHash2 [1, 2, 3] 2 2) (fromConfigWith .fixed 2 2 true)
    ∧ routeSelective (new exHash2 [1, 2, 3] 2 2) (fromConfigWith .fixed 2 2 true) [30, 100, 60]
        = [(1, [30]), (3, [30, 100, 60])] := by
  decide +kernel

example : (1 : Nat) ≤ 2 ∧ 2 ≤ 2 + 1 ∧ (NMap.get (fromConfigPeers .fixed 2 2) 3).isSome = true := by
  decide +kernel

end C19
end RedisVerif
