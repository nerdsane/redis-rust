import RedisVerif.Props.C14
import RedisVerif.Lemmas.WalBytes

/-!
# C14 with the parameters made concrete: bincode and CRC-32

`Props/C14.lean` proves the framing theorems over abstract `crc`, `ser`, `de` (with the round-trip
law and `CrcDetects` as hypotheses).  Here the payload codec is the byte-exact model of the bincode
encoding the code uses (`Model/Bincode.lean`: fixed-width little-endian integers, u64 length
prefixes, u32 enum variant index, option / bool bytes, UTF-8 checked strings, maps and sets in wire
order, trailing bytes allowed — compared with the real `bincode::serialize` / `deserialize` on every
run, op `BD`/`BS`), and `crc` is the executable CRC-32 (`Driver/Crc32.lean`, compared with
`crc32fast` on every run), so the round trips hold without the `ser/de` law and without the
`… < 2^32` hypotheses on checksums.  The real deserialiser has NO byte limit configured
(`bincode::deserialize` = `DefaultOptions … allow_trailing_bytes`, limit `Infinite`), so the bound of
`bincode_cells_bounded` by the input is the only one there is; serde's `size_hint::cautious`
additionally caps every pre-allocation at 1 MiB.  Still assumed where used: damage wider than a
32-bit burst / 4 consecutive bytes, and damage to a LENGTH field (the checksum then covers a string
of another length).

`CheckpointReader::load` called without `validate` PANICKED on a checkpoint cut inside its data
section before `fix:` 7df179c (finding `C14:checkpoint:load-without-validate:panics-on-short-image`):
that code is the model variant `checked = false`, the code with the two bounds checks is
`checked = true`.
-/
namespace RedisVerif
namespace C14

open Wal Codec Bincode Driver Concrete

/-! ## the bincode model -/

theorem bincode_roundtrip (d : WDelta) (rest : Bytes) (hd : delta.ok d) :
    delta.dec (delta.enc d ++ rest) = some (d, rest) := lawful_delta.rt d rest hd

theorem bincode_state_roundtrip (s : WState) (rest : Bytes) (hs : state.ok s) :
    state.dec (state.enc s ++ rest) = some (s, rest) := lawful_state.rt s rest hs

/-- `bincode::deserialize` ignores trailing bytes -/
theorem bincode_trailing_bytes_ignored (d : WDelta) (junk : Bytes) (hd : delta.ok d) :
    deDelta (delta.enc d ++ junk) = some d := by
  unfold deDelta; rw [bincode_roundtrip d junk hd]; rfl

theorem bincode_decode_exact (bs : Bytes) (d : WDelta) (rest : Bytes) (h : delta.dec bs = some (d, rest)) :
    bs = delta.enc d ++ rest ∧ delta.ok d := lawful_delta.exact bs d rest h

theorem bincode_state_decode_exact (bs : Bytes) (s : WState) (rest : Bytes) (h : state.dec bs = some (s, rest)) :
    bs = state.enc s ++ rest ∧ state.ok s := lawful_state.exact bs s rest h

theorem bincode_truncated_payload_rejected (d : WDelta) (hd : delta.ok d) (n : Nat)
    (hn : n < (delta.enc d).length) : deDelta ((delta.enc d).take n) = none := by
  unfold deDelta; rw [lawful_delta.truncated_none d hd n hn]; rfl

theorem bincode_truncated_state_rejected (s : WState) (hs : state.ok s) (n : Nat)
    (hn : n < (state.enc s).length) : deState ((state.enc s).take n) = none := by
  unfold deState; rw [lawful_state.truncated_none s hs n hn]; rfl

theorem bincode_cells_bounded (bs : Bytes) (d : WDelta) (rest : Bytes) (h : delta.dec bs = some (d, rest)) :
    delta.cells d < bs.length - rest.length := lawful_delta.cells_bounded bs d rest h

theorem bincode_state_cells_bounded (bs : Bytes) (s : WState) (rest : Bytes) (h : state.dec bs = some (s, rest)) :
    state.cells s < bs.length - rest.length := lawful_state.cells_bounded bs s rest h

theorem bincode_enc_injective (a b : WDelta) (ha : delta.ok a) (hb : delta.ok b) (h : delta.enc a = delta.enc b) :
    a = b := lawful_delta.enc_injective a b ha hb h

/-- a delta of every CRDT kind, with vector clock, expiry, replication factor, binary payload,
    a non-ASCII key and maps in NON-sorted wire order -/
def sampleDeltas : List WDelta :=
  [ ⟨[107], ⟨.lww ⟨some [255, 0], 7, 1, false⟩, none, none, 7, 1, none⟩, 1⟩,
    ⟨[195, 169], ⟨.gcounter [(9, 1), (2, 5)], some [(3, 4), (1, 2)], some 99, 2 ^ 64 - 1, 2, some 255⟩, 2⟩,
    ⟨[], ⟨.pncounter [(1, 1)] [], none, none, 0, 0, none⟩, 0⟩,
    ⟨[115], ⟨.gset [[98], [97], []], none, none, 1, 1, none⟩, 1⟩,
    ⟨[111], ⟨.orset [([120], [(2, 1), (1, 1)]), ([], [])] [(2, 2), (1, 2)], none, none, 1, 1, none⟩, 1⟩,
    ⟨[104], ⟨.hash [([102], ⟨none, 3, 1, true⟩), ([101], ⟨some [], 4, 2, false⟩)], none, none, 4, 2, none⟩, 1⟩ ]

-- non-vacuity: they are representable, and the laws hold on them by evaluation too
example : ∀ d ∈ sampleDeltas, deDelta (delta.enc d ++ [1, 2, 3]) = some d := by decide +kernel

/-! ## CRC-32 -/

/-- linearity over GF(2): for equal lengths the difference of the checksums is the register run
    over the difference of the messages -/
theorem crc32_linear (a b : Bytes) (h : a.length = b.length) :
    crc32 a ^^^ crc32 b = Crc.raw 0 (Crc.xorB a b) := Crc.crc32_xor a b h

/-- every change confined to (at most) 4 consecutive bytes of a byte message of ANY length
    changes its CRC-32: all single-bit errors, all single-byte errors, all bursts ≤ 25 bits, all
    byte-aligned bursts ≤ 32 bits -/
theorem crc32_detects_window4 (pre w w' post : Bytes) (hlen : w.length = w'.length) (h4 : w.length ≤ 4)
    (hw : ∀ x ∈ w, x < 256) (hw' : ∀ x ∈ w', x < 256) (hne : w ≠ w') :
    crc32 (pre ++ w ++ post) ≠ crc32 (pre ++ w' ++ post) :=
  Crc.crc32_detects_window pre w w' post hlen h4 hw hw' hne

/-- … and every burst of at most 32 bits of the bit stream that straddles five bytes (CRC-32 consumes
    each byte LSB first: the first difference byte is a non-zero multiple of 2^q, the fifth is below
    2^q).  With `crc32_detects_window4`: EVERY burst of ≤ 32 bits, wherever it starts -/
theorem crc32_detects_burst32 (pre w w' post : Bytes) (q t m1 m2 m3 b4 : Nat) (hlen : w.length = w'.length)
    (hx : Crc.xorB w w' = [2 ^ q * t, m1, m2, m3, b4]) (hq : q ≤ 8) (ht : 0 < t) (hb0 : 2 ^ q * t < 256)
    (h1 : m1 < 256) (h2 : m2 < 256) (h3 : m3 < 256) (h4 : b4 < 2 ^ q) :
    crc32 (pre ++ w ++ post) ≠ crc32 (pre ++ w' ++ post) :=
  Crc.crc32_detects_burst32 pre w w' post q t m1 m2 m3 b4 hlen hx hq ht hb0 h1 h2 h3 h4

-- non-vacuity: bits 4..7 of the first byte through bits 0..3 of the fifth (a 32-bit burst, q = 4)
example : crc32 ([9] ++ [0x10, 0, 0, 0, 0x0F] ++ [1, 2]) ≠ crc32 ([9] ++ [0, 0, 0, 0, 0] ++ [1, 2]) :=
  crc32_detects_burst32 [9] [0x10, 0, 0, 0, 0x0F] [0, 0, 0, 0, 0] [1, 2] 4 1 0 0 0 0x0F rfl (by decide)
    (by decide) (by decide) (by decide) (by decide) (by decide) (by decide) (by decide)

theorem crc32_detects_single_byte (m : Bytes) (i v : Nat) (hi : i < m.length) (hm : ∀ x ∈ m, x < 256) (hv : v < 256)
    (hne : m[i]'hi ≠ v) : crc32 (m.set i v) ≠ crc32 m := Crc.crc32_detects_set m i v hi hm hv hne

theorem crc32_is_u32 (bs : Bytes) (hb : ∀ b ∈ bs, b < 256) : crc32 bs < 2 ^ 32 := Crc.crc32_lt bs hb

-- non-vacuity
example : crc32 ([1, 2, 3, 4, 5].set 2 7) ≠ crc32 [1, 2, 3, 4, 5] :=
  crc32_detects_single_byte [1, 2, 3, 4, 5] 2 7 (by decide) (by decide) (by decide) (by decide)

/-! ## the round trips of C14, every parameter concrete -/

/-- `to_delta(decode(encode(from_delta(d, ts))))` = `d`, stamp preserved, anything may follow -/
theorem wal_entry_roundtrip_concrete (d : WDelta) (ts : Nat) (rest : Bytes) (hd : delta.ok d)
    (hts : ts < 2 ^ 64) (hlen : (delta.enc d).length < 2 ^ 32) :
    (decode .v2 crc32 ((Entry.mk' .v2 crc32 (delta.enc d) ts).encode ++ rest)).bind (fun p => deDelta p.1.data) = some d ∧
    (decode .v2 crc32 ((Entry.mk' .v2 crc32 (delta.enc d) ts).encode ++ rest)).map (fun p => p.1.ts) = some ts := by
  apply wal_entry_roundtrip .v2 crc32 delta.enc deDelta d ts rest (deDelta_enc d hd)
  · exact ⟨hlen, hts, Crc.crc32_lt _ (bytes_of_allBytes (allBytes_covered .v2 _ _ _ (lawful_delta.enc_bytes d hd)))⟩
  · intro _; exact enc_ne_nil lawful_delta d

/-- a written segment reads back exactly the deltas written: any batch size, every CRDT kind -/
theorem segment_roundtrip_concrete (strict : Bool) (ds : List WDelta) (ts : List Nat) (img : Bytes)
    (hok : ∀ d ∈ ds, delta.ok d) (hn : ds.length < 2 ^ 32) (hl : ∀ d ∈ ds, (delta.enc d).length < 2 ^ 32)
    (hw : writeSegment crc32 (ds.map delta.enc) ts = some img) :
    readSegment strict crc32 deDelta img = .ok ds := by
  apply segment_roundtrip strict crc32 delta.enc deDelta ds ts img (fun d hd => deDelta_enc d (hok d hd)) _ hw
  apply segFits_crc32
  · simpa using hn
  · intro p hp
    obtain ⟨d, hd, rfl⟩ := List.mem_map.mp hp
    exact hl d hd
  · intro p hp
    obtain ⟨d, hd, rfl⟩ := List.mem_map.mp hp
    exact lawful_delta.enc_bytes d (hok d hd)

/-- a written checkpoint reads back the state written -/
theorem checkpoint_roundtrip_concrete (s : WState) (k t l : Nat) (hs : state.ok s)
    (hl : (state.enc s).length < 2 ^ 32) :
    readCheckpoint crc32 deState (writeCheckpoint crc32 k t l (state.enc s)) = .ok s :=
  checkpoint_roundtrip crc32 state.enc deState s k t l (deState_enc s hs)
    (chkFits_crc32 k t l _ hl (lawful_state.enc_bytes s hs))

/-! ## single-byte damage is detected — no hypothesis on the checksum -/

/-- one byte of the record region of a segment changed (header and footer as written for the
    pristine records): the read is an error -/
theorem segment_record_byte_corruption_detected {δ : Type} (strict : Bool) (de : Bytes → Option δ)
    (hdr recs : Bytes) (i v : Nat) (hi : i < recs.length) (hb : ∀ x ∈ recs, x < 256) (hv : v < 256)
    (hne : recs[i]'hi ≠ v) :
    IsErr (readSegParts strict crc32 de hdr (recs.set i v) (segFooter crc32 recs)) := by
  apply readSegParts_err_of_data_crc
  have hf : (segFooter crc32 recs).take 4 = le 4 (crc32 recs) := by
    unfold segFooter; exact List.take_left' (le_length 4 _)
  rw [hf, leVal_le 4 _ (by simpa using Crc.crc32_lt recs hb)]
  exact Crc.crc32_detects_set recs i v hi hb hv hne

/-- one payload byte of a WAL entry changed (length, stamp and stored checksum as written): the
    entry does not decode, so recovery of its file ends before it -/
theorem wal_payload_byte_corruption_detected (seq : Nat) (es : List Entry) (e : Entry) (i v : Nat) (rest : Bytes)
    (hs : seq < 2 ^ 64) (hok : AllOk .v2 crc32 es) (he : e.Good .v2 crc32) (hb : ∀ x ∈ e.data, x < 256)
    (hi : i < e.data.length) (hv : v < 256) (hne : e.data[i]'hi ≠ v) :
    fileEntries .v2 crc32 (fileImage .v2 seq es ++ ((Entry.mk (e.data.set i v) e.ts e.crc).encode ++ rest)) = es := by
  apply C10.corruption_stops_payload .v2 crc32 seq es (e.data.set i v) e.ts e.crc rest hok
  · exact ⟨by simpa using he.1.1, he.1.2.1, he.1.2.2⟩
  · rw [← he.2.1, List.length_set]
    have d : WalBytes.Dmg1 (covered .v2 e.data.length e.ts e.data) (covered .v2 e.data.length e.ts (e.data.set i v)) :=
      (WalBytes.Dmg1.append_left _ ⟨i, v, hv, rfl⟩).append_left _
    exact (d.crc (bytes_of_allBytes (allBytes_covered .v2 _ _ _ (allBytes_of_bytes hb)))).resolve_left
      fun h => WalBytes.set_ne_of_getElem_ne hi hne (List.append_cancel_left (List.append_cancel_left h))

/-- the stamp of a WAL entry changed within one byte (`ts'` and `e.ts` differ in exactly one of the 8
    little-endian bytes): the entry does not decode -/
theorem wal_stamp_byte_corruption_detected (seq : Nat) (es : List Entry) (e : Entry) (ts' j v : Nat) (rest : Bytes)
    (hs : seq < 2 ^ 64) (hok : AllOk .v2 crc32 es) (he : e.Good .v2 crc32) (hb : ∀ x ∈ e.data, x < 256)
    (ht : ts' < 2 ^ 64) (hj : j < 8) (hv : v < 256) (hle : le 8 ts' = (le 8 e.ts).set j v)
    (hne : (le 8 e.ts)[j]'(by simp [le_length]; exact hj) ≠ v) :
    fileEntries .v2 crc32 (fileImage .v2 seq es ++ ((Entry.mk e.data ts' e.crc).encode ++ rest)) = es := by
  apply C10.timestamp_corruption_stops_v2 crc32 seq es e ts' rest hs hok he ht
  have d : WalBytes.Dmg1 (covered .v2 e.data.length e.ts e.data) (covered .v2 e.data.length ts' e.data) :=
    (WalBytes.Dmg1.append_right ⟨j, v, hv, hle⟩ _).append_left _
  exact (d.crc (bytes_of_allBytes (allBytes_covered .v2 _ _ _ (allBytes_of_bytes hb)))).resolve_left
    fun h => WalBytes.set_ne_of_getElem_ne _ hne
      (hle.symm.trans (List.append_cancel_right (List.append_cancel_left h)))

/-! ## `CheckpointReader::load` without `validate` -/

/-- the code before `fix:` 7df179c (`checked = false`): a written checkpoint cut right after its
    header (or anywhere before the end of its data section) passes `open`, and `load` panics -/
theorem checkpoint_load_unvalidated_crashes_counterexample :
    ∃ (img : Bytes) (n : Nat), n < img.length ∧
      readCheckpoint crc32 deState img = .ok [] ∧
      (loadCheckpoint false crc32 deState (img.take n)).isCrash = true := by
  refine ⟨writeCheckpoint crc32 0 1 1 (state.enc []), 48, by decide +kernel, by decide +kernel, ?_⟩
  decide +kernel

/-- every cut before the end of the data section crashes the unchecked `load` (all images whose
    header `open` accepts) -/
theorem checkpoint_load_unvalidated_crashes {σ : Type} (crc : Bytes → Nat) (de : Bytes → Option σ) (data : Bytes)
    (hopen : 48 ≤ data.length ∧ (data.take 48).take 4 = chkMagic ∧ ((data.take 48).drop 4).take 1 = [1] ∧
      crc ((data.take 48).take 6 ++ ((data.take 48).drop 8).take 24) = leVal (((data.take 48).drop 44).take 4))
    (hshort : data.length < 52 ∨ data.length < 52 + leVal ((data.drop 48).take 4)) :
    (loadCheckpoint false crc de data).isCrash = true := by
  obtain ⟨h48, hm, hv, hc⟩ := hopen
  unfold loadCheckpoint
  rw [if_neg (by omega)]
  simp only [hm, hv, hc, ne_eq, not_true_eq_false, if_false]
  rcases hshort with h | h
  · rw [if_pos h]; rfl
  · by_cases h52 : data.length < 52
    · rw [if_pos h52]; rfl
    · rw [if_neg h52, if_pos h]; rfl

/-- with the bounds checks of `fix:` 7df179c (`checked = true`) `load` never panics, whatever the bytes -/
theorem checkpoint_load_checked_never_crashes {σ : Type} (crc : Bytes → Nat) (de : Bytes → Option σ) (data : Bytes) :
    (loadCheckpoint true crc de data).isCrash = false := by
  -- no leaf of the decision tree is `.crash`
  simp only [loadCheckpoint, if_true, apply_ite LoadRes.isCrash]
  cases de ((data.drop 52).take (leVal ((data.drop 48).take 4))) <;> simp only [LoadRes.isCrash, ite_self]

/-- … and on an intact image both variants return what the validated read returns -/
theorem checkpoint_load_agrees_after_validate (checked : Bool) :
    (loadCheckpoint checked crc32 deState (writeCheckpoint crc32 0 1 1 (state.enc []))).toOption = some [] := by
  cases checked <;> decide +kernel

end C14
end RedisVerif
