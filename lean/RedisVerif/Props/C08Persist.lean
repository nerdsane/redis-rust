import RedisVerif.Props.C08Startup
import RedisVerif.Props.C14Bincode
import RedisVerif.Driver.Bincode

/-!
# C08 ∘ C14: the stamp that is persisted is the stamp that was issued

C08's theorems across a restart talk about the values the start-up sequence hands to the shards.
Those values are what `bincode::deserialize` makes of the bytes in the WAL / a segment / a
checkpoint.  With C14's byte-exact bincode model (`bincode_roundtrip`: `de (ser d ++ junk) = d`
for every representable delta, `bincode_state_roundtrip` for checkpoint states) the chain closes:

what is read back from the bytes of a delta, whatever follows them in the file, carries exactly
the stamps (outer and per-field) it was issued with, and the production start-up run on the values
DECODED from the persisted bytes (`state.enc ckpt`, `delta.enc` of every segment and WAL delta)
puts every shard's clock above every stamp of every delta that was ENCODED
(`startup_no_repeat_from_bytes`), so no stamp the new incarnation issues repeats one that was
issued and persisted before the crash.

`toModel` is the reading of a wire value as the M1 value the shard model works on
(`Driver.Bin.toRV`: maps keyed by the injective `keyCode`) — the same function the C14 / C10
correspondence prints the REAL decoded values through on every run.  What remains outside:
that the bytes reach the disk and come back (C09 / C10 / C12), and which deltas they contain (C11).
-/
namespace RedisVerif
namespace C08

open Shard ShardedNode Bincode Driver Driver.Bin

/-- a wire delta as the (key code, value) pair the node model recovers -/
def toModel (d : WDelta) : Nat × RV := (keyCode d.key, toRV d.value)

/-- what a reader gets back from the bytes of one persisted delta (trailing bytes — the rest of the
    segment / WAL file — do not matter) -/
theorem persisted_delta_is_issued (d : WDelta) (junk : Bytes) (hd : delta.ok d) :
    deDelta (delta.enc d ++ junk) = some d :=
  C14.bincode_trailing_bytes_ignored d junk hd

/-- … in particular every stamp of it -/
theorem persisted_stamps_are_issued (d : WDelta) (junk : Bytes) (hd : delta.ok d) :
    (deDelta (delta.enc d ++ junk)).map (fun x => (toModel x).2.allStamps) =
      some (toModel d).2.allStamps := by
  rw [persisted_delta_is_issued d junk hd]; rfl

/-- reading back a list of persisted deltas, each from its own record -/
def readBack (recs : List Bytes) : List (Nat × RV) :=
  (recs.filterMap deDelta).map toModel

theorem readBack_enc (ds : List WDelta) (hd : ∀ d ∈ ds, delta.ok d) :
    readBack (ds.map delta.enc) = ds.map toModel := by
  unfold readBack
  congr 1
  induction ds with
  | nil => rfl
  | cons d ds ih =>
    rw [List.map_cons, List.filterMap_cons, Concrete.deDelta_enc d (hd d List.mem_cons_self),
      ih (fun x hx => hd x (List.mem_cons_of_mem _ hx))]

/-- the checkpoint state read back from its bytes -/
def readBackState (bytes : Bytes) : List (Nat × RV) :=
  match deState bytes with
  | some s => s.map (fun p => (keyCode p.1, toRV p.2))
  | none => []

theorem readBackState_enc (s : WState) (junk : Bytes) (hs : state.ok s) :
    readBackState (state.enc s ++ junk) = s.map (fun p => (keyCode p.1, toRV p.2)) := by
  unfold readBackState deState
  rw [C14.bincode_state_roundtrip s junk hs]
  rfl

/-- **no stamp repeats across a restart that recovers from BYTES**: `ckpt`, `segs`, `wal` are what
    the previous incarnation encoded; the new incarnation decodes the bytes and runs the production
    start-up; every stamp it issues afterwards on shard `s` is strictly greater than every stamp
    of every encoded delta / checkpoint entry whose key lives on `s`. -/
theorem startup_no_repeat_from_bytes (route : Nat → Nat) (nd : ShardedNode)
    (ckpt : WState) (segs wal : List WDelta)
    (hc : state.ok ckpt) (hsg : ∀ d ∈ segs, delta.ok d) (hw : ∀ d ∈ wal, delta.ok d)
    (hdom : ∀ p ∈ ckpt.map (fun p => (keyCode p.1, toRV p.2)) ++ segs.map toModel ++ wal.map toModel,
      p.2.Dominated)
    (s : Nat) (sh' : Shard)
    (hs : (startup route nd (readBackState (state.enc ckpt)) (readBack (segs.map delta.enc))
            (readBack (wal.map delta.enc)))[s]? = some sh')
    (p : Nat × RV)
    (hp : p ∈ ckpt.map (fun p => (keyCode p.1, toRV p.2)) ++ segs.map toModel ++ wal.map toModel)
    (hr : route p.1 = s) (rest : List Op) :
    ∀ t ∈ issued sh' rest, ∀ u ∈ p.2.allStamps, u.lt t = true := by
  have h0 := readBackState_enc ckpt [] hc
  rw [List.append_nil] at h0
  rw [h0, readBack_enc segs hsg, readBack_enc wal hw] at hs
  exact startup_no_repeat route nd _ _ _ hdom s sh' hs p hp hr rest

/-- non-vacuity: a SET delta and an HSET delta go through bytes and come back with their stamps -/
example :
    let d1 : WDelta := ⟨[107], ⟨.lww ⟨some [118], 7, 1, false⟩, none, some 5000, 7, 1, none⟩, 1⟩
    let d2 : WDelta := ⟨[104], ⟨.hash [([102], ⟨some [49], 9, 1, false⟩)], some [(1, 3)], none, 9, 1, some 2⟩, 1⟩
    readBack [delta.enc d1, delta.enc d2 ++ [1, 2, 3]] = [toModel d1, toModel d2] ∧
      (toModel d2).2.allStamps = [⟨9, 1⟩, ⟨9, 1⟩] := by
  decide

end C08
end RedisVerif
