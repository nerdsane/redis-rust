import RedisVerif.Lemmas.StreamNode
import RedisVerif.Props.C11
import RedisVerif.Props.C13
import RedisVerif.Props.C12Actor

/-!
# C12 ∘ C11 (∘ C13) — a node over its whole life: crash at any instant, restart, recovery

Model: `StreamNode` (M4c): any number of processes one after the other on one object store; each
process is the persistence pipeline of M4b (sink, bridge, bounded mailbox, actor, thresholds)
plus the compaction worker next to it, under its own fault oracle — the oracle decides every
store call and the instant the process dies (at any call, also inside a `put`) —, its own
write-buffer configuration and mailbox capacity; the next process starts on whatever store the
previous one left (buffer, mailbox, sink are gone) and recovers from it.

`node_history_exact` composes C12, C13 and C11 at this level, through one invariant of the store
between two lives (it holds what the lives confirmed: `StreamNode.holds_lives` +
`C13.recState_of_holds`): after every such
history, recovery from the store succeeds, the manifest references only complete objects, and the
recovered state is, key by key, EXACTLY the merge of the updates of every flush that returned
`Ok` in any life — nothing less (no confirmed update lost by a crash, a failed call, a compaction
pass or a restart) and nothing more (no update of a flush that failed or was cut by the death of
the process, no orphan object adopted).  `restart_serves_exactly_confirmed` carries this through
`apply_recovered_state` on the fresh node of the next process, for every router.  Within a life
the confirmed updates are a prefix (in acceptance order) of what `push` accepted and the rest is
exactly the buffer: what a crash can take is a suffix of the accepted updates.

The compaction pass is one event (its store calls do not interleave with a flush's): the
interleaved schedules are C13's flush-race findings, see `Model/StreamNode.lean`.
-/
namespace RedisVerif
namespace C12

open _root_.RedisVerif.Stream _root_.RedisVerif.StreamActor _root_.RedisVerif.StreamNode FoldACI

/-- C12 ∘ C13 ∘ C11 in one statement.  For every sequence of processes
    on one store — each with its own fault oracle (every failed store call, every torn `put`, the
    death of the process at any call), write-buffer configuration, mailbox capacity, clock, and
    every schedule of sends, bridge iterations, ticks, flush / shutdown requests, actor steps and
    compaction passes (any threshold, any selection, compactions of compacted segments; no
    tombstone GC) — with coherent updates: recovery from the store that is left succeeds, the
    manifest references only complete objects, and the recovered state is exactly the per-key
    merge of the updates of every flush that returned `Ok` in any of the lives. -/
theorem node_history_exact (rid : Nat) (lives : List Life)
    (hc : Coherent (lives.flatMap Life.deltas))
    (hgc : ∀ l ∈ lives, ∀ e ∈ l.evs, e.gcFree = true) :
    C13.recState (runLives rid { store := [], confirmed := [] } lives).store rid =
      some (foldState (runLives rid { store := [], confirmed := [] } lives).confirmed) ∧
    refsComplete (runLives rid { store := [], confirmed := [] } lives).store = true := by
  have h := holds_lives rid lives hc hgc
  exact ⟨C13.recState_of_holds h rid, refsComplete_of_storeInv h.inv⟩

/-- the next process: `StreamingIntegration::recover` on
    a fresh node (recovery, then `apply_recovered_state`), every router: every key holds exactly
    the merge of everything any earlier process confirmed -/
theorem restart_serves_exactly_confirmed (rid : Nat) (lives : List Life)
    (hc : Coherent (lives.flatMap Life.deltas))
    (hgc : ∀ l ∈ lives, ∀ e ∈ l.evs, e.gcFree = true) (route : Nat → Nat) (causal : Bool) :
    ∃ r, recover (runLives rid { store := [], confirmed := [] } lives).store rid = .ok r ∧
      ∀ k, (applyRecoveredState route (Node.fresh rid causal) r.chk r.deltas).value route k =
        NMap.get (foldState (runLives rid { store := [], confirmed := [] } lives).confirmed) k := by
  obtain ⟨r, hr, hchk, hf⟩ := (holds_lives rid lives hc hgc).recover rid
  refine ⟨r, hr, fun k => ?_⟩
  rw [C11.apply_recovered_equals_foldState route rid causal r.chk (by intro m hm; rw [hchk] at hm; cases hm) r.deltas k,
    ← hf]
  rfl

/-- inside one life, on any store, for every oracle,
    configuration and schedule: what `push` accepted is, in acceptance order, the confirmed
    updates followed by the buffer.  The death of the process takes the buffer — a suffix of the
    accepted updates — and nothing else. -/
theorem confirmed_is_prefix_of_accepted (rid : Nat) (st : Store) (l : Life) :
    (l.final rid st).accepted = (l.final rid st).acked ++ (l.final rid st).x.p.buffer := by
  unfold Life.final StreamNode.run
  apply TraceInv.run_inv (StreamNode.step l.F l.wcfg l.cap) (fun a => a.accepted = a.acked ++ a.x.p.buffer)
  · intro a ev h
    cases ev with
    | compactPass cfg m sz => exact h
    | pipe e => exact (core_step l.F l.wcfg l.cap a e).accepted_eq h
  · simp [A.init, PX.init]

/-- the same statement at every instant of the last life (a crash = the oracle kills the process
    at some call; stopping the observation after `n` events is the other way to look at it) -/
theorem node_history_exact_at_every_instant (rid : Nat) (lives : List Life) (l : Life) (n : Nat)
    (hc : Coherent ((lives ++ [l]).flatMap Life.deltas))
    (hgc : ∀ l' ∈ lives ++ [l], ∀ e ∈ l'.evs, e.gcFree = true) :
    C13.recState (runLives rid { store := [], confirmed := [] } (lives ++ [{ l with evs := l.evs.take n }])).store rid =
      some (foldState (runLives rid { store := [], confirmed := [] } (lives ++ [{ l with evs := l.evs.take n }])).confirmed) := by
  apply (node_history_exact rid _ ?_ ?_).1
  · apply coherent_of_subset hc
    intro d hd
    simp only [List.flatMap_append, List.mem_append, List.flatMap_cons, List.flatMap_nil, List.append_nil] at hd ⊢
    rcases hd with hd | hd
    · exact Or.inl hd
    · right
      unfold Life.deltas at hd ⊢
      obtain ⟨e, he, hed⟩ := List.mem_filterMap.mp hd
      exact List.mem_filterMap.mpr ⟨e, List.mem_of_mem_take he, hed⟩
  · intro l' hl' e he
    rcases List.mem_append.mp hl' with h | h
    · exact hgc l' (List.mem_append.mpr (Or.inl h)) e he
    · simp only [List.mem_singleton] at h
      subst h
      exact hgc l (by simp) e (List.mem_of_mem_take he)

/-! ## non-vacuity -/

def nodeCfg : CompactCfg := { target := 1000, minSegs := 2, maxPer := 5, now := 0, ttlMs := 0 }

/-- first life: two flushed batches of two replicas on one key, then a third batch whose segment
    `put` is cut by the death of the process (a torn object stays behind); second life: a new
    batch, a compaction pass over everything, one more batch that is accepted but not flushed -/
def exLives : List Life :=
  [ { F := fun n => if n = 9 then .crashPartial else .ok, wcfg := { bigCfg with maxDeltas := 1 }, cap := 4, now := 0,
      evs := [.pipe (.send (sd 97 1 5 1)), .pipe .drain, .pipe (.actor 100),
              .pipe (.send ((97, RV.withValue [2] ⟨5, 2⟩), 1)), .pipe .drain, .pipe (.actor 100),
              .pipe (.send (sd 98 3 6 1)), .pipe .drain, .pipe (.actor 100)] },
    { F := fun _ => .ok, wcfg := { bigCfg with maxDeltas := 1 }, cap := 4, now := 50,
      evs := [.pipe (.send (sd 99 4 7 1)), .pipe .drain, .pipe (.actor 100),
              .compactPass nodeCfg 2 150,
              .pipe (.send (sd 100 5 8 1)), .pipe .drain] } ]

example : Coherent (exLives.flatMap Life.deltas) ∧ (∀ l ∈ exLives, ∀ e ∈ l.evs, e.gcFree = true) ∧
    (runLives 1 { store := [], confirmed := [] } exLives).confirmed =
      [c12Delta 97 1 5, (97, RV.withValue [2] ⟨5, 2⟩), c12Delta 99 4 7] ∧
    ((manifestOf (runLives 1 { store := [], confirmed := [] } exLives).store 0).segments.map (·.id)) = [3] := by
  decide

end C12
end RedisVerif
