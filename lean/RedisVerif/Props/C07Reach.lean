import RedisVerif.Lemmas.OuterUnique
import RedisVerif.Lemmas.ReachRestart
import RedisVerif.Model.Lattice

/-!
# C07 over the values a cluster can produce — the hypotheses of `rv_merge_comm` /
# `rv_merge_assoc_partial` discharged

`Props/C07.lean` proves commutativity of `ReplicatedValue::merge` under the decidable hypothesis
`TieConsistent a b` and associativity for `SameKind` triples.  The property text quantifies over
"all values replicas can produce".  Here that set is made explicit — `Reach c k`: what any node of
a cluster STORES for key `k`, what any node has SHIPPED for `k`, closed under `merge` (a peer
applying a delta, anti-entropy, recovery folding segments, any nesting) — for a cluster
`(init n causal).run evs` of any size after ANY history of local writes (SET / DEL / HSET / HDEL
on any keys, any values, expiries) and deliveries (any delta to any node, any order, duplicated,
echoed to its origin), and the hypotheses are THEOREMS about it.

Any two reachable values of one key are tie-consistent: same (slot, stamp) ⇒ same register (C08's
"a stamp identifies one write", `RInv.uniq`), and values of different kinds never share an outer
stamp (`OInv.func`).  Hence `merge` commutes on reachable values with NO tie hypothesis, cross-kind
pairs, tombstones and equal times from different replicas included.  Associativity holds for every
key that is used as one Redis type (decidable on the issued deltas); for a key used as a string
AND as a hash the three deltas of ONE node (HSET, SET, HSET) violate it
(`reachable_assoc_cross_kind_counterexample`, the finding `C07:assoc:cross-kind:crdt` as a statement
about an execution).  The only hypothesis on the history is the code's own precondition of
`record_hash_write` (`debug_assert!(!fields.is_empty())`); `empty_hwrite_breaks_tie` shows what it
protects.
-/
namespace RedisVerif
namespace C07

open Cluster

/-- the values of key `k` that the cluster `c` can produce -/
inductive Reach (c : Cluster) (k : Nat) : RV → Prop
  | stored (i : Nat) (s : Shard) (v : RV) :
      c.nodes[i]? = some s → NMap.get s.keys k = some v → Reach c k v
  | sent (m : Msg) : m ∈ c.sent → m.key = k → Reach c k m.val
  | merge (a b : RV) : Reach c k a → Reach c k b → Reach c k (RV.merge a b)

/-- what the two cluster invariants say about one value of key `k`: its registers are registers of
    the cluster, its (outer stamp, kind) pair is that of an issued delta -/
abbrev GCar (c : Cluster) (k : Nat) : RV → Prop :=
  RV.Within (fun p => InCluster c (k, p.1, p.2)) (SentPair c k)

/-- the part of the cluster invariants the tie argument needs (common to executions without
    crashes — `RInv` + `OInv` — and with crashes — `XInv`) -/
structure TieInv (c : Cluster) : Prop where
  wf : ∀ s ∈ c.nodes, s.NodeWF ∧ s.Inv
  sent_wf : ∀ m ∈ c.sent, m.val.WF ∧ m.val.Dominated
  uniq : ∀ a b, InCluster c a → InCluster c b → a.1 = b.1 → a.2.1 = b.2.1 →
    a.2.2.ts = b.2.2.ts → a.2.2 = b.2.2
  stored : ∀ (i : Nat) (s : Shard), c.nodes[i]? = some s → ∀ k v, NMap.get s.keys k = some v →
    SentPair c k (v.ts, v.crdt.kind)
  func : ∀ k p q, SentPair c k p → SentPair c k q → p.1 = q.1 → p.2 = q.2

theorem gcar_of_reach {c : Cluster} (hr : TieInv c) {k : Nat} {v : RV}
    (h : Reach c k v) : GCar c k v := by
  induction h with
  | stored i s v hs hg =>
    have hsmem : s ∈ c.nodes := List.mem_of_getElem? hs
    have hmem := NMap.mem_of_get hg
    exact ⟨(hr.wf s hsmem).1.2 _ hmem, hr.stored i s hs k v hg,
      fun p hp => Or.inl ⟨s, hsmem, mem_shardRegs.mpr ⟨v, hmem, hp⟩⟩⟩
  | sent m hm hk =>
    refine ⟨(hr.sent_wf m hm).1, ⟨m, hm, hk, rfl⟩, fun p hp => Or.inr ?_⟩
    simp only [sentRegs, List.mem_flatMap]
    exact ⟨m, hm, mem_valRegs.mpr ⟨hk.symm, hp⟩⟩
  | merge a b _ _ iha ihb => exact iha.merge ihb

theorem tie_of_gcar {c : Cluster} (hr : TieInv c) {k : Nat} {a b : RV}
    (ha : GCar c k a) (hb : GCar c k b) : TieConsistent a b :=
  RV.Within.tie (fun p q hp hq => hr.uniq (k, p.1, p.2) (k, q.1, q.2) hp hq rfl) (hr.func k) ha hb

/-- the key is used as ONE Redis type: every delta issued for it has kind `K` (decidable on the
    finite list of issued deltas) -/
def OneKind (c : Cluster) (k K : Nat) : Prop := ∀ m ∈ c.sent, m.key = k → m.val.crdt.kind = K

instance (c : Cluster) (k K : Nat) : Decidable (OneKind c k K) := by unfold OneKind; infer_instance

section
variable {c : Cluster} (h : TieInv c) {k : Nat} {a b d : RV}
include h

theorem reach_wf (ha : Reach c k a) : a.WF := (gcar_of_reach h ha).1

theorem reach_tie (ha : Reach c k a) (hb : Reach c k b) : TieConsistent a b :=
  tie_of_gcar h (gcar_of_reach h ha) (gcar_of_reach h hb)

theorem reach_comm (ha : Reach c k a) (hb : Reach c k b) : RV.merge a b = RV.merge b a :=
  rv_merge_comm a b (reach_wf h ha) (reach_wf h hb) (reach_tie h ha hb)

theorem reach_kind {K : Nat} (hK : OneKind c k K) (ha : Reach c k a) : a.crdt.kind = K := by
  obtain ⟨m, hm, hk, hp⟩ := (gcar_of_reach h ha).2.1
  exact (congrArg Prod.snd hp).symm.trans (hK m hm hk)

theorem reach_assoc {K : Nat} (hK : OneKind c k K) (ha : Reach c k a) (hb : Reach c k b)
    (hd : Reach c k d) : RV.merge a (RV.merge b d) = RV.merge (RV.merge a b) d :=
  rv_merge_assoc_partial a b d (reach_wf h ha) (reach_wf h hb) (reach_wf h hd)
    ⟨(reach_kind h hK ha).trans (reach_kind h hK hb).symm,
      (reach_kind h hK hb).trans (reach_kind h hK hd).symm⟩

end

/-! ## the theorems over executions -/

/-- the cluster after a history -/
abbrev exec (n : Nat) (causal : Bool) (evs : List Ev) : Cluster := (init n causal).run evs

theorem exec_inv (n : Nat) (causal : Bool) (evs : List Ev) (hv : ∀ e ∈ evs, e.Valid = true) :
    TieInv (exec n causal evs) :=
  have h := XInv_run n causal evs hv
  ⟨h.wf, h.sent_wf, h.uniq, h.stored, h.func⟩

/-- every value a cluster can produce is canonical -/
theorem reachable_wf (n : Nat) (causal : Bool) (evs : List Ev) (hv : ∀ e ∈ evs, e.Valid = true)
    (k : Nat) (a : RV) (ha : Reach (exec n causal evs) k a) : a.WF :=
  reach_wf (exec_inv n causal evs hv) ha

/-- **`TieConsistent` is an invariant of everything a cluster can produce.** -/
theorem reachable_tie_consistent (n : Nat) (causal : Bool) (evs : List Ev)
    (hv : ∀ e ∈ evs, e.Valid = true) (k : Nat) (a b : RV)
    (ha : Reach (exec n causal evs) k a) (hb : Reach (exec n causal evs) k b) :
    TieConsistent a b :=
  reach_tie (exec_inv n causal evs hv) ha hb

/-- **C07 (commutativity) over reachable values — no tie hypothesis.** -/
theorem reachable_merge_comm (n : Nat) (causal : Bool) (evs : List Ev)
    (hv : ∀ e ∈ evs, e.Valid = true) (k : Nat) (a b : RV)
    (ha : Reach (exec n causal evs) k a) (hb : Reach (exec n causal evs) k b) :
    RV.merge a b = RV.merge b a :=
  reach_comm (exec_inv n causal evs hv) ha hb

/-- **C07 (idempotence) over reachable values.** -/
theorem reachable_merge_idem (n : Nat) (causal : Bool) (evs : List Ev)
    (hv : ∀ e ∈ evs, e.Valid = true) (k : Nat) (a : RV)
    (ha : Reach (exec n causal evs) k a) : RV.merge a a = a :=
  rv_merge_idem a (reachable_wf n causal evs hv k a ha)

/-- **C07 (associativity) over reachable values of a key used as one type.**  (For a key used as
    two types the law fails: `reachable_assoc_cross_kind_counterexample`.) -/
theorem reachable_merge_assoc (n : Nat) (causal : Bool) (evs : List Ev)
    (hv : ∀ e ∈ evs, e.Valid = true) (k K : Nat) (hK : OneKind (exec n causal evs) k K)
    (a b c : RV) (ha : Reach (exec n causal evs) k a) (hb : Reach (exec n causal evs) k b)
    (hc : Reach (exec n causal evs) k c) :
    RV.merge a (RV.merge b c) = RV.merge (RV.merge a b) c :=
  reach_assoc (exec_inv n causal evs hv) hK ha hb hc

/-- all three laws in everything observable, for any three reachable values of a one-type key -/
theorem reachable_obs_laws (n : Nat) (causal : Bool) (evs : List Ev)
    (hv : ∀ e ∈ evs, e.Valid = true) (k K : Nat) (hK : OneKind (exec n causal evs) k K)
    (a b c : RV) (ha : Reach (exec n causal evs) k a) (hb : Reach (exec n causal evs) k b)
    (hc : Reach (exec n causal evs) k c) :
    obs (RV.merge a a) = obs a ∧ obs (RV.merge a b) = obs (RV.merge b a) ∧
    obs (RV.merge a (RV.merge b c)) = obs (RV.merge (RV.merge a b) c) := by
  exact ⟨by rw [reachable_merge_idem n causal evs hv k a ha],
    by rw [reachable_merge_comm n causal evs hv k a b ha hb],
    by rw [reachable_merge_assoc n causal evs hv k K hK a b c ha hb hc]⟩

/-! ## executions with crashes

A node may crash at any point and come back EMPTY (`Cluster.restart`: Lamport clock 0); what it
gets back — its own old deltas from WAL / segments through `apply_recovered_state(None, ..)`, from
peers, from anti-entropy — are ordinary deliveries.  The hypothesis `RecoversFirst` (decidable on
the history) is C08's limitation made explicit: a node does not write between a crash and having
re-absorbed every delta it issued before (recovery precedes serving; C09 / C11 / C12 supply it for
acknowledged-durable writes).  `restart_early_write_breaks_tie`: without it a stamp is re-used. -/

/-- the cluster after a history with crashes -/
abbrev execR (n : Nat) (causal : Bool) (evs : List REv) : Cluster := (init n causal).runR evs

theorem execR_inv (n : Nat) (causal : Bool) (evs : List REv)
    (hv : RecoversFirst (init n causal) evs) : TieInv (execR n causal evs) :=
  have h := XInv_runR _ evs (XInv_init n causal) hv
  ⟨h.wf, h.sent_wf, h.uniq, h.stored, h.func⟩

/-- **`TieConsistent` is an invariant of everything a cluster can produce, crashes included.** -/
theorem reachableR_tie_consistent (n : Nat) (causal : Bool) (evs : List REv)
    (hv : RecoversFirst (init n causal) evs) (k : Nat) (a b : RV)
    (ha : Reach (execR n causal evs) k a) (hb : Reach (execR n causal evs) k b) :
    TieConsistent a b :=
  reach_tie (execR_inv n causal evs hv) ha hb

/-- **C07 (commutativity) over reachable values, crashes included — no tie hypothesis.** -/
theorem reachableR_merge_comm (n : Nat) (causal : Bool) (evs : List REv)
    (hv : RecoversFirst (init n causal) evs) (k : Nat) (a b : RV)
    (ha : Reach (execR n causal evs) k a) (hb : Reach (execR n causal evs) k b) :
    RV.merge a b = RV.merge b a :=
  reach_comm (execR_inv n causal evs hv) ha hb

/-- **C07 (associativity) over reachable values of a one-type key, crashes included.** -/
theorem reachableR_merge_assoc (n : Nat) (causal : Bool) (evs : List REv)
    (hv : RecoversFirst (init n causal) evs) (k K : Nat) (hK : OneKind (execR n causal evs) k K)
    (a b c : RV) (ha : Reach (execR n causal evs) k a) (hb : Reach (execR n causal evs) k b)
    (hc : Reach (execR n causal evs) k c) :
    RV.merge a (RV.merge b c) = RV.merge (RV.merge a b) c :=
  reach_assoc (execR_inv n causal evs hv) hK ha hb hc

/-- r1 writes k three times and ships; crashes; gets its three deltas back; writes again -/
def recoverThenWrite : List REv :=
  [ .ev (.loc 0 (.write 107 [1] none)), .ev (.loc 0 (.write 107 [2] none)),
    .ev (.loc 0 (.hwrite 108 [(5, [3])])), .ev (.deliver 1 0), .ev (.deliver 1 2),
    .restart 0,
    .ev (.deliver 0 2), .ev (.deliver 0 0), .ev (.deliver 0 1),
    .ev (.loc 0 (.write 107 [4] none)), .ev (.loc 0 (.hdelete 108 [5])),
    .restart 1, .ev (.deliver 1 3) ]

/-- r1 writes k, crashes, and writes again BEFORE it has its own delta back -/
def earlyWrite : List REv :=
  [ .ev (.loc 0 (.write 107 [1] none)), .ev (.deliver 1 0), .restart 0,
    .ev (.loc 0 (.write 107 [9] none)) ]

/-- non-vacuity of `RecoversFirst`, and its necessity: the early write re-uses stamp (1, r1) for
    another value; the two deltas are tie-inconsistent and merge order-dependently -/
theorem restart_early_write_breaks_tie :
    RecoversFirst (init 2 false) recoverThenWrite ∧
    (execR 2 false recoverThenWrite).sent.map (·.val.ts) = [⟨1, 1⟩, ⟨2, 1⟩, ⟨3, 1⟩, ⟨7, 1⟩, ⟨8, 1⟩] ∧
    ¬ RecoversFirst (init 2 false) earlyWrite ∧
    (∃ a b, (execR 2 false earlyWrite).sent.map (·.val) = [a, b] ∧ a.ts = b.ts ∧
      ¬ TieConsistent a b ∧ obs (RV.merge a b) ≠ obs (RV.merge b a)) := by
  refine ⟨by decide, by decide, by decide, _, _, rfl, ?_⟩
  decide

/-! ## what the hypotheses protect -/

/-- one node: `HSET h f 1`, `SET h v`, `HSET h g 2` -/
def crossKindRun : List Ev :=
  [.loc 0 (.hwrite 104 [(102, [49])]), .loc 0 (.write 104 [118] none),
   .loc 0 (.hwrite 104 [(103, [50])])]

/-- **Known finding C07:assoc:cross-kind as an execution**: the three deltas ONE node issues for a
    key it uses first as a hash, then as a string, then as a hash again are exactly the triple of
    `assoc_cross_kind_counterexample`; a peer that folds them as `a ⊔ (b ⊔ c)` keeps field `f`, one
    that folds them as `(a ⊔ b) ⊔ c` does not. -/
theorem reachable_assoc_cross_kind_counterexample :
    (∀ e ∈ crossKindRun, e.Valid = true) ∧
    (exec 1 false crossKindRun).sent.map (·.val) = [hashA, lwwB, hashC] ∧
    obs (RV.merge hashA (RV.merge lwwB hashC)) ≠ obs (RV.merge (RV.merge hashA lwwB) hashC) := by
  decide

theorem crossKind_reachable :
    Reach (exec 1 false crossKindRun) 104 hashA ∧ Reach (exec 1 false crossKindRun) 104 lwwB ∧
    Reach (exec 1 false crossKindRun) 104 hashC := by
  refine ⟨?_, ?_, ?_⟩
  · exact Reach.sent ⟨0, 104, hashA⟩ (by decide) rfl
  · exact Reach.sent ⟨0, 104, lwwB⟩ (by decide) rfl
  · exact Reach.sent ⟨0, 104, hashC⟩ (by decide) rfl

/-- `SET k v` then `record_hash_write(k, [])` — outside the function's precondition -/
def emptyHwriteRun : List Ev := [.loc 0 (.write 107 [118] none), .loc 0 (.hwrite 107 [])]

/-- the validity hypothesis is necessary: an empty field list re-labels the stored string as an
    (empty) hash under its OLD outer stamp; the two deltas then merge order-dependently -/
theorem empty_hwrite_breaks_tie :
    ¬ (∀ e ∈ emptyHwriteRun, e.Valid = true) ∧
    (∃ a b, (exec 1 false emptyHwriteRun).sent.map (·.val) = [a, b] ∧ a.ts = b.ts ∧
      ¬ TieConsistent a b ∧ obs (RV.merge a b) ≠ obs (RV.merge b a)) := by
  refine ⟨by decide, _, _, rfl, ?_⟩
  decide

/-- the counter / set kinds are NOT produced by any actor (no command maps to them; `Reach`
    contains only strings and hashes), only by the public constructor
    `ReplicatedValue::with_crdt(crdt, replica)`, which stamps EVERY value `(0, replica)`: two values
    of different kinds built by one replica through it are tie-inconsistent and merge
    order-dependently.  Not a violation of C07 (no replica produces them) — it is why the
    `reachable_*` theorems are stated over `Reach` and not over "everything the API can build". -/
theorem with_crdt_cross_kind_not_comm :
    let a := RV.withCrdt (.gcounter [(1, 2)]) 1
    let b := RV.withCrdt (.gset [7]) 1
    a.WF ∧ b.WF ∧ ¬ TieConsistent a b ∧ obs (RV.merge a b) ≠ obs (RV.merge b a) := by
  decide

/-! ## non-vacuity: a history with every op kind, a tie in time across replicas and a cross-kind
    pair satisfies the hypotheses; its reachable values are not trivial -/

def demoRun : List Ev :=
  [.loc 0 (.write 107 [1] none), .loc 1 (.hwrite 107 [(5, [2])]), .deliver 0 1, .deliver 1 0,
   .loc 0 (.delete 107), .loc 1 (.hdelete 107 [9]), .deliver 1 2]

example : (∀ e ∈ demoRun, e.Valid = true) ∧
    (exec 2 false demoRun).sent.map (fun m => (m.val.ts, m.val.crdt.kind)) =
      [(⟨1, 1⟩, 0), (⟨1, 2⟩, 5), (⟨3, 1⟩, 5), (⟨2, 2⟩, 5)] ∧
    OneKind (exec 2 false [.loc 0 (.write 107 [1] none), .loc 1 (.write 107 [2] (some 9))]) 107 0 := by
  decide

/-! ## `OneKind` from the history: a key that is only ever WRITTEN as one Redis type -/

/-- key `k` is written as strings only (`K = 0`: no `HSET k`) or as hashes only (`K = 5`: no
    `SET k`) along the history — decidable on the event list; DEL / HDEL do not choose a type -/
def UsedAs (K : Nat) (k : Nat) : List Ev → Prop
  | [] => True
  | .loc _ (.write k' _ _) :: evs => (k' = k → K = 0) ∧ UsedAs K k evs
  | .loc _ (.hwrite k' _) :: evs => (k' = k → K = 5) ∧ UsedAs K k evs
  | _ :: evs => UsedAs K k evs

instance decUsedAs (K k : Nat) : (evs : List Ev) → Decidable (UsedAs K k evs)
  | [] => isTrue trivial
  | .loc _ (.write _ _ _) :: evs => by
      have := decUsedAs K k evs; unfold UsedAs; exact inferInstance
  | .loc _ (.hwrite _ _) :: evs => by
      have := decUsedAs K k evs; unfold UsedAs; exact inferInstance
  | .loc _ (.delete _) :: evs => by
      have := decUsedAs K k evs; unfold UsedAs; exact this
  | .loc _ (.hdelete _ _) :: evs => by
      have := decUsedAs K k evs; unfold UsedAs; exact this
  | .deliver _ _ :: evs => by
      have := decUsedAs K k evs; unfold UsedAs; exact this

/-- every value of key `k` anywhere in the cluster has kind `K` -/
def AllKind (c : Cluster) (k K : Nat) : Prop :=
  (∀ s ∈ c.nodes, ∀ v, NMap.get s.keys k = some v → v.crdt.kind = K) ∧ OneKind c k K

/-- the kind of the delta of a local step: chosen by SET / HSET, inherited by DEL / HDEL -/
theorem local_kind (s : Shard) (op : LOp) (d : RV) (hd : (Shard.step s op.toOp).2 = some d) :
    (∃ k v e, op = .write k v e ∧ d.crdt.kind = 0) ∨ (∃ k fs, op = .hwrite k fs ∧ d.crdt.kind = 5) ∨
    (∃ old, NMap.get s.keys op.key = some old ∧ old.crdt.kind = d.crdt.kind) := by
  have h := Shard.local_cases s op
  generalize Shard.step s op.toOp = r at h hd
  cases h with
  | skip => cases hd
  | write k v e => cases hd; exact Or.inl ⟨k, v, e, rfl, rfl⟩
  | hwrite k fs => cases hd; exact Or.inr (Or.inl ⟨k, fs, rfl, rfl⟩)
  | delOther hg => cases hd; exact Or.inr (Or.inr ⟨_, hg, rfl⟩)
  | delLww hg hc | delHash hg hc | hdel _ hg hc =>
    cases hd; exact Or.inr (Or.inr ⟨_, hg, (congrArg Crdt.kind hc).trans rfl⟩)

theorem allKind_step {c : Cluster} {k K : Nat} (h : AllKind c k K) (e : Ev)
    (he : UsedAs K k [e]) : AllKind (c.step e) k K := by
  -- the nodes: all but one are those of `c`
  have hset : ∀ {i : Nat} {s' : Shard}, (∀ v, NMap.get s'.keys k = some v → v.crdt.kind = K) →
      ∀ x ∈ c.nodes.set i s', ∀ v, NMap.get x.keys k = some v → v.crdt.kind = K := by
    intro i s' hs' x hx
    rcases List.mem_or_eq_of_mem_set hx with hx | rfl
    · exact h.1 x hx
    · exact hs'
  cases e with
  | deliver j idx =>
    rcases step_deliver_cases c j idx with hc | ⟨s, m, hs, hm, hc⟩ <;> rw [hc]
    · exact h
    refine ⟨hset fun v hg => ?_, h.2⟩
    -- under `m.key` the merge has the kind of an operand
    have hsk := h.1 s (List.mem_of_getElem? hs)
    rw [Shard.applyRemote, NMap.get_insert] at hg
    split at hg
    · rename_i hk
      cases hg
      have hmk := h.2 m (List.mem_of_getElem? hm) hk.symm
      cases hl : NMap.get s.keys m.key with
      | none => exact hmk
      | some l =>
        show (RV.merge l m.val).crdt.kind = K
        rcases RV.merge_pair l m.val with h1 | h1
        · exact (congrArg Prod.snd h1).trans (hsk l (hk ▸ hl))
        · exact (congrArg Prod.snd h1).trans hmk
    · exact hsk v hg
  | loc i op =>
    rcases step_loc_cases c i op with hc | ⟨s, d, hs, hd, hc⟩ <;> rw [hc]
    · exact h
    have hsk := h.1 s (List.mem_of_getElem? hs)
    -- the delta has the kind SET / HSET chooses, or the kind of the value it replaces
    have hdk : op.key = k → d.crdt.kind = K := by
      intro hkey
      rcases local_kind s op d hd with ⟨k', v, e', rfl, hk0⟩ | ⟨k', fs, rfl, hk5⟩ | ⟨old, ho, hok⟩
      · rw [hk0, he.1 hkey]
      · rw [hk5, he.1 hkey]
      · exact hok.symm.trans (hsk old (hkey ▸ ho))
    refine ⟨hset fun v hg => ?_, fun m hm hmk => ?_⟩
    · by_cases hk : k = op.key
      · rw [hk, Shard.local_get s op d hd] at hg
        cases hg
        exact hdk hk.symm
      · rw [Shard.keys_step_other s op k hk] at hg
        exact hsk v hg
    · rcases List.mem_append.mp hm with h1 | h1
      · exact h.2 m h1 hmk
      · rw [List.mem_singleton.mp h1] at hmk ⊢
        exact hdk hmk

theorem usedAs_cons {K k : Nat} {e : Ev} {evs : List Ev} (h : UsedAs K k (e :: evs)) :
    UsedAs K k [e] ∧ UsedAs K k evs := by
  cases e with
  | deliver j idx => exact ⟨trivial, h⟩
  | loc i op =>
    cases op with
    | write k' v e' => exact ⟨⟨h.1, trivial⟩, h.2⟩
    | hwrite k' fs => exact ⟨⟨h.1, trivial⟩, h.2⟩
    | delete k' => exact ⟨trivial, h⟩
    | hdelete k' fs => exact ⟨trivial, h⟩

theorem allKind_run (c : Cluster) (evs : List Ev) {k K : Nat} (h : AllKind c k K)
    (hu : UsedAs K k evs) : AllKind (c.run evs) k K := by
  induction evs generalizing c with
  | nil => exact h
  | cons e evs ih =>
    obtain ⟨h1, h2⟩ := usedAs_cons hu
    exact ih (c.step e) (allKind_step h e h1) h2

/-- a key that the history writes as one Redis type only is `OneKind` -/
theorem oneKind_of_usage (n : Nat) (causal : Bool) (evs : List Ev) (k K : Nat)
    (hu : UsedAs K k evs) : OneKind (exec n causal evs) k K := by
  have h0 : AllKind (init n causal) k K := by
    refine ⟨fun s hs v hg => ?_, fun m hm => nomatch hm⟩
    obtain ⟨x, _, rfl⟩ := List.mem_map.mp hs
    cases hg
  exact (allKind_run _ evs h0 hu).2

/-- **C07 (associativity) for every key the history uses as ONE Redis type** — the hypothesis is
    on the history (no `SET k` and `HSET k` both), the conclusion about everything reachable -/
theorem reachable_merge_assoc_of_usage (n : Nat) (causal : Bool) (evs : List Ev)
    (hv : ∀ e ∈ evs, e.Valid = true) (k K : Nat) (hu : UsedAs K k evs)
    (a b c : RV) (ha : Reach (exec n causal evs) k a) (hb : Reach (exec n causal evs) k b)
    (hc : Reach (exec n causal evs) k c) :
    RV.merge a (RV.merge b c) = RV.merge (RV.merge a b) c :=
  reachable_merge_assoc n causal evs hv k K (oneKind_of_usage n causal evs k K hu) a b c ha hb hc

/-- non-vacuity, and the cross-kind run is used as neither type -/
example :
    UsedAs 0 107 [.loc 0 (.write 107 [1] none), .loc 1 (.delete 107), .loc 1 (.hwrite 108 [(1, [2])]),
      .deliver 1 0, .loc 1 (.write 107 [3] (some 5))] ∧
    ¬ UsedAs 0 104 crossKindRun ∧ ¬ UsedAs 5 104 crossKindRun := by
  decide

end C07
end RedisVerif
