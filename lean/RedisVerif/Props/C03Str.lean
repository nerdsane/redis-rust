import RedisVerif.Model.ShardsStr
import RedisVerif.Lemmas.NMap
import RedisVerif.Lemmas.ShardsStr
import RedisVerif.Props.C01

/-!
# The small executor `ShardsStr` refines the M7 reference executor on its command subset

`Model/ShardsStr.lean` (strings + lists, no deadlines) is what the C03 / C02 drivers run for the untimed
streams and what the `…_counterexample` theorems of `Props/C03.lean` are stated about.  It duplicates a
slice of M7 (`Model/Redis.lean`, the model C01 compares with the real `CommandExecutor` on every run);
a duplicate that lags behind a repair of /repo raises a false alarm.
What can be shared is shared by definition (`globB` = `RedisX.globMatch` — `globB_eq`; `parseI64` =
`Redis.parseCanon`, `showInt` = `Redis.showInt`, `SORT` = `Redis.sortAll`); the rest is proved to be M7,
operation by operation (the EVAL two-key script of the small executor is not an M7 command: scripts are
`Model/Script7.lean`).
An edit of M7's GET / SET / SETNX / APPEND / STRLEN / INCR / GETDEL / GETSET / TYPE / RPUSH / LPUSH / LPOP /
RPOP / LLEN / LRANGE (someone following a repaired /repo) that is not mirrored in `ShardsStr` breaks
this proof at build time instead of raising `C03:model-mismatch` at run time.
-/
namespace RedisVerif.Shards.Str
open NMap

/-- a value of the small executor as an M7 entry (the small executor has no deadlines) -/
def emb : SVal → Redis.Entry
  | .str b => ⟨.str b, none⟩
  | .list l => ⟨.list l, none⟩

def embS (s : St) : Redis.State := NMap.mapVal emb s

/-- the M7 command a single-key operation of the small executor stands for -/
def op7 (k : Key) : Op1 → Redis.Cmd
  | .get => .get k
  | .set v => .set k v .always .none false
  | .setnx v => .setnx k v
  | .append v => .append k v
  | .strlen => .strlen k
  | .incr => .incr k
  | .getdel => .getdel k
  | .getset v => .getset k v
  | .typ => .type k
  | .rpush vs => .rpush k vs
  | .lpush vs => .lpush k vs
  | .lpop => .lpop k
  | .rpop => .rpop k
  | .llen => .llen k
  | .lrange => .lrange k 0 (-1)

def err7 (c : Nat) : Redis.Err :=
  if c = errWrongType then .wrongType else if c = errNotInt then .notInt else if c = errOverflow then .overflow
  else if c = errNoSuchKey then .noSuchKey else .notDouble

def r17 : R1 → Redis.Reply
  | .ok => .ok
  | .nil => .nil
  | .int i => .int i
  | .bulk b => .bulk b
  | .err c => .err (err7 c)
  | .ext r => r

def elem7 : R1 → Redis.Elem
  | .bulk b => .bulk b
  | .int i => .int i
  | _ => .nil

/-- the reply of the small executor as an M7 reply (TYPE answers a status line in M7) -/
def rep7 (op : Op1) (r : Reply) : Redis.Reply :=
  match op, r with
  | .typ, .one (.bulk b) => .simple (String.ofList (b.map Char.ofNat))
  | _, .one x => r17 x
  | _, .many l => .arr (l.map elem7)
  | _, _ => .nil

theorem get_embS (s : St) (k : Nat) : get (embS s) k = (get s k).map emb := get_mapVal emb s k

theorem wf_embS {s : St} (h : WF s) : WF (embS s) := wf_mapVal emb h

theorem embS_insert {s : St} (h : WF s) (k : Nat) (v : SVal) : embS (NMap.insert k v s) = NMap.insert k (emb v) (embS s) := by
  apply NMap.ext (wf_embS (wf_insert h)) (wf_insert (wf_embS h))
  intro k'
  rw [get_embS, get_insert, get_insert, get_embS]
  split <;> rfl

theorem embS_erase {s : St} (h : WF s) (k : Nat) : embS (NMap.erase k s) = NMap.erase k (embS s) := by
  apply NMap.ext (wf_embS (wf_erase h)) (wf_erase (wf_embS h))
  intro k'
  rw [get_embS, get_erase h, get_erase (wf_embS h), get_embS]
  split <;> rfl


/-- no key holds an empty list: M7 deletes a list that becomes empty, and so does `exec1`
    (`okStore_exec1`) -/
def OkStore (s : St) : Prop := WF s ∧ ∀ k, get s k ≠ some (.list [])

/-- RPUSH / LPUSH carry at least one element (the parser's arity rule) -/
def OpOk : Op1 → Prop
  | .rpush [] => False
  | .lpush [] => False
  | _ => True

theorem lookupStr_embS (s : St) (k : Nat) : Redis.lookupStr (embS s) k =
    match get s k with
    | none => .missing
    | some (.str b) => .found b none
    | some (.list _) => .wrong := by
  unfold Redis.lookupStr
  rw [get_embS]
  cases get s k with
  | none => rfl
  | some v => cases v <;> rfl

theorem lookupList_embS (s : St) (k : Nat) : Redis.lookupList (embS s) k =
    match get s k with
    | none => .missing
    | some (.list l) => .found l none
    | some (.str _) => .wrong := by
  unfold Redis.lookupList
  rw [get_embS]
  cases get s k with
  | none => rfl
  | some v => cases v <;> rfl

theorem put_same {s : St} (hw : WF s) (k : Nat) : put s k (get s k) = s := by
  cases hg : get s k with
  | none =>
    apply NMap.ext (wf_erase hw) hw
    intro k'; rw [get_erase hw]; split
    · rename_i h; rw [h, hg]
    · rfl
  | some v =>
    apply NMap.ext (wf_insert hw) hw
    intro k'; rw [get_insert]; split
    · rename_i h; rw [h, hg]
    · rfl

theorem embS_put {s : St} (hw : WF s) (k : Nat) (o : Option SVal) :
    embS (put s k o) = (match o with | none => NMap.erase k (embS s) | some v => NMap.insert k (emb v) (embS s)) := by
  cases o with
  | none => exact embS_erase hw k
  | some v => exact embS_insert hw k v

theorem putList_ne (s : Redis.State) (k : Nat) (l : List Redis.BS) (dl : Option Nat) (h : l ≠ []) :
    Redis.putList s k l dl = NMap.insert k ⟨.list l, dl⟩ s := by
  cases l with
  | nil => exact absurd rfl h
  | cons _ _ => rfl

theorem lrange_all (l : List Redis.BS) (h : l ≠ []) : Redis.slice l (Redis.lrangeNorm l.length 0 (-1)) = l := by
  have hl : 0 < l.length := List.length_pos_iff.mpr h
  unfold Redis.lrangeNorm Redis.normIdx Redis.clampEnd Redis.slice
  have h1 : ¬ ((0 : Int) < 0) := by omega
  have h2 : ((-1 : Int) < 0) := by omega
  simp only [h1, h2, if_true, if_false]
  have h3 : ¬ ((0 : Int) > -1 + (l.length : Int) ∨ (0 : Int) ≥ (l.length : Int)) := by omega
  rw [if_neg h3]
  have h4 : ¬ ((-1 : Int) + (l.length : Int) ≥ (l.length : Int)) := by omega
  rw [if_neg h4]
  have h5 : ((-1 : Int) + (l.length : Int) + 1).toNat = l.length := by omega
  simp [h5]

/-- the M7 command `op7 k op` on the embedded store answers the embedded reply and leaves the
    embedded store -/
theorem exec1_refines_m7 (s : St) (hs : OkStore s) (now k : Nat) (op : Op1) (hop : OpOk op) :
    Redis.exec (embS s) now (op7 k op) = (embS (exec1 s k op).1, rep7 op (exec1 s k op).2) := by
  obtain ⟨hw, hne⟩ := hs
  have hps := put_same hw k
  cases op
  case incr =>
    simp only [op7, Redis.exec, Redis.execIncrBy, lookupStr_embS, exec1, slot1]
    rcases hg : get s k with _ | (b | l)
    · simp only [hg] at hps
      simp [embS_put hw, rep7, r17, emb, showInt]
    · simp only [hg] at hps
      simp only [parseI64]
      cases hpc : Redis.parseCanon b with
      | none => simp [hps, rep7, r17, err7, errNotInt, errWrongType]
      | some v =>
        have hin := C01.parseCanon_in_i64 b v hpc
        rw [Redis.inI64_iff] at hin
        have hiff : Redis.inI64 (v + 1) = decide (v + 1 ≤ i64Max) := by
          by_cases hle : v + 1 ≤ i64Max
          · simp only [hle, decide_true]; rw [Redis.inI64_iff]; unfold i64Max at hle; simp only [Redis.i64Min, Redis.i64Max] at *; omega
          · simp only [hle, decide_false]
            cases hq : Redis.inI64 (v + 1) with
            | false => rfl
            | true => rw [Redis.inI64_iff] at hq; exact absurd hq.2 hle
        by_cases hle : v + 1 ≤ i64Max
        · simp [hiff, hle, embS_put hw, rep7, r17, emb, showInt]
        · simp [hiff, hle, hps, rep7, r17, err7, errOverflow, errWrongType, errNotInt]
    · simp only [hg] at hps
      simp [hps, rep7, r17, wrongType, err7, errWrongType]
  all_goals
    simp only [op7, Redis.exec, Redis.execGet, Redis.execSet, Redis.setPlan, Redis.setCore, Redis.execSetNx,
      Redis.execAppend, Redis.execStrLen, Redis.execGetDel, Redis.execGetSet, Redis.execType, Redis.execPush,
      Redis.execPop, Redis.execLLen, Redis.execLRange, lookupStr_embS, lookupList_embS, get_embS, exec1, slot1]
    rcases hg : get s k with _ | (b | l)
  all_goals (simp only [hg] at hps)
  all_goals try (simp [hps, embS_put hw, rep7, r17, elem7, emb, Redis.planDl, Redis.oldDl,
            get_embS, hg, Redis.putList, Redis.pushMany, Redis.wrongStr, lookupStr_embS, Redis.Reply.ok, wrongType, err7, errWrongType]; done)
  -- TYPE (two value kinds)
  · simp [hps, rep7, emb, Redis.typeName]
  · simp [hps, rep7, emb, Redis.typeName]
  -- RPUSH, LPUSH × (missing, string, list)
  all_goals try (
    rename_i vs
    cases vs with
    | nil => exact absurd hop (by simp [OpOk])
    | cons x xs =>
      simp [hps, embS_put hw, rep7, r17, emb, Redis.pushMany, putList_ne, wrongType, err7, errWrongType]
    done)
  -- LPOP on a list
  · have hl : l ≠ [] := fun e => hne k (by rw [hg, e])
    match l, hl, hg, hps with
    | [x], _, hg, hps => simp [embS_put hw, rep7, r17, Redis.popSide, Redis.putList]
    | x :: y :: r, _, hg, hps => simp [embS_put hw, rep7, r17, emb, Redis.popSide, Redis.putList]
  -- RPOP on a list
  · have hl : l ≠ [] := fun e => hne k (by rw [hg, e])
    have hx : ∃ x, l.getLast? = some x := by
      cases hq : l.getLast? with
      | none => exact absurd (List.getLast?_eq_none_iff.mp hq) hl
      | some x => exact ⟨x, rfl⟩
    obtain ⟨x, hx⟩ := hx
    simp only [Redis.popSide, hx]
    cases hd : l.dropLast with
    | nil => simp [hd, embS_put hw, rep7, r17, Redis.putList]
    | cons y r => simp [hd, embS_put hw, rep7, r17, emb, Redis.putList]
  -- LRANGE 0 -1 on a list
  · have hl : l ≠ [] := fun e => hne k (by rw [hg, e])
    simp [hps, rep7, elem7, lrange_all l hl, Function.comp_def]

/-- the slot an operation writes back is never an EMPTY list (given that the old one is not) -/
theorem slot1_ne (op : Op1) (old : Option SVal) (hop : OpOk op) (hold : old ≠ some (.list [])) :
    (slot1 op old).1 ≠ some (.list []) := by
  cases op <;> simp only [slot1]
  all_goals (rcases old with _ | (b | l))
  all_goals try (simp; done)
  all_goals try (simp at hold ⊢; try exact hold)
  -- INCR on a string: three outcomes
  · split
    · simp
    · split <;> simp
  -- RPUSH / LPUSH with ≥ 1 element
  all_goals try (
    rename_i vs
    cases vs with
    | nil => exact absurd hop (by simp [OpOk])
    | cons x xs => simp)
  -- LPOP: the rest of a list of ≥ 2 elements is not empty
  · match l, hold with
    | [x], _ => simp
    | x :: y :: r, _ => simp
  -- RPOP: `dropLast` is written back only when it is not empty
  · cases l.getLast? with
    | none => simp
    | some x =>
      simp only
      split
      · simp
      · rename_i hne; simp at hne ⊢; exact hne

/-- the executor keeps its stores free of empty lists -/
theorem okStore_exec1 (s : St) (hs : OkStore s) (k : Nat) (op : Op1) (hop : OpOk op) : OkStore (exec1 s k op).1 := by
  obtain ⟨hw, hne⟩ := hs
  refine ⟨wf_put s k _ hw, fun k' => ?_⟩
  show get (put s k (slot1 op (get s k)).1) k' ≠ _
  rw [get_put s k _ hw k']
  split
  · exact slot1_ne op _ hop (hne k)
  · exact hne k'

theorem okStore_nil : OkStore ([] : St) := ⟨List.Pairwise.nil, fun k h => by cases h⟩

/-- a sequence of single-key operations on the small executor -/
def runOps (s : St) : List (Nat × Op1) → St × List Reply
  | [] => (s, [])
  | (k, op) :: rest => let r := exec1 s k op; let t := runOps r.1 rest; (t.1, r.2 :: t.2)

/-- the same sequence as timed M7 commands on one M7 store (no deadline is ever set: time is irrelevant) -/
def runOps7 (s : Redis.State) (now : Nat) : List (Nat × Op1) → Redis.State × List Redis.Reply
  | [] => (s, [])
  | (k, op) :: rest =>
    let r := Redis.exec s now (op7 k op); let t := runOps7 r.1 now rest; (t.1, r.2 :: t.2)

/-- **the small executor refines M7 on every sequence** of its single-key operations -/
theorem run1_refines_m7 (now : Nat) : ∀ (ops : List (Nat × Op1)) (s : St), OkStore s → (∀ x ∈ ops, OpOk x.2) →
    runOps7 (embS s) now ops = (embS (runOps s ops).1, (ops.zip (runOps s ops).2).map (fun x => rep7 x.1.2 x.2)) := by
  intro ops
  induction ops with
  | nil => intro s _ _; rfl
  | cons x xs ih =>
    intro s hs hok
    obtain ⟨k, op⟩ := x
    have h1 := exec1_refines_m7 s hs now k op (hok (k, op) (by simp))
    have h2 := ih (exec1 s k op).1 (okStore_exec1 s hs k op (hok (k, op) (by simp))) (fun y hy => hok y (by simp [hy]))
    simp only [runOps7, runOps, h1, h2, List.zip_cons_cons, List.map_cons]

/-- non-vacuity: SET, APPEND, INCR (on a non-number: error), RPUSH, LPOP (the key vanishes), TYPE -/
example : (runOps [] [(1, .set [53]), (1, .append [48]), (1, .incr), (2, .rpush [[97]]), (2, .lpop), (2, .typ),
    (1, .get)]).2 =
  [.one .ok, .one (.int 2), .one (.int 51), .one (.int 1), .one (.bulk [97]), .one (.bulk [110, 111, 110, 101]),
   .one (.bulk [53, 49])] := by decide

def side7 (fromLeft : Bool) : Redis.Side := if fromLeft then .left else .right

/-- the M7 command a two-key operation of the small executor stands for (the EVAL two-key script is
    not an M7 command: `Model/Script7.lean`) -/
def op27 (a b : Key) : Op2 → Option Redis.Cmd
  | .rename => some (.rename a b)
  | .renamenx => some (.renamenx a b)
  | .rpoplpush => some (.rpoplpush a b)
  | .lmove fl tl => some (.lmove a b (side7 fl) (side7 tl))
  | .sortStore => some (.sort a (some b))
  | .evalSetIfExists _ => none

def rep27 (r : Reply) : Redis.Reply :=
  match r with
  | .one x => r17 x
  | .many l => .arr (l.map elem7)
  | _ => .nil

theorem put_put_same {s : St} (hw : WF s) (a b : Nat) : put (put s a (get s a)) b (get s b) = s := by
  rw [put_same hw a, put_same hw b]

theorem put_none_some_same {s : St} (hw : WF s) (a : Nat) (v : SVal) (hg : get s a = some v) :
    put (put s a none) a (some v) = s := by
  apply NMap.ext (wf_put _ _ _ (wf_put _ _ _ hw)) hw
  intro k'
  rw [get_put _ _ _ (wf_put _ _ _ hw), get_put _ _ _ hw]
  split
  · rename_i h; rw [h, hg]
  · rfl

theorem exec2_rename (s : St) (hw : WF s) (now a b : Nat) :
    Redis.exec (embS s) now (.rename a b) = (embS (exec2 s a b .rename).1, rep27 (exec2 s a b .rename).2) := by
  simp only [Redis.exec, Redis.execRename, exec2, slot2, get_embS]
  cases hg : get s a with
  | none =>
    have := put_put_same hw a b
    rw [hg] at this
    simp [this, rep27, r17, err7, errNoSuchKey, errWrongType, errNotInt, errOverflow]
  | some v =>
    by_cases hab : a = b
    · subst hab
      simp [put_none_some_same hw a v hg, rep27, r17]
    · simp [hab, embS_put (wf_put s a none hw), embS_put hw, rep27, r17]

theorem exec2_renamenx (s : St) (hw : WF s) (now a b : Nat) :
    Redis.exec (embS s) now (.renamenx a b) = (embS (exec2 s a b .renamenx).1, rep27 (exec2 s a b .renamenx).2) := by
  simp only [Redis.exec, Redis.execRenameNx, exec2, slot2, get_embS]
  have hpp := put_put_same hw a b
  cases hg : get s a with
  | none =>
    rw [hg] at hpp
    simp [hpp, rep27, r17, err7, errNoSuchKey, errWrongType, errNotInt, errOverflow]
  | some v =>
    rw [hg] at hpp
    cases hb : get s b with
    | some w =>
      rw [hb] at hpp
      simp [hpp, rep27, r17]
    | none =>
      simp [embS_put (wf_put s a none hw), embS_put hw, rep27, r17]

theorem popEnd_popSide (fl : Bool) (l : List Bytes) : popEnd fl l = Redis.popSide (side7 fl) l := by
  cases fl <;> simp only [popEnd, Redis.popSide, side7] <;> rfl

theorem pushEnd_pushOne (tl : Bool) (x : Bytes) (d : List Bytes) : pushEnd tl x d = Redis.pushOne (side7 tl) d x := by
  cases tl <;> rfl

theorem exec2_lmove (s : St) (hs : OkStore s) (now a b : Nat) (fl tl : Bool) :
    Redis.exec (embS s) now (.lmove a b (side7 fl) (side7 tl)) =
      (embS (exec2 s a b (.lmove fl tl)).1, rep27 (exec2 s a b (.lmove fl tl)).2) := by
  obtain ⟨hw, hne⟩ := hs
  simp only [Redis.exec, Redis.execLMove, exec2, slot2, moveSlot, lookupList_embS, popEnd_popSide, pushEnd_pushOne]
  have hpp := put_put_same hw a b
  rcases hga : get s a with _ | (sa | la)
  · rw [hga] at hpp
    simp [hpp, rep27, r17]
  · rw [hga] at hpp
    simp [hpp, rep27, r17, wrongType, err7, errWrongType]
  · rw [hga] at hpp
    have hla : la ≠ [] := fun e => hne a (by rw [hga, e])
    obtain ⟨x, rest, hpop⟩ : ∃ x rest, Redis.popSide (side7 fl) la = some (x, rest) := by
      cases fl <;> simp only [side7, Redis.popSide]
      · cases hq : la.getLast? with
        | none => exact absurd (List.getLast?_eq_none_iff.mp hq) hla
        | some x => exact ⟨x, _, rfl⟩
      · cases la with
        | nil => exact absurd rfl hla
        | cons x r => exact ⟨x, r, rfl⟩
    have hwa : WF (put s a none) := wf_put s a none hw
    have hwe := wf_embS hw
    by_cases hab : a = b
    · subst hab
      simp only [hga, hpop, beq_self_eq_true, if_true]
      cases rest with
      | nil =>
        simp [embS_put hw, embS_put hwa, rep27, r17, emb, putList_ne _ _ _ _ (Redis.pushOne_ne_nil _ _ _), Redis.pushOne,
          NMap.insert_erase hwe]
        cases tl <;> rfl
      | cons y r =>
        have hwi : WF (put s a (some (SVal.list (y :: r)))) := wf_put s a _ hw
        simp [embS_put hw, embS_put hwi, rep27, r17, emb, putList_ne _ _ _ _ (Redis.pushOne_ne_nil _ _ _),
          NMap.insert_insert hwe]
    · simp only [hga, hpop, hab, if_false]
      have hbeq : (a == b) = false := by simp [hab]
      rcases hgb : get s b with _ | (sb | lb)
      · cases rest with
        | nil =>
          simp [hbeq, embS_put hw, embS_put hwa, rep27, r17, emb, Redis.putList]
        | cons y r =>
          have hwi : WF (put s a (some (SVal.list (y :: r)))) := wf_put s a _ hw
          simp [hbeq, embS_put hw, embS_put hwi, rep27, r17, emb, Redis.putList]
      · rw [hgb] at hpp
        simp [hpp, rep27, r17, wrongType, err7, errWrongType]
      · simp only [putList_ne _ _ _ _ (Redis.pushOne_ne_nil (side7 tl) lb x)]
        cases rest with
        | nil =>
          simp [hbeq, embS_put hw, embS_put hwa, rep27, r17, emb, Redis.putList]
        | cons y r =>
          have hwi : WF (put s a (some (SVal.list (y :: r)))) := wf_put s a _ hw
          simp [hbeq, embS_put hw, embS_put hwi, rep27, r17, emb, Redis.putList]

theorem exec2_rpoplpush (s : St) (hs : OkStore s) (now a b : Nat) :
    Redis.exec (embS s) now (.rpoplpush a b) = (embS (exec2 s a b .rpoplpush).1, rep27 (exec2 s a b .rpoplpush).2) :=
  exec2_lmove s hs now a b false true

theorem put_put_over {s : St} (hw : WF s) (a : Nat) (o o' : Option SVal) : put (put s a o) a o' = put s a o' := by
  apply NMap.ext (wf_put _ _ _ (wf_put _ _ _ hw)) (wf_put _ _ _ hw)
  intro k
  rw [get_put _ _ _ (wf_put _ _ _ hw), get_put _ _ _ hw, get_put _ _ _ hw]
  split <;> rfl

theorem exec2_sortStore (s : St) (hw : WF s) (now a b : Nat) :
    Redis.exec (embS s) now (.sort a (some b)) = (embS (exec2 s a b .sortStore).1, rep27 (exec2 s a b .sortStore).2) := by
  simp only [Redis.exec, Redis.execSort, Redis.sortSource, exec2, slot2, get_embS]
  have hpp := put_put_same hw a b
  have hps := put_same hw a
  rcases hga : get s a with _ | (sa | la)
  · rw [hga] at hps
    simp [hps, embS_put hw, rep27, r17, Redis.sortAll, Redis.putList]
  · rw [hga] at hpp
    simp [hpp, emb, rep27, r17, wrongType, err7, errWrongType]
  · rw [hga] at hpp hps
    simp only [Option.map_some, emb]
    by_cases hany : (la.any fun e => (Redis.sortNum e).isNone) = true
    · simp [hany, hpp, rep27, r17, err7, errNotDouble, errWrongType, errNotInt, errOverflow, errNoSuchKey]
    · simp only [hany, Bool.false_eq_true, if_false]
      cases hso : Redis.sortAll la with
      | nil => simp [hps, embS_put hw, rep27, r17, Redis.putList]
      | cons y r => simp [hps, embS_put hw, rep27, r17, emb, Redis.putList]

/-- **every two-key operation of the small executor that is an M7 command IS that command** -/
theorem exec2_refines_m7 (s : St) (hs : OkStore s) (now a b : Nat) (op : Op2) (c : Redis.Cmd) (hc : op27 a b op = some c) :
    Redis.exec (embS s) now c = (embS (exec2 s a b op).1, rep27 (exec2 s a b op).2) := by
  cases op <;> simp only [op27, Option.some.injEq, reduceCtorEq] at hc <;> subst hc
  · exact exec2_rename s hs.1 now a b
  · exact exec2_renamenx s hs.1 now a b
  · exact exec2_rpoplpush s hs now a b
  · exact exec2_lmove s hs now a b _ _
  · exact exec2_sortStore s hs.1 now a b


/-- the small executor's KEYS / SCAN MATCH matcher is the reference model's `stringmatchlen` -/
theorem glob_is_reference_glob (p k : List Nat) : globB p k = RedisX.globMatch p k := globB_eq p k

end RedisVerif.Shards.Str
