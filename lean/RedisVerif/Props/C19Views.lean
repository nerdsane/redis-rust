import RedisVerif.Props.C19

/-!
# C19 — routing with an OLD membership view while the ring changes

Gossip of membership and gossip of data are independent: a sender routes a batch with the ring
it knows (`old`) while the cluster has already become `cur = old` + a sequence of `add_node` /
`remove_node`.  Keys not involved in the changes are routed exactly as under the current ring; only
a node that BECAME an owner through the changes can miss an update — a gap closed by anti-entropy
(`C18.update_held_by_one_reaches_all`), not by routing.
-/
namespace RedisVerif
namespace C19

open Ring

/-- **C19 (stale view, uninvolved keys)**: routed with `old`, owned under `cur` -/
theorem stale_view_exact_for_uninvolved_keys (hashV : Nat → Nat → Nat) (old : HashRing) (cs : List (Bool × Nat))
    (rt : Router) (deltas : List Nat) (t : Nat) (hr : Reachable hashV old) (hcov : PeersCoverMembers old rt)
    (hu : ∀ d ∈ deltas, Uninvolved hashV d old cs) :
    row (routeSelective old rt deltas) t
      = deltas.filter (fun d => decide (t ∈ getReplicas (cs.foldl (applyChange hashV) old) d) && (t != rt.self)) := by
  rw [route_covers_owners hashV old rt deltas t hr hcov]
  apply List.filter_congr
  intro d hd
  rw [minimal_disruption_sequence hashV d cs old hr (hu d hd)]

/-- **C19 (stale view, who can be starved)**: only a node that was not an owner under the old view -/
theorem stale_view_starved_owner_is_new (hashV : Nat → Nat → Nat) (old : HashRing) (cs : List (Bool × Nat))
    (rt : Router) (deltas : List Nat) (t d : Nat) (hr : Reachable hashV old) (hcov : PeersCoverMembers old rt)
    (hd : d ∈ deltas) (hself : t ≠ rt.self)
    (_hown : t ∈ getReplicas (cs.foldl (applyChange hashV) old) d)
    (hmiss : ¬ d ∈ row (routeSelective old rt deltas) t) :
    ¬ t ∈ getReplicas old d := by
  intro hold
  apply hmiss
  rw [route_covers_owners hashV old rt deltas t hr hcov, List.mem_filter]
  refine ⟨hd, ?_⟩
  simp [hold, hself]

/-- four nodes at positions 10 / 20 / 30 / 40 -/
def vwHash : Nat → Nat → Nat := fun n _ => n * 10

/-- node 1 routes the key at position 15 with the view {1,2,3,4}, rf 2 (owners 2, 3) while node 2
    has left (owners now 3, 4): node 4, an owner under the current ring, is handed nothing; node 2,
    which is gone, is still a target -/
theorem stale_view_starves_new_owner_witness :
    let old := newTB .joinOrder vwHash [1, 2, 3, 4] 1 2
    let cur := [(false, 2)].foldl (applyChange vwHash) old
    let rt : Router := { self := 1, peers := [(2, 0), (3, 1), (4, 2)], selective := true }
    getReplicas old 15 = [2, 3] ∧ getReplicas cur 15 = [3, 4]
    ∧ row (routeSelective old rt [15]) 4 = [] ∧ row (routeSelective old rt [15]) 2 = [15]
    ∧ row (routeSelective old rt [15]) 3 = [15] := by
  decide +kernel

-- non-vacuity of `stale_view_exact_for_uninvolved_keys`: the key at position 35 (owners 4, 1) is
-- not involved when node 2 leaves
example :
    let old := newTB .joinOrder vwHash [1, 2, 3, 4] 1 2
    Uninvolved vwHash 35 old [(false, 2)] ∧ PeersCoverMembers old { self := 1, peers := [(2, 0), (3, 1), (4, 2)], selective := true }
    ∧ getReplicas old 35 = [4, 1] := by
  refine ⟨?_, by decide, by decide⟩
  simp only [Uninvolved, and_true]
  decide +kernel

end C19
end RedisVerif
