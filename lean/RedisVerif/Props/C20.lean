import RedisVerif.Model.SimRng
import RedisVerif.Model.SimKernel
import RedisVerif.Model.SimHarness
import RedisVerif.Lemmas.Sim
import RedisVerif.Model.SimMore
import RedisVerif.Lemmas.SimMore
import RedisVerif.Model.SimMulti
import RedisVerif.Model.SimBuggify
import RedisVerif.Lemmas.NMap

/-!
# C20 — Simulation is reproducible: same seed, same trace, same verdict

A Lean function is deterministic by construction, so `run s c = run s c` says nothing.  What is
claimed here is different (DESIGN §4 C20):

* the models of `Model/SimRng`, `Model/SimKernel`, `Model/SimHarness` PREDICT, from (seed,
  configuration) alone, what the real RNG wrappers, the simulation kernel and whole DST harnesses
  print; the correspondence check runs the real code in several fresh processes and compares
  with the prediction, so a hidden input of the real code (hash seeds, wall clock, entropy,
  leftovers of an earlier run) is a disagreement;
* the theorems below are the part that does NOT follow from "the model is a function": wherever
  the real code iterates a `HashMap`/`HashSet`, keeps thread-local state or orders a heap by part
  of the key, the model takes that hidden input (iteration order, rendering, earlier context, push
  order) as an explicit parameter, and a theorem says what is independent of it — or a
  counterexample shows what is not.  For the RNG wrappers and the BUGGIFY layer they say which
  calls draw a word and in what bounds, so that a trace is a function of (seed, call index).
-/
namespace RedisVerif
namespace C20

open SimRng SimKernel SimHarness SimLemmas SimMore SimMoreLemmas SimMulti SimBuggify SimFaultTable

/-! ## T3 — the RNG wrappers -/

/-- `SimulatedRng::gen_range(min, max)` returns a value of `[min, max)`, or `min` without touching
    the generator when the range is empty — for every generator state -/
def C20_sim_gen_range_in_bounds : Prop :=
  ∀ (lo hi : Nat) (r r' : Rng) (v : Nat), simGenRange lo hi r = (.ok v, r') →
    (lo < hi → lo ≤ v ∧ v < hi) ∧ (hi ≤ lo → v = lo ∧ r' = r)

theorem sim_gen_range_in_bounds : C20_sim_gen_range_in_bounds := by
  intro lo hi r r' v h
  unfold simGenRange at h
  split at h
  · rename_i hge
    simp only [Prod.mk.injEq, Draw.ok.injEq] at h
    exact ⟨fun hlt => by omega, fun _ => ⟨h.1.symm, h.2.symm⟩⟩
  · rename_i hlt
    have := sampleLoop64_bounds lo (hi - lo) (by omega) _ _ _ _ h
    exact ⟨fun _ => by omega, fun hle => by omega⟩

/-- a hand-built generator state (the kernel does not have to evaluate ChaCha): buffer of 64
    equal words, nothing consumed -/
def rngConst (w : UInt32) : Rng :=
  { key := Vector.replicate 8 0, ctr := 0, buf := Vector.replicate 64 w, idx := 0 }

/-- buffer `3, 0, 0, …`: the first 64-bit word is 3, all later ones 0 -/
def rngThreeThenZero : Rng :=
  { key := Vector.replicate 8 0, ctr := 0, buf := (Vector.replicate 64 0).set 0 3, idx := 0 }

/-- non-vacuity: the hypothesis `… = (.ok v, r')` is met by a concrete state and the value is
    strictly inside the range (word 0xDEADBEEFDEADBEEF, range 12: high product half 10) -/
example : (simGenRange 5 17 (rngConst 0xDEADBEEF)).1 = .ok 15 := by decide

/-- non-vacuity of the rejection branch: for range 2^63+1 the word 3 is rejected (low product half
    2^63+3 > zone = 2^63), the next word 0 is accepted: two words consumed, value = low end -/
example : (simGenRange 7 (7 + 2 ^ 63 + 1) rngThreeThenZero).1 = .ok 7 ∧
    (simGenRange 7 (7 + 2 ^ 63 + 1) rngThreeThenZero).2.idx = 4 := by decide

/-- … and the empty range returns `min` without touching the generator -/
example : (simGenRange 9 9 rngThreeThenZero).1 = .ok 9 ∧ (simGenRange 9 9 rngThreeThenZero).2.idx = 0 := by decide

/-- `DeterministicRng::gen_range` -/
def C20_det_gen_range_in_bounds : Prop :=
  ∀ (lo hi : Nat) (r : Rng),
    (lo < hi → lo ≤ (detGenRange lo hi r).1 ∧ (detGenRange lo hi r).1 < hi) ∧
    (hi ≤ lo → detGenRange lo hi r = (lo, r))

theorem det_gen_range_in_bounds : C20_det_gen_range_in_bounds := by
  intro lo hi r
  unfold detGenRange
  constructor
  · intro hlt
    have : ¬ lo ≥ hi := by omega
    simp only [this, if_false]
    have := Nat.mod_lt (r.nextU64.1.toNat) (show 0 < hi - lo by omega)
    omega
  · intro hle
    have : lo ≥ hi := hle
    simp [this]

example : (detGenRange 5 17 (rngConst 0xDEADBEEF)).1 = 12 ∧ detGenRange 9 9 (rngConst 1) = (9, rngConst 1) := by
  constructor
  · decide
  · rfl

/-- full strength: the rejection loop always terminates with a value.  Not provable without an
    analysis of the ChaCha8 output; see `sampling_fuel_partial`. -/
def C20_sampling_total : Prop :=
  ∀ (lo hi : Nat) (r : Rng), (simGenRange lo hi r).1 ≠ .fuel

/-- the model's answer is `fuel` exactly when 128 consecutive 64-bit words of the stream are all
    rejected for this range … -/
theorem sampling_fuel_partial (lo hi : Nat) (r : Rng) (h : lo < hi) :
    (simGenRange lo hi r).1 = .fuel ↔ rejects64 (hi - lo) rejectFuel r := by
  unfold simGenRange
  have : ¬ lo ≥ hi := by omega
  simp only [this, if_false]
  exact sampleLoop64_fuel_iff lo (hi - lo) rejectFuel r

/-- … and a word is rejected only when its low product half lies above `zone`, which covers at
    least half of all words (`2^63 ≤ zone + 1`): < 2^-128 for a uniform stream.  On the states the
    correspondence runs reach, `fuel` never occurs (the driver would print it). -/
theorem zone_ge_half (range : Nat) (h0 : 0 < range) (h : range < 2 ^ 64) :
    2 ^ 63 ≤ zone 64 range + 1 ∧ zone 64 range < 2 ^ 64 := SimLemmas.zone_ge_half range h0 h

/-- concrete zones: 10^6 (the buggify range) rejects 2^64 - 17592186044416000000 of 2^64 words
    (< 5 %); 2^63 + 1 is the worst case, it rejects just under half -/
example : zone 64 1000000 = 17592186044415999999 ∧ zone 64 (2 ^ 63 + 1) = 2 ^ 63 ∧ zone 32 7 = 3758096383 := by decide

/-- non-vacuity of `sampling_fuel_partial`'s right-hand side: one rejected word, concretely -/
example : rejects64 (2 ^ 63 + 1) 1 rngThreeThenZero := by
  unfold rejects64 rejects64
  decide

/-- `shuffle` of either wrapper returns a permutation of its input -/
def C20_shuffle_is_permutation : Prop :=
  (∀ (a : Array Nat) (r : Rng), (detShuffle a r).1.Perm a) ∧
  (∀ (a b : Array Nat) (r r' : Rng), simShuffle a r = (.ok b, r') → b.Perm a)

theorem shuffle_is_permutation : C20_shuffle_is_permutation :=
  ⟨fun a r => detShuffleLoop_perm _ a r, fun a b r r' h => simShuffleLoop_perm _ a b r r' h⟩

def bits_1_0 : Nat := 0x3FF0000000000000

/-- `gen_bool(1.0)` is `ALWAYS_TRUE`: no word is consumed; `gen_bool(0.0)` consumes one -/
theorem bernoulli_one_draws_nothing (r : Rng) : simGenBool (F64.ofBits bits_1_0) r = (.val true, r) := by
  have : bernoulliPInt (F64.ofBits bits_1_0) = .always := by decide
  rw [simGenBool, this]

theorem bernoulli_zero_draws_one (r : Rng) :
    simGenBool (F64.ofBits 0) r = (.val false, r.nextU64.2) := by
  have : bernoulliPInt (F64.ofBits 0) = .some 0 := by decide +kernel
  rw [simGenBool, this]
  rfl

/-- `p_int` of the literal probabilities the modelled harnesses use: 0.1, 0.3, 0.5, 0.7 -/
theorem bernoulli_literal_table :
    bernoulliPInt (F64.ofBits 0x3FB999999999999A) = .some 1844674407370955264 ∧
    bernoulliPInt (F64.ofBits 0x3FD3333333333333) = .some 5534023222112865280 ∧
    bernoulliPInt (F64.ofBits 0x3FE0000000000000) = .some 9223372036854775808 ∧
    bernoulliPInt (F64.ofBits 0x3FE6666666666666) = .some 12912720851596685312 := by decide +kernel

/-! ## T2 — the kernel -/

/-- the content of the timer heap, as the model keeps it, does not depend on the order in which
    the timers were added: delivery is a function of the (wake, id) keys only -/
def C20_timer_order_insertion_independent : Prop :=
  ∀ (l l' : List (Nat × Nat)), l.Perm l' → buildTimers l = buildTimers l'

theorem timer_order_insertion_independent : C20_timer_order_insertion_independent :=
  buildTimers_perm_invariant

example : buildTimers [(5, 0), (3, 1), (5, 2), (3, 3)] = [(3, 1), (3, 3), (5, 0), (5, 2)] := by decide

/-- well-formed timer context: sorted by key, ids below the counter, ids pairwise distinct -/
def TimerQ.WF (q : TimerQ) : Prop :=
  q.timers.Pairwise keyLe ∧ (∀ e ∈ q.timers, e.2 < q.nextId) ∧ (q.timers.map (·.2)).Nodup

theorem takeWhile_sublist_mem {α} (p : α → Bool) (l : List α) : ∀ x ∈ l.takeWhile p, x ∈ l :=
  fun _ hx => (List.takeWhile_sublist p).mem hx

/-- `add_timer`, `advance_to`, `advance_by`, `process_timers` preserve well-formedness; in
    particular timer ids are never reused, so `TimerEntry::cmp` never sees two equal keys -/
theorem timerq_wf_preserved (q : TimerQ) (h : TimerQ.WF q) :
    (∀ w, TimerQ.WF (q.addTimer w).2) ∧ (∀ t, TimerQ.WF (q.advanceTo t)) ∧
    (∀ d, TimerQ.WF (q.advanceBy d)) ∧ TimerQ.WF q.process.2 := by
  obtain ⟨hs, hid, hnd⟩ := h
  refine ⟨?_, ?_, ?_, ?_⟩
  · intro w
    refine ⟨insertSorted_sorted _ _ hs, ?_, ?_⟩
    · intro e he
      rcases (insertSorted_mem _ _ _).mp he with rfl | he
      · exact Nat.lt_succ_self _
      · exact Nat.lt_succ_of_lt (hid e he)
    · have hp := (insertSorted_perm (w, q.nextId) q.timers).map (·.2)
      refine (hp.nodup_iff).mpr ?_
      simp only [List.map_cons]
      refine List.nodup_cons.mpr ⟨?_, hnd⟩
      intro hmem
      obtain ⟨e, he, heq⟩ := List.mem_map.mp hmem
      have := hid e he
      omega
  · intro t
    unfold TimerQ.advanceTo
    split <;> exact ⟨hs, hid, hnd⟩
  · intro d; exact ⟨hs, hid, hnd⟩
  · refine ⟨hs.sublist (List.dropWhile_sublist _), ?_, ?_⟩
    · intro e he; exact hid e ((List.dropWhile_sublist _).mem he)
    · exact hnd.sublist ((List.dropWhile_sublist _).map _)

instance : DecidableRel keyLe := fun a b => by unfold keyLe; infer_instance

/-- non-vacuity: a reachable, non-empty timer context with a tie in the wake time -/
example : TimerQ.WF ((((({} : TimerQ).addTimer 7).2.addTimer 3).2.addTimer 7).2) := by
  refine ⟨by decide, by decide, by decide⟩

theorem takeWhile_due_of_sorted (now : Nat) : ∀ (l : List (Nat × Nat)), l.Pairwise keyLe →
    l.takeWhile (fun e => decide (e.1 ≤ now)) = l.filter (fun e => decide (e.1 ≤ now)) ∧
    ∀ e ∈ l.dropWhile (fun e => decide (e.1 ≤ now)), now < e.1
  | [], _ => ⟨rfl, nofun⟩
  | x :: xs, h => by
    obtain ⟨hx, hs⟩ := List.pairwise_cons.mp h
    by_cases hd : x.1 ≤ now
    · simp only [List.takeWhile_cons, List.dropWhile_cons, List.filter_cons, hd, decide_true, if_true]
      exact ⟨congrArg _ (takeWhile_due_of_sorted now xs hs).1, (takeWhile_due_of_sorted now xs hs).2⟩
    · -- the head is not due, and everything behind it wakes no earlier
      have late : ∀ y ∈ x :: xs, now < y.1 :=
        List.forall_mem_cons.mpr ⟨by omega, fun y hy => by have := hx y hy; unfold keyLe at this; omega⟩
      simp only [List.takeWhile_cons, List.dropWhile_cons, hd, decide_false, Bool.false_eq_true, if_false]
      exact ⟨(List.filter_eq_nil_iff.mpr fun y hy => by simpa using late y hy).symm, late⟩

/-- `process_timers` wakes exactly the timers whose wake time has been reached, in (wake, id)
    order, and leaves exactly the others -/
def C20_timer_process_fires_due_in_key_order : Prop :=
  ∀ (q : TimerQ), TimerQ.WF q →
    q.process.1 = (q.timers.filter (fun e => decide (e.1 ≤ q.now))).map (·.2) ∧
    (∀ e ∈ q.process.2.timers, q.now < e.1) ∧
    ((q.timers.filter (fun e => decide (e.1 ≤ q.now))).Pairwise keyLe)

theorem timer_process_fires_due_in_key_order : C20_timer_process_fires_due_in_key_order := fun q h =>
  ⟨congrArg (List.map Prod.snd) (takeWhile_due_of_sorted q.now q.timers h.1).1, (takeWhile_due_of_sorted q.now q.timers h.1).2,
    h.1.sublist List.filter_sublist⟩

/-- virtual time never goes backwards -/
theorem virtual_time_monotone (q : TimerQ) (hn : q.now < 2 ^ 64) :
    (∀ t, q.now ≤ (q.advanceTo t).now) ∧ (∀ d, q.now ≤ (q.advanceBy d).now) := by
  constructor
  · intro t; unfold TimerQ.advanceTo; split <;> simp <;> omega
  · intro d; simp only [TimerQ.advanceBy]; omega

/-- full strength for the EVENT heap of `simulator::Simulation`: the delivery order is a function
    of the scheduled times -/
def C20_event_order_determined_by_time : Prop :=
  ∀ (a b : Event), a.time = b.time →
    (heapPop Event.le (heapPush Event.le (heapPush Event.le #[] a) b)).1 =
    (heapPop Event.le (heapPush Event.le (heapPush Event.le #[] b) a)).1

/-- `impl Ord for Event` compares `time` only: two events scheduled for the same instant are
    delivered in an order that depends on the order in which they were pushed (and, with more
    events, on std's sift algorithm).  Still a function of the operation sequence — which is why
    the model transcribes `BinaryHeap` — but not of the keys. -/
theorem event_order_not_determined_by_time_counterexample : ¬ C20_event_order_determined_by_time := by
  intro h
  have := h ⟨5, 0, .timer 0⟩ ⟨5, 1, .timer 1⟩ rfl
  revert this
  decide

/-- pop `n` events -/
def popN : Nat → Array Event → List Nat
  | 0, _ => []
  | n + 1, h => match heapPop Event.le h with
    | (some e, h) => e.host :: popN n h
    | (none, _) => []

/-- with five simultaneous events the delivery order is not even the push order -/
theorem event_order_not_fifo_counterexample :
    popN 5 ((List.range 5).foldl (fun h i => heapPush Event.le h ⟨5, i, .timer i⟩) #[]) = [0, 2, 4, 1, 3] := by
  decide +kernel

/-- the buggify decision consumes nothing from the generator when it is suppressed, when the
    configured probability is zero (or the configuration is disabled: `get` returns 0.0) … -/
theorem buggify_no_draw (r : Rng) (p : F64) :
    shouldBuggify true p r = (.ok false, r) ∧
    shouldBuggify false (F64.ofBits 0) r = (.ok false, r) ∧
    shouldBuggifyWithProb true true p r = (.ok false, r) ∧
    shouldBuggifyWithProb false false p r = (.ok false, r) :=
  -- each is the first or second test of the function, on closed flags
  ⟨rfl, rfl, rfl, rfl⟩

/-- … and otherwise is `gen_range(0, 10^6) as f64 / 10^6 < prob`, evaluated exactly; thresholds
    for the literal 0.01 (moderate PACKET_DROP), 0.05 and 0.001: the comparison is strict, so
    exactly `prob * 10^6` of the 10^6 values trigger -/
theorem buggify_threshold_table :
    buggifyTriggered 9999 (F64.ofBits 0x3F847AE147AE147B) = true ∧
    buggifyTriggered 10000 (F64.ofBits 0x3F847AE147AE147B) = false ∧
    buggifyTriggered 49999 (F64.ofBits 0x3FA999999999999A) = true ∧
    buggifyTriggered 50000 (F64.ofBits 0x3FA999999999999A) = false ∧
    buggifyTriggered 999 (F64.ofBits 0x3F50624DD2F1A9FC) = true ∧
    buggifyTriggered 1000 (F64.ofBits 0x3F50624DD2F1A9FC) = false ∧
    buggifyTriggered 0 (F64.ofBits 0x3F50624DD2F1A9FC) = true ∧
    buggifyTriggered 999999 (F64.ofBits 0x3FF0000000000000) = true := by decide +kernel

/-! ## T1 — iteration orders that reach a harness's output -/

/-- `GCounter::value()` sums `counts.values()` in `HashMap` order: any order gives the same sum -/
def C20_gcounter_value_order_independent : Prop :=
  ∀ (c c' : List (Nat × Nat)), c.Perm c' → GCounter.value c = GCounter.value c'

theorem gcounter_value_order_independent : C20_gcounter_value_order_independent := by
  intro c c' h
  unfold GCounter.value
  rw [(h.map (·.2)).sum_nat]

/-- `ORSetDSTHarness::check_convergence` formats the two `HashSet`s with `{:?}` — in iteration
    order.  Whether a violation is reported, how many, for which replicas (hence `converged` and
    `is_success`) does not depend on the rendering … -/
def C20_orset_verdict_independent_of_set_rendering : Prop :=
  ∀ (f g : NSet → String) (rs : List ORSet),
    (orsetViol f rs).length = (orsetViol g rs).length ∧
    ((orsetViol f rs).isEmpty = (orsetViol g rs).isEmpty)

theorem orsetViol_length (f g : NSet → String) (rs : List ORSet) : (orsetViol f rs).length = (orsetViol g rs).length := by
  cases rs with
  | nil => rfl
  | cons r0 rest =>
    unfold orsetViol
    dsimp only
    -- how many replicas are reported is a count over the test, which does not mention the rendering
    rw [List.length_filterMap_eq_countP, List.length_filterMap_eq_countP]
    exact congrArg (List.countP · _) (funext fun _ => Bool.eq_iff_iff.mpr (Option.isSome_ite.trans Option.isSome_ite.symm))

theorem orset_verdict_independent_of_set_rendering : C20_orset_verdict_independent_of_set_rendering :=
  fun f g rs => ⟨orsetViol_length f g rs, Bool.eq_iff_iff.mpr (by
    rw [List.isEmpty_iff_length_eq_zero, List.isEmpty_iff_length_eq_zero, orsetViol_length f g rs])⟩

/-- full strength: the violation TEXT the harness reports is the same whatever order the two
    sets are iterated in (`π`, `π'` list each set in some order) -/
def C20_orset_violation_text_independent_of_order : Prop :=
  ∀ (π π' : NSet → NSet), (∀ s, (π s).Perm s) → (∀ s, (π' s).Perm s) → ∀ (rs : List ORSet),
    orsetViol (fun s => showSet (π s)) rs = orsetViol (fun s => showSet (π' s)) rs

/-- … but the text is not: two iteration orders of the same sets give different strings for a
    non-converged replica vector (the harness before 8a0f8b5, which renders `HashSet`s; reached
    only when `sync_all` fails to converge) -/
theorem orset_violation_text_depends_on_order_counterexample :
    ¬ C20_orset_violation_text_independent_of_order := by
  intro h
  have := h id List.reverse (fun _ => List.Perm.refl _) (fun s => List.reverse_perm s)
    [{ elems := [(1, [0]), (2, [1])] }, { elems := [(3, [0]), (4, [1])] }]
  revert this
  decide +kernel

/-! ### `DSTSimulation::step` iterates `CrashSimulator::node_states` (a `HashMap`) and draws per element -/

/-- a scripted word stream: `range lo hi` takes the next word modulo the width, `bool` its parity -/
def scripted : Sampler (List Nat) where
  range lo hi
    | [] => .error "eof"
    | x :: xs => .ok (if lo ≥ hi then lo else lo + x % (hi - lo), xs)
  bool _
    | [] => .error "eof"
    | x :: xs => .ok (x % 2 == 1, xs)

def nodesOf {σ} : Except String (Dst σ) → Option (List NState)
  | .ok d => some d.nodes
  | .error _ => none

/-- the PINNED code: `crashed_nodes()` in map order -/
def cfg2 : DstCfg := ⟨2, 0, false, false, 0, 0, 100, 5000, 60000, false⟩

/-- full strength: the recovery loop of one step (the only place of `DSTSimulation::step` that
    iterates the node map and draws) is a function of (state, generator) — whatever order the node
    map is iterated in, however many nodes are down.  Parameter: which variant of
    `CrashSimulator::crashed_nodes` (`sorted = true`: current code, 3012c3c). -/
def C20_dst_step_independent_of_map_order (sorted : Bool) : Prop :=
  ∀ (σ : Type) (S : Sampler σ) (c : DstCfg) (pi pi' : List Nat) (d : Dst σ), c.sortedNodes = sorted →
    pi.Perm pi' → recoverLoop S c pi d = recoverLoop S c pi' d

/-- the current code: proved at full strength — any number of nodes down, any two iteration
    orders of the map, any generator -/
theorem dst_step_order_independent : C20_dst_step_independent_of_map_order true :=
  fun _ S c _ _ d hs hp => congrFun (recoverLoop_perm S c hs hp) d

/-- the pinned code: two nodes are down; the stream says "recover the first one visited (for
    100+7 ms), not the second": WHICH node comes back depends on the iteration order of the map —
    and with it every later draw, crash, recovery and the final result.  This is what the
    cross-process runs of the pinned `DSTSimulation` showed (fixed: 3012c3c, was
    `C20:trace-differs-across-processes:dst`). -/
theorem dst_recovery_depends_on_map_order_counterexample : ¬ C20_dst_step_independent_of_map_order false := by
  intro h
  have := congrArg nodesOf (h (List Nat) scripted cfg2 [0, 1] [1, 0]
    { g := [1, 7, 0], now := 50, nodes := [.crashed 10, .crashed 20] } rfl (List.Perm.swap 1 0 []))
  revert this
  decide

example : nodesOf (recoverLoop scripted { cfg2 with sortedNodes := true } [1, 0]
    { g := [1, 7, 0], now := 50, nodes := [.crashed 10, .crashed 20] }) = some [.recovering 50 157, .crashed 20] := by decide

/-- the recovery loop sees the order only through the sub-list of crashed nodes … -/
theorem recoverLoop_depends_on_crashed_order_only {σ} (S : Sampler σ) (c : DstCfg) (pi pi' : List Nat) (d : Dst σ)
    (h : pi.filter (fun i => (d.nodes.getD i .running).isCrashed) = pi'.filter (fun i => (d.nodes.getD i .running).isCrashed)) :
    recoverLoop S c pi d = recoverLoop S c pi' d := by
  unfold recoverLoop crashedNodes
  rw [h]

/-- … so — in EITHER variant — a step does not depend on the map order whenever at most one node is down at that
    point (decidable hypothesis; the `calm` preset never crashes a node, and the model run says
    for every step of every run whether the hypothesis held) -/
theorem dst_step_order_independent_partial {σ} (S : Sampler σ) (c : DstCfg) (pi pi' : List Nat) (d : Dst σ)
    (hp : pi.Perm pi')
    (h1 : (pi.filter (fun i => (d.nodes.getD i .running).isCrashed)).length ≤ 1) :
    recoverLoop S c pi d = recoverLoop S c pi' d := by
  apply recoverLoop_depends_on_crashed_order_only
  have hf := hp.filter (fun i => (d.nodes.getD i .running).isCrashed)
  generalize pi.filter (fun i => (d.nodes.getD i .running).isCrashed) = a at hf h1
  generalize pi'.filter (fun i => (d.nodes.getD i .running).isCrashed) = b at hf
  match a, h1 with
  | [], _ => exact (List.nil_perm.mp hf).symm ▸ rfl
  | [x], _ => exact (List.singleton_perm.mp hf).symm ▸ rfl

example : (([0, 1, 2] : List Nat).filter (fun i => (([.running, .crashed 3, .running] : List NState).getD i .running).isCrashed)).length ≤ 1 := by decide

/-- recoveries that complete are processed node by node: independent of any order (the model
    folds over the node list; the real code iterates `recovering_nodes()` in map order) -/
theorem completeRecoveries_pointwise (now : Nat) (nodes : List NState) :
    (completeRecoveries now nodes).1 = nodes.map (fun s => match s with
      | .recovering _ e => if now ≥ e then .running else s
      | _ => s) := by
  induction nodes with
  | nil => rfl
  | cons s rest ih =>
    rw [List.map_cons, ← ih]
    cases s with
    | recovering a e => exact (apply_ite Prod.fst ..).trans (apply_ite (· :: _) ..).symm
    | _ => rfl

/-! ### the thread-local BUGGIFY context and the store-based DST harnesses -/

/-- full strength: a WAL / streaming / compaction DST run is independent of the BUGGIFY context an
    earlier run left on the thread.  Parameter: does the harness install its own configuration
    (`true`: current code, 474577c). -/
def C20_store_harness_independent_of_previous_context (installsOwn : Bool) : Prop :=
  ∀ (σ α : Type) (body : BugCtx → σ → α) (prev prev' : BugCtx) (g : σ),
    storeHarnessRun installsOwn prev body g = storeHarnessRun installsOwn prev' body g

/-- the current code: whatever the harness does with the context it sees, it sees its own -/
theorem store_harness_independent_of_previous_context :
    C20_store_harness_independent_of_previous_context true := by
  intro σ α body prev prev' g
  rfl

/-- the pinned code: after a run that left `FaultConfig::disabled()` behind, a fault site with
    probability 1.0 does not fire and does not draw; in a fresh thread (`moderate`: enabled) it
    draws and fires (fixed: 474577c, was `C20:trace-depends-on-earlier-run:{wal,streaming,compaction}`) -/
theorem store_harness_depends_on_previous_context_counterexample :
    ¬ C20_store_harness_independent_of_previous_context false := by
  intro h
  have := h (List Nat) (Option (List Bool × List Nat))
    (fun ctx g => match faultSites scripted [0x3FF0000000000000] ctx g with | .ok r => some r | .error _ => none)
    { enabled := false } { enabled := true } [5, 6]
  revert this
  decide

/-- a disabled context consumes nothing from the generator: the later draws of the run shift -/
theorem disabled_context_draws_nothing {σ} (S : Sampler σ) (p : Nat) (g : σ) :
    storeDecision S { enabled := false } p g = .ok (false, g) := rfl

/-! ### the WAL DST model: what recovery yields from a file of items -/

/-- a file whose header was not written completely (empty, or a strict prefix) yields nothing;
    a complete header followed by entries yields them up to the first partial item — the
    item-level reading of C10 `entries_of_prefix` the WAL harness model rests on -/
theorem wal_recover_file_table (a b c : Nat) :
    recoverFile { items := [] } = [] ∧
    recoverFile { items := [.prefix] } = [] ∧
    recoverFile { items := [.header] } = [] ∧
    recoverFile { items := [.header, .entry a, .entry b] } = [a, b] ∧
    recoverFile { items := [.header, .entry a, .prefix] } = [a] ∧
    recoverFile { items := [.header, .prefix, .entry c] } = [] := by
  simp [recoverFile]

/-- a crash keeps exactly the durable items of every file, file by file (the real code iterates
    `files.values_mut()` of a `HashMap`: no file's truncation depends on another file) -/
theorem wal_crash_pointwise (w : Wal) :
    (wCrash.run w).toOption.map (fun r => r.2.files) =
      some (w.files.map fun f => { f with items := f.items.take f.synced }) := rfl

/-! ## T4 — whole runs: the trace does not depend on the hidden inputs the models make explicit

The step-level results above are lifted to whole runs, and three more harness models carry an
explicit `env`-like parameter: the iteration order `pi` of a hash container, the command executor
(`exec`: where a wall-clock read or an arbitrary pick of the system under test would enter), the
persistence / store side of a workload-driven harness (`store`: wall clock of `ProductionClock`,
`created_at_ms`, real sleeps, the BUGGIFY context). -/

/-- full strength, whole run: the trace of a `DSTSimulation` run (every step's node states and the
    result line, as text) is the same whatever order `CrashSimulator::node_states` is iterated in.
    Parameter: the variant of `crashed_nodes()` (`true` = current code). -/
def C20_dst_run_independent_of_map_order (sorted : Bool) : Prop :=
  ∀ (seed ops : Nat) (c : DstCfg) (pi pi' : List Nat), c.sortedNodes = sorted → pi.Perm pi' →
    runDst seed ops c pi = runDst seed ops c pi'

theorem dst_run_order_independent : C20_dst_run_independent_of_map_order true := by
  intro seed ops c pi pi' hs hp
  unfold runDst
  rw [dstLoop_perm c hs hp]

/-- the same over ANY generator, as states: `ops` consecutive steps -/
def C20_dst_states_independent_of_map_order (sorted : Bool) : Prop :=
  ∀ (σ : Type) (S : Sampler σ) (c : DstCfg) (pi pi' : List Nat) (ops : Nat) (d : Dst σ), c.sortedNodes = sorted →
    pi.Perm pi' → (dstRun S c pi ops d).toOption.map (·.nodes) = (dstRun S c pi' ops d).toOption.map (·.nodes)

theorem dst_states_order_independent : C20_dst_states_independent_of_map_order true := by
  intro σ S c pi pi' ops d hs hp
  unfold dstRun
  rw [dstStep_perm S c hs hp]

/-- the pinned variant, over two whole steps: both nodes go down in the first step; which one is
    recovering after the second depends on the map order -/
theorem dst_states_depend_on_map_order_counterexample : ¬ C20_dst_states_independent_of_map_order false := by
  intro h
  have := h (List Nat) scripted { cfg2 with enableCrash := true, crashProb := 0x3FF0000000000000 } [0, 1] [1, 0] 2
    { g := [5, 0, 0, 0, 0, 5, 1, 7, 0], now := 0, nodes := [.running, .running] } rfl (List.Perm.swap 1 0 [])
  revert this
  decide

/-- non-vacuity of the sorted statement on the same data: both orders give the same states -/
example : (dstRun scripted { cfg2 with enableCrash := true, crashProb := 0x3FF0000000000000, sortedNodes := true } [1, 0] 2
    { g := [5, 0, 0, 0, 0, 5, 1, 7, 0], now := 0, nodes := [.running, .running] }).toOption.map (·.nodes) =
    some [.recovering 12 119, .crashed 6] := by decide

/-- `RedisDSTSimulation` embeds `DSTSimulation::step`: its whole trace (operation history with
    keys, values, replies and times, result, statistics) is independent of the map order too — any
    generator, any key distribution -/
def C20_redis_dst_run_independent_of_map_order (sorted : Bool) : Prop :=
  ∀ (σ : Type) (S : Sampler σ) (c : RCfg) (pi pi' : List Nat) (ops : Nat) (g : σ), c.dst.sortedNodes = sorted →
    pi.Perm pi' → redisLines S c pi ops g = redisLines S c pi' ops g

theorem redis_dst_run_order_independent : C20_redis_dst_run_independent_of_map_order true := by
  intro σ S c pi pi' ops g hs hp
  unfold redisLines
  rw [redisLoop_perm S c hs hp]

/-- non-vacuity: a two-node run over the scripted generator produces a history line -/
example : (redisLines scripted ⟨{ cfg2 with sortedNodes := true }, false, .uniform 5⟩ [1, 0] 1
    [3, 2, 0, 4, 8, 1, 3, 77, 9, 0, 2, 5, 0, 1, 0, 1, 1, 4, 4, 4, 9, 1, 2, 3, 4, 5, 6, 7, 8, 9]).toOption.map (·.length) = some 7 := by decide

/-- full strength: the invoke / complete time of every operation of a scenario
    (`ScenarioBuilder::run` and `run_with_eviction`) is the same whatever the command executor
    answers and however it evolves — two arbitrary executors over arbitrary state and reply types.
    A reply that depends on a hidden input (the wall clock of `ACL GENPASS`, the member `SPOP`
    picks, the order of `KEYS`) can therefore not shift the timeline, and neither can eviction. -/
def C20_scenario_timing_independent_of_executor : Prop :=
  ∀ (ε ρ ε' ρ' : Type) (exec : ε → Nat → Nat → ε × ρ) (exec' : ε' → Nat → Nat → ε' × ρ')
    (evict : ε → Nat → ε) (evict' : ε' → Nat → ε') (seed : Nat) (c : ScCfg) (script : List ScOp) (e0 : ε) (e0' : ε'),
    timing (scenario exec evict seed c script e0) = timing (scenario exec' evict' seed c script e0')

theorem scenario_timing_independent_of_executor : C20_scenario_timing_independent_of_executor := by
  intro ε ρ ε' ρ' exec exec' evict evict' seed c script e0 e0'
  have h0 : ScSim ({ rng := Rng.new seed.toUInt64, ex := e0 } : ScSt ε ρ) ({ rng := Rng.new seed.toUInt64, ex := e0' } : ScSt ε' ρ') :=
    ⟨rfl, rfl, rfl⟩
  unfold timing scenario
  simp only
  split
  · obtain ⟨_, hn, hl⟩ := scRun_sim exec exec' c (enumOps (sortByTime script)) h0
    simp only [List.map_reverse, hl, hn]
  · obtain ⟨_, hn, hl⟩ := scEvictLoop_sim exec exec' c evict evict' (lastTime script) (script.length + lastTime script / c.evictMs + 3)
      (enumOps (sortByTime script)) c.evictMs h0
    simp only [List.map_reverse, hl, hn]

/-- the script is executed in time order, ties in the order given (stable sort) -/
example : sortByTime [⟨5, 0⟩, ⟨3, 1⟩, ⟨5, 2⟩, ⟨3, 3⟩] = [⟨3, 1⟩, ⟨3, 3⟩, ⟨5, 0⟩, ⟨5, 2⟩] := by decide

/-- without BUGGIFY delays an operation completes when it is invoked, at its scripted time; the
    final time is the last scripted time (no generator state needed) -/
example : timing (scenario (ε := Unit) (ρ := Unit) (fun _ _ _ => ((), ())) (fun _ _ => ()) 7 ⟨false, F64.ofBits 0, 0⟩ [⟨5, 0⟩, ⟨3, 1⟩] ()) =
    ([(1, 3, 3), (0, 5, 5)], 5) := by
  unfold timing scenario
  rfl

/-- full strength: the operations a workload-driven harness records (`StreamingDSTHarness`,
    `CompactionDSTHarness`: one `next_operation()` per step, handed to the persistence side) are
    exactly the workload's, whatever the persistence / store side does and reads — any state
    machine `store`, any outcome type -/
def C20_workload_ops_independent_of_store : Prop :=
  ∀ (τ ω : Type) (store : τ → WOp → τ × ω) (ops : List WOp) (t : τ), (harnessLoop store ops t).map (·.1) = ops

theorem workload_ops_independent_of_store : C20_workload_ops_independent_of_store :=
  fun _ _ store ops t => harnessLoop_ops store ops t

example : (harnessLoop (fun (n : Nat) (o : WOp) => (n + 1, decide (o = .flush) || n % 2 == 0)) [.write 3, .flush, .delete 3, .first] 0) =
    [(.write 3, true), (.flush, true), (.delete 3, true), (.first, false)] := by decide

/-- the probability bands of `next_operation` on the extreme rolls: word 0 is roll 0.0 (below any
    positive probability), the largest word rounds to 2^64 = roll 1.0 (below no probability ≤ 1) -/
theorem workload_roll_table :
    rollLt 0 (F64.ofBits 0x3F947AE147AE147B) = true ∧ rollLt 0 (F64.ofBits 0) = false ∧
    rollLt (2 ^ 64 - 1) (F64.ofBits 0x3FF0000000000000) = false ∧ rollLt (2 ^ 63) (F64.ofBits 0x3FE0000000000000) = false ∧
    rollLt (2 ^ 63 - 1024) (F64.ofBits 0x3FE0000000000000) = true := by decide +kernel

/-! ### `check_invariants` of hash_dst / set_dst: the shadow `HashSet` is iterated -/

/-- full strength: WHETHER `check_invariants` fails (hence `invariant_violations`, `is_success`, the
    early stop of `run`) does not depend on the order in which the shadow set is visited nor on how
    the set differences are rendered — for ANY implementation of the data structure, correct or not -/
def C20_hash_check_verdict_independent_of_order : Prop :=
  ∀ (fmt fmt' : NSet → String) (impl : Impl) (expected pi pi' : NSet), pi.Perm pi' →
    isOk (hashCheck fmt impl expected pi) = isOk (hashCheck fmt' impl expected pi')

theorem hash_check_verdict_independent_of_order : C20_hash_check_verdict_independent_of_order := by
  intro fmt fmt' impl expected pi pi' hp
  rw [hashCheck_isOk, hashCheck_isOk]
  unfold hashCheckOk
  rw [find?_isNone_perm (fun f => !impl.exists_ f) pi pi' hp, find?_isNone_perm (fun f => !impl.getSome f) pi pi' hp]

/-- full strength for the TEXT: the message `check_invariants` returns is the same for every
    visiting order -/
def C20_hash_check_text_independent_of_order : Prop :=
  ∀ (impl : Impl) (expected pi pi' : NSet), pi.Perm pi' →
    errText (hashCheck showSet impl expected pi) = errText (hashCheck showSet impl expected pi')

/-- … it is not: with two fields missing from a buggy structure the FIRST one in hash order is
    named (latent: reached only when the data structure under test is wrong) -/
theorem hash_check_text_depends_on_order_counterexample : ¬ C20_hash_check_text_independent_of_order := by
  intro h
  have := h { len := 2, isEmpty := false, exists_ := fun _ => false, getSome := fun _ => false, keys := [] } [1, 2] [1, 2] [2, 1]
    (List.Perm.swap 2 1 [])
  revert this
  decide +kernel

/-- a data structure that meets its specification passes for every visiting order: the `viol=0`
    the typed harness models predict does not depend on the hash seed -/
theorem hash_check_ok_for_spec (fmt : NSet → String) (fields pi : NSet) (hp : pi.Perm fields) :
    isOk (hashCheck fmt (specImpl fields) fields pi) = true := by
  rw [hashCheck_isOk]
  simp [hashCheckOk, specImpl]
  exact fun x hx => hp.mem_iff.mp hx

example : isOk (hashCheck showSet (specImpl [1, 4, 9]) [1, 4, 9] [9, 1, 4]) = true := by decide

/-! ### a final-state accessor that lists a `HashMap` -/

def C20_accessor_independent_of_map_order (sorted : Bool) : Prop :=
  ∀ (pi pi' : List Nat), pi.Perm pi' → getAllDeltas sorted pi = getAllDeltas sorted pi'

/-- the code before 1d6e2a2: the accessor's result is the map order
    (`C20:accessor-in-map-order:multi-node-api:get_all_deltas`) -/
theorem accessor_order_depends_on_map_order_counterexample : ¬ C20_accessor_independent_of_map_order false := by
  intro h
  have := h [0, 1] [1, 0] (List.Perm.swap 1 0 [])
  revert this
  decide

/-- the current code sorts by key: independent of the map order -/
theorem accessor_sorted_order_independent : C20_accessor_independent_of_map_order true := by
  intro pi pi' hp
  simp only [getAllDeltas, if_true]
  exact sortNat_perm_invariant _ _ hp

example : getAllDeltas true [3, 1, 2] = [1, 2, 3] ∧ getAllDeltas false [3, 1, 2] = [3, 1, 2] := by decide

/-! ### BUGGIFY statistics in the result -/

/-- full strength: what a simulation reports does not depend on what ran earlier on the thread.
    Parameter: does creating a simulation reset the thread's statistics (`true`: the current code). -/
def C20_result_stats_independent_of_earlier_runs (resetsOnCreate : Bool) : Prop :=
  ∀ (prev prev' own : NMap Nat), finalizeStats resetsOnCreate prev own = finalizeStats resetsOnCreate prev' own

/-- the code before c6be241: the second of two identical runs in one process reports twice the checks
    (`C20:trace-differs-in-process:dst-api:buggify-stats-cumulative`) -/
theorem result_stats_depend_on_earlier_runs_counterexample : ¬ C20_result_stats_independent_of_earlier_runs false := by
  intro h
  have := h [(0, 31)] [] [(0, 31)]
  revert this
  decide

/-- the current code (`with_config` resets the counters) -/
theorem result_stats_independent_of_earlier_runs : C20_result_stats_independent_of_earlier_runs true :=
  fun _ _ _ => rfl

example : finalizeStats false [(0, 31)] [(0, 31)] = [(0, 62)] ∧ finalizeStats true [(0, 31)] [(0, 31)] = [(0, 31)] := by decide


/-! ## T5 — `MultiNodeSimulation` / `run_partition_test` (Model/SimMulti)

The cluster simulation iterates a `HashMap` at two places that reach its output: the keys
`get_keys_in_buckets` selects for an anti-entropy exchange (the receiver's Lamport clock advances
once per delta, so their ORDER is observable) and the routing table of a selective gossip round
(`send_deltas` draws loss and delay per target).  Both orders are explicit parameters of the model
(`pi`, `rho`: any function that lists what it is given in some order). -/

/-- `f` lists what it is given in some order -/
def IsOrder (f : List Nat → List Nat) : Prop := ∀ l, (f l).Perm l

theorem isOrder_id : IsOrder id := fun l => List.Perm.refl l
theorem isOrder_reverse : IsOrder List.reverse := fun l => List.reverse_perm l

/-- full strength: one anti-entropy exchange (`run_anti_entropy_sync`) leaves the same cluster state
    whatever order the two `replicated_keys` maps are iterated in.  Parameter: the variant of
    `get_keys_in_buckets` (`true` = current code: selected keys sorted, dc1be9d). -/
def C20_mn_sync_independent_of_map_order (sorted : Bool) : Prop :=
  ∀ (pi pi' : List Nat → List Nat), IsOrder pi → IsOrder pi' → ∀ (c : Cfg) (s : MN) (a b : Nat),
    (MN.sync (selectKeys sorted pi c.perSync) c s a b).nodes = (MN.sync (selectKeys sorted pi' c.perSync) c s a b).nodes

theorem selectKeys_sorted_order_independent (pi pi' : List Nat → List Nat) (h : IsOrder pi) (h' : IsOrder pi') (per : Nat) :
    selectKeys true pi per = selectKeys true pi' per := by
  funext inB m
  unfold selectKeys
  simp only [if_true]
  rw [sortNat_perm_invariant _ _ (((h m.keys).trans (h' m.keys).symm).filter _)]

theorem mn_sync_order_independent : C20_mn_sync_independent_of_map_order true := by
  intro pi pi' h h' c s a b
  rw [selectKeys_sorted_order_independent pi pi' h h']

/-- a cluster state with a hand-built generator (never consulted by an anti-entropy exchange):
    node 0 wrote two keys (stamps 1 and 2), node 1 knows nothing -/
def mnTwoKeys : MN :=
  { rng := rngConst 0,
    nodes := [{ clock := 2, keys := [(0, ⟨some 1, 1, 1⟩), (1, ⟨some 2, 2, 1⟩)] }, {}] }

def cfgTwo : Cfg := ⟨2, F64.ofBits 0, 1, 10, true, false, 100, 1000, #[(0x6b30, 3, []), (0x6b31, 200, [])]⟩

/-- the pinned code: the receiver's Lamport clock is `max(local, remote) + 1` per delta, so the
    order in which the sender's map yields the two keys is observable: 3 when the older stamp comes
    first, 4 when the newer one does (was `C20:trace-differs-across-processes:multi-node:lamport-clock-after-anti-entropy`,
    fixed: dc1be9d) -/
theorem mn_sync_depends_on_map_order_counterexample : ¬ C20_mn_sync_independent_of_map_order false := by
  intro h
  have := congrArg (fun ns => ns.map (·.clock)) (h id List.reverse isOrder_id isOrder_reverse cfgTwo mnTwoKeys 0 1)
  revert this
  decide

/-- non-vacuity of the sorted statement on the same data: both orders give clock 3, both keys cross -/
example : ((MN.sync (selectKeys true List.reverse 1000) cfgTwo mnTwoKeys 0 1).nodes.map fun nd => (nd.clock, nd.keys.keys)) = [(2, [0, 1]), (3, [0, 1])] := by
  decide

/-- full strength: a selective gossip round leaves the same cluster state and the same messages in
    flight whatever order the routing table is visited in.  Parameter: the variant of `gossip_round`
    (`true` = current code: routes sorted by target, 7f8c4c6). -/
def C20_mn_gossip_independent_of_route_order (sorted : Bool) : Prop :=
  ∀ (rho rho' : List Nat → List Nat), IsOrder rho → IsOrder rho' → ∀ (c : Cfg) (s : MN),
    (MN.gossipRound (routeOrder sorted rho) c s).queue.map (fun m => (m.src, m.dst, m.at_)) =
    (MN.gossipRound (routeOrder sorted rho') c s).queue.map (fun m => (m.src, m.dst, m.at_))

theorem routeOrder_sorted_order_independent (rho rho' : List Nat → List Nat) (h : IsOrder rho) (h' : IsOrder rho') :
    routeOrder true rho = routeOrder true rho' := by
  funext ts
  unfold routeOrder
  simp only [if_true]
  rw [sortNat_perm_invariant _ _ ((h ts).trans (h' ts).symm)]

theorem mn_gossip_route_order_independent : C20_mn_gossip_independent_of_route_order true := by
  intro rho rho' h h' c s
  rw [routeOrder_sorted_order_independent rho rho' h h']

/-- generator buffer `0, 0, 7, 0, 0, …`: the 64-bit words are 0, 7, 0, 0, … -/
def rngSecondSeven : Rng :=
  { key := Vector.replicate 8 0, ctr := 0, buf := (Vector.replicate 64 0).set 2 7, idx := 0 }

/-- three nodes, selective routing; node 0 has one pending delta of a key owned by nodes 1 and 2 -/
def mnRoutes : MN :=
  { rng := rngSecondSeven,
    nodes := [{ clock := 1, keys := [(0, ⟨some 1, 1, 1⟩)], pending := [(0, ⟨some 1, 1, 1⟩)] }, {}, {}] }

def cfgRoutes : Cfg := ⟨3, F64.ofBits 0, 1, 10, true, true, 100, 1000, #[(0x6b30, 3, [1, 2])]⟩

/-- the pinned code: `send_deltas` draws the delay per target in the order the routing table yields
    them — the FIRST target visited gets the second word of the stream (delay 8), the other one the
    fourth (delay 1): which message is delivered when depends on the map order (was
    `C20:trace-differs-across-processes:multi-node:routing-table-order-in-gossip-round`, fixed: 7f8c4c6) -/
theorem mn_gossip_depends_on_route_order_counterexample : ¬ C20_mn_gossip_independent_of_route_order false := by
  intro h
  have := h id List.reverse isOrder_id isOrder_reverse cfgRoutes mnRoutes
  revert this
  decide +kernel

set_option maxRecDepth 8000 in
/-- non-vacuity of the sorted statement on the same data: target 1 is served first whatever the map says -/
example : (MN.gossipRound (routeOrder true List.reverse) cfgRoutes mnRoutes).queue.map (fun m => (m.src, m.dst, m.at_)) = [(0, 1, 8), (0, 2, 1)] := by
  decide +kernel

/-- full strength, whole run: the trace of a cluster scenario — every scripted step's reply, Lamport
    clocks, pending queues, in-flight messages, the closing lines with winners, stamps and verdicts —
    is the same for any two iteration orders of the replica maps and any two visiting orders of the
    routing tables; any seed, configuration, script (also the scripts of `run_partition_test`).
    Parameters: the variants of `get_keys_in_buckets` and `gossip_round` (`true true` = current code). -/
def C20_mn_run_independent_of_map_orders (sortsSync sortsRoutes : Bool) : Prop :=
  ∀ (pi pi' rho rho' : List Nat → List Nat), IsOrder pi → IsOrder pi' → IsOrder rho → IsOrder rho' →
    ∀ (c : Cfg) (style seed : Nat) (script : List Op) (fin : List Nat) (during after : Nat),
      runWith sortsSync sortsRoutes pi rho c style seed script fin during after =
      runWith sortsSync sortsRoutes pi' rho' c style seed script fin during after

theorem mn_run_order_independent : C20_mn_run_independent_of_map_orders true true := by
  intro pi pi' rho rho' h h' g g' c style seed script fin during after
  unfold runWith
  rw [selectKeys_sorted_order_independent pi pi' h h', routeOrder_sorted_order_independent rho rho' g g']

/-- `run_partition_test` collects its test keys into a `HashSet` and asks `all(check_key_convergence)`:
    the verdict of a convergence round does not depend on the order the set is visited in -/
theorem partition_test_keys_order_independent (s : MN) (keys keys' : List Nat) (h : keys.Perm keys') :
    keys.all s.keyConverged = keys'.all s.keyConverged := by
  rw [Bool.eq_iff_iff]
  simp only [List.all_eq_true, h.mem_iff]

/-- the receiver's clock after a batch of deltas: the pinned defect in one line -/
example : (({} : Node).applyAll [(0, ⟨some 1, 1, 1⟩), (1, ⟨some 2, 2, 1⟩)]).clock = 3 ∧
    (({} : Node).applyAll [(1, ⟨some 2, 2, 1⟩), (0, ⟨some 1, 1, 1⟩)]).clock = 4 := by decide

/-- `ReplicatedValue::merge` keeps the larger stamp, ties (same time, same replica: the same write) keep the local one -/
theorem rv_merge_table (v w : Option Nat) :
    RV.merge ⟨v, 5, 1⟩ ⟨w, 6, 1⟩ = ⟨w, 6, 1⟩ ∧ RV.merge ⟨v, 6, 1⟩ ⟨w, 5, 2⟩ = ⟨v, 6, 1⟩ ∧
    RV.merge ⟨v, 5, 1⟩ ⟨w, 5, 2⟩ = ⟨w, 5, 2⟩ ∧ RV.merge ⟨v, 5, 2⟩ ⟨w, 5, 2⟩ = ⟨v, 5, 2⟩ := by
  simp [RV.merge, stampGt]

/-- `enforce_pending_capacity` keeps the NEWEST `cap` deltas -/
theorem cap_pending_keeps_newest (cap : Nat) (p : List Delta) :
    (capPending cap p).length = min cap p.length ∧ (capPending cap p) <:+ p := by
  unfold capPending
  refine ⟨by simp only [List.length_drop]; omega, List.drop_suffix _ _⟩

example : capPending 2 [(0, ⟨some 1, 1, 1⟩), (1, ⟨some 2, 2, 1⟩), (2, ⟨some 3, 3, 1⟩)] = [(1, ⟨some 2, 2, 1⟩), (2, ⟨some 3, 3, 1⟩)] := by decide


/-! ## T6 — the BUGGIFY layer (`src/buggify/*`, Model/SimBuggify): every fault decision is a function of (seed, call index)

A Lean function of `(context, calls, generator)` is deterministic by construction; what is proved
is WHICH parts of its arguments a decision can depend on — so that the hidden state of the real
code (the thread-local statistics, the `HashMap`s of the configuration and of the counters, the
position in the stream) is accounted for:

* the decisions and the generator do not depend on the check / trigger counters the thread carries
  (`fault_decisions_independent_of_stats`);
* the number of words a call sequence consumes is a function of the configuration / suppression
  history alone (`fault_stream_position`): the `i`-th decision reads the word at position
  `pos + drawCount(prefix)` — "(seed, call index)" made explicit;
* the whole fault table derived from the source: for every fault of `ALL_FAULTS` under every preset
  the probability `get` returns (exact f64 product) and the exact number of the 10^6 draw values
  that trigger (`preset_get_table`, `preset_threshold_table_partial`). -/

/-- the catalogue generated from `faults.rs`: 40 ids -/
theorem fault_catalogue_size : allFaults.length = 40 := by decide

/-- settings of a context: everything but the counters -/
def sameSettings (a b : Ctx) : Prop := a.cfg = b.cfg ∧ a.suppressed = b.suppressed

/-- what a call sequence returns to its caller and leaves in the generator -/
def visible {σ} (r : Except String (List Bool × Ctx × σ)) : Except String (List Bool × σ) :=
  match r with
  | .ok (ds, _, g) => .ok (ds, g)
  | .error e => .error e

theorem call_sameSettings {σ} (S : Sampler σ) (a b : Ctx) (h : sameSettings a b) (c : Call) (g : σ) :
    (∃ e, a.call S c g = .error e ∧ b.call S c g = .error e) ∨
    (∃ d a' b' g', a.call S c g = .ok (d, a', g') ∧ b.call S c g = .ok (d, b', g') ∧ sameSettings a' b') := by
  obtain ⟨cfg, sup, _, _⟩ := a
  obtain ⟨_, _, _, _⟩ := b
  obtain ⟨rfl, rfl⟩ : cfg = _ ∧ sup = _ := h
  cases c with
  | check id =>
    unfold Ctx.call
    dsimp only
    generalize noChance (F64.ofBits (cfg.get id)) = nc
    cases sup
    · cases nc
      · cases S.range 0 1000000 g with
        | error e => exact .inl ⟨e, rfl, rfl⟩
        | ok vg => exact .inr ⟨_, _, _, _, rfl, rfl, rfl, rfl⟩
      · exact .inr ⟨_, _, _, _, rfl, rfl, rfl, rfl⟩
    · exact .inr ⟨_, _, _, _, rfl, rfl, rfl, rfl⟩
  | checkProb id bits =>
    unfold Ctx.call
    dsimp only
    generalize cfg.enabled = en
    cases sup
    · cases en
      · exact .inr ⟨_, _, _, _, rfl, rfl, rfl, rfl⟩
      · cases S.range 0 1000000 g with
        | error e => exact .inl ⟨e, rfl, rfl⟩
        | ok vg => exact .inr ⟨_, _, _, _, rfl, rfl, rfl, rfl⟩
    · exact .inr ⟨_, _, _, _, rfl, rfl, rfl, rfl⟩
  | _ => exact .inr ⟨_, _, _, _, rfl, rfl, rfl, rfl⟩

theorem visible_cons {σ} (d : Option Bool) (r : Except String (List Bool × Ctx × σ)) :
    visible (do let (ds, ctx, g) ← r; pure ((match d with | some b => b :: ds | none => ds), ctx, g)) =
      (visible r).map fun p => ((match d with | some b => b :: p.1 | none => p.1), p.2) := by
  cases r <;> rfl

/-- full strength: the decisions a call sequence returns and the state it leaves the generator in
    are the same whatever check / trigger counters the thread carried before (the counters are the
    part of `BUGGIFY_CONTEXT` no harness resets): any generator, any calls, any configuration -/
def C20_fault_decisions_independent_of_stats : Prop :=
  ∀ (σ : Type) (S : Sampler σ) (a b : Ctx), sameSettings a b → ∀ (calls : List Call) (g : σ),
    visible (runCalls S a calls g) = visible (runCalls S b calls g)

theorem fault_decisions_independent_of_stats : C20_fault_decisions_independent_of_stats := by
  intro σ S a b h calls
  induction calls generalizing a b with
  | nil => intro g; rfl
  | cons c rest ih =>
    intro g
    rcases call_sameSettings S a b h c g with ⟨e, ha, hb⟩ | ⟨d, a', b', g', ha, hb, h'⟩
    · rw [runCalls, runCalls, ha, hb]
    · rw [runCalls, runCalls, ha, hb]
      exact (visible_cons d _).trans ((congrArg _ (ih a' b' h' g')).trans (visible_cons d _).symm)

/-- non-vacuity: two contexts that differ in their counters only, a sequence with decisions that draw
    (chaos: network.packet_drop triggers for the draw 150000 — `0.05 * 3.0` is `0.15000000000000002`) -/
example : sameSettings { cfg := .chaos, checks := [(0, 31)] } { cfg := .chaos } ∧
    (visible (runCalls streamSampler { cfg := .chaos, checks := [(0, 31)] } [.check 0, .checkProb 6 bits_1_0] (fun _ => 150000, 0))).toOption.map (·.1) =
      some [true, true] := by
  refine ⟨⟨rfl, rfl⟩, ?_⟩
  decide +kernel

/-- full strength: over a stream of words, a call sequence started at position `pos` ends at
    `pos + drawCount …`, where `drawCount` looks at the configuration / suppression history only —
    never at a drawn value, a decision or a counter.  The `i`-th decision therefore reads the word at
    a position that is a function of the calls before it: (seed, call index) determines it. -/
def C20_fault_stream_position : Prop :=
  ∀ (ctx : Ctx) (calls : List Call) (f : Nat → Nat) (pos : Nat),
    ∃ ds ctx', runCalls streamSampler ctx calls (f, pos) = .ok (ds, ctx', (f, pos + drawCount ctx.cfg ctx.suppressed calls))

/-- the configuration and the suppression flag a call leaves behind -/
def cfgAfter (cfg : FaultCfg) : Call → FaultCfg
  | .setConfig c' => c'
  | _ => cfg

def supAfter (sup : Bool) : Call → Bool
  | .suppress b => b
  | _ => sup

theorem drawCount_cons (cfg : FaultCfg) (sup : Bool) (c : Call) (rest : List Call) :
    drawCount cfg sup (c :: rest) = (if c.draws cfg sup then 1 else 0) + drawCount (cfgAfter cfg c) (supAfter sup c) rest := by
  cases c <;> rfl

theorem call_stream (ctx : Ctx) (c : Call) (f : Nat → Nat) (pos : Nat) :
    ∃ d ctx', ctx.call streamSampler c (f, pos) = .ok (d, ctx', (f, pos + (if c.draws ctx.cfg ctx.suppressed then 1 else 0))) ∧
      ctx'.cfg = cfgAfter ctx.cfg c ∧ ctx'.suppressed = supAfter ctx.suppressed c := by
  obtain ⟨cfg, sup, _, _⟩ := ctx
  cases c with
  | check id =>
    unfold Ctx.call Call.draws
    cases sup
    · cases hn : noChance (F64.ofBits (cfg.get id))
      · simp only [hn]; exact ⟨_, _, rfl, rfl, rfl⟩
      · simp only [hn]; exact ⟨_, _, rfl, rfl, rfl⟩
    · exact ⟨_, _, rfl, rfl, rfl⟩
  | checkProb id bits =>
    unfold Ctx.call Call.draws
    cases sup
    · cases he : cfg.enabled
      · simp only [he]; exact ⟨_, _, rfl, rfl, rfl⟩
      · simp only [he]; exact ⟨_, _, rfl, rfl, rfl⟩
    · exact ⟨_, _, rfl, rfl, rfl⟩
  | _ => exact ⟨_, _, rfl, rfl, rfl⟩

theorem fault_stream_position : C20_fault_stream_position := by
  intro ctx calls
  induction calls generalizing ctx with
  | nil => intro f pos; exact ⟨[], ctx, rfl⟩
  | cons c rest ih =>
    intro f pos
    obtain ⟨d, ctx', hc, hcfg, hsup⟩ := call_stream ctx c f pos
    obtain ⟨ds, ctx'', hr⟩ := ih ctx' f (pos + (if c.draws ctx.cfg ctx.suppressed then 1 else 0))
    rw [runCalls, hc, drawCount_cons, ← hcfg, ← hsup, ← Nat.add_assoc]
    show ∃ ds ctx₂, (runCalls streamSampler ctx' rest (f, _) >>= _) = _
    rw [hr]
    exact ⟨_, _, rfl⟩

/-- non-vacuity, and the formula at work: under `chaos` the suppressed call and the unconfigured
    fault (object_store.put_fail: probability 0) consume nothing; three words for five calls -/
example : drawCount FaultCfg.chaos false [.check 0, .suppress true, .check 0, .suppress false, .check 26, .checkProb 26 0, .check 6] = 3 := by
  decide +kernel


/-! ### the whole fault table, derived from the source (`Model/SimFaultTable.lean` is generated from
`faults.rs` / `config.rs`; the real objects are compared with it on every run) -/

/-- the first draw value that does NOT trigger (bisection over `[0, 10^6]`) -/
def thresholdSearch (p : F64) : Nat → Nat → Nat → Nat
  | 0, lo, _ => lo
  | f + 1, lo, hi =>
    if lo ≥ hi then lo
    else
      let mid := (lo + hi) / 2
      if buggifyTriggered mid p then thresholdSearch p f (mid + 1) hi else thresholdSearch p f lo mid

def thresholdOf (bits : Nat) : Nat := thresholdSearch (F64.ofBits bits) 21 0 1000000

/-- `T` is a threshold of the decision at its two ends: the value just below triggers, `T` itself
    does not, and 0 triggers iff anything does -/
def thresholdOk (bits : Nat) : Bool :=
  let p := F64.ofBits bits
  let t := thresholdOf bits
  (t == 0 || buggifyTriggered (t - 1) p) && (t == 1000000 || !buggifyTriggered t p) && (buggifyTriggered 0 p == (t != 0))

/-- full strength: the decision is an exact threshold on the draw — for EVERY draw value -/
def C20_buggify_decision_is_threshold (bits : Nat) : Prop :=
  ∀ r, r < 1000000 → (buggifyTriggered r (F64.ofBits bits) = true ↔ r < thresholdOf bits)

/-- `FaultConfig::get` for every fault of the catalogue under the three presets: the exact f64
    product `base * global_multiplier`, clamped.  (chaos: `0.05 * 3.0` is `0.15000000000000002`, not `0.15`.) -/
theorem preset_get_table :
    (List.range 40).map FaultCfg.calm.get =
      [4547007122018943789, 0, 0, 0, 0, 0, 4562254508917369340, 0, 4547007122018943789, 4547007122018943789, 0, 0, 0, 0, 0, 0,
       0, 0, 0, 0, 0, 0, 0, 0, 0, 0, 0, 0, 0, 0, 0, 0, 0, 0, 0, 0, 0, 0, 0, 0] ∧
    (List.range 40).map FaultCfg.moderate.get =
      [4576918229304087675, 4562254508917369340, 4572414629676717179, 4581421828931458171, 4572414629676717179,
       4576918229304087675, 4587366580439587226, 4572414629676717179, 4576918229304087675, 4576918229304087675,
       4576918229304087675, 4572414629676717179, 4562254508917369340, 4557750909289998844, 4562254508917369340,
       4576918229304087675, 4581421828931458171, 4547007122018943789, 4576918229304087675, 4562254508917369340,
       4562254508917369340, 4547007122018943789, 4581421828931458171, 4557750909289998844, 4562254508917369340,
       4547007122018943789, 0, 0, 0, 0, 0, 0, 0, 0, 0, 4581421828931458171, 4587366580439587226, 4562254508917369340,
       4547007122018943789, 4576918229304087675] ∧
    (List.range 40).map FaultCfg.chaos.get =
      [4594572339843380020, 4584304132692975288, 4588807732320345784, 4599075939470750516, 4588807732320345784,
       4594572339843380020, 4601778099247172812, 4588807732320345784, 4594572339843380020, 4594572339843380020,
       4594572339843380020, 4588807732320345784, 4584304132692975288, 4579800533065604792, 4579800533065604792,
       4594572339843380020, 4599075939470750516, 4569063951553953530, 4594572339843380020, 4579800533065604792,
       4579800533065604792, 4569063951553953530, 4599075939470750516, 4573567551181324026, 4579800533065604792,
       4569063951553953530, 0, 0, 0, 0, 0, 0, 0, 0, 0, 4599075939470750516, 4601778099247172812, 4579800533065604792,
       4569063951553953530, 4594572339843380020] ∧
    (List.range 40).map FaultCfg.disabled.get = List.replicate 40 0 ∧
    (List.range 40).map FaultCfg.new.get = List.replicate 40 0 := by
  decide +kernel

/-- the 16 probabilities that occur in `preset_get_table` and the `0.20` of `buggify_often!`: the bisection
    is run here, once per probability; the tables below look the values up -/
theorem threshold_values :
    ∀ p ∈ [(0, 0), (4547007122018943789, 100), (4557750909289998844, 500), (4562254508917369340, 1000),
      (4572414629676717179, 5000), (4576918229304087675, 10000), (4581421828931458171, 20000), (4587366580439587226, 50000),
      (4569063951553953530, 3000), (4573567551181324026, 6000), (4579800533065604792, 15000), (4584304132692975288, 30000),
      (4588807732320345784, 60000), (4594572339843380020, 150001), (4599075939470750516, 300001),
      (4601778099247172812, 450000), (0x3FC999999999999A, 200000)],
    thresholdOf p.1 = p.2 ∧ thresholdOk p.1 = true := by
  decide +kernel

/-- … and, for every fault under every preset, how many of the 10^6 draw values trigger it
    (`_partial`: the two ends of the threshold are checked, `C20_buggify_decision_is_threshold` is the
    full statement — it needs the monotonicity of the correctly rounded quotient `r / 10^6`, not
    proved).  The object-store faults (indices 26–34) are in no preset: they never trigger and never
    draw under `should_buggify`; the streaming stores consult them with an explicit probability. -/
theorem preset_threshold_table_partial :
    (List.range 40).map (fun i => thresholdOf (FaultCfg.calm.get i)) =
      [100, 0, 0, 0, 0, 0, 1000, 0, 100, 100, 0, 0, 0, 0, 0, 0, 0, 0, 0, 0, 0, 0, 0, 0, 0, 0, 0, 0, 0, 0, 0, 0, 0, 0, 0, 0, 0, 0, 0, 0] ∧
    (List.range 40).map (fun i => thresholdOf (FaultCfg.moderate.get i)) =
      [10000, 1000, 5000, 20000, 5000, 10000, 50000, 5000, 10000, 10000, 10000, 5000, 1000, 500, 1000, 10000, 20000, 100,
       10000, 1000, 1000, 100, 20000, 500, 1000, 100, 0, 0, 0, 0, 0, 0, 0, 0, 0, 20000, 50000, 1000, 100, 10000] ∧
    (List.range 40).map (fun i => thresholdOf (FaultCfg.chaos.get i)) =
      [150001, 30000, 60000, 300001, 60000, 150001, 450000, 60000, 150001, 150001, 150001, 60000, 30000, 15000, 15000, 150001,
       300001, 3000, 150001, 15000, 15000, 3000, 300001, 6000, 15000, 3000, 0, 0, 0, 0, 0, 0, 0, 0, 0, 300001, 450000, 15000,
       3000, 150001] ∧
    ((List.range 40).all fun i => thresholdOk (FaultCfg.calm.get i) && thresholdOk (FaultCfg.moderate.get i) && thresholdOk (FaultCfg.chaos.get i)) = true := by
  obtain ⟨hc, hm, hx, -⟩ := preset_get_table
  have tv := threshold_values
  simp only [List.forall_mem_cons] at tv
  -- a table over the faults is the table of their probabilities, mapped
  have tab (c : FaultCfg) : (List.range 40).map (fun i => thresholdOf (c.get i)) = ((List.range 40).map c.get).map thresholdOf :=
    (List.map_map ..).symm
  have ok (c : FaultCfg) {L} (h : (List.range 40).map c.get = L) (hL : L.all thresholdOk = true) {i} (hi : i ∈ List.range 40) :
      thresholdOk (c.get i) = true := List.all_eq_true.mp hL _ (h ▸ List.mem_map_of_mem hi)
  refine ⟨?_, ?_, ?_, List.all_eq_true.mpr fun i hi => ?_⟩
  rotate_right
  rw [ok _ hc ?_ hi, ok _ hm ?_ hi, ok _ hx ?_ hi]
  rfl
  -- what is left are look-ups in the two evaluated tables
  all_goals simp only [tab, hc, hm, hx, List.map_cons, List.map_nil, List.all_cons, List.all_nil, tv, Bool.and_self]

/-- the convenience macros: `buggify_rarely!` 0.001, `buggify_sometimes!` 0.05, `buggify_often!` 0.20 -/
theorem buggify_macro_thresholds :
    thresholdOf 0x3F50624DD2F1A9FC = 1000 ∧ thresholdOf 0x3FA999999999999A = 50000 ∧ thresholdOf 0x3FC999999999999A = 200000 ∧
    thresholdOk 0x3F50624DD2F1A9FC = true ∧ thresholdOk 0x3FA999999999999A = true ∧ thresholdOk 0x3FC999999999999A = true := by
  have tv := threshold_values
  simp only [List.forall_mem_cons] at tv
  simp only [tv, and_self]

/-- what `get` returns is NaN or lies in `[0, 1]` — whatever base probability and multiplier: the
    clamp is the last step -/
theorem fault_get_in_unit_interval (c : FaultCfg) (id : Nat) :
    (F64.ofBits (c.get id)).isNaN = true ∨
    (f64Lt (F64.ofBits (c.get id)) (F64.ofBits 0) = false ∧ f64Lt (F64.ofBits SimBuggify.bits_1_0) (F64.ofBits (c.get id)) = false) := by
  unfold FaultCfg.get
  split
  · right; decide
  · generalize f64Mul _ _ = b
    unfold clampBits
    simp only
    split
    · left; decide
    · split
      · right; decide
      · split
        · right; decide
        · right; constructor <;> simp_all

/-- `set` stores the clamped probability; out-of-range and special values, concretely -/
theorem fault_set_clamps :
    clampBits 0x3FF8000000000000 = SimBuggify.bits_1_0 ∧ clampBits 0xBFD0000000000000 = 0 ∧ clampBits 0x7FF0000000000000 = SimBuggify.bits_1_0 ∧
    clampBits 0xFFF0000000000000 = 0 ∧ clampBits 0x8000000000000000 = 0x8000000000000000 ∧ clampBits bitsNaN = bitsNaN ∧
    maxZeroBits bitsNaN = 0 ∧ maxZeroBits 0xBFF0000000000000 = 0 ∧ maxZeroBits 0x4008000000000000 = 0x4008000000000000 := by
  decide +kernel

/-- the exact product at the corners: a subnormal result, an overflow, `0 * inf` -/
theorem f64_mul_table :
    f64Mul (F64.ofBits 0x3F50624DD2F1A9FC) (F64.ofBits 0x3FB999999999999A) = 0x3F1A36E2EB1C432D ∧
    f64Mul (F64.ofBits 0x3FA999999999999A) (F64.ofBits 0x4008000000000000) = 0x3FC3333333333334 ∧
    f64Mul (F64.ofBits 1) (F64.ofBits 0x3FE0000000000000) = 0 ∧
    f64Mul (F64.ofBits 3) (F64.ofBits 0x3FE0000000000000) = 2 ∧
    f64Mul (F64.ofBits 0x7FEFFFFFFFFFFFFF) (F64.ofBits 0x4000000000000000) = bitsInf ∧
    f64Mul (F64.ofBits 0) (F64.ofBits bitsInf) = bitsNaN := by
  decide +kernel


/-! ### `FaultConfig::probabilities` is a `HashMap` that is only inserted into and looked up -/

theorem faultcfg_set_comm (c : FaultCfg) (h : NMap.WF c.probs) (k1 v1 k2 v2 : Nat) (hk : k1 ≠ k2) :
    (c.set k1 v1).set k2 v2 = (c.set k2 v2).set k1 v1 := by
  simp only [FaultCfg.set]
  congr 1
  apply NMap.ext (NMap.wf_insert (NMap.wf_insert h)) (NMap.wf_insert (NMap.wf_insert h))
  intro k
  simp only [NMap.get_insert]
  by_cases h1 : k = k1 <;> by_cases h2 : k = k2 <;> simp_all

/-- full strength: a configuration built by `set` calls on DISTINCT faults does not depend on the
    order of the calls — the order of the lines of a preset constructor, or the insertion order of
    the `HashMap`, cannot reach any `get`, hence no decision -/
def C20_fault_config_set_order_independent : Prop :=
  ∀ (l l' : List (Nat × Nat)), l.Perm l' → (l.map (·.1)).Nodup → ∀ (c : FaultCfg), NMap.WF c.probs →
    c.setAll l = c.setAll l'

theorem fault_config_set_order_independent : C20_fault_config_set_order_independent := by
  intro l l' hp
  induction hp with
  | nil => intro _ c _; rfl
  | cons x _ ih =>
    intro hn c hc
    exact ih (List.nodup_cons.mp hn).2 (c.set x.1 x.2) (NMap.wf_insert hc)
  | swap x y l =>
    intro hn c hc
    simp only [List.map_cons, List.nodup_cons, List.mem_cons, not_or] at hn
    simp only [FaultCfg.setAll, List.foldl_cons]
    rw [faultcfg_set_comm c hc y.1 y.2 x.1 x.2 hn.1.1]
  | trans h1 _ ih1 ih2 =>
    intro hn c hc
    rw [ih1 hn c hc]
    exact ih2 (((h1.map (·.1)).nodup_iff).mp hn) c hc

/-- non-vacuity: the three presets set pairwise distinct faults; `chaos` built backwards is `chaos` -/
example : (calmSets.map (·.1)).Nodup ∧ (moderateSets.map (·.1)).Nodup ∧ (chaosSets.map (·.1)).Nodup ∧
    ({ FaultCfg.new with mult := chaosMult }).setAll chaosSets.reverse = FaultCfg.chaos := by
  have hx : (chaosSets.map (·.1)).Nodup := by decide +kernel
  exact ⟨by decide +kernel, by decide +kernel, hx,
    (fault_config_set_order_independent _ _ (List.reverse_perm chaosSets).symm hx _ NMap.wf_nil).symm⟩

/-- with a repeated fault the LAST `set` wins: there the order matters, as it must -/
example : (FaultCfg.new.setAll [(0, 0x3FE0000000000000), (0, 0x3FF0000000000000)]).get 0 = 0x3FF0000000000000 ∧
    (FaultCfg.new.setAll [(0, 0x3FF0000000000000), (0, 0x3FE0000000000000)]).get 0 = 0x3FE0000000000000 := by decide

end C20
end RedisVerif
