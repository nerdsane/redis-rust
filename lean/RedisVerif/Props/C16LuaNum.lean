import RedisVerif.Model.LuaNum
import RedisVerif.Props.C16

/-!
# C16 — a Lua float passed as a redis.call argument

`parse_multivalue_to_bytes` turns `LuaValue::Number(n)` into `n.to_string()`.  `LuaNum.fmtF64` transcribes Rust's
`Display for f64` for every bit pattern (shortest round-tripping digits, positional notation): the digits printed
denote a decimal that rounds (nearest-even) to the very same double, so a float argument reaches the command losslessly.

Tie: `LF` ops — the double reaches a real script byte-exactly through `ARGV` and `string.unpack('<d', …)`, is handed
to `redis.call('SET', …)` as a NUMBER, and the stored bytes are compared with `fmtF64` (boundary patterns and
random bit patterns); oracle `C16:lua:float-argument-not-lossless` (the stored text parses back to the same double).
-/
namespace RedisVerif
namespace C16

open Grammar LuaConv LuaNum

theorem tryDigits_roundtrips {a X nd p d k : Nat} (h : tryDigits a X nd p = some (d, k)) :
    f64OfRat (d * 10 ^ k) (10 ^ fmtScale) = a := by
  simp only [tryDigits] at h
  split at h
  · rename_i hb
    simp only [Bool.and_eq_true, beq_iff_eq] at hb
    split at h <;> cases h
    · exact hb.1
    · exact hb.2.2
  · split at h
    · cases h; exact beq_iff_eq.mp ‹_›
    · split at h
      · rename_i hb
        cases h
        simp only [Bool.and_eq_true, beq_iff_eq] at hb
        exact hb.2
      · cases h

/-- the precisions are tried in increasing order: when the search started at `p` answers at a later precision,
    precision `p` had no candidate -/
theorem shortest_is_shortest {a X nd : Nat} (fuel p : Nat) (r : Nat × Nat)
    (h : shortestFrom a X nd (fuel + 1) p = some r) :
    tryDigits a X nd p = some r ∨ (tryDigits a X nd p = none ∧ shortestFrom a X nd fuel (p + 1) = some r) := by
  simp only [shortestFrom] at h
  cases ht : tryDigits a X nd p with
  | some r' => rw [ht] at h; exact Or.inl h
  | none => rw [ht] at h; exact Or.inr ⟨rfl, h⟩

theorem shortestFrom_roundtrips {a X nd : Nat} : ∀ (fuel p : Nat) {d k : Nat},
    shortestFrom a X nd fuel p = some (d, k) → f64OfRat (d * 10 ^ k) (10 ^ fmtScale) = a
  | 0, _, _, _, h => by cases h
  | fuel + 1, p, _, _, h =>
    (shortest_is_shortest fuel p _ h).elim tryDigits_roundtrips fun h' => shortestFrom_roundtrips fuel (p + 1) h'.2

/-- for EVERY double: the decimal the model prints rounds back to the same double -/
theorem shortest_roundtrips (a d k : Nat) (h : shortest a = some (d, k)) :
    f64OfRat (d * 10 ^ k) (10 ^ fmtScale) = a :=
  shortestFrom_roundtrips (X := f64Exact a) (nd := (natDigits (f64Exact a)).length) 17 1 h

/-! ## evaluating the digit search

The kernel multiplies, divides and compares 4000-bit numbers at once, but it unfolds `Nat.log2` (in `bitLen`, twice per
rounding) one bit at a time and `Nat.toDigits` one digit at a time.  So the texts below are not read off
`fmtF64` directly: the search is run with the bit lengths found by bisection (`shortestFrom_eq`), the number of
digits of the exact value is read off two comparisons (`natDigits_length`), and `fmtF64_finite` puts the two into
`fmtF64`. -/

/-- `⌊log₂ n⌋` assembled from its binary digits `2 ^ j`, highest first; `acc` is the part found so far -/
def log2Bits (n : Nat) : Nat → Nat → Nat
  | 0, acc => acc
  | j + 1, acc => log2Bits n j (if 2 ^ (acc + 2 ^ j) ≤ n then acc + 2 ^ j else acc)

theorem log2Bits_eq {n : Nat} : ∀ (j acc : Nat), 2 ^ acc ≤ n → n < 2 ^ (acc + 2 ^ j) → log2Bits n j acc = n.log2
  | 0, acc, h1, h2 =>
    ((Nat.log2_eq_iff (Nat.ne_of_gt (Nat.lt_of_lt_of_le (Nat.pow_pos (by decide)) h1))).mpr ⟨h1, h2⟩).symm
  | j + 1, acc, h1, h2 => by
    unfold log2Bits
    split
    · exact log2Bits_eq j _ ‹_› (by rw [Nat.add_assoc, ← Nat.two_mul, ← Nat.pow_succ']; exact h2)
    · exact log2Bits_eq j _ h1 (by omega)

def bitLenB (n : Nat) : Nat :=
  if n = 0 then 0 else if n < 2 ^ 2 ^ 13 then log2Bits n 13 0 + 1 else n.log2 + 1

theorem bitLen_eq (n : Nat) : bitLen n = bitLenB n := by
  unfold bitLen bitLenB
  split
  · rfl
  · split
    · rw [log2Bits_eq 13 0 (by omega) (by rw [Nat.zero_add]; assumption)]
    · rfl

/-- `f64OfRat`, `tryDigits`, `shortestFrom` as the model writes them, over any bit-length function -/
def f64OfRatWith (bl : Nat → Nat) (num den : Nat) : Nat :=
  if num = 0 ∨ den = 0 then 0 else
  let e0 : Int := (bl num : Int) - (bl den : Int) - 53
  let quot (e : Int) : Nat × Nat × Nat :=
    let N := if e ≤ 0 then num * 2 ^ (-e).toNat else num
    let D := if e ≤ 0 then den else den * 2 ^ e.toNat
    (N / D, N % D, D)
  let e1 : Int := if (quot e0).1 ≥ 2 ^ 53 then e0 + 1 else e0
  let e : Int := if e1 < -1074 then -1074 else e1
  let (q, r, D) := quot e
  let q' := if 2 * r > D ∨ (2 * r = D ∧ q % 2 = 1) then q + 1 else q
  let m := if q' = 2 ^ 53 then 2 ^ 52 else q'
  let e' : Int := if q' = 2 ^ 53 then e + 1 else e
  if m < 2 ^ 52 then m
  else
    let E : Int := e' + 1075
    if E ≥ 2047 then infBits else E.toNat * 2 ^ 52 + (m - 2 ^ 52)

def tryDigitsWith (bl : Nat → Nat) (a X nd p : Nat) : Option (Nat × Nat) :=
  let k := nd - p
  let lo := X / 10 ^ k
  let rem := X % 10 ^ k
  let okLo := f64OfRatWith bl (lo * 10 ^ k) (10 ^ fmtScale) == a
  let okHi := rem != 0 && f64OfRatWith bl ((lo + 1) * 10 ^ k) (10 ^ fmtScale) == a
  if okLo && okHi then (if 2 * rem < 10 ^ k then some (lo, k) else some (lo + 1, k))
  else if okLo then some (lo, k)
  else if okHi then some (lo + 1, k)
  else none

def shortestFromWith (bl : Nat → Nat) (a X nd : Nat) : Nat → Nat → Option (Nat × Nat)
  | 0, _ => none
  | fuel + 1, p =>
    match tryDigitsWith bl a X nd p with
    | some r => some r
    | none => shortestFromWith bl a X nd fuel (p + 1)

theorem shortestFrom_eq (a X nd : Nat) :
    ∀ fuel p, shortestFrom a X nd fuel p = shortestFromWith bitLenB a X nd fuel p := by
  rw [show bitLenB = bitLen from funext fun n => (bitLen_eq n).symm]
  intro fuel
  induction fuel with
  | zero => intro p; rfl
  | succ f ih => intro p; simp only [shortestFrom, shortestFromWith, ← ih]; rfl

theorem natDigits_length {X nd : Nat} (h1 : 10 ^ nd ≤ X) (h2 : X < 10 ^ (nd + 1)) :
    (natDigits X).length = nd + 1 := by
  have hle := (Nat.length_toDigits_le_iff (b := 10) (n := X) (by decide) (Nat.succ_pos nd)).mpr h2
  have hgt : ¬ (Nat.toDigits 10 X).length ≤ nd := by
    cases nd with
    | zero => have := Nat.length_toDigits_pos (b := 10) (n := X); omega
    | succ m => rw [Nat.length_toDigits_le_iff (by decide) (Nat.succ_pos m)]; omega
  simp only [natDigits, List.length_map]
  omega

/-- `fmtF64` on a finite non-zero double whose exact value has `nd + 1` digits, through the search above -/
def finiteText (bits nd : Nat) : Option Bytes :=
  let a := bits % 2 ^ 63
  let X := f64Exact a
  if (bits / 2 ^ 52) % 2048 ≠ 2047 ∧ a ≠ 0 ∧ 10 ^ nd ≤ X ∧ X < 10 ^ (nd + 1) then
    (shortestFromWith bitLenB a X (nd + 1) 17 1).map fun r =>
      let z := stripZeros 20 r.1 ((r.2 : Int) - (fmtScale : Int))
      (if (bits / 2 ^ 63) % 2 == 1 then [45] else []) ++ renderDec z.1 z.2
  else none

theorem fmtF64_finite {bits nd : Nat} {txt : Bytes} (h : finiteText bits nd = some txt) : fmtF64 bits = txt := by
  simp only [finiteText, Option.ite_none_right_eq_some] at h
  obtain ⟨⟨hE, h0, h1, h2⟩, h⟩ := h
  simp only [fmtF64, shortest, natDigits_length h1 h2, shortestFrom_eq]
  generalize shortestFromWith bitLenB _ _ _ _ _ = o at h ⊢
  cases o with
  | none => cases h
  | some r => simp [f64IsNan, f64IsInf, hE, h0, ← Option.some.inj h]

/-- pinned texts of `f64::to_string` -/
theorem fmtF64_cases :
    fmtF64 0x3FB999999999999A = s2b "0.1" ∧ fmtF64 0x3FE0000000000000 = s2b "0.5" ∧
    fmtF64 0x400D99999999999A = s2b "3.7" ∧ fmtF64 0xC00D99999999999A = s2b "-3.7" ∧
    fmtF64 0x4014000000000000 = s2b "5" ∧
    fmtF64 0x4415AF1D78B58C40 = s2b "100000000000000000000" ∧
    fmtF64 0x3E7AD7F29ABCAF48 = s2b "0.0000001" ∧
    fmtF64 0x4340000000000000 = s2b "9007199254740992" ∧
    fmtF64 0x3FD5555555555555 = s2b "0.3333333333333333" ∧
    fmtF64 0 = s2b "0" ∧ fmtF64 0x8000000000000000 = s2b "-0" ∧
    fmtF64 0x7FF8000000000000 = s2b "NaN" ∧ fmtF64 0x7FF0000000000000 = s2b "inf" ∧
    fmtF64 0xFFF0000000000000 = s2b "-inf" :=
  ⟨fmtF64_finite (nd := 1099) (by decide +kernel),
   fmtF64_finite (nd := 1099) (by decide +kernel),
   fmtF64_finite (nd := 1100) (by decide +kernel),
   fmtF64_finite (nd := 1100) (by decide +kernel),
   fmtF64_finite (nd := 1100) (by decide +kernel),
   fmtF64_finite (nd := 1120) (by decide +kernel),
   fmtF64_finite (nd := 1092) (by decide +kernel),
   fmtF64_finite (nd := 1115) (by decide +kernel),
   fmtF64_finite (nd := 1099) (by decide +kernel),
   by decide +kernel⟩

/-- on small integral doubles the text is the integer's digits: what `luaArgBytes (.num i)` says -/
theorem fmtF64_integral_small :
    fmtF64 0x3FF0000000000000 = intText 1 ∧ fmtF64 0x4045000000000000 = intText 42 ∧
    fmtF64 0xC01C000000000000 = intText (-7) ∧ fmtF64 0x4270000000000000 = intText 1099511627776 :=
  ⟨fmtF64_finite (nd := 1100) (by decide +kernel),
   fmtF64_finite (nd := 1101) (by decide +kernel),
   fmtF64_finite (nd := 1100) (by decide +kernel),
   fmtF64_finite (nd := 1112) (by decide +kernel)⟩

end C16
end RedisVerif
