import RedisVerif.Model.Actors
import RedisVerif.Model.Shards
import RedisVerif.Model.ShardsStr
import RedisVerif.Lemmas.Actors
import RedisVerif.Lemmas.Shards
import RedisVerif.Lemmas.ShardsStr
import RedisVerif.Lemmas.ActorsKey
import RedisVerif.Props.C03
import RedisVerif.Model.ShardsClock

/-!
# C02 — Concurrent clients on one node see a linearizable per-key history

Model: `RedisVerif.Actors` (`Model/Actors.lean`): any number of shard actors with FIFO mailboxes
and an executor state, any number of clients each idle or waiting on one request with a response
slot (oneshot channel or pooled `ResponseSlot` with acquire / release / reuse); transitions
`invoke` (enqueue at the request's shard), `exec` (a shard actor pops the head of its mailbox, runs
the executor, writes the response into THAT message's slot), `ret` (the client takes the value and
releases or drops the slot).  Histories are lists of invocation / response events; linearizability
is stated in its linearization-point form (`Actors.Linearizable`: points can be inserted, each
between invocation and response of its operation, such that replaying them on the sequential
specification yields exactly the observed responses).
-/
namespace RedisVerif
namespace C02

open Actors Shards NMap

/-- the sequential specification the checker uses: ONE executor (the small concrete one) -/
def specStep (s : Str.St) (c : Cmd Str.sig) : Str.St × Reply := Str.exec.exec s c

def keyOf (c : Cmd Str.sig) : Nat := cmdKey c

abbrev History := List (Ev (Cmd Str.sig) Reply)

/-- the verified per-key linearizability checker run on observed histories -/
def checkLin (h : History) : Bool := Actors.checkLin specStep keyOf [] h

/-- **the checker is sound** -/
theorem lin_check_sound (h : History) (hc : checkLin h = true) :
    PerKeyLinearizable specStep keyOf [] h :=
  Actors.lin_check_sound specStep keyOf [] h hc

/-- non-vacuity: a concurrent history (a GET overlapping a SET, answered with the OLD value, then a
    GET answered with the new one) is accepted; a stale read after the SET has returned is not -/
example : checkLin [.inv 1 (.single 7 (.set [49])), .inv 2 (.single 7 .get), .res 2 (.one .nil),
    .res 1 (.one .ok), .inv 5 (.fastGet 7), .res 5 (.one (.bulk [49]))] = true := by decide

example : checkLin [.inv 1 (.single 7 (.set [49])), .res 1 (.one .ok), .inv 3 (.single 7 .get),
    .res 3 (.one .nil)] = false := by decide

section system
variable {σ Req Resp : Type} [DecidableEq Resp] (step : σ → Req → σ × Resp) (route : Req → Nat)
  (s0 : σ)

/-- **every execution is linearizable**: for every finite execution of the transition system —
    every interleaving of client, shard-actor and scheduler steps, any number of shards, clients
    and slots — the induced history is linearizable w.r.t. the executor the shards run; the
    linearization points are the `exec` steps -/
theorem linearizable {pool : Nat} {s : Sys σ Req Resp} (hr : Reach step route s0 pool s) :
    ValidLog step s0 s.log ∧ Linearizable step s0 (history s.log) := by
  obtain ⟨r, hi⟩ := reach_inv step route s0 hr
  have hv : ValidLog step s0 s.log := (validLog_iff step).mpr ⟨r, hi.rep⟩
  exact ⟨hv, s.log, rfl, hv⟩

/-- … and w.r.t. every specification `stepB` that `step` refines along the log (`Actors.replay_sim`:
    `Rel`-related states answer an OK request alike whenever its clock condition holds) -/
theorem linearizable_of_sim {σB κ τ : Type} (stepB : σB → Req → σB × Resp)
    (key : Req → κ) (okT : τ → κ → Prop) (adv : τ → κ → τ) (Ok : Req → Prop) (Rel : σ → σB → τ → Prop)
    (b0 : σB) (t0 : τ) (h0 : Rel s0 b0 t0)
    (href : ∀ a b t req, Rel a b t → okT t (key req) → Ok req →
      (step a req).2 = (stepB b req).2 ∧ Rel (step a req).1 (stepB b req).1 (adv t (key req)))
    {pool : Nat} {s : Sys σ Req Resp} (hr : Reach step route s0 pool s)
    (hok : ∀ id req, (.inv id req) ∈ s.log → Ok req) (hmono : LinMonoK key okT adv [] t0 s.log) :
    ValidLog stepB b0 s.log ∧ Linearizable stepB b0 (history s.log) := by
  obtain ⟨rA, hi⟩ := reach_inv step route s0 hr
  have hv2 : ValidLog stepB b0 s.log := (validLog_iff stepB).mpr
    (replay_sim step stepB key okT adv Ok Rel href s.log t0 [] (initR s0) rA (initR b0)
      h0 rfl rfl rfl wf_nil (fun _ _ hg => nomatch hg) hok hmono hi.rep)
  exact ⟨hv2, s.log, rfl, hv2⟩

/-- **each `exec` step lies between the invocation and the response of its operation** (and the
    response delivered is the one computed there) -/
theorem exec_between_inv_and_ret {pool : Nat} {s : Sys σ Req Resp} (hr : Reach step route s0 pool s) :
    (∀ pre post id resp, s.log = pre ++ .lin id resp :: post → ∃ req, (.inv id req) ∈ pre) ∧
    (∀ pre post id resp, s.log = pre ++ .res id resp :: post → (.lin id resp) ∈ pre) := by
  have hv := (linearizable step route s0 hr).1
  exact ⟨fun pre post id resp e => lin_after_inv step s0 pre post id resp (e ▸ hv),
         fun pre post id resp e => res_after_lin step s0 pre post id resp (e ▸ hv)⟩

/-- **slot discipline**: a waiting client that finds a value in its slot finds the response that
    the shard actor computed for ITS request (same id) — although slots are pooled and reused -/
theorem reply_to_requester {pool : Nat} {s : Sys σ Req Resp} (hr : Reach step route s0 pool s)
    (c id : Nat) (req : Req) (sid : Nat) (resp : Resp)
    (hc : s.client c = .waiting id req sid) (hs : s.slot sid = some resp) :
    (.inv id req) ∈ s.log ∧ (.lin id resp) ∈ s.log ∧ sid ∉ s.pool := by
  obtain ⟨r, hi⟩ := reach_inv step route s0 hr
  obtain ⟨_, _, h3, h4, h5⟩ := hi.cl c id req sid hc
  rcases h5 with ⟨_, b2, _⟩ | ⟨_, resp', b2, _, b4⟩
  · rw [hs] at b2; cases b2
  · rw [hs] at b2; injection b2 with e; subst e; exact ⟨h4, b4, h3⟩

/-- … and a slot in the pool is referenced by no message in flight — also not by the queued
    message of a client that has ABANDONED its request (the code leaks that slot) -/
theorem pooled_slot_unreferenced {pool : Nat} {s : Sys σ Req Resp} (hr : Reach step route s0 pool s)
    (i : Nat) (m : Msg Req) (hm : m ∈ s.mail i) : m.slot ∉ s.pool := by
  obtain ⟨r, hi⟩ := reach_inv step route s0 hr
  exact (hi.msg i m hm).2.2.2.1

end system

section timed
open Shards.Clock

/-- a timed single-key request: (virtual time of the invocation, (key, operation)) -/
abbrev TReq := Nat × (Key × KOp)

/-- the timed sequential specification used by the checker: `specAt` of the per-key spec -/
def specStepT : NMap Entry → TReq → NMap Entry × R1 := specAt specKeyAt

abbrev THistory := List (Ev TReq R1)

/-- the verified per-key checker on timed histories -/
def checkLinT (h : THistory) : Bool := Actors.checkLin specStepT (fun p => p.2.1) [] h

theorem lin_check_timed_sound (h : THistory) (hc : checkLinT h = true) :
    PerKeyLinearizable specStepT (fun p => p.2.1) [] h :=
  Actors.lin_check_sound specStepT (fun p => p.2.1) [] h hc

/-- **the timed variant of `linearizable`**: clients stamp every message with the virtual time of
    its invocation and the shard adopts it before executing (`execNT … allCarry`); every finite
    execution of the actor system is linearizable w.r.t. that timed executor -/
theorem linearizable_timed (R : Routes) (route : Nat × TCmd → Nat) {pool : Nat}
    {s : Sys (List TShard) (Nat × TCmd) (List R1)}
    (hr : Reach (specAt (fun now st c => execNT R allCarry now st c)) route (tinit R.N) pool s) :
    ValidLog (specAt (fun now st c => execNT R allCarry now st c)) (tinit R.N) s.log ∧
    Linearizable (specAt (fun now st c => execNT R allCarry now st c)) (tinit R.N) (history s.log) :=
  linearizable _ route _ hr

/-- the seed C02-pooled-get-no-sweep-and-no-probe, as a history: `SET k v PX 100` invoked and
    answered at t = 0; a read of `k` invoked at t = 500 answers `v` -/
def staleReadOps : List (Nat × TReq × R1) :=
  [(0, (0, (7, .setPx [118] 100)), .ok), (1, (500, (7, .get)), .bulk [118])]

/-- **a read invoked after the deadline that returns the value is not linearizable**: the
    operation would have to take effect before its own invocation -/
theorem stale_read_not_linearizable :
    ¬ Linearizable specStepT ([] : NMap Entry) (seqHist staleReadOps) := by
  intro h
  have := seq_lin_legal specStepT [] staleReadOps h
  exact absurd this.2.1 (by decide)

/-- the checker rejects it, and accepts the same history with the correct reply -/
example : checkLinT (seqHist staleReadOps) = false := by decide
example : checkLinT (seqHist [(0, (0, (7, .setPx [118] 100)), .ok), (1, (99, (7, .get)), .bulk [118]),
    (2, (100, (7, .get)), .nil)]) = true := by decide

end timed

section seeded

/-- an executor that answers every request with the request itself -/
def echo (s : Unit) (req : Nat) : Unit × Nat := (s, req)

def seededInit : Sys Unit Nat Nat := Sys.init () 1

/-- one pooled slot, one shard.  Client 0 sends request 10 and gives up while it is queued — the
    guard puts slot 0 back into the pool; client 1 sends request 20 and is handed the same slot;
    the shard executes request 10 and writes its answer into slot 0 -/
theorem seeded_reach : ∃ s, ReachSeeded echo (fun _ => 0) () 1 s ∧
    s.client 1 = .waiting 1 20 0 ∧ s.slot 0 = some 10 ∧ s.log = [.inv 0 10, .inv 1 20, .lin 0 10] := by
  have r0 : ReachSeeded echo (fun _ => 0) () 1 seededInit := ReachSeeded.init
  have r1 := ReachSeeded.step r0 (.base (Step.invokePooled seededInit 0 10 0 [] rfl rfl))
  have r2 := ReachSeeded.step r1 (.abandonRelease _ 0 0 10 0 rfl)
  have r3 := ReachSeeded.step r2 (.base (Step.invokePooled _ 1 20 0 [] rfl rfl))
  have r4 := ReachSeeded.step r3 (.base (Step.exec _ 0 ⟨0, 0, 10⟩ [⟨1, 0, 20⟩] rfl))
  exact ⟨_, r4, rfl, rfl, rfl⟩

/-- **with the seeded discipline `reply_to_requester` fails**: client 1, waiting for the answer to
    request 20 (id 1), finds in its slot the answer 10 that was computed for request id 0 — the log
    contains no `lin 1 10` — and its slot is referenced by a message in flight while pooled slots
    are being handed out -/
theorem seeded_abandon_counterexample :
    ∃ (s : Sys Unit Nat Nat) (c id req sid resp : Nat),
      ReachSeeded echo (fun _ => 0) () 1 s ∧ s.client c = .waiting id req sid ∧
      s.slot sid = some resp ∧ (.lin id resp) ∉ s.log ∧ resp ≠ (echo () req).2 := by
  obtain ⟨s, hr, h1, h2, h3⟩ := seeded_reach
  refine ⟨s, 1, 1, 20, 0, 10, hr, h1, h2, ?_, by decide⟩
  rw [h3]; decide

/-- … and delivering it yields a history that is not linearizable: request 20 answered 10 -/
theorem seeded_history_not_linearizable :
    ¬ Linearizable echo () (seqHist [(1, 20, 10)] : List (Ev Nat Nat)) := by
  intro h
  have := seq_lin_legal echo () [(1, 20, 10)] h
  exact absurd this.1 (by decide)

/-- non-vacuity of the theorems for executions WITH an abandon (the code's discipline): client 0
    gives up on request 10 while it is queued, its slot leaks; client 1 is handed a FRESH slot, the
    shard answers both messages, client 1 gets its own answer; request 10 stays pending -/
theorem abandon_reach : ∃ s, Reach echo (fun _ => 0) () 1 s ∧ s.pool = [] ∧
    history s.log = [.inv 0 10, .inv 1 20, .res 1 20] := by
  have r0 : Reach echo (fun _ => 0) () 1 seededInit := Reach.init
  have r1 := Reach.step r0 (Step.invokePooled seededInit 0 10 0 [] rfl rfl)
  have r2 := Reach.step r1 (Step.abandon _ 0 0 10 0 rfl)
  have r3 := Reach.step r2 (Step.invokeFresh _ 1 20 rfl)
  have r4 := Reach.step r3 (Step.exec _ 0 ⟨0, 0, 10⟩ [⟨1, 1, 20⟩] rfl)
  have r5 := Reach.step r4 (Step.exec _ 0 ⟨1, 1, 20⟩ [] rfl)
  have r6 := Reach.step r5 (Step.retDrop _ 1 1 20 1 20 rfl rfl)
  exact ⟨_, r6, rfl, rfl⟩

example : Linearizable echo () ([.inv 0 10, .inv 1 20, .res 1 20] : List (Ev Nat Nat)) := by
  obtain ⟨s, hr, _, hh⟩ := abandon_reach
  rw [← hh]
  exact (linearizable echo (fun _ => 0) () hr).2

end seeded

section sharded
variable {S : Sig} {E : Exec S}

/-- a single-key command is `Routable` and is neither RANDOMKEY nor SCAN: `C03.shards_refine_eq` -/
theorem single_key_refine (hL : E.Local) (R : Routes) (fixed : Bool) (hv : R.Valid) (hN : 0 < R.N)
    (hc : Consistent R fixed) {st : Shards S.Val} (h : Inv R st) (c : Cmd S) (hs : SingleKey c = true) :
    Inv R (execN E R fixed st c).1 ∧ abs (execN E R fixed st c).1 = (E.exec (abs st) c).1 ∧
    (execN E R fixed st c).2 = (E.exec (abs st) c).2 :=
  C03.shards_refine_eq hL R fixed hv hN hc h c (by cases c <;> first | rfl | cases hs)
    (fun p e => by rw [e] at hs; cases hs) (fun e => by rw [e] at hs; cases hs)

/-- **linearizable w.r.t. ONE store**: clients drive the sharding layer (`execN`: the request goes
    to the mailbox of the key's shard and is executed there); if routing is consistent, every
    execution's history is linearizable w.r.t. a single executor on a single store -/
theorem linearizable_single_store (hL : E.Local) (R : Routes) (fixed : Bool) (hv : R.Valid)
    (hN : 0 < R.N) (hc : Consistent R fixed) {pool : Nat}
    {s : Sys (Shards S.Val) (Cmd S) Reply}
    (hr : Reach (execN E R fixed) (cmdShard R fixed) (Shards.init S.Val R.N) pool s)
    (hsk : ∀ id req, (.inv id req) ∈ s.log → SingleKey req = true) :
    ValidLog E.exec ([] : Store S.Val) s.log :=
  (linearizable_of_sim (execN E R fixed) (cmdShard R fixed) (Shards.init S.Val R.N) E.exec
    (fun _ => ()) (fun _ _ => True) (fun _ _ => ()) (fun c => SingleKey c = true)
    (fun st a (_ : Unit) => Inv R st ∧ abs st = a) [] () ⟨inv_init R, abs_init R.N⟩
    (fun st a _ req ⟨hi, ha⟩ _ hok => by
      obtain ⟨x1, x2, x3⟩ := single_key_refine hL R fixed hv hN hc hi req hok
      subst ha
      exact ⟨x3, x1, x2⟩)
    hr hsk (linMonoK_of_forall _ _ (fun _ _ => trivial) _ _ _)).1

/-- **C02, proved form**: every key's sub-history of every execution is linearizable w.r.t. one
    executor started on the empty store.  Hypotheses: locality of the executor; consistent routing
    (unconditional for the repaired routing, `RouteConsistent` for the pinned one); the requests
    are single-key commands. -/
theorem per_key_linearizable_partial (hL : E.Local) (R : Routes) (fixed : Bool) (hv : R.Valid)
    (hN : 0 < R.N) (hc : Consistent R fixed) {pool : Nat}
    {s : Sys (Shards S.Val) (Cmd S) Reply}
    (hr : Reach (execN E R fixed) (cmdShard R fixed) (Shards.init S.Val R.N) pool s)
    (hsk : ∀ id req, (.inv id req) ∈ s.log → SingleKey req = true) :
    PerKeyLinearizable E.exec cmdKey ([] : Store S.Val) (history s.log) :=
  perKey_of_valid hL s.log (linearizable_single_store hL R fixed hv hN hc hr hsk) hsk

/-- the repaired routing needs no hypothesis on the hash functions -/
theorem per_key_linearizable_repaired (hL : E.Local) (R : Routes) (hv : R.Valid) (hN : 0 < R.N)
    {pool : Nat} {s : Sys (Shards S.Val) (Cmd S) Reply}
    (hr : Reach (execN E R true) (cmdShard R true) (Shards.init S.Val R.N) pool s)
    (hsk : ∀ id req, (.inv id req) ∈ s.log → SingleKey req = true) :
    PerKeyLinearizable E.exec cmdKey ([] : Store S.Val) (history s.log) :=
  per_key_linearizable_partial hL R true hv hN (consistent_fixed R) hr hsk

/-- **the batched path**: executions in which clients issue batched calls (`Step.invokeBatch`: the
    items of `fast_batch_get_pipeline` / `fast_batch_set_pipeline` posted together, each routed by
    `hash_key_bytes` to its own shard) next to generic / fast / pooled requests on the same keys —
    every key's sub-history, with every batched ITEM as one single-key operation, is linearizable.
    (It is `per_key_linearizable_repaired`: `Reach` quantifies over `invokeBatch` steps too and
    `SingleKey` admits the items `.batchGet [k]`, `.batchSet [(k, v)]`.) -/
theorem batched_items_linearizable (hL : E.Local) (R : Routes) (hv : R.Valid) (hN : 0 < R.N)
    {pool : Nat} {s : Sys (Shards S.Val) (Cmd S) Reply}
    (hr : Reach (execN E R true) (cmdShard R true) (Shards.init S.Val R.N) pool s)
    (hsk : ∀ id req, (.inv id req) ∈ s.log → SingleKey req = true) :
    ValidLog E.exec ([] : Store S.Val) s.log ∧
    PerKeyLinearizable E.exec cmdKey ([] : Store S.Val) (history s.log) :=
  ⟨linearizable_single_store hL R true hv hN (consistent_fixed R) hr hsk,
   per_key_linearizable_repaired hL R hv hN hr hsk⟩

/-- **C02, full strength**: the same without any hypothesis on the routing, for
    the routing with the given flag -/
def C02_statement (E : Exec S) (fixed : Bool) : Prop :=
  ∀ (R : Routes), R.Valid → 0 < R.N → ∀ (pool : Nat) (s : Sys (Shards S.Val) (Cmd S) Reply),
    Reach (execN E R fixed) (cmdShard R fixed) (Shards.init S.Val R.N) pool s →
    (∀ id req, (.inv id req) ∈ s.log → SingleKey req = true) →
    PerKeyLinearizable E.exec cmdKey ([] : Store S.Val) (history s.log)

end sharded

/-- the repaired routing (the code since fix 872671c) satisfies the full statement for every local executor -/
theorem C02_statement_repaired {S : Sig} (E : Exec S) (hL : E.Local) :
    C02_statement E true :=
  fun R hv hN _ _ hr hsk => per_key_linearizable_repaired hL R hv hN hr hsk

section nonvacuous
open Shards.Str

/-- a two-shard system with consistent hashes (`C03.exRoutes`: key 3 lives on shard 1), pooled
    slots, two clients whose requests overlap: client 0 invokes `fast_set 3 "b"`, client 1
    invokes `GET 3` before that is executed, shard 1 executes both in mailbox order, both return -/
theorem nonvacuous_reach : ∃ s, Reach (execN Str.exec C03.exRoutes true)
      (cmdShard C03.exRoutes true) (Shards.init SVal 2) 2 s ∧
    history s.log = [.inv 0 (.fastSet 3 [98]), .inv 1 (.single 3 .get), .res 1 (.one (.bulk [98])),
      .res 0 (.one .ok)] := by
  have r0 : Reach (execN Str.exec C03.exRoutes true) (cmdShard C03.exRoutes true)
      (Shards.init SVal 2) 2 (Sys.init (Shards.init SVal 2) 2) := Reach.init
  have r1 := Reach.step r0 (Step.invokePooled _ 0 (.fastSet 3 [98]) 0 [1] rfl rfl)
  have r2 := Reach.step r1 (Step.invokePooled _ 1 (.single 3 .get) 1 [] rfl rfl)
  have r3 := Reach.step r2 (Step.exec _ 1 ⟨0, 0, .fastSet 3 [98]⟩ [⟨1, 1, .single 3 .get⟩] rfl)
  have r4 := Reach.step r3 (Step.exec _ 1 ⟨1, 1, .single 3 .get⟩ [] rfl)
  have r5 := Reach.step r4 (Step.retRelease _ 1 1 (.single 3 .get) 1 _ rfl rfl)
  have r6 := Reach.step r5 (Step.retRelease _ 0 0 (.fastSet 3 [98]) 0 _ rfl rfl)
  exact ⟨_, r6, rfl⟩

example : ∃ s : Sys (Shards SVal) (Cmd Str.sig) Reply,
    history s.log ≠ [] ∧ PerKeyLinearizable Str.exec.exec cmdKey ([] : St) (history s.log) := by
  obtain ⟨s, hr, hh⟩ := nonvacuous_reach
  refine ⟨s, by rw [hh]; simp, ?_⟩
  apply per_key_linearizable_repaired Str.exec_local C03.exRoutes C03.exRoutes_valid (by decide) hr
  intro id req hm
  have hm := hh ▸ mem_history_of_inv s.log id req hm
  simp only [List.mem_cons, List.not_mem_nil, or_false] at hm
  rcases hm with e | e | e | e <;> cases e <;> rfl

/-- a batched SET of keys 1 and 3 (shards 0 and 1 of `C03.exRoutes`: a batch per shard) by one
    caller, a fast SET of key 3 by another client queued behind it, then a batched GET of key 3:
    it answers the newer value -/
theorem batch_reach : ∃ s, Reach (execN Str.exec C03.exRoutes true)
      (cmdShard C03.exRoutes true) (Shards.init SVal 2) 0 s ∧
    history s.log = [.inv 0 (.batchSet [(1, [111])]), .inv 1 (.batchSet [(3, [111])]),
      .inv 2 (.fastSet 3 [110]), .res 0 (.many [.ok]), .res 1 (.many [.ok]), .res 2 (.one .ok),
      .inv 3 (.batchGet [3]), .res 3 (.many [.bulk [110]])] := by
  have r0 : Reach (execN Str.exec C03.exRoutes true) (cmdShard C03.exRoutes true)
      (Shards.init SVal 2) 0 (Sys.init (Shards.init SVal 2) 0) := Reach.init
  have r1 := Reach.step r0 (Step.invokeBatch _ [(10, .batchSet [(1, [111])]), (11, .batchSet [(3, [111])])]
    (by intro p _; rfl) (by decide))
  have r2 := Reach.step r1 (Step.invokeFresh _ 0 (.fastSet 3 [110]) rfl)
  have r3 := Reach.step r2 (Step.exec _ 0 ⟨0, 0, .batchSet [(1, [111])]⟩ [] rfl)
  have r4 := Reach.step r3 (Step.exec _ 1 ⟨1, 1, .batchSet [(3, [111])]⟩ [⟨2, 2, .fastSet 3 [110]⟩] rfl)
  have r5 := Reach.step r4 (Step.exec _ 1 ⟨2, 2, .fastSet 3 [110]⟩ [] rfl)
  have r6 := Reach.step r5 (Step.retDrop _ 10 0 (.batchSet [(1, [111])]) 0 _ rfl rfl)
  have r7 := Reach.step r6 (Step.retDrop _ 11 1 (.batchSet [(3, [111])]) 1 _ rfl rfl)
  have r8 := Reach.step r7 (Step.retDrop _ 0 2 (.fastSet 3 [110]) 2 _ rfl rfl)
  have r9 := Reach.step r8 (Step.invokeBatch _ [(10, .batchGet [3])]
    (by intro p hp; have : p = (10, .batchGet [3]) := by simpa using hp
        subst this; rfl) (by decide))
  have r10 := Reach.step r9 (Step.exec _ 1 ⟨3, 3, .batchGet [3]⟩ [] rfl)
  have r11 := Reach.step r10 (Step.retDrop _ 10 3 (.batchGet [3]) 3 _ rfl rfl)
  exact ⟨_, r11, rfl⟩

end nonvacuous

section counterexample
open Shards.Str

/-- one client, two operations one after the other: `fast_set 1 "h"` then generic `GET 1` -/
def cexOps : List (Nat × Cmd Str.sig × Reply) :=
  [(0, .fastSet 1 [104], .one .ok), (1, .single 1 .get, .one .nil)]

def cexInit : Sys (Shards SVal) (Cmd Str.sig) Reply := Sys.init (Shards.init SVal 2) 0

/-- the execution: invoke, exec on shard `hash_key_bytes(1) = 1`, return; invoke, exec on shard
    `hash_key(1) = 0` (which has never seen the key), return -/
theorem cex_reach : ∃ s, Reach (execN Str.exec C03.mismatchRoutes false)
      (cmdShard C03.mismatchRoutes false) (Shards.init SVal 2) 0 s ∧
    history s.log = seqHist cexOps := by
  have r0 : Reach (execN Str.exec C03.mismatchRoutes false) (cmdShard C03.mismatchRoutes false)
      (Shards.init SVal 2) 0 cexInit := Reach.init
  have r1 := Reach.step r0 (Step.invokeFresh cexInit 0 (.fastSet 1 [104]) rfl)
  have r2 := Reach.step r1 (Step.exec _ 1 ⟨0, 0, .fastSet 1 [104]⟩ [] rfl)
  have r3 := Reach.step r2 (Step.retDrop _ 0 0 (.fastSet 1 [104]) 0 _ rfl rfl)
  have r4 := Reach.step r3 (Step.invokeFresh _ 0 (.single 1 .get) rfl)
  have r5 := Reach.step r4 (Step.exec _ 0 ⟨1, 1, .single 1 .get⟩ [] rfl)
  have r6 := Reach.step r5 (Step.retDrop _ 0 1 (.single 1 .get) 1 _ rfl rfl)
  exact ⟨_, r6, rfl⟩

theorem cex_not_legal : ¬ seqLegal Str.exec.exec ([] : St) cexOps := by
  intro h
  have := h.2.1
  revert this
  decide

/-- **the pinned routing is not linearizable**: `fast_set k v` (routed by `hash_key_bytes`) and
    then a generic `GET k` (routed by `hash_key`) by ONE client — the GET answers nil -/
theorem C02_statement_pinned_counterexample : ¬ C02_statement Str.exec false := by
  intro h
  obtain ⟨s, hr, hh⟩ := cex_reach
  have hsk : ∀ id req, (.inv id req) ∈ s.log → SingleKey req = true := by
    intro id req hm
    have hm := hh ▸ mem_history_of_inv s.log id req hm
    simp only [seqHist, cexOps, List.mem_cons, List.not_mem_nil, or_false] at hm
    rcases hm with e | e | e | e <;> cases e <;> rfl
  have hk := h C03.mismatchRoutes (C03.ofTable_valid 2 _ (by decide) (by decide)) (by decide) 0 s hr hsk 1
  rw [hh] at hk
  have hp : projKey (keyMap cmdKey (seqHist cexOps)) 1 (seqHist cexOps) = seqHist cexOps := rfl
  rw [hp] at hk
  exact cex_not_legal (seq_lin_legal Str.exec.exec [] cexOps hk)

end counterexample

end C02
end RedisVerif
