import RedisVerif.Props.C04
import RedisVerif.Props.C05Ext

/-!
# C05 ∘ C04 — the transaction machine behind the read loop, for every segmentation of the bytes

`Props/C05*.lean` reason about the INPUTS of `Txn.step`.  What reaches the real handler is a byte
stream cut into arbitrary reads and scanned by the batching gate, the collectors, the fast path and
the generic decoder (`Model/Conn.lean`).  `behind` feeds the machine with the read loop's actions
(a decoded frame is classified as `Command::from_resp_zero_copy` and the handler's match do, a
rejected frame is the protocol-error input); C04's segmentation theorems then lift through it.
-/
namespace RedisVerif
namespace C05
open Txn
open RedisVerif.Resp RedisVerif.Conn

section
variable {σ κ γ ρ : Type} [DecidableEq ρ]

/-- the machine of the CURRENT tree (`Txn.stepFixed`), nobody interfering, on a list of inputs -/
def runF (B : Backend σ κ γ ρ) : ConnTxn κ γ ρ → σ → List (Input κ γ) → ConnTxn κ γ ρ × σ × List (Reply ρ)
  | t, s, [] => (t, s, [])
  | t, s, i :: rest =>
    let r := stepFixed B [] t s i
    let q := runF B r.1 r.2.1 rest
    (q.1, q.2.1, r.2.2 :: q.2.2)

/-- the machine behind the read loop: the actions of `Conn.run`, in order.  `classify` = the parse
    of a decoded frame into an input of the machine.  A collector that swallows a frame (`dropped`)
    gives the machine nothing; after `overflow` / `crash` the connection is gone. -/
def behind (B : Backend σ κ γ ρ) (classify : Val → Input κ γ) :
    ConnTxn κ γ ρ → σ → List Action → ConnTxn κ γ ρ × σ × List (Reply ρ)
  | t, s, [] => (t, s, [])
  | t, s, .exec f _ :: rest =>
    let r := stepFixed B [] t s (classify f)
    let q := behind B classify r.1 r.2.1 rest
    (q.1, q.2.1, r.2.2 :: q.2.2)
  | t, s, .protoErr :: rest =>
    let r := stepFixed B [] t s .protoErr
    let q := behind B classify r.1 r.2.1 rest
    (q.1, q.2.1, r.2.2 :: q.2.2)
  | t, s, .dropped _ :: rest => behind B classify t s rest
  | t, s, .overflow :: _ => (t, s, [])
  | t, s, .crash :: _ => (t, s, [])

theorem behind_execAll (B : Backend σ κ γ ρ) (classify : Val → Input κ γ) (cmds : List Cmd) :
    ∀ (t : ConnTxn κ γ ρ) (s : σ),
      behind B classify t s (execAll cmds) = runF B t s (cmds.map (fun c => classify (cmdFrame c))) := by
  induction cmds with
  | nil => intro t s; rfl
  | cons c cs ih =>
    intro t s
    simp only [execAll, List.map_cons, behind, runF]
    have := ih (stepFixed B [] t s (classify (cmdFrame c))).1 (stepFixed B [] t s (classify (cmdFrame c))).2.1
    simp only [execAll] at this
    rw [this]

/-- **the transaction machine sees exactly the commands, one each, in order — for every
    segmentation of the bytes and every configuration of the read loop** (C04's hypotheses:
    the fast paths are dead for well-formed frames, the repaired decoder, frames within the stack
    and buffer limits) -/
theorem wire_transaction (B : Backend σ κ γ ρ) (classify : Val → Input κ γ) (cfg : Config)
    (h14 : DeadCfg cfg) (hc : cfg.codec = codec1) (hd : 1 ≤ cfg.env.depth) (cmds : List Cmd)
    (segs : List Bytes) (h : segs.flatten = stream cmds) (hs : Small (stream cmds))
    (hmax : (stream cmds).length ≤ cfg.maxBuffer) (hok : ∀ c ∈ cmds, CmdOK cfg c)
    (t : ConnTxn κ γ ρ) (s : σ) :
    behind B classify t s (Conn.run cfg segs) = runF B t s (cmds.map (fun c => classify (cmdFrame c))) := by
  rw [C04.segmentation_independent_cmdok cfg h14 hc hd cmds segs h hs hmax hok]
  exact behind_execAll B classify cmds t s

/-- the machine does not look at the PATH that carried a frame (fast path, batch collector, generic
    decoder): outside MULTI a `GET` / `SET` taken by a special path is executed at once — which is
    what the machine does with a data command outside MULTI — and inside MULTI the special paths
    are switched off (`!self.in_transaction` at the batching gate and at `try_fast_path`; C04's
    model: `fastPath … inTx = .notFast`, `batchGate … ¬ inTx`) -/
theorem behind_noPath (B : Backend σ κ γ ρ) (classify : Val → Input κ γ) (acts : List Action) :
    ∀ (t : ConnTxn κ γ ρ) (s : σ),
      behind B classify t s (acts.map Action.noPath) = behind B classify t s acts := by
  induction acts with
  | nil => intro t s; rfl
  | cons a rest ih =>
    intro t s
    cases a with
    | _ => simp only [List.map_cons, Action.noPath, behind, ih]

/-- **the same for the tree since `fix:` de38a13** (HEADER_LEN = 13, the fast path and the batch
    collectors are ALIVE for well-formed GET / SET frames): whatever path carries a frame, for every
    segmentation and every batching configuration the machine sees exactly the commands, one each,
    in order -/
theorem wire_transaction_repaired (B : Backend σ κ γ ρ) (classify : Val → Input κ γ) (cfg : Config)
    (h13 : cfg.headerLen = 13) (hrep : cfg.repaired = true) (hg : cfg.nameGuard = true)
    (hc : cfg.codec = codec1) (hd : 2 ≤ cfg.env.depth) (hmb : cfg.maxBuffer < 72057594037927936)
    (cmds : List Cmd) (segs : List Bytes) (h : segs.flatten = stream cmds) (hs : Small (stream cmds))
    (hmax : (stream cmds).length ≤ cfg.maxBuffer) (t : ConnTxn κ γ ρ) (s : σ) :
    behind B classify t s (Conn.run cfg segs) = runF B t s (cmds.map (fun c => classify (cmdFrame c))) := by
  rw [← behind_noPath B classify (Conn.run cfg segs) t s,
    C04.segmentation_independent_repaired cfg h13 hrep hg hc hd hmb cmds segs h hs hmax]
  exact behind_execAll B classify cmds t s

/-- `runF` and `Txn.run` agree on inputs that are not protocol errors (the only input on which the
    pinned and the current tree differ) -/
theorem runF_eq_run (B : Backend σ κ γ ρ) (is : List (Input κ γ)) (hp : ∀ i ∈ is, i ≠ .protoErr) :
    ∀ (t : ConnTxn κ γ ρ) (s : σ), runF B t s is = Txn.run B t s (is.map (fun i => (i, []))) := by
  induction is with
  | nil => intro t s; rfl
  | cons i rest ih =>
    intro t s
    simp only [runF, List.map_cons, Txn.run]
    rw [stepFixed_eq_step B [] t s i (Or.inl (hp i (by simp))),
      ih (fun j hj => hp j (by simp [hj]))]

/-- **between MULTI and EXEC nothing has an effect or a result — at the level of bytes**: the
    connection is inside MULTI, the client sends any frames that do not end the transaction, cut into
    reads in any way: the store is untouched, the connection is still inside MULTI with its watch
    list untouched, every reply is QUEUED or an error -/
theorem wire_queued_has_no_effect (B : Backend σ κ γ ρ) (classify : Val → Input κ γ) (cfg : Config)
    (h14 : DeadCfg cfg) (hc : cfg.codec = codec1) (hd : 1 ≤ cfg.env.depth) (cmds : List Cmd)
    (segs : List Bytes) (h : segs.flatten = stream cmds) (hs : Small (stream cmds))
    (hmax : (stream cmds).length ≤ cfg.maxBuffer) (hok : ∀ c ∈ cmds, CmdOK cfg c)
    (t : ConnTxn κ γ ρ) (s : σ) (hin : t.inTxn = true)
    (hbody : ∀ c ∈ cmds, endsTxn (classify (cmdFrame c)) = false ∧ classify (cmdFrame c) ≠ .protoErr) :
    (behind B classify t s (Conn.run cfg segs)).2.1 = s ∧
    (behind B classify t s (Conn.run cfg segs)).1.inTxn = true ∧
    (behind B classify t s (Conn.run cfg segs)).1.watched = t.watched ∧
    ∀ r ∈ (behind B classify t s (Conn.run cfg segs)).2.2, isQueuedOrErr r = true := by
  rw [wire_transaction B classify cfg h14 hc hd cmds segs h hs hmax hok t s,
    runF_eq_run B _ (by
      intro i hi
      obtain ⟨c, hc', rfl⟩ := List.mem_map.mp hi
      exact (hbody c hc').2) t s]
  have := queued_has_no_effect σ κ γ ρ B t s ((cmds.map (fun c => classify (cmdFrame c))).map (fun i => (i, []))) hin (by
    intro e he
    obtain ⟨i, hi, rfl⟩ := List.mem_map.mp he
    obtain ⟨c, hc', rfl⟩ := List.mem_map.mp hi
    exact (hbody c hc').1)
  exact this

end

/-- a classifier for the demo below (what `Command::from_resp_zero_copy` + the handler's match do
    with these four frames) -/
def demoClassify : Val → Input Nat KV.Cmd
  | .array [.bulk [77, 85, 76, 84, 73]] => .multi
  | .array [.bulk [69, 88, 69, 67]] => .exec
  | .array [.bulk [83, 69, 84], .bulk [107], .bulk [49]] => .cmd (.set 1 [49])
  | .array [.bulk [71, 69, 84], .bulk [107]] => .cmd (.get 1)
  | _ => .parseErr

/-- `MULTI`, `SET k 1`, `GET k`, `EXEC` -/
def demoCmds : List Cmd := [[[77, 85, 76, 84, 73]], [[83, 69, 84], [107], [49]], [[71, 69, 84], [107]], [[69, 88, 69, 67]]]

/-- their bytes cut in the middle of the second frame, again inside the third, then byte by byte -/
def demoSegs : List Bytes :=
  [(stream demoCmds).take 25, ((stream demoCmds).drop 25).take 30] ++ (((stream demoCmds).drop 55).map (fun b => [b]))

/-- non-vacuity of the composition: ONE byte stream, cut as above, through the read loop of the
    pinned (`cfg14`) and of the current tree (`cfgR`: live fast paths), behind it the machine over the concrete store:
    `+OK +QUEUED +QUEUED *2 +OK $1` and `k = 1` -/
example :
    demoSegs.flatten = stream demoCmds ∧
    (behind KV.backend demoClassify ConnTxn.idle [] (Conn.run C04.cfg14 demoSegs)).2 =
      ([(1, .str [49])], [.ok, .queued, .queued, .results [.simple .ok, .bulk (some [49])]]) ∧
    (behind KV.backend demoClassify ConnTxn.idle [] (Conn.run C04.cfgR demoSegs)).2 =
      ([(1, .str [49])], [.ok, .queued, .queued, .results [.simple .ok, .bulk (some [49])]]) := by
  decide

end C05
end RedisVerif
