import RedisVerif.Model.GrammarElem
import RedisVerif.Props.C16Shape

/-!
# C16 — command arrays with elements that are not bulk strings

`Grammar.parseE` is the grammar of both RESP parsers on arrays of arbitrary elements (bulk string, integer, anything
else), built from the same tables and shape descriptors as `parseCmd`, with the element-level behaviour of the extract
helpers.  On arrays of bulk strings it is `parseCmd` (`parseE_bulk`), so every C16 theorem about `parseCmd` speaks about
`parseE` on such frames; the tie to both real parsers is the `PE` op of `Driver/C16.lean`.
-/
namespace RedisVerif
namespace C16

open Grammar

theorem extractE_bulk (a : Arg) (b : Bytes) : a.extractE (.bulk b) = a.extract b := rfl

theorem takeSlotsE_bulk : ∀ (as : List Arg) (vs : List Bytes),
    takeSlotsE as (vs.map .bulk) = (match takeSlots as vs with
      | .ok r => .ok (r.1, r.2.map Elem.bulk)
      | .error e => .error e) := by
  intro as
  induction as with
  | nil => intro vs; simp [takeSlotsE, takeSlots]
  | cons a as ih =>
    intro vs
    cases vs with
    | nil => simp [takeSlotsE, takeSlots]
    | cons v vs =>
      simp only [List.map_cons, takeSlotsE, takeSlots, extractE_bulk, ih vs, bind, Except.bind, pure, Except.pure]
      cases a.extract v with
      | error e => rfl
      | ok t => cases takeSlots as vs <;> rfl

theorem takeOptE_bulk : ∀ (as : List Arg) (vs : List Bytes),
    takeOptE as (vs.map .bulk) = (match takeOpt as vs with
      | .ok r => .ok (r.1, r.2.map Elem.bulk)
      | .error e => .error e) := by
  intro as
  induction as with
  | nil => intro vs; cases vs <;> simp [takeOptE, takeOpt]
  | cons a as ih =>
    intro vs
    cases vs with
    | nil => simp [takeOptE, takeOpt]
    | cons v vs =>
      simp only [List.map_cons, takeOptE, takeOpt, extractE_bulk, ih vs, bind, Except.bind, pure, Except.pure]
      cases a.extract v with
      | error e => rfl
      | ok t => cases takeOpt as vs <;> rfl

theorem extractAllE_bulk (a : Arg) : ∀ vs : List Bytes, extractAllE a (vs.map .bulk) = extractAll a vs := by
  intro vs
  induction vs with
  | nil => rfl
  | cons v vs ih => simp only [List.map_cons, extractAllE, extractAll, extractE_bulk, ih]

theorem extractPairsE_bulk (a b : Arg) : ∀ (n : Nat) (vs : List Bytes), vs.length ≤ n →
    extractPairsE a b (vs.map .bulk) = extractPairs a b vs := by
  intro n
  induction n with
  | zero => intro vs h; cases vs <;> simp_all [extractPairsE, extractPairs]
  | succ n ih =>
    intro vs h
    match vs with
    | [] => rfl
    | [_] => rfl
    | x :: y :: r =>
      simp only [List.map_cons, extractPairsE, extractPairs, extractE_bulk]
      rw [ih r (by simp at h; omega)]

theorem scanOptsE_bulk (tbl : List OptSpec) (unk : Bytes → Option BErr) : ∀ (n : Nat) (vs : List Bytes), vs.length ≤ n →
    scanOptsE tbl unk (vs.map .bulk) = scanOpts tbl unk vs := by
  intro n
  induction n with
  | zero => intro vs h; cases vs <;> simp_all [scanOptsE, scanOpts]
  | succ n ih =>
    intro vs h
    match vs with
    | [] => rfl
    | a :: rest =>
      have hr : rest.length ≤ n := by simp at h; omega
      simp only [List.map_cons]
      rw [scanOptsE, scanOpts]
      cases findOpt tbl (kw a) 0 with
      | none =>
        simp only
        cases unk (kw a) with
        | some e => rfl
        | none => exact ih rest hr
      | some io =>
        obtain ⟨idx, o⟩ := io
        simp only
        cases o.reject with
        | some f => rfl
        | none =>
          simp only
          match hv : o.vals with
          | [] => simp only [ih rest hr]
          | [k1] =>
            match rest with
            | [] => rfl
            | v1 :: rest' =>
              simp only [List.map_cons, extractE_bulk]
              rw [ih rest' (by simp at hr; omega)]
          | [k1, k2] =>
            match rest with
            | [] => rfl
            | [_] => rfl
            | v1 :: v2 :: rest' =>
              simp only [List.map_cons, extractE_bulk]
              rw [ih rest' (by simp at hr; omega)]
          | _ :: _ :: _ :: _ => rfl

theorem takeFlagsE_bulk (flags : List Bytes) : ∀ vs : List Bytes,
    takeFlagsE flags (vs.map .bulk) = .ok ((takeFlags flags vs).1, (takeFlags flags vs).2.map Elem.bulk) := by
  intro vs
  induction vs with
  | nil => rfl
  | cons a rest ih =>
    simp only [List.map_cons, takeFlagsE, takeFlags]
    by_cases hc : flags.contains (kw a) = true
    · simp only [hc, if_true, ih, bind, Except.bind, pure, Except.pure]
    · simp only [hc, Bool.false_eq_true, if_false, List.map_cons]

theorem all_isBulk_map (vs : List Bytes) : (vs.map Elem.bulk).all Elem.isBulk = true := by
  induction vs with
  | nil => rfl
  | cons v vs ih => simp [Elem.isBulk, ih]

theorem map_bytes_bulk (vs : List Bytes) : (vs.map Elem.bulk).map Elem.bytes = vs := by
  induction vs with
  | nil => rfl
  | cons v vs ih => simp [Elem.bytes, ih]

theorem tail_runE_bulk (t : Tail) (vs : List Bytes) : t.runE (vs.map .bulk) = t.run vs := by
  cases t with
  | none => simp [Tail.runE, Tail.run]
  | ignore => rfl
  | many a => simp only [Tail.runE, Tail.run, extractAllE_bulk, List.length_map]
  | pairs a b => simp only [Tail.runE, Tail.run, extractPairsE_bulk a b _ vs (Nat.le_refl _), List.length_map]
  | scan tbl unk => simp only [Tail.runE, Tail.run, scanOptsE_bulk tbl unk.fn _ vs (Nat.le_refl _)]
  | flagsPairs fl odd a b =>
    simp only [Tail.runE, Tail.run, takeFlagsE_bulk, bind, Except.bind, List.length_map,
      extractPairsE_bulk a b _ _ (Nat.le_refl _)]
  | raw => simp only [Tail.runE, Tail.run, map_bytes_bulk]

/-- the generic body on an all-bulk argument list is the generic body -/
theorem runGenE_bulk (d : GenDesc) (args : List Bytes) : runGenE d (args.map .bulk) = runGen d args := by
  unfold runGenE runGen
  simp only [List.length_map]
  cases d.dom.ok args.length with
  | false => rfl
  | true =>
    simp only [takeSlotsE_bulk, bind, Except.bind]
    cases takeSlots d.pre args with
    | error e => rfl
    | ok p =>
      simp only [takeOptE_bulk]
      cases takeOpt d.opt p.2 with
      | error e => rfl
      | ok o =>
        simp only [tail_runE_bulk, all_isBulk_map, Bool.not_true, Bool.and_false, Bool.false_eq_true, if_false]
        cases d.tail.run o.2 with
        | error e => rfl
        | ok tv =>
          simp only
          cases d.fin (p.1 ++ o.1) tv <;> simp [pure, Except.pure]

theorem spec_runE_bulk (s : Spec) (hd : aritySub s.arity s.body.gen.dom = true) (args : List Bytes) :
    s.runE (args.map .bulk) = s.run args := by
  rw [spec_run_gen s hd args]
  unfold Spec.runE
  simp only [List.length_map, runGenE_bulk]
  split
  · cases runGen s.body.gen args <;> rfl
  · rfl

/-- full statement: on arrays of bulk strings the element grammar is the grammar of C16, for every frame -/
theorem parseE_bulk (f : List Bytes) : parseE (f.map .bulk) = parseCmd f := by
  match f with
  | [] => rfl
  | name :: args =>
    simp only [parseE, parseCmd, List.map_cons, parseWithE, parseWith]
    cases he : findEntry table (kw name) with
    | none => rfl
    | some e =>
      cases e with
      | cmd s =>
        exact spec_runE_bulk s (List.all_eq_true.mp table_doms_ok _ (row_mem_cmd (findEntry_mem he))) args
      | family fam aerr subs dflt =>
        simp only
        match args with
        | [] => rfl
        | sub :: rest =>
          simp only [List.map_cons]
          cases hs : findSpec subs (kw sub) with
          | some s =>
            exact spec_runE_bulk s (List.all_eq_true.mp table_doms_ok _ (row_mem_sub (findEntry_mem he) (findSpec_mem hs))) rest
          | none =>
            simp only
            match rest with
            | [] => rfl
            | e :: r =>
              have : List.map (Elem.bytes ∘ Elem.bulk) r = r := by rw [← List.map_map, map_bytes_bulk]
              simp [Elem.isBulk, Elem.bytes, this]

/-- a command name that is not a bulk string is `Invalid command format` -/
theorem name_must_be_bulk (i : Int) (args : List Elem) :
    parseE (.int i :: args) = .error (.body (.lit .invalidFormat)) ∧
    parseE (.other :: args) = .error (.body (.lit .invalidFormat)) := ⟨rfl, rfl⟩

/-- integer elements: taken as they are by integer slots (`INCRBY k :5`, `EVAL s :1 k`, SETBIT offset and bit),
    cast by `extract_u64` (`SELECT :-1` is out of range), refused where a string is expected -/
theorem integer_elements :
    parseE [.bulk (s2b "INCRBY"), .bulk (s2b "k"), .int 5] = parseCmd [s2b "INCRBY", s2b "k", s2b "5"] ∧
    parseE [.bulk (s2b "EVAL"), .bulk (s2b "return 1"), .int 1, .bulk (s2b "k")] = parseCmd [s2b "EVAL", s2b "return 1", s2b "1", s2b "k"] ∧
    parseE [.bulk (s2b "SETBIT"), .bulk (s2b "k"), .int 7, .int 1] = parseCmd [s2b "SETBIT", s2b "k", s2b "7", s2b "1"] ∧
    parseE [.bulk (s2b "SELECT"), .int (-1)] = .error (.body (.lit .dbRange)) ∧
    parseE [.bulk (s2b "GET"), .int 5] = .error (.body (.lit .expectedBulk)) ∧
    parseE [.bulk (s2b "SPOP"), .bulk (s2b "k"), .int 2] = .error (.body (.lit .expectedBulk)) ∧
    parseE [.bulk (s2b "ZADD"), .bulk (s2b "z"), .int 1, .bulk (s2b "m")] = .error (.body (.lit .expectedBulk)) ∧
    parseE [.bulk (s2b "CONFIG"), .int 1] = .error (.body (.lit .expectedBulk)) ∧
    parseE [.bulk (s2b "SETBIT"), .bulk (s2b "k"), .other, .int 1] = .error (.body (.lit .bitOffset)) ∧
    parseE [.bulk (s2b "EVAL"), .bulk (s2b "s"), .int (-1), .other] = .error (.body (.lit .evalNegKeys)) ∧
    parseE [.bulk (s2b "EVAL"), .bulk (s2b "s"), .int 0, .other] = .error (.body (.lit .expectedBulk)) ∧
    parseE [.bulk (s2b "PING"), .bulk (s2b "x"), .other] = parseCmd [s2b "PING", s2b "x"] ∧
    parseE [.bulk (s2b "DEBUG"), .bulk (s2b "JMAP"), .int 1] = .error (.body (.lit .expectedBulk)) ∧
    parseE [.bulk (s2b "FUNCTION"), .bulk (s2b "LIST"), .int 1] = parseCmd [s2b "FUNCTION", s2b "LIST", s2b ""] := by
  decide +kernel

end C16
end RedisVerif
