import RedisVerif.Props.C14Bytes

/-!
# C14 — the checkpoint's data-length field: the last excluded position

`checkpoint_single_byte_corruption` (Props/C14Bytes.lean) covers every byte of a written checkpoint except
the 4-byte data-length field (48..52): "a changed length moves the footer — the footer checksum is then
computed over other bytes", which no property of CRC-32 excludes.  It does not have to: a LONGER announced
length makes `validate` fail on the size of the image, and a SHORTER one hands `load` a proper prefix of the
bincode encoding of the state — and no proper prefix of an encoding decodes (`bincode_truncated_state_rejected`,
a consequence of the decoder's `exact` law).  So a damaged length is ALWAYS an error, whatever the checksums
say, and with it EVERY byte position of a written checkpoint of a representable state is covered.  (The
analogue for a WAL entry is FALSE: `C10.length_bit_flip_counterexample` — there the reader does not
deserialise.)
-/
namespace RedisVerif
namespace C14

open Wal Codec Driver Concrete WalBytes Bincode

/-- an `Ok` of `readCheckpoint` means: the image is long enough for the announced length and the footer,
    and the announced slice deserialises -/
theorem readCheckpoint_ok {σ : Type} (crc : Bytes → Nat) (de : Bytes → Option σ) (data : Bytes) (s : σ)
    (h : readCheckpoint crc de data = .ok s) :
    52 + leVal ((data.drop 48).take 4) + 16 ≤ data.length ∧
    de ((data.drop 52).take (leVal ((data.drop 48).take 4))) = some s :=
  have ⟨_, _, _, _, _, hlen, _, _, _, _, hde⟩ := readCheckpoint_eq_ok.mp h
  ⟨hlen, hde⟩

/-- four bytes in place of the data-length field that announce ANOTHER length: always an error — the
    image is too short for a longer length, and a shorter one cuts the payload to a proper prefix,
    which the payload codec never decodes -/
theorem checkpoint_length_damage_detected {σ : Type} (crc : Bytes → Nat) (de : Bytes → Option σ)
    (hdr len4' payload foot : Bytes) (hh : hdr.length = 48) (h4 : len4'.length = 4) (hf : foot.length = 16)
    (hne : leVal len4' ≠ payload.length) (hpf : ∀ n, n < payload.length → de (payload.take n) = none) :
    IsErr (readCheckpoint crc de (hdr ++ (len4' ++ (payload ++ foot)))) := by
  obtain ⟨plen, _, p3, _, _⟩ := chk_parts hdr len4' payload foot hh h4
  cases hr : readCheckpoint crc de (hdr ++ (len4' ++ (payload ++ foot))) with
  | error e => exact ⟨e, rfl⟩
  | ok s =>
    exfalso
    obtain ⟨hlen, hde⟩ := readCheckpoint_ok crc de _ s hr
    rw [p3] at hlen hde
    rw [plen] at hlen
    have hlt : leVal len4' < payload.length := by omega
    have hdrop : (hdr ++ (len4' ++ (payload ++ foot))).drop 52 = payload ++ foot := by
      rw [← List.append_assoc]
      exact List.drop_left' (by simp [hh, h4])
    rw [hdrop, List.take_append_of_le_length (Nat.le_of_lt hlt)] at hde
    rw [hpf _ hlt] at hde
    cases hde

/-- ONE byte of a written checkpoint of a representable state replaced by any value at ANY position:
    an error, or exactly what the pristine image reads as — never different data -/
theorem checkpoint_any_single_byte_corruption (s : WState) (hs : state.ok s) (k t l p v : Nat)
    (hl : (state.enc s).length < 2 ^ 32) (hv : v < 256)
    (hp : p < (writeCheckpoint crc32 k t l (state.enc s)).length) :
    IsErr (readCheckpoint crc32 deState ((writeCheckpoint crc32 k t l (state.enc s)).set p v)) ∨
      readCheckpoint crc32 deState ((writeCheckpoint crc32 k t l (state.enc s)).set p v)
        = readCheckpoint crc32 deState (writeCheckpoint crc32 k t l (state.enc s)) := by
  have hb : ∀ x ∈ state.enc s, x < 256 := bytes_of_allBytes (lawful_state.enc_bytes s hs)
  by_cases hnl : p < 48 ∨ 52 ≤ p
  · exact checkpoint_single_byte_corruption deState k t l (state.enc s) p v hl hb hv hp hnl
  · -- the data-length field
    have hh : (chkHeader crc32 k t l).length = 48 := by
      rw [chkHeader_eq]; exact chkHeader_length _ _ _ _ _ _ rfl (by simp)
    obtain ⟨j, rfl⟩ : ∃ j, p = 48 + j := ⟨p - 48, by omega⟩
    have hj : j < 4 := by omega
    unfold writeCheckpoint
    have h1 := set_append_right (chkHeader crc32 k t l)
      (le 4 (state.enc s).length ++ (state.enc s ++ chkFooter crc32 (state.enc s))) j v
    rw [hh] at h1
    rw [h1, set_append_left _ _ _ _ (by rw [le_length]; exact hj)]
    have d : Dmg1 (le 4 (state.enc s).length) _ := ⟨j, v, hv, rfl⟩
    rcases d.le with hsame | hne
    · right; rw [hsame]
    · exact .inl (checkpoint_length_damage_detected crc32 deState _ _ _ _ hh (d.length.trans (le_length _ _))
        (chkFooter_length _ _) hne (bincode_truncated_state_rejected s hs))

end C14
end RedisVerif
