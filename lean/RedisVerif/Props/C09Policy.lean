import RedisVerif.Model.WalActor
import RedisVerif.Lemmas.WalPolicy
import RedisVerif.Props.C09

/-!
# C09, the other fsync policies — what `EverySecond` and `No` do and do NOT promise

`FsyncPolicy::EverySecond` / `No` (`run_everysec_mode`, `run_no_mode`) answer a write as soon as it
is appended.  The model (`Actor.stepP`) transcribes them; the theorems pin the WEAKER contract, so
that a change making `Always` behave like them (ack before fsync: breaks `C09.durable_survives`
and the correspondence) or making them behave like `Always` (breaks the witnesses below and the
correspondence) is noticed:

An EverySecond history drives the rotator — hence the store, the I/O call trace and EVERY crash image —
exactly like the Always-mode history in which each tick is a group-commit flush; the two modes differ
ONLY in when the answer is sent.  What a crash can lose is therefore bounded by (a) the writes since the
last tick's fsync call and (b) the batches whose tick fsync FAILED (that failure is only logged).  In No
mode the actor never calls `rotator.sync()`: the only fsyncs in a trace are those `rotate()` issues when
it closes a file.
-/
namespace RedisVerif
namespace C09

open Wal

/-- EverySecond = Always with ticks as flushes, as far as the disk is concerned -/
theorem everysec_disk_eq_always (φ : Nat → Outcome) (fmt : Format) (crc : Bytes → Nat) (maxSize : Nat)
    (evs : List Ev) :
    (Actor.runP .everySecond φ fmt crc maxSize evs).rot
      = (Actor.run true false φ fmt crc maxSize (evs.map Ev.asAlways)).rot ∧
    (Actor.runP .everySecond φ fmt crc maxSize evs).tbound
      = (Actor.run true false φ fmt crc maxSize (evs.map Ev.asAlways)).tbound := by
  have h := sameDisk_foldl φ fmt crc evs _ _ (link_init maxSize).1
  exact ⟨h.1, h.2.2⟩

/-- the fate of an early `Ok` is decided by the flush that the next tick is -/
theorem everysec_ack_fate (φ : Nat → Outcome) (fmt : Format) (crc : Bytes → Nat) (maxSize : Nat) (evs : List Ev) :
    (∀ r ∈ (Actor.run true false φ fmt crc maxSize (evs.map Ev.asAlways)).acks, r.res = .ok →
      ∃ r' ∈ (Actor.runP .everySecond φ fmt crc maxSize evs).acks,
        r'.id = r.id ∧ r'.entry = r.entry ∧ r'.res = .ok) ∧
    (∀ r' ∈ (Actor.runP .everySecond φ fmt crc maxSize evs).acks, r'.res = .ok →
      (r'.id, r'.entry) ∈ (Actor.run true false φ fmt crc maxSize (evs.map Ev.asAlways)).pending ∨
      ∃ r ∈ (Actor.run true false φ fmt crc maxSize (evs.map Ev.asAlways)).acks,
        r.id = r'.id ∧ r.entry = r'.entry) := by
  have h := link_foldl φ fmt crc evs _ _ (link_init maxSize).1 (link_init maxSize).2
  exact ⟨h.2.1, h.2.2⟩

/-- the weaker contract of EverySecond: once the fsync of the tick that follows a write has succeeded (= the
    Always history confirms it, at I/O index `r.io`), the write is recovered from the crash image
    at every later instant of the EverySecond run -/
theorem everysec_durable_once_tick_synced (fmt : Format) (crc : Bytes → Nat) (φ : Nat → Outcome)
    (maxSize : Nat) (evs : List Ev) (hw : ∀ ev ∈ evs, ev.Ok fmt crc) :
    ∀ r ∈ (Actor.run true false φ fmt crc maxSize (evs.map Ev.asAlways)).acks, r.res = .ok →
      ∀ t st, r.io ≤ t →
        (Actor.runP .everySecond φ fmt crc maxSize evs).rot.w.storeAt t = some st →
        r.entry ∈ durable fmt crc st ∨
          r.entry.ts < (Actor.runP .everySecond φ fmt crc maxSize evs).tbound := by
  intro r hr hok t st hle hst
  obtain ⟨h1, h2⟩ := everysec_disk_eq_always φ fmt crc maxSize evs
  rw [h1] at hst
  rw [h2]
  exact durable_survives fmt crc φ maxSize (evs.map Ev.asAlways)
    (fun ev hev => by
      obtain ⟨ev', hev', rfl⟩ := List.mem_map.mp hev
      exact asAlways_ok fmt crc ev' (hw ev' hev'))
    r hr hok t st hle hst

-- non-vacuity: write, tick (fsync succeeds): answered Ok early and confirmed by the ghost flush
example : ((Actor.run true false (fun _ => .ok) .v2 Driver.crc32 1000
    ([Ev.write w1, .tick].map Ev.asAlways)).acks.map (fun r => (r.id, r.res))) = [(1, .ok)] := by decide +kernel

/-- the answer is NOT a durability claim: one write, answered `Ok` after 3 I/O calls (create,
    header, entry), machine crash before any tick — recovery returns nothing -/
theorem everysec_ack_is_not_durable :
    ((Actor.runP .everySecond (fun _ => .ok) .v2 Driver.crc32 1000 [.write w1]).acks.map
      (fun r => (r.id, r.res, r.io))) = [(1, .ok, 3)] ∧
    durable .v2 Driver.crc32 (Actor.runP .everySecond (fun _ => .ok) .v2 Driver.crc32 1000 [.write w1]).rot.w.store = [] := by
  decide +kernel

/-- Always mode on the same history has NOT answered (the write waits for the group fsync) -/
theorem always_same_history_not_acked_before_sync :
    (Actor.runP .always (fun _ => .ok) .v2 Driver.crc32 1000 [.write w1]).acks = [] ∧
    ((Actor.runP .always (fun _ => .ok) .v2 Driver.crc32 1000 [.write w1]).pending.map (·.1)) = [1] := by
  decide +kernel

/-- … and after the tick it is durable (instance of `everysec_durable_once_tick_synced`) -/
theorem everysec_durable_after_tick_witness :
    (durable .v2 Driver.crc32
      (Actor.runP .everySecond (fun _ => .ok) .v2 Driver.crc32 1000 [.write w1, .tick]).rot.w.store).map (·.ts) = [1] := by
  decide +kernel

/-- observed, outside the property: the tick fsync fails (I/O call 3), the counter is reset, and
    three more ticks issue NO call at all — the write answered `Ok` is still not durable and will
    not be until another write arrives -/
theorem everysec_failed_tick_is_not_retried :
    let a := Actor.runP .everySecond (fun i => if i = 3 then .fail else .ok) .v2 Driver.crc32 1000
      [.write w1, .tick, .tick, .tick, .tick]
    a.rot.w.trace.length = 4 ∧ a.esync = 0 ∧ durable .v2 Driver.crc32 a.rot.w.store = [] ∧
      a.acks.map (fun r => (r.id, r.res)) = [(1, .ok)] := by
  decide +kernel

/-- … the next write's tick then covers both (same file) -/
theorem everysec_next_write_repairs_witness :
    (durable .v2 Driver.crc32
      (Actor.runP .everySecond (fun i => if i = 3 then .fail else .ok) .v2 Driver.crc32 1000
        [.write w1, .tick, .tick, .write w2, .tick]).rot.w.store).map (·.ts) = [1, 2] := by
  decide +kernel

/-! ## No mode -/

/-- `Rot.sync` is never called in No mode: the rotator after a step is the rotator after the
    append / truncation / restart alone (ticks, flushes and clean shutdowns leave it untouched) -/
theorem no_mode_never_syncs (φ : Nat → Outcome) (fmt : Format) (crc : Bytes → Nat) (a : Actor) (ev : Ev) :
    (Actor.stepP .no φ fmt crc a ev).rot =
      match ev with
      | .write w => (Rot.append true fmt φ a.rot (Entry.mk' fmt crc w.data w.ts)).1
      | .forget w => (Rot.append true fmt φ a.rot (Entry.mk' fmt crc w.data w.ts)).1
      | .tick => a.rot
      | .flush => a.rot
      | .truncate T => Rot.truncate fmt crc φ T a.rot
      | .reopen true reuse => Rot.reopen reuse { a.rot with w := a.rot.w.push (crashStore a.rot.w.store) .crash }
      | .reopen false reuse => Rot.reopen reuse a.rot := by
  cases ev with
  | write w =>
    simp only [Actor.stepP, Actor.handleWriteNow]
    cases Rot.append true fmt φ a.rot (Entry.mk' fmt crc w.data w.ts) with
    | mk r oe => cases oe <;> rfl
  | forget w =>
    simp only [Actor.stepP, Actor.handleWriteNow]
    cases Rot.append true fmt φ a.rot (Entry.mk' fmt crc w.data w.ts) with
    | mk r oe => cases oe <;> rfl
  | tick => rfl
  | flush => rfl
  | truncate T => rfl
  | reopen c r => cases c <;> rfl

/-- two writes and any number of ticks in one file: answered `Ok`, no fsync call in the trace,
    nothing durable -/
theorem no_mode_ack_is_not_durable :
    let a := Actor.runP .no (fun _ => .ok) .v2 Driver.crc32 1000 [.write w1, .tick, .write w2, .tick]
    a.acks.map (fun r => (r.id, r.res)) = [(2, .ok), (1, .ok)] ∧
      a.rot.w.trace = [.append 1 17 .ok, .append 1 17 .ok, .append 1 16 .ok, .create 1 true false] ∧
      durable .v2 Driver.crc32 a.rot.w.store = [] := by
  decide +kernel

/-- the only fsync a No-mode run ever issues is the one `rotate()` does when it closes a file
    (threshold 17: every entry its own file) — which makes the closed file durable -/
theorem no_mode_rotation_syncs_closed_file_witness :
    let a := Actor.runP .no (fun _ => .ok) .v2 Driver.crc32 17 [.write w1, .write w2]
    (durable .v2 Driver.crc32 a.rot.w.store).map (·.ts) = [1] ∧ Call.sync 1 true ∈ a.rot.w.trace := by
  decide +kernel

/-- EverySecond / No: every `write_durable` caller is answered exactly once, at once, in order -/
theorem policy_acks_exactly_once (p : Policy) (hp : p ≠ .always) (φ : Nat → Outcome) (fmt : Format) (crc : Bytes → Nat)
    (maxSize : Nat) (evs : List Ev) :
    (Actor.runP p φ fmt crc maxSize evs).pending = [] ∧
    (Actor.runP p φ fmt crc maxSize evs).acks.map (·.id) = (evs.flatMap Ev.ids).reverse := by
  have := runP_now_ids p hp φ fmt crc evs (Actor.init maxSize) rfl
  simpa [Actor.runP, Actor.init] using this

/-! ## the schedule of the real loop, `Shutdown` messages included -/

/-- bursts of mailbox messages handled at the top of the loop / inside the group-commit wait / in the
    drain loop, a `Shutdown` stopping the actor or (inside the wait) not, callers after a stop never
    handled: every write acknowledged `Ok` survives every crash — all bursts, batch sizes, faults -/
theorem durable_survives_bursts (fmt : Format) (crc : Bytes → Nat) (φ : Nat → Outcome) (maxSize maxEntries : Nat)
    (bs : List (List Msg)) (hb : ∀ g ∈ bs, ∀ m ∈ g, m.Ok fmt crc) :
    ∀ r ∈ (Sched.runBursts maxEntries φ fmt crc { a := Actor.init maxSize } bs).a.acks, r.res = .ok →
      ∀ t st, r.io ≤ t →
        (Sched.runBursts maxEntries φ fmt crc { a := Actor.init maxSize } bs).a.rot.w.storeAt t = some st →
        r.entry ∈ durable fmt crc st ∨
          r.entry.ts < (Sched.runBursts maxEntries φ fmt crc { a := Actor.init maxSize } bs).a.tbound :=
  survives_of_ainv (held_runBursts maxEntries φ bs _ (held_init fmt crc maxSize) hb).1

/-- a `Shutdown` inside the group-commit wait does NOT stop the actor (observed, outside the
    property): write 1 opens the wait, the shutdown is answered, write 2 is still handled and made
    durable; the same shutdown as the FIRST message of the burst stops it — write 1 is never handled -/
theorem shutdown_inside_wait_does_not_stop_witness :
    let s := Sched.runBursts 8 (fun _ => .ok) .v2 Driver.crc32 { a := Actor.init 1000 }
      [[.ev (.write w1), .shutdown, .ev (.write w2)]]
    s.alive = true ∧ s.a.acks.map (fun r => (r.id, r.res)) = [(2, .ok), (1, .ok)] ∧
    (let s' := Sched.runBursts 8 (fun _ => .ok) .v2 Driver.crc32 { a := Actor.init 1000 }
      [[.shutdown, .ev (.write w1)]]
     s'.alive = false ∧ s'.dropped = [1] ∧ s'.a.acks = []) := by decide +kernel

/-! ## the configuration constructors -/

/-- `WalConfig::always_fsync` and `WalConfig::test` select the policy `durable_survives` is about;
    `WalConfig::default` and `every_second` do NOT (they select the policy whose answer is not a
    durability claim) -/
theorem config_constructors_policy :
    Config.alwaysFsync.policy = .always ∧ Config.test.policy = .always ∧
    Config.default.policy = .everySecond ∧ Config.everySecondCfg.policy = .everySecond ∧
    Config.default.enabled = false := by decide

/-- the three serde names select three different policies; nothing else parses -/
theorem policy_names :
    Policy.ofName "Always" = some .always ∧ Policy.ofName "EverySecond" = some .everySecond ∧
    Policy.ofName "No" = some .no ∧ Policy.ofName "always" = none := by decide

end C09
end RedisVerif
