import RedisVerif.Lemmas.SortedSetZReads
import RedisVerif.Model.ExecutorCode
import RedisVerif.Lemmas.RedisX

/-!
# C01 — the data structures behind the commands REFINE the reference model

`Model.Redis` (M7) defines the sorted-set commands on a sorted list (`zInsert`, `zRemove`,
`zRankAux`, `slice ∘ lrangeNorm`, `filter inRange`, `applyLimit`), the list commands on `List`
(`slice ∘ lrangeNorm`, `listIdx`) and strings on byte lists.  /repo implements them with a skip list
(+ a member ↦ score map), a `VecDeque` with isize index arithmetic, and an inline/heap string.
`Model/SkipList.lean` and `Model/DataStructs.lean` transcribe that code (levels, spans, the
`update[]`/`rank[]` searches, span arithmetic of `insert_internal`/`delete_node`, level
bookkeeping, xorshift level generator, isize normalisation, representation switch at 23 bytes).

The theorems below say, for EVERY sequence of operations and EVERY choice of node levels
(`LevelOk lv`: any generator whose levels lie in 1..=32 — a different one may be used at every
step), that the transcription never panics, keeps its structure invariant, and that everything a
caller can observe equals the sorted-list operation of M7.  So M7's theorems about sorted-set
commands are theorems about the code's structure, up to the correspondence check that ties the
transcription to the real `RedisSortedSet` (harness/src/datax.rs: same operation sequences on the
real structure, observables AND the internal layout compared after every step).

The last two sections: the bit and glob arithmetic of the commands outside `Cmd` (SETBIT / GETBIT, KEYS
pattern), and the two commands on which the executor's code deviates from the specification (GETRANGE with
an inverted negative range, GETSET keeping the deadline): the deviating inputs are characterised exactly.
-/
namespace RedisVerif.C01Data
open RedisVerif RedisVerif.Redis RedisVerif.SkipList RedisVerif.DataStructs RedisVerif.ExecutorCode RedisVerif.RedisX

/-! ## the level generator of the code is one of the generators the theorems quantify over -/

theorem randomLevelAux_bounds : ∀ (f l : Nat) (s : UInt64),
    l ≤ (randomLevelAux f l s).1 ∧ (randomLevelAux f l s).1 ≤ l + f
  | 0, l, s => by simp [randomLevelAux]
  | f + 1, l, s => by
    simp only [randomLevelAux]
    split
    · simp
    · have := randomLevelAux_bounds f (l + 1) (xorshift s); omega

/-- `random_level` returns a level in `1..=SKIPLIST_MAXLEVEL` whatever the generator state -/
theorem randomLevel_ok : LevelOk randomLevel := by
  intro s
  have := randomLevelAux_bounds (maxLevel - 1) 1 s
  simp only [randomLevel, maxLevel] at *
  omega

/-! ## RedisSortedSet -/

/-- ZADD without NX/XX/GT/LT/CH -/
def noFlags : ZFlags := ⟨false, false, false, false, false⟩

/-- full statement: `add(member, score)` on a set that satisfies the invariant, whatever levels
    are drawn — no panic, invariant kept, `iter()` afterwards is M7's `zaddOne` list, the reply is
    "new member" -/
def C01_sortedset_add_refines : Prop :=
  ∀ (lv : LevelGen), LevelOk lv → ∀ (z : ZS), ZInv z → ∀ (m : BS) (sc : Score),
    ∃ z' b, add lv z m sc = some (z', b) ∧ ZInv z' ∧
      iter z'.sl = (zaddOne noFlags (iter z.sl) m sc).1 ∧
      b = decide ((zaddOne noFlags (iter z.sl) m sc).2.1 = 1)

theorem sortedset_add_refines : C01_sortedset_add_refines := by
  intro lv hlv z hz m sc
  obtain ⟨z', b, h1, h2, h3, h4⟩ := add_spec hlv hz m sc
  refine ⟨z', b, h1, h2, ?_, ?_⟩
  · rw [iter_eq_keys, iter_eq_keys, h3]
    simp only [zaddOne, noFlags]
    cases zScore (keys z.sl) m with
    | none => simp
    | some old => by_cases h : sc = old <;> simp [h]
  · rw [h4, iter_eq_keys]
    cases hs : zScore (keys z.sl) m with
    | none => simp [zaddOne, noFlags, hs]
    | some old => by_cases h : sc = old <;> simp [zaddOne, noFlags, hs, h]

def C01_sortedset_remove_refines : Prop :=
  ∀ (z : ZS), ZInv z → ∀ (m : BS),
    ∃ z' b, remove z m = some (z', b) ∧ ZInv z' ∧
      iter z'.sl = (zremAll (iter z.sl) [m]).1 ∧ b = decide ((zremAll (iter z.sl) [m]).2 = 1)

theorem sortedset_remove_refines : C01_sortedset_remove_refines := by
  intro z hz m
  obtain ⟨z', b, h1, h2, h3, h4⟩ := remove_spec hz m
  refine ⟨z', b, h1, h2, ?_, ?_⟩
  · rw [iter_eq_keys, iter_eq_keys, h3, zremAll_cons]
    rfl
  · rw [h4, iter_eq_keys]
    cases hs : zScore (keys z.sl) m <;> simp [zremAll, hs]

/-- everything a caller can read from the structure is the M7 operation on `iter()` -/
def C01_sortedset_reads_refine : Prop :=
  ∀ (z : ZS), ZInv z →
    (∀ m, SkipList.score z m = zScore (iter z.sl) m) ∧
    (∀ m, zrank z m = some (zRankAux (iter z.sl) m 0)) ∧
    (∀ a b, zrange z a b = some (slice (iter z.sl) (lrangeNorm (iter z.sl).length a b))) ∧
    (∀ a b, zrevRange z a b = some (slice (iter z.sl).reverse (lrangeNorm (iter z.sl).length a b))) ∧
    (len z = (iter z.sl).length ∧ skiplistLen z = (iter z.sl).length) ∧
    (∀ lo hi, countInRange z (some lo) (some hi) = some ((iter z.sl).filter (fun p => inRange lo hi p.2)).length) ∧
    (∀ lo hi lim, rangeByScore z (some lo) (some hi) lim =
      some (applyLimit ((iter z.sl).filter (fun p => inRange lo hi p.2)) lim)) ∧
    isSorted z = true ∧ ZCanon (iter z.sl)

theorem sortedset_reads_refine : C01_sortedset_reads_refine := by
  intro z hz
  refine ⟨fun m => hz.agree m, fun m => zrank_spec hz m, fun a b => zrange_spec hz a b,
    fun a b => zrevRange_spec hz a b, ⟨hz.lenEq, ?_⟩, fun _ _ => rfl, ?_, isSorted_spec hz, hz.canon⟩
  · simp [skiplistLen, hz.wf.len, iter]
  · intro lo hi lim
    cases lim with
    | none => rfl
    | some p => obtain ⟨off, cnt⟩ := p; simp only [rangeByScore, applyLimit]; split <;> rfl

/-- the operations a client of `RedisSortedSet` can perform that change it -/
inductive ZOp
  | add (m : BS) (sc : Score)
  | remove (m : BS)

def applyOp (lv : LevelGen) (z : ZS) : ZOp → Option ZS
  | .add m sc => (add lv z m sc).map (·.1)
  | .remove m => (remove z m).map (·.1)

/-- the sets reachable from `RedisSortedSet::new()`; the level generator may change at every step -/
inductive ZReach : ZS → Prop
  | new : ZReach ZS.new
  | step {z z' : ZS} (lv : LevelGen) (hlv : LevelOk lv) (op : ZOp) :
      ZReach z → applyOp lv z op = some z' → ZReach z'

theorem sortedset_reachable_inv {z : ZS} (h : ZReach z) : ZInv z := by
  induction h with
  | new => exact zinv_new
  | step lv hlv op _ happ ih =>
    cases op with
    | add m sc =>
      obtain ⟨z', b, h1, h2, _⟩ := add_spec hlv ih m sc
      simp only [applyOp, h1, Option.map_some, Option.some.injEq] at happ
      rw [← happ]; exact h2
    | remove m =>
      obtain ⟨z', b, h1, h2, _⟩ := remove_spec ih m
      simp only [applyOp, h1, Option.map_some, Option.some.injEq] at happ
      rw [← happ]; exact h2

/-- no reachable set can make an operation panic (missing node, slice index, usize underflow) -/
theorem sortedset_never_panics {z : ZS} (h : ZReach z) (lv : LevelGen) (hlv : LevelOk lv) (op : ZOp) :
    (applyOp lv z op).isSome = true ∧
    (∀ m, (zrank z m).isSome = true) ∧ (∀ a b, (zrange z a b).isSome = true) ∧
    (∀ a b, (zrevRange z a b).isSome = true) := by
  have hz := sortedset_reachable_inv h
  refine ⟨?_, fun m => by rw [zrank_spec hz]; rfl, fun a b => by rw [zrange_spec hz]; rfl,
    fun a b => by rw [zrevRange_spec hz]; rfl⟩
  cases op with
  | add m sc => obtain ⟨z', b, h1, _⟩ := add_spec hlv hz m sc; simp [applyOp, h1]
  | remove m => obtain ⟨z', b, h1, _⟩ := remove_spec hz m; simp [applyOp, h1]

/-- the structure invariant in every reachable state, spelled out: node heights in `1..=level`,
    `level = max(1, tallest node)`, `length` = number of nodes, every stored span (of the header
    below `level`, of every node at each of its levels) is the distance to the next node on that
    level (to the end of the list when there is none), keys strictly increasing -/
theorem sortedset_reachable_structure {z : ZS} (h : ZReach z) :
    (∀ t ∈ z.sl.towers, 1 ≤ t.spans.length ∧ t.spans.length ≤ z.sl.level) ∧
    (z.sl.level = 1 ∨ ∃ t ∈ z.sl.towers, t.spans.length = z.sl.level) ∧
    1 ≤ z.sl.level ∧ z.sl.level ≤ maxLevel ∧
    z.sl.length = z.sl.towers.length ∧
    (∀ j, j < z.sl.level → z.sl.hdr[j]? = some (distTo j z.sl.towers)) ∧
    (∀ k t, z.sl.towers[k]? = some t → ∀ j, j < t.spans.length →
      t.spans[j]? = some (distTo j (z.sl.towers.drop (k + 1)))) ∧
    z.sl.towers.Pairwise (fun a b => zLt a.key b.key = true) := by
  have hw := (sortedset_reachable_inv h).wf
  exact ⟨hw.spans.hts, hw.tight, hw.level_pos, hw.spans.L_le, hw.len, hw.spans.hdr, hw.spans.tw, hw.sorted⟩

/-- ZADD with several pairs through the structure -/
def addAll (lv : LevelGen) : ZS → List (BS × Score) → Option ZS
  | z, [] => some z
  | z, (m, sc) :: ps =>
    match add lv z m sc with
    | none => none
    | some (z', _) => addAll lv z' ps

/-- ZADD with several pairs (no flags) through the structure = `zaddAll` of M7 -/
theorem sortedset_zadd_lifts (lv : LevelGen) (hlv : LevelOk lv) :
    ∀ (ps : List (BS × Score)) (z : ZS), ZInv z →
      ∃ z', addAll lv z ps = some z' ∧ ZInv z' ∧ iter z'.sl = (zaddAll noFlags (iter z.sl) ps).1
  | [], z, hz => ⟨z, rfl, hz, rfl⟩
  | (m, sc) :: ps, z, hz => by
    obtain ⟨z1, b, h1, h2, h3, _⟩ := sortedset_add_refines lv hlv z hz m sc
    obtain ⟨z2, h4, h5, h6⟩ := sortedset_zadd_lifts lv hlv ps z1 h2
    exact ⟨z2, by simp [addAll, h1, h4], h5, by rw [h6, h3]; simp [zaddAll]⟩

/-- the loop of `execute_zadd` (sorted_set_ops.rs: per pair the NX / XX / GT / LT tests on the
    structure's `score()`, then `add`, the `added` / `changed` counters, CH) over the real structure
    = ZADD of the reference model, for every flag combination and every choice of levels -/
theorem execute_zadd_loop_refines (lv : LevelGen) (hlv : LevelOk lv) (f : ZFlags) (z : ZS) (hz : ZInv z)
    (ps : List (BS × Score)) :
    ∃ z' a c, zaddLoop lv f z ps = some (z', a, c) ∧ ZInv z' ∧
      iter z'.sl = (zaddAll f (iter z.sl) ps).1 ∧
      Reply.int (if f.ch then (c : Int) else a) = zaddReply f (zaddAll f (iter z.sl) ps) := by
  obtain ⟨z', a, c, h1, h2, h3, h4, h5⟩ := zaddLoop_spec hlv f ps hz
  refine ⟨z', a, c, h1, h2, h3, ?_⟩
  simp only [zaddReply, iter_eq_keys, h4, h5]
  split <;> simp

/-- … and the loop of `execute_zrem` = ZREM -/
theorem execute_zrem_loop_refines (z : ZS) (hz : ZInv z) (ms : List BS) :
    ∃ z' n, zremLoop z ms = some (z', n) ∧ ZInv z' ∧
      iter z'.sl = (zremAll (iter z.sl) ms).1 ∧ n = (zremAll (iter z.sl) ms).2 :=
  zremLoop_spec ms hz

/-! ### non-vacuity: a concrete set built with tall and short nodes -/

/-- a generator that always answers `h` -/
def lvConst (h : Nat) : LevelGen := fun s => (h, s)

example : LevelOk (lvConst 3) := fun _ => by simp [lvConst, maxLevel]

example : ZReach ZS.new := .new

-- ZADD z GT CH 5 a 1 b on {a:3, b:2}: a is raised (changed), b is not lowered
example :
    ((addAll (lvConst 2) ZS.new [([97], .fin 3), ([98], .fin 2)]).bind (fun z =>
      zaddLoop (lvConst 1) ⟨false, false, true, false, true⟩ z [([97], .fin 5), ([98], .fin 1)])).map
      (fun r => (iter r.1.sl, r.2)) = some ([([98], .fin 2), ([97], .fin 5)], 0, 1) := by decide


-- a(1) with 3 levels, b(2) with 1, c(0) with 2: level 3, header spans 1 1 2
example :
    (addAll (lvConst 3) ZS.new [([97], .fin 1)]).bind (fun z =>
      (addAll (lvConst 1) z [([98], .fin 2)]).bind (fun z =>
        (addAll (lvConst 2) z [([99], .fin 0)]).map (fun z =>
          (iter z.sl, z.sl.level, z.sl.hdr.take z.sl.level, z.sl.towers.map (·.spans)))))
    = some ([([99], .fin 0), ([97], .fin 1), ([98], .fin 2)], 3, [1, 1, 2], [[1, 1], [1, 1, 1], [0]]) := by
  decide

-- … then a is moved to the end with a 1-level node: the level shrinks to 2, spans are re-linked
example :
    (addAll (lvConst 3) ZS.new [([97], .fin 1)]).bind (fun z =>
      (addAll (lvConst 1) z [([98], .fin 2)]).bind (fun z =>
        (addAll (lvConst 2) z [([99], .fin 0)]).bind (fun z =>
          (addAll (lvConst 1) z [([97], .pinf)]).map (fun z =>
            (iter z.sl, z.sl.level, z.sl.hdr.take z.sl.level, z.sl.towers.map (·.spans))))))
    = some ([([99], .fin 0), ([98], .fin 2), ([97], .pinf)], 2, [1, 1], [[1, 2], [1], [0]]) := by
  decide

/-! ## RedisList -/

/-- `RedisList::range` / `trim` / `get` / `set` are LRANGE / LTRIM / LINDEX / LSET of M7 -/
theorem list_refines (l : RList) :
    (∀ a b, l.range a b = slice l (lrangeNorm l.length a b)) ∧
    (∀ a b, l.trim a b = slice l (lrangeNorm l.length a b)) ∧
    (∀ i, l.get i = match listIdx l.length i with | none => none | some n => l[n]?) ∧
    (∀ i v, l.set i v = (listIdx l.length i).map (fun n => List.set l n v)) ∧
    (∀ v, l.lpush v = pushOne .left l v ∧ l.rpush v = pushOne .right l v) ∧
    (l.lpop = match popSide .left l with | none => (none, l) | some (x, r) => (some x, r)) ∧
    (l.rpop = match popSide .right l with | none => (none, l) | some (x, r) => (some x, r)) :=
  ⟨rlist_range_refines l, rlist_trim_refines l, rlist_get_refines l, rlist_set_refines l,
   fun _ => ⟨rfl, rfl⟩, by cases l <;> rfl, by
     simp only [RList.rpop, popSide]; cases l.getLast? <;> rfl⟩

example : RList.range [[1], [2], [3]] (-2) 5 = [[2], [3]] := by decide
example : RList.trim [[1], [2], [3]] 2 1 = [] := by decide

/-! ## SDS -/

/-- the inline / heap representation is not observable: `append` is concatenation, `resize` is zero
    padding, `new` stores the bytes; well-formedness (inline length ≤ 23, 23-byte array) is kept -/
theorem sds_bytes :
    (∀ b, (Sds.new b).Wf ∧ (Sds.new b).asBytes = b) ∧
    (∀ s o : Sds, s.Wf → o.Wf → (s.append o).Wf ∧ (s.append o).asBytes = s.asBytes ++ o.asBytes ∧
      (s.append o).len = s.len + o.len) ∧
    (∀ (s : Sds) n, s.Wf → (s.resize n).Wf ∧ (s.resize n).asBytes = s.asBytes ++ zeros (n - s.len)) :=
  ⟨Sds.new_spec,
   fun _ _ hs ho => ⟨(Sds.append_spec hs ho).1, (Sds.append_spec hs ho).2, Sds.len_append hs ho⟩,
   fun _ n hs => Sds.resize_spec hs n⟩

/-- the representation boundary, exactly: inline iff it started inline and still fits in
    `SSO_MAX_LEN` = 23 bytes (a heap value never goes back inline) -/
theorem sds_representation_boundary :
    (∀ b, (Sds.new b).isInline = decide (b.length ≤ ssoMax)) ∧
    (∀ s o : Sds, (s.append o).isInline = (s.isInline && decide (s.len + o.len ≤ ssoMax))) ∧
    (∀ (s : Sds) n, s.Wf → (s.resize n).isInline = (s.isInline && decide (n ≤ ssoMax))) :=
  ⟨Sds.isInline_new, Sds.isInline_append, fun _ n hs => Sds.isInline_resize hs n⟩

example : ((Sds.new (List.replicate 22 7)).append (Sds.new [1])).isInline = true := by decide
example : ((Sds.new (List.replicate 23 7)).append (Sds.new [1])).isInline = false := by decide
example : ((Sds.heap [1, 2]).append (Sds.new [3])).isInline = false := by decide

/-! ## the commands outside `Cmd`: SETBIT / GETBIT, BatchSet / BatchGet, KEYS pattern (`Model/RedisX.lean`) -/

/-- the invariant of the keyspace survives them too -/
theorem x_inv_preserved (s : State) (now : Nat) (c : XCmd) (h : Inv s) : Inv (stepX s now c).1 :=
  inv_execX (inv_purge now h) c

/-- SETBIT writes exactly the addressed bit: reading it back gives the value written, every other
    bit of that byte is as before (bytes are < 256, bit positions < 8) -/
theorem setbit_laws : (∀ (b : Fin 256) (i : Fin 8) (bit : Fin 2), bitOf (withBit b.val i.val bit.val) i.val = bit.val) ∧
    (∀ (b : Fin 256) (i j : Fin 8) (bit : Fin 2), j ≠ i → bitOf (withBit b.val i.val bit.val) j.val = bitOf b.val j.val) :=
  ⟨bit_roundtrip, bit_others_kept⟩

-- SETBIT k 7 1 on a missing key creates "\x01" (no deadline) and replies 0; GETBIT reads it; an
-- existing key keeps its deadline; offset 2^32 is refused; wrong type
example : stepX [] 1000 (.setbit 1 7 1) = ([(1, ⟨.str [1], none⟩)], .int 0) := by decide
example : (stepX [(1, ⟨.str [1], some 5000⟩)] 1000 (.getbit 1 7)).2 = .int 1 := by decide
example : stepX [(1, ⟨.str [1], some 5000⟩)] 1000 (.setbit 1 9 1) =
    ([(1, ⟨.str [1, 64], some 5000⟩)], .int 0) := by decide
example : (stepX [] 1000 (.setbit 1 4294967296 1)).2 = .err .notInt := by decide
example : (stepX [(1, ⟨.list [[1]], none⟩)] 1000 (.getbit 1 0)).2 = .err .wrongType := by decide

/-- `KEYS *` lists everything -/
theorem glob_star_matches_everything (s : BS) : globMatch [42] s = true :=
  globFuel_star_all s _ (by simp; omega)

/-- a pattern without `*` `?` `[` `\` matches exactly itself -/
theorem glob_plain_matches_itself_only (p s : BS) (hp : ∀ x ∈ p, plainByte x) :
    globMatch p s = decide (p = s) :=
  globFuel_plain p s _ hp (by omega)

-- h?llo, h[ae]llo, h[^e]llo, h[a-b]llo with the ends swapped, an escaped star, a class that is not closed
example : globMatch [104, 63, 108] [104, 97, 108] = true := by decide
example : globMatch [104, 91, 97, 101, 93, 108] [104, 101, 108] = true := by decide
example : globMatch [104, 91, 94, 101, 93, 108] [104, 101, 108] = false := by decide
example : globMatch [91, 99, 45, 97, 93] [98] = true := by decide
example : globMatch [97, 92, 42] [97, 42] = true ∧ globMatch [97, 92, 42] [97, 98] = false := by decide
example : globMatch [91, 97, 98] [97] = true := by decide

/-! ## where the executor's code deviates from the specification (known findings, by cause) -/

/-- the class of GETRANGE arguments on which `execute_getrange` deviates from Redis -/
def GetRangeDeviates (len : Nat) (a b : Int) : Prop := a < 0 ∧ b < 0 ∧ a > b ∧ (len : Int) + a ≤ 0 ∧ 0 < len

theorem codeEnd_eq {len : Nat} (hl : len ≠ 0) (b : Int) :
    (if b < 0 then max ((len : Int) + b) 0 else min b ((len : Int) - 1)) = clampEnd len (normIdx len b) := by
  rw [clampEnd_eq_min]
  unfold normIdx
  by_cases hb : b < 0
  · rw [if_pos hb, if_pos hb]; omega
  · rw [if_neg hb, if_neg hb]

theorem codeRangeNorm_eq (len : Nat) (a b : Int) (h : ¬ GetRangeDeviates len a b) :
    codeRangeNorm len a b = rangeNorm len a b := by
  unfold codeRangeNorm rangeNorm
  by_cases hl : len = 0
  · rw [if_pos hl, if_pos (Or.inl hl), ite_self]
  · rw [if_neg hl, codeEnd_eq hl, ← normStart, normStart_eq]
    have hs := normIdx_nonneg len a
    have he := clampEnd_lt len (normIdx len b)
    by_cases hd : a < 0 ∧ b < 0 ∧ a > b
    · -- both indices negative and inverted: outside the deviating class the start is not clamped to 0,
      -- so it stays strictly behind the end and the code selects nothing either
      have : normIdx len b < normIdx len a := by
        unfold GetRangeDeviates at h
        unfold normIdx
        rw [if_pos hd.1, if_pos hd.2.1]
        omega
      rw [if_pos hd, clampEnd_eq_min, if_pos (by omega)]
    · rw [if_neg hd]
      generalize normIdx len a = s at hs ⊢
      generalize clampEnd len (normIdx len b) = e at he ⊢
      dsimp only
      by_cases hsl : s < len
      · rw [Int.min_eq_left (Int.le_of_lt hsl), Int.max_eq_left hs, Int.min_eq_left (a := e) (by omega)]
        exact ite_none_some_congr (by omega) (fun _ => rfl)
      · rw [Int.min_eq_right (by omega), if_pos (Or.inr (Int.le_refl _)), if_pos (Or.inr (by omega))]

theorem codeRangeNorm_deviates (len : Nat) (a b : Int) (h : GetRangeDeviates len a b) :
    codeRangeNorm len a b = some (0, 1) ∧ rangeNorm len a b = none := by
  obtain ⟨h1, h2, h3, h4, h5⟩ := h
  unfold codeRangeNorm rangeNorm
  constructor
  · rw [if_neg (by omega)]
    simp only [h1, h2, if_true]
    rw [if_neg (by omega)]
    simp only [Option.some.injEq, Prod.mk.injEq]; constructor <;> omega
  · rw [if_pos ⟨h1, h2, h3⟩]

/-- `execute_getrange` answers exactly as Redis outside the deviating class, and with the first
    byte instead of the empty string inside it -/
theorem getrange_code_vs_spec (s : State) (k : Nat) (a b : Int) :
    (∀ v dl, lookupStr s k = .found v dl → ¬ GetRangeDeviates v.length a b) →
    codeGetRange s k a b = execGetRange s k a b := by
  intro h
  unfold codeGetRange execGetRange
  cases hl : lookupStr s k with
  | missing => rfl
  | wrong => rfl
  | found v dl => simp only; rw [codeRangeNorm_eq _ _ _ (h v dl hl)]

theorem getrange_code_counterexample :
    codeGetRange [(1, ⟨.str [97, 98, 99], none⟩)] 1 (-100) (-200) ≠
      execGetRange [(1, ⟨.str [97, 98, 99], none⟩)] 1 (-100) (-200) := by decide

/-- `execute_getset` = GETSET of Redis except that the old deadline stays: same reply, same value,
    same keys; and identical when the key had no deadline -/
theorem getset_code_vs_spec (s : State) (k : Nat) (v : BS) :
    (codeGetSet s k v).2 = (execGetSet s k v).2 ∧
    (codeGetSet s k v).1.map (fun p => (p.1, p.2.val)) = (execGetSet s k v).1.map (fun p => (p.1, p.2.val)) ∧
    (oldDl s k = none → codeGetSet s k v = execGetSet s k v) := by
  unfold codeGetSet execGetSet oldDl
  cases hl : lookupStr s k with
  | missing => exact ⟨rfl, rfl, fun _ => rfl⟩
  | wrong => exact ⟨rfl, rfl, fun _ => rfl⟩
  | found b dl =>
    simp only
    refine ⟨trivial, ?_, ?_⟩
    · exact (NMap.mapVal_insert Entry.val k ⟨.str v, dl⟩ s).trans
        (NMap.mapVal_insert Entry.val k ⟨.str v, none⟩ s).symm
    · intro hd
      simp only [lookupStr] at hl
      cases hg : NMap.get s k with
      | none => rw [hg] at hl; cases hl
      | some e =>
        rw [hg] at hl hd
        simp only at hd hl
        cases hv : e.val <;> rw [hv] at hl <;> simp at hl
        rw [← hl.2, hd]

theorem getset_code_counterexample :
    codeGetSet [(1, ⟨.str [118], some 5000⟩)] 1 [119] ≠ execGetSet [(1, ⟨.str [118], some 5000⟩)] 1 [119] := by
  decide

end RedisVerif.C01Data
