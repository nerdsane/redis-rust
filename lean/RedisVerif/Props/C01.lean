import RedisVerif.Lemmas.RedisStep

/-!
# C01 — commands behave as Redis

Property text: "For every sequence of supported data commands (strings, counters, keys and
expiry, lists, sets, hashes, sorted sets) sent to one node while the clock advances arbitrarily,
each reply equals the reply Redis gives and the visible keyspace (key, type, value, remaining
TTL) equals Redis's after every step.  A key with a deadline is visible at every instant
strictly before the deadline and at no instant at or after it, and a collection that becomes
empty stops existing."

"Redis" = the reference model `Model.Redis` (M7), written from Redis' documented semantics.
"each reply / the keyspace equals Redis's" is the CORRESPONDENCE (real executor vs this model
on every step of generated sequences; each disagreement is a conformance finding with its own
signature).  The theorems below are about the model itself, for arbitrary states, commands and
clock values, by induction over command sequences where stated: the invariant (no empty
collection, canonical maps) in every reachable state; deadlines and visibility; emptied collections
vanish; decision tables for TTL / EXPIRE* flags / SET options / who clears or keeps a deadline;
range normalisation never reads outside the sequence; the INCR family accepts exactly the canonical
i64 strings and never wraps.
-/
namespace RedisVerif.C01
open RedisVerif RedisVerif.Redis

theorem inv_init : Inv Redis.init := inv_nil

theorem inv_preserved (s : State) (now : Nat) (c : Cmd) (h : Inv s) : Inv (step s now c).1 :=
  inv_exec (inv_purge now h) now c

theorem reachable_inv {s : State} (h : Reachable s) : Inv s := by
  induction h with
  | init => exact inv_init
  | step now c _ ih => exact inv_preserved _ now c ih

theorem run_inv (s : State) (cs : List (Nat × Cmd)) (h : Inv s) : Inv (run s cs).1 := by
  induction cs generalizing s with
  | nil => exact h
  | cons p cs ih =>
    obtain ⟨t, c⟩ := p
    exact ih _ (inv_preserved s t c h)

theorem visible_eq (s : State) (t k : Nat) :
    visible s t k = (NMap.get (purge s t) k).isSome := by
  unfold visible
  rw [get_view]
  cases NMap.get (purge s t) k <;> rfl

theorem visible_of_get {s : State} (hwf : NMap.WF s) {k : Nat} {e : Entry}
    (hg : NMap.get s k = some e) (t : Nat) : visible s t k = live t e := by
  rw [visible_eq, get_purge hwf, hg]
  cases h : live t e <;> simp [Option.filter, h]

/-- full statement: a key with deadline `d` is visible at every instant strictly before `d` and
    at no instant at or after it -/
def C01_deadline_visibility : Prop :=
  ∀ (s : State), Reachable s → ∀ (k : Nat) (e : Entry) (d : Nat),
    NMap.get s k = some e → e.dl = some d →
    ∀ t : Nat, (t < d → visible s t k = true) ∧ (d ≤ t → visible s t k = false)

theorem deadline_visibility : C01_deadline_visibility := by
  intro s hr k e d hg hd t
  rw [visible_of_get (reachable_inv hr).1 hg, live, hd]
  exact ⟨fun h => decide_eq_true h, fun h => decide_eq_false (Nat.not_lt.mpr h)⟩

theorem no_deadline_always_visible {s : State} (hr : Reachable s) {k : Nat} {e : Entry}
    (hg : NMap.get s k = some e) (hd : e.dl = none) (t : Nat) : visible s t k = true := by
  rw [visible_of_get (reachable_inv hr).1 hg, live, hd]

theorem absent_never_visible {s : State} (hr : Reachable s) {k : Nat}
    (hg : NMap.get s k = none) (t : Nat) : visible s t k = false := by
  rw [visible_eq, get_purge (reachable_inv hr).1, hg]; rfl

/-- `visible` is what EVERY command observes: reply and successor state of every command are a
    function of the visible keyspace `view s now` only (so no command can see a dead key) -/
theorem reads_depend_on_view_only (s s' : State) (now : Nat) (c : Cmd)
    (h : view s now = view s' now) : step s now c = step s' now c := by
  unfold step; rw [purge_of_view h]

/-- concretely: what the read commands (and DEL's count) say about an invisible key -/
theorem invisible_reads {s : State} {t k : Nat} (h : visible s t k = false) :
    (step s t (.get k)).2 = .nil ∧
    (step s t (.exists [k])).2 = .int 0 ∧
    (step s t (.type k)).2 = .simple "none" ∧
    (step s t (.ttl k)).2 = .int (-2) ∧
    (step s t (.pttl k)).2 = .int (-2) ∧
    (step s t (.strlen k)).2 = .int 0 ∧
    (step s t (.mget [k])).2 = .arr [.nil] ∧
    (step s t (.del [k])).2 = .int 0 ∧
    (step s t (.persist k)).2 = .int 0 ∧
    (step s t (.pexpireat k 5 ⟨false, false, false, false⟩)).2 = .int 0 := by
  rw [visible_eq] at h
  have hg : NMap.get (purge s t) k = none := by
    cases hh : NMap.get (purge s t) k with
    | none => rfl
    | some _ => rw [hh] at h; cases h
  simp [step, exec, execGet, execExists, execType, execTtl, execPTtl, execStrLen, execMGet,
    mgetElem, execDel, delKeys, execPersist, execPExpireAt, expireAt, flagsCompatible, ttlReply,
    lookupStr, hg]

/-- …and about a visible one -/
theorem visible_reads {s : State} {t k : Nat} (h : visible s t k = true) :
    (step s t (.exists [k])).2 = .int 1 ∧
    (step s t (.type k)).2 ≠ .simple "none" ∧
    (step s t (.del [k])).2 = .int 1 ∧
    (step s t (.ttl k)).2 ≠ .int (-2) := by
  rw [visible_eq] at h
  obtain ⟨e, hg⟩ := Option.isSome_iff_exists.mp h
  obtain ⟨v, dl⟩ := e
  refine ⟨?_, ?_, ?_, ?_⟩
  · simp [step, exec, execExists, hg]
  · simp only [step, exec, execType, hg]
    cases v <;> simp [typeName]
  · simp [step, exec, execDel, delKeys, hg]
  · simp only [step, exec, execTtl, ttlReply, hg]
    cases dl <;> simp <;> omega

/-- full statement: after any step from a reachable state no key maps to an empty list / set /
    hash / sorted set — an emptied collection is not stored, so `EXISTS` says 0 and `TYPE` none -/
def C01_empty_collection_vanishes : Prop :=
  ∀ (s : State), Reachable s → ∀ (now : Nat) (c : Cmd) (k : Nat) (e : Entry),
    NMap.get (step s now c).1 k = some e →
    e.val ≠ .list [] ∧ e.val ≠ .set [] ∧ e.val ≠ .hash [] ∧ e.val ≠ .zset []

theorem empty_collection_vanishes : C01_empty_collection_vanishes := by
  intro s hr now c k e hg
  have hv := inv_get (inv_preserved s now c (reachable_inv hr)) hg
  refine ⟨?_, ?_, ?_, ?_⟩ <;> intro h <;> rw [h] at hv <;> simp [ValueOk] at hv

/-- TTL / PTTL / EXPIRETIME / PEXPIRETIME as a function of the visible keyspace:
    −2 missing, −1 no deadline, else ⌊(ms+500)/1000⌋ resp. ms -/
theorem ttl_laws (s : State) (now k : Nat) :
    (step s now (.ttl k)).2 =
      (match NMap.get (view s now) k with
       | none => .int (-2)
       | some ve => match ve.ttl with
         | none => .int (-1)
         | some r => .int ((r + 500) / 1000 : Nat)) ∧
    (step s now (.pttl k)).2 =
      (match NMap.get (view s now) k with
       | none => .int (-2)
       | some ve => match ve.ttl with
         | none => .int (-1)
         | some r => .int (r : Nat)) := by
  rw [get_view]
  simp only [step, exec, execTtl, execPTtl, ttlReply, roundSecs]
  cases NMap.get (purge s now) k with
  | none => exact ⟨rfl, rfl⟩
  | some e =>
    obtain ⟨v, dl⟩ := e
    cases dl <;> exact ⟨rfl, rfl⟩

/-- the absolute variants never depend on the clock -/
theorem expiretime_table (s : State) (k : Nat) (e : Entry) (h : NMap.get s k = some e) :
    (execExpireTime s k).2 = (match e.dl with | none => .int (-1) | some d => .int ((d + 500) / 1000 : Nat)) ∧
    (execPExpireTime s k).2 = (match e.dl with | none => .int (-1) | some d => .int (d : Nat)) := by
  obtain ⟨v, dl⟩ := e
  cases dl <;> simp [execExpireTime, execPExpireTime, ttlReply, roundSecs, h]

/-- NX / XX / GT / LT, one flag at a time (`cur = none` = persistent = infinite TTL) -/
theorem flags_table (cur : Option Nat) (w : Int) :
    flagsPass ⟨false, false, false, false⟩ cur w = true ∧
    (flagsPass ⟨true, false, false, false⟩ cur w = true ↔ cur = none) ∧
    (flagsPass ⟨false, true, false, false⟩ cur w = true ↔ cur ≠ none) ∧
    (flagsPass ⟨false, false, true, false⟩ cur w = true ↔ ∃ c, cur = some c ∧ (c : Int) < w) ∧
    (flagsPass ⟨false, false, false, true⟩ cur w = true ↔ ∀ c, cur = some c → w < (c : Int)) ∧
    (flagsPass ⟨false, true, true, false⟩ cur w = true ↔ ∃ c, cur = some c ∧ (c : Int) < w) ∧
    (flagsPass ⟨false, true, false, true⟩ cur w = true ↔ ∃ c, cur = some c ∧ w < (c : Int)) := by
  cases cur with
  | none => simp [flagsPass]
  | some c =>
    simp only [flagsPass, Bool.and_true, Bool.not_false, Bool.true_and, Bool.false_and,
      Bool.not_true, Bool.and_self]
    refine ⟨trivial, by simp, by simp, ?_, ?_, ?_, ?_⟩ <;> simp <;> omega

/-- EXPIRE-family outcome once the requested absolute deadline `w` is known (purged state):
    missing → 0; flags fail → 0, nothing changes; `w ≤ now` → the key is deleted, 1 (flags are
    evaluated FIRST); else the deadline becomes `w`, value untouched, 1 -/
theorem expire_table (s : State) (hwf : NMap.WF s) (now k : Nat) (w : Int) (f : ExpFlags) :
    (NMap.get s k = none → expireAt s now k w f = (s, .int 0)) ∧
    (∀ e, NMap.get s k = some e → flagsPass f e.dl w = false → expireAt s now k w f = (s, .int 0)) ∧
    (∀ e, NMap.get s k = some e → flagsPass f e.dl w = true → w ≤ now →
        (expireAt s now k w f).2 = .int 1 ∧ NMap.get (expireAt s now k w f).1 k = none) ∧
    (∀ e, NMap.get s k = some e → flagsPass f e.dl w = true → (now : Int) < w →
        (expireAt s now k w f).2 = .int 1 ∧
        NMap.get (expireAt s now k w f).1 k = some ⟨e.val, some w.toNat⟩) := by
  refine ⟨?_, ?_, ?_, ?_⟩
  · intro h; simp [expireAt, h]
  · intro e h hf; simp [expireAt, h, hf]
  · intro e h hf hw
    simp [expireAt, h, hf, hw, NMap.get_erase hwf]
  · intro e h hf hw
    have : ¬ w ≤ now := by omega
    simp [expireAt, h, hf, this, NMap.get_insert]

/-- how EXPIRE / PEXPIRE / EXPIREAT / PEXPIREAT compute the absolute deadline, and when they
    reject the argument ("invalid expire time": overflow of the ms conversion / of `now + x`) -/
theorem expire_arg_table (s : State) (now k : Nat) (v : Int) (f : ExpFlags)
    (hf : flagsCompatible f = true) :
    (execExpire s now k v f =
      if v > i64MaxDiv1000 ∨ v < i64MinDiv1000 ∨ v * 1000 > i64Max - now then (s, .err .invalidExpire)
      else expireAt s now k (v * 1000 + now) f) ∧
    (execPExpire s now k v f =
      if v > i64Max - now then (s, .err .invalidExpire) else expireAt s now k (v + now) f) ∧
    (execExpireAt s now k v f =
      if v > i64MaxDiv1000 ∨ v < i64MinDiv1000 then (s, .err .invalidExpire)
      else expireAt s now k (v * 1000) f) ∧
    (execPExpireAt s now k v f = expireAt s now k v f) := by
  simp only [execExpire, execPExpire, execExpireAt, execPExpireAt, hf]
  refine ⟨?_, ?_, ?_, ?_⟩
  · by_cases h1 : v > i64MaxDiv1000 ∨ v < i64MinDiv1000 <;>
      by_cases h2 : v * 1000 > i64Max - now <;> simp [h1, h2]
  · simp
  · simp
  · simp

/-- the expire argument of SET / GETEX: EX/PX are relative to `now`, EXAT/PXAT absolute; values
    ≤ 0 and values whose ms conversion or sum with `now` leaves i64 are rejected -/
theorem set_expire_arg_table (now : Nat) (v : Int) :
    (v ≤ 0 → setPlan now (.ex v) = .invalid ∧ setPlan now (.px v) = .invalid ∧
             setPlan now (.exat v) = .invalid ∧ setPlan now (.pxat v) = .invalid) ∧
    (0 < v → v ≤ i64MaxDiv1000 → v * 1000 + now ≤ i64Max →
        setPlan now (.ex v) = .at (v.toNat * 1000 + now)) ∧
    (0 < v → v + now ≤ i64Max → setPlan now (.px v) = .at (v.toNat + now)) ∧
    (0 < v → v ≤ i64MaxDiv1000 → setPlan now (.exat v) = .at (v.toNat * 1000)) ∧
    (0 < v → v ≤ i64Max → setPlan now (.pxat v) = .at v.toNat) ∧
    (v > i64MaxDiv1000 → setPlan now (.ex v) = .invalid ∧ setPlan now (.exat v) = .invalid) ∧
    (v + now > i64Max → setPlan now (.px v) = .invalid) ∧
    setPlan now .none = .clear ∧ setPlan now .keepttl = .keep := by
  simp only [setPlan, absDeadline, i64MaxDiv1000, i64Max]
  refine ⟨?_, ?_, ?_, ?_, ?_, ?_, ?_, trivial, trivial⟩
  · intro h; simp [h, planOfOpt]
  · intro h1 h2 h3
    have a : ¬ v ≤ 0 := by omega
    have b : ¬ v > 9223372036854775 := by omega
    have c : ¬ v * 1000 + (now : Int) > 9223372036854775807 := by omega
    simp only [a, b, c, if_false, decide_false, Bool.and_false, if_true, planOfOpt,
      Bool.false_eq_true]
    congr 1; omega
  · intro h1 h2
    have a : ¬ v ≤ 0 := by omega
    have c : ¬ v + (now : Int) > 9223372036854775807 := by omega
    simp only [a, c, if_false, Bool.false_and, if_true, planOfOpt, Bool.false_eq_true]
    congr 1; omega
  · intro h1 h2
    have a : ¬ v ≤ 0 := by omega
    have b : ¬ v > 9223372036854775 := by omega
    have c : ¬ v * 1000 > 9223372036854775807 := by omega
    simp only [a, b, c, if_false, decide_false, Bool.and_false, if_true, planOfOpt,
      Bool.false_eq_true]
    congr 1; omega
  · intro h1 h2
    have a : ¬ v ≤ 0 := by omega
    have c : ¬ v > 9223372036854775807 := by omega
    simp [a, c, planOfOpt]
  · intro h
    have a : ¬ v ≤ 0 := by omega
    simp [a, h, planOfOpt]
  · intro h
    by_cases a : v ≤ 0
    · simp [a, planOfOpt]
    · simp [a, h, planOfOpt]

/-- SET decision table.  With a valid expire argument and no WRONGTYPE (only possible with GET):
    NX on an existing key / XX on a missing key change nothing and answer nil (or the old value
    with GET); otherwise the key holds the new string and its deadline is: cleared by default,
    kept by KEEPTTL, set by EX/PX/EXAT/PXAT. -/
theorem set_table (s : State) (now k : Nat) (v : BS) (c : SetCond) (e : SetExp) (g : Bool)
    (hvalid : setPlan now e ≠ .invalid) (hty : (g && wrongStr s k) = false) :
    ((c = .nx ∧ (NMap.get s k).isSome = true ∨ c = .xx ∧ (NMap.get s k).isSome = false) →
        execSet s now k v c e g = (s, if g then oldStrReply s k else .nil)) ∧
    (¬ (c = .nx ∧ (NMap.get s k).isSome = true ∨ c = .xx ∧ (NMap.get s k).isSome = false) →
        NMap.get (execSet s now k v c e g).1 k =
          some ⟨.str v, match setPlan now e with
                        | .keep => oldDl s k
                        | .at d => some d
                        | _ => none⟩ ∧
        (execSet s now k v c e g).2 = (if g then oldStrReply s k else .ok)) := by
  have hp : planDl (setPlan now e) (oldDl s k) =
      (match setPlan now e with | .keep => oldDl s k | .at d => some d | _ => none) := by
    unfold planDl; rfl
  constructor
  · intro h
    have : (c == SetCond.nx && (NMap.get s k).isSome || c == SetCond.xx && !(NMap.get s k).isSome) = true := by
      rcases h with ⟨h1, h2⟩ | ⟨h1, h2⟩ <;> subst h1 <;> simp [h2]
    rw [execSet, if_neg hvalid, setCore, hty]
    simp only [Bool.false_eq_true, if_false, this, if_true]
  · intro h
    have : (c == SetCond.nx && (NMap.get s k).isSome || c == SetCond.xx && !(NMap.get s k).isSome) = false := by
      cases c <;> cases hh : (NMap.get s k).isSome <;> simp_all
    rw [execSet, if_neg hvalid, setCore, hty]
    simp only [Bool.false_eq_true, if_false, this, NMap.get_insert, if_true, hp, and_self]

/-- commands that OVERWRITE a key clear its deadline … -/
theorem overwrite_clears_deadline (s : State) (k : Nat) (v : BS) :
    (∀ b dl, lookupStr s k = .found b dl →
        NMap.get (execGetSet s k v).1 k = some ⟨.str v, none⟩) ∧
    NMap.get (execMSet s [(k, v)]).1 k = some ⟨.str v, none⟩ ∧
    (NMap.get s k = none → NMap.get (execSetNx s k v).1 k = some ⟨.str v, none⟩) := by
  refine ⟨?_, ?_, ?_⟩
  · intro b dl h; simp [execGetSet, h, NMap.get_insert]
  · simp [execMSet, msetAll, NMap.get_insert]
  · intro h; simp [execSetNx, h, NMap.get_insert]

/-- … commands that MODIFY a string in place keep it -/
theorem modify_keeps_deadline (s : State) (k : Nat) (b : BS) (dl : Option Nat)
    (h : lookupStr s k = .found b dl) :
    (∀ v, NMap.get (execAppend s k v).1 k = some ⟨.str (b ++ v), dl⟩) ∧
    (∀ d n, parseCanon b = some n → inI64 (n + d) = true →
        NMap.get (execIncrBy s k d).1 k = some ⟨.str (showInt (n + d)), dl⟩) ∧
    (∀ off v, v ≠ [] → off + v.length ≤ maxStrLen →
        NMap.get (execSetRange s k off v).1 k = some ⟨.str (overlay b off v), dl⟩) := by
  refine ⟨?_, ?_, ?_⟩
  · intro v; simp [execAppend, h, NMap.get_insert]
  · intro d n hn hi; simp [execIncrBy, h, hn, hi, NMap.get_insert]
  · intro off v hv hl
    have : ¬ off + v.length > maxStrLen := by omega
    simp [execSetRange, h, hv, this, NMap.get_insert]

/-- RENAME moves value AND deadline; the destination's own deadline is discarded -/
theorem rename_moves_deadline (s : State) (hwf : NMap.WF s) (a b : Nat) (e : Entry)
    (h : NMap.get s a = some e) (hab : a ≠ b) :
    NMap.get (execRename s a b).1 b = some e ∧ NMap.get (execRename s a b).1 a = none := by
  simp [execRename, h, hab, NMap.get_insert, NMap.get_erase hwf]

/-- PERSIST: 1 iff a deadline was removed -/
theorem persist_table (s : State) (k : Nat) :
    (NMap.get s k = none → execPersist s k = (s, .int 0)) ∧
    (∀ e, NMap.get s k = some e → e.dl = none → execPersist s k = (s, .int 0)) ∧
    (∀ e d, NMap.get s k = some e → e.dl = some d →
        (execPersist s k).2 = .int 1 ∧ NMap.get (execPersist s k).1 k = some ⟨e.val, none⟩) := by
  refine ⟨?_, ?_, ?_⟩
  · intro h; simp [execPersist, h]
  · intro e h hd; simp [execPersist, h, hd]
  · intro e d h hd; simp [execPersist, h, hd, NMap.get_insert]

/-- GETRANGE normalisation is total and never reads outside the string: the slice
    `[start, start+count)` lies inside `[0, len)` and is non-empty whenever it is `some` -/
theorem index_laws (len : Nat) (a b : Int) (st n : Nat)
    (h : rangeNorm len a b = some (st, n)) : 0 < n ∧ st + n ≤ len := by
  unfold rangeNorm at h
  split at h
  · cases h
  · have hs := normIdx_nonneg len a
    have he := normIdx_nonneg len b
    have hc := clampEnd_lt len (normIdx len b)
    have hc' := clampEnd_ge len (normIdx len b) he
    split at h
    · cases h
    · rename_i h2
      simp only [Option.some.injEq, Prod.mk.injEq] at h
      obtain ⟨h3, h4⟩ := h
      omega

/-- the reply is a contiguous piece of the stored string -/
theorem slice_is_infix (v : BS) (r : Option (Nat × Nat)) : (slice v r) <:+: v := by
  unfold slice
  cases r with
  | none => exact List.nil_infix
  | some p =>
    obtain ⟨st, n⟩ := p
    exact List.IsInfix.trans (List.take_prefix _ _).isInfix (List.drop_suffix _ _).isInfix

theorem rangeNorm_examples :
    rangeNorm 5 0 (-1) = some (0, 5) ∧ rangeNorm 5 (-3) (-1) = some (2, 3) ∧
    rangeNorm 5 0 100 = some (0, 5) ∧ rangeNorm 5 3 1 = none ∧ rangeNorm 5 (-1) (-5) = none ∧
    rangeNorm 5 (-100) (-200) = none ∧ rangeNorm 5 (-100) (-5) = some (0, 1) ∧
    rangeNorm 0 0 (-1) = none ∧ rangeNorm 5 7 9 = none := by decide

/-- LRANGE / LTRIM normalisation never selects outside the list -/
theorem list_index_laws (len : Nat) (a b : Int) (st n : Nat)
    (h : lrangeNorm len a b = some (st, n)) : 0 < n ∧ st + n ≤ len := by
  unfold lrangeNorm at h
  have hs := normIdx_nonneg len a
  by_cases hc : normIdx len a > (if b < 0 then b + len else b) ∨ normIdx len a ≥ len
  · rw [if_pos hc] at h; cases h
  · rw [if_neg hc] at h
    simp only [Option.some.injEq, Prod.mk.injEq] at h
    obtain ⟨h3, h4⟩ := h
    unfold clampEnd at h4
    split at h4 <;> omega

/-- LINDEX / LSET address an existing position or nothing -/
theorem listIdx_in_bounds (len : Nat) (i : Int) (n : Nat) (h : listIdx len i = some n) : n < len := by
  unfold listIdx at h
  simp only at h
  by_cases hc : (if i < 0 then i + len else i) < 0 ∨ (if i < 0 then i + len else i) ≥ len
  · rw [if_pos hc] at h; cases h
  · rw [if_neg hc] at h
    simp only [Option.some.injEq] at h
    omega

theorem lrangeNorm_examples :
    lrangeNorm 5 0 (-1) = some (0, 5) ∧ lrangeNorm 5 (-2) (-1) = some (3, 2) ∧
    lrangeNorm 5 (-100) 100 = some (0, 5) ∧ lrangeNorm 5 2 1 = none ∧ lrangeNorm 5 5 10 = none ∧
    lrangeNorm 5 0 (-6) = none ∧ lrangeNorm 5 (-100) (-5) = some (0, 1) ∧ lrangeNorm 0 0 (-1) = none := by
  decide

theorem lookupList_found {s : State} {k : Nat} {l : List BS} {dl : Option Nat}
    (h : lookupList s k = .found l dl) : NMap.get s k = some ⟨.list l, dl⟩ := by
  unfold lookupList at h
  split at h
  · cases h
  · rename_i e he
    obtain ⟨v, d⟩ := e
    cases v <;> cases h
    exact he

/-- a list that loses its last element stops existing (LPOP, RPOP, LTRIM to nothing, LMOVE /
    RPOPLPUSH to another key): the key is absent afterwards, deadline included -/
theorem emptied_list_vanishes (s : State) (hwf : NMap.WF s) (k : Nat) (x : BS) (dl : Option Nat)
    (h : lookupList s k = .found [x] dl) :
    NMap.get (execPop .left s k).1 k = none ∧
    NMap.get (execPop .right s k).1 k = none ∧
    NMap.get (execLTrim s k 1 0).1 k = none ∧
    (∀ dst f t, dst ≠ k → lookupList s dst = .missing →
        NMap.get (execLMove s k dst f t).1 k = none ∧
        NMap.get (execLMove s k dst f t).1 dst = some ⟨.list [x], none⟩) := by
  refine ⟨?_, ?_, ?_, ?_⟩
  · simp [execPop, h, popSide, putList, NMap.get_erase hwf]
  · simp [execPop, h, popSide, putList, NMap.get_erase hwf]
  · have : lrangeNorm 1 1 0 = none := by decide
    simp [execLTrim, h, this, slice, putList, NMap.get_erase hwf]
  · intro dst f t hne hd
    have hne' : ¬ k = dst := fun e => hne e.symm
    cases f <;> simp [execLMove, h, hd, popSide, putList, hne', NMap.get_insert,
      NMap.get_erase hwf]

/-- … and the observers agree: after the step the key is invisible to every command -/
theorem emptied_list_invisible (s : State) (hr : Reachable s) (now k : Nat) (c : Cmd)
    (h : NMap.get (step s now c).1 k = none) : visible (step s now c).1 now k = false := by
  have hwf := (inv_preserved s now c (reachable_inv hr)).1
  rw [visible_eq, get_purge hwf, h]; rfl

/-- LMOVE / RPOPLPUSH with source = destination rotate in place and keep the deadline -/
theorem lmove_same_key_keeps_deadline (s : State) (k : Nat) (l : List BS) (dl : Option Nat)
    (f t : Side) (h : lookupList s k = .found l dl) (hl : l ≠ []) :
    ∃ l', NMap.get (execLMove s k k f t).1 k = some ⟨.list l', dl⟩ ∧ l'.length = l.length := by
  obtain ⟨x, rest, hp1, hp2⟩ := popSide_of_ne_nil f hl
  refine ⟨pushOne t rest x, ?_, by rw [length_pushOne, hp2]⟩
  simp [execLMove, h, hp1, putList_of_ne_nil (pushOne_ne_nil t rest x), NMap.get_insert]

/-- pushes keep the deadline of an existing list and create new lists without one -/
theorem push_deadline (s : State) (k : Nat) (side : Side) (v : BS) (vs : List BS) :
    (∀ l dl, lookupList s k = .found l dl →
        NMap.get (execPush side s k (v :: vs)).1 k = some ⟨.list (pushMany side l (v :: vs)), dl⟩) ∧
    (lookupList s k = .missing →
        NMap.get (execPush side s k (v :: vs)).1 k = some ⟨.list (pushMany side [] (v :: vs)), none⟩) := by
  have hne : ∀ l, pushMany side l (v :: vs) ≠ [] := by
    intro l; cases side <;> simp [pushMany]
  constructor
  · intro l dl h
    simp [execPush, h, putList_of_ne_nil (hne l), NMap.get_insert]
  · intro h
    simp [execPush, h, putList_of_ne_nil (hne []), NMap.get_insert]

/-- a set that loses its last member stops existing (SREM, SPOP, SPOP count) -/
theorem emptied_set_vanishes (s : State) (hwf : NMap.WF s) (k c : Nat) (dl : Option Nat)
    (h : lookupSet s k = .found [(c, ())] dl) :
    NMap.get (execSRem s k [c]).1 k = none ∧
    NMap.get (execSPop1 s k [c]).1 k = none ∧
    (∀ n, 0 < n → NMap.get (execSPopN s k n [c]).1 k = none) := by
  refine ⟨?_, ?_, ?_⟩
  · simp [execSRem, h, sremAll, NMap.get, NMap.erase, putSet, NMap.get_erase hwf]
  · simp [execSPop1, h, NMap.get, NMap.erase, putSet, NMap.get_erase hwf]
  · intro n hn
    have : min n 1 = 1 := by omega
    simp [execSPopN, h, this, removeChosen, NMap.get, NMap.erase, putSet, NMap.get_erase hwf]

/-- a hash that loses its last field stops existing -/
theorem emptied_hash_vanishes (s : State) (hwf : NMap.WF s) (k f : Nat) (v : BS) (dl : Option Nat)
    (h : lookupHash s k = .found [(f, v)] dl) :
    NMap.get (execHDel s k [f]).1 k = none := by
  simp [execHDel, h, hdelAll, NMap.get, NMap.erase, putHash, NMap.get_erase hwf]

/-- SADD counts only new members, SREM only present ones (duplicates in the arguments count once) -/
theorem sadd_srem_counts (m : MSet) (c : Nat) :
    ((NMap.get m c).isSome = true → saddAll m [c, c] = (m, 0)) ∧
    ((NMap.get m c).isSome = false → (saddAll m [c, c]).2 = 1) ∧
    ((NMap.get m c).isSome = false → sremAll m [c, c] = (m, 0)) ∧
    (NMap.WF m → (NMap.get m c).isSome = true → (sremAll m [c, c]).2 = 1) := by
  refine ⟨?_, ?_, ?_, ?_⟩
  · intro h; simp [saddAll, h]
  · intro h; simp [saddAll, h, NMap.get_insert]
  · intro h; simp [sremAll, h]
  · intro hw h; simp [sremAll, h, NMap.get_erase hw]

/-- HINCRBY on an existing hash: succeeds exactly when the field is absent (= 0) or holds a
    canonical i64 and the exact sum stays in i64; never wraps -/
theorem hincrby_laws (s : State) (k f : Nat) (h : MHash) (dl : Option Nat) (d : Int)
    (hl : lookupHash s k = .found h dl) :
    (∀ n, (execHIncrBy s k f d).2 = .int n ↔
        ∃ v, hfieldInt h f = some v ∧ n = v + d ∧ inI64 (v + d) = true) ∧
    (hfieldInt h f = none → execHIncrBy s k f d = (s, .err .hashNotInt)) ∧
    (∀ v, hfieldInt h f = some v → inI64 (v + d) = false → execHIncrBy s k f d = (s, .err .overflow)) := by
  refine ⟨?_, ?_, ?_⟩
  · intro n
    simp only [execHIncrBy, hl]
    cases hp : hfieldInt h f with
    | none => simp
    | some v =>
      cases hi : inI64 (v + d) <;> simp [hi]
      exact eq_comm
  · intro hp; simp [execHIncrBy, hl, hp]
  · intro v hp hi; simp [execHIncrBy, hl, hp, hi]

/-- full statement: in every reachable state every stored sorted set is non-empty, strictly
    increasing in (score, member bytes) and holds no member twice — the order ("index") and
    the member ↦ score map cannot disagree -/
def C01_zset_canonical : Prop :=
  ∀ (s : State), Reachable s → ∀ (k : Nat) (z : ZL) (dl : Option Nat),
    NMap.get s k = some ⟨.zset z, dl⟩ →
    z ≠ [] ∧ z.Pairwise (fun a b => zLt a b = true) ∧ z.Pairwise (fun a b => a.1 ≠ b.1)

theorem zset_canonical : C01_zset_canonical := by
  intro s hr k z dl hg
  have hv := inv_get (reachable_inv hr) hg
  exact ⟨hv.1, hv.2.1, hv.2.2⟩

theorem zScore_zInsert {m : BS} {sc : Score} {z : ZL} (hm : ∀ p ∈ z, p.1 ≠ m) :
    zScore (zInsert m sc z) m = some sc := by
  rw [Redis.zScore_zInsert hm m, if_pos rfl]

/-- ZADD decision table for one (score, member): NX never touches an existing member, XX never
    adds, GT / LT only restrict updates, an equal score is no change; otherwise the member is
    added (counted as added) or moved to its new score (counted as changed, reported with CH) -/
theorem zadd_table (f : ZFlags) (z : ZL) (m : BS) (sc : Score) :
    (zScore z m = none → f.xx = true → zaddOne f z m sc = (z, 0, 0)) ∧
    (zScore z m = none → f.xx = false →
        zaddOne f z m sc = (zInsert m sc z, 1, 0) ∧ zScore (zaddOne f z m sc).1 m = some sc) ∧
    (∀ old, zScore z m = some old → f.nx = true → zaddOne f z m sc = (z, 0, 0)) ∧
    (∀ old, zScore z m = some old → f.gt = true → old.lt sc = false → zaddOne f z m sc = (z, 0, 0)) ∧
    (∀ old, zScore z m = some old → f.lt = true → sc.lt old = false → zaddOne f z m sc = (z, 0, 0)) ∧
    (∀ old, zScore z m = some old → sc = old → zaddOne f z m sc = (z, 0, 0)) ∧
    (∀ old, zScore z m = some old → f.nx = false → (f.gt = true → old.lt sc = true) →
        (f.lt = true → sc.lt old = true) → sc ≠ old →
        zaddOne f z m sc = (zInsert m sc (zRemove m z), 0, 1)) := by
  refine ⟨?_, ?_, ?_, ?_, ?_, ?_, ?_⟩
  · intro h hx; simp [zaddOne, h, hx]
  · intro h hx
    have e : zaddOne f z m sc = (zInsert m sc z, 1, 0) := by simp [zaddOne, h, hx]
    exact ⟨e, by rw [e]; exact zScore_zInsert (zScore_none h)⟩
  · intro old h hn; simp [zaddOne, h, hn]
  -- the guards of `zaddOne` come in the order NX, GT, LT, equal score: each case below splits on the
  -- flags of the guards before its own (in the last case no guard fires)
  · intro old h hg hl
    cases hn : f.nx <;> simp [zaddOne, h, hn, hg, hl]
  · intro old h hl hlt
    cases hn : f.nx <;> cases hg : f.gt <;> simp [zaddOne, h, hn, hg, hl, hlt]
  · intro old h e
    subst e
    cases hn : f.nx <;> cases hg : f.gt <;> cases hl : f.lt <;> simp [zaddOne, h, hn, hg, hl]
  · intro old h hn hg hl hne
    cases hgt : f.gt <;> cases hlt : f.lt <;> simp_all [zaddOne]

/-- ZADD … XX on a missing key creates nothing (in particular no empty sorted set) -/
theorem zadd_xx_missing_creates_nothing (s : State) (k : Nat) (f : ZFlags) (p : BS × Score)
    (ps : List (BS × Score)) (hc : zflagsCompatible f = true) (hx : f.xx = true)
    (hm : lookupZ s k = .missing) : execZAdd s k f (p :: ps) = (s, .int 0) := by
  simp [execZAdd, hc, hm, hx]

theorem lookupZ_found {s : State} {k : Nat} {z : ZL} {dl : Option Nat}
    (h : lookupZ s k = .found z dl) : NMap.get s k = some ⟨.zset z, dl⟩ := Redis.lookupZ_found h

/-- a sorted set that loses its last member stops existing -/
theorem emptied_zset_vanishes (s : State) (hwf : NMap.WF s) (k : Nat) (m : BS) (sc : Score)
    (dl : Option Nat) (h : lookupZ s k = .found [(m, sc)] dl) :
    NMap.get (execZRem s k [m]).1 k = none := by
  simp [execZRem, h, zremAll, zScore, zRemove, putZ, NMap.get_erase hwf]

/-- score ranges: an unparsable bound is an error BEFORE the key is looked at (so it changes
    nothing whatever the key holds); a negative LIMIT offset selects nothing -/
theorem zrange_bound_laws (s : State) (k : Nat) (b : Option Bound) (ws : Bool)
    (lim : Option (Int × Nat)) (l : ZL) (off : Int) (cnt : Nat) :
    execZCount s k none b = (s, .err .notFloat) ∧ execZCount s k b none = (s, .err .notFloat) ∧
    execZRangeByScore s k none b ws lim = (s, .err .notFloat) ∧
    execZRangeByScore s k b none ws lim = (s, .err .notFloat) ∧
    (off < 0 → applyLimit l (some (off, cnt)) = []) ∧
    (applyLimit l (some (off, cnt))).length ≤ cnt ∧ applyLimit l none = l := by
  refine ⟨?_, ?_, ?_, ?_, ?_, ?_, rfl⟩
  · cases b <;> simp [execZCount]
  · cases b <;> simp [execZCount]
  · cases b <;> simp [execZRangeByScore]
  · cases b <;> simp [execZRangeByScore]
  · intro h; simp [applyLimit, h]
  · simp only [applyLimit]
    split
    · simp
    · simp [List.length_take]; omega

theorem sortInsert_perm (x : BS) (l : List BS) : (sortInsert x l).Perm (x :: l) := by
  induction l with
  | nil => exact List.Perm.refl _
  | cons y ys ih =>
    simp only [sortInsert]
    split
    · exact (List.Perm.cons y ih).trans (List.Perm.swap x y ys)
    · exact List.Perm.refl _

/-- the result of SORT is a rearrangement of the source's elements: nothing lost, nothing invented -/
theorem sort_is_permutation (l : List BS) : (sortAll l).Perm l := by
  induction l with
  | nil => exact List.Perm.refl _
  | cons x xs ih =>
    show (sortInsert x (sortAll xs)).Perm (x :: xs)
    exact (sortInsert_perm x (sortAll xs)).trans (List.Perm.cons x ih)

/-- SORT decision table: wrong source type / one non-numeric element → error and nothing
    changes (the destination keeps value AND deadline); otherwise STORE replaces the destination
    by the sorted list WITHOUT a deadline (or deletes it when the result is empty) -/
theorem sort_table (s : State) (hwf : NMap.WF s) (k d : Nat) :
    (sortSource s k = none → ∀ st, execSort s k st = (s, .err .wrongType)) ∧
    (∀ es, sortSource s k = some es → es.any (fun e => (sortNum e).isNone) = true →
        ∀ st, execSort s k st = (s, .err .notDouble)) ∧
    (∀ es, sortSource s k = some es → es.any (fun e => (sortNum e).isNone) = false →
        execSort s k none = (s, .arr ((sortAll es).map Elem.bulk)) ∧
        (execSort s k (some d)).2 = .int es.length ∧
        (es = [] → NMap.get (execSort s k (some d)).1 d = none) ∧
        (es ≠ [] → NMap.get (execSort s k (some d)).1 d = some ⟨.list (sortAll es), none⟩)) := by
  refine ⟨?_, ?_, ?_⟩
  · intro h st; simp [execSort, h]
  · intro es h hb st; simp only [execSort, h, hb, if_true]
  · intro es h hb
    have hlen : (sortAll es).length = es.length := (sort_is_permutation es).length_eq
    refine ⟨?_, ?_, ?_, ?_⟩
    · simp only [execSort, h, hb]; rfl
    · simp only [execSort, h, hb]; simp [hlen]
    · intro he; subst he
      simp [execSort, h, sortAll, putList, NMap.get_erase hwf]
    · intro hne
      have : sortAll es ≠ [] := by
        intro e; rw [e] at hlen; exact hne (List.length_eq_zero_iff.mp hlen.symm)
      simp [execSort, h, hb, putList_of_ne_nil this, NMap.get_insert]

/-- numeric, not lexicographic: 10 sorts after 9; ties by bytes; strtod's integer syntax -/
theorem sort_examples :
    sortAll [[49, 48], [57], [45, 51], [48, 48, 55], [55]] = [[45, 51], [48, 48, 55], [55], [57], [49, 48]] ∧
    sortNum [32, 43, 53] = some 5 ∧ sortNum [] = some 0 ∧ sortNum [49, 50, 97] = none ∧
    sortNum [45] = none ∧ sortNum [49, 32] = none := by decide

/-- only canonical texts are accepted: no `+`, no leading zero (except "0"), no `-0`, no
    spaces, nothing empty; every accepted value is an i64 -/
theorem parseCanon_rejects (ds : BS) (d : Nat) :
    parseCanon [] = none ∧ parseCanon (43 :: ds) = none ∧ parseCanon (32 :: ds) = none ∧
    parseCanon (48 :: d :: ds) = none ∧ parseCanon (45 :: 48 :: ds) = none ∧ parseCanon [45] = none := by
  refine ⟨rfl, ?_, ?_, ?_, ?_, rfl⟩
  · simp [parseCanon, digitsVal]
  · simp [parseCanon, digitsVal]
  · simp [parseCanon]
  · simp [parseCanon]

theorem parseCanon_in_i64 (b : BS) (v : Int) (h : parseCanon b = some v) : inI64 v = true := by
  unfold parseCanon at h
  -- the four arms of `parseCanon`: empty, `0`, `-digits` (bounded by 2^63), `digits` (bounded by 2^63 - 1)
  split at h
  · cases h
  · cases h; decide
  · split at h
    · cases h
    · split at h
      · split at h
        · cases h; rw [inI64_iff]; simp only [i64Min, i64Max]; omega
        · cases h
      · cases h
  · split at h
    · cases h
    · split at h
      · split at h
        · cases h; rw [inI64_iff]; simp only [i64Min, i64Max]; omega
        · cases h
      · cases h

/-- INCR family on an existing string `b`: succeeds exactly when `b` is a canonical i64 AND the
    exact (unbounded) sum stays inside i64; the reply is that exact sum — it never wraps -/
theorem integer_laws (s : State) (k : Nat) (b : BS) (dl : Option Nat) (d : Int)
    (h : lookupStr s k = .found b dl) :
    (∀ n, (execIncrBy s k d).2 = .int n ↔
        ∃ v, parseCanon b = some v ∧ n = v + d ∧ inI64 (v + d) = true) ∧
    (parseCanon b = none → execIncrBy s k d = (s, .err .notInt)) ∧
    (∀ v, parseCanon b = some v → inI64 (v + d) = false → execIncrBy s k d = (s, .err .overflow)) := by
  refine ⟨?_, ?_, ?_⟩
  · intro n
    simp only [execIncrBy, h]
    cases hp : parseCanon b with
    | none => simp
    | some v =>
      cases hi : inI64 (v + d) <;> simp [hi]
      exact eq_comm
  · intro hp; simp [execIncrBy, h, hp]
  · intro v hp hi; simp [execIncrBy, h, hp, hi]

/-- a missing key counts as 0; a non-string is WRONGTYPE; DECRBY i64::MIN cannot be negated -/
theorem integer_laws_edges (s : State) (k : Nat) (d : Int) :
    (lookupStr s k = .missing → (execIncrBy s k d).2 = .int d) ∧
    (lookupStr s k = .wrong → execIncrBy s k d = (s, .err .wrongType)) ∧
    execDecrBy s k i64Min = (s, .err .overflow) := by
  refine ⟨?_, ?_, ?_⟩
  · intro h; simp [execIncrBy, h]
  · intro h; simp [execIncrBy, h]
  · simp [execDecrBy]

/-- boundary values: text ↔ value at the i64 limits (the two byte lists are `9223372036854775808` and
    `-9223372036854775809`, one past each limit), round trip of `showInt` -/
theorem integer_boundaries :
    parseCanon (showInt i64Max) = some i64Max ∧ parseCanon (showInt i64Min) = some i64Min ∧
    parseCanon [57,50,50,51,51,55,50,48,51,54,56,53,52,55,55,53,56,48,56] = none ∧
    parseCanon [45,57,50,50,51,51,55,50,48,51,54,56,53,52,55,55,53,56,48,57] = none ∧
    parseCanon (showInt 0) = some 0 ∧ parseCanon (showInt (-1)) = some (-1) ∧
    showInt (-120) = [45, 49, 50, 48] := by decide

/-! ## boundary pins

Where a decision of the model is a comparison, its answer AT equality (and one step to either
side) is pinned here by concrete instances (`decide`), next to the table theorems above.  The
harness produces the same three inputs deliberately from the current state of the real executor
(harness/src/boundary.rs; site × {below, equal, above} counts are in the evidence). -/

/-- k1 = "abc" with deadline 101000, k2 = list [a,b,c], k3 = zset {x:-1, y:2, z:2},
    k4 = set {7, 9}, k5 = "10", k6 = hash {f ↦ "10"} -/
def bst : State :=
  [(1, ⟨.str [97, 98, 99], some 101000⟩), (2, ⟨.list [[97], [98], [99]], none⟩),
   (3, ⟨.zset [([120], .fin (-1)), ([121], .fin 2), ([122], .fin 2)], none⟩),
   (4, ⟨.set [(7, ()), (9, ())], none⟩), (5, ⟨.str [49, 48], none⟩),
   (6, ⟨.hash [(1, [49, 48])], none⟩)]

def fGT : ExpFlags := ⟨false, false, true, false⟩
def fLT : ExpFlags := ⟨false, false, false, true⟩
def fNone : ExpFlags := ⟨false, false, false, false⟩

/-- EXPIRE … GT whose new deadline EQUALS the current one replies 0 and changes nothing
    (now = 1000, deadline 101000 = 1000 + 100·1000); one second less: 0; one more: 1 -/
theorem expire_gt_equal_replies_zero :
    (step bst 1000 (.expire 1 100 fGT)).2 = .int 0 ∧
    view (step bst 1000 (.expire 1 100 fGT)).1 1000 = view bst 1000 ∧
    (step bst 1000 (.expire 1 99 fGT)).2 = .int 0 ∧
    (step bst 1000 (.expire 1 101 fGT)).2 = .int 1 ∧
    -- 40 s later, 60 s left: EXPIRE 60 GT lands on the same deadline again
    (step bst 41000 (.expire 1 60 fGT)).2 = .int 0 ∧
    (step bst 41000 (.expire 1 61 fGT)).2 = .int 1 := by decide

theorem expire_lt_equal_replies_zero :
    (step bst 1000 (.expire 1 100 fLT)).2 = .int 0 ∧
    (step bst 1000 (.expire 1 99 fLT)).2 = .int 1 ∧
    (step bst 1000 (.expire 1 101 fLT)).2 = .int 0 := by decide

theorem pexpire_gt_lt_at_equality :
    (step bst 1000 (.pexpire 1 100000 fGT)).2 = .int 0 ∧
    (step bst 1000 (.pexpire 1 100001 fGT)).2 = .int 1 ∧
    (step bst 1000 (.pexpire 1 99999 fGT)).2 = .int 0 ∧
    (step bst 1000 (.pexpire 1 100000 fLT)).2 = .int 0 ∧
    (step bst 1000 (.pexpire 1 99999 fLT)).2 = .int 1 ∧
    (step bst 1000 (.pexpire 1 100001 fLT)).2 = .int 0 := by decide

/-- a requested deadline equal to `now` has already been reached: the key is deleted (reply 1) -/
theorem expire_deadline_at_now_deletes :
    (step bst 1000 (.pexpire 5 0 fNone)).2 = .int 1 ∧ visible (step bst 1000 (.pexpire 5 0 fNone)).1 1000 5 = false ∧
    visible (step bst 1000 (.pexpire 5 1 fNone)).1 1000 5 = true ∧
    visible (step bst 1000 (.pexpire 5 (-1) fNone)).1 1000 5 = false ∧
    visible (step bst 1000 (.pexpireat 5 1000 fNone)).1 1000 5 = false ∧
    visible (step bst 1000 (.pexpireat 5 1001 fNone)).1 1000 5 = true ∧
    visible (step bst 2000 (.expireat 5 2 fNone)).1 2000 5 = false ∧
    visible (step bst 1999 (.expireat 5 2 fNone)).1 1999 5 = true := by decide

/-- SET / GETEX expire argument: 0 is invalid, 1 is valid; PXAT = now stores a key nobody sees -/
theorem set_expire_arg_boundaries :
    (step bst 1000 (.set 9 [118] .always (.px 0) false)).2 = .err .invalidExpire ∧
    (step bst 1000 (.set 9 [118] .always (.px 1) false)).2 = .ok ∧
    (step bst 1000 (.set 9 [118] .always (.ex 0) false)).2 = .err .invalidExpire ∧
    (step bst 1000 (.set 9 [118] .always (.exat 0) false)).2 = .err .invalidExpire ∧
    (step bst 1000 (.set 9 [118] .always (.pxat 1000) false)).2 = .ok ∧
    visible (step bst 1000 (.set 9 [118] .always (.pxat 1000) false)).1 1000 9 = false ∧
    visible (step bst 1000 (.set 9 [118] .always (.pxat 1001) false)).1 1000 9 = true ∧
    (step bst 1000 (.set 9 [118] .always (.ex 9223372036854775) false)).2 = .err .invalidExpire ∧
    (step bst 1000 (.set 9 [118] .always (.px (9223372036854775807 - 1000)) false)).2 = .ok ∧
    (step bst 1000 (.set 9 [118] .always (.px (9223372036854775807 - 999)) false)).2 = .err .invalidExpire ∧
    (step bst 1000 (.getex 5 (.px 0))).2 = .err .invalidExpire ∧
    (step bst 1000 (.getex 5 (.px 1))).2 = .bulk [49, 48] := by decide

/-- TTL = (ms + 500) / 1000 at 499 / 500 / 501 and 1499 / 1500 / 1501 ms -/
theorem ttl_rounding_boundaries :
    (step bst 100501 (.ttl 1)).2 = .int 0 ∧ (step bst 100500 (.ttl 1)).2 = .int 1 ∧
    (step bst 100499 (.ttl 1)).2 = .int 1 ∧ (step bst 99501 (.ttl 1)).2 = .int 1 ∧
    (step bst 99500 (.ttl 1)).2 = .int 2 ∧ (step bst 99499 (.ttl 1)).2 = .int 2 ∧
    (step bst 0 (.expiretime 1)).2 = .int 101 := by decide

theorem visibility_boundaries :
    visible bst 100999 1 = true ∧ visible bst 101000 1 = false ∧ visible bst 101001 1 = false ∧
    (step bst 100999 (.get 1)).2 = .bulk [97, 98, 99] ∧ (step bst 101000 (.get 1)).2 = .nil := by decide

/-- GETRANGE on "abc": start / end at len, −len and at each other -/
theorem getrange_boundaries :
    (step bst 0 (.getrange 1 2 (-1))).2 = .bulk [99] ∧ (step bst 0 (.getrange 1 3 (-1))).2 = .bulk [] ∧
    (step bst 0 (.getrange 1 4 (-1))).2 = .bulk [] ∧
    (step bst 0 (.getrange 1 0 2)).2 = .bulk [97, 98, 99] ∧ (step bst 0 (.getrange 1 0 3)).2 = .bulk [97, 98, 99] ∧
    (step bst 0 (.getrange 1 (-3) (-1))).2 = .bulk [97, 98, 99] ∧ (step bst 0 (.getrange 1 (-4) (-1))).2 = .bulk [97, 98, 99] ∧
    (step bst 0 (.getrange 1 (-2) (-1))).2 = .bulk [98, 99] ∧
    (step bst 0 (.getrange 1 0 (-3))).2 = .bulk [97] ∧ (step bst 0 (.getrange 1 0 (-4))).2 = .bulk [97] ∧
    (step bst 0 (.getrange 1 1 1)).2 = .bulk [98] ∧ (step bst 0 (.getrange 1 2 1)).2 = .bulk [] ∧
    (step bst 0 (.getrange 1 (-1) (-2))).2 = .bulk [] ∧ (step bst 0 (.getrange 1 (-2) (-2))).2 = .bulk [98] := by decide

/-- list indices at len and −len -/
theorem list_index_boundaries :
    (step bst 0 (.lindex 2 2)).2 = .bulk [99] ∧ (step bst 0 (.lindex 2 3)).2 = .nil ∧
    (step bst 0 (.lindex 2 (-3))).2 = .bulk [97] ∧ (step bst 0 (.lindex 2 (-4))).2 = .nil ∧
    (step bst 0 (.lset 2 3 [1])).2 = .err .indexRange ∧ (step bst 0 (.lset 2 (-3) [1])).2 = .ok ∧
    (step bst 0 (.lset 2 (-4) [1])).2 = .err .indexRange ∧
    (step bst 0 (.lrange 2 2 (-1))).2 = .arr [.bulk [99]] ∧ (step bst 0 (.lrange 2 3 (-1))).2 = .arr [] ∧
    (step bst 0 (.lrange 2 0 (-3))).2 = .arr [.bulk [97]] ∧ (step bst 0 (.lrange 2 0 (-4))).2 = .arr [] ∧
    (step bst 0 (.lrange 2 (-4) 0)).2 = .arr [.bulk [97]] ∧ (step bst 0 (.lrange 2 1 1)).2 = .arr [.bulk [98]] ∧
    (step bst 0 (.lrange 2 2 1)).2 = .arr [] ∧
    NMap.get (step bst 0 (.ltrim 2 3 (-1))).1 2 = none ∧
    NMap.get (step bst 0 (.ltrim 2 2 (-1))).1 2 = some ⟨.list [[99]], none⟩ := by decide

/-- score ranges at the score of a member (2 is held by two members, −1 by one), inclusive and
    exclusive; LIMIT offsets at 0 and at the result size -/
theorem zrange_score_boundaries :
    (step bst 0 (.zcount 3 (some ⟨false, .fin 2⟩) (some ⟨false, .pinf⟩))).2 = .int 2 ∧
    (step bst 0 (.zcount 3 (some ⟨true, .fin 2⟩) (some ⟨false, .pinf⟩))).2 = .int 0 ∧
    (step bst 0 (.zcount 3 (some ⟨true, .fin 1⟩) (some ⟨false, .pinf⟩))).2 = .int 2 ∧
    (step bst 0 (.zcount 3 (some ⟨false, .fin 3⟩) (some ⟨false, .pinf⟩))).2 = .int 0 ∧
    (step bst 0 (.zcount 3 (some ⟨false, .ninf⟩) (some ⟨false, .fin (-1)⟩))).2 = .int 1 ∧
    (step bst 0 (.zcount 3 (some ⟨false, .ninf⟩) (some ⟨true, .fin (-1)⟩))).2 = .int 0 ∧
    (step bst 0 (.zcount 3 (some ⟨false, .ninf⟩) (some ⟨true, .fin 2⟩))).2 = .int 1 ∧
    (step bst 0 (.zcount 3 (some ⟨true, .pinf⟩) (some ⟨false, .pinf⟩))).2 = .int 0 ∧
    (step bst 0 (.zrangebyscore 3 (some ⟨false, .ninf⟩) (some ⟨false, .pinf⟩) false (some (3, 5)))).2 = .arr [] ∧
    (step bst 0 (.zrangebyscore 3 (some ⟨false, .ninf⟩) (some ⟨false, .pinf⟩) false (some (2, 5)))).2 = .arr [.bulk [122]] ∧
    (step bst 0 (.zrangebyscore 3 (some ⟨false, .ninf⟩) (some ⟨false, .pinf⟩) false (some (-1, 5)))).2 = .arr [] ∧
    (step bst 0 (.zrangebyscore 3 (some ⟨false, .ninf⟩) (some ⟨false, .pinf⟩) false (some (0, 0)))).2 = .arr [] := by decide

/-- ZADD GT / LT with a score EQUAL to the current one change nothing (and CH counts nothing) -/
theorem zadd_equal_score_boundaries :
    (step bst 0 (.zadd 3 ⟨false, false, true, false, true⟩ [([121], .fin 2)])).2 = .int 0 ∧
    (step bst 0 (.zadd 3 ⟨false, false, true, false, true⟩ [([121], .fin 3)])).2 = .int 1 ∧
    (step bst 0 (.zadd 3 ⟨false, false, true, false, true⟩ [([121], .fin 1)])).2 = .int 0 ∧
    (step bst 0 (.zadd 3 ⟨false, false, false, true, true⟩ [([121], .fin 2)])).2 = .int 0 ∧
    (step bst 0 (.zadd 3 ⟨false, false, false, true, true⟩ [([121], .fin 1)])).2 = .int 1 ∧
    (step bst 0 (.zadd 3 ⟨false, false, false, false, true⟩ [([121], .fin 2)])).2 = .int 0 ∧
    view (step bst 0 (.zadd 3 ⟨false, false, true, false, true⟩ [([121], .fin 2)])).1 0 = view bst 0 := by decide

/-- INCRBY / HINCRBY exactly up to i64::MAX succeed, one more overflows; SPOP count = card empties the key -/
theorem integer_and_count_boundaries :
    (step bst 0 (.incrby 5 (9223372036854775807 - 10))).2 = .int 9223372036854775807 ∧
    (step bst 0 (.incrby 5 (9223372036854775807 - 9))).2 = .err .overflow ∧
    (step bst 0 (.decrby 5 (10 + 9223372036854775807))).2 = .int (-9223372036854775807) ∧
    (step bst 0 (.hincrby 6 1 (9223372036854775807 - 10))).2 = .int 9223372036854775807 ∧
    (step bst 0 (.hincrby 6 1 (9223372036854775807 - 9))).2 = .err .overflow ∧
    (step bst 0 (.decrby 5 i64Min)).2 = .err .overflow ∧
    NMap.get (step bst 0 (.spop 4 (some 2) [7, 9])).1 4 = none ∧
    NMap.get (step bst 0 (.spop 4 (some 1) [7])).1 4 = some ⟨.set [(9, ())], none⟩ ∧
    (step bst 0 (.spop 4 (some 0) [])).2 = .arr [] := by decide

/-- a reachable state with a deadline: SET a "10" PX 1500 at t=1000; a (deadline 2500), b (no deadline) -/
def demo : List (Nat × Cmd) :=
  [(1000, .set 1 [49, 48] .always (.px 1500) false), (1000, .mset [(2, [118])]), (1200, .incr 1)]

example : (run Redis.init demo).2 = [.ok, .ok, .int 11] := by decide
example : NMap.get (run Redis.init demo).1 1 = some ⟨.str [49, 49], some 2500⟩ := by decide
-- visible one ms before the deadline, invisible at the deadline
example : visible (run Redis.init demo).1 2499 1 = true ∧ visible (run Redis.init demo).1 2500 1 = false := by decide
-- TTL = (ms+500)/1000: 1400 ms left → 1, 1500 ms left → 2
example : (step (run Redis.init demo).1 1100 (.ttl 1)).2 = .int 1 ∧ (step (run Redis.init demo).1 1000 (.ttl 1)).2 = .int 2 := by decide

/-- sorted sets: ZADD with ties and infinities, a second ZADD with XX GT CH that updates one score, leaves one and skips a new member -/
def zdemo : List (Nat × Cmd) :=
  [(0, .zadd 7 ⟨false, false, false, false, false⟩ [([98], .fin 1), ([97], .fin 1), ([99], .ninf), ([100], .pinf)]),
   (0, .zadd 7 ⟨false, true, true, false, true⟩ [([97], .fin 5), ([98], .fin 0), ([122], .fin 3)]),
   (0, .zrange 7 0 (-1) true)]

example : (run Redis.init zdemo).2 =
    [.int 4, .int 1,
     .arr [.bulk [99], .bulk [45, 105, 110, 102], .bulk [98], .bulk [49], .bulk [97], .bulk [53],
           .bulk [100], .bulk [105, 110, 102]]] := by decide
example : Inv (run Redis.init zdemo).1 := by decide

end RedisVerif.C01
