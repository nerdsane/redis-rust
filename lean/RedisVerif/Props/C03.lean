import RedisVerif.Model.Shards
import RedisVerif.Model.ShardsStr
import RedisVerif.Model.ShardsClock
import RedisVerif.Lemmas.Shards
import RedisVerif.Lemmas.ShardsStr
import RedisVerif.Lemmas.ShardsClock

/-!
# C03 — Shard count is unobservable: N shards answer exactly like one shard

Model: `RedisVerif.Shards` (`Model/Shards.lean`) = the routing / fan-out / aggregation logic of
`ShardedActorState` (`execute`, `fast_*`, `pooled_fast_*`, `fast_batch_*_pipeline`) over an ABSTRACT
per-shard executor `E` of which only locality is assumed (`Exec.Local`: a command reads and writes
only the keys it names), with the two routing hashes of the code as two functions
`Routes.str` / `Routes.bytes`, and a flag `fixed` (`hash_key` delegates to `hash_key_bytes`).

The `…_counterexample` theorems say what the pinned code does outside the hypotheses (all replayed on the
real code by the harness on every run): the two hashes differ (`fast_set` then generic `STRLEN`),
two-key commands run on the first key's shard (RENAME), MSETNX likewise, SCAN drops the shards'
cursors.  `fixed = true` is the code since 872671c (one routing hash); RANDOMKEY asks every shard since
4d9bd05 (`randomkey_refines`); the arm before 4d9bd05 is `randomkeyPinned` (`randomkey_counterexample`).
-/
namespace RedisVerif
namespace C03

open Shards NMap

/-- equal up to permutation inside an unordered (KEYS) reply; RANDOMKEY replies are compared as a
    client can: nil or not (which key is named is legitimately arbitrary — that it IS a key of the
    keyspace is `randomkey_refines`) -/
def replyEqv : Reply → Reply → Bool
  | .keys l, .keys l' => l.isPerm l'
  | .rkey a, .rkey b => a.isSome == b.isSome
  | r, r' => r == r'

def repliesEqv : List Reply → List Reply → Bool
  | [], [] => true
  | r :: rs, r' :: rs' => replyEqv r r' && repliesEqv rs rs'
  | _, _ => false

/-- `replyEqv` is equality, except inside KEYS replies (a permutation) and RANDOMKEY replies (nil or
    not) -/
theorem replyEqv_iff {a b : Reply} : replyEqv a b = true ↔
    a = b ∨ (∃ l l', a = .keys l ∧ b = .keys l' ∧ l.Perm l') ∨
      (∃ x y, a = .rkey x ∧ b = .rkey y ∧ x.isSome = y.isSome) := by
  cases a <;> cases b <;> simp [replyEqv, List.isPerm_iff]
  · exact fun e => e ▸ List.Perm.refl _
  · exact fun e => e ▸ rfl

theorem replyEqv_symm {r r' : Reply} (h : replyEqv r r' = true) : replyEqv r' r = true := by
  rcases replyEqv_iff.mp h with rfl | ⟨l, l', rfl, rfl, hp⟩ | ⟨x, y, rfl, rfl, hs⟩
  · exact h
  · exact replyEqv_iff.mpr (.inr (.inl ⟨_, _, rfl, rfl, hp.symm⟩))
  · exact replyEqv_iff.mpr (.inr (.inr ⟨_, _, rfl, rfl, hs.symm⟩))

theorem replyEqv_trans {a b c : Reply} (h1 : replyEqv a b = true) (h2 : replyEqv b c = true) :
    replyEqv a c = true := by
  rcases replyEqv_iff.mp h1 with rfl | ⟨l, l', rfl, rfl, hp⟩ | ⟨x, y, rfl, rfl, hs⟩
  · exact h2
  · rcases replyEqv_iff.mp h2 with rfl | ⟨_, l'', e, rfl, hp'⟩ | ⟨_, _, e, _, _⟩
    · exact h1
    · cases e; exact replyEqv_iff.mpr (.inr (.inl ⟨_, _, rfl, rfl, hp.trans hp'⟩))
    · cases e
  · rcases replyEqv_iff.mp h2 with rfl | ⟨_, _, e, _, _⟩ | ⟨_, z, e, rfl, hs'⟩
    · exact h1
    · cases e
    · cases e; exact replyEqv_iff.mpr (.inr (.inr ⟨_, _, rfl, rfl, hs.trans hs'⟩))

theorem repliesEqv_symm {l l' : List Reply} (h : repliesEqv l l' = true) : repliesEqv l' l = true := by
  induction l generalizing l' with
  | nil => cases l' <;> simp_all [repliesEqv]
  | cons r rs ih =>
    cases l' with
    | nil => simp [repliesEqv] at h
    | cons r' rs' =>
      simp only [repliesEqv, Bool.and_eq_true] at h ⊢
      exact ⟨replyEqv_symm h.1, ih h.2⟩

theorem repliesEqv_trans {a b c : List Reply} (h1 : repliesEqv a b = true)
    (h2 : repliesEqv b c = true) : repliesEqv a c = true := by
  induction a generalizing b c with
  | nil => cases b <;> cases c <;> simp_all [repliesEqv]
  | cons r rs ih =>
    cases b with
    | nil => simp [repliesEqv] at h1
    | cons r' rs' =>
      cases c with
      | nil => simp [repliesEqv] at h2
      | cons r'' rs'' =>
        simp only [repliesEqv, Bool.and_eq_true] at h1 h2 ⊢
        exact ⟨replyEqv_trans h1.1 h2.1, ih h1.2 h2.2⟩

/-- decidable: everything except two-key commands / MSETNX whose keys live on different shards
    and SCAN -/
def Routable {S : Sig} (R : Routes) (fixed : Bool) : Cmd S → Bool
  | .two a b _ => R.gen fixed a == R.gen fixed b
  | .msetnx kvs =>
    match kvs with
    | [] => true
    | kv :: rest => rest.all (fun x => R.gen fixed x.1 == R.gen fixed kv.1)
  | .scan _ _ _ => false
  | _ => true

/-- the two hashes agree (what `hash_key` → `hash_key_bytes(key.as_bytes())` establishes) -/
def RouteConsistent (R : Routes) : Prop := ∀ k, R.str k = R.bytes k

/-- decidable form for table routes (the driver's): every row has equal columns -/
def RouteConsistentTbl (tbl : NMap (Nat × Nat)) : Bool := tbl.all (fun e => e.2.1 == e.2.2)

theorem routeConsistent_ofTable (n : Nat) (tbl : NMap (Nat × Nat)) (h : RouteConsistentTbl tbl = true) :
    RouteConsistent (Routes.ofTable n tbl) := by
  intro k
  show (match get tbl k with | some e => e.1 | none => 0) = (match get tbl k with | some e => e.2 | none => 0)
  cases hg : get tbl k with
  | none => rfl
  | some e =>
    have hm := mem_of_get hg
    have := List.all_eq_true.mp h _ hm
    simpa using this

/-- decidable validity of table routes -/
theorem ofTable_valid (n : Nat) (tbl : NMap (Nat × Nat)) (hn : 0 < n)
    (h : tbl.all (fun e => decide (e.2.1 < n) && decide (e.2.2 < n)) = true) :
    (Routes.ofTable n tbl).Valid := by
  intro k
  show (match get tbl k with | some e => e.1 | none => 0) < n ∧ (match get tbl k with | some e => e.2 | none => 0) < n
  cases hg : get tbl k with
  | none => exact ⟨hn, hn⟩
  | some e =>
    have := List.all_eq_true.mp h _ (mem_of_get hg)
    simpa using this

section statements
variable {S : Sig} (E : Exec S)

/-- what a client can observe of a server: the replies, and the final keyspace -/
def observe (R : Routes) (fixed : Bool) (cmds : List (Cmd S)) : Store S.Val × List Reply :=
  let r := runN E R fixed (Shards.init S.Val R.N) cmds
  (abs r.1, r.2)

def obsEqv (a b : Store S.Val × List Reply) : Prop := a.1 = b.1 ∧ repliesEqv a.2 b.2 = true

/-- the one-shard server -/
def oneShard : Routes := { N := 1, str := fun _ => 0, bytes := fun _ => 0 }

/-- **C03, full strength**: for every command sequence, `N` shards are indistinguishable from one
    shard — for the routing with the given `fixed` flag, whatever the two hashes are -/
def C03_statement (fixed : Bool) : Prop :=
  ∀ (R : Routes), R.Valid → 0 < R.N → ∀ cmds : List (Cmd S),
    obsEqv (observe E R fixed cmds) (observe E oneShard fixed cmds)

/-- every key has exactly one home in every reachable state, whichever commands ran -/
def C03_home_unique (fixed : Bool) : Prop :=
  ∀ (R : Routes), R.Valid → 0 < R.N → ∀ (cmds : List (Cmd S)) (i j k : Nat),
    (get (shard (runN E R fixed (Shards.init S.Val R.N) cmds).1 i) k).isSome →
    (get (shard (runN E R fixed (Shards.init S.Val R.N) cmds).1 j) k).isSome → i = j

end statements

section step
variable {S : Sig} {E : Exec S}

/-- every command that travels as one message is executed on `cmdShard`: the home of its first key -/
theorem one_message_goes_to_cmdShard (R : Routes) (fixed : Bool) (st : Shards S.Val) (c : Cmd S)
    (h : OneMessage c = true) : execN E R fixed st c = onShard E st (cmdShard R fixed c) c := by
  cases c with
  | single k op => rfl
  | two a b op => rfl
  | fastGet k => rfl
  | fastSet k v => rfl
  | msetnx kvs =>
    cases kvs with
    | nil => simp [OneMessage] at h
    | cons kv rest => rfl
  | del ks =>
    match ks, h with
    | [k], _ => rfl
  | _ => simp [OneMessage] at h

/-- **a command routed by its first key refines the single store**, provided all the keys it
    names live on that shard (always true of single-key commands) -/
theorem routed_by_first_key_refines (hL : E.Local) (R : Routes) (fixed : Bool)
    {st : Shards S.Val} (h : Inv R st) (c : Cmd S)
    (h1 : OneMessage c = true) (hk : Keyed c = true) (hi : cmdShard R fixed c < R.N)
    (hall : ∀ k ∈ keyList c, R.bytes k = cmdShard R fixed c) :
    Inv R (execN E R fixed st c).1 ∧ abs (execN E R fixed st c).1 = (E.exec (abs st) c).1 ∧
    (execN E R fixed st c).2 = (E.exec (abs st) c).2 := by
  rw [one_message_goes_to_cmdShard R fixed st c h1]
  exact refine_keyed hL h c hk _ hi hall

theorem exists_fold {R : Routes} {st : Shards S.Val} (h : Inv R st)
    (ks : List Key) (acc : Int) :
    ks.foldl (fun (a : Shards S.Val × Int) k =>
        let x := onShard E a.1 (R.bytes k) (.exists [k])
        (x.1, a.2 + replyInt x.2)) (st, acc) =
      (st, acc + ((existsCount (abs st) ks : Nat) : Int)) := by
  induction ks generalizing acc with
  | nil => simp [existsCount]
  | cons k ks ih =>
    rw [List.foldl_cons]
    have h1 : (onShard E st (R.bytes k) (.exists [k])).1 = st := by
      show st.set (R.bytes k) (shard st (R.bytes k)) = st
      exact shard_set_self st _
    have h2 : replyInt (onShard E st (R.bytes k) (.exists [k])).2 =
        ((if present (abs st) k then 1 else 0 : Nat) : Int) := by
      show ((existsCount (shard st (R.bytes k)) [k] : Nat) : Int) = _
      rw [existsCount_cons, present_congr (h.get_abs k).symm]
      simp [existsCount]
    simp only [h1, h2]
    rw [ih, existsCount_cons]
    congr 1
    omega

/-- **one step, equal replies**: every routable command other than KEYS and RANDOMKEY does to the
    union of the shards what one executor does to one store, and answers THE SAME -/
theorem shards_refine_eq (hL : E.Local) (R : Routes) (fixed : Bool) (hv : R.Valid)
    (hN : 0 < R.N) (hc : Consistent R fixed) {st : Shards S.Val} (h : Inv R st) (c : Cmd S)
    (hr : Routable R fixed c = true) (hnk : ∀ p, c ≠ .keys p) (hnr : c ≠ .randomkey) :
    Inv R (execN E R fixed st c).1 ∧
    abs (execN E R fixed st c).1 = (E.exec (abs st) c).1 ∧
    (execN E R fixed st c).2 = (E.exec (abs st) c).2 := by
  have hgen : R.gen fixed = R.bytes := funext hc
  -- one message to the home of the first key, where all the named keys live
  have one : ∀ (c : Cmd S) (k0 : Key), OneMessage c = true → Keyed c = true →
      cmdShard R fixed c = R.gen fixed k0 → (∀ k ∈ keyList c, R.bytes k = R.bytes k0) →
      Inv R (execN E R fixed st c).1 ∧ abs (execN E R fixed st c).1 = (E.exec (abs st) c).1 ∧
      (execN E R fixed st c).2 = (E.exec (abs st) c).2 := fun c k0 h1 h2 e hall =>
    routed_by_first_key_refines hL R fixed h c h1 h2 (by rw [e, hc]; exact (hv k0).2)
      (fun k hk => by rw [e, hc]; exact hall k hk)
  cases c with
  | single k op => exact one _ k rfl rfl rfl (fun k' hk' => by rw [List.mem_singleton.mp hk'])
  | fastGet k => exact one _ k rfl rfl (hc k).symm (fun k' hk' => by rw [List.mem_singleton.mp hk'])
  | fastSet k v => exact one _ k rfl rfl (hc k).symm (fun k' hk' => by rw [List.mem_singleton.mp hk'])
  | two a b op =>
    have hab : R.bytes a = R.bytes b := by
      have : R.gen fixed a = R.gen fixed b := by simpa [Routable] using hr
      rwa [hc a, hc b] at this
    refine one _ a rfl rfl rfl (fun k' hk' => ?_)
    simp only [keyList, List.mem_cons, List.not_mem_nil, or_false] at hk'
    rcases hk' with rfl | rfl
    · rfl
    · exact hab.symm
  | msetnx kvs =>
    cases kvs with
    | nil => exact refine_keyed hL h (.msetnx []) rfl 0 hN nofun
    | cons kv rest =>
      refine one _ kv.1 rfl rfl rfl (fun k hk => ?_)
      simp only [keyList, List.map_cons, List.mem_cons, List.mem_map] at hk
      rcases hk with rfl | ⟨x, hx, rfl⟩
      · rfl
      · have := List.all_eq_true.mp (show rest.all (fun x => R.gen fixed x.1 == R.gen fixed kv.1) = true from hr) x hx
        rw [beq_iff_eq, hc x.1, hc kv.1] at this
        exact this
  | keys p => exact absurd rfl (hnk p)
  | randomkey => exact absurd rfl hnr
  | scan _ _ _ => simp [Routable] at hr
  | flush => exact ⟨inv_all_empty h, abs_all_empty st, rfl⟩
  | dbsize =>
    have hst : (fanAll E st .dbsize).1 = st := List.map_id' st
    refine ⟨by show Inv R (fanAll E st .dbsize).1; rw [hst]; exact h,
            by show abs (fanAll E st .dbsize).1 = abs st; rw [hst], ?_⟩
    show Reply.one (.int ((fanAll E st .dbsize).2.map replyInt).sum) = Reply.one (.int (abs st).length)
    have : (fanAll E st .dbsize).2.map replyInt = st.map (fun s => ((s.length : Nat) : Int)) := by
      show (st.map (fun s => Reply.one (.int s.length))).map replyInt = _
      rw [List.map_map]; rfl
    rw [this, sum_cast_map, length_abs h]
  | mget ks =>
    refine ⟨h, rfl, ?_⟩
    show Reply.many (gatherN E R.N (R.gen fixed) st .mget ks) = Reply.many (ks.map (mgetSlot E (abs st)))
    rw [hgen, gatherN_spec E R.N R.bytes st .mget (mgetSlot E) (fun _ _ => rfl) ks (fun k _ => (hv k).2)]
    congr 1
    exact List.map_congr_left fun k _ => mgetSlot_congr E (h.get_abs k).symm
  | batchGet ks =>
    refine ⟨h, rfl, ?_⟩
    show Reply.many (gatherN E R.N R.bytes st .batchGet ks) = Reply.many (ks.map (getDirect E (abs st)))
    rw [gatherN_spec E R.N R.bytes st .batchGet (getDirect E) (fun _ _ => rfl) ks (fun k _ => (hv k).2)]
    congr 1
    exact List.map_congr_left fun k _ => getDirect_congr E (h.get_abs k).symm
  | mset kvs =>
    have := grouped_refine hL h hv (fun kv : Key × Bytes => kv.1) .mset (fun _ => rfl) (fun _ => rfl)
      (fun _ => ⟨rfl, rfl⟩) (fun a _ xs P k hP => get_foldl_setStr_filter E xs a P k hP) kvs
    rw [show execN E R fixed st (.mset kvs) =
      ((groupedN E R.N (fun kv => R.gen fixed kv.1) st .mset kvs).1, .one .ok) from rfl, hgen]
    exact ⟨this.1, this.2, rfl⟩
  | batchSet kvs =>
    have := grouped_refine hL h hv (fun kv : Key × Bytes => kv.1) .batchSet (fun _ => rfl) (fun _ => rfl)
      (fun _ => ⟨rfl, rfl⟩) (fun a _ xs P k hP => get_foldl_setStr_filter E xs a P k hP) kvs
    exact ⟨this.1, this.2, rfl⟩
  | «exists» ks =>
    have hf := exists_fold (E := E) h ks 0
    show Inv R (ks.foldl _ (st, (0 : Int))).1 ∧ abs (ks.foldl _ (st, (0 : Int))).1 = abs st ∧
      Reply.one (.int (ks.foldl _ (st, (0 : Int))).2) = Reply.one (.int (existsCount (abs st) ks))
    simp only [hgen]
    rw [hf]
    exact ⟨h, rfl, by simp⟩
  | del ks =>
    by_cases hlen : ks.length > 1
    · have hg := grouped_refine hL h hv (fun k : Key => k) .del (fun _ => rfl) (fun l => by simp [keyList])
        (fun _ => ⟨rfl, rfl⟩) (fun a ha xs P k hP => get_delKeys_filter xs a ha P k hP) ks
      have hex : execN E R fixed st (.del ks) =
          ((groupedN E R.N R.bytes st .del ks).1,
           .one (.int ((groupedN E R.N R.bytes st .del ks).2.map replyInt).sum)) := by
        show (if ks.length > 1 then _ else _) = _
        rw [if_pos hlen, hgen]
      rw [hex]
      refine ⟨hg.1, hg.2, ?_⟩
      show Reply.one (.int _) = Reply.one (.int ((delKeys (abs st) ks).2))
      rw [(groupedN_spec E R.N R.bytes st .del (fun _ => ⟨rfl, rfl⟩) (Nat.le_of_eq h.len.symm) ks).2.2]
      exact congrArg (fun n => Reply.one (.int n)) (del_count_sum ks h hv)
    · match ks, hlen with
      | [], _ => exact refine_keyed hL h (.del []) rfl 0 hN nofun
      | [k], _ => exact one _ k rfl rfl rfl (fun k' hk' => by rw [List.mem_singleton.mp hk'])
      | _ :: _ :: _, hlen => simp at hlen

/-- **one step**: a routable command on `R.N` consistently routed shards does to the union of
    the shards what one executor does to one store, and answers the same — up to the order inside a
    KEYS reply and up to which key RANDOMKEY names -/
theorem shards_refine_single (hL : E.Local) (R : Routes) (fixed : Bool) (hv : R.Valid)
    (hN : 0 < R.N) (hc : Consistent R fixed) {st : Shards S.Val} (h : Inv R st) (c : Cmd S)
    (hr : Routable R fixed c = true) :
    Inv R (execN E R fixed st c).1 ∧
    abs (execN E R fixed st c).1 = (E.exec (abs st) c).1 ∧
    replyEqv (execN E R fixed st c).2 (E.exec (abs st) c).2 = true := by
  by_cases hs : (∃ p, c = .keys p) ∨ c = .randomkey
  · rcases hs with ⟨p, rfl⟩ | rfl
    · have hst : (fanAll E st (.keys p)).1 = st := List.map_id' st
      refine ⟨by show Inv R (fanAll E st (.keys p)).1; rw [hst]; exact h,
              by show abs (fanAll E st (.keys p)).1 = abs st; rw [hst], ?_⟩
      show replyEqv (.keys ((fanAll E st (.keys p)).2.flatMap replyKeys))
        (.keys ((NMap.keys (abs st)).filter (E.glob p))) = true
      have : (fanAll E st (.keys p)).2.flatMap replyKeys =
          (st.flatMap NMap.keys).filter (E.glob p) := by
        show (st.map (fun s => Reply.keys ((NMap.keys s).filter (E.glob p)))).flatMap replyKeys = _
        rw [List.flatMap_map, List.filter_flatMap]
        rfl
      rw [this]
      exact List.isPerm_iff.mpr ((keys_abs_perm h).filter _)
    · obtain ⟨h1, o, h2, h3, _⟩ := randomkey_spec (E := E) h
      have hex : execN E R fixed st .randomkey = randomkeyFrom E st (List.range R.N) := rfl
      rw [hex, h1, h2]
      refine ⟨h, rfl, ?_⟩
      show (o.isSome == ((NMap.keys (abs st)).head?).isSome) = true
      cases o with
      | none => rw [h3.mp rfl]; rfl
      | some k =>
        cases hk : (NMap.keys (abs st)).head? with
        | none => have := h3.mpr hk; cases this
        | some _ => rfl
  · have := shards_refine_eq hL R fixed hv hN hc h c hr (fun p e => hs (.inl ⟨p, e⟩)) (fun e => hs (.inr e))
    exact ⟨this.1, this.2.1, replyEqv_iff.mpr (.inl this.2.2)⟩

/-- **RANDOMKEY** (the code since 4d9bd05): the N-shard reply is nil iff the one-store reply is nil, a
    non-nil reply names a key of the union of the shards, and nothing changes -/
theorem randomkey_refines {R : Routes} {fixed : Bool} {st : Shards S.Val} (h : Inv R st) :
    (execN E R fixed st .randomkey).1 = st ∧
    ∃ o, (execN E R fixed st .randomkey).2 = .rkey o ∧
      (o = none ↔ (E.exec (abs st) .randomkey).2 = .rkey none) ∧
      (∀ k, o = some k → present (abs st) k = true) := by
  obtain ⟨h1, o, h2, h3, h4⟩ := randomkey_spec (E := E) h
  refine ⟨h1, o, h2, ?_, h4⟩
  rw [h3]
  show _ ↔ Reply.rkey (NMap.keys (abs st)).head? = Reply.rkey none
  constructor
  · intro e; rw [e]
  · intro e; injection e

/-- **two-key commands whose keys share a shard** (RENAME, RENAMENX, RPOPLPUSH, LMOVE, SORT … STORE,
    a two-key script — any `exec2` that is local): the command runs whole on that shard and does
    to the union what it does to one store; same reply.  A cross-shard pair is outside this
    hypothesis (listed findings `C03:two-key:*`, `two_key_counterexample`). -/
theorem same_shard_two_key_refines (hL : E.Local) (R : Routes) (fixed : Bool) (hv : R.Valid)
    (hN : 0 < R.N) (hc : Consistent R fixed) {st : Shards S.Val} (h : Inv R st) (a b : Key)
    (op : S.Op2) (hab : R.gen fixed a = R.gen fixed b) :
    Inv R (execN E R fixed st (.two a b op)).1 ∧
    abs (execN E R fixed st (.two a b op)).1 = (E.exec (abs st) (.two a b op)).1 ∧
    (execN E R fixed st (.two a b op)).2 = (E.exec (abs st) (.two a b op)).2 :=
  shards_refine_eq hL R fixed hv hN hc h (.two a b op) (by simpa [Routable] using hab) nofun nofun

/-- MSETNX whose keys all live on the first key's shard -/
theorem same_shard_msetnx_refines (hL : E.Local) (R : Routes) (fixed : Bool) (hv : R.Valid)
    (hN : 0 < R.N) (hc : Consistent R fixed) {st : Shards S.Val} (h : Inv R st)
    (kvs : List (Key × Bytes)) (hr : Routable R fixed (.msetnx kvs : Cmd S) = true) :
    abs (execN E R fixed st (.msetnx kvs)).1 = (E.exec (abs st) (.msetnx kvs)).1 ∧
    replyEqv (execN E R fixed st (.msetnx kvs)).2 (E.exec (abs st) (.msetnx kvs)).2 = true :=
  (shards_refine_single hL R fixed hv hN hc h (.msetnx kvs) hr).2

end step

section seq
variable {S : Sig} {E : Exec S}

theorem shards_refine_single_seq (hL : E.Local) (R : Routes) (fixed : Bool) (hv : R.Valid)
    (hN : 0 < R.N) (hc : Consistent R fixed) (cmds : List (Cmd S))
    (hr : ∀ c ∈ cmds, Routable R fixed c = true) {st : Shards S.Val} (h : Inv R st) :
    Inv R (runN E R fixed st cmds).1 ∧
    abs (runN E R fixed st cmds).1 = (run1 E (abs st) cmds).1 ∧
    repliesEqv (runN E R fixed st cmds).2 (run1 E (abs st) cmds).2 = true := by
  induction cmds generalizing st with
  | nil => exact ⟨h, rfl, rfl⟩
  | cons c cs ih =>
    obtain ⟨hi, ha, hq⟩ := shards_refine_single hL R fixed hv hN hc h c (hr c (by simp))
    obtain ⟨hi', ha', hq'⟩ := ih (fun x hx => hr x (by simp [hx])) hi
    refine ⟨hi', ?_, ?_⟩
    · show abs (runN E R fixed (execN E R fixed st c).1 cs).1 = (run1 E (E.exec (abs st) c).1 cs).1
      rw [ha', ha]
    · show repliesEqv ((execN E R fixed st c).2 :: (runN E R fixed (execN E R fixed st c).1 cs).2)
        ((E.exec (abs st) c).2 :: (run1 E (E.exec (abs st) c).1 cs).2) = true
      simp only [repliesEqv, Bool.and_eq_true]
      refine ⟨hq, ?_⟩
      rw [← ha]; exact hq'

/-- **every key has exactly one home**: in every state reachable by routable commands under
    consistent routing, a key is stored at most in shard `hash_key_bytes(k)` -/
theorem home_unique (hL : E.Local) (R : Routes) (fixed : Bool) (hv : R.Valid) (hN : 0 < R.N)
    (hc : Consistent R fixed) (cmds : List (Cmd S)) (hr : ∀ c ∈ cmds, Routable R fixed c = true)
    (i k : Nat)
    (hk : (get (shard (runN E R fixed (Shards.init S.Val R.N) cmds).1 i) k).isSome) :
    i = R.bytes k :=
  ((shards_refine_single_seq hL R fixed hv hN hc cmds hr (inv_init R)).1.home i k hk).symm

/-- **N shards answer like one executor** (from the empty server) -/
theorem observe_eq_single (hL : E.Local) (R : Routes) (fixed : Bool) (hv : R.Valid) (hN : 0 < R.N)
    (hc : Consistent R fixed) (cmds : List (Cmd S)) (hr : ∀ c ∈ cmds, Routable R fixed c = true) :
    obsEqv (observe E R fixed cmds) (run1 E [] cmds) := by
  have := shards_refine_single_seq hL R fixed hv hN hc cmds hr (inv_init (ν := S.Val) R)
  rw [abs_init] at this
  exact ⟨this.2.1, this.2.2⟩

/-- **C03, proved form**: two servers with any two shard counts / consistent routings answer every
    sequence that is routable on both alike (up to order inside KEYS replies) and end with the
    same keyspace.  Hypotheses: locality of the executor, `Routable` (decidable), consistency. -/
theorem shard_count_unobservable_partial (hL : E.Local) (R R' : Routes) (fixed : Bool)
    (hv : R.Valid) (hN : 0 < R.N) (hc : Consistent R fixed)
    (hv' : R'.Valid) (hN' : 0 < R'.N) (hc' : Consistent R' fixed)
    (cmds : List (Cmd S)) (hr : ∀ c ∈ cmds, Routable R fixed c = true)
    (hr' : ∀ c ∈ cmds, Routable R' fixed c = true) :
    obsEqv (observe E R fixed cmds) (observe E R' fixed cmds) := by
  obtain ⟨a1, a2⟩ := observe_eq_single hL R fixed hv hN hc cmds hr
  obtain ⟨b1, b2⟩ := observe_eq_single hL R' fixed hv' hN' hc' cmds hr'
  exact ⟨a1.trans b1.symm, repliesEqv_trans a2 (repliesEqv_symm b2)⟩

theorem oneShard_valid : oneShard.Valid := fun _ => ⟨Nat.zero_lt_one, Nat.zero_lt_one⟩

theorem routable_oneShard (fixed : Bool) (c : Cmd S) (R : Routes) (h : Routable R fixed c = true) :
    Routable oneShard fixed c = true := by
  cases c with
  | two a b op => cases fixed <;> rfl
  | msetnx kvs =>
    cases kvs with
    | nil => rfl
    | cons kv rest =>
      cases fixed <;> simp [Routable, Routes.gen, oneShard]
  | scan _ _ _ => simp [Routable] at h
  | _ => rfl

/-- **the repaired routing** (`hash_key` delegates to `hash_key_bytes`): `N` shards vs ONE shard,
    no hypothesis on the hash functions at all -/
theorem shard_count_unobservable_repaired (hL : E.Local) (R : Routes) (hv : R.Valid) (hN : 0 < R.N)
    (cmds : List (Cmd S)) (hr : ∀ c ∈ cmds, Routable R true c = true) :
    obsEqv (observe E R true cmds) (observe E oneShard true cmds) :=
  shard_count_unobservable_partial hL R oneShard true hv hN (consistent_fixed R)
    oneShard_valid Nat.zero_lt_one (consistent_fixed _) cmds hr
    (fun c hc => routable_oneShard true c R (hr c hc))

/-- the pinned routing, under the hypothesis that the two hashes agree -/
theorem shard_count_unobservable_pinned_partial (hL : E.Local) (R : Routes) (hv : R.Valid)
    (hN : 0 < R.N) (hrc : RouteConsistent R) (cmds : List (Cmd S))
    (hr : ∀ c ∈ cmds, Routable R false c = true) :
    obsEqv (observe E R false cmds) (observe E oneShard false cmds) :=
  shard_count_unobservable_partial hL R oneShard false hv hN
    (consistent_of_routeConsistent R hrc false)
    oneShard_valid Nat.zero_lt_one (consistent_of_routeConsistent _ (fun _ => rfl) false) cmds hr
    (fun c hc => routable_oneShard false c R (hr c hc))

end seq

section scriptcache
variable {S : Sig} {E : Exec S}

/-- the sequential specification of the script commands: ONE cache, ONE store -/
def specS (E : Exec S) (getOp : S.Op) (cache : NSet) (s : Store S.Val) : SCmd → (NSet × Store S.Val) × Reply
  | .load i => ((NSet.insert i cache, s), .one .ok)
  | .exists i => ((cache, s), .one (.int (if cache.contains i then 1 else 0)))
  | .flush => (([], s), .one .ok)
  | .eval i k => let r := E.exec s (.single k getOp); ((NSet.insert i cache, r.1), r.2)
  | .evalsha i k =>
    if cache.contains i then (let r := E.exec s (.single k getOp); ((cache, r.1), r.2))
    else ((cache, s), .one (.err errNoScript))

/-- **the script cache is node-global** (the code: one shared cache): SCRIPT LOAD / EXISTS / FLUSH,
    EVAL and EVALSHA on `R.N` shards — whichever shards the scripts' keys live on — do to (cache,
    union of the shards) what they do to one cache and one store, with the same reply -/
theorem script_cache_global_refines (hL : E.Local) (getOp : S.Op) (R : Routes) (hv : R.Valid)
    (hN : 0 < R.N) (g : GState S.Val) (h : Inv R g.st) (c : SCmd) :
    Inv R (execS E getOp R true g c).1.st ∧
    ((execS E getOp R true g c).1.cache, abs (execS E getOp R true g c).1.st) =
      (specS E getOp g.cache (abs g.st) c).1 ∧
    (execS E getOp R true g c).2 = (specS E getOp g.cache (abs g.st) c).2 := by
  have hk : ∀ k, Inv R (execN E R true g.st (.single k getOp)).1 ∧
      abs (execN E R true g.st (.single k getOp)).1 = (E.exec (abs g.st) (.single k getOp)).1 ∧
      (execN E R true g.st (.single k getOp)).2 = (E.exec (abs g.st) (.single k getOp)).2 := by
    intro k
    exact routed_by_first_key_refines hL R true h (.single k getOp) rfl rfl (hv k).2
      (by intro k' hk'; have : k' = k := by simpa [keyList] using hk'
          rw [this]; rfl)
  have _ := hN
  cases c with
  | load i => exact ⟨h, rfl, rfl⟩
  | «exists» i =>
    refine ⟨h, rfl, ?_⟩
    simp only [execS, specS, Bool.not_true, Bool.false_and, Bool.or_false]
  | flush => exact ⟨h, rfl, rfl⟩
  | eval i k =>
    obtain ⟨a1, a2, a3⟩ := hk k
    refine ⟨a1, ?_, a3⟩
    show (NSet.insert i g.cache, abs (execN E R true g.st (.single k getOp)).1) = _
    rw [a2]; rfl
  | evalsha i k =>
    obtain ⟨a1, a2, a3⟩ := hk k
    cases hc : g.cache.contains i with
    | true =>
      simp only [execS, specS, hc, Bool.not_true, Bool.false_and, Bool.or_false, if_true]
      exact ⟨a1, by rw [a2], a3⟩
    | false =>
      simp only [execS, specS, hc, Bool.not_true, Bool.false_and, Bool.or_false, Bool.false_eq_true,
        if_false]
      refine ⟨h, ?_, ?_⟩ <;> first | rfl | trivial

end scriptcache


open Shards.Str in
/-- keys 1,2 ↦ shard 0, key 3 ↦ shard 1 (both hashes) -/
def exRoutes : Routes := Routes.ofTable 2 [(1, (0, 0)), (2, (0, 0)), (3, (1, 1))]

open Shards.Str in
def exCmds : List (Cmd Str.sig) :=
  [.single 1 (.set [97]), .fastSet 3 [98], .mset [(2, [99]), (3, [100])], .two 1 2 .rename,
   .mget [1, 2, 3], .del [1, 3], .keys [42], .dbsize]

theorem exRoutes_valid : exRoutes.Valid := ofTable_valid 2 _ (by decide) (by decide)

example : obsEqv (observe Str.exec exRoutes false exCmds) (observe Str.exec oneShard false exCmds) :=
  shard_count_unobservable_pinned_partial Str.exec_local exRoutes exRoutes_valid (by decide)
    (routeConsistent_ofTable 2 _ (by decide)) exCmds (by decide)

example : obsEqv (observe Str.exec exRoutes true (exCmds ++ [.randomkey]))
    (observe Str.exec oneShard true (exCmds ++ [.randomkey])) :=
  shard_count_unobservable_repaired Str.exec_local exRoutes exRoutes_valid (by decide) _ (by decide)

/-- … and the run is not trivial: both shards end up non-empty, the replies are not constant -/
example : (observe Str.exec exRoutes false exCmds).2 =
    [.one .ok, .one .ok, .one .ok, .one .ok, .many [.nil, .bulk [97], .bulk [100]], .one (.int 1),
     .keys [2], .one (.int 1)] := by decide

section counterexamples
open Shards.Str

/-- key 1: `hash_key` says shard 0, `hash_key_bytes` says shard 1 -/
def mismatchRoutes : Routes := Routes.ofTable 2 [(1, (0, 1))]

/-- `fast_set k v` then generic `STRLEN k`: 0 on two shards, 1 on one shard -/
theorem route_hash_mismatch_counterexample :
    (observe Str.exec mismatchRoutes false [.fastSet 1 [104], .single 1 .strlen]).2
        = [.one .ok, .one (.int 0)] ∧
    (observe Str.exec oneShard false [.fastSet 1 [104], .single 1 .strlen]).2
        = [.one .ok, .one (.int 1)] := by decide

theorem C03_statement_pinned_counterexample : ¬ C03_statement Str.exec false := by
  intro h
  have := (h mismatchRoutes (ofTable_valid 2 _ (by decide) (by decide)) (by decide) [.fastSet 1 [104], .single 1 .strlen]).2
  revert this
  decide

/-- … and the key then has two homes: `SET` through the generic path stores it in shard 0 too -/
theorem home_unique_pinned_counterexample : ¬ C03_home_unique Str.exec false := by
  intro h
  have := h mismatchRoutes (ofTable_valid 2 _ (by decide) (by decide)) (by decide)
    [.fastSet 1 [104], .single 1 (.set [105])] 0 1 1 (by decide) (by decide)
  exact absurd this (by decide)

/-- routes with consistent hashes: key 1 ↦ shard 0, key 2 ↦ shard 1 -/
def twoRoutes : Routes := Routes.ofTable 2 [(1, (0, 0)), (2, (1, 1))]

/-- even with the REPAIRED routing: `RENAME a b` runs on `a`'s shard and plants `b` there;
    `GET b` then asks `b`'s own shard -/
theorem two_key_counterexample :
    (observe Str.exec twoRoutes true [.single 1 (.set [49]), .two 1 2 .rename, .single 2 .get]).2
        = [.one .ok, .one .ok, .one .nil] ∧
    (observe Str.exec oneShard true [.single 1 (.set [49]), .two 1 2 .rename, .single 2 .get]).2
        = [.one .ok, .one .ok, .one (.bulk [49])] := by decide

/-- MSETNX runs whole on its first key's shard: it does not see that key 2 exists -/
theorem msetnx_counterexample :
    (observe Str.exec twoRoutes true [.single 2 (.set [49]), .msetnx [(1, [50]), (2, [51])]]).2
        = [.one .ok, .one (.int 1)] ∧
    (observe Str.exec oneShard true [.single 2 (.set [49]), .msetnx [(1, [50]), (2, [51])]]).2
        = [.one .ok, .one (.int 0)] := by decide

/-- the PINNED code (before fix 4d9bd05) sent RANDOMKEY to shard 0 only: nil although key 2 exists -/
theorem randomkey_counterexample :
    (randomkeyPinned Str.exec [[], [(2, SVal.str [49])]]).2 = .rkey none ∧
    (Str.exec.exec (abs [[], [(2, SVal.str [49])]]) .randomkey).2 = .rkey (some 2) ∧
    (execN Str.exec twoRoutes true [[], [(2, SVal.str [49])]] .randomkey).2 = .rkey (some 2) := by
  decide

/-- SCAN: every shard is asked for `SCAN 0 … COUNT 1`, the non-zero cursors are dropped, and the
    reply says "iteration complete": 2 keys from two shards, 1 key from one shard, both with cursor 0 -/
theorem scan_cursor_counterexample :
    (observe Str.exec twoRoutes true
        [.mset [(1, [49]), (2, [50])], .scan 0 none (some 1)]).2 = [.one .ok, .scan 0 [1, 2]] ∧
    (observe Str.exec oneShard true
        [.mset [(1, [49]), (2, [50])], .scan 0 none (some 1)]).2 = [.one .ok, .scan 0 [1]] := by decide

theorem C03_statement_repaired_counterexample : ¬ C03_statement Str.exec true := by
  intro h
  have := (h twoRoutes (ofTable_valid 2 _ (by decide) (by decide)) (by decide)
    [.single 1 (.set [49]), .two 1 2 .rename, .single 2 .get]).2
  revert this
  decide

/-- **one route for all paths** (the model of the current code, `fixed = true`; no hypothesis on
    the hash functions): the generic route, the fast / pooled route and the batch route of a key are
    the same function of the WHOLE key, whatever the command kind -/
theorem route_same_on_all_paths {S : Sig} (R : Routes) (k k2 : Key) (v : Bytes) (op : S.Op) (op2 : S.Op2) :
    R.gen true k = R.bytes k ∧
    cmdShard R true (.single k op : Cmd S) = R.bytes k ∧
    cmdShard R true (.two k k2 op2 : Cmd S) = R.bytes k ∧
    cmdShard R true (.fastGet k : Cmd S) = R.bytes k ∧
    cmdShard R true (.fastSet k v : Cmd S) = R.bytes k ∧
    cmdShard R true (.batchGet [k] : Cmd S) = R.bytes k ∧
    cmdShard R true (.batchSet [(k, v)] : Cmd S) = R.bytes k ∧
    cmdShard R true (.del [k] : Cmd S) = R.bytes k ∧
    cmdShard R true (.msetnx [(k, v)] : Cmd S) = R.bytes k :=
  ⟨rfl, rfl, rfl, rfl, rfl, rfl, rfl, rfl, rfl⟩

theorem shard_init_empty (ν : Type) (n i : Nat) : shard (Shards.init ν n) i = [] := by
  unfold shard Shards.init
  rw [List.getD_eq_getElem?_getD]
  cases h : (List.replicate n ([] : Store ν))[i]? with
  | none => rfl
  | some x => exact List.eq_of_mem_replicate (List.mem_of_getElem? h)

/-- **a path-dependent route** — ANY two route functions that differ on some key `k` (the hashes
    before fix 872671c; `{tag}` hashing on the generic route only; …): `fast_set k v` stores the key in
    `bytes k`, a generic `STRLEN k` looks in `str k ≠ bytes k` and answers 0; one shard answers 1 -/
theorem path_dependent_route_counterexample (R : Routes) (k : Key) (hv : R.Valid)
    (hne : R.str k ≠ R.bytes k) :
    (observe Str.exec R false [.fastSet k [104], .single k .strlen]).2 = [.one .ok, .one (.int 0)] ∧
    (observe Str.exec oneShard false [.fastSet k [104], .single k .strlen]).2 =
      [.one .ok, .one (.int 1)] := by
  constructor
  · have hb : R.bytes k < (Shards.init SVal R.N).length := by simp [Shards.init]; exact (hv k).2
    show [_, (routePrimary Str.exec R false
        ((Shards.init SVal R.N).set (R.bytes k) (NMap.insert k (SVal.str [104]) (shard (Shards.init SVal R.N) (R.bytes k))))
        (.single k .strlen)).2] = _
    have hsh : shard ((Shards.init SVal R.N).set (R.bytes k)
        (NMap.insert k (SVal.str [104]) (shard (Shards.init SVal R.N) (R.bytes k)))) (R.str k) = [] := by
      rw [shard_set, if_neg (fun x => hne x.1.symm), shard_init_empty]
    show [Reply.one .ok, (Str.exec1 (shard _ (R.str k)) k .strlen).2] = _
    rw [hsh]
    rfl
  · show [Reply.one .ok, (Str.exec1 (shard ([([] : Str.St)].set 0 (NMap.insert k (SVal.str [104]) [])) 0) k .strlen).2] = _
    have : shard ([([] : Str.St)].set 0 (NMap.insert k (SVal.str [104]) [])) 0 = [(k, SVal.str [104])] := rfl
    rw [this]
    show [Reply.one .ok, (Str.slot1 .strlen (NMap.get [(k, SVal.str [104])] k)).2] = _
    simp [NMap.get, Str.slot1]

/-- **routed to shard 0 instead of the key's home** (seed C02-evalsha-routed-to-shard0: EVALSHA lost
    its primary key): key 2 lives on shard 1; `fast_set 2 v` then the same GET sent to shard 0
    answers nil, sent to `cmdShard` it answers `v` -/
theorem routed_to_shard0_counterexample :
    (onShard Str.exec (execN Str.exec twoRoutes true (Shards.init SVal 2) (.fastSet 2 [118])).1 0
      (.single 2 .get)).2 = .one .nil ∧
    (execN Str.exec twoRoutes true (execN Str.exec twoRoutes true (Shards.init SVal 2) (.fastSet 2 [118])).1
      (.single 2 .get)).2 = .one (.bulk [118]) ∧
    cmdShard twoRoutes true (.single 2 .get : Cmd Str.sig) = 1 := by decide

/-- a script with ZERO keys that writes key 2 (home: shard 1) runs on shard 0 (`execKeyless`): the
    key is planted there and a later GET (routed to its home) does not see it -/
theorem undeclared_key_counterexample :
    (execN Str.exec twoRoutes true
        (execKeyless Str.exec (Shards.init SVal 2) (.single 2 (.set [117]))).1 (.single 2 .get)).2 = .one .nil ∧
    (Str.exec.exec (Str.exec.exec ([] : Str.St) (.single 2 (.set [117]))).1 (.single 2 .get)).2 = .one (.bulk [117]) := by
  decide

end counterexamples

section scriptcex
open Shards.Str

/-- **a per-shard script cache** (seed C03-eval-caches-script-per-shard): EVAL script 7 on key 1
    (shard 0), then EVALSHA 7 on key 2 (shard 1) → NOSCRIPT on two shards, a result on one shard;
    SCRIPT EXISTS 7 (asked of shard 0) after an EVAL on shard 1 → 0 vs 1 -/
theorem per_shard_script_cache_counterexample :
    runS Str.exec .get twoRoutes false (ginit SVal 2) [.eval 7 1, .evalsha 7 2]
      = [.one .nil, .one (.err errNoScript)] ∧
    runS Str.exec .get oneShard false (ginit SVal 1) [.eval 7 1, .evalsha 7 2]
      = [.one .nil, .one .nil] ∧
    runS Str.exec .get twoRoutes false (ginit SVal 2) [.eval 7 2, .exists 7]
      = [.one .nil, .one (.int 0)] ∧
    runS Str.exec .get oneShard false (ginit SVal 1) [.eval 7 2, .exists 7]
      = [.one .nil, .one (.int 1)] := by decide

/-- … and with the shared cache (the code) the same runs agree, also after SCRIPT FLUSH (which is
    sent to shard 0 only but clears the one cache every shard uses) -/
example : runS Str.exec .get twoRoutes true (ginit SVal 2) [.eval 7 1, .evalsha 7 2, .exists 7, .flush, .evalsha 7 2]
    = runS Str.exec .get oneShard true (ginit SVal 1) [.eval 7 1, .evalsha 7 2, .exists 7, .flush, .evalsha 7 2] := by
  decide

end scriptcex

section clock
open Shards.Clock

/-- **shard count unobservable also when time passes and keys expire** (full statement, for a given
    assignment of which message kinds carry the virtual time): for every run with monotone virtual
    time the replies of `R.N` shards equal those of one shard -/
def C03_statement_timed (K : Carries) : Prop :=
  ∀ (R : Routes), R.Valid → 0 < R.N → ∀ steps : List (Nat × TCmd), Mono 0 steps →
    runNT R K (tinit R.N) steps = runNT oneShard K (tinit 1) steps

/-- **proved for the code as it is** (every `ShardMessage` kind carries the time and the shard
    adopts it before executing): TTLs (PX / EX), any passage of time, traffic to any shards in
    between, every entry path (generic, fast, pooled, batch pipelines, MGET / MSET, DBSIZE) -/
theorem shard_count_unobservable_timed : C03_statement_timed allCarry := by
  intro R hv _ steps hm
  exact runNT_refines hv steps (trel_init R) hm

/-- non-vacuity: a run in which a TTL runs out between two reads through different paths -/
example : runNT twoRoutes allCarry (tinit 2)
    [(0, .key .generic 1 (.setPx [118] 100)), (99, .batch .batchGet [(1, .get), (2, .get)]),
     (100, .key .generic 2 (.set [119])), (100, .key .pooledGet 1 .get), (100, .dbsize)]
    = [[.ok], [.bulk [118], .nil], [.ok], [.nil], [.int 1]] := by decide

/-- a message kind that does NOT carry the time, all others do -/
def allBut (k0 : Kind) : Carries := fun k => decide (k ≠ k0)

/-- the seeded / pre-ef50533 behaviour for one kind: `SET 1 v PX 100` at t = 0; at t = 500 a generic
    `GET 2` (another shard), then key 1 is read through the given path -/
def staleRun (read : TCmd) : List (Nat × TCmd) :=
  [(0, .key .generic 1 (.setPx [118] 100)), (500, .key .generic 2 .get), (500, read)]

/-- `fast_batch_get_pipeline` without `set_time` (seed C03-batch-get-skips-set-time): two shards
    serve the expired value, one shard answers nil -/
theorem stale_clock_batch_get_counterexample :
    runNT twoRoutes (allBut .batchGet) (tinit 2) (staleRun (.batch .batchGet [(1, .get)]))
      = [[.ok], [.nil], [.bulk [118]]] ∧
    runNT oneShard (allBut .batchGet) (tinit 1) (staleRun (.batch .batchGet [(1, .get)]))
      = [[.ok], [.nil], [.nil]] := by decide

/-- the same for `fast_get` and `pooled_fast_get` (the code before fix ef50533) -/
theorem stale_clock_counterexample :
    runNT twoRoutes (allBut .fastGet) (tinit 2) (staleRun (.key .fastGet 1 .get))
      = [[.ok], [.nil], [.bulk [118]]] ∧
    runNT oneShard (allBut .fastGet) (tinit 1) (staleRun (.key .fastGet 1 .get))
      = [[.ok], [.nil], [.nil]] ∧
    runNT twoRoutes (allBut .pooledGet) (tinit 2) (staleRun (.key .pooledGet 1 .get))
      = [[.ok], [.nil], [.bulk [118]]] := by decide

theorem C03_statement_timed_counterexample : ¬ C03_statement_timed (allBut .batchGet) := by
  intro h
  have := h twoRoutes (ofTable_valid 2 _ (by decide) (by decide)) (by decide)
    (staleRun (.batch .batchGet [(1, .get)])) (by decide)
  revert this
  decide

end clock

end C03
end RedisVerif
