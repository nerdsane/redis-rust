import RedisVerif.Props.C10Bytes

/-!
# C10 — which hypothesis is left in `C10_only_appended`, exactly

`C10_only_appended fmt crc` (Props/C10.lean) quantifies over every truncation, every ONE-byte
replacement and every cut followed by a zero-filled tail of a well-formed file image.  For the
format `.v2` and the executable CRC-32:

**It is FALSE**, and the two classes that `only_appended_crc32` leaves out are exactly where it fails
(kernel-checked witnesses, replayed on the real code on every run — finding
`C10:only-appended:crc32-collision:*`):

* `length_bit_flip_counterexample` — ONE flipped BIT in the length field of an entry (5 → 1): the
  checksum then covers a shorter string, and for a crafted payload the CRC-32 of
  `len' | stamp | payload[..len']` equals the stored CRC-32 of `len | stamp | payload`: recovery returns
  an entry with a 1-byte payload that nobody appended.  (CRC-32 guarantees nothing between strings
  of different lengths.)
* `torn_zero_fill_counterexample` — the file is cut 5 bytes before the end of an entry and the tail
  is zero-filled (the classic crash artefact): for a payload whose last 5 bytes are a multiple of the
  CRC polynomial the zero-filled entry passes the checksum: recovery returns altered data.  (A change
  wider than 32 bits.)

**Everything narrower is proved** (no hypothesis on the checksum), extending
`single_byte_corruption_yields_prefix` from one byte to every change confined to one FIELD
(`FieldDamage`): the 16 header bytes, the stored checksum, up to 4 consecutive bytes of the payload
or of the stamp (every burst ≤ 25 bits, every byte-aligned burst ≤ 32 bits), a cut at most 4 bytes
before the end of an entry followed by zeros.
-/
namespace RedisVerif
namespace C10

open Wal Driver WalBytes Concrete

/-! ## the two witnesses -/

/-- payload crafted so that `crc32 (le 4 1 ++ le 8 7 ++ [65]) = crc32 (le 4 5 ++ le 8 7 ++ payload)` -/
def lenWitness : Entry := Entry.mk' .v2 crc32 [65, 163, 53, 179, 117] 7

/-- payload whose last five bytes `[1, 150, 48, 7, 119]` are a multiple of the CRC-32 polynomial:
    zeroing them does not change the checksum -/
def tornWitness : Entry := Entry.mk' .v2 crc32 [1, 1, 150, 48, 7, 119] 7

/-- what recovery returns from the file holding `lenWitness` once bit 2 of its first length byte is
    flipped (5 → 1): one entry, payload `[65]`, same stamp, same stored checksum — never appended -/
theorem length_bit_flip_recovers :
    fileEntries .v2 crc32 ((fileImage .v2 1 [lenWitness]).set 16 1) = [⟨[65], 7, lenWitness.crc⟩] ∧
    (fileImage .v2 1 [lenWitness])[16]? = some 5 := by decide +kernel

theorem length_bit_flip_counterexample : ¬ C10_only_appended .v2 crc32 := by
  intro h
  have := h 1 [lenWitness] (by decide) (by decide +kernel) ((fileImage .v2 1 [lenWitness]).set 16 1)
    (Or.inr (Or.inl ⟨16, 1, by decide +kernel, rfl⟩))
  revert this
  decide +kernel

/-- what recovery returns from the file holding `tornWitness` cut 5 bytes short and zero-filled -/
theorem torn_zero_fill_recovers :
    fileEntries .v2 crc32 ((fileImage .v2 1 [tornWitness]).take 33 ++ List.replicate 5 0)
      = [⟨[1, 0, 0, 0, 0, 0], 7, tornWitness.crc⟩] ∧ (fileImage .v2 1 [tornWitness]).length = 38 := by
  decide +kernel

theorem torn_zero_fill_counterexample : ¬ C10_only_appended .v2 crc32 := by
  intro h
  have := h 1 [tornWitness] (by decide) (by decide +kernel)
    ((fileImage .v2 1 [tornWitness]).take 33 ++ List.replicate 5 0) (Or.inr (Or.inr ⟨33, 5, rfl⟩))
  revert this
  decide +kernel

/-! ## damage confined to one field -/

/-- the file header replaced by ANY 16 bytes: all entries or none -/
theorem header_damage_yields_prefix (es : List Entry) (h' : Bytes) (hl : h'.length = 16)
    (hok : AllOk .v2 crc32 es) : ∃ k, fileEntries .v2 crc32 (h' ++ encs es) = es.take k :=
  prefix_of_any_header .v2 crc32 es h' hl hok

/-! Each kind of damage to ONE entry makes that entry undecodable; recovery of the file then ends in
front of it (`fileEntries_stop`). -/

theorem decode_checksum_damage (e : Entry) (c' : Nat) (rest : Bytes) (he : e.Good .v2 crc32)
    (hc : c' < 2 ^ 32) (hne : c' ≠ e.crc) :
    decode .v2 crc32 ((Entry.mk e.data e.ts c').encode ++ rest) = none :=
  decode_crc_ne .v2 crc32 e.data e.ts c' rest ⟨he.1.1, he.1.2.1, hc⟩ fun h => hne (h.symm.trans he.2.1)

/-- the stored checksum of an entry replaced by ANY other value -/
theorem checksum_field_damage_stops (seq : Nat) (es₁ : List Entry) (e : Entry) (c' : Nat) (rest : Bytes)
    (hs : seq < 2 ^ 64) (hok₁ : AllOk .v2 crc32 es₁) (he : e.Good .v2 crc32) (hc : c' < 2 ^ 32) (hne : c' ≠ e.crc) :
    fileEntries .v2 crc32 (fileImage .v2 seq es₁ ++ ((Entry.mk e.data e.ts c').encode ++ rest)) = es₁ :=
  fileEntries_stop seq hok₁ (decode_checksum_damage e c' rest he hc hne)

theorem decode_payload_window4 (e : Entry) (pre w w' post rest : Bytes) (he : e.Good .v2 crc32)
    (hd : e.data = pre ++ w ++ post) (hlen : w.length = w'.length) (h4 : w.length ≤ 4)
    (hb : ∀ x ∈ e.data, x < 256) (hw' : ∀ x ∈ w', x < 256) (hne : w ≠ w') :
    decode .v2 crc32 ((Entry.mk (pre ++ w' ++ post) e.ts e.crc).encode ++ rest) = none := by
  have hl' : (pre ++ w' ++ post).length = e.data.length := by
    rw [hd]; simp only [List.length_append]; omega
  apply decode_crc_ne .v2 crc32 (pre ++ w' ++ post) e.ts e.crc rest ⟨hl'.symm ▸ he.1.1, he.1.2.1, he.1.2.2⟩
  have hval : crc32 (covered .v2 e.data.length e.ts e.data) = e.crc := he.2.1
  rw [← hval, hl', covered_v2_eq, covered_v2_eq, hd]
  have hw : ∀ x ∈ w, x < 256 := fun x hx => hb x (by rw [hd]; simp [hx])
  have := C14.crc32_detects_window4 ((le 4 (pre ++ w ++ post).length ++ le 8 e.ts) ++ pre) w w' post hlen h4 hw hw' hne
  intro heq
  apply this
  simp only [List.append_assoc] at heq ⊢
  exact heq.symm

/-- up to 4 consecutive PAYLOAD bytes replaced by anything else -/
theorem payload_window4_damage_stops (seq : Nat) (es₁ : List Entry) (e : Entry) (pre w w' post rest : Bytes)
    (hs : seq < 2 ^ 64) (hok₁ : AllOk .v2 crc32 es₁) (he : e.Good .v2 crc32)
    (hd : e.data = pre ++ w ++ post) (hlen : w.length = w'.length) (h4 : w.length ≤ 4)
    (hb : ∀ x ∈ e.data, x < 256) (hw' : ∀ x ∈ w', x < 256) (hne : w ≠ w') :
    fileEntries .v2 crc32
      (fileImage .v2 seq es₁ ++ ((Entry.mk (pre ++ w' ++ post) e.ts e.crc).encode ++ rest)) = es₁ :=
  fileEntries_stop seq hok₁ (decode_payload_window4 e pre w w' post rest he hd hlen h4 hb hw' hne)

theorem stamp_window_le (ts : Nat) (pre w w' post : Bytes) (hd : le 8 ts = pre ++ w ++ post)
    (hlen : w.length = w'.length) (hw' : ∀ x ∈ w', x < 256) :
    le 8 (leVal (pre ++ w' ++ post)) = pre ++ w' ++ post ∧ leVal (pre ++ w' ++ post) < 2 ^ 64 ∧
      ∀ x ∈ w, x < 256 := by
  have hl8 : (pre ++ w' ++ post).length = 8 := by
    have := congrArg List.length hd
    rw [le_length] at this
    simp only [List.length_append] at this ⊢
    omega
  have hle := le_bytes 8 ts
  rw [hd] at hle
  have hbs : ∀ x ∈ pre ++ w' ++ post, x < 256 := by
    intro x hx
    simp only [List.mem_append] at hx hle
    rcases hx with (hx | hx) | hx
    · exact hle x (Or.inl (Or.inl hx))
    · exact hw' x hx
    · exact hle x (Or.inr hx)
  have h1 := Codec.le_leVal _ hbs
  have h2 := leVal_lt _ hbs
  rw [hl8] at h1 h2
  exact ⟨h1, h2, fun x hx => hle x (by simp [hx])⟩

theorem decode_stamp_window4 (e : Entry) (pre w w' post rest : Bytes) (he : e.Good .v2 crc32)
    (hd : le 8 e.ts = pre ++ w ++ post) (hlen : w.length = w'.length) (h4 : w.length ≤ 4)
    (hw' : ∀ x ∈ w', x < 256) (hne : w ≠ w') :
    decode .v2 crc32 ((Entry.mk e.data (leVal (pre ++ w' ++ post)) e.crc).encode ++ rest) = none := by
  obtain ⟨hle, hts, hw⟩ := stamp_window_le e.ts pre w w' post hd hlen hw'
  apply decode_crc_ne .v2 crc32 e.data (leVal (pre ++ w' ++ post)) e.crc rest ⟨he.1.1, hts, he.1.2.2⟩
  have hval : crc32 (covered .v2 e.data.length e.ts e.data) = e.crc := he.2.1
  rw [← hval]
  simp only [covered]
  rw [hle, hd]
  have := C14.crc32_detects_window4 (le 4 e.data.length ++ pre) w w' (post ++ e.data) hlen h4 hw hw' hne
  intro heq
  apply this
  simp only [List.append_assoc] at heq ⊢
  exact heq.symm

/-- up to 4 consecutive STAMP bytes replaced by anything else -/
theorem stamp_window4_damage_stops (seq : Nat) (es₁ : List Entry) (e : Entry) (pre w w' post rest : Bytes)
    (hs : seq < 2 ^ 64) (hok₁ : AllOk .v2 crc32 es₁) (he : e.Good .v2 crc32)
    (hd : le 8 e.ts = pre ++ w ++ post) (hlen : w.length = w'.length) (h4 : w.length ≤ 4)
    (hw' : ∀ x ∈ w', x < 256) (hne : w ≠ w') :
    fileEntries .v2 crc32
      (fileImage .v2 seq es₁ ++ ((Entry.mk e.data (leVal (pre ++ w' ++ post)) e.crc).encode ++ rest)) = es₁ ∧
    le 8 (leVal (pre ++ w' ++ post)) = pre ++ w' ++ post :=
  ⟨fileEntries_stop seq hok₁ (decode_stamp_window4 e pre w w' post rest he hd hlen h4 hw' hne),
    (stamp_window_le e.ts pre w w' post hd hlen hw').1⟩

theorem torn_entry_zero_fill (e : Entry) (j m : Nat) (he : e.Good .v2 crc32) (hb : ∀ x ∈ e.data, x < 256)
    (hj : j ≤ 4) (hjd : j ≤ e.data.length) :
    decode .v2 crc32 (e.encode.take (e.encode.length - j) ++ List.replicate m 0) = none ∨
      e.encode.take (e.encode.length - j) ++ List.replicate m 0 = e.encode ++ List.replicate (m - j) 0 := by
  have hlen := encode_length e
  simp only [overhead] at hlen
  -- the surviving part of the encoding: header and a shortened payload
  have htake : e.encode.take (e.encode.length - j) ++ List.replicate m 0
      = le 4 e.data.length ++ (le 8 e.ts ++ (le 4 e.crc ++ (e.data.take (e.data.length - j) ++ List.replicate m 0))) := by
    rw [show e.encode.length - j = 16 + (e.data.length - j) by omega, encode_take]
    simp only [List.append_assoc]
  by_cases hm : m < j
  · -- the declared payload is not there
    left
    rw [htake, decode_hdr .v2 crc32 _ _ _ _ he.1.1 he.1.2.1 he.1.2.2]
    split
    · rfl
    · rw [if_pos (by simp only [List.length_append, List.length_take, List.length_replicate]; omega)]
  · -- enough zeros: the payload read is `data[..len-j] ++ zeros j`
    have hdata : e.data = e.data.take (e.data.length - j) ++ e.data.drop (e.data.length - j) ++ [] := by
      rw [List.append_nil, List.take_append_drop]
    have hzeros : e.encode.take (e.encode.length - j) ++ List.replicate m 0
        = (Entry.mk (e.data.take (e.data.length - j) ++ List.replicate j 0 ++ []) e.ts e.crc).encode
          ++ List.replicate (m - j) 0 := by
      have hl' : (e.data.take (e.data.length - j) ++ List.replicate j 0 ++ []).length = e.data.length := by
        simp only [List.length_append, List.length_take, List.length_replicate, List.length_nil]; omega
      rw [htake, show m = j + (m - j) by omega, ← List.replicate_append_replicate, Nat.add_sub_cancel_left,
        Entry.encode, hl']
      simp only [List.append_assoc, List.append_nil]
    rw [hzeros]
    by_cases hz : e.data.drop (e.data.length - j) = List.replicate j 0
    · right
      rw [← hz, ← hdata]
    · left
      exact decode_payload_window4 e _ _ (List.replicate j 0) [] _ he hdata
        (by rw [List.length_drop, List.length_replicate]; omega) (by rw [List.length_drop]; omega) hb
        (fun x hx => by rw [List.mem_replicate] at hx; omega) hz

/-- a torn entry whose missing tail (at most 4 bytes, inside the payload) was zero-filled: the entry
    either does not decode or IS the appended entry (its tail was zeros anyway) -/
theorem torn_tail_zero_fill_le4 (seq : Nat) (es₁ : List Entry) (e : Entry) (es₂ : List Entry) (j m : Nat)
    (hs : seq < 2 ^ 64) (hok₁ : AllOk .v2 crc32 es₁) (he : e.Good .v2 crc32) (hb : ∀ x ∈ e.data, x < 256)
    (hj : j ≤ 4) (hjd : j ≤ e.data.length) :
    ∀ x ∈ fileEntries .v2 crc32
      (fileImage .v2 seq es₁ ++ (e.encode.take (e.encode.length - j) ++ List.replicate m 0)),
      x ∈ es₁ ++ e :: es₂ := by
  intro x hx
  rcases torn_entry_zero_fill e j m he hb hj hjd with h | h
  · rw [fileEntries_stop seq hok₁ h] at hx
    exact List.mem_append_left _ hx
  · have hok' : AllOk .v2 crc32 (es₁ ++ [e]) := fun y hy => by
      rcases List.mem_append.mp hy with h' | h'
      · exact hok₁ y h'
      · rw [List.mem_singleton.mp h']; exact he
    have himg : fileImage .v2 seq es₁ ++ (e.encode ++ List.replicate (m - j) 0)
        = fileImage .v2 seq (es₁ ++ [e]) ++ List.replicate (m - j) 0 := by
      rw [← fileImage_split, encs_nil, List.append_nil, List.append_assoc]
    rw [h, himg, zero_tail_stops_v2 crc32 seq _ _ hok'] at hx
    rw [List.append_cons]
    exact List.mem_append_left _ hx

/-- damage confined to ONE field of a well-formed file image other than an entry's length field:
    the file header (any 16 bytes), one entry's stamp or payload (up to 4 consecutive bytes replaced),
    one entry's stored checksum (any value) -/
inductive FieldDamage (seq : Nat) (es : List Entry) : Bytes → Prop where
  | header (h' : Bytes) (hl : h'.length = 16) : FieldDamage seq es (h' ++ encs es)
  | checksum (es₁ : List Entry) (e : Entry) (es₂ : List Entry) (c' : Nat) (hes : es = es₁ ++ e :: es₂)
      (hc : c' < 2 ^ 32) :
      FieldDamage seq es (fileImage .v2 seq es₁ ++ ((Entry.mk e.data e.ts c').encode ++ encs es₂))
  | payload (es₁ : List Entry) (e : Entry) (es₂ : List Entry) (pre w w' post : Bytes) (hes : es = es₁ ++ e :: es₂)
      (hd : e.data = pre ++ w ++ post) (hlen : w.length = w'.length) (h4 : w.length ≤ 4) (hw' : ∀ x ∈ w', x < 256) :
      FieldDamage seq es (fileImage .v2 seq es₁ ++ ((Entry.mk (pre ++ w' ++ post) e.ts e.crc).encode ++ encs es₂))
  | stamp (es₁ : List Entry) (e : Entry) (es₂ : List Entry) (pre w w' post : Bytes) (hes : es = es₁ ++ e :: es₂)
      (hd : le 8 e.ts = pre ++ w ++ post) (hlen : w.length = w'.length) (h4 : w.length ≤ 4) (hw' : ∀ x ∈ w', x < 256) :
      FieldDamage seq es
        (fileImage .v2 seq es₁ ++ ((Entry.mk e.data (leVal (pre ++ w' ++ post)) e.crc).encode ++ encs es₂))

/-- such damage makes recovery of the file return a PREFIX of the appended entries — nothing
    altered, nothing invented, no hypothesis on the checksum -/
theorem field_damage_yields_prefix (seq : Nat) (es : List Entry) (img : Bytes)
    (hs : seq < 2 ^ 64) (hok : AllOk .v2 crc32 es) (hb : ∀ e ∈ es, ∀ x ∈ e.data, x < 256)
    (hd : FieldDamage seq es img) : ∃ k, fileEntries .v2 crc32 img = es.take k := by
  -- an entry left as it was written: the whole file reads back
  have intact : ∀ es₁ e es₂, es = es₁ ++ e :: es₂ →
      ∃ k, fileEntries .v2 crc32 (fileImage .v2 seq es₁ ++ (e.encode ++ encs es₂)) = es.take k := by
    intro es₁ e es₂ hes
    rw [fileImage_split, ← hes]
    exact ⟨es.length, by rw [List.take_length]; exact fileEntries_clean .v2 crc32 seq es hok⟩
  cases hd with
  | header h' hl => exact header_damage_yields_prefix es h' hl hok
  | checksum es₁ e es₂ c' hes hc =>
    obtain ⟨hok₁, he⟩ := allOk_split hok hes
    by_cases hne : c' = e.crc
    · subst hne
      exact intact es₁ e es₂ hes
    · exact prefix_of_stop hes (checksum_field_damage_stops seq es₁ e c' _ hs hok₁ he hc hne)
  | payload es₁ e es₂ pre w w' post hes hd hlen h4 hw' =>
    obtain ⟨hok₁, he⟩ := allOk_split hok hes
    by_cases hne : w = w'
    · subst hne
      rw [← hd]
      exact intact es₁ e es₂ hes
    · exact prefix_of_stop hes (payload_window4_damage_stops seq es₁ e pre w w' post _ hs hok₁ he hd hlen h4
        (hb e (by rw [hes]; simp)) hw' hne)
  | stamp es₁ e es₂ pre w w' post hes hd hlen h4 hw' =>
    obtain ⟨hok₁, he⟩ := allOk_split hok hes
    by_cases hne : w = w'
    · subst hne
      rw [← hd, leVal_le 8 _ (by simpa using he.1.2.1)]
      exact intact es₁ e es₂ hes
    · exact prefix_of_stop hes
        (stamp_window4_damage_stops seq es₁ e pre w w' post _ hs hok₁ he hd hlen h4 hw' hne).1

-- non-vacuity: the second and third stamp bytes of the first of two entries replaced (5 -> 0x020105)
example : FieldDamage 1 [Entry.mk' .v2 crc32 [7] 5, Entry.mk' .v2 crc32 [1, 2] 9]
    (fileImage .v2 1 [] ++ ((Entry.mk [7] (leVal ([5] ++ [1, 2] ++ [0, 0, 0, 0, 0])) (Entry.mk' .v2 crc32 [7] 5).crc).encode
      ++ encs [Entry.mk' .v2 crc32 [1, 2] 9])) :=
  FieldDamage.stamp [] (Entry.mk' .v2 crc32 [7] 5) [Entry.mk' .v2 crc32 [1, 2] 9] [5] [0, 0] [1, 2] [0, 0, 0, 0, 0] rfl
    (by decide) rfl (by decide) (by decide)

end C10
end RedisVerif
