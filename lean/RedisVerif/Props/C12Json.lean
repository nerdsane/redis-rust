import RedisVerif.Lemmas.ManifestJson

/-!
# C12 / C11 — the manifest object byte for byte: what a reader makes of the manifest it is handed

Model: `ManifestJson.encode` = `serde_json::to_vec_pretty(&Manifest)` (what `ManifestManager::save`
writes), `ManifestJson.decode` = `serde_json::from_slice::<Manifest>` (what `load` /
`load_or_create` — hence every flush, every compaction pass and every recovery — reads), both
transcribed byte for byte (M4j, `Model/ManifestJson.lean`) and tied to the real serde_json on every
single-bit flip of generated manifests (harness/src/c12j.rs).

* `manifest_json_roundtrip` — for EVERY manifest value the Rust types admit (`u64` / `u32` fields in
  range, keys valid UTF-8; any number of segments, with or without a checkpoint, keys with quotes,
  backslashes, control bytes, multi-byte characters): the reader returns exactly what the writer
  wrote.  So an intact manifest is never misread, and `encode` is injective
  (`manifest_encode_injective`).
* `manifest_accepts_every_wellformed_encoding` — the other side of the same coin, and the reason
  for the listed finding C12:read-corruption-accepted:manifest:*: the format carries no redundancy —
  EVERY well-formed manifest value has an accepted encoding, so a damaged or stale read that happens
  to be the encoding of another value `m'` is accepted as `m'`; nothing in the bytes ties them to
  the manifest that was written.
* `number_damage_accepted` — the class the finding names ("a flipped `next_segment_id` digit makes
  flush overwrite a live segment"), for ALL manifests: the encodings of two manifests that differ
  only in `next_segment_id` (resp. `version`) are the same bytes around that one number token, and
  the reader returns the other number, whatever it is.
-/
namespace RedisVerif
namespace C12

open _root_.RedisVerif.ManifestJson

/-- **the reader returns exactly what the writer wrote** — every manifest the Rust types admit -/
theorem manifest_json_roundtrip (m : JMan) (hw : m.WF) : decode (encode m) = some m :=
  decode_encodeNamed _ m hw [(3, .chk m.checkpoint)] (parseMembers_checkpoint m hw) rfl
    (by simp [buildMan, getNum, List.lookup])

theorem decode_of_eq_encode {t : List Nat} {m : JMan} (hw : m.WF) (h : encode m = t) : decode t = some m :=
  h ▸ manifest_json_roundtrip m hw

/-- two different manifests never share an encoding -/
theorem manifest_encode_injective (m m' : JMan) (hw : m.WF) (hw' : m'.WF) (h : encode m = encode m') : m = m' := by
  have h1 := manifest_json_roundtrip m hw
  have h2 := manifest_json_roundtrip m' hw'
  rw [h] at h1
  rw [h1] at h2
  exact Option.some.inj h2

/-- **no redundancy**: whatever manifest `m` was written, a read that returns the encoding of ANY
    other well-formed manifest `m'` (a stale version, a damaged body that is still an encoding) is
    accepted, and the caller gets `m'` -/
theorem manifest_accepts_every_wellformed_encoding (m m' : JMan) (_hw : m.WF) (hw' : m'.WF) (_hne : m ≠ m') :
    decode (encode m') = some m' ∧ decode (encode m') ≠ decode (encode m) ∨ ¬ m.WF := by
  left
  refine ⟨manifest_json_roundtrip m' hw', ?_⟩
  rw [manifest_json_roundtrip m' hw', manifest_json_roundtrip m _hw]
  intro h
  exact _hne (Option.some.inj h).symm

/-- **damage inside a number is accepted** (`next_segment_id`): the two encodings are the same bytes
    before and after the number token, and the reader returns the other number — for every manifest
    and every pair of `u64` values -/
theorem number_damage_accepted (m : JMan) (hw : m.WF) (n' : Nat) (hn : n' ≤ u64Max) :
    ∃ pre post, encode m = pre ++ encNat m.next ++ post ∧
      encode { m with next := n' } = pre ++ encNat n' ++ post ∧
      decode (pre ++ encNat n' ++ post) = some { m with next := n' } := by
  -- `encode` ends `… ++ (head of the member ++ number) ++ closeObj 0`: re-bracket
  have split : ∀ n, encode { m with next := n } = _ ++ encNat n ++ closeObj 0 :=
    fun n => congrArg (· ++ closeObj 0) (List.append_assoc _ _ (encNat n)).symm
  exact ⟨_, _, split m.next, split n', decode_of_eq_encode ⟨hw.1, hw.2.1, hn, hw.2.2.2⟩ (split n')⟩

/-- the same for `version` (what `ManifestManager::update`'s callers compare) -/
theorem version_damage_accepted (m : JMan) (hw : m.WF) (v' : Nat) (hv : v' ≤ u64Max) :
    ∃ pre post, encode m = pre ++ encNat m.version ++ post ∧
      decode (pre ++ encNat v' ++ post) = some { m with version := v' } := by
  have split : ∀ v, encode { m with version := v } = _ ++ encNat v ++ _ :=
    fun v => rebracket_first [123] _ (encNat v) _ _ _ _ (closeObj 0)
  exact ⟨_, _, split m.version, decode_of_eq_encode ⟨hv, hw.2⟩ (split v')⟩

/-- **damage to the NAME `checkpoint` silently drops the checkpoint** — for EVERY manifest: replace
    the ten bytes of the name by any string the reader does not know as a field (one flipped bit is
    enough: `checkpoint_name_flip_drops_checkpoint`) and `load` returns Ok with every other field
    as written and `checkpoint: None` — the value, `null` or a whole `CheckpointInfo` object, is
    skipped as that of an unknown field, and a missing `Option` field is `None`.  A recovery
    from that manifest ignores the checkpoint and replays only the listed segments. -/
theorem checkpoint_name_damage_drops_checkpoint (m : JMan) (hw : m.WF) (name' : List Nat)
    (hv : validUtf8 (name'.length + 1) name' = true) (hunk : fieldIndex manFields name' = none) :
    ∃ pre post, encode m = pre ++ encStr [99, 104, 101, 99, 107, 112, 111, 105, 110, 116] ++ post ∧
      decode (pre ++ encStr name' ++ post) = some { m with checkpoint := none } := by
  have split : ∀ name, encodeNamed name m = _ ++ encStr name ++ _ :=
    fun name => rebracket_fourth _ _ (encStr name) _ _ _ (closeObj 0)
  refine ⟨_, _, split _, ?_⟩
  rw [← split name']
  exact decode_encodeNamed name' m hw []
    (fun _ _ _ => parseMembers_unknown hv hunk skipValue_encChkOpt)
    rfl (by simp [buildMan, getNum, List.lookup])

/-- non-vacuity: `checkpoint` with bit 0 of its first letter flipped is such a name -/
example : validUtf8 11 [98, 104, 101, 99, 107, 112, 111, 105, 110, 116] = true ∧
    fieldIndex manFields [98, 104, 101, 99, 107, 112, 111, 105, 110, 116] = none := by decide

/-! ## non-vacuity and concrete damage (kernel-evaluated on the model that is tied to serde_json) -/

/-- the manifest of two flushes: keys `p/segments/segment-0000000N.seg` -/
def segKey (n : Nat) : List Nat :=
  [112, 47, 115, 101, 103, 109, 101, 110, 116, 115, 47, 115, 101, 103, 109, 101, 110, 116, 45, 48, 48, 48, 48, 48, 48, 48, 48 + n,
   46, 115, 101, 103]

def exMan : JMan :=
  { version := 2, rid := 1,
    segments := [{ id := 0, key := segKey 0, count := 2, size := 165, minTs := 5, maxTs := 6 },
                 { id := 1, key := segKey 1, count := 1, size := 98, minTs := 7, maxTs := 7 }],
    checkpoint := some { key := [99], ts := 9, keyCount := 2, last := 0 }, next := 2 }

example : exMan.WF := by decide

/-- position of a byte sequence in a list (first occurrence) -/
def findSub (pat : List Nat) : Nat → List Nat → Option Nat
  | _, [] => none
  | i, b :: r => if pat.isPrefixOf (b :: r) then some i else findSub pat (i + 1) r

def flipBit (bs : List Nat) (i bit : Nat) : List Nat := bs.set i ((bs.getD i 0) ^^^ (1 <<< bit))

/-- offsets in the encoding of `exMan`: the last digit of the second segment's key (index 26 of
    `segKey`, the byte `48 + n`) and the first letter of the name `checkpoint` (the byte list below
    spells it) -/
def posKeyDigit : Nat := (findSub (segKey 1) 0 (encode exMan)).getD 0 + 26
def posChkName : Nat := (findSub [99, 104, 101, 99, 107, 112, 111, 105, 110, 116] 0 (encode exMan)).getD 0

/-- the five single-bit flips of the encoding of `exMan` that the theorems below speak of, decided
    together: the encoding is evaluated once -/
theorem exMan_flips :
    decode (flipBit (encode exMan) posKeyDigit 0) =
      some { exMan with segments := [{ id := 0, key := segKey 0, count := 2, size := 165, minTs := 5, maxTs := 6 },
                                     { id := 1, key := segKey 0, count := 1, size := 98, minTs := 7, maxTs := 7 }] } ∧
    decode (flipBit (encode exMan) posChkName 0) = some { exMan with checkpoint := none } ∧
    decode (flipBit (encode exMan) 5 0) = none ∧
    decode (flipBit (encode exMan) 0 1) = none ∧
    decode (flipBit (encode exMan) 1 0) = none := by
  decide +kernel

/-- **one bit in a key digit**: `segment-00000001` reads as `segment-00000000` — accepted; recovery
    then loads segment 0 twice and never segment 1 (the replay of the listed finding
    C12:read-corruption-accepted:manifest:read-flip, here decided by the grammar) -/
theorem key_digit_flip_accepted :
    decode (flipBit (encode exMan) posKeyDigit 0) =
      some { exMan with segments := [{ id := 0, key := segKey 0, count := 2, size := 165, minTs := 5, maxTs := 6 },
                                     { id := 1, key := segKey 0, count := 1, size := 98, minTs := 7, maxTs := 7 }] } :=
  exMan_flips.1

/-- **one bit in the NAME `checkpoint`**: the field is unknown to the reader, skipped, and — being
    an `Option` — defaults to `None`: the manifest reads back WITHOUT its checkpoint, no error -/
theorem checkpoint_name_flip_drops_checkpoint :
    decode (flipBit (encode exMan) posChkName 0) = some { exMan with checkpoint := none } :=
  exMan_flips.2.1

/-- the same bit in the name `version` (not an `Option`): missing field, rejected; and a flipped
    structural byte, a flipped whitespace byte: rejected -/
theorem other_flips_rejected :
    decode (flipBit (encode exMan) 5 0) = none ∧      -- the `v` of "version"
    decode (flipBit (encode exMan) 0 1) = none ∧      -- the opening brace
    decode (flipBit (encode exMan) 1 0) = none :=     -- the newline after it
  exMan_flips.2.2

end C12
end RedisVerif
