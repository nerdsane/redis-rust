import RedisVerif.Model.WalActor
import RedisVerif.Lemmas.WalDurable
import RedisVerif.Driver.Crc32

/-!
# C09 — always-fsync WAL: a write reported durable survives a crash at any instant

Model: `RedisVerif.Wal` (M3): store with per-file `(data, synced)`, fault oracle
`φ : Nat → Outcome` indexed by I/O call number (failed / partial / disk-full append, failed
create, failed fsync), the rotator (`Rot.append/rotate/sync`), the group-commit actor in Always
mode (`Actor.step` over an ARBITRARY interleaving of `write` and `flush` events = every batching of
concurrent writers; `Actor.runGroups` = the schedule of the real loop), the history of stores after
every I/O call (`World.storeAt t`) and `crashImage` (every file cut to what a successful fsync
covered).  `durable crc st` = what `recover_all_entries` returns from the crash image of `st`.

The model has a flag `syncBeforeDrop` (first argument of `Actor.run`) and a WAL `Format`:
* `true` = the CURRENT code (after the `fix:` commit "WAL rotator fsyncs a writer before dropping
  it; a lost writer fails the next sync()"): `rotate()` fsyncs the old writer before dropping it;
  a failed closing fsync or a failed append poisons the next `sync()`.  The property is proved at
  full strength — all write sequences, batch choices, rotation thresholds, fault oracles and crash
  indices, for either WAL format (the current one is `.v2`).
* `false` = the tree before that commit.  There the property is FALSE (a batch that straddles a
  rotation; an append error that drops the writer, after which `sync()` returned `Ok` without syncing
  anything and the EARLIER entry of the batch was acked); what did hold is the property under the
  decidable hypothesis `Actor.quiet` (no writer dropped between two group fsyncs).  Kept as theorems
  about the same model functions.
-/
namespace RedisVerif
namespace C09

open Wal

/-- FULL-STRENGTH statement: for all fault oracles, rotation thresholds, event sequences
    (= every interleaving of `write_durable`, `write_fire_and_forget`, `sync_tick`, `truncate`
    messages and group-commit flushes, i.e. arbitrary batch boundaries) and crash instants `t`
    (number of I/O calls completed): every write that was acknowledged `Ok` when at most `t` calls
    had been issued is returned, bit-identical, by WAL recovery of the crash image at `t` —
    unless it is stamped at or below a `TruncateUpTo` threshold handled so far (`tbound` = 1 + the
    largest one), in which case the caller itself asked the WAL to forget it. -/
def DurableSurvives (syncBeforeDrop tickSyncs : Bool) (fmt : Format) (crc : Bytes → Nat) : Prop :=
  ∀ (φ : Nat → Outcome) (maxSize : Nat) (evs : List Ev), (∀ ev ∈ evs, ev.Ok fmt crc) →
    ∀ r ∈ (Actor.run syncBeforeDrop tickSyncs φ fmt crc maxSize evs).acks, r.res = .ok →
      ∀ t st, r.io ≤ t →
        (Actor.run syncBeforeDrop tickSyncs φ fmt crc maxSize evs).rot.w.storeAt t = some st →
        r.entry ∈ durable fmt crc st ∨
          r.entry.ts < (Actor.run syncBeforeDrop tickSyncs φ fmt crc maxSize evs).tbound

theorem survives_of_ainv {fmt : Format} {crc : Bytes → Nat} {a : Actor} (h : AInv fmt crc a) :
    ∀ r ∈ a.acks, r.res = .ok → ∀ t st, r.io ≤ t → a.rot.w.storeAt t = some st →
      r.entry ∈ durable fmt crc st ∨ r.entry.ts < a.tbound :=
  fun r hr hok t st hle hst => durable_of_dur (h.base.safe r hr hok t st hle hst)

/-- the CURRENT code: a write reported durable survives a crash at any instant — every message
    sequence (durable and fire-and-forget writes, sync ticks, truncation requests), every
    batching, every rotation threshold, every fault oracle, every crash index -/
theorem durable_survives (fmt : Format) (crc : Bytes → Nat) : DurableSurvives true false fmt crc := by
  intro φ maxSize evs hw
  exact survives_of_ainv (held_foldl true φ evs _ (held_init fmt crc maxSize) hw (Or.inl rfl)).1

theorem tbound_no_truncate (fix tk : Bool) (fmt : Format) (φ : Nat → Outcome) (crc : Bytes → Nat)
    (evs : List Ev) (a : Actor) (hn : ∀ T, Ev.truncate T ∉ evs) :
    (evs.foldl (Actor.step fix tk φ fmt crc) a).tbound = a.tbound := by
  induction evs generalizing a with
  | nil => rfl
  | cons ev evs ih =>
    simp only [List.foldl_cons]
    rw [ih _ (fun T hT => hn T (List.mem_cons_of_mem _ hT))]
    exact (step_moved a ev).tbound fun T h => hn T (h ▸ List.mem_cons_self)

/-- without truncation requests there is no exemption: every acknowledged write is recovered -/
theorem durable_survives_no_truncate (fmt : Format) (crc : Bytes → Nat) (φ : Nat → Outcome)
    (maxSize : Nat) (evs : List Ev) (hw : ∀ ev ∈ evs, ev.Ok fmt crc) (hn : ∀ T, Ev.truncate T ∉ evs) :
    ∀ r ∈ (Actor.run true false φ fmt crc maxSize evs).acks, r.res = .ok →
      ∀ t st, r.io ≤ t → (Actor.run true false φ fmt crc maxSize evs).rot.w.storeAt t = some st →
        r.entry ∈ durable fmt crc st := by
  intro r hr hok t st hle hst
  rcases durable_survives fmt crc φ maxSize evs hw r hr hok t st hle hst with h | h
  · exact h
  · unfold Actor.run at h
    rw [tbound_no_truncate true false fmt φ crc evs _ hn] at h
    exact absurd h (Nat.not_lt_zero _)

/-- the same for the schedule the real loop follows (bursts of messages, `group_commit_max_entries`) -/
theorem durable_survives_groups (fmt : Format) (crc : Bytes → Nat) (φ : Nat → Outcome) (maxSize maxEntries : Nat)
    (gs : List (List Ev)) (hw : ∀ g ∈ gs, ∀ ev ∈ g, ev.Ok fmt crc) :
    ∀ r ∈ (Actor.runGroups true false φ fmt crc maxSize maxEntries gs).acks, r.res = .ok →
      ∀ t st, r.io ≤ t →
        (Actor.runGroups true false φ fmt crc maxSize maxEntries gs).rot.w.storeAt t = some st →
        r.entry ∈ durable fmt crc st ∨
          r.entry.ts < (Actor.runGroups true false φ fmt crc maxSize maxEntries gs).tbound := by
  apply survives_of_ainv
  unfold Actor.runGroups
  suffices hs : ∀ a0, Held fmt crc a0 → Held fmt crc (gs.foldl (Actor.runGroup true false φ fmt crc maxEntries) a0) from
    (hs _ (held_init fmt crc maxSize)).1
  induction gs with
  | nil => exact fun _ h => h
  | cons g gs ih =>
    intro a0 h0
    exact ih (fun g' hg' => hw g' (List.mem_cons_of_mem _ hg')) _ (held_runGroup φ maxEntries g a0 h0 (hw g (by simp)))

-- non-vacuity: a fitting write of the current format; on the current code the two workloads
-- that broke the old rotator (see below) lose nothing that was acknowledged
example : (⟨1, [1, 2, 3], 7⟩ : Write).Ok .v2 Driver.crc32 := by decide +kernel

/-! ## every write is answered exactly once; file sequence numbers only grow -/

/-- once the mailbox has been drained (a final `flush`), nothing is left pending and the
    multiset of answered ids is exactly the multiset of ids written: every `write_durable` call
    gets exactly one ack — either code variant, every fault oracle, every batching -/
theorem acks_exactly_once (fix tk : Bool) (fmt : Format) (φ : Nat → Outcome) (crc : Bytes → Nat)
    (maxSize : Nat) (evs : List Ev) :
    (Actor.run fix tk φ fmt crc maxSize (evs ++ [.flush])).pending = [] ∧
    List.Perm ((Actor.run fix tk φ fmt crc maxSize (evs ++ [.flush])).acks.map (·.id))
      (evs.flatMap Ev.ids) := by
  have hlen := pending_len_foldl fix tk fmt φ crc evs (Actor.init maxSize) (Nat.le_refl _)
  have hperm := ids_foldl_perm fix tk fmt φ crc (evs ++ [.flush]) (Actor.init maxSize)
  unfold Actor.run at *
  rw [List.foldl_append] at hperm ⊢
  simp only [List.foldl_cons, List.foldl_nil] at hperm ⊢
  generalize evs.foldl (Actor.step fix tk φ fmt crc) (Actor.init maxSize) = a at hlen hperm ⊢
  have hp : (Actor.step fix tk φ fmt crc a .flush).pending = [] := (step_moved a .flush).flush_pending hlen
  refine ⟨hp, ?_⟩
  simp only [Actor.ids, hp, List.map_nil, List.append_nil, Actor.init, List.nil_append,
    List.flatMap_append, List.flatMap_cons, List.flatMap_nil, Ev.ids] at hperm
  exact hperm

/-- along every run WITHIN ONE incarnation (after a restart
    the numbering continues after the highest file still present, which may be lower if files were
    truncated away or a create failed) the `create` calls use strictly
    increasing sequence numbers (trace is newest first), none above `current_sequence`, and
    `current_sequence` never decreases — so recovery's sequence order is append order -/
theorem rotation_keeps_sequence_monotone (fix tk : Bool) (fmt : Format) (φ : Nat → Outcome)
    (crc : Bytes → Nat) (maxSize : Nat) (evs more : List Ev)
    (hnr : ∀ c r, Ev.reopen c r ∉ evs ++ more) :
    (createSeqs (Actor.run fix tk φ fmt crc maxSize evs).rot.w.trace).Pairwise (· > ·) ∧
    (∀ s ∈ createSeqs (Actor.run fix tk φ fmt crc maxSize evs).rot.w.trace,
      s ≤ (Actor.run fix tk φ fmt crc maxSize evs).rot.seq) ∧
    (Actor.run fix tk φ fmt crc maxSize evs).rot.seq
      ≤ (Actor.run fix tk φ fmt crc maxSize (evs ++ more)).rot.seq := by
  have h1 := rseq_foldl (n := 0) fix tk fmt φ crc evs (Actor.init maxSize)
    ⟨List.Pairwise.nil, (fun s hs => by cases hs), Nat.le_refl _⟩ (fun c r hm => hnr c r (List.mem_append_left _ hm))
  refine ⟨h1.1, h1.2.1, ?_⟩
  unfold Actor.run
  rw [List.foldl_append]
  exact (rseq_foldl fix tk fmt φ crc more _ ⟨h1.1, h1.2.1, Nat.le_refl _⟩
    (fun c r hm => hnr c r (List.mem_append_right _ hm))).2.2

/-! ## the code before the fix (`syncBeforeDrop = false`) -/

/-- what held for the old rotator: on every run on which no writer is dropped between two
    group fsyncs (`Actor.quiet`, decidable: no rotation of a live writer and no append error since
    the previous fsync) acknowledged writes survive every crash — whatever the fsync faults,
    create faults, batching and crash index -/
theorem durable_survives_partial (fmt : Format) (crc : Bytes → Nat) (φ : Nat → Outcome) (maxSize : Nat)
    (evs : List Ev) (hw : ∀ ev ∈ evs, ev.Ok fmt crc)
    (hq : Actor.quiet φ fmt crc evs (Actor.init maxSize) = true) :
    ∀ r ∈ (Actor.run false false φ fmt crc maxSize evs).acks, r.res = .ok →
      ∀ t st, r.io ≤ t → (Actor.run false false φ fmt crc maxSize evs).rot.w.storeAt t = some st →
        r.entry ∈ durable fmt crc st ∨
          r.entry.ts < (Actor.run false false φ fmt crc maxSize evs).tbound :=
  survives_of_ainv (held_foldl false φ evs _ (held_init fmt crc maxSize) hw (Or.inr hq)).1

def w1 : Write := ⟨1, [1], 1⟩
def w2 : Write := ⟨2, [2], 2⟩
def w3 : Write := ⟨3, [3], 3⟩

/-- failing fsync at call 3, then a retry: quiet, and two entries end up acknowledged -/
def quietFaults : Nat → Outcome := fun i => if i = 3 then .fail else .ok

-- non-vacuity of `quiet`: one file, two batches, an fsync fault in between
example : Actor.quiet quietFaults .v1 Driver.crc32 [.write w1, .flush, .write w2, .write w3, .flush]
    (Actor.init 1000) = true := by decide +kernel

example : ((Actor.run false false quietFaults .v1 Driver.crc32 1000
    [.write w1, .flush, .write w2, .write w3, .flush]).acks.map (fun r => (r.id, r.res)))
    = [(3, .ok), (2, .ok), (1, .err .fsync)] := by decide +kernel

theorem w123_ok : w1.Ok .v1 Driver.crc32 ∧ w2.Ok .v1 Driver.crc32 ∧ w3.Ok .v1 Driver.crc32 := by decide +kernel

/-- one entry per file (threshold 17), three writers in one batch, no fault at all: the single
    fsync covers only file 3 -/
def rotationRun : Actor :=
  Actor.run false false (fun _ => .ok) .v1 Driver.crc32 17 [.write w1, .write w2, .write w3, .flush]

/-- the old rotator violated the property: all three writes are acknowledged `Ok` after the
    10th I/O call, and recovery of the crash image at that instant returns only the third -/
theorem rotation_counterexample : ¬ DurableSurvives false false .v1 Driver.crc32 := by
  intro h
  have hmem : (⟨1, Entry.mk' .v1 Driver.crc32 [1] 1, .ok, 10⟩ : AckRec) ∈ rotationRun.acks := by
    decide +kernel
  have hst : rotationRun.rot.w.storeAt 10 = some rotationRun.rot.w.store := by decide +kernel
  have := h (fun _ => .ok) 17 [.write w1, .write w2, .write w3, .flush]
    (by decide +kernel) _ hmem rfl 10 _ (Nat.le_refl _) hst
  revert this
  decide +kernel

/-- what recovery returns at that crash instant -/
theorem rotation_counterexample_recovers :
    (durable .v1 Driver.crc32 rotationRun.rot.w.store).map (·.ts) = [3] := by decide +kernel

/-- one file; the append of the second entry of the batch fails (I/O call 3) -/
def appendErrorRun : Actor :=
  Actor.run false false (fun i => if i = 3 then .fail else .ok) .v1 Driver.crc32 1000
    [.write w1, .write w2, .flush]

/-- … the writer is dropped, `sync()` returns `Ok` without issuing any call, write 1 is
    acknowledged `Ok` and is lost by a crash -/
theorem append_error_counterexample : ¬ DurableSurvives false false .v1 Driver.crc32 := by
  intro h
  have hmem : (⟨1, Entry.mk' .v1 Driver.crc32 [1] 1, .ok, 4⟩ : AckRec) ∈ appendErrorRun.acks := by
    decide +kernel
  have hst : appendErrorRun.rot.w.storeAt 4 = some appendErrorRun.rot.w.store := by decide +kernel
  have := h (fun i => if i = 3 then .fail else .ok) 1000 [.write w1, .write w2, .flush]
    (by decide +kernel) _ hmem rfl 4 _ (Nat.le_refl _) hst
  revert this
  decide +kernel

/-! ## several incarnations over one store -/

/-- `durable_survives` already quantifies over histories with any number of incarnation
    boundaries (`Ev.reopen`: clean shutdown + restart, or machine crash + restart, each
    incarnation with its own writes, ticks, truncations and faults).  Spelled out: the durable
    acks of ALL incarnations are recovered from the crash image at every later instant, in every
    later incarnation (minus what a `truncate` asked to forget). -/
theorem durable_survives_across_restarts (fmt : Format) (crc : Bytes → Nat) (φ : Nat → Outcome)
    (maxSize : Nat) (incs : List (List Ev × Bool))
    (hw : ∀ inc ∈ incs, ∀ ev ∈ inc.1, ev.Ok fmt crc) :
    let evs := incs.flatMap (fun inc => inc.1 ++ [Ev.reopen inc.2 false])
    ∀ r ∈ (Actor.run true false φ fmt crc maxSize evs).acks, r.res = .ok →
      ∀ t st, r.io ≤ t → (Actor.run true false φ fmt crc maxSize evs).rot.w.storeAt t = some st →
        r.entry ∈ durable fmt crc st ∨ r.entry.ts < (Actor.run true false φ fmt crc maxSize evs).tbound := by
  intro evs
  apply durable_survives fmt crc φ maxSize evs
  intro ev hev
  rw [List.mem_flatMap] at hev
  obtain ⟨inc, hinc, hmem⟩ := hev
  rcases List.mem_append.mp hmem with h | h
  · exact hw inc hinc ev h
  · simp only [List.mem_singleton] at h
    subst h
    rfl

/-- along every history of the current code (any number
    of restarts and crashes, any faults) no `create` call ever targets a name that is present in the
    store — so files of earlier incarnations are never re-created / truncated -/
theorem create_never_reuses_existing_name (fmt : Format) (crc : Bytes → Nat) (φ : Nat → Outcome)
    (maxSize : Nat) (evs : List Ev) (hw : ∀ ev ∈ evs, ev.Ok fmt crc) :
    ∀ s ok, Call.create s ok true ∉ (Actor.run true false φ fmt crc maxSize evs).rot.w.trace :=
  (held_foldl true φ evs _ (held_init fmt crc maxSize) hw (Or.inl rfl)).1.base.winv.2.2

/-- the variant in which a restarted rotator re-creates the name of the highest-numbered
    existing file (`Ev.reopen _ true`): incarnation 1 writes and acknowledges entries 1 and 2 into one
    file and shuts down cleanly; incarnation 2 acknowledges entry 3 — its first rotate hits file 1
    again, `create` truncates it -/
def restartRun : Actor :=
  Actor.run true false (fun _ => .ok) .v2 Driver.crc32 1000
    [.write w1, .write w2, .flush, .reopen false true, .write w3, .flush]

theorem restart_reuses_sequence_counterexample :
    (⟨1, Entry.mk' .v2 Driver.crc32 [1] 1, .ok, 5⟩ : AckRec) ∈ restartRun.acks ∧
    Entry.mk' .v2 Driver.crc32 [1] 1 ∉ durable .v2 Driver.crc32 restartRun.rot.w.store ∧
    (durable .v2 Driver.crc32 restartRun.rot.w.store).map (·.ts) = [3] ∧
    Call.create 1 true true ∈ restartRun.rot.w.trace := by decide +kernel

/-- the same history on the CURRENT code (`reopen _ false`): the second incarnation continues
    with file 2 and everything acknowledged is recovered -/
theorem restart_current_on_witness :
    (durable .v2 Driver.crc32
      (Actor.run true false (fun _ => .ok) .v2 Driver.crc32 1000
        [.write w1, .write w2, .flush, .reopen false false, .write w3, .flush]).rot.w.store).map (·.ts)
      = [1, 2, 3] := by decide +kernel

/-! ## a `SyncTick` must not touch the rotator (`tickSyncs = true`) -/

/-- one batch on the repaired rotator: write 1 is appended, the append of write 2 fails (I/O
    call 3: the writer is dropped and the rotator remembers it), a `SyncTick` arrives, write 3
    goes to the next file, then the group-commit flush -/
def tickRun (tickSyncs : Bool) : Actor :=
  Actor.run true tickSyncs (fun i => if i = 3 then .fail else .ok) .v2 Driver.crc32 1000
    [.write w1, .write w2, .tick, .write w3, .flush]

/-- if the tick calls `rotator.sync()` and only logs the result, it CONSUMES the one-shot
    "a writer was dropped without a successful fsync" error: the flush then sees a clean rotator,
    fsyncs only the new file and acknowledges write 1, which sits unsynced in the dropped file -/
theorem tick_sync_counterexample : ¬ DurableSurvives true true .v2 Driver.crc32 := by
  intro h
  have hmem : (⟨1, Entry.mk' .v2 Driver.crc32 [1] 1, .ok, 8⟩ : AckRec) ∈ (tickRun true).acks := by
    decide +kernel
  have hst : (tickRun true).rot.w.storeAt 8 = some (tickRun true).rot.w.store := by decide +kernel
  have := h (fun i => if i = 3 then .fail else .ok) 1000 [.write w1, .write w2, .tick, .write w3, .flush]
    (by decide +kernel) _ hmem rfl 8 _ (Nat.le_refl _) hst
  revert this
  decide +kernel

/-- the same schedule on the CURRENT actor (tick = no-op): the flush reports the lost writer,
    writes 1 and 3 are answered with an fsync error, nothing is acknowledged that is not durable -/
theorem tick_noop_on_witness :
    ((tickRun false).acks.map (fun r => (r.id, r.res)))
      = [(3, .err .fsync), (1, .err .fsync), (2, .err .io)] := by decide +kernel

/-- the same two workloads on the repaired code: nothing acknowledged is lost (instances of
    `durable_survives`, evaluated) -/
theorem repaired_on_witnesses :
    (durable .v2 Driver.crc32
        (Actor.run true false (fun _ => .ok) .v2 Driver.crc32 17
          [.write w1, .write w2, .write w3, .flush]).rot.w.store).map (·.ts) = [1, 2, 3] ∧
    ((Actor.run true false (fun i => if i = 3 then .fail else .ok) .v2 Driver.crc32 1000
        [.write w1, .write w2, .flush]).acks.map (fun r => (r.id, r.res)))
      = [(1, .err .fsync), (2, .err .io)] := by decide +kernel

end C09
end RedisVerif
