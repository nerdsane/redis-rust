import RedisVerif.Model.AntiEntropy
import RedisVerif.Lemmas.AntiEntropy
import RedisVerif.Lemmas.AEBytes
import RedisVerif.Props.C07

/-!
# C18 — Anti-entropy: equal digests iff equal states; a sync leaves both sides merged

Model: `RedisVerif.AE` (M8, `Model/AntiEntropy.lean`).  SipHash is a parameter (`Hasher`);
statements that need it to be collision-free say so (`Ideal H`; `idealH` shows the assumption
is satisfiable).  The map iteration order is an explicit parameter `π` (`ValidOrder π s`).
Two aspects of the code are model parameters so that the theorems about the current tree and
the counterexamples about the pinned tree are statements about the same functions:
`sb : Bool` (`sortBucket`: `true` = bucket digests sorted before folding, the current tree since
`fix:` 3c97030; `false` = folded in iteration order) and `vs : ValueStream` (what
`KeyDigest::new` feeds to the value hasher: `pinnedStream` = outer stamp + live LWW bytes, the
pinned tree; `canonicalStream` = the whole value in canonical order, one word per item hashed by
`canonical_hash`; `byteStream` = the bytes of those items, and the current tree is
`currentStream = byteStream HB.keyStr`).
-/
namespace RedisVerif
namespace C18

open AE

/-! ## full-strength statements -/

/-- the digest of a state does not depend on the order in which the map yields its keys -/
def C18_digest_order_independent (sb : Bool) : Prop :=
  ∀ (H : Hasher) (vs : ValueStream) (depth : Nat) (π π' : List Nat) (s : NMap RV),
    ValidOrder π s → ValidOrder π' s → fromState H sb vs depth π s = fromState H sb vs depth π' s

/-- "in sync" (`differs_from = false`) iff the projections the digest reads are equal -/
def C18_digest_complete (sb : Bool) : Prop :=
  ∀ (H : Hasher) (vs : ValueStream) (depth : Nat) (π π' : List Nat) (s t : NMap RV), Ideal H →
    StreamOK vs → NMap.WF s → NMap.WF t → ValidOrder π s → ValidOrder π' t →
    (differsFrom (fromState H sb vs depth π s) (fromState H sb vs depth π' t) = false
      ↔ proj vs s = proj vs t)

/-- the projection determines the state -/
def C18_proj_determines_state (vs : ValueStream) : Prop :=
  ∀ (s t : NMap RV), NMap.WF s → NMap.WF t → proj vs s = proj vs t → s = t

/-- the property as stated: equal digests iff equal states -/
def C18_digest_iff_state_eq (sb : Bool) (vs : ValueStream) : Prop :=
  ∀ (H : Hasher) (depth : Nat) (π π' : List Nat) (s t : NMap RV), Ideal H →
    NMap.WF s → NMap.WF t → ValidOrder π s → ValidOrder π' t →
    (differsFrom (fromState H sb vs depth π s) (fromState H sb vs depth π' t) = false ↔ s = t)

/-- sync rounds with a per-round key limit, the iteration order of each state given by `ord` -/
def rounds (arr : Arrange) (H : Hasher) (sb : Bool) (vs : ValueStream) (depth limit : Nat) (ord : NMap RV → List Nat) :
    Nat → NMap RV × NMap RV → NMap RV × NMap RV
  | 0, st => st
  | n + 1, st => rounds arr H sb vs depth limit ord n
      (syncRoundWith arr H sb vs depth limit (ord st.1) (ord st.2) st.1 st.2)

/-- repeated sync rounds reach "in sync" after finitely many rounds, for every limit ≥ 1 -/
def C18_sync_terminates (arr : Arrange) (sb : Bool) (vs : ValueStream) : Prop :=
  ∀ (H : Hasher) (depth limit : Nat) (ord : NMap RV → List Nat) (a b : NMap RV), Ideal H →
    1 ≤ limit → (∀ s, ValidOrder (ord s) s) → NMap.WF a → NMap.WF b →
    ∃ n, differsFrom
      (fromState H sb vs depth (ord (rounds arr H sb vs depth limit ord n (a, b)).1) (rounds arr H sb vs depth limit ord n (a, b)).1)
      (fromState H sb vs depth (ord (rounds arr H sb vs depth limit ord n (a, b)).2) (rounds arr H sb vs depth limit ord n (a, b)).2)
      = false

/-! ## order independence -/

/-- **C18 (order independence), sorted fold** (`sb = true`, the current tree): any two iteration orders, any hasher -/
theorem digest_order_independent : C18_digest_order_independent true := by
  intro H vs depth π π' s h1 h2
  exact fromState_sorted_perm H depth s (h1.trans h2.symm)

def exA : NMap RV := [(1, RV.withValue [1] ⟨1, 1⟩), (2, RV.withValue [0] ⟨1, 2⟩)]

/-- **Fixed defect C18:digest:order-dependent** (3c97030).  The pinned code folded a bucket's digests in
    map iteration order: the same two-key state yields two different digests (even the root
    hashes differ), with a collision-free hasher. -/
theorem digest_order_dependent_witness :
    ValidOrder [1, 2] exA ∧ ValidOrder [2, 1] exA
    ∧ differsFrom (fromState idealH false canonicalStream 0 [1, 2] exA)
        (fromState idealH false canonicalStream 0 [2, 1] exA) = true := by
  decide

theorem digest_order_independent_counterexample : ¬ C18_digest_order_independent false := by
  intro h
  have := h idealH canonicalStream 0 [1, 2] [2, 1] exA (by decide) (by decide)
  have hw := digest_order_dependent_witness.2.2
  rw [this] at hw
  simp [differsFrom] at hw

/-! ## digests vs. projections -/

theorem differsFrom_false_iff (a b : StateDigest) : differsFrom a b = false ↔ a.rootHash = b.rootHash := by
  unfold differsFrom; simp

/-- **C18 (never a false "in sync", w.r.t. what the digest reads)** — for either
    fold (`sb`): equal root hashes force equal projections (ideal hash) -/
theorem digest_never_false_in_sync_wrt_proj (sb : Bool) (H : Hasher) (vs : ValueStream) (depth : Nat)
    (π π' : List Nat) (s t : NMap RV) (hI : Ideal H) (hvs : StreamOK vs) (hs : NMap.WF s) (ht : NMap.WF t)
    (hπ : ValidOrder π s) (hπ' : ValidOrder π' t)
    (h : differsFrom (fromState H sb vs depth π s) (fromState H sb vs depth π' t) = false) :
    proj vs s = proj vs t :=
  proj_eq_of_root_eq hI hvs sb depth hs ht hπ hπ' ((differsFrom_false_iff _ _).mp h)

/-- **C18 (digest complete), sorted fold** -/
theorem digest_complete : C18_digest_complete true := by
  intro H vs depth π π' s t hI hvs hs ht hπ hπ'
  constructor
  · exact digest_never_false_in_sync_wrt_proj true H vs depth π π' s t hI hvs hs ht hπ hπ'
  · intro h
    rw [differsFrom_false_iff, fromState_eq_of_proj_eq H hvs depth hs ht hπ hπ' h]

theorem digest_complete_counterexample : ¬ C18_digest_complete false := by
  intro h
  have := (h idealH canonicalStream 0 [1, 2] [2, 1] exA exA ideal_idealH streamOK_canonical (by decide) (by decide) (by decide) (by decide)).mpr rfl
  have hw := digest_order_dependent_witness.2.2
  rw [this] at hw
  cases hw

/-! ## projections vs. states -/

/-- equal digests iff equal states, for ANY value stream, between states whose values lie in a set `P` on which the
    stream is injective; the statements below about the canonical, the pinned and the byte stream are its instances -/
theorem digest_iff_of_injOn {vs : ValueStream} {P : RV → Prop} (hinj : ∀ v w, P v → P w → vs v = vs w → v = w)
    {H : Hasher} {depth : Nat} {π π' : List Nat} {s t : NMap RV} (hI : Ideal H) (hvs : StreamOK vs)
    (hs : NMap.WF s) (ht : NMap.WF t) (hπ : ValidOrder π s) (hπ' : ValidOrder π' t)
    (ps : ∀ p ∈ s, P p.2) (pt : ∀ p ∈ t, P p.2) :
    differsFrom (fromState H true vs depth π s) (fromState H true vs depth π' t) = false ↔ s = t :=
  (digest_complete H vs depth π π' s t hI hvs hs ht hπ hπ').trans ⟨proj_injOn hinj ps pt, congrArg _⟩

/-- **C18 (the digest reads the whole value)** — current tree: `canonical_hash` feeds a uniquely
    decodable stream of everything a `ReplicatedValue` holds, so equal projections are equal states -/
theorem proj_determines_state : C18_proj_determines_state canonicalStream := by
  intro s t _ _ h
  exact proj_canonical_inj h

/-- **C18 (equal digests iff equal states)** — the property as stated, for the current tree
    (sorted bucket fold, canonical value hash), any CRDT kinds, any number of keys, any two
    iteration orders, under the ideal-hash assumption only -/
theorem digest_iff_state_eq : C18_digest_iff_state_eq true canonicalStream :=
  fun H depth π π' s t hI hs ht hπ hπ' =>
    digest_iff_of_injOn (P := fun _ => True) (fun _ _ _ _ => canonicalStream_inj) hI streamOK_canonical hs ht hπ hπ'
      (fun _ _ => trivial) (fun _ _ => trivial)

/-- … and no false "in sync" even with the unsorted fold -/
theorem digest_never_false_in_sync (sb : Bool) (H : Hasher) (depth : Nat) (π π' : List Nat)
    (s t : NMap RV) (hI : Ideal H) (hs : NMap.WF s) (ht : NMap.WF t) (hπ : ValidOrder π s)
    (hπ' : ValidOrder π' t)
    (h : differsFrom (fromState H sb canonicalStream depth π s) (fromState H sb canonicalStream depth π' t) = false) :
    s = t :=
  proj_canonical_inj (digest_never_false_in_sync_wrt_proj sb H canonicalStream depth π π' s t hI
    streamOK_canonical hs ht hπ hπ' h)

/-! ### the pinned value hash (before the `canonical_hash` fix) -/

/-- plain LWW register values — what `SET` / `DEL` without TTL produce in `Eventual` mode:
    the register carries the outer stamp, a deleted register holds no bytes, and there is no
    vector clock, expiry or per-key replication factor -/
def lwwOnly (v : RV) : Bool :=
  match v.crdt with
  | .lww r => r.ts == v.ts && (r.tomb == r.value.isNone) && v.vc.isNone && v.expiry.isNone && v.rf.isNone
  | _ => false

def LwwOnly (s : NMap RV) : Prop := ∀ p ∈ s, lwwOnly p.2 = true

instance : DecidablePred LwwOnly := fun s => by unfold LwwOnly; infer_instance

theorem eq_of_pinnedStream_eq {v w : RV} (hv : lwwOnly v = true) (hw : lwwOnly w = true)
    (h : pinnedStream v = pinnedStream w) : v = w := by
  obtain ⟨hts, hget⟩ := pinnedStream_inj h
  obtain ⟨cv, vcv, ev, tsv, rfv⟩ := v
  obtain ⟨cw, vcw, ew, tsw, rfw⟩ := w
  cases cv <;> simp only [lwwOnly, Bool.false_eq_true] at hv
  cases cw <;> simp only [lwwOnly, Bool.false_eq_true] at hw
  rename_i a b
  obtain ⟨va, tsa, tomba⟩ := a
  obtain ⟨vb, tsb, tombb⟩ := b
  simp only [Bool.and_eq_true, beq_iff_eq, Option.isNone_iff_eq_none] at hv hw
  obtain ⟨⟨⟨⟨rfl, h2⟩, rfl⟩, rfl⟩, rfl⟩ := hv
  obtain ⟨⟨⟨⟨rfl, g2⟩, rfl⟩, rfl⟩, rfl⟩ := hw
  simp only [RV.get, Lww.get] at hget
  simp only at hts
  subst hts h2 g2
  -- a deleted register holds no bytes, a live one shows them
  have hval : va = vb := by
    cases va <;> cases vb <;> simp_all
  subst hval
  rfl

/-- **pinned value hash, partial**: the projection determines the state only for states of plain
    LWW values; everything else a `ReplicatedValue` carries is invisible to the pinned
    `KeyDigest::new` — see the counterexamples below. -/
theorem proj_determines_state_pinned_partial (s t : NMap RV) (hs : LwwOnly s) (ht : LwwOnly t)
    (h : proj pinnedStream s = proj pinnedStream t) : s = t :=
  proj_injOn (P := fun v => lwwOnly v = true) (fun _ _ => eq_of_pinnedStream_eq) hs ht h

def hashF : RV :=  -- HSET h f 1 at stamp (1, r1)
  { crdt := .hash [(102, ⟨some [49], ⟨1, 1⟩, false⟩)], vc := none, expiry := none, ts := ⟨1, 1⟩, rf := none }
def hashG : RV :=  -- a different field under the same outer stamp
  { crdt := .hash [(103, ⟨some [50], ⟨1, 1⟩, false⟩)], vc := none, expiry := none, ts := ⟨1, 1⟩, rf := none }
def lwwNoTtl : RV := RV.withValue [1] ⟨1, 1⟩
def lwwTtl : RV := { RV.withValue [1] ⟨1, 1⟩ with expiry := some 5000 }

/-- **Fixed defect C18:digest:false-in-sync:crdt.**  Non-LWW content is invisible to the pinned
    value hash: two hashes with the same outer stamp and different fields have the same
    projection under `pinnedStream` and different ones under `canonicalStream`. -/
theorem proj_ignores_non_lww_counterexample :
    proj pinnedStream [(7, hashF)] = proj pinnedStream [(7, hashG)] ∧ ([(7, hashF)] : NMap RV) ≠ [(7, hashG)]
    ∧ proj canonicalStream [(7, hashF)] ≠ proj canonicalStream [(7, hashG)] := by
  decide

/-- **Fixed defect C18:digest:false-in-sync:expiry.**  So is the expiry. -/
theorem proj_ignores_expiry_counterexample :
    proj pinnedStream [(7, lwwNoTtl)] = proj pinnedStream [(7, lwwTtl)] ∧ ([(7, lwwNoTtl)] : NMap RV) ≠ [(7, lwwTtl)]
    ∧ proj canonicalStream [(7, lwwNoTtl)] ≠ proj canonicalStream [(7, lwwTtl)] := by
  decide

theorem C18_proj_determines_state_pinned_false : ¬ C18_proj_determines_state pinnedStream := by
  intro h
  exact proj_ignores_non_lww_counterexample.2.1 (h _ _ (by decide) (by decide) proj_ignores_non_lww_counterexample.1)

/-- pinned value hash: equal digests iff equal states held for plain LWW values only -/
theorem digest_iff_state_eq_pinned_partial (H : Hasher) (depth : Nat) (π π' : List Nat) (s t : NMap RV)
    (hI : Ideal H) (hs : NMap.WF s) (ht : NMap.WF t) (hπ : ValidOrder π s) (hπ' : ValidOrder π' t)
    (ls : LwwOnly s) (lt : LwwOnly t) :
    differsFrom (fromState H true pinnedStream depth π s) (fromState H true pinnedStream depth π' t) = false ↔ s = t :=
  digest_iff_of_injOn (P := fun v => lwwOnly v = true) (fun _ _ => eq_of_pinnedStream_eq) hI streamOK_pinned hs ht hπ hπ' ls lt

/-- the false "in sync" of the pinned value hash: two different states, equal digests,
    collision-free hasher — with the sorted and with the unsorted fold -/
theorem digest_false_in_sync_counterexample :
    ¬ C18_digest_iff_state_eq true pinnedStream ∧ ¬ C18_digest_iff_state_eq false pinnedStream := by
  constructor <;> intro h <;>
    exact proj_ignores_non_lww_counterexample.2.1
      ((h idealH 0 [7] [7] [(7, hashF)] [(7, hashG)] ideal_idealH (by decide) (by decide) (by decide) (by decide)).mp
        (by decide))

/-! ## divergent buckets -/

theorem mem_divergentBuckets_fromState (H : Hasher) (sb : Bool) (vs : ValueStream) (depth : Nat) (π π' : List Nat) (s t : NMap RV) (b : Nat) :
    b ∈ divergentBuckets (fromState H sb vs depth π s) (fromState H sb vs depth π' t)
      ↔ b < 2 ^ depth ∧ fromDigests H sb (bucketDigests H vs depth π s b) ≠ fromDigests H sb (bucketDigests H vs depth π' t b) := by
  rw [mem_divergentBuckets (by rw [fromState_buckets_length, fromState_buckets_length]), fromState_buckets_length]
  constructor
  · rintro ⟨hb, hne⟩
    rw [fromState_bucket_get _ _ _ _ _ _ hb, fromState_bucket_get _ _ _ _ _ _ hb] at hne
    exact ⟨hb, fun h => hne (by rw [h])⟩
  · rintro ⟨hb, hne⟩
    rw [fromState_bucket_get _ _ _ _ _ _ hb, fromState_bucket_get _ _ _ _ _ _ hb]
    exact ⟨hb, fun h => hne (Option.some.inj h)⟩

/-- **C18 (no divergent bucket is missed)** — either fold: a bucket
    whose projected contents differ is reported -/
theorem divergent_buckets_complete (sb : Bool) (H : Hasher) (vs : ValueStream) (depth : Nat) (π π' : List Nat)
    (s t : NMap RV) (b : Nat) (hI : Ideal H) (hvs : StreamOK vs) (hs : NMap.WF s) (ht : NMap.WF t) (hπ : ValidOrder π s)
    (hπ' : ValidOrder π' t) (hb : b < 2 ^ depth) (hne : projBucket H vs depth b s ≠ projBucket H vs depth b t) :
    b ∈ divergentBuckets (fromState H sb vs depth π s) (fromState H sb vs depth π' t) := by
  rw [mem_divergentBuckets_fromState]
  refine ⟨hb, fun h => hne ?_⟩
  exact projBucket_eq_of_hash_eq hI hvs sb depth b hs ht hπ hπ' (by rw [h])

/-- **C18 (divergent buckets, exact), sorted fold**: the reported buckets are exactly those whose
    projected contents differ -/
theorem divergent_buckets_exact (H : Hasher) (vs : ValueStream) (depth : Nat) (π π' : List Nat) (s t : NMap RV) (b : Nat)
    (hI : Ideal H) (hvs : StreamOK vs) (hs : NMap.WF s) (ht : NMap.WF t) (hπ : ValidOrder π s) (hπ' : ValidOrder π' t) :
    b ∈ divergentBuckets (fromState H true vs depth π s) (fromState H true vs depth π' t)
      ↔ b < 2 ^ depth ∧ projBucket H vs depth b s ≠ projBucket H vs depth b t := by
  rw [mem_divergentBuckets_fromState]
  constructor
  · rintro ⟨hb, hne⟩
    exact ⟨hb, fun h => hne (node_eq_of_projBucket_eq H hvs depth b hs ht hπ hπ' h)⟩
  · rintro ⟨hb, hne⟩
    exact ⟨hb, fun h => hne (projBucket_eq_of_hash_eq hI hvs true depth b hs ht hπ hπ' (by rw [h]))⟩

/-! ## one sync exchange -/

/-- **C18 (sync merges)**: when the digests differ and the per-round limit is at least the number
    of keys either side holds in the divergent buckets, then after one
    `run_anti_entropy_sync` every key of a divergent bucket holds `merge(own, other)` on both
    sides (a missing value is the identity), and every other key is untouched. -/
theorem sync_merges (arr : Arrange) (harr : ArrOK arr) (H : Hasher) (sb : Bool) (vs : ValueStream) (depth limit : Nat) (πa πb : List Nat) (a b : NMap RV)
    (ha : NMap.WF a) (hb : NMap.WF b) (hπa : ValidOrder πa a) (hπb : ValidOrder πb b)
    (hd : differsFrom (fromState H sb vs depth πa a) (fromState H sb vs depth πb b) = true)
    (hla : (candidates H depth πa a (divergentBuckets (fromState H sb vs depth πa a) (fromState H sb vs depth πb b))).length ≤ limit)
    (hlb : (candidates H depth πb b (divergentBuckets (fromState H sb vs depth πa a) (fromState H sb vs depth πb b))).length ≤ limit)
    (k : Nat) :
    let div := divergentBuckets (fromState H sb vs depth πa a) (fromState H sb vs depth πb b)
    let r := syncRoundWith arr H sb vs depth limit πa πb a b
    (div.contains (H.key k % 2 ^ depth) = true →
        NMap.get r.1 k = optMerge RV.merge (NMap.get a k) (NMap.get b k)
        ∧ NMap.get r.2 k = optMerge RV.merge (NMap.get b k) (NMap.get a k))
    ∧ (div.contains (H.key k % 2 ^ depth) = false →
        NMap.get r.1 k = NMap.get a k ∧ NMap.get r.2 k = NMap.get b k) := by
  intro div r
  have hr : r = exchange arr H vs depth limit πa πb a b div := syncRoundWith_eq_exchange harr H sb depth limit πa πb a b hd
  rw [hr]
  unfold exchange
  simp only []
  rw [getKeysInBuckets_full harr hla, getKeysInBuckets_full harr hlb,
    get_apply_arr_candidates div harr hb hπb k, get_apply_arr_candidates div harr ha hπa k]
  constructor
  · intro hc; simp only [hc, if_true]; exact ⟨trivial, trivial⟩
  · intro hc; simp only [hc, Bool.false_eq_true, if_false]; exact ⟨trivial, trivial⟩

/-- for tie-consistent well-formed values the merge is commutative (C07), so both sides hold the
    *same* merged value -/
theorem optMerge_comm_of_tie {x y : Option RV}
    (h : ∀ u v, x = some u → y = some v → u.WF ∧ v.WF ∧ C07.TieConsistent u v) :
    optMerge RV.merge x y = optMerge RV.merge y x :=
  NMap.optMerge_comm fun u v hu hv => C07.rv_merge_comm u v (h u v hu hv).1 (h u v hu hv).2.1 (h u v hu hv).2.2

theorem sync_merges_commuted (arr : Arrange) (harr : ArrOK arr) (H : Hasher) (sb : Bool) (vs : ValueStream) (depth limit : Nat) (πa πb : List Nat) (a b : NMap RV)
    (ha : NMap.WF a) (hb : NMap.WF b) (hπa : ValidOrder πa a) (hπb : ValidOrder πb b)
    (hd : differsFrom (fromState H sb vs depth πa a) (fromState H sb vs depth πb b) = true)
    (hla : (candidates H depth πa a (divergentBuckets (fromState H sb vs depth πa a) (fromState H sb vs depth πb b))).length ≤ limit)
    (hlb : (candidates H depth πb b (divergentBuckets (fromState H sb vs depth πa a) (fromState H sb vs depth πb b))).length ≤ limit)
    (k : Nat)
    (hc : (divergentBuckets (fromState H sb vs depth πa a) (fromState H sb vs depth πb b)).contains (H.key k % 2 ^ depth) = true)
    (htie : ∀ u v, NMap.get a k = some u → NMap.get b k = some v → u.WF ∧ v.WF ∧ C07.TieConsistent u v) :
    NMap.get (syncRoundWith arr H sb vs depth limit πa πb a b).1 k = optMerge RV.merge (NMap.get a k) (NMap.get b k)
    ∧ NMap.get (syncRoundWith arr H sb vs depth limit πa πb a b).2 k = optMerge RV.merge (NMap.get a k) (NMap.get b k) := by
  have := (sync_merges arr harr H sb vs depth limit πa πb a b ha hb hπa hπb hd hla hlb k).1 hc
  exact ⟨this.1, by rw [this.2, optMerge_comm_of_tie htie]⟩

/-- one round whose limit covers both sides' candidates, whatever the digests say and for either fold: every key ends
    merged on both sides, or is left alone because the two sides feed the value hasher the same stream for it -/
theorem sync_round_key (arr : Arrange) (harr : ArrOK arr) (H : Hasher) (sb : Bool) (vs : ValueStream) (depth limit : Nat)
    (πa πb : List Nat) (a b : NMap RV) (hI : Ideal H) (hvs : StreamOK vs) (ha : NMap.WF a) (hb : NMap.WF b)
    (hπa : ValidOrder πa a) (hπb : ValidOrder πb b)
    (hla : (candidates H depth πa a (divergentBuckets (fromState H sb vs depth πa a) (fromState H sb vs depth πb b))).length ≤ limit)
    (hlb : (candidates H depth πb b (divergentBuckets (fromState H sb vs depth πa a) (fromState H sb vs depth πb b))).length ≤ limit)
    (k : Nat) :
    (NMap.get (syncRoundWith arr H sb vs depth limit πa πb a b).1 k = optMerge RV.merge (NMap.get a k) (NMap.get b k)
      ∧ NMap.get (syncRoundWith arr H sb vs depth limit πa πb a b).2 k = optMerge RV.merge (NMap.get b k) (NMap.get a k))
    ∨ ((NMap.get a k).map vs = (NMap.get b k).map vs
      ∧ NMap.get (syncRoundWith arr H sb vs depth limit πa πb a b).1 k = NMap.get a k
      ∧ NMap.get (syncRoundWith arr H sb vs depth limit πa πb a b).2 k = NMap.get b k) := by
  cases hd : differsFrom (fromState H sb vs depth πa a) (fromState H sb vs depth πb b) with
  | false =>
    have hr : syncRoundWith arr H sb vs depth limit πa πb a b = (a, b) := by
      unfold syncRoundWith; simp [hd]
    rw [hr, ← get_proj, ← get_proj, digest_never_false_in_sync_wrt_proj sb H vs depth πa πb a b hI hvs ha hb hπa hπb hd]
    exact Or.inr ⟨rfl, rfl, rfl⟩
  | true =>
    have hm := sync_merges arr harr H sb vs depth limit πa πb a b ha hb hπa hπb hd hla hlb k
    by_cases hc : (divergentBuckets (fromState H sb vs depth πa a) (fromState H sb vs depth πb b)).contains (H.key k % 2 ^ depth) = true
    · exact Or.inl (hm.1 hc)
    · -- the bucket of k is not divergent: its projected contents agree
      have hpb : projBucket H vs depth (H.key k % 2 ^ depth) a = projBucket H vs depth (H.key k % 2 ^ depth) b :=
        Classical.byContradiction fun hne => hc (List.contains_iff_mem.mpr (divergent_buckets_complete sb H vs depth πa πb
          a b _ hI hvs ha hb hπa hπb (Nat.mod_lt _ (Nat.two_pow_pos depth)) hne))
      exact Or.inr ⟨get_map_eq_of_projBucket_eq k hpb, hm.2 (by simpa using hc)⟩

/-- **C18 (one round leaves the pair in sync), without "the digests differ"**: sorted fold, ideal hash, tie-consistent
    well-formed values on the keys present on both sides, a limit that covers either side's candidate keys: after one
    exchange the two replicas are "in sync", whatever their new iteration orders.  `Ideal H` and `StreamOK vs` are
    discharged for the current tree by `ideal_sip_hasher` / `streamOK_byteStream` from `SipIdeal`; well-formedness and
    valid iteration orders are true of every `HashMap`; the exchange is bidirectional BY CONSTRUCTION (`AE.exchange`
    applies both delta sets crosswise, as `run_anti_entropy_sync` does).  The limit hypothesis cannot go: below the
    candidate population the same prefix is answered every round (`sync_terminates_counterexample`, the recorded finding). -/
theorem sync_converges_any_digests (arr : Arrange) (harr : ArrOK arr) (H : Hasher) (vs : ValueStream) (depth limit : Nat)
    (πa πb π1 π2 : List Nat) (a b : NMap RV)
    (hI : Ideal H) (hvs : StreamOK vs) (ha : NMap.WF a) (hb : NMap.WF b) (hπa : ValidOrder πa a) (hπb : ValidOrder πb b)
    (hla : (candidates H depth πa a (divergentBuckets (fromState H true vs depth πa a) (fromState H true vs depth πb b))).length ≤ limit)
    (hlb : (candidates H depth πb b (divergentBuckets (fromState H true vs depth πa a) (fromState H true vs depth πb b))).length ≤ limit)
    (htie : ∀ k u v, NMap.get a k = some u → NMap.get b k = some v → u.WF ∧ v.WF ∧ C07.TieConsistent u v)
    (h1 : ValidOrder π1 (syncRoundWith arr H true vs depth limit πa πb a b).1)
    (h2 : ValidOrder π2 (syncRoundWith arr H true vs depth limit πa πb a b).2) :
    differsFrom (fromState H true vs depth π1 (syncRoundWith arr H true vs depth limit πa πb a b).1)
      (fromState H true vs depth π2 (syncRoundWith arr H true vs depth limit πa πb a b).2) = false := by
  have hwf := wf_syncRoundWith (arr := arr) (vs := vs) H true depth limit πa πb ha hb
  rw [digest_complete H vs depth π1 π2 _ _ hI hvs hwf.1 hwf.2 h1 h2]
  refine NMap.ext (wf_proj hwf.1) (wf_proj hwf.2) fun k => ?_
  rw [get_proj, get_proj]
  rcases sync_round_key arr harr H true vs depth limit πa πb a b hI hvs ha hb hπa hπb hla hlb k with ⟨e1, e2⟩ | ⟨e, e1, e2⟩
  · rw [e1, e2, optMerge_comm_of_tie (htie k)]
  · rw [e1, e2, e]

/-- **C18 (one round suffices when the limit covers the divergent buckets), partial**: sorted
    fold, ideal hash, tie-consistent well-formed values on the keys present on both sides: after
    one exchange the two replicas are "in sync", whatever their new iteration orders.
    Missing for `C18_sync_terminates`: limits below the bucket population
    (`sync_terminates_counterexample`). -/
theorem sync_converges_partial (arr : Arrange) (harr : ArrOK arr) (H : Hasher) (vs : ValueStream) (depth limit : Nat) (πa πb π1 π2 : List Nat) (a b : NMap RV)
    (hI : Ideal H) (hvs : StreamOK vs) (ha : NMap.WF a) (hb : NMap.WF b) (hπa : ValidOrder πa a) (hπb : ValidOrder πb b)
    (hd : differsFrom (fromState H true vs depth πa a) (fromState H true vs depth πb b) = true)
    (hla : (candidates H depth πa a (divergentBuckets (fromState H true vs depth πa a) (fromState H true vs depth πb b))).length ≤ limit)
    (hlb : (candidates H depth πb b (divergentBuckets (fromState H true vs depth πa a) (fromState H true vs depth πb b))).length ≤ limit)
    (htie : ∀ k u v, NMap.get a k = some u → NMap.get b k = some v → u.WF ∧ v.WF ∧ C07.TieConsistent u v)
    (h1 : ValidOrder π1 (syncRoundWith arr H true vs depth limit πa πb a b).1)
    (h2 : ValidOrder π2 (syncRoundWith arr H true vs depth limit πa πb a b).2) :
    differsFrom (fromState H true vs depth π1 (syncRoundWith arr H true vs depth limit πa πb a b).1)
      (fromState H true vs depth π2 (syncRoundWith arr H true vs depth limit πa πb a b).2) = false := by
  exact sync_converges_any_digests arr harr H vs depth limit πa πb π1 π2 a b hI hvs ha hb hπa hπb hla hlb htie h1 h2

/-! ## the message protocol: request with a bucket list, response, merge -/

/-- **C18 (a response stays inside the request)**: every delta of `handle_sync_request` for a
    bucket request is an entry of the responder's state whose key lies in a requested bucket —
    whichever way filter and limit are ordered, for every iteration order and limit -/
theorem response_keys_in_requested_buckets (ord : RespOrder) (H : Hasher) (vs : ValueStream)
    (depth limit : Nat) (π : List Nat) (s : NMap RV) (buckets : List Nat) (q : Nat × RV)
    (h : q ∈ responseKeysWith ord H vs depth limit π s (some buckets)) :
    buckets.contains (H.key q.1 % 2 ^ depth) = true ∧ NMap.get s q.1 = some q.2 := by
  cases ord
  · -- filter, then take: the simulator path's `get_keys_in_buckets` without an arrangement
    exact mem_getKeysInBuckets (arr := fun l => l) arrOK_id h
  · simp only [responseKeysWith, List.mem_filter] at h
    exact ⟨h.2, mem_iter (List.mem_of_mem_take h.1)⟩

/-- when the responder holds at most `limit` keys in the requested buckets, the response delivers
    ALL of them (as a lookup table: every key of a requested bucket with the responder's value,
    nothing else) -/
def C18_response_exact (ord : RespOrder) : Prop :=
  ∀ (H : Hasher) (vs : ValueStream) (depth limit : Nat) (π : List Nat) (s : NMap RV) (buckets : List Nat),
    NMap.WF s → ValidOrder π s → (candidates H depth π s buckets).length ≤ limit →
    ∀ k, (responseKeysWith ord H vs depth limit π s (some buckets)).lookup k
      = if buckets.contains (H.key k % 2 ^ depth) then NMap.get s k else none

/-- **C18 (response exact under the limit)** — the current order (filter, then take), for every
    iteration order -/
theorem response_exact_when_under_limit : C18_response_exact .filterThenTake := by
  intro H vs depth limit π s buckets hs hπ hl k
  have : responseKeysWith .filterThenTake H vs depth limit π s (some buckets)
      = getKeysInBuckets (fun l => l) H vs depth limit π s buckets := rfl
  rw [this, getKeysInBuckets_full arrOK_id hl, lookup_candidates buckets hs hπ k]

/-- … and as a list: the response is exactly the candidate list (no key dropped, none added) -/
theorem response_is_candidates_when_under_limit (H : Hasher) (vs : ValueStream) (depth limit : Nat)
    (π : List Nat) (s : NMap RV) (buckets : List Nat)
    (hl : (candidates H depth π s buckets).length ≤ limit) :
    responseKeysWith .filterThenTake H vs depth limit π s (some buckets) = candidates H depth π s buckets :=
  getKeysInBuckets_full (arr := fun l => l) arrOK_id hl

/-- a full-state request (`requested_buckets = None`) to a responder with at most `limit` keys
    returns its whole state -/
theorem response_full_exact_when_under_limit (ord : RespOrder) (H : Hasher) (vs : ValueStream)
    (depth limit : Nat) (π : List Nat) (s : NMap RV) (hs : NMap.WF s) (hπ : ValidOrder π s)
    (hl : s.length ≤ limit) (k : Nat) :
    (responseKeysWith ord H vs depth limit π s none).lookup k = NMap.get s k := by
  have hlen : (iter π s).length ≤ limit := by rw [(iter_valid_perm hs hπ).length_eq]; exact hl
  simp only [responseKeysWith]
  rw [List.take_of_length_le hlen, lookup_iter hs hπ]

/-- twelve keys `1..12` in iteration order, depth 2 (bucket = key mod 4), limit 4: bucket 3 holds
    the three keys 3, 7, 11 -/
def exTwelve : NMap RV := (List.range 12).map fun i => (i + 1, RV.withValue [] ⟨0, 0⟩)

/-- **take-before-filter loses keys** (the variant `.takeThenFilter` of the response): the limit is applied to the map
    iteration instead of the answer, so although only 3 ≤ 4 keys are requested, the two that
    iterate after position 4 are never sent — in this and in every later round. -/
theorem response_take_then_filter_counterexample : ¬ C18_response_exact .takeThenFilter := by
  intro h
  have := h idealH canonicalStream 2 4 (NMap.keys exTwelve) exTwelve [3] (by decide) (by decide) (by decide) 7
  revert this
  decide +kernel

theorem response_take_then_filter_witness :
    (candidates idealH 2 (NMap.keys exTwelve) exTwelve [3]).map (·.1) = [3, 7, 11]
    ∧ (responseKeysWith .filterThenTake idealH canonicalStream 2 4 (NMap.keys exTwelve) exTwelve (some [3])).map (·.1) = [3, 7, 11]
    ∧ (responseKeysWith .takeThenFilter idealH canonicalStream 2 4 (NMap.keys exTwelve) exTwelve (some [3])).map (·.1) = [3] := by
  decide +kernel

/-- **C18 (one pull merges)**: when the digests differ and the peer holds at most `limit` keys in
    the divergent buckets, after `process_peer_digest → create_sync_request(Some(divergent)) →
    handle_sync_request → merge` the requester holds `merge(own, peer's)` for every key of every
    requested bucket and is unchanged elsewhere — for every pair of iteration orders. -/
theorem sync_round_merges (H : Hasher) (sb : Bool) (vs : ValueStream) (depth limit : Nat)
    (πr πp : List Nat) (r p : NMap RV) (hp : NMap.WF p) (hπp : ValidOrder πp p)
    (hd : differsFrom (fromState H sb vs depth πr r) (fromState H sb vs depth πp p) = true)
    (hl : (candidates H depth πp p (divergentBuckets (fromState H sb vs depth πr r) (fromState H sb vs depth πp p))).length ≤ limit)
    (k : Nat) :
    NMap.get (pullWith .filterThenTake H sb vs depth limit false πr πp r p).2.2.2 k
      = if (divergentBuckets (fromState H sb vs depth πr r) (fromState H sb vs depth πp p)).contains (H.key k % 2 ^ depth)
        then optMerge RV.merge (NMap.get r k) (NMap.get p k) else NMap.get r k := by
  unfold pullWith
  simp only [hd, if_true, Bool.false_eq_true, if_false]
  rw [response_is_candidates_when_under_limit H vs depth limit πp p _ hl]
  exact get_apply_arr_candidates _ arrOK_id hp hπp k

/-- a full-state pull from a peer with at most `limit` keys merges the peer's whole state -/
theorem sync_round_merges_full (H : Hasher) (sb : Bool) (vs : ValueStream) (depth limit : Nat)
    (πr πp : List Nat) (r p : NMap RV) (hp : NMap.WF p) (hπp : ValidOrder πp p)
    (hd : differsFrom (fromState H sb vs depth πr r) (fromState H sb vs depth πp p) = true)
    (hl : p.length ≤ limit) (k : Nat) :
    NMap.get (pullWith .filterThenTake H sb vs depth limit true πr πp r p).2.2.2 k
      = optMerge RV.merge (NMap.get r k) (NMap.get p k) := by
  unfold pullWith
  simp only [hd, if_true]
  have hlen : (iter πp p).length ≤ limit := by rw [(iter_valid_perm hp hπp).length_eq]; exact hl
  simp only [responseKeysWith]
  rw [List.take_of_length_le hlen, get_applyDeltas_iter r hp hπp]

/-- no digest difference, no exchange -/
theorem pull_noop_when_in_sync (ord : RespOrder) (H : Hasher) (sb : Bool) (vs : ValueStream)
    (depth limit : Nat) (full : Bool) (πr πp : List Nat) (r p : NMap RV)
    (hd : differsFrom (fromState H sb vs depth πr r) (fromState H sb vs depth πp p) = false) :
    (pullWith ord H sb vs depth limit full πr πp r p).2.2.2 = r := by
  unfold pullWith
  simp [hd]

/-! ## termination under a per-round limit -/

def exX : RV := RV.withValue [] ⟨0, 0⟩
def exY : RV := RV.withValue [] ⟨1, 0⟩
def exY' : RV := RV.withValue [0] ⟨1, 1⟩
def stA : NMap RV := [(1, exX), (2, exY)]
def stB : NMap RV := [(1, exX), (2, exY')]

/-- key order of the kernel-evaluated examples -/
def natLe : Nat → Nat → Bool := fun a b => decide (a ≤ b)

/-- one round with limit 1, current `get_keys_in_buckets` (candidates sorted by key): both sides
    send key 1 (already equal), nothing changes, the digests still differ -/
theorem sync_limit_fixpoint (sb : Bool) :
    syncRoundWith (sortByKey natLe) idealH sb canonicalStream 0 1 (NMap.keys stA) (NMap.keys stB) stA stB = (stA, stB)
    ∧ differsFrom (fromState idealH sb canonicalStream 0 (NMap.keys stA) stA) (fromState idealH sb canonicalStream 0 (NMap.keys stB) stB) = true := by
  cases sb <;> decide

/-- the pinned `get_keys_in_buckets` (map iteration order, before dc1be9d), same states -/
theorem sync_limit_fixpoint_map_order (sb : Bool) :
    syncRoundWith (fun l => l) idealH sb canonicalStream 0 1 (NMap.keys stA) (NMap.keys stB) stA stB = (stA, stB)
    ∧ differsFrom (fromState idealH sb canonicalStream 0 (NMap.keys stA) stA) (fromState idealH sb canonicalStream 0 (NMap.keys stB) stB) = true := by
  cases sb <;> decide

/-- with candidates sorted by key (dc1be9d) the starved set is a function of the KEYS, not of the
    iteration order: with the maps iterating key 2 first, the map-order variant delivers the
    divergent key, the sorted one sends key 1 -/
theorem starved_set_is_a_function_of_the_keys :
    syncRoundWith (sortByKey natLe) idealH true canonicalStream 0 1 [2, 1] [2, 1] stA stB = (stA, stB)
    ∧ syncRoundWith (fun l => l) idealH true canonicalStream 0 1 [2, 1] [2, 1] stA stB = (stB, stB) := by
  decide

theorem rounds_fixpoint {arr : Arrange} {H : Hasher} {sb : Bool} {vs : ValueStream} {depth limit : Nat}
    {ord : NMap RV → List Nat} {st : NMap RV × NMap RV}
    (h : syncRoundWith arr H sb vs depth limit (ord st.1) (ord st.2) st.1 st.2 = st) (n : Nat) :
    rounds arr H sb vs depth limit ord n st = st := by
  induction n with
  | zero => rfl
  | succ n ih => rw [rounds, h, ih]

theorem not_sync_terminates_of_fixpoint {arr : Arrange} {sb : Bool}
    (h : syncRoundWith arr idealH sb canonicalStream 0 1 (NMap.keys stA) (NMap.keys stB) stA stB = (stA, stB)
      ∧ differsFrom (fromState idealH sb canonicalStream 0 (NMap.keys stA) stA)
          (fromState idealH sb canonicalStream 0 (NMap.keys stB) stB) = true) :
    ¬ C18_sync_terminates arr sb canonicalStream := by
  intro ht
  obtain ⟨n, hn⟩ := ht idealH 0 1 NMap.keys stA stB ideal_idealH (by decide)
    (fun s => List.Perm.refl _) (by decide) (by decide)
  rw [rounds_fixpoint (st := (stA, stB)) h.1 n, h.2] at hn
  cases hn

/-- **Known finding C18:sync:limit-starvation:sim:divergent-population>limit** (current tree:
    candidates in key order, sorted bucket fold).  `.take(limit)` re-sends the same first `limit`
    keys of the divergent buckets every round: with limit 1 and two keys in the bucket the
    divergent key is never sent, and no number of rounds reaches "in sync" (collision-free
    hasher). -/
theorem sync_terminates_counterexample :
    ¬ C18_sync_terminates (sortByKey natLe) true canonicalStream
    ∧ ¬ C18_sync_terminates (sortByKey natLe) false canonicalStream :=
  ⟨not_sync_terminates_of_fixpoint (sync_limit_fixpoint true), not_sync_terminates_of_fixpoint (sync_limit_fixpoint false)⟩

/-- the same for the pinned map-order variant (before dc1be9d) -/
theorem sync_terminates_map_order_counterexample :
    ¬ C18_sync_terminates (fun l => l) true canonicalStream :=
  not_sync_terminates_of_fixpoint (sync_limit_fixpoint_map_order true)

/-! ## the simulator path answers in key order -/

/-- the response of `get_keys_in_buckets` does not depend on the map's iteration order -/
def C18_sim_response_order_independent (so : SimOrder) : Prop :=
  ∀ (le : Nat → Nat → Bool) (H : Hasher) (vs : ValueStream) (depth limit : Nat) (π π' : List Nat)
    (s : NMap RV) (buckets : List Nat), TotalOrder le → NMap.WF s → ValidOrder π s → ValidOrder π' s →
    getKeysInBuckets (arrangeOf so le) H vs depth limit π s buckets
      = getKeysInBuckets (arrangeOf so le) H vs depth limit π' s buckets

/-- **C18 (sim-path response independent of the map order)** — current tree (fix dc1be9d), every
    limit incl. below the population, every total key order -/
theorem sim_response_order_independent : C18_sim_response_order_independent .keyOrder := by
  intro le H vs depth limit π π' s buckets hle hs hπ hπ'
  exact getKeysInBuckets_sorted_perm hle H depth limit buckets hs hπ hπ'

/-- **Fixed defect (dc1be9d)**: in map order the response — which keys, and in which order — is a
    function of the iteration order -/
theorem sim_response_order_independent_counterexample : ¬ C18_sim_response_order_independent .mapOrder := by
  intro h
  have := h natLe idealH canonicalStream 0 1 [1, 2] [2, 1] stA [0] totalOrder_natLe (by decide) (by decide) (by decide)
  revert this
  decide

/-- … hence the whole `run_anti_entropy_sync` round is a function of the two states alone
    (sorted bucket fold + key-ordered candidates) -/
theorem sim_round_order_independent (le : Nat → Nat → Bool) (hle : TotalOrder le) (H : Hasher)
    (vs : ValueStream) (depth limit : Nat) (πa πa' πb πb' : List Nat) (a b : NMap RV)
    (ha : NMap.WF a) (hb : NMap.WF b) (h1 : ValidOrder πa a) (h1' : ValidOrder πa' a)
    (h2 : ValidOrder πb b) (h2' : ValidOrder πb' b) :
    syncRoundWith (sortByKey le) H true vs depth limit πa πb a b
      = syncRoundWith (sortByKey le) H true vs depth limit πa' πb' a b := by
  unfold syncRoundWith exchange
  rw [fromState_sorted_perm H depth a (h1.trans h1'.symm), fromState_sorted_perm H depth b (h2.trans h2'.symm)]
  simp only [getKeysInBuckets_sorted_perm hle H depth limit _ ha h1 h1',
    getKeysInBuckets_sorted_perm hle H depth limit _ hb h2 h2']

/-! ## one bucket function for the digest, the divergent-bucket list and both key filters -/

/-- **C18 (digest and filters bucket a key identically)** — the model of the current code, every
    depth, every iteration order: for an entry `(k, v)` of the state and `b = bucketOf depth
    (KeyDigest::new k v)`,
    * `b` is a valid bucket index of the digest (`b < 2^depth = |buckets|`),
    * `from_state` files the key's digest under bucket `b` and under no other bucket,
    * the simulator-path filter (`get_keys_in_buckets`, any arrangement, limit not binding) selects
      the entry iff `b` is among the requested buckets, and
    * so does the message-path filter (`handle_sync_request`). -/
theorem digest_and_filter_use_same_bucket_function (H : Hasher) (sb : Bool) (vs : ValueStream)
    (depth : Nat) (π : List Nat) (s : NMap RV) (k : Nat) (v : RV) (hs : NMap.WF s) (hπ : ValidOrder π s)
    (hget : NMap.get s k = some v) :
    bucketOf depth (keyDigest H vs k v) < (fromState H sb vs depth π s).buckets.length
    ∧ keyDigest H vs k v ∈ bucketDigests H vs depth π s (bucketOf depth (keyDigest H vs k v))
    ∧ (∀ b', keyDigest H vs k v ∈ bucketDigests H vs depth π s b' → b' = bucketOf depth (keyDigest H vs k v))
    ∧ (∀ (arr : Arrange) (limit : Nat) (buckets : List Nat), ArrOK arr →
        (candidates H depth π s buckets).length ≤ limit →
        ((getKeysInBuckets arr H vs depth limit π s buckets).lookup k
          = if buckets.contains (bucketOf depth (keyDigest H vs k v)) then some v else none))
    ∧ (∀ (limit : Nat) (buckets : List Nat), (candidates H depth π s buckets).length ≤ limit →
        ((responseKeysWith .filterThenTake H vs depth limit π s (some buckets)).lookup k
          = if buckets.contains (bucketOf depth (keyDigest H vs k v)) then some v else none)) := by
  have hmem : (k, v) ∈ iter π s := by
    have hp := iter_valid_perm hs hπ
    exact hp.symm.subset (NMap.mem_of_get hget)
  refine ⟨?_, ?_, ?_, ?_, ?_⟩
  · rw [fromState_buckets_length]
    exact Nat.mod_lt _ (Nat.two_pow_pos depth)
  · unfold bucketDigests
    rw [List.mem_filter]
    exact ⟨List.mem_map.mpr ⟨(k, v), hmem, rfl⟩, by simp⟩
  · intro b' hb'
    unfold bucketDigests at hb'
    rw [List.mem_filter] at hb'
    exact (beq_iff_eq.mp hb'.2).symm
  · intro arr limit buckets harr hl
    rw [getKeysInBuckets_full harr hl, lookup_arr_candidates buckets harr hs hπ k, hget]
    rfl
  · intro limit buckets hl
    rw [response_exact_when_under_limit H vs depth limit π s buckets hs hπ hl k, hget]
    rfl

/-- … consequently a key on which two replicas differ lies in a bucket that is reported
    divergent AND requested AND answered: after one pull the requester holds the merge for it
    (ideal hash, limit not binding) -/
theorem differing_key_is_delivered (H : Hasher) (sb : Bool) (vs : ValueStream) (depth limit : Nat)
    (πr πp : List Nat) (r p : NMap RV) (k : Nat) (hI : Ideal H) (hvs : StreamOK vs)
    (hr : NMap.WF r) (hp : NMap.WF p) (hπr : ValidOrder πr r) (hπp : ValidOrder πp p)
    (hne : (NMap.get r k).map vs ≠ (NMap.get p k).map vs)
    (hl : (candidates H depth πp p (divergentBuckets (fromState H sb vs depth πr r) (fromState H sb vs depth πp p))).length ≤ limit) :
    NMap.get (pullWith .filterThenTake H sb vs depth limit false πr πp r p).2.2.2 k
      = optMerge RV.merge (NMap.get r k) (NMap.get p k) := by
  have hlt : H.key k % 2 ^ depth < 2 ^ depth := Nat.mod_lt _ (Nat.two_pow_pos depth)
  have hpb : projBucket H vs depth (H.key k % 2 ^ depth) r ≠ projBucket H vs depth (H.key k % 2 ^ depth) p :=
    fun h => hne (get_map_eq_of_projBucket_eq k h)
  have hdiv := divergent_buckets_complete sb H vs depth πr πp r p _ hI hvs hr hp hπr hπp hlt hpb
  have hd : differsFrom (fromState H sb vs depth πr r) (fromState H sb vs depth πp p) = true := by
    cases hdf : differsFrom (fromState H sb vs depth πr r) (fromState H sb vs depth πp p) with
    | true => rfl
    | false =>
      exfalso
      have hproj := digest_never_false_in_sync_wrt_proj sb H vs depth πr πp r p hI hvs hr hp hπr hπp hdf
      apply hne
      rw [← get_proj, ← get_proj, hproj]
  rw [sync_round_merges H sb vs depth limit πr πp r p hp hπp hd hl k]
  rw [if_pos (List.contains_iff_mem.mpr hdiv)]

def clampR : NMap RV := [(1, exX), (2, exX), (3, exY), (4, exX)]
def clampP : NMap RV := [(1, exX), (2, exX), (3, exY'), (4, exX)]

/-- **a digest-side depth clamp breaks the exchange** (a variant that clamps the depth of the
    digest and not of the filter; scaled down: configured depth 2, digest clamped to depth 1).  Key 3 differs; the clamped digest reports
    bucket 1 (= 3 mod 2), the filter — still at depth 2 — answers the keys with `k mod 4 = 1`,
    i.e. key 1: key 3 is never sent, the requester's state does not change, the digests differ
    for ever.  Without the clamp bucket 3 is reported and key 3 is merged. -/
theorem digest_side_clamp_counterexample :
    (pullClamped (some 1) idealH true canonicalStream 2 1000 (NMap.keys clampR) (NMap.keys clampP) clampR clampP).1 = true
    ∧ (pullClamped (some 1) idealH true canonicalStream 2 1000 (NMap.keys clampR) (NMap.keys clampP) clampR clampP).2.1 = [1]
    ∧ (pullClamped (some 1) idealH true canonicalStream 2 1000 (NMap.keys clampR) (NMap.keys clampP) clampR clampP).2.2.2 = clampR
    ∧ (pullClamped none idealH true canonicalStream 2 1000 (NMap.keys clampR) (NMap.keys clampP) clampR clampP).2.1 = [3]
    ∧ (pullClamped none idealH true canonicalStream 2 1000 (NMap.keys clampR) (NMap.keys clampP) clampR clampP).2.2.2 = clampP := by
  decide +kernel

/-- without a clamp `pullClamped` IS the pull of the current tree -/
theorem pullClamped_none (H : Hasher) (sb : Bool) (vs : ValueStream) (depth limit : Nat)
    (πr πp : List Nat) (r p : NMap RV) :
    pullClamped none H sb vs depth limit πr πp r p = pullWith .filterThenTake H sb vs depth limit false πr πp r p := rfl

/-! ## configuration extremes -/

/-- **`max_keys_per_sync = 0`**: no exchange ever sends anything — simulator path and message
    path, bucket or full-state request: the states never change (starvation by configuration) -/
theorem sync_limit_zero_never_progresses (arr : Arrange) (ord : RespOrder) (H : Hasher) (sb : Bool)
    (vs : ValueStream) (depth : Nat) (full : Bool) (πa πb : List Nat) (a b : NMap RV) :
    syncRoundWith arr H sb vs depth 0 πa πb a b = (a, b)
    ∧ (pullWith ord H sb vs depth 0 full πa πb a b).2.2.2 = a := by
  constructor
  · unfold syncRoundWith exchange getKeysInBuckets
    simp only [List.take_zero, applyDeltas, List.foldl_nil]
    repeat' split
    all_goals rfl
  · have hresp : ∀ req, responseKeysWith ord H vs depth 0 πb b req = [] := by
      intro req
      cases req <;> cases ord <;> simp [responseKeysWith]
    unfold pullWith
    simp only [hresp, applyDeltas, List.foldl_nil]
    split <;> rfl

/-- **Fixed defect C18:config:merkle_tree_depth:digest-panics** (c51a674).  Before the depth was
    bounded, depths 59–63 made `generate_digest` panic ("capacity overflow"); depth ≥ 64 panicked
    on the shift with overflow checks and wrapped to `depth mod 64` without them -/
theorem digest_alloc_extremes :
    digestAlloc .unbounded true 16 = .buckets 65536 ∧ digestAlloc .unbounded true 20 = .buckets 1048576
    ∧ digestAlloc .unbounded true 58 = .buckets (2 ^ 58)
    ∧ digestAlloc .unbounded true 59 = .capacityOverflowPanic ∧ digestAlloc .unbounded false 63 = .capacityOverflowPanic
    ∧ digestAlloc .unbounded true 64 = .shiftOverflowPanic ∧ digestAlloc .unbounded false 64 = .buckets 1
    ∧ digestAlloc .unbounded false 65 = .buckets 2 := by
  decide +kernel

/-- **C18 (every configured depth yields a digest)** — current tree: with the depth capped at
    `MAX_MERKLE_TREE_DEPTH = 20` no configured depth panics, whatever the build mode, and the
    digest has `2^min(depth, 20)` buckets -/
theorem digest_alloc_never_panics (oc : Bool) (depth : Nat) :
    digestAlloc (.capped 20) oc depth = .buckets (2 ^ min depth 20) := by
  unfold digestAlloc effectiveDepth
  have h1 : min depth 20 ≤ 20 := Nat.min_le_right _ _
  have h2 : ¬ (min depth 20 ≥ 64) := by omega
  have h3 : min depth 20 % 64 = min depth 20 := Nat.mod_eq_of_lt (by omega)
  simp only [h2, decide_false, Bool.and_false, Bool.false_eq_true, if_false, h3]
  have h4 : 2 ^ min depth 20 ≤ 2 ^ 20 := Nat.pow_le_pow_right (by decide) h1
  rw [if_neg]
  have : (2 : Nat) ^ 20 = 1048576 := by decide
  omega

/-- the effective depth is ONE value: the digest built for a configured depth and both key
    filters are all instances of the functions above at `effectiveDepth bound depth`, so
    `digest_and_filter_use_same_bucket_function` applies verbatim for every configured depth
    (stated here for the bound of the current tree) -/
theorem configured_depth_uses_one_bucket_function (H : Hasher) (sb : Bool) (vs : ValueStream)
    (configured : Nat) (π : List Nat) (s : NMap RV) (k : Nat) (v : RV) (hs : NMap.WF s)
    (hπ : ValidOrder π s) (hget : NMap.get s k = some v) :
    let depth := effectiveDepth currentDepthBound configured
    depth ≤ 20
    ∧ bucketOf depth (keyDigest H vs k v) < (fromState H sb vs depth π s).buckets.length
    ∧ keyDigest H vs k v ∈ bucketDigests H vs depth π s (bucketOf depth (keyDigest H vs k v)) := by
  intro depth
  have h := digest_and_filter_use_same_bucket_function H sb vs depth π s k v hs hπ hget
  exact ⟨Nat.min_le_right _ _, h.1, h.2.1⟩

/-- **Fixed defect C18:sync:config:max_keys_per_sync=0** (7f2c849): the limit in effect is at
    least one key per round -/
theorem effective_limit_pos (limit : Nat) : 1 ≤ effectiveLimit true limit ∧ effectiveLimit false 0 = 0
    ∧ (1 ≤ limit → effectiveLimit true limit = limit) := by
  refine ⟨?_, rfl, ?_⟩
  · show 1 ≤ max limit 1
    exact Nat.le_max_right _ _
  · intro h
    show max limit 1 = limit
    exact Nat.max_eq_left h

/-! ## the bytes fed to SipHash: the `Ideal` assumption is about the 64-bit hash function alone

`Hasher` abstracts three uses of `DefaultHasher`; `sipHasher sip kb` derives all three from ONE
byte-stream hash `sip` and the byte streams the code builds (`byteStream`: what `canonical_hash`
writes; a key's bytes + `0xff`; `u64` words little-endian).  The driver instantiates `sip` with
`Sip.sip13` (SipHash-1-3, zero key) and compares every key hash, value hash, bucket hash and root
hash with the real ones; the theorems hold for every collision-free `sip`. -/

/-- SipHash-1-3 test vectors (`DefaultHasher::new(); write(bytes); finish()`), kernel-evaluated -/
theorem sip13_test_vectors :
    Sip.sip13 [] = 15130871412783076140 ∧ Sip.sip13 [1] = 4952851536318644461
    ∧ Sip.sip13 [1, 2, 3, 4, 5, 6, 7] = 12812043627018688250
    ∧ Sip.sip13 [1, 2, 3, 4, 5, 6, 7, 8] = 9821449770987577264
    ∧ Sip.sip13 (List.range 20) = 7178233520606413056 := by
  decide +kernel

/-- every value of the state is canonical and its strings are UTF-8 (no `0xff` byte) -/
def ValuesOK (kb : Nat → List Nat) (s : NMap RV) : Prop := ∀ p ∈ s, p.2.WF ∧ StrSafe kb p.2

instance (kb : Nat → List Nat) : DecidablePred (ValuesOK kb) := fun s => by unfold ValuesOK; infer_instance

/-- **C18 (the byte stream is uniquely decodable)**: two canonical UTF-8 values that differ
    anywhere — stamp, kind, any register / field / count / element / tag, vector clock, expiry,
    replication factor — feed different BYTES to the value hasher.  A change of `canonical_hash`
    that makes the stream ambiguous (two variable-length parts without a length or terminator
    between them, a dropped field, an unsorted container) breaks this theorem once the model
    follows the code, and the model must follow: `sip13 (byteStream v)` is compared with the real
    `value_hash` for every value of every run. -/
theorem byte_stream_injective (kb : Nat → List Nat) (hkb : KbInj kb) (v w : RV) (hv : v.WF) (hw : w.WF)
    (sv : StrSafe kb v) (sw : StrSafe kb w) (h : byteStream kb v = byteStream kb w) : v = w :=
  byteStream_inj hkb hv hw sv sw h

/-- … `StrSafe` is necessary: strings are `0xff`-terminated, not length-prefixed (unreachable
    with Rust `String`s, which are UTF-8) -/
theorem byte_stream_ff_ambiguous :
    ffA ≠ ffB ∧ ffA.WF ∧ ffB.WF ∧ byteStream HB.keyStr ffA = byteStream HB.keyStr ffB
    ∧ ¬ StrSafe HB.keyStr ffA :=
  byteStream_ff_ambiguous

/-- the driver's string decoder is injective -/
theorem key_str_injective : KbInj HB.keyStr := keyStr_inj

/-- … and inverts the codec of the drivers: the bytes the model hashes for a key (an element, a
    field name) ARE that string's bytes -/
theorem key_str_inverts_code (b : List Nat) (hb : ∀ x ∈ b, x < 256) : HB.keyStr (HB.code b) = b := keyStr_code hb

/-- the key order the driver runs `get_keys_in_buckets` with — byte-wise `String::cmp` on the
    decoded keys — satisfies the `TotalOrder` hypothesis of `sim_response_order_independent` and
    `sim_round_order_independent` -/
theorem key_order_total : TotalOrder (fun a b => HB.bytesLe (HB.keyStr a) (HB.keyStr b)) := totalOrder_keyLe

/-- **the three-use `Ideal` assumption follows from an ideal byte hash** -/
theorem ideal_sip_hasher (sip : List Nat → Nat) (kb : Nat → List Nat) (hs : SipIdeal sip) (hkb : KbInj kb) :
    Ideal (sipHasher sip kb) := ideal_sipHasher hs hkb

/-- **C18 (equal digests iff equal states), at the level of the bytes hashed**: for every
    collision-free 64-bit byte hash `sip` (never `0`), the digests the code computes — key hash =
    `sip(key bytes, 0xff)`, value hash = `sip(canonical_hash's bytes)`, bucket / root hashes =
    `sip(little-endian words)` — are equal iff the states are, for canonical UTF-8 states of any
    size, any CRDT kinds, any two iteration orders, any depth. -/
theorem digest_iff_state_eq_bytes (sip : List Nat → Nat) (kb : Nat → List Nat) (hsip : SipIdeal sip)
    (hkb : KbInj kb) (depth : Nat) (π π' : List Nat) (s t : NMap RV)
    (hs : NMap.WF s) (ht : NMap.WF t) (vs : ValuesOK kb s) (vt : ValuesOK kb t)
    (hπ : ValidOrder π s) (hπ' : ValidOrder π' t) :
    differsFrom (fromState (sipHasher sip kb) true (byteStream kb) depth π s)
      (fromState (sipHasher sip kb) true (byteStream kb) depth π' t) = false ↔ s = t :=
  digest_iff_of_injOn (P := fun v => v.WF ∧ StrSafe kb v) (fun _ _ hv hw => byteStream_inj hkb hv.1 hw.1 hv.2 hw.2)
    (ideal_sipHasher hsip hkb) (streamOK_byteStream kb) hs ht hπ hπ' vs vt

/-- … in particular for the stream and the string decoder of the current tree (`AE.digest` with
    `sipHasher sip HB.keyStr`; the driver runs it with `sip = Sip.sip13`) -/
theorem digest_iff_state_eq_current (sip : List Nat → Nat) (hsip : SipIdeal sip) (depth : Nat)
    (π π' : List Nat) (s t : NMap RV) (hs : NMap.WF s) (ht : NMap.WF t)
    (vs : ValuesOK HB.keyStr s) (vt : ValuesOK HB.keyStr t) (hπ : ValidOrder π s) (hπ' : ValidOrder π' t) :
    differsFrom (digest (sipHasher sip HB.keyStr) depth π s) (digest (sipHasher sip HB.keyStr) depth π' t) = false
      ↔ s = t :=
  digest_iff_state_eq_bytes sip HB.keyStr hsip keyStr_inj depth π π' s t hs ht vs vt hπ hπ'

/-- a collision-free byte hash that never returns `0` (non-vacuity of `SipIdeal`) -/
def idealSip : List Nat → Nat := fun l => enc l + 1

theorem sipIdeal_idealSip : SipIdeal idealSip :=
  ⟨fun a b h => enc_inj a b (by unfold idealSip at h; omega), fun a => by unfold idealSip; omega⟩

/-- the two sides must be configured with the SAME `merkle_tree_depth`: digests of different depth
    never compare equal for non-trivial equal states (the root folds a different bucket list) — the
    exchange still merges (the size-mismatch branch of `divergent_buckets` reports every non-empty
    extra bucket; exercised by the three-manager sessions), but "in sync" is never reached -/
theorem digest_depth_mismatch_counterexample :
    differsFrom (fromState idealH true canonicalStream 0 [1, 2] exA) (fromState idealH true canonicalStream 1 [1, 2] exA) = true
    ∧ divergentBuckets (fromState idealH true canonicalStream 0 [1, 2] exA) (fromState idealH true canonicalStream 1 [1, 2] exA) = [0, 1] := by
  decide

/-! ## what one round guarantees under ANY limit

The code keeps no cursor between rounds, so nothing better than this can be said about a round
whose limit is below the candidate population: each side is sent exactly the first `limit`
candidates of the other side (in key order on the simulator path), those keys end merged, every
other key is untouched — and the next round starts from the same prefix (the starvation finding). -/

theorem getKeysInBuckets_keys_nodup (arr : Arrange) (harr : ArrOK arr) (H : Hasher) (vs : ValueStream) (depth limit : Nat)
    (π : List Nat) (s : NMap RV) (div : List Nat) (hs : NMap.WF s) (hπ : ValidOrder π s) :
    ((getKeysInBuckets arr H vs depth limit π s div).map (·.1)).Nodup := by
  rw [getKeysInBuckets_eq_take]
  exact List.Nodup.sublist ((List.take_sublist _ _).map _) (arr_candidates_keys_nodup div harr hs hπ)

/-- **C18 (one round, exactly)**: for every limit, every arrangement, every pair of iteration
    orders: after `run_anti_entropy_sync` a key holds `merge(own, other's)` iff the OTHER side sent
    it — i.e. iff it is among the first `limit` arranged candidates of the other side — and is
    unchanged otherwise.  (With `limit ≥` population this is `sync_merges`.) -/
theorem sync_round_exact (arr : Arrange) (harr : ArrOK arr) (H : Hasher) (sb : Bool) (vs : ValueStream) (depth limit : Nat)
    (πa πb : List Nat) (a b : NMap RV) (ha : NMap.WF a) (hb : NMap.WF b) (hπa : ValidOrder πa a) (hπb : ValidOrder πb b)
    (hd : differsFrom (fromState H sb vs depth πa a) (fromState H sb vs depth πb b) = true)
    (hne : (divergentBuckets (fromState H sb vs depth πa a) (fromState H sb vs depth πb b)).isEmpty = false) (k : Nat) :
    let div := divergentBuckets (fromState H sb vs depth πa a) (fromState H sb vs depth πb b)
    let r := syncRoundWith arr H sb vs depth limit πa πb a b
    NMap.get r.1 k = (match (getKeysInBuckets arr H vs depth limit πb b div).lookup k with
                      | some v => some (mergeInto (NMap.get a k) v)
                      | none => NMap.get a k)
    ∧ NMap.get r.2 k = (match (getKeysInBuckets arr H vs depth limit πa a div).lookup k with
                        | some v => some (mergeInto (NMap.get b k) v)
                        | none => NMap.get b k) := by
  intro div r
  have hr : r = exchange arr H vs depth limit πa πb a b div := syncRoundWith_eq_exchange harr H sb depth limit πa πb a b hd
  rw [hr]
  unfold exchange
  simp only []
  exact ⟨get_applyDeltas _ a k (getKeysInBuckets_keys_nodup arr harr H vs depth limit πb b div hb hπb),
    get_applyDeltas _ b k (getKeysInBuckets_keys_nodup arr harr H vs depth limit πa a div ha hπa)⟩

/-! ## the protocol as a state machine: late, duplicated and concurrent messages

`AE.Mgr` models `AntiEntropyManager` with its bookkeeping; digests, requests and responses are
values that may be processed at any later time.  What the protocol guarantees then: -/

theorem response_sublist_iter (ord : RespOrder) (H : Hasher) (vs : ValueStream) (depth limit : Nat) (π : List Nat)
    (s : NMap RV) (req : Option (List Nat)) : (responseKeysWith ord H vs depth limit π s req).Sublist (iter π s) := by
  cases req with
  | none => exact List.take_sublist _ _
  | some bs =>
    cases ord <;> simp only [responseKeysWith]
    · exact (List.take_sublist _ _).trans List.filter_sublist
    · exact List.filter_sublist.trans (List.take_sublist _ _)

/-- a response never answers a key twice -/
theorem response_keys_nodup (ord : RespOrder) (H : Hasher) (vs : ValueStream) (depth limit : Nat) (π : List Nat)
    (s : NMap RV) (req : Option (List Nat)) (hs : NMap.WF s) (hπ : ValidOrder π s) :
    ((responseKeysWith ord H vs depth limit π s req).map (·.1)).Nodup :=
  List.Nodup.sublist ((response_sublist_iter ord H vs depth limit π s req).map _) (iter_keys_nodup hs hπ)

/-- **C18 (a late answer is safe)**: the response to ANY request (built from digests of
    arbitrarily old states, for a bucket list or the full state) consists of entries of the
    responder's CURRENT state, and merging it into ANY requester state `r₁` — the state at merge
    time, not the one the digest was computed from — leaves `merge(r₁[k], answered[k])` on every
    answered key and every other key untouched: a write made between digest and transfer is
    never rolled back or skipped. -/
theorem stale_pull_merges (H : Hasher) (m : Mgr) (req : Request) (πp : List Nat) (p r₁ : NMap RV)
    (hp : NMap.WF p) (hπ : ValidOrder πp p) (k : Nat) :
    (∀ q ∈ (m.handleSyncRequest H req πp p).2.deltas, NMap.get p q.1 = some q.2)
    ∧ NMap.get (applyDeltas r₁ (m.handleSyncRequest H req πp p).2.deltas) k
        = (match (m.handleSyncRequest H req πp p).2.deltas.lookup k with
           | some v => some (mergeInto (NMap.get r₁ k) v)
           | none => NMap.get r₁ k) := by
  have hdl : (m.handleSyncRequest H req πp p).2.deltas
      = responseKeysWith currentRespOrder H currentStream (effectiveDepth currentDepthBound m.depth)
          (effectiveLimit currentLimitAtLeastOne m.limit) πp p req.buckets := rfl
  rw [hdl]
  constructor
  · intro q hq
    exact mem_iter ((response_sublist_iter _ _ _ _ _ _ _ _).subset hq)
  · exact get_applyDeltas _ r₁ k (response_keys_nodup _ _ _ _ _ _ _ _ hp hπ)

/-- merging `v` a second time changes nothing -/
def Absorbs (r : NMap RV) (ds : List (Nat × RV)) : Prop :=
  ∀ q ∈ ds, RV.merge (mergeInto (NMap.get r q.1) q.2) q.2 = mergeInto (NMap.get r q.1) q.2

instance (r : NMap RV) (ds : List (Nat × RV)) : Decidable (Absorbs r ds) := by unfold Absorbs; infer_instance

/-- … which is the case for well-formed values of one kind (C07: idempotent, associative within a kind) -/
theorem absorbs_of_samekind (r : NMap RV) (ds : List (Nat × RV))
    (h : ∀ q ∈ ds, q.2.WF ∧ ∀ u, NMap.get r q.1 = some u → u.WF ∧ u.crdt.kind = q.2.crdt.kind) : Absorbs r ds := by
  intro q hq
  obtain ⟨hw, hu⟩ := h q hq
  unfold mergeInto
  cases hg : NMap.get r q.1 with
  | none => exact C07.rv_merge_idem q.2 hw
  | some u =>
    obtain ⟨huw, hk⟩ := hu u hg
    simp only []
    rw [← C07.rv_merge_assoc_partial u q.2 q.2 huw hw hw ⟨hk, rfl⟩, C07.rv_merge_idem q.2 hw]

/-- **C18 (a duplicated answer is harmless), partial**: applying the same response twice equals
    applying it once, provided re-merging an answered value is absorbed (`Absorbs`; true for
    well-formed same-kind values, `absorbs_of_samekind`; cross-kind pairs are C07's known
    non-associativity) -/
theorem duplicate_response_idempotent_partial (r : NMap RV) (ds : List (Nat × RV)) (hr : NMap.WF r)
    (hn : (ds.map (·.1)).Nodup) (ha : Absorbs r ds) :
    applyDeltas (applyDeltas r ds) ds = applyDeltas r ds := by
  apply NMap.ext (wf_applyDeltas _ (wf_applyDeltas _ hr)) (wf_applyDeltas _ hr)
  intro k
  rw [get_applyDeltas ds _ k hn, get_applyDeltas ds r k hn]
  cases hl : ds.lookup k with
  | none => rfl
  | some v => exact congrArg some (ha (k, v) ((lookup_eq_some_iff_mem hn).mp hl))

/-- **C18 (the verdict of `process_peer_digest`)**: with an ideal byte hash, two managers of the
    same configured depth: the peer is reported (and marked) divergent iff the two states differ —
    whatever generations / replica ids the digests carry, whatever the iteration orders -/
theorem mgr_verdict_iff_states_differ (sip : List Nat → Nat) (hsip : SipIdeal sip) (m mp : Mgr) (hd : m.depth = mp.depth)
    (π π' : List Nat) (s t : NMap RV) (hs : NMap.WF s) (ht : NMap.WF t)
    (vs : ValuesOK HB.keyStr s) (vt : ValuesOK HB.keyStr t) (hπ : ValidOrder π s) (hπ' : ValidOrder π' t) :
    let ours := m.generateDigest (sipHasher sip HB.keyStr) π s
    let theirs := mp.generateDigest (sipHasher sip HB.keyStr) π' t
    ((m.processPeerDigest theirs ours).2.isSome = true ↔ s ≠ t)
    ∧ (mp.rid ∈ (m.processPeerDigest theirs ours).1.divergentPeers ↔ s ≠ t) := by
  intro ours theirs
  have key := digest_iff_state_eq_current sip hsip (effectiveDepth currentDepthBound m.depth) π π' s t hs ht vs vt hπ hπ'
  have hdf : differsFrom ours.d theirs.d = false ↔ s = t := by
    show differsFrom (digest _ _ π s) (digest _ (effectiveDepth currentDepthBound mp.depth) π' t) = false ↔ s = t
    rw [← hd]; exact key
  unfold Mgr.processPeerDigest
  cases hdd : differsFrom ours.d theirs.d with
  | true =>
    have hne : s ≠ t := fun h => by rw [hdf.mpr h] at hdd; cases hdd
    simp only [if_true, Option.isSome_some, true_iff]
    exact ⟨hne, ⟨fun _ => hne, fun _ => NSet.mem_insert.mpr (Or.inl rfl)⟩⟩
  | false =>
    have heq : s = t := hdf.mp hdd
    simp only [Bool.false_eq_true, if_false, Option.isSome_none]
    refine ⟨⟨fun h => absurd h (by decide), fun h => absurd heq h⟩, ⟨fun h => ?_, fun h => absurd heq h⟩⟩
    exact absurd rfl (bne_iff_ne.mp (List.mem_filter.mp h).2)

/-- **C18 (`should_sync` after a request)**: once a request to `peer` was created at time `now`,
    a sync is due again exactly from `now + sync_interval_ms` on (no clock underflow for `t ≥ now`) -/
theorem should_sync_after_request (m : Mgr) (peer : Nat) (ours : TDigest) (bs : Option (List Nat)) (now t : Nat)
    (ht : now ≤ t) :
    (m.createSyncRequest peer ours bs now).1.shouldSync peer t = if t - now ≥ m.interval then .yes else .no := by
  unfold Mgr.createSyncRequest Mgr.shouldSync
  simp only [NMap.get_insert, if_true, dueAt]
  rw [if_neg (by omega)]

/-! ## non-vacuity -/

-- the hypotheses of the theorems above are satisfiable by non-trivial values
example : Ideal idealH := ideal_idealH

example : NMap.WF exA ∧ LwwOnly exA ∧ ValidOrder [2, 1] exA ∧ proj canonicalStream exA ≠ proj canonicalStream stA
    ∧ fromState idealH true canonicalStream 0 [1, 2] exA = fromState idealH true canonicalStream 0 [2, 1] exA := by
  decide +kernel

-- the byte-level hypotheses are satisfiable by a non-trivial state: a hash with two fields, a set
-- with two elements of different lengths (sorted by bytes, not by code), a plain register
def exBytes : NMap RV :=
  [(HB.code [107], { crdt := .hash [(HB.code [102], ⟨some [49], ⟨1, 1⟩, false⟩), (HB.code [97, 98], ⟨none, ⟨2, 1⟩, true⟩)],
                     vc := some [(1, 2)], expiry := some 5000, ts := ⟨2, 1⟩, rf := some 3 }),
   (HB.code [107, 50], { crdt := .gset [HB.code [122], HB.code [97, 98]], vc := none, expiry := none, ts := ⟨1, 2⟩, rf := none }),
   (HB.code [107, 51], RV.withValue [0, 255] ⟨3, 1⟩)]

example : NMap.WF exBytes ∧ ValuesOK HB.keyStr exBytes ∧ ValidOrder [HB.code [107, 51], HB.code [107], HB.code [107, 50]] exBytes
    ∧ SipIdeal idealSip := by
  refine ⟨by decide, by decide, by decide, sipIdeal_idealSip⟩

-- a duplicated answer that is absorbed (same kind), applied to a state that already changed
example : Absorbs stA [(2, exY')] ∧ ((([(2, exY')] : List (Nat × RV)).map (·.1)).Nodup)
    ∧ applyDeltas (applyDeltas stA [(2, exY')]) [(2, exY')] = applyDeltas stA [(2, exY')]
    ∧ applyDeltas stA [(2, exY')] = stB := by
  decide +kernel

-- a sync with limit ≥ population: key 2 diverges, both sides end with the merge
example :
    differsFrom (fromState idealH true canonicalStream 0 [2, 1] stA) (fromState idealH true canonicalStream 0 [1, 2] stB) = true
    ∧ (candidates idealH 0 [2, 1] stA (divergentBuckets (fromState idealH true canonicalStream 0 [2, 1] stA) (fromState idealH true canonicalStream 0 [1, 2] stB))).length ≤ 2
    ∧ syncRoundWith (sortByKey natLe) idealH true canonicalStream 0 2 [2, 1] [1, 2] stA stB = (stB, stB) := by
  decide +kernel

end C18
end RedisVerif
