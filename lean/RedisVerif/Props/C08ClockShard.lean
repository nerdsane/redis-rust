import RedisVerif.Props.C08Clock

/-!
# C08: the u64 clock of a SHARD below the bound

`Props/C08Clock.lean` proves that the machine clock (wrapping or checked u64 arithmetic) equals the
exact `Nat` clock for any sequence of `tick` / `update` operations that stays below 2^64.  Here
that is lifted to whole shard histories: `clockOps s op` is the exact sequence of clock
operations one step of the shard model performs — a SET ticks once, a DEL ticks once when it finds
a string or a hash, an HSET ticks once per field/value pair, an HDEL once per NAMED field that is
stored (tombstoned fields included: the entry stays in the map), a delivered or recovered value
`update`s once with its outer time — and

* `step_clock` / `run_clock`: the shard's Lamport time after any history IS `clockRun` of those
  operations (the only places the model moves the clock; `stamp_sites` of the harness counts the
  same places in the source);
* `shard_clock_u64_exact`: as long as `max(start, every stamp handed in) + number of clock
  operations < 2^64`, a u64 clock driven through the same history — wrapping (release profile) or
  checked (`overflow-checks`) — shows exactly the model's time at the end (and at every prefix), so
  every theorem of `Props/C08.lean` (`Nat` times) is a theorem about the machine for such histories;
  at the bound: `clock_u64_overflow_counterexample` (known finding `C08:clock:u64-overflow`).
-/
namespace RedisVerif
namespace C08

open Shard

/-- named fields that are stored (live or tombstoned): each costs one tick -/
def hdelTicks (h : NMap Lww) (fs : List Nat) : Nat := fs.countP (fun f => (NMap.get h f).isSome)

/-- the clock operations of one step of the shard -/
def clockOps (s : Shard) : Op → List ClockOp
  | .write _ _ _ => [.tick]
  | .delete k =>
    match NMap.get s.keys k with
    | some rv => (match rv.crdt with | .lww _ => [.tick] | .hash _ => [.tick] | _ => [])
    | none => []
  | .hwrite _ fs => List.replicate fs.length .tick
  | .hdelete k fs =>
    match NMap.get s.keys k with
    | some rv => (match rv.crdt with | .hash h => List.replicate (hdelTicks h fs) .tick | _ => [])
    | none => []
  | .remote _ d => [.update d.ts.time]
  | .recovered _ v => [.update v.ts.time]

theorem clockRun_ticks (c n : Nat) : clockRun c (List.replicate n .tick) = c + n := by
  induction n generalizing c with
  | zero => rfl
  | succ n ih =>
    simp only [List.replicate_succ, clockRun, List.foldl_cons] at ih ⊢
    rw [ih]
    simp only [clockStep]
    omega

theorem clockRun_append (c : Nat) (a b : List ClockOp) :
    clockRun c (a ++ b) = clockRun (clockRun c a) b := by
  simp [clockRun, List.foldl_append]

theorem hashDel_fold_time (fs : List Nat) (c : Stamp) (h : NMap Lww) :
    (fs.foldl hashDelStep (c, h)).1.time = c.time + hdelTicks h fs :=
  congrArg Stamp.time (hashDel_fold_stamp fs c h)

/-- **one step moves the clock exactly by its clock operations** -/
theorem step_clock (s : Shard) (op : Op) :
    (step s op).1.clock.time = clockRun s.clock.time (clockOps s op) := by
  cases op with
  | write k v e => rfl
  | delete k =>
    simp only [step, clockOps, recordDelete]
    cases NMap.get s.keys k with
    | none => rfl
    | some rv =>
      dsimp only
      cases rv.crdt <;> rfl
  | hwrite k fs => exact (hwrite_clock s k fs).1.trans (clockRun_ticks _ _).symm
  | hdelete k fs =>
    simp only [step, clockOps, recordHashDelete]
    cases NMap.get s.keys k with
    | none => rfl
    | some rv =>
      dsimp only
      cases rv.crdt with
      | hash h => exact (hashDel_fold_time fs s.clock h).trans (clockRun_ticks _ _).symm
      | _ => rfl
  | remote k d => rfl
  | recovered k v => rfl

/-- the clock operations of a whole history -/
def opsClock : Shard → List Op → List ClockOp
  | _, [] => []
  | s, o :: ops => clockOps s o ++ opsClock (step s o).1 ops

/-- **the shard's Lamport time after any history is `clockRun` of its clock operations** -/
theorem run_clock (s : Shard) (ops : List Op) :
    (run s ops).clock.time = clockRun s.clock.time (opsClock s ops) := by
  induction ops generalizing s with
  | nil => rfl
  | cons o ops ih =>
    show (run (step s o).1 ops).clock.time = _
    rw [ih, opsClock, clockRun_append, step_clock]

/-- **below the bound the u64 clock of a shard is the model's clock**, wrapping or checked -/
theorem shard_clock_u64_exact (s : Shard) (ops : List Op)
    (h : Max.max s.clock.time (maxIn (opsClock s ops)) + (opsClock s ops).length < u64Bound) :
    clockRunWrap s.clock.time (opsClock s ops) = (run s ops).clock.time ∧
    clockRunChecked s.clock.time (opsClock s ops) = some (run s ops).clock.time := by
  rw [run_clock]
  exact clock_u64_exact (opsClock s ops) s.clock.time h

/-- non-vacuity: SET, HSET of two fields, a delta stamped 2^32 from a peer, HDEL naming a stored and
    an absent field, DEL: 1 + 2 + (update) + 1 + 1 operations, far below the bound -/
example :
    let ops : List Op := [.write 7 [1] none, .hwrite 8 [(1, [2]), (2, [3])],
      .remote 7 (RV.withValue [9] ⟨4294967296, 2⟩), .hdelete 8 [1, 5], .delete 7]
    let s := Shard.init 1 false
    opsClock s ops = [.tick, .tick, .tick, .update 4294967296, .tick, .tick] ∧
      (run s ops).clock.time = 4294967299 ∧
      Max.max s.clock.time (maxIn (opsClock s ops)) + (opsClock s ops).length < u64Bound := by
  decide

end C08
end RedisVerif
