import RedisVerif.Props.C11
import RedisVerif.Lemmas.StreamOps

/-!
# C11 — the production start-up sequence and the other writers of the manifest

`server_persistent.rs` does not call `recover_with_wal`: it runs
`StreamingIntegration::recover(&state)` (checkpoint + segments through `apply_recovered_state`)
and then hands the WAL entries to a SECOND `apply_recovered_state(None, wal_deltas)`.  The node it
leaves is the one a single application of `recover_with_wal`'s result leaves.  The other two
parts: `ManifestManager::add_segment` / `update` (load, add, save) keep the manifest invariant
and leave the store's manifest equal to the returned one; the scheduling predicate of
`CheckpointManager` at its comparisons.
-/
namespace RedisVerif
namespace C11

open _root_.RedisVerif.Stream FoldACI

/-- applying `(chk, ds)` and then `(None, wal)` is applying `(chk, ds ++ wal)` — for every node,
    router, checkpoint and delta lists -/
theorem apply_in_two_steps (route : Nat → Nat) (n : Node) (chk : Option (List Delta)) (ds wal : List Delta) :
    applyRecoveredState route (applyRecoveredState route n chk ds) none wal =
      applyRecoveredState route n chk (ds ++ wal) := by
  unfold applyRecoveredState
  simp [List.foldl_append]

/-- the production start-up sequence (recover + apply, then the WAL entries through a second
    `apply_recovered_state(None, ..)`) leaves in every key the fold of the recovered updates followed
    by all WAL entries (current tree: no high-water-mark filter); by `recover_selects_all` the
    recovered updates are everything persisted in the store -/
theorem production_startup_exact {st : Store} {rid : Nat} {wal : List (Nat × Delta)} {r : Recovered}
    (route : Nat → Nat) (causal : Bool)
    (h : recover st rid = .ok r) (hwf : ∀ m, r.chk = some m → NMap.WF m) (k : Nat) :
    (applyRecoveredState route (applyRecoveredState route (Node.fresh rid causal) r.chk r.deltas) none
        (wal.map (·.2))).value route k =
      NMap.get (foldState (r.updates ++ wal.map (·.2))) k := by
  rw [apply_in_two_steps, apply_recovered_equals_foldState route rid causal r.chk hwf (r.deltas ++ wal.map (·.2)) k]
  unfold Recovered.updates
  rw [List.append_assoc]

/-- … and it is what one application of `recover_with_wal`'s result gives -/
theorem production_startup_eq_recover_with_wal {st : Store} {rid : Nat} {wal : List (Nat × Delta)} {r : Recovered}
    (route : Nat → Nat) (n : Node) (h : recover st rid = .ok r) :
    ∃ r', recoverWithWal st rid wal = .ok r' ∧
      applyRecoveredState route (applyRecoveredState route n r.chk r.deltas) none (wal.map (·.2)) =
        applyRecoveredState route n r'.chk r'.deltas := by
  refine ⟨{ r with deltas := r.deltas ++ wal.map (·.2) }, ?_, apply_in_two_steps route n r.chk r.deltas _⟩
  unfold recoverWithWal recoverWithWalWith
  rw [h]
  simp

/-! ## ManifestManager::add_segment / update -/

/-- `ManifestManager::add_segment` / `update(add_segment)`: when it succeeds the store's manifest
    is the returned one, and the manifest invariant is kept for a fresh id above the checkpoint -/
theorem manager_add_segment_inv (F : Oracle) (w : World) (info : SegInfo) (m' : Manifest)
    (h : (managerAddSegment F w info).2 = some m') :
    NMap.get (managerAddSegment F w info).1.store manifestName = some (.manifest m') ∧
    ∃ m, NMap.get w.store manifestName = some (.manifest m) ∧ m' = m.addSegment info ∧
      (ManifestInv m → (∀ s ∈ m.segments, s.id ≠ info.id) → (∀ c, m.checkpoint = some c → c.last < info.id) →
        ManifestInv m') := by
  unfold managerAddSegment at h ⊢
  cases hg : w.get F manifestName with
  | mk w1 res =>
    rw [hg] at h
    cases res with
    | err e => simp at h
    | ok o =>
      cases o with
      | manifest m =>
        simp only at h ⊢
        cases hs : saveManifest F w1 (m.addSegment info) with
        | mk w2 ok =>
          rw [hs] at h
          cases ok with
          | false => simp at h
          | true =>
            simp only [Option.some.injEq] at h
            subst h
            have hst : w1.store = w.store := by
              have := get_store F w manifestName
              rw [hg] at this
              exact this
            refine ⟨(saveManifest_true hs).1, m, ?_, rfl, fun hi hne hc => manifest_inv_addSegment hi hne hc⟩
            have := get_ok hg
            rcases this with h1 | h1
            · exact h1
            · exact absurd h1.1 (by simp)
      | segment ds => simp at h
      | checkpoint st l => simp at h
      | torn => simp at h

/-! ## CheckpointManager::should_checkpoint -/

/-- below `min_segments` no checkpoint is due, whatever the clock says -/
theorem should_checkpoint_needs_min_segments (m : Manifest) (minSegs iv now : Nat)
    (h : m.segments.length < minSegs) : shouldCheckpoint m minSegs iv now = false := by
  unfold shouldCheckpoint; simp [h]

/-- with an existing checkpoint one is due exactly when `interval` (as the u64 the code reads) has
    elapsed since its `timestamp_ms` — at equality: due -/
theorem should_checkpoint_at_interval (m : Manifest) (c : ChkInfo) (minSegs iv now : Nat)
    (hs : minSegs ≤ m.segments.length) (hc : m.checkpoint = some c) :
    shouldCheckpoint m minSegs iv now = decide (iv % 2 ^ 64 ≤ now - c.name) := by
  unfold shouldCheckpoint
  have : ¬ m.segments.length < minSegs := by omega
  simp only [this, if_false, hc]
  by_cases h : now - c.name < iv % 2 ^ 64
  · simp [h]
  · simp [h]; omega

/-- the `as u64` cast: an interval of 2^64 + 384 ms is read as 384 ms -/
theorem should_checkpoint_interval_truncated :
    shouldCheckpoint { Manifest.new 1 with checkpoint := some { name := 1000, last := 0 } } 0 (2 ^ 64 + 384) 1384 = true := by
  decide

example : shouldCheckpoint { Manifest.new 1 with checkpoint := some { name := 1000, last := 0 } } 0 500 1499 = false ∧
    shouldCheckpoint { Manifest.new 1 with checkpoint := some { name := 1000, last := 0 } } 0 500 1500 = true ∧
    shouldCheckpoint (Manifest.new 1) 1 0 0 = false ∧ shouldCheckpoint (Manifest.new 1) 0 5 0 = true := by
  decide

end C11
end RedisVerif
