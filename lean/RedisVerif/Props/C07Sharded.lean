import RedisVerif.Props.C07Reach

/-!
# C07 / C08 over clusters of PRODUCTION nodes (16 shard clocks per node, one replica id)

`Props/C07Reach.lean` is about `Cluster`: every node is ONE `Shard` and replica ids are distinct.
A production node (`ReplicatedShardedState`) is `S` shard actors that ALL carry the node's replica id
and each have their own Lamport clock: shard 3 and shard 7 of node 1 both issue the stamp (1, r1).
"A stamp identifies one write" is therefore false node-wide — it is true per (node, shard), and that
is enough because a key only ever lives on the shard its hash selects, on every node, for local
writes (`execute` → `hash_key`), deliveries (`apply_remote_deltas` → `hash_key`) and recovery alike.

`NCluster` is the cluster of such nodes (`ShardedNode` of C08, routing function `route` = `hash_key`
as a parameter).  `sim_run`: for every shard index `s`, the `s`-th shards of all nodes together with
the deltas whose key routes to `s` ARE an execution of `Cluster` (events on other shards do not
touch them).  Hence the theorems over `Reach` hold for the production cluster (`nreachable_*`).
`same_stamp_two_shards`: the two shards of one node do issue the same stamp, for different keys.
-/
namespace RedisVerif
namespace C07

open Cluster

/-- a cluster of production nodes and the deltas shipped so far -/
structure NCluster where
  nodes : List ShardedNode
  sent : List Msg
  deriving Repr

inductive NEv where
  | loc (i : Nat) (op : LOp)
  | deliver (j : Nat) (idx : Nat)
  deriving DecidableEq, Repr

namespace NCluster

/-- `n` nodes of `S` shards each; every shard of node `i` carries replica id `i + 1` -/
def init (n S : Nat) (causal : Bool) : NCluster :=
  { nodes := (List.range n).map (fun i => ShardedNode.init (i + 1) causal S), sent := [] }

/-- a local command goes to the shard of its key (`ReplicatedShardedState::execute`); a delivered
    delta goes to the shard of ITS key (`apply_remote_deltas`) -/
def step (route : Nat → Nat) (c : NCluster) : NEv → NCluster
  | .loc i op =>
    match c.nodes[i]? with
    | none => c
    | some nd =>
      match nd[route op.key]? with
      | none => c
      | some sh =>
        let r := Shard.step sh op.toOp
        match r.2 with
        | some d =>
          { nodes := c.nodes.set i (nd.set (route op.key) r.1), sent := c.sent ++ [⟨i, op.key, d⟩] }
        | none => { c with nodes := c.nodes.set i (nd.set (route op.key) r.1) }
  | .deliver j idx =>
    match c.nodes[j]?, c.sent[idx]? with
    | some nd, some m =>
      match nd[route m.key]? with
      | none => c
      | some sh =>
        { c with nodes := c.nodes.set j (nd.set (route m.key) (Shard.applyRemote sh m.key m.val)) }
    | _, _ => c

def run (route : Nat → Nat) (c : NCluster) (evs : List NEv) : NCluster := evs.foldl (step route) c

end NCluster

/-- shard `s` of every node + the deltas for keys of `s`: the single-shard cluster `C` simulates it -/
structure Sim (route : Nat → Nat) (s : Nat) (c : NCluster) (C : Cluster) : Prop where
  nodes : C.nodes.length = c.nodes.length ∧
    ∀ (i : Nat) (nd : ShardedNode), c.nodes[i]? = some nd →
      ∃ sh : Shard, nd[s]? = some sh ∧ C.nodes[i]? = some sh
  sent : C.sent = c.sent.filter (fun m => route m.key = s)

theorem filter_index {α : Type} (p : α → Bool) (l : List α) (idx : Nat) (m : α)
    (h : l[idx]? = some m) (hp : p m = true) :
    (l.filter p)[(l.take idx).countP p]? = some m := by
  induction l generalizing idx with
  | nil => simp at h
  | cons x l ih =>
    cases idx with
    | zero =>
      simp only [List.getElem?_cons_zero, Option.some.injEq] at h
      subst h
      simp [List.filter_cons, hp]
    | succ idx =>
      simp only [List.getElem?_cons_succ] at h
      have := ih idx h
      by_cases hx : p x = true
      · simp [List.filter_cons, hx, List.take_succ_cons, List.countP_cons, this]
      · simp only [Bool.not_eq_true] at hx
        simp [List.filter_cons, hx, List.take_succ_cons, List.countP_cons, this]

def NEv.Valid : NEv → Bool
  | .loc _ op => op.Valid
  | .deliver _ _ => true

theorem sim_init (route : Nat → Nat) (s n S : Nat) (causal : Bool) (hs : s < S) :
    Sim route s (NCluster.init n S causal) (Cluster.init n causal) where
  nodes := by
    refine ⟨by simp [NCluster.init, Cluster.init], ?_⟩
    intro i nd hnd
    simp only [NCluster.init, List.getElem?_map] at hnd
    cases hr : (List.range n)[i]? with
    | none => simp [hr] at hnd
    | some x =>
      simp only [hr, Option.map_some, Option.some.injEq] at hnd
      subst hnd
      refine ⟨Shard.init (x + 1) causal, ?_, ?_⟩
      · simp [ShardedNode.init, List.getElem?_replicate, hs]
      · simp [Cluster.init, List.getElem?_map, hr]
  sent := by simp [NCluster.init, Cluster.init]

theorem Sim.set {route : Nat → Nat} {s : Nat} {c c' : NCluster} {C C' : Cluster}
    (h : Sim route s c C) {i : Nat} {nd : ShardedNode} {x : Shard} (hi : i < c.nodes.length)
    (hx : nd[s]? = some x) (hn : c'.nodes = c.nodes.set i nd) (hN : C'.nodes = C.nodes.set i x)
    (hs : C'.sent = c'.sent.filter (fun m => route m.key = s)) : Sim route s c' C' := by
  refine ⟨⟨by rw [hn, hN, List.length_set, List.length_set, h.nodes.1], ?_⟩, hs⟩
  intro j ndj hj
  rw [hn] at hj
  rw [hN]
  by_cases hji : j = i
  · subst hji
    rw [List.getElem?_set_self hi] at hj
    cases hj
    exact ⟨x, hx, List.getElem?_set_self (h.nodes.1 ▸ hi)⟩
  · rw [List.getElem?_set_ne (Ne.symm hji)] at hj ⊢
    exact h.nodes.2 j ndj hj

/-- one event of the production cluster is at most one event of the cluster of `s`-th shards:
    the same event when it is routed to shard `s`, none otherwise -/
theorem sim_step (route : Nat → Nat) (s : Nat) {c : NCluster} {C : Cluster} (h : Sim route s c C)
    (e : NEv) (hv : e.Valid = true) :
    ∃ evs' : List Ev, (∀ e' ∈ evs', e'.Valid = true) ∧ Sim route s (c.step route e) (C.run evs') := by
  cases e with
  | loc i op =>
    simp only [NCluster.step]
    cases hi : c.nodes[i]? with
    | none => exact ⟨[], by simp, h⟩
    | some nd =>
      simp only
      cases hsh : nd[route op.key]? with
      | none => exact ⟨[], by simp, h⟩
      | some sh =>
        simp only
        have hilt : i < c.nodes.length := (List.getElem?_eq_some_iff.mp hi).1
        have hklt : route op.key < nd.length := (List.getElem?_eq_some_iff.mp hsh).1
        obtain ⟨sh0, hs0, hC0⟩ := h.nodes.2 i nd hi
        by_cases hr : route op.key = s
        · subst hr
          rw [hs0] at hsh
          cases hsh
          refine ⟨[.loc i op], by simpa [Ev.Valid, NEv.Valid] using hv, ?_⟩
          cases hd : (Shard.step sh op.toOp).2 with
          | none =>
            exact h.set hilt (List.getElem?_set_self hklt) rfl
              (by simp only [Cluster.run, List.foldl, Cluster.step, hC0, hd])
              (by simp only [Cluster.run, List.foldl, Cluster.step, hC0, hd, h.sent])
          | some d =>
            exact h.set hilt (List.getElem?_set_self hklt) rfl
              (by simp only [Cluster.run, List.foldl, Cluster.step, hC0, hd])
              (by simp [Cluster.run, Cluster.step, hC0, hd, h.sent, List.filter_append])
        · refine ⟨[], by simp, ?_⟩
          show Sim route s _ C
          have hx : (nd.set (route op.key) (Shard.step sh op.toOp).1)[s]? = some sh0 := by
            rw [List.getElem?_set_ne hr]; exact hs0
          cases hd : (Shard.step sh op.toOp).2 with
          | none => exact h.set hilt hx rfl (list_set_same hC0).symm h.sent
          | some d =>
            exact h.set hilt hx rfl (list_set_same hC0).symm (by simp [List.filter_append, h.sent, hr])
  | deliver j idx =>
    simp only [NCluster.step]
    cases hj : c.nodes[j]? with
    | none => exact ⟨[], by simp, h⟩
    | some nd =>
      cases hm : c.sent[idx]? with
      | none => exact ⟨[], by simp, h⟩
      | some m =>
        simp only
        cases hsh : nd[route m.key]? with
        | none => exact ⟨[], by simp, h⟩
        | some sh =>
          simp only
          have hjlt : j < c.nodes.length := (List.getElem?_eq_some_iff.mp hj).1
          have hklt : route m.key < nd.length := (List.getElem?_eq_some_iff.mp hsh).1
          obtain ⟨sh0, hs0, hC0⟩ := h.nodes.2 j nd hj
          by_cases hr : route m.key = s
          · subst hr
            rw [hs0] at hsh
            cases hsh
            -- the delta has another index among the deltas of shard `s`
            have hidx := filter_index (fun m' => decide (route m'.key = route m.key)) c.sent idx m hm
              (by simp)
            rw [← h.sent] at hidx
            refine ⟨[.deliver j ((c.sent.take idx).countP (fun m' => decide (route m'.key = route m.key)))],
              by simp [Ev.Valid], ?_⟩
            exact h.set hjlt (List.getElem?_set_self hklt) rfl
              (by simp only [Cluster.run, List.foldl, Cluster.step, hC0, hidx])
              (by simp only [Cluster.run, List.foldl, Cluster.step, hC0, hidx]; exact h.sent)
          · refine ⟨[], by simp, ?_⟩
            show Sim route s _ C
            exact h.set hjlt (by rw [List.getElem?_set_ne hr]; exact hs0) rfl (list_set_same hC0).symm h.sent

theorem cluster_run_append (C : Cluster) (a b : List Ev) : C.run (a ++ b) = (C.run a).run b := by
  simp [Cluster.run, List.foldl_append]

/-- **the `s`-th shards of a production cluster are an execution of `Cluster`** -/
theorem sim_run (route : Nat → Nat) (s : Nat) (evs : List NEv) : ∀ {c : NCluster} {C : Cluster},
    Sim route s c C → (∀ e ∈ evs, e.Valid = true) →
    ∃ evs' : List Ev, (∀ e' ∈ evs', e'.Valid = true) ∧ Sim route s (c.run route evs) (C.run evs') := by
  induction evs with
  | nil => intro c C h _; exact ⟨[], by simp, h⟩
  | cons e evs ih =>
    intro c C h hv
    obtain ⟨e1, hv1, h1⟩ := sim_step route s h e (hv e List.mem_cons_self)
    obtain ⟨e2, hv2, h2⟩ := ih h1 (fun x hx => hv x (List.mem_cons_of_mem _ hx))
    refine ⟨e1 ++ e2, ?_, ?_⟩
    · intro x hx
      rcases List.mem_append.mp hx with hx | hx
      · exact hv1 x hx
      · exact hv2 x hx
    · rw [cluster_run_append]
      exact h2

/-- the values of key `k` a production cluster can produce: stored under `k` on the shard of `k` of
    any node, shipped for `k` by any node, closed under merge -/
inductive NReach (route : Nat → Nat) (c : NCluster) (k : Nat) : RV → Prop
  | stored (i : Nat) (nd : ShardedNode) (sh : Shard) (v : RV) :
      c.nodes[i]? = some nd → nd[route k]? = some sh → NMap.get sh.keys k = some v →
      NReach route c k v
  | sent (m : Msg) : m ∈ c.sent → m.key = k → NReach route c k m.val
  | merge (a b : RV) : NReach route c k a → NReach route c k b → NReach route c k (RV.merge a b)

theorem reach_of_nreach {route : Nat → Nat} {c : NCluster} {C : Cluster} {k : Nat}
    (h : Sim route (route k) c C) {v : RV} (hv : NReach route c k v) : Reach C k v := by
  induction hv with
  | stored i nd sh v hi hsh hg =>
    obtain ⟨sh0, hs0, hC0⟩ := h.nodes.2 i nd hi
    rw [hs0] at hsh
    cases hsh
    exact Reach.stored i _ v hC0 hg
  | sent m hm hk =>
    refine Reach.sent m ?_ hk
    rw [h.sent]
    exact List.mem_filter.mpr ⟨hm, by simp [hk]⟩
  | merge a b _ _ iha ihb => exact Reach.merge a b iha ihb

/-- the production cluster after a history -/
abbrev nexec (route : Nat → Nat) (n S : Nat) (causal : Bool) (evs : List NEv) : NCluster :=
  (NCluster.init n S causal).run route evs

theorem nexec_sim (route : Nat → Nat) (n S : Nat) (causal : Bool) (evs : List NEv)
    (hv : ∀ e ∈ evs, e.Valid = true) (k : Nat) (hk : route k < S) :
    ∃ evs' : List Ev, (∀ e' ∈ evs', e'.Valid = true) ∧
      Sim route (route k) (nexec route n S causal evs) (exec n causal evs') :=
  sim_run route (route k) evs (sim_init route (route k) n S causal hk) hv

/-- **`TieConsistent` over a cluster of production nodes** (any number of nodes, `S` shards each
    with its own clock and the node's replica id, any history) -/
theorem nreachable_tie_consistent (route : Nat → Nat) (n S : Nat) (causal : Bool) (evs : List NEv)
    (hv : ∀ e ∈ evs, e.Valid = true) (k : Nat) (hk : route k < S) (a b : RV)
    (ha : NReach route (nexec route n S causal evs) k a)
    (hb : NReach route (nexec route n S causal evs) k b) : TieConsistent a b := by
  obtain ⟨evs', hv', hsim⟩ := nexec_sim route n S causal evs hv k hk
  exact reach_tie (exec_inv n causal evs' hv') (reach_of_nreach hsim ha) (reach_of_nreach hsim hb)

/-- **C07 (commutativity) over a cluster of production nodes — no tie hypothesis.** -/
theorem nreachable_merge_comm (route : Nat → Nat) (n S : Nat) (causal : Bool) (evs : List NEv)
    (hv : ∀ e ∈ evs, e.Valid = true) (k : Nat) (hk : route k < S) (a b : RV)
    (ha : NReach route (nexec route n S causal evs) k a)
    (hb : NReach route (nexec route n S causal evs) k b) : RV.merge a b = RV.merge b a := by
  obtain ⟨evs', hv', hsim⟩ := nexec_sim route n S causal evs hv k hk
  exact reach_comm (exec_inv n causal evs' hv') (reach_of_nreach hsim ha) (reach_of_nreach hsim hb)

/-- **C07 (associativity) over a cluster of production nodes, for a key used as one type** -/
theorem nreachable_merge_assoc (route : Nat → Nat) (n S : Nat) (causal : Bool) (evs : List NEv)
    (hv : ∀ e ∈ evs, e.Valid = true) (k K : Nat) (hk : route k < S)
    (hK : ∀ m ∈ (nexec route n S causal evs).sent, m.key = k → m.val.crdt.kind = K)
    (a b c : RV) (ha : NReach route (nexec route n S causal evs) k a)
    (hb : NReach route (nexec route n S causal evs) k b)
    (hc : NReach route (nexec route n S causal evs) k c) :
    RV.merge a (RV.merge b c) = RV.merge (RV.merge a b) c := by
  obtain ⟨evs', hv', hsim⟩ := nexec_sim route n S causal evs hv k hk
  refine reach_assoc (K := K) (exec_inv n causal evs' hv') (fun m hm hmk => ?_) (reach_of_nreach hsim ha)
    (reach_of_nreach hsim hb) (reach_of_nreach hsim hc)
  rw [hsim.sent] at hm
  exact hK m (List.mem_filter.mp hm).1 hmk

/-- the two shards of ONE node issue the SAME stamp (1, r1) — for keys of different shards: stamps
    are unique per (node, shard), which is per key, not per node -/
theorem same_stamp_two_shards :
    let c := nexec (fun k => k % 2) 1 2 false [.loc 0 (.write 6 [1] none), .loc 0 (.write 7 [2] none)]
    c.sent.map (fun m => (m.key, m.val.ts)) = [(6, ⟨1, 1⟩), (7, ⟨1, 1⟩)] := by
  decide

end C07
end RedisVerif
