import RedisVerif.Model.Stream
import RedisVerif.Lemmas.StreamOps
import RedisVerif.Lemmas.StreamFold

/-!
# C12 — Streaming persistence is crash-consistent at every step, loses nothing confirmed

Model: `Stream.runWith` (M4): workloads of `push` / `flush` / `compact` of one process over an
object store whose every call is decided by a fault oracle `F : Nat → Fault`
(`ok | fail | failPartial | crash | crashPartial | readCorrupt`).  **Crash points**: the oracles include, for
every call index `c`, "the process dies at call `c`" (optionally leaving a torn object inside a
`put`); a dead world never changes again (`dead_frozen`), so the final store of such a run IS the
store image at crash point `c`.  Quantifying over all oracles therefore quantifies over every
crash position and every placement of transient failures and partial writes; crashes *between*
two operations are prefixes of the operation list (`crash_consistent_structural_prefix`: the
theorem at `ops.take n`).

**Fault-model boundary** (stated, not hidden): a `put` that stores a truncated object AND reports
success (`SimulatedObjectStore::partial_write_prob`) is not a `Fault` of the model — without
read-back verification no protocol survives it; transient errors carry an `ErrorKind` other than
`NotFound` (a spurious `NotFound` on the manifest makes `load_or_create` start from an empty
manifest).

Three layers.  Structure, for every code variant: recovery succeeds and the manifest references
only complete objects (`refsComplete`).  Without compaction every update of every flush that
returned `Ok` is literally among the updates recovery returns.  With compaction (no tombstone GC)
every confirmed update is absorbed by the recovered state: true for `Stream.current` (the
compactor merges instead of keeping the latest, only `NotFound` marks a segment missing, `flush`
puts the taken deltas back on every error path), false for the pinned commit
(`compact_get_fault_counterexample`, `failed_flush_drops_buffer_counterexample`).  Two variants
of the pass that are not in the tree show what the structural statements exclude: one deletes what
it selected instead of what it read, one skips its upload when the name is taken.
-/
namespace RedisVerif
namespace C12

open _root_.RedisVerif.Stream FoldACI

/-! ## crash points are oracles -/

/-- a dead process never changes the world again -/
theorem dead_frozen (fl : Flags) (F : Oracle) (s : Sys) (op : Op) (hd : s.w.dead = true) :
    (stepWith fl F s op).w = s.w := by
  have hget : ∀ n, s.w.get F n = (s.w, .err false) := by
    intro n; unfold World.get; simp [hd]
  have hload : ∀ rid, loadOrCreate F s.w rid = (s.w, none) := by
    intro rid; unfold loadOrCreate; rw [hget]
  cases op with
  | push d => rfl
  | flush sz =>
    simp only [stepWith]
    unfold flushWith
    cases hb : s.p.buffer with
    | nil => rfl
    | cons d0 rest => simp only [hload]
  | compact cfg sz =>
    simp only [stepWith]
    unfold compactWith
    rw [hload]

/-! ## structure: recovery succeeds, the manifest references only complete objects -/

theorem storeInv_step (fl : Flags) (F : Oracle) (s : Sys) (op : Op) (h : StoreInv s.w.store) :
    StoreInv (stepWith fl F s op).w.store := storeInv_stepWith fl F s op h

/-- structural part: every code variant (pinned or repaired), every
    workload of push / flush / compact, every fault oracle hence every crash point: `recover`
    succeeds on the store that is left, and the manifest references only complete objects. -/
theorem crash_consistent_structural (fl : Flags) (F : Oracle) (rid : Nat) (ops : List Op) :
    (∃ r, recover (runWith fl F (Sys.init [] rid) ops).w.store rid = .ok r) ∧
    refsComplete (runWith fl F (Sys.init [] rid) ops).w.store = true :=
  ⟨recover_ok_of_storeInv (storeInv_runWith fl F rid ops) rid,
   refsComplete_of_storeInv (storeInv_runWith fl F rid ops)⟩

/-- the same at every crash point *between* two operations -/
theorem crash_consistent_structural_prefix (fl : Flags) (F : Oracle) (rid : Nat) (ops : List Op) (n : Nat) :
    (∃ r, recover (runWith fl F (Sys.init [] rid) (ops.take n)).w.store rid = .ok r) ∧
    refsComplete (runWith fl F (Sys.init [] rid) (ops.take n)).w.store = true :=
  crash_consistent_structural fl F rid (ops.take n)

/-! ## nothing confirmed is lost -/

/-- an update is absorbed by a state: merging it in again changes nothing -/
def Absorbed (d : Delta) (M : NMap RV) : Prop :=
  match NMap.get M d.1 with
  | some u => RV.merge d.2 u = u
  | none => False

instance (d : Delta) (M : NMap RV) : Decidable (Absorbed d M) := by
  unfold Absorbed; split <;> infer_instance

/-- full-strength statement, parameterised by the code variant -/
def C12_crash_consistent (fl : Flags) : Prop :=
  ∀ (rid : Nat) (F : Oracle) (ops : List Op),
    Coherent (pushes ops) → (∀ o ∈ ops, o.gcFree = true) →
    OkAnd (recover (runWith fl F (Sys.init [] rid) ops).w.store rid) (fun r =>
      ∀ d ∈ (runWith fl F (Sys.init [] rid) ops).acked, Absorbed d (foldState r.updates)) ∧
    refsComplete (runWith fl F (Sys.init [] rid) ops).w.store = true

def NoCompaction (ops : List Op) : Prop := ∀ o ∈ ops, o.isCompact = false

instance (ops : List Op) : Decidable (NoCompaction ops) := by
  unfold NoCompaction
  infer_instance

theorem acked_in_content_step (fl : Flags) (F : Oracle) (s : Sys) (op : Op)
    (hop : op.isCompact = false)
    (hinv : StoreInv s.w.store) (h : ∀ d ∈ s.acked, d ∈ content s.w.store) :
    ∀ d ∈ (stepWith fl F s op).acked, d ∈ content (stepWith fl F s op).w.store := by
  cases op with
  | push d => exact h
  | compact cfg sz => exact absurd hop (by simp [Op.isCompact])
  | flush sz =>
    have hs := (flush_spec fl.restoreBuffer F sz s.w s.p hinv).2
    simp only [stepWith]
    split <;> rename_i heq <;> rw [heq] at hs <;> simp only at hs ⊢
    · intro d hd
      rcases List.mem_append.mp hd with hd | hd
      · exact (hs.1 d).mpr (Or.inl (h d hd))
      · exact (hs.1 d).mpr (Or.inr hd)
    · rename_i out hne
      intro d hd
      cases out with
      | flushed a b => exact absurd rfl (hne a b)
      | empty => simp only at hs; rw [hs.1]; exact h d hd
      | error => simp only at hs; rw [hs.1]; exact h d hd

/-- every code variant: workloads of push / flush without
    compaction, every oracle / crash point: every update of every flush that returned `Ok` is
    among the updates recovery returns (no coherence hypothesis needed). -/
theorem crash_consistent_flush_partial (fl : Flags) (F : Oracle) (rid : Nat) (ops : List Op)
    (hno : NoCompaction ops) :
    OkAnd (recover (runWith fl F (Sys.init [] rid) ops).w.store rid) (fun r =>
      ∀ d ∈ (runWith fl F (Sys.init [] rid) ops).acked, d ∈ r.updates) := by
  have hJ := TraceInv.run_inv_of (stepWith fl F)
    (fun s => StoreInv s.w.store ∧ ∀ d ∈ s.acked, d ∈ content s.w.store)
    (fun o => o.isCompact = false)
    (fun s o ho hs => ⟨storeInv_step fl F s o hs.1, acked_in_content_step fl F s o ho hs.1 hs.2⟩)
    (Sys.init [] rid) ⟨storeInv_nil, fun d hd => by cases hd⟩ ops hno
  obtain ⟨r, hr, _, hu⟩ := recover_of_storeInv hJ.1 rid
  exact okAnd_iff.mpr ⟨r, hr, fun d hd => (hu d).mpr (hJ.2 d hd)⟩

/-! ## a failed flush keeps the buffer -/

/-- full-strength statement, parameterised by the code variant -/
def C12_failed_flush_keeps_buffer (restore : Bool) : Prop :=
  ∀ (F : Oracle) (sz : Nat) (w : World) (p : Pers),
    (flushWith restore F sz w p).2.2 = .error → (flushWith restore F sz w p).2.1.buffer = p.buffer

/-- proved for `restore = true` (the taken deltas are put back on every error path) -/
theorem failed_flush_keeps_buffer : C12_failed_flush_keeps_buffer true := by
  intro F sz w p h
  have := flushWith_buffer true F sz w p
  rw [h] at this
  rw [this]
  rfl

def c12Delta (k v t : Nat) : Delta := (k, RV.withValue [v] ⟨t, 1⟩)

/-- **Fixed defect C12:failed-flush-drops-buffer** (pinned commit; DESIGN §6.1): two accepted updates, the
    segment `put` of the flush fails; `flush` returns `Err` and the buffer is empty. -/
theorem failed_flush_drops_buffer_counterexample : ¬ C12_failed_flush_keeps_buffer false := by
  intro h
  have := h (fun n => if n = 1 then .fail else .ok) 100 (World.init [])
    { rid := 1, buffer := [c12Delta 97 1 5, c12Delta 98 2 6] } (by decide)
  revert this
  decide

/-- over whole runs of the repaired code no accepted update vanishes: it is confirmed or still
    pending -/
theorem no_update_vanishes (fl : Flags) (hr : fl.restoreBuffer = true) (F : Oracle) (rid : Nat)
    (ops : List Op) :
    ∀ d, d ∈ pushes ops →
      d ∈ (runWith fl F (Sys.init [] rid) ops).acked ∨ d ∈ (runWith fl F (Sys.init [] rid) ops).p.buffer := by
  intro d hd
  have := acked_buffer_run fl hr F (Sys.init [] rid) ops
  exact List.mem_append.mp (this ▸ List.mem_append.mpr (Or.inr hd))

/-! ## the compactor treats every `get` error as "segment missing" -/

/-- two flushed segments, then a compaction whose `get` of segment 0 (store call 9) fails
    transiently -/
def getFaultOps : List Op :=
  [.push (c12Delta 107 8 46), .flush 137, .push (c12Delta 233 9 48), .flush 127,
   .compact { target := 1048576, minSegs := 1, maxPer := 3, now := 0, ttlMs := 0 } 127]

def getFaultOracle : Oracle := fun n => if n = 9 then .fail else .ok

/-- **Fixed defect C12:compact:get-error-treated-as-missing** (pinned commit).  `Compactor::compact` mapped EVERY
    error of `store.get(segment)` to "missing": the segment is dropped from the new manifest and
    then deleted.  One transient read error loses a confirmed update. -/
theorem compact_get_fault_counterexample :
    c12Delta 107 8 46 ∈ (runWith pinned getFaultOracle (Sys.init [] 1) getFaultOps).acked ∧
    OkAnd (recover (runWith pinned getFaultOracle (Sys.init [] 1) getFaultOps).w.store 1)
      (fun r => r.updates = [c12Delta 233 9 48] ∧ ¬ Absorbed (c12Delta 107 8 46) (foldState r.updates)) := by
  decide

theorem C12_crash_consistent_pinned_false : ¬ C12_crash_consistent pinned := by
  intro h
  have h1 := (h 1 getFaultOracle getFaultOps (by decide) (by decide)).1
  have h2 := compact_get_fault_counterexample
  rw [okAnd_iff] at h1 h2
  obtain ⟨r, hr, habs⟩ := h1
  obtain ⟨hack, r', hr', _, hnot⟩ := h2
  rw [hr] at hr'
  cases hr'
  exact hnot (habs _ hack)

/-- with only `NotFound` marking a segment missing the same run keeps everything -/
example : OkAnd (recover (runWith { pinned with compact := { pinnedFlags with missingOnlyNotFound := true } }
      getFaultOracle (Sys.init [] 1) getFaultOps).w.store 1)
    (fun r => Absorbed (c12Delta 107 8 46) (foldState r.updates) ∧ Absorbed (c12Delta 233 9 48) (foldState r.updates)) := by
  decide


/-! ## the repaired code loses nothing confirmed, compaction included -/

/-- the repaired compactor: merge the deltas of a key; only `NotFound` marks a segment missing -/
def repairedCompact : CompactFlags := { mergeInsteadOfLatest := true, missingOnlyNotFound := true }

/-- the repaired code (compactor: merge instead of keep-latest, only
    `NotFound` = missing; either `flush` variant): every workload of push / flush / compact whose
    pushed updates are coherent and whose compactions do no tombstone GC, every fault oracle
    hence every crash point: recovery succeeds, the manifest references only complete objects,
    and every update of every flush that returned `Ok` is absorbed by the recovered state. -/
theorem crash_consistent_repaired (restore : Bool) :
    C12_crash_consistent { restoreBuffer := restore, compact := repairedCompact } := by
  intro rid F ops hc hgc
  refine ⟨?_, (crash_consistent_structural _ F rid ops).2⟩
  have h := holds_of_coherent { restoreBuffer := restore, compact := repairedCompact } rfl rfl F rid ops hc hgc
  obtain ⟨r, hr, _, hf⟩ := h.recover rid
  refine okAnd_iff.mpr ⟨r, hr, fun d hd => ?_⟩
  -- the recovered state is the fold of the confirmed updates, which absorbs each of them
  obtain ⟨u, hu, hm⟩ := absorbed_of_mem_inCar _ h.hist (k := d.1) (v := d.2) hd
  unfold Absorbed
  rw [hf, hu]
  exact hm

/-! ## the current tree -/

theorem current_is_repaired : current = { restoreBuffer := true, compact := repairedCompact } := rfl

/-- the full statement for the current tree (`Stream.current`): every workload
    of push / flush / compact with coherent pushed updates and no tombstone GC, every fault
    oracle hence every crash point: recovery succeeds, the manifest references only complete
    objects, every update of every flush that returned `Ok` is absorbed by the recovered state. -/
theorem crash_consistent_current : C12_crash_consistent current := by
  rw [current_is_repaired]
  exact crash_consistent_repaired true

/-- the current tree (`Stream.flush`) -/
theorem failed_flush_keeps_buffer_current (F : Oracle) (sz : Nat) (w : World) (p : Pers)
    (h : (flush F sz w p).2.2 = .error) : (flush F sz w p).2.1.buffer = p.buffer :=
  failed_flush_keeps_buffer F sz w p h

/-- in the current tree no accepted update vanishes: it is confirmed or still pending -/
theorem no_update_vanishes_current (F : Oracle) (rid : Nat) (ops : List Op) :
    ∀ d, d ∈ pushes ops → d ∈ (run F (Sys.init [] rid) ops).acked ∨ d ∈ (run F (Sys.init [] rid) ops).p.buffer :=
  no_update_vanishes current rfl F rid ops

/-- the get-fault witness of the pinned commit loses nothing in the current tree -/
example : OkAnd (recover (run getFaultOracle (Sys.init [] 1) getFaultOps).w.store 1)
    (fun r => Absorbed (c12Delta 107 8 46) (foldState r.updates) ∧ Absorbed (c12Delta 233 9 48) (foldState r.updates)) := by
  decide


/-! ## read faults: the manifest never lists a segment that does not exist -/

/-- every code variant of the modelled compactor,
    every oracle incl. read corruption (`readCorrupt`: a `get` returns a body no parser accepts
    while the object at rest is intact), whatever the pass returned: every segment the manifest
    lists afterwards exists as a complete object (and recovery succeeds).  A segment whose read
    was mangled is skipped: it stays listed AND stays in the store. -/
theorem manifest_segments_exist_after_compaction (fl : CompactFlags) (F : Oracle) (cfg : CompactCfg)
    (sz : Nat) (w : World) (hinv : StoreInv w.store) (rid : Nat) :
    refsComplete (compactWith fl F cfg sz w).1.store = true ∧
    ∃ r, recover (compactWith fl F cfg sz w).1.store rid = .ok r :=
  ⟨refsComplete_of_storeInv (compact_spec fl F cfg sz w hinv).1,
   recover_ok_of_storeInv (compact_spec fl F cfg sz w hinv).1 rid⟩

/-- a variant of the pass: the best-effort delete loop runs over the SELECTED segments instead
    of the ones that were actually read and merged -/
def compactDeleteSelected (F : Oracle) (cfg : CompactCfg) (sz : Nat) (w : World) : World × CompactOut :=
  let r := compact F cfg sz w
  match r.2 with
  | .compacted _ _ _ _ | .emptied _ _ =>
    (deleteAll F r.1 (selectSegments cfg (manifestOf w.store 0)), r.2)
  | _ => r

/-- three flushed segments; the read of segment 1 during the pass (store call 14) is mangled -/
def skipOps : List Op :=
  [.push (c12Delta 107 1 5), .flush 100, .push (c12Delta 108 2 6), .flush 100, .push (c12Delta 109 3 7), .flush 100]
def skipOracle : Oracle := fun n => if n = 14 then .readCorrupt else .ok
def skipCfg : CompactCfg := { target := 1000, minSegs := 2, maxPer := 5, now := 0, ttlMs := 0 }

/-- segment 1 is skipped by the pass (its read was mangled) and stays listed;
    the current tree keeps its object, the variant deletes it: the pass returns Ok, the manifest
    references a missing object, recovery fails, a confirmed update is gone. -/
theorem delete_selected_counterexample :
    (compact skipOracle skipCfg 100 (run (fun _ => .ok) (Sys.init [] 1) skipOps).w).2 = .compacted [0, 2] 3 2 0 ∧
    refsComplete (compact skipOracle skipCfg 100 (run (fun _ => .ok) (Sys.init [] 1) skipOps).w).1.store = true ∧
    OkAnd (recover (compact skipOracle skipCfg 100 (run (fun _ => .ok) (Sys.init [] 1) skipOps).w).1.store 1)
      (fun r => Absorbed (c12Delta 108 2 6) (foldState r.updates)) ∧
    refsComplete (compactDeleteSelected skipOracle skipCfg 100 (run (fun _ => .ok) (Sys.init [] 1) skipOps).w).1.store = false ∧
    ¬ OkAnd (recover (compactDeleteSelected skipOracle skipCfg 100 (run (fun _ => .ok) (Sys.init [] 1) skipOps).w).1.store 1)
      (fun _ => True) := by
  decide


/-! ## unlisted objects (orphans of failed flushes) -/

/-- the recovered state (`none`: recovery fails) -/
def recFold (st : Store) (rid : Nat) : Option (NMap RV) :=
  match recover st rid with
  | .ok r => some (foldState r.updates)
  | .error _ => none

/-- current tree, no tombstone GC, every oracle: an
    object under an unreferenced name — e.g. the orphan `segment-N` a failed or crashed flush left
    behind, N being the id the compaction is about to allocate — has no influence on what the
    store recovers to after the pass: the segment written under id N holds the merged content
    whatever was there, and recovery equals recovery before the pass. -/
theorem compaction_never_adopts_unlisted_object (F : Oracle) (cfg : CompactCfg) (sz : Nat) (w : World)
    (rid : Nat) (hinv : StoreInv w.store) (hc : Coherent (content w.store)) (hgc : cfg.cutoff = 0)
    (n : Nat) (o : Obj) (hn : Unref w.store n) :
    recFold (compact F cfg sz { w with store := NMap.insert n o w.store }).1.store rid = recFold w.store rid := by
  have hfr := frame (agree_insert w.store n o) (fun k hk => by rw [hk]; exact hn) hinv
  have h := holds_content hinv hc
  -- the store with the object put in holds the same history, and so does what the pass makes of it
  obtain ⟨r, hr, _, hf⟩ := (Holds.compact_current (w := { w with store := NMap.insert n o w.store })
    (h.same hfr.1 hfr.2) F hgc sz).recover rid
  obtain ⟨r0, hr0, _, hf0⟩ := h.recover rid
  simp only [recFold, hr, hf, hr0, hf0]

/-- a variant of the pass: the upload of the compacted segment is skipped when an object already
    exists under its name ("a retry finds it already uploaded") -/
def compactSkipUploadIfExists (F : Oracle) (cfg : CompactCfg) (sz : Nat) (w : World) : World × CompactOut :=
  match loadOrCreate F w 0 with
  | (w1, none) => (w1, .error)
  | (w1, some m) =>
    let sel := selectSegments cfg m
    if sel.length < cfg.minSegs then (w1, .nothing) else
    let r := loadLoop current.compact F w1 LoadAcc.init sel
    let acc := r.2
    if acc.failed then (r.1, .error) else
    let ids := acc.actually.map (·.id)
    let kept := keptOf cfg acc.ktd
    if kept.isEmpty then (r.1, .nothing) else
    let deltas := sortBy (fun d : Delta => d.2.ts.time) kept
    let id := m.next
    -- `if !store.exists(key)? { store.put(key, data)? }`
    let up : World × Res Unit :=
      match r.1.probe F (segName id) with
      | (w2, .ok true) => (w2, .ok ())
      | (w2, .ok false) => w2.put F (segName id) (.segment deltas)
      | (w2, .err e) => (w2, .err e)
    match up with
    | (w3, .err _) => (w3, .error)
    | (w3, .ok _) =>
      let info : SegInfo :=
        { id := id, count := deltas.length, size := sz, minTs := minTime deltas, maxTs := maxTime deltas }
      let m' : Manifest :=
        { ({ m with segments := removeIds m ids } : Manifest).addSegment info with next := id + 1 }
      match saveManifest F w3 m' with
      | (w4, false) => (w4, .error)
      | (w4, true) => (deleteAll F w4 acc.actually, .compacted ids id deltas.length 0)

/-- flush A ok, flush B ok, flush C: the segment put succeeds, the manifest temp put (store call
    10) fails — segment-00000002 stays behind as an unlisted orphan holding only C's update -/
def orphanOps : List Op :=
  [.push (c12Delta 107 1 5), .flush 100, .push (c12Delta 108 2 6), .flush 100, .push (c12Delta 109 3 7), .flush 100]
def orphanOracle : Oracle := fun n => if n = 10 then .fail else .ok
def orphanCfg : CompactCfg := { target := 1000, minSegs := 2, maxPer := 5, now := 0, ttlMs := 0 }

/-- the current compaction overwrites the orphan and recovery keeps A and B; the variant adopts
    the orphan as the compacted segment: every object validates, recovery succeeds — and returns
    only the UNCONFIRMED update of the failed flush; A and B, both confirmed, are gone. -/
theorem skip_upload_if_exists_counterexample :
    (run orphanOracle (Sys.init [] 1) orphanOps).acked = [c12Delta 107 1 5, c12Delta 108 2 6] ∧
    NMap.get (run orphanOracle (Sys.init [] 1) orphanOps).w.store (segName 2) = some (.segment [c12Delta 109 3 7]) ∧
    recFold (compact (fun _ => .ok) orphanCfg 100 (run orphanOracle (Sys.init [] 1) orphanOps).w).1.store 1
      = some [c12Delta 107 1 5, c12Delta 108 2 6] ∧
    refsComplete (compactSkipUploadIfExists (fun _ => .ok) orphanCfg 100 (run orphanOracle (Sys.init [] 1) orphanOps).w).1.store = true ∧
    recFold (compactSkipUploadIfExists (fun _ => .ok) orphanCfg 100 (run orphanOracle (Sys.init [] 1) orphanOps).w).1.store 1
      = some [c12Delta 109 3 7] := by
  decide

/-! ## non-vacuity -/

/-- a run with a torn segment put (call 5), a later successful flush and a compaction: the
    hypotheses hold and something is confirmed -/
def exOps : List Op :=
  [.push (c12Delta 97 1 5), .flush 100, .push (c12Delta 98 2 6), .flush 100, .push (c12Delta 97 3 7),
   .flush 100, .compact { target := 1000, minSegs := 2, maxPer := 5, now := 0, ttlMs := 0 } 150]

def exOracle : Oracle := fun n => if n = 5 then .failPartial else .ok

example : Coherent (pushes exOps) ∧ (∀ o ∈ exOps, o.gcFree = true) ∧
    (runWith pinned exOracle (Sys.init [] 1) exOps).acked.length = 2 ∧
    NoCompaction (exOps.take 6) ∧ ¬ NoCompaction exOps ∧
    NMap.get (runWith pinned exOracle (Sys.init [] 1) (exOps.take 4)).w.store (segName 1) = some .torn ∧
    OkAnd (recover (runWith pinned exOracle (Sys.init [] 1) exOps).w.store 1)
      (fun r => foldState r.updates = [c12Delta 97 3 7]) := by
  decide

end C12
end RedisVerif
