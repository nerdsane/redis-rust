import RedisVerif.Props.ServerConn

/-!
# ONE NODE, bytes in → bytes out, with the FAST PATH and the BATCH COLLECTORS ALIVE

`Props/ServerConn.lean` (`node_end_to_end`) is about the connection model with the recognisers dead
(`Conn.DeadCfg`: `HEADER_LEN = 14`, every well-formed frame takes the generic path — the code before
fix de38a13).  Under `Repaired13` (`HEADER_LEN = 13`, the recognisers and batching gate of de38a13) the
recognisers fire on well-formed frames: WHICH entry point of `ShardedActorState` carries a frame —
generic `execute`, `pooled_fast_get/set` (`try_fast_get/set`, and the below-threshold branch of the
collectors), an item of `fast_batch_get/set_pipeline` — is decided by the bytes the connection holds
when it looks at its buffer: read segmentation, `min_pipeline_buffer`, `batch_threshold`, what precedes
the frame in the same read.  The path is therefore a property of the POSITION in the stream, not of the
frame: the same `GET k` may be a batch item once and a pooled request later.

* `runP` — the composed node on a pipeline in which every frame comes with the path that carried it;
  `server_refines_paths`: for EVERY such labelling the outputs are those of ONE M7 store (`specRun`), the
  shards stay indistinguishable from it, every key has one home.  (`server_refines_m7` quantifies over
  classifications that are functions of the frame.)
* `encActs_paths` — the connection model's write side over ANY action list whose path-erasure is the
  pipeline (`(run cfg segs).map noPath = execAll cmds`, C04's `segmentation_independent_repaired`) is
  `runP` for the paths the actions carry.
* **`node_end_to_end_live`** — for every pipeline of `Supported`, `Answered` frames read at non-decreasing
  virtual times, every segmentation into network segments and reads, every partial-write script
  without failure, every REPAIRED batching configuration (any `min_pipeline_buffer`, `batch_threshold`,
  `read_size`), every `N ≥ 1` and routing table: the byte stream the client receives is
  `wire (specRun …)` — ONE M7 store, frame by frame, in order — whichever of the three paths carried
  which frame.

The model's batch item is a ONE-item batch (`Server.execVia`): the collectors' call with many items is
the small executor's `.batchSet kvs` / `.batchGet ks` (`C03.shards_refine_single`: the per-shard groups
keep the send order) and the harness classes `batch-order` / `srvc-fast` / C02 `conn-order`.
-/
namespace RedisVerif
namespace Server

open Shards Shards.M7 Resp NMap C03
open Conn (Cmd cmdFrame encCmd stream CmdOK Config Path Action execAll)
open ConnW (runW NoFail WEv encActs)

/-- the composed node on a pipeline in which every frame comes with the path that carried it -/
def runP (R : Routes) (st : Shards Redis.Entry) :
    List (Path × Nat × Frame) → Shards Redis.Entry × List Out
  | [] => (st, [])
  | (p, now, f) :: fs =>
    let r := handle R (fun _ => classOf p f) st now f
    let rs := runP R r.1 fs
    (rs.1, r.2 :: rs.2)

/-- whichever path carries which frame (a labelling of the POSITIONS) -/
theorem server_refines_paths (R : Routes) (hv : R.Valid) (hN : 0 < R.N)
    (fs : List (Path × Nat × Frame)) (hm : MonoF 0 (fs.map (·.2)))
    (hs : ∀ x ∈ fs, Supported R x.2.2 = true) :
    (runP R (Shards.init Redis.Entry R.N) fs).2 = (specRun Redis.init (fs.map (·.2))).2 ∧
    (∀ T, (∀ x ∈ fs, x.2.1 ≤ T) → ∀ k,
      lv T (get (abs (runP R (Shards.init Redis.Entry R.N) fs).1) k) =
      lv T (get (specRun Redis.init (fs.map (·.2))).1 k)) ∧
    (∀ i k, (get (shard (runP R (Shards.init Redis.Entry R.N) fs).1 i) k).isSome → i = R.bytes k) :=
  refines_of_handle R hv hN (fun x _ => classOf x.1 x.2.2) (·.2) (runP R) (fun _ => rfl) (fun _ _ _ => rfl)
    fs hm hs

/-- the paths an action list carries -/
def pathsOf : List Action → List Path
  | [] => []
  | .exec _ p :: rest => p :: pathsOf rest
  | _ :: rest => pathsOf rest

/-- the frames of a pipeline labelled with the paths of an action list -/
def labelled (acts : List Action) (frames : List (Nat × Frame)) : List (Path × Nat × Frame) :=
  (pathsOf acts).zip frames

theorem noPath_cons_inv {acts : List Action} {c : Cmd} {cs : List Cmd}
    (h : acts.map Action.noPath = execAll (c :: cs)) :
    ∃ p as, acts = .exec (cmdFrame c) p :: as ∧ as.map Action.noPath = execAll cs := by
  match acts, h with
  | .exec _ p :: as, h => injection h with h1 h2; injection h1 with h1; exact ⟨p, as, by rw [h1], h2⟩

theorem labelled_map_snd : ∀ (frames : List (Nat × Frame)) (acts : List Action),
    acts.map Action.noPath = execAll (frames.map (·.2)) → (labelled acts frames).map (·.2) = frames
  | [], _, _ => by simp [labelled]
  | _ :: xs, _, h => by
    obtain ⟨p, as, rfl, h2⟩ := noPath_cons_inv h
    exact congrArg _ (labelled_map_snd xs as h2)

/-- **the write side over ANY paths**: an action list whose path-erasure is the pipeline, folded with the
    node as executor, writes what `runP` answers for the paths the actions carry and ends in `runP`'s shards -/
theorem encActs_paths (R : Routes) : ∀ (frames : List (Nat × Frame)) (acts : List Action)
    (st : Shards Redis.Entry) (last : Nat) (bs : Bytes),
    acts.map Action.noPath = execAll (frames.map (·.2)) →
    outBytes (runP R st (labelled acts frames)).2 = some bs →
    (encActs (srvExec R) ⟨st, frames.map (·.1), last⟩ acts).2 = bs ∧
    (encActs (srvExec R) ⟨st, frames.map (·.1), last⟩ acts).1.st = (runP R st (labelled acts frames)).1 := by
  intro frames
  induction frames with
  | nil =>
    intro acts st last bs h hb
    cases acts with
    | nil => cases hb; exact ⟨rfl, rfl⟩
    | cons _ _ => cases h
  | cons x xs ih =>
    intro acts st last bs h hb
    obtain ⟨now, f⟩ := x
    obtain ⟨p, as, rfl, h2⟩ := noPath_cons_inv h
    obtain ⟨b, rest, ho, hr, rfl⟩ := outBytes_cons hb
    obtain ⟨e1, e2⟩ := handle_replyOf R (fun _ => classOf p f) st now f b ho
    obtain ⟨i1, i2⟩ := ih as (handle R (fun _ => classOf p f) st now f).1 now rest h2 hr
    simp only [List.map_cons, encActs, srvExec, frameOf_cmdFrame, SrvSt.now, List.headD_cons,
      SrvSt.next, List.tail_cons, labelled, pathsOf, List.zip_cons_cons, runP]
    rw [e1, e2]
    exact ⟨by rw [i1], i2⟩

/-- `hd` and `hmb` are the hypotheses of `Conn.run_no_crash`: the stack holds the decoder down to its
    nesting limit, and the buffer stays below 2^56 bytes, the bound of `Resp.Small`. -/
theorem node_end_to_end_live (R : Routes) (hv : R.Valid) (hN : 0 < R.N)
    (cfg : Config) (hR : Conn.Repaired13 cfg) (hck : cfg.checked = true) (hg : cfg.nameGuard = true)
    (hd : maxNesting + 1 ≤ cfg.env.depth) (hmb : cfg.maxBuffer < 72057594037927936)
    (frames : List (Nat × Frame)) (hm : MonoF 0 frames)
    (hs : ∀ x ∈ frames, Supported R x.2 = true) (ha : ∀ x ∈ frames, Answered x.2 = true)
    (segs : List Bytes) (hseg : segs.flatten = stream (frames.map (·.2)))
    (hsm : Small (stream (frames.map (·.2)))) (hmax : (stream (frames.map (·.2))).length ≤ cfg.maxBuffer)
    (script : List WEv) (hnf : NoFail script = true) :
    -- the bytes the client receives: ONE M7 store, frame by frame, whichever path carried which frame
    (runW cfg (srvExec R) (srvInit R frames) script segs none).out = wire (specRun Redis.init frames).2 ∧
    -- the paths really are a labelling of the positions, and the node's shards under THAT labelling
    -- are indistinguishable from the one store; every key has one home
    (∀ T, (∀ x ∈ frames, x.1 ≤ T) → ∀ k,
      lv T (get (abs (encActs (srvExec R) (srvInit R frames) (Conn.run cfg segs)).1.st) k) =
      lv T (get (specRun Redis.init frames).1 k)) ∧
    (∀ i k, (get (shard (encActs (srvExec R) (srvInit R frames) (Conn.run cfg segs)).1.st i) k).isSome →
      i = R.bytes k) := by
  have hrun := C04.segmentation_independent_repaired cfg hR.2.1 hR.1 hg hR.2.2.1 hR.2.2.2 hmb
    (frames.map (·.2)) segs hseg hsm hmax
  have hnc := Conn.run_no_crash cfg hck hg hR.2.2.1 hd hmb segs
  have hlab := labelled_map_snd frames (Conn.run cfg segs) hrun
  have hmem : ∀ x ∈ labelled (Conn.run cfg segs) frames, x.2 ∈ frames :=
    fun x hx => hlab ▸ List.mem_map_of_mem (f := (·.2)) hx
  obtain ⟨q, hview, hhome⟩ := server_refines_paths R hv hN (labelled (Conn.run cfg segs) frames)
    (by rw [hlab]; exact hm) fun x hx => hs x.2 (hmem x hx)
  rw [hlab] at q hview
  have hob : outBytes (runP R (Shards.init Redis.Entry R.N) (labelled (Conn.run cfg segs) frames)).2 =
      some (wire (specRun Redis.init frames).2) := by
    rw [q]; exact outBytes_of_answered frames Redis.init ha
  obtain ⟨b1, b2⟩ := encActs_paths R frames (Conn.run cfg segs) (Shards.init Redis.Entry R.N) 0 _ hrun hob
  refine ⟨(ConnW.runW_eq cfg (srvExec R) (srvInit R frames) script segs hnf hnc).trans b1, ?_, ?_⟩
  · intro T hT k
    show lv T (get (abs (encActs (srvExec R) ⟨_, _, 0⟩ _).1.st) k) = _
    rw [b2]
    exact hview T (fun x hx => hT x.2 (hmem x hx)) k
  · intro i k hk
    exact hhome i k (b2 ▸ hk)

end Server
end RedisVerif

namespace RedisVerif
namespace Server
open Conn (stream)

/-- non-vacuity: the default repaired configuration satisfies every configuration hypothesis of
    `node_end_to_end_live` -/
example : Conn.Repaired13 C04.cfgR ∧ C04.cfgR.checked = true ∧ C04.cfgR.nameGuard = true ∧
    Resp.maxNesting + 1 ≤ C04.cfgR.env.depth ∧ C04.cfgR.maxBuffer < 72057594037927936 :=
  ⟨⟨rfl, rfl, rfl, by decide⟩, rfl, rfl, by decide, by decide⟩

/-- … and under it the paths ARE alive: three pipelined SETs are one batch, the GET behind them takes the
    pooled fast path -/
example : pathsOf (Conn.run C04.cfgR [stream [C04.cmdSetKV, C04.cmdSetKV, C04.cmdSetKV, C04.cmdGetK]]) =
    [.batch, .batch, .batch, .fast] := by decide +kernel

/-- the path is a property of the POSITION, not of the frame: the same `GET k` is a pooled request in the
    first read and an item of a batch in the second; `PING` is generic, the `SET` behind it pooled -/
example : pathsOf (Conn.run C04.cfgR [stream [C04.cmdGetK, C04.cmdSetKV],
      stream [C04.cmdGetK, C04.cmdGetK, C04.cmdGetK, C04.cmdPing, C04.cmdSetKV]]) =
    [.fast, .fast, .batch, .batch, .batch, .generic, .fast] := by decide +kernel

end Server
end RedisVerif
