import RedisVerif.Props.C05

/-!
# C05 — every schedule of the other clients is a PLACEMENT among EXEC's await points

EXEC has `w + n` store accesses (one GET per watched snapshot, one `execute` per queued command),
hence `w + n + 1` places where another client's command can be served.  That is all a schedule
`sched : List (List γ)` can express: EXEC depends on it through its first `w + n` slots and the
flattening of the rest, so the finitely many placements of `k` foreign commands — what the harness
enumerates against the real handler (`c05sched` in `harness/src/c05.rs`) — are the whole schedule
space of the model for those commands.
-/
namespace RedisVerif
namespace C05
open Txn

section
variable {σ κ γ ρ : Type}

/-- `sc` and `sc'` agree on their first `m` slots and their remainders flatten alike -/
def SchedEq (m : Nat) (sc sc' : List (List γ)) : Prop :=
  (∀ i, i < m → sc.getD i [] = sc'.getD i []) ∧ (sc.drop m).flatten = (sc'.drop m).flatten

theorem SchedEq.refl (m : Nat) (sc : List (List γ)) : SchedEq m sc sc := ⟨fun _ _ => rfl, rfl⟩

theorem SchedEq.head {m : Nat} {sc sc' : List (List γ)} (h : SchedEq (m + 1) sc sc') :
    sc.headD [] = sc'.headD [] := by
  have := h.1 0 (Nat.succ_pos m)
  cases sc <;> cases sc' <;> simp at this ⊢ <;> exact this

theorem SchedEq.tail {m : Nat} {sc sc' : List (List γ)} (h : SchedEq (m + 1) sc sc') :
    SchedEq m sc.tail sc'.tail := by
  refine ⟨?_, ?_⟩
  · intro i hi
    have := h.1 (i + 1) (Nat.succ_lt_succ hi)
    cases sc <;> cases sc' <;> simp at this ⊢ <;> exact this
  · have := h.2
    cases sc <;> cases sc' <;> simp at this ⊢ <;> exact this

/-- agreement up to `m` implies the whole flattenings agree -/
theorem SchedEq.flatten {m : Nat} {sc sc' : List (List γ)} (h : SchedEq m sc sc') :
    sc.flatten = sc'.flatten := by
  induction m generalizing sc sc' with
  | zero => simpa using h.2
  | succ m ih =>
    rw [← headD_append_tail_flatten sc, ← headD_append_tail_flatten sc', h.head, ih h.tail]

theorem drop_flatten_split (m : Nat) : ∀ (l : List (List γ)),
    (l.drop m).flatten = l.getD m [] ++ (l.drop (m + 1)).flatten := by
  induction m with
  | zero => intro l; cases l <;> simp
  | succ m ih =>
    intro l
    cases l with
    | nil => simp
    | cons a tl => simpa using ih tl

theorem SchedEq.mono {m : Nat} {sc sc' : List (List γ)} (h : SchedEq (m + 1) sc sc') : SchedEq m sc sc' := by
  refine ⟨fun i hi => h.1 i (Nat.lt_succ_of_lt hi), ?_⟩
  have hm := h.1 m (Nat.lt_succ_self m)
  rw [drop_flatten_split m sc, drop_flatten_split m sc', hm, h.2]

variable [DecidableEq ρ]

/-- phase 1 of EXEC looks at one slot per watched key; what is left is equivalent again — or (second
    disjunct) a snapshot fails, at the same slot under both schedules: `step` then serves the remaining
    slots as one block, so only their flattening has to agree -/
theorem checkWatch_congr (B : Backend σ κ γ ρ) (ws : List (κ × ρ)) :
    ∀ (r : Nat) (sc sc' : List (List γ)) (s : σ), SchedEq (ws.length + r) sc sc' →
      (checkWatch B sc s ws).2 = (checkWatch B sc' s ws).2 ∧
      SchedEq r (checkWatch B sc s ws).1 (checkWatch B sc' s ws).1 ∨
      ((checkWatch B sc s ws).2 = (checkWatch B sc' s ws).2 ∧ (checkWatch B sc s ws).2.2 = true ∧
        (checkWatch B sc s ws).1.flatten = (checkWatch B sc' s ws).1.flatten) := by
  induction ws with
  | nil =>
    intro r sc sc' s h
    left
    have h' : SchedEq r sc sc' := by simpa using h
    exact ⟨rfl, h'⟩
  | cons p rest ih =>
    intro r sc sc' s h
    obtain ⟨k, old⟩ := p
    have h' : SchedEq ((rest.length + r) + 1) sc sc' := by
      simpa [List.length_cons, Nat.add_right_comm] using h
    have eh := h'.head
    have et := h'.tail
    simp only [checkWatch, eh]
    by_cases hg : B.getReply (foreign B s (sc'.headD [])) k = old
    · rw [if_pos hg, if_pos hg]
      exact ih r sc.tail sc'.tail _ et
    · rw [if_neg hg, if_neg hg]
      right
      exact ⟨rfl, rfl, et.flatten⟩

omit [DecidableEq ρ] in
/-- phase 2 of EXEC looks at one slot per queued command -/
theorem runQueue_congr (B : Backend σ κ γ ρ) (q : List γ) :
    ∀ (r : Nat) (sc sc' : List (List γ)) (s : σ), SchedEq (q.length + r) sc sc' →
      (runQueue B sc s q).2 = (runQueue B sc' s q).2 ∧
      SchedEq r (runQueue B sc s q).1 (runQueue B sc' s q).1 := by
  induction q with
  | nil =>
    intro r sc sc' s h
    have h' : SchedEq r sc sc' := by simpa using h
    exact ⟨rfl, h'⟩
  | cons c cs ih =>
    intro r sc sc' s h
    have h' : SchedEq ((cs.length + r) + 1) sc sc' := by
      simpa [List.length_cons, Nat.add_right_comm] using h
    have eh := h'.head
    obtain ⟨a, b⟩ := ih r sc.tail sc'.tail (B.exec (foreign B s (sc'.headD [])) c).1 h'.tail
    simp only [runQueue, eh]
    refine ⟨?_, b⟩
    rw [Prod.ext_iff] at a
    exact Prod.ext a.1 (by rw [a.2])

/-- **EXEC depends on a schedule only through its first `w + n` slots and the flattening of the
    rest** (`w` watched snapshots, `n` queued commands) -/
theorem exec_sched_congr (B : Backend σ κ γ ρ) (t : ConnTxn κ γ ρ) (s : σ) (sc sc' : List (List γ))
    (h : SchedEq (t.watched.length + t.queue.length) sc sc') :
    step B sc t s .exec = step B sc' t s .exec := by
  by_cases hin : t.inTxn = true
  · by_cases herr : t.errors = true
    · simp only [step, hin, herr, if_true]
      rw [h.flatten]
    · have herr' : t.errors = false := by simpa using herr
      rw [step_exec B sc t s hin herr' rfl rfl, step_exec B sc' t s hin herr' rfl rfl]
      rcases checkWatch_congr B t.watched t.queue.length sc sc' s h with ⟨e, se⟩ | ⟨e, hf, fl⟩
      · rw [Prod.ext_iff] at e
        obtain ⟨e1, e2⟩ := e
        rw [e2]
        by_cases hw : (checkWatch B sc' s t.watched).2.2 = true
        · rw [if_pos hw, if_pos hw, e1, se.flatten]
        · rw [if_neg hw, if_neg hw, e1]
          obtain ⟨a, b⟩ := runQueue_congr B t.queue 0 _ _ (checkWatch B sc' s t.watched).2.1
            (by simpa using se)
          rw [Prod.ext_iff] at a
          rw [a.1, a.2, b.flatten]
      · rw [Prod.ext_iff] at e
        obtain ⟨e1, e2⟩ := e
        rw [← e2, hf, if_pos rfl, if_pos rfl, ← e1, fl]
  · have hin' : t.inTxn = false := by simpa using hin
    simp [step, hin']

/-- **all-or-nothing, under EVERY schedule, as one statement**: EXEC inside MULTI has exactly three
    outcomes — EXECABORT (a queue-time error was answered) and nil (a snapshot differs), both with
    a store that holds the other clients' commands and NOTHING of the transaction; or one result per
    queued command -/
theorem exec_all_or_nothing (B : Backend σ κ γ ρ) (sched : List (List γ)) (t : ConnTxn κ γ ρ) (s : σ)
    (hin : t.inTxn = true) :
    ((step B sched t s .exec).2.2 = .err .execAbort ∧ (step B sched t s .exec).2.1 = foreign B s sched.flatten) ∨
    ((step B sched t s .exec).2.2 = .nil ∧ (step B sched t s .exec).2.1 = foreign B s sched.flatten) ∨
    (∃ rs, (step B sched t s .exec).2.2 = .results rs ∧ rs.length = t.queue.length) := by
  by_cases herr : t.errors = true
  · left
    rw [execabort_leaves_store B sched t s hin herr]
    exact ⟨rfl, rfl⟩
  · have herr' : t.errors = false := by simpa using herr
    by_cases hf : (checkWatch B sched s t.watched).2.2 = true
    · right; left
      rw [watchfail_leaves_store B sched t s hin herr' hf]
      exact ⟨rfl, rfl⟩
    · right; right
      rw [step_exec B sched t s hin herr' rfl rfl, if_neg hf]
      exact ⟨_, rfl, runQueue_length B t.queue _ _⟩

/-- the first `m` slots (missing ones empty) and ONE more slot holding everything else -/
def normSched (m : Nat) (sc : List (List γ)) : List (List γ) :=
  (List.range m).map (fun i => sc.getD i []) ++ [(sc.drop m).flatten]

omit [DecidableEq ρ] in
theorem normSched_length (m : Nat) (sc : List (List γ)) : (normSched m sc).length = m + 1 := by
  simp [normSched]

omit [DecidableEq ρ] in
theorem normSched_eq (m : Nat) (sc : List (List γ)) : SchedEq m sc (normSched m sc) := by
  refine ⟨?_, ?_⟩
  · intro i hi
    simp [normSched, List.getD_eq_getElem?_getD, List.getElem?_append_left, hi]
  · simp [normSched]

/-- **normal form**: every schedule is equivalent, for this EXEC, to one with exactly
    `w + n + 1` slots — a placement of its commands among EXEC's await points -/
theorem exec_sched_normal_form (B : Backend σ κ γ ρ) (t : ConnTxn κ γ ρ) (s : σ) (sc : List (List γ)) :
    step B sc t s .exec = step B (normSched (t.watched.length + t.queue.length) sc) t s .exec :=
  exec_sched_congr B t s sc _ (normSched_eq _ sc)

omit [DecidableEq ρ] in
theorem normSched_flatten (m : Nat) (sc : List (List γ)) : (normSched m sc).flatten = sc.flatten :=
  ((normSched_eq m sc).flatten).symm

/-- all ways to cut a command sequence into `m` consecutive (possibly empty) slots -/
def placements : Nat → List γ → List (List (List γ))
  | 0, l => if l.isEmpty then [[]] else []
  | m + 1, l => (splits l).flatMap (fun p => (placements m p.2).map (fun rest => p.1 :: rest))

omit [DecidableEq ρ] in
/-- every list of `m` slots is one of the placements of its flattening -/
theorem mem_placements (sc : List (List γ)) : sc ∈ placements sc.length sc.flatten := by
  induction sc with
  | nil => simp [placements]
  | cons a tl ih =>
    simp only [List.length_cons, placements, List.flatten_cons, List.mem_flatMap, List.mem_map]
    exact ⟨(a, tl.flatten), mem_splits_append a _, tl, ih, rfl⟩

/-- **the placements cover every schedule**: for a foreign command sequence `fs`, whatever
    schedule `sc` serves exactly `fs` (in that order) around and inside an EXEC with `w` snapshots
    and `n` queued commands, some PLACEMENT of `fs` among the `w + n + 1` await points gives the same
    EXEC.  The placements of `fs` are finitely many (`placements (w + n + 1) fs`): enumerating them
    is enumerating the whole schedule space for `fs`. -/
theorem placements_cover (B : Backend σ κ γ ρ) (t : ConnTxn κ γ ρ) (s : σ) (sc : List (List γ)) :
    ∃ pl ∈ placements (t.watched.length + t.queue.length + 1) sc.flatten,
      step B sc t s .exec = step B pl t s .exec := by
  refine ⟨normSched (t.watched.length + t.queue.length) sc, ?_, exec_sched_normal_form B t s sc⟩
  have := mem_placements (normSched (t.watched.length + t.queue.length) sc)
  rwa [normSched_length, normSched_flatten] at this

/-! ## WATCH takes its snapshots one awaited GET at a time

  `Command::Watch(keys)` outside MULTI: `for key in keys { snapshot = state.execute(GET key).await;
  watched_keys.push((key, snapshot)) }` — every one of those awaits is a point where the other
  clients are served.  `Txn.step` takes the snapshots of one WATCH at one store.  The two are the
  same thing: a multi-key WATCH with the other clients' commands between its GETs IS the sequence of
  single-key WATCHes with those commands between them. -/

/-- WATCH as the code runs it: `sc[i]` is served right before the GET of the (i+1)-th key -/
def watchSched (B : Backend σ κ γ ρ) : List (List γ) → σ → List κ → List (List γ) × σ × List (κ × ρ)
  | sc, s, [] => (sc, s, [])
  | sc, s, k :: ks =>
    let s1 := foreign B s (sc.headD [])
    let r := watchSched B sc.tail s1 ks
    (r.1, r.2.1, (k, B.getReply s1 k) :: r.2.2)

/-- the same as a trace of the atomic model: the other clients' commands of a slot, then a
    single-key WATCH, key by key -/
def watchTrace : List (List γ) → List κ → List (Event κ γ)
  | _, [] => []
  | sc, k :: ks => (sc.headD []).map Event.other ++ .inp (.watch [k]) [] :: watchTrace sc.tail ks

theorem runE_others (B : Backend σ κ γ ρ) (t : ConnTxn κ γ ρ) (cs : List γ) (rest : List (Event κ γ)) :
    ∀ (s : σ), runE B t s (cs.map Event.other ++ rest) = runE B t (foreign B s cs) rest := by
  induction cs with
  | nil => intro s; rfl
  | cons c cs ih => intro s; simp only [List.map_cons, List.cons_append, runE]; exact ih _

/-- **a WATCH whose GETs are interleaved with the other clients' commands = single-key WATCHes with
    those commands between them**: same snapshots (appended in order), same store — the atomic
    WATCH of `Txn.step` loses nothing -/
theorem watchSched_eq_trace (B : Backend σ κ γ ρ) (ks : List κ) :
    ∀ (sc : List (List γ)) (t : ConnTxn κ γ ρ) (s : σ), t.inTxn = false →
      runE B t s (watchTrace sc ks) =
        ({ t with watched := t.watched ++ (watchSched B sc s ks).2.2 }, (watchSched B sc s ks).2.1) := by
  induction ks with
  | nil => intro sc t s _; simp [watchTrace, watchSched, runE]
  | cons k ks ih =>
    intro sc t s hout
    simp only [watchTrace, watchSched]
    rw [runE_others]
    simp only [runE]
    rw [watch_snapshot_is_get B [] t (foreign B s (sc.headD [])) [k] hout]
    rw [ih sc.tail _ _ (by simpa using hout)]
    simp [List.append_assoc]

end

/-- how many placements: `k` commands among `m` slots = C(k + m − 1, k); two commands among the
    four await points of an EXEC with one snapshot and two queued commands: 10 -/
example : (placements 4 [KV.Cmd.set 1 [49], KV.Cmd.del 1]).length = 10 := by decide

/-- non-vacuity: a long, ragged schedule and its normal form (3 accesses → 4 slots) give the same
    EXEC on the concrete store -/
example :
    let t : ConnTxn Nat KV.Cmd KV.Rep :=
      { inTxn := true, queue := [.incr 1, .get 1], errors := false, watched := [(1, .bulk none)] }
    let sc : List (List KV.Cmd) := [[], [.set 2 [49]], [], [.set 1 [53]], [.del 2], [], [.incr 1]]
    normSched 3 sc = [[], [.set 2 [49]], [], [.set 1 [53], .del 2, .incr 1]] ∧
    (step KV.backend sc t [] .exec).2 = (step KV.backend (normSched 3 sc) t [] .exec).2 := by
  decide

end C05
end RedisVerif
