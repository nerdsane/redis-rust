import RedisVerif.Lemmas.ServerConn

/-!
# ONE NODE, top level: bytes in → bytes out

`node_end_to_end` stacks the connection layer of C04 (`Model/Conn.lean`: the read loop that cuts the
byte stream into frames under every read segmentation and batching configuration;
`Model/ConnWrite.lean`: encoding into the write buffer, flush points, a peer that accepts any number
≥ 1 of bytes per `poll_write`) on the composed node of `Props/Server.lean` (parser → entry point →
`R.N` shards over M7 → encoder):

  for every pipeline of command frames that are `Supported` and `Answered`, read at non-decreasing
  virtual times, every segmentation of its byte stream into network segments and reads, every
  partial-write script without failure, every batching configuration (`HEADER_LEN = 14`: the code before fix de38a13; `Props/ServerLive.lean` for `13`),
  every shard count `N ≥ 1` and routing table — the byte stream the client receives is exactly the
  concatenation of what ONE M7 store answers to the parsed commands run one after the other
  (`Redis.step`), encoded by the connection's encoder (rejected frames: the parser's error text,
  nothing changed); the connection is still open with empty buffers; the final shards are
  indistinguishable from that store and every key has one home.

Corollaries: `node_nothing_withheld` (the client has sent any PREFIX of the pipeline, cut at any
byte: exactly the replies of the complete commands have been written — all of them),
`node_later_bytes_do_not_alter_earlier_replies`.  (`C04.client_decodes_one_reply_per_command` applies to
this executor as soon as `ValOK` is shown of `replyVal`'s values — not done here.)

What C04 assumes of the executor: NOTHING (its theorems quantify over every `Exec σ`); the content
here is the instance (`Lemmas/ServerConn.lean`: `srvExec`, `frameOf_cmdFrame` — the splitter hands
the node the pipeline's frames byte for byte —, `handle_replyOf`, `encActs_srv`) and the final
state of the connection's fold (`ConnW.runW_final`).  Outside: as in `Props/Server.lean`
(`Supported`), plus frames without bytes (`Answered`: commands outside the composed model, incl.
MULTI/EXEC, which the connection handles itself — C05), plus C04's own hypotheses (`Small`,
`maxBuffer`, `CmdOK`: a command name that is empty / white space only panics the code as it is).
-/
namespace RedisVerif
namespace Server

open Shards Shards.M7 Resp NMap C03
open Conn (Cmd cmdFrame encCmd stream CmdOK Config)
open ConnW (runW NoFail WEv replyBytes)

/-- the reply bytes of a list of outputs, concatenated (an output without bytes contributes none) -/
def wire : List Out → Bytes
  | [] => []
  | .bytes b :: rest => b ++ wire rest
  | _ :: rest => wire rest

/-- what one frame contributes to the wire: the encoding of `Redis.step`'s reply, or the parser's
    error text -/
theorem specHandle_bytes (s : Redis.State) (now : Nat) (f : Frame) (ha : Answered f = true) :
    (∃ gc c, Grammar.parseCmdZc f = .ok gc ∧ toCmd7 gc = some c ∧
      specHandle s now f = ((Redis.step s now c).1, .bytes (encode3 (replyVal (Redis.step s now c).2)))) ∨
    (∃ e t, Grammar.parseCmdZc f = .error e ∧ e.text = some t ∧
      specHandle s now f = (s, .bytes (encodeErr t))) := by
  unfold Answered at ha
  unfold specHandle encodeParseErr
  cases hp : Grammar.parseCmdZc f with
  | error e =>
    simp only [hp] at ha
    cases ht : e.text with
    | none => simp [ht] at ha
    | some t => exact Or.inr ⟨e, t, rfl, ht, by simp [ht]⟩
  | ok gc =>
    simp only [hp] at ha
    cases hc : toCmd7 gc with
    | none => simp [hc] at ha
    | some c => exact Or.inl ⟨gc, c, rfl, hc, by simp [hc, encodeReply]⟩

theorem outBytes_of_answered : ∀ (frames : List (Nat × Frame)) (s : Redis.State),
    (∀ x ∈ frames, Answered x.2 = true) →
    outBytes (specRun s frames).2 = some (wire (specRun s frames).2) := by
  intro frames
  induction frames with
  | nil => intro s _; rfl
  | cons x xs ih =>
    intro s h
    obtain ⟨now, f⟩ := x
    have ih := ih (specHandle s now f).1 fun y hy => h y (List.mem_cons_of_mem _ hy)
    -- an answered frame contributes bytes
    obtain ⟨b, e⟩ : ∃ b, (specHandle s now f).2 = .bytes b := by
      rcases specHandle_bytes s now f (h _ List.mem_cons_self) with ⟨_, _, _, _, e⟩ | ⟨_, _, _, _, e⟩ <;>
        exact ⟨_, congrArg Prod.snd e⟩
    simp only [specRun, e, outBytes, wire, ih, Option.map]

/-- the connection's initial executor state: empty shards, the clock readings of the pipeline -/
def srvInit (R : Routes) (frames : List (Nat × Frame)) : SrvSt :=
  ⟨Shards.init Redis.Entry R.N, frames.map (·.1), 0⟩

theorem node_end_to_end (R : Routes) (hv : R.Valid) (hN : 0 < R.N)
    (cfg : Config) (h14 : Conn.DeadCfg cfg) (hc : cfg.codec = codec1) (hd : 1 ≤ cfg.env.depth)
    (frames : List (Nat × Frame)) (hm : MonoF 0 frames)
    (hs : ∀ x ∈ frames, Supported R x.2 = true) (ha : ∀ x ∈ frames, Answered x.2 = true)
    (segs : List Bytes) (hseg : segs.flatten = stream (frames.map (·.2)))
    (hsm : Small (stream (frames.map (·.2)))) (hmax : (stream (frames.map (·.2))).length ≤ cfg.maxBuffer)
    (hok : ∀ c ∈ frames.map (·.2), CmdOK cfg c)
    (script : List WEv) (hnf : NoFail script = true) :
    -- the bytes the client receives
    (runW cfg (srvExec R) (srvInit R frames) script segs none).out = wire (specRun Redis.init frames).2 ∧
    -- the connection is still open, nothing is left in its write buffer
    (runW cfg (srvExec R) (srvInit R frames) script segs none).ended = false ∧
    (runW cfg (srvExec R) (srvInit R frames) script segs none).wbuf = [] ∧
    -- the final keyspace
    (∀ T, (∀ x ∈ frames, x.1 ≤ T) → ∀ k,
      lv T (get (abs (runW cfg (srvExec R) (srvInit R frames) script segs none).ex.st) k) =
      lv T (get (specRun Redis.init frames).1 k)) ∧
    (∀ i k, (get (shard (runW cfg (srvExec R) (srvInit R frames) script segs none).ex.st i) k).isSome →
      i = R.bytes k) := by
  obtain ⟨q, hview, hhome⟩ := server_refines_m7 R hv hN (fun _ => .generic) frames hm hs
  have hob : outBytes (run R (fun _ => .generic) (Shards.init Redis.Entry R.N) frames).2 =
      some (wire (specRun Redis.init frames).2) := by
    rw [q]; exact outBytes_of_answered frames Redis.init ha
  have hbytes := C04.bytes_written_cmdok SrvSt (srvExec R) (srvInit R frames) cfg h14 hc hd
    (frames.map (·.2)) segs script hseg hsm hmax hok hnf
  obtain ⟨f1, f2, f3⟩ := ConnW.runW_final (srvExec R) (srvInit R frames) cfg h14 hc hd
    (frames.map (·.2)) segs script hseg hsm hmax hok hnf
  obtain ⟨hrb, hst⟩ := encActs_srv R frames (Shards.init Redis.Entry R.N) 0 [] _ hob
  rw [List.append_nil] at hrb hst
  refine ⟨hbytes.trans hrb, f2, f3, ?_, ?_⟩
  · intro T hT k
    rw [f1]
    show lv T (get (abs (ConnW.encActs (srvExec R) ⟨_, _, 0⟩ _).1.st) k) = _
    rw [hst]; exact hview T hT k
  · intro i k hk
    rw [f1] at hk
    exact hhome i k (hst ▸ hk)

theorem monoF_append_left {fb : List (Nat × Frame)} : ∀ (l : List (Nat × Frame)) {t : Nat}, MonoF t (l ++ fb) → MonoF t l
  | [], _, _ => trivial
  | _ :: l, _, h => ⟨h.1, monoF_append_left l h.2⟩

theorem specRun_append (s : Redis.State) (a b : List (Nat × Frame)) :
    (specRun s (a ++ b)).2 = (specRun s a).2 ++ (specRun (specRun s a).1 b).2 := by
  induction a generalizing s with
  | nil => rfl
  | cons x xs ih => obtain ⟨now, f⟩ := x; simp [specRun, ih]

theorem wire_append (a b : List Out) : wire (a ++ b) = wire a ++ wire b := by
  induction a with
  | nil => rfl
  | cons x xs ih => cases x <;> simp [wire, ih]

/-- **k complete commands received ⇒ exactly their k replies written — nothing withheld.**  The
    client has sent any prefix of the pipeline's bytes (`rest` = what it has not sent yet; the cut may
    fall inside a frame), in any segmentation: what it has received are exactly the replies of the
    commands `done` that are complete in what it sent — computed on ONE M7 store — and not a byte of
    a later reply. -/
theorem node_nothing_withheld (R : Routes) (hv : R.Valid) (hN : 0 < R.N)
    (cfg : Config) (h14 : Conn.DeadCfg cfg) (hc : cfg.codec = codec1) (hd : 1 ≤ cfg.env.depth)
    (frames : List (Nat × Frame)) (hm : MonoF 0 frames)
    (hs : ∀ x ∈ frames, Supported R x.2 = true) (ha : ∀ x ∈ frames, Answered x.2 = true)
    (segs : List Bytes) (rest : Bytes) (hseg : segs.flatten ++ rest = stream (frames.map (·.2)))
    (hsm : Small (stream (frames.map (·.2)))) (hmax : (stream (frames.map (·.2))).length ≤ cfg.maxBuffer)
    (hok : ∀ c ∈ frames.map (·.2), CmdOK cfg c)
    (script : List WEv) (hnf : NoFail script = true) :
    ∃ (k : Nat) (pre : Bytes), k ≤ frames.length ∧
      segs.flatten = stream ((frames.take k).map (·.2)) ++ pre ∧
      (∀ x xs, frames.drop k = x :: xs → pre.length < (encCmd x.2).length) ∧
      (runW cfg (srvExec R) (srvInit R frames) script segs none).out =
        wire (specRun Redis.init (frames.take k)).2 := by
  obtain ⟨done, left, pre, e1, e2, e3, _, e5⟩ := C04.nothing_withheld SrvSt (srvExec R) (srvInit R frames) cfg h14 hc hd
    (frames.map (·.2)) segs rest script hseg hsm hmax hok hnf
  -- `done` is the image of a prefix `fa` of `frames`
  obtain ⟨fa, fb, rfl, rfl, rfl⟩ := List.map_eq_append_iff.mp e1
  obtain ⟨q, _, _⟩ := server_refines_m7 R hv hN (fun _ => .generic) fa (monoF_append_left fa hm)
    fun x hx => hs x (List.mem_append_left _ hx)
  have hob : outBytes (run R (fun _ => .generic) (Shards.init Redis.Entry R.N) fa).2 =
      some (wire (specRun Redis.init fa).2) := by
    rw [q]; exact outBytes_of_answered _ Redis.init fun x hx => ha x (List.mem_append_left _ hx)
  refine ⟨fa.length, pre, by simp, by rw [List.take_left' rfl]; exact e2, ?_, ?_⟩
  · intro x xs hx
    rw [List.drop_left' rfl] at hx
    exact e3 x.2 (xs.map (·.2)) (by rw [hx]; rfl)
  · -- the node on the prefix; the clock readings of `fb` are never consulted
    rw [e5, List.take_left' rfl]
    show replyBytes (srvExec R) ⟨_, (fa ++ fb).map (·.1), 0⟩ _ = _
    rw [List.map_append]
    exact (encActs_srv R fa _ 0 _ _ hob).1

/-- **bytes after the pipeline never alter earlier replies**: whatever follows a pipeline on the
    connection — more frames `more` — the bytes written for the pipeline itself are a prefix of the
    bytes written for the longer stream, unchanged -/
theorem node_later_bytes_do_not_alter_earlier_replies (R : Routes) (hv : R.Valid) (hN : 0 < R.N)
    (cfg : Config) (h14 : Conn.DeadCfg cfg) (hc : cfg.codec = codec1) (hd : 1 ≤ cfg.env.depth)
    (frames more : List (Nat × Frame)) (hm : MonoF 0 (frames ++ more))
    (hs : ∀ x ∈ frames ++ more, Supported R x.2 = true) (ha : ∀ x ∈ frames ++ more, Answered x.2 = true)
    (segs : List Bytes) (hseg : segs.flatten = stream ((frames ++ more).map (·.2)))
    (hsm : Small (stream ((frames ++ more).map (·.2))))
    (hmax : (stream ((frames ++ more).map (·.2))).length ≤ cfg.maxBuffer)
    (hok : ∀ c ∈ (frames ++ more).map (·.2), CmdOK cfg c)
    (script : List WEv) (hnf : NoFail script = true) :
    wire (specRun Redis.init frames).2 <+:
      (runW cfg (srvExec R) (srvInit R (frames ++ more)) script segs none).out := by
  obtain ⟨e, _⟩ := node_end_to_end R hv hN cfg h14 hc hd (frames ++ more) hm hs ha segs hseg hsm hmax hok script hnf
  rw [e, specRun_append, wire_append]
  exact List.prefix_append _ _

end Server
end RedisVerif
