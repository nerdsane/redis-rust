import RedisVerif.Props.C09

/-!
# C09 — the caller's side of `write_durable`: the 5 s ack timeout and cancellation

`durable_survives` speaks about the acks the ACTOR sends.  What the CALLER of `write_durable` is told
goes through one more state machine (`Model/WalActor.lean`, `Caller`): the oneshot channel, the
`tokio::time::timeout(5 s, ..)` around it, and the order in which the runtime processes "the actor
sends the ack", "the actor drops the sender" and "the caller's future is polled" — on a virtual clock
(event times are data; no wall time).

What is proved: the answer the caller is told was SENT by the actor, as is, for every order and timing of
the events (a timed-out or cancelled caller is never told `Ok`), hence `Ok(())` at the caller means the
entry is durable from the ack on; a caller whose ack is sent `d` after its message is told the ack if
`d < 5 s` and "timed out" if `d > 5 s` (what the harness drives on the real actor with
`group_commit_max_wait` just below / above 5 s; at exactly 5 s the two wake-ups race).
-/
namespace RedisVerif
namespace C09

open Wal

theorem caller_step_final (b : Bool) (c : Caller) (ev : CEv) (r : Seen) (h : c.result = some r) :
    (Caller.step b c ev).result = some r := by
  cases ev with
  | deliver t a => simp only [Caller.step, h]
  | close t => simp only [Caller.step, h]
  | poll t => simp only [Caller.step, h]

/-- once `write_durable` has returned, later events change nothing -/
theorem caller_result_final (b : Bool) (sentAt : Nat) (evs more : List CEv) (r : Seen)
    (h : (Caller.run b sentAt evs).result = some r) : (Caller.run b sentAt (evs ++ more)).result = some r := by
  unfold Caller.run at *
  rw [List.foldl_append]
  generalize evs.foldl (Caller.step b) (Caller.start sentAt) = c at h
  induction more generalizing c with
  | nil => exact h
  | cons ev more ih => exact ih _ (caller_step_final b c ev r h)

/-- what the caller holds was sent by the actor -/
def CallerInv (evs : List CEv) (c : Caller) : Prop :=
  (∀ a, c.slot = .value a → ∃ t, CEv.deliver t a ∈ evs) ∧
  (∀ a, c.result = some (.ack a) → ∃ t, CEv.deliver t a ∈ evs)

theorem callerInv_step (evs : List CEv) (c : Caller) (ev : CEv) (h : CallerInv evs c) :
    CallerInv (evs ++ [ev]) (Caller.step false c ev) := by
  have mono : ∀ a, (∃ t, CEv.deliver t a ∈ evs) → ∃ t, CEv.deliver t a ∈ evs ++ [ev] :=
    fun a ⟨t, ht⟩ => ⟨t, List.mem_append_left _ ht⟩
  obtain ⟨dl, slot, res⟩ := c
  obtain ⟨h1, h2⟩ := h
  simp only at h1 h2
  cases ev with
  | deliver t a =>
    cases res <;> cases slot <;> simp only [Caller.step] <;>
      refine ⟨fun x hx => ?_, fun x hx => ?_⟩ <;> simp only at hx <;>
      first
        | (cases hx; done)
        | exact mono x (h1 x hx)
        | exact mono x (h2 x hx)
        | (cases hx; exact ⟨t, by simp⟩)
  | close t =>
    cases res <;> cases slot <;> simp only [Caller.step] <;>
      refine ⟨fun x hx => ?_, fun x hx => ?_⟩ <;> simp only at hx <;>
      first
        | (cases hx; done)
        | exact mono x (h1 x hx)
        | exact mono x (h2 x hx)
  | poll t =>
    cases res with
    | some r =>
      simp only [Caller.step]
      exact ⟨fun x hx => mono x (h1 x hx), fun x hx => mono x (h2 x hx)⟩
    | none =>
      cases slot with
      | empty =>
        simp only [Caller.step, Bool.false_eq_true, if_false]
        split <;> refine ⟨fun x hx => ?_, fun x hx => ?_⟩ <;> simp only at hx <;> cases hx
      | value v =>
        simp only [Caller.step]
        refine ⟨fun x hx => mono x (h1 x hx), fun x hx => ?_⟩
        simp only [Option.some.injEq, Seen.ack.injEq] at hx
        subst hx
        exact mono v (h1 v rfl)
      | closed =>
        simp only [Caller.step]
        refine ⟨fun x hx => ?_, fun x hx => ?_⟩ <;> simp only at hx <;> cases hx

/-- every order, every timing: the answer `write_durable` returns was sent by the actor, unchanged.
    In particular a caller that timed out, was cancelled, or lost its channel is never told `Ok`. -/
theorem caller_ack_was_sent (sentAt : Nat) (evs : List CEv) (a : Ack)
    (h : (Caller.run false sentAt evs).result = some (.ack a)) : ∃ t, CEv.deliver t a ∈ evs := by
  suffices hs : ∀ (done rest : List CEv) (c : Caller), CallerInv done c →
      CallerInv (done ++ rest) (rest.foldl (Caller.step false) c) by
    have := hs [] evs (Caller.start sentAt) ⟨(fun x hx => by cases hx), (fun x hx => by cases hx)⟩
    rw [List.nil_append] at this
    exact this.2 a h
  intro done rest
  induction rest generalizing done with
  | nil => intro c hc; rw [List.append_nil]; exact hc
  | cons ev rest ih =>
    intro c hc
    have := ih (done ++ [ev]) _ (callerInv_step done c ev hc)
    rw [List.append_assoc] at this
    exact this

/-- at the caller: `write_durable` returned `Ok(())` ⇒ the entry survives a crash at every
    instant from the actor's ack on.  `cevs` is ANY sequence of events at this caller whose `deliver`s
    are acks the actor sent to it (`hsrc`); the actor's history is arbitrary as in `durable_survives`. -/
theorem write_durable_ok_is_durable (fmt : Format) (crc : Bytes → Nat) (φ : Nat → Outcome) (maxSize : Nat)
    (evs : List Ev) (hw : ∀ ev ∈ evs, ev.Ok fmt crc) (id sentAt : Nat) (cevs : List CEv)
    (hsrc : ∀ t a, CEv.deliver t a ∈ cevs →
      ∃ r ∈ (Actor.run true false φ fmt crc maxSize evs).acks, r.id = id ∧ r.res = a)
    (hok : (Caller.run false sentAt cevs).result = some (.ack .ok)) :
    ∃ r ∈ (Actor.run true false φ fmt crc maxSize evs).acks, r.id = id ∧ r.res = .ok ∧
      ∀ t st, r.io ≤ t → (Actor.run true false φ fmt crc maxSize evs).rot.w.storeAt t = some st →
        r.entry ∈ durable fmt crc st ∨ r.entry.ts < (Actor.run true false φ fmt crc maxSize evs).tbound := by
  obtain ⟨t, ht⟩ := caller_ack_was_sent sentAt cevs .ok hok
  obtain ⟨r, hr, hid, hres⟩ := hsrc t .ok ht
  exact ⟨r, hr, hid, hres, durable_survives fmt crc φ maxSize evs hw r hr hres⟩

/-! ## the deadline -/

/-- the ack is sent less than 5 s after the message: the caller is told the ack -/
theorem seen_before_deadline (delay : Nat) (a : Ack) (h : delay < ackTimeoutUs) :
    seenAfter delay a = some (.ack a) := by
  unfold seenAfter callerEvents
  rw [if_pos h]
  simp [Caller.run, Caller.start, Caller.step, ackTimeoutUs]

/-- … more than 5 s after: "WAL write timed out", whatever the actor answers later -/
theorem seen_after_deadline (delay : Nat) (a : Ack) (h : ackTimeoutUs < delay) :
    seenAfter delay a = some .timedOut := by
  unfold seenAfter callerEvents
  rw [if_neg (by omega)]
  simp [Caller.run, Caller.start, Caller.step, ackTimeoutUs]

/-- at exactly 5 s the ack and the deadline race: whichever wake-up the runtime processes first -/
theorem deadline_tie_is_a_race_witness :
    (Caller.run false 0 [.poll 0, .deliver ackTimeoutUs .ok, .poll ackTimeoutUs]).result = some (.ack .ok) ∧
    (Caller.run false 0 [.poll 0, .poll ackTimeoutUs, .deliver ackTimeoutUs .ok]).result = some .timedOut := by
  decide

/-- the sender dropped unanswered (the actor stopped): an error, not `Ok` -/
theorem dropped_channel_witness :
    (Caller.run false 0 [.poll 0, .close 10, .poll 10]).result = some .dropped := by decide

/-! ## witnesses on the actor -/

/-- one write, `group_commit_max_wait` = 10 s: the flush (I/O call 3) happens 10 s after the message -/
def slowRun : Actor := Actor.run true false (fun _ => .ok) .v2 Driver.crc32 1000 [.write w1, .flush]

/-- "a write reported failed may or may not survive": the caller timed out at 5 s, the actor acked
    `Ok` at 10 s — nobody heard it — and the entry is durable -/
theorem timed_out_write_survives_witness :
    seenAfter 10000000 .ok = some .timedOut ∧
    (slowRun.acks.map (fun r => (r.id, r.res))) = [(1, .ok)] ∧
    (durable .v2 Driver.crc32 slowRun.rot.w.store).map (·.ts) = [1] := by decide +kernel

/-- the state in which that caller's deadline passes: the entry is appended, no fsync yet -/
def waitingRun : Actor := Actor.run true false (fun _ => .ok) .v2 Driver.crc32 1000 [.write w1]

/-- the variant whose timeout arm answers `Ok(())`: the caller is told `Ok` although the actor has sent
    nothing and the entry is covered by no fsync -/
theorem timeout_means_ok_counterexample :
    (Caller.run true 0 [.poll 0, .poll ackTimeoutUs]).result = some (.ack .ok) ∧
    waitingRun.acks = [] ∧ waitingRun.pending.map (·.1) = [1] ∧
    durable .v2 Driver.crc32 waitingRun.rot.w.store = [] := by decide +kernel

/-- … which the code does not do -/
theorem timeout_is_an_error_on_witness :
    (Caller.run false 0 [.poll 0, .poll ackTimeoutUs]).result = some .timedOut := by decide

end C09
end RedisVerif
