import RedisVerif.Lemmas.ExecutorMove

/-!
  C01 — the EXECUTOR AS IT IS refines the reference model.

  `Model.Executor` / `Model.ExecutorColl` transcribe `CommandExecutor` (two maps `data` / `expirations`,
  lazy expiry by `get_value`, `set_time` / `update_time_readonly`, every `execute_*` with its own order
  of checks and its own i64 / u64 arithmetic).  The theorems below say that, from every state that
  satisfies the executor's own invariant (`CInv` = `verify_invariants` of mod.rs, which only debug builds
  run, plus the number ranges), for every clock value and every command of M7's command set (`Redis.Cmd`)

    * the reply is M7's reply,
    * the visible keyspace afterwards (keys, types, values, remaining TTLs) is M7's,
    * the invariant holds again, no overflow-checked arithmetic traps,

  EXCEPT where the two recorded findings say: `GETSET` (deadline kept) and `GETRANGE` (inverted negative
  range) behave as `Model.ExecutorCode` describes (`execDev`); `Props/C01Data.lean` characterises those
  two deviations exactly.  Hence C01's conformance of these commands rests on this theorem plus the tie
  of the transcription to the real code (`XC` lines: reply, physical key set, `expirations.len()` after
  every command of every generated sequence), not on sampling the comparison with M7 alone.
-/
set_option linter.unusedSimpArgs false

namespace RedisVerif.C01Exec
open RedisVerif RedisVerif.Redis RedisVerif.Executor

/-- what the parsers guarantee about a command: integer arguments are i64 (the `Command` fields are),
    EXPIRE / PEXPIRE flags are compatible (refused with an error before the executor is reached),
    EXPIREAT / PEXPIREAT carry no flags (the variants have none), the variadic commands have at least one
    element (arity check), ZADD's flags are compatible -/
def CmdOk : Cmd → Prop
  | .set _ _ _ e _ => SetExpOk e
  | .getex _ o => GetExOk o
  | .expire _ v f | .pexpire _ v f => I64 v ∧ flagsCompatible f = true
  | .expireat _ v f | .pexpireat _ v f => I64 v ∧ f = noFlags
  | .lpush _ vs | .rpush _ vs => vs ≠ []
  | .sadd _ ms => ms ≠ []
  | .hset _ fvs => fvs ≠ []
  | .zadd _ f ps => ps ≠ [] ∧ zflagsCompatible f = true
  | .hincrby _ _ d => I64 d
  | _ => True

instance : DecidablePred CmdOk := fun c => by
  cases c <;> unfold CmdOk <;> infer_instance

/-- EXPIRETIME adds 500 with `saturating_add`: the deadline read must leave room for it -/
def Room (cs : CState) : Cmd → Prop
  | .expiretime k => ∀ d, NMap.get cs.exp k = some d → cs.epoch + d + 500 ≤ 9223372036854775807
  | _ => True

/-- M7's `exec` with the two recorded deviations of the code (known findings
    C01:getset-keeps-deadline, C01:getrange-negative-inverted) -/
def execDev (s : State) (now : Nat) : Cmd → State × Reply
  | .getset k v => ExecutorCode.codeGetSet s k v
  | .getrange k a b => ExecutorCode.codeGetRange s k a b
  | c => exec s now c

def stepDev (s : State) (now : Nat) (c : Cmd) : State × Reply := execDev (purge s now) now c

def Deviates : Cmd → Bool
  | .getset _ _ | .getrange _ _ _ => true
  | _ => false

theorem execDev_eq_exec {c : Cmd} (h : Deviates c = false) (s : State) (now : Nat) :
    execDev s now c = exec s now c := by
  unfold execDev
  split
  · cases h
  · cases h
  · rfl

theorem stepDev_eq_step {c : Cmd} (h : Deviates c = false) (s : State) (now : Nat) :
    stepDev s now c = step s now c := execDev_eq_exec h _ _

/-! ## one command -/

/-- **Refinement, one command.**  On every state satisfying the executor's invariant the transcribed
    `execute` does not trap, answers what M7 (with the two recorded deviations) answers on the visible
    keyspace, leaves M7's visible keyspace, keeps the invariant, and touches neither clock nor epoch. -/
theorem executor_exec_refines {cs : CState} (h : CInv cs) (c : Cmd)
    (hc : CmdOk c) (hr : Room cs c) :
    ∃ res, execC cs c = some res ∧ SimF cs (fun s => execDev s (unix cs) c) res := by
  cases c
  case get k => exact ⟨_, rfl, cGet_sim h k⟩
  case set k v cnd e g => exact cSet_sim h k v cnd e g hc
  case setnx k v => exact ⟨_, rfl, cSetNx_sim h k v⟩
  case append k v => exact ⟨_, rfl, cAppend_sim h k v⟩
  case getset k v => exact ⟨_, rfl, cGetSet_sim h k v⟩
  case strlen k => exact ⟨_, rfl, cStrLen_sim h k⟩
  case mget ks => exact ⟨_, rfl, cMGet_sim h ks⟩
  case mset kvs => exact ⟨_, rfl, cMSet_sim h kvs⟩
  case msetnx kvs => exact ⟨_, rfl, cMSetNx_sim h kvs⟩
  case getrange k a b => exact ⟨_, rfl, cGetRange_sim h k a b⟩
  case setrange k off v => exact ⟨_, rfl, cSetRange_sim h k off v⟩
  case getex k o => exact cGetEx_sim h k o hc
  case getdel k => exact ⟨_, rfl, cGetDel_sim h k⟩
  case incr k => exact ⟨_, rfl, cIncrBy_sim h k 1⟩
  case decr k => exact ⟨_, rfl, cIncrBy_sim h k (-1)⟩
  case incrby k d => exact ⟨_, rfl, cIncrBy_sim h k d⟩
  case decrby k d => exact ⟨_, rfl, cDecrBy_sim h k d⟩
  case del ks => exact ⟨_, rfl, cDel_sim h ks⟩
  case «exists» ks => exact ⟨_, rfl, cExists_sim h ks⟩
  case type k => exact ⟨_, rfl, cType_sim h k⟩
  case keys => exact ⟨_, rfl, cKeys_sim h⟩
  case dbsize => exact ⟨_, rfl, cDbSize_sim h⟩
  case flushdb => exact ⟨_, rfl, cFlush_sim h⟩
  case flushall => exact ⟨_, rfl, cFlushAll_sim h⟩
  case randomkey ch => exact ⟨_, rfl, cRandomKey_sim h ch⟩
  case rename a b => exact ⟨_, rfl, cRename_sim h a b⟩
  case renamenx a b => exact ⟨_, rfl, cRenameNx_sim h a b⟩
  case expire k v f => exact cExpire_sim h k v f hc.2
  case pexpire k v f => exact cPExpire_sim h k v f hc.1 hc.2
  case expireat k v f =>
    obtain ⟨_, h2⟩ := hc
    subst h2
    exact ⟨_, rfl, cExpireAt_sim h k v⟩
  case pexpireat k v f =>
    obtain ⟨h1, h2⟩ := hc
    subst h2
    exact ⟨_, rfl, cPExpireAt_sim h k v h1⟩
  case ttl k => exact ⟨_, rfl, cTtl_sim h k⟩
  case pttl k => exact ⟨_, rfl, cPTtl_sim h k⟩
  case expiretime k => exact ⟨_, rfl, cExpireTime_sim h k hr⟩
  case pexpiretime k => exact ⟨_, rfl, cPExpireTime_sim h k⟩
  case persist k => exact ⟨_, rfl, cPersist_sim h k⟩
  case lpush k vs => exact ⟨_, rfl, cPush_sim h .left k vs hc⟩
  case rpush k vs => exact ⟨_, rfl, cPush_sim h .right k vs hc⟩
  case lpop k => exact ⟨_, rfl, cPop_sim h .left k⟩
  case rpop k => exact ⟨_, rfl, cPop_sim h .right k⟩
  case llen k => exact ⟨_, rfl, cLLen_sim h k⟩
  case lindex k i => exact ⟨_, rfl, cLIndex_sim h k i⟩
  case lrange k a b => exact ⟨_, rfl, cLRange_sim h k a b⟩
  case lset k i v => exact ⟨_, rfl, cLSet_sim h k i v⟩
  case ltrim k a b => exact ⟨_, rfl, cLTrim_sim h k a b⟩
  case rpoplpush a b => exact ⟨_, rfl, cLMove_sim h a b .right .left⟩
  case lmove a b f t => exact ⟨_, rfl, cLMove_sim h a b f t⟩
  case sadd k ms => exact ⟨_, rfl, cSAdd_sim h k ms hc⟩
  case srem k ms => exact ⟨_, rfl, cSRem_sim h k ms⟩
  case smembers k => exact ⟨_, rfl, cSMembers_sim h k⟩
  case sismember k m => exact ⟨_, rfl, cSIsMember_sim h k m⟩
  case scard k => exact ⟨_, rfl, cSCard_sim h k⟩
  case spop k n ch =>
    cases n with
    | none => exact ⟨_, rfl, cSPop1_sim h k ch⟩
    | some n => exact ⟨_, rfl, cSPopN_sim h k n ch⟩
  case hset k fvs => exact ⟨_, rfl, cHSet_sim h k fvs hc⟩
  case hget k f => exact ⟨_, rfl, cHGet_sim h k f⟩
  case hdel k fs => exact ⟨_, rfl, cHDel_sim h k fs⟩
  case hgetall k => exact ⟨_, rfl, cHGetAll_sim h k⟩
  case hkeys k => exact ⟨_, rfl, cHKeys_sim h k⟩
  case hvals k => exact ⟨_, rfl, cHVals_sim h k⟩
  case hlen k => exact ⟨_, rfl, cHLen_sim h k⟩
  case hexists k f => exact ⟨_, rfl, cHExists_sim h k f⟩
  case hincrby k f d => exact ⟨_, rfl, cHIncrBy_sim h k f d hc⟩
  case zadd k f ps => exact ⟨_, rfl, cZAdd_sim h k f ps hc.1 hc.2⟩
  case zrem k ms => exact ⟨_, rfl, cZRem_sim h k ms⟩
  case zrange k a b ws => exact ⟨_, rfl, cZRange_sim h k a b ws false⟩
  case zrevrange k a b ws => exact ⟨_, rfl, cZRange_sim h k a b ws true⟩
  case zscore k m => exact ⟨_, rfl, cZScore_sim h k m⟩
  case zrank k m => exact ⟨_, rfl, cZRank_sim h k m⟩
  case zcard k => exact ⟨_, rfl, cZCard_sim h k⟩
  case zcount k lo hi => exact ⟨_, rfl, cZCount_sim h k lo hi⟩
  case zrangebyscore k lo hi ws lim => exact ⟨_, rfl, cZRangeByScore_sim h k lo hi ws lim⟩
  case sort k st => exact ⟨_, rfl, cSort_sim h k st⟩

/-! ## the simulation relation, the clock, whole histories -/

/-- the executor state `cs` and the M7 state `s` show the same keyspace at the executor's instant -/
def R (cs : CState) (s : State) : Prop := CInv cs ∧ absP cs = purge s (unix cs)

theorem executor_init (epoch : Nat) (h : epoch ≤ 9223372036854775807) : R (CState.new epoch) Redis.init :=
  ⟨⟨NMap.wf_nil, NMap.wf_nil, (fun k hk => by simp [CState.new] at hk), (fun p hp => by cases hp),
    (by simp [CState.new]; exact h), (fun k d hd => by simp [CState.new] at hd)⟩, rfl⟩

/-- **One step.**  Related states stay related under every command; the reply is M7's. -/
theorem executor_step_refines {cs : CState} {s : State} (hR : R cs s) (c : Cmd)
    (hc : CmdOk c) (hr : Room cs c) :
    ∃ cs' r, execC cs c = some (cs', r) ∧ r = (stepDev s (unix cs) c).2 ∧
      R cs' (stepDev s (unix cs) c).1 ∧ cs'.now = cs.now ∧ cs'.epoch = cs.epoch := by
  obtain ⟨res, he, h1, h2, h3, h4, h5⟩ := executor_exec_refines hR.1 c hc hr
  have hu : unix res.1 = unix cs := by simp [unix, h4, h5]
  refine ⟨res.1, res.2, he, ?_, ⟨h3, ?_⟩, h4, h5⟩
  · rw [h1]; unfold stepDev; rw [← hR.2]
  · rw [h2, hu]; unfold stepDev; rw [← hR.2]

/-- **The clock.**  Moving the clock forward — with eviction (`set_time`, `evict_expired_direct`) or
    without (`update_time_readonly`: the dead keys stay physically present) — keeps the relation: lazy
    and active expiry are indistinguishable. -/
theorem executor_clock_refines {cs : CState} {s : State} (hR : R cs s) {t : Nat} (hle : cs.now ≤ t)
    (ht : cs.epoch + t ≤ 9223372036854775807) :
    R (setTime cs t) s ∧ R (updateTimeReadonly cs t) s := by
  have hU : unix cs ≤ cs.epoch + t := by unfold unix; omega
  constructor
  · refine ⟨setTime_inv hR.1 ht, ?_⟩
    rw [setTime_absP hR.1 hle ht, hR.2, purge_purge_le s hU]
    rfl
  · refine ⟨clockRO_inv hR.1 ht, ?_⟩
    rw [clockRO_absP cs hle, hR.2, purge_purge_le s hU]
    rfl

/-- after `set_time` no stored deadline has been reached (invariant 2 of `verify_invariants`) -/
theorem executor_set_time_evicts {cs : CState} (h : CInv cs) {t : Nat}
    (ht : cs.epoch + t ≤ 9223372036854775807) (k d : Nat)
    (hd : NMap.get (setTime cs t).exp k = some d) : t < d :=
  evict_all_future (clockRO_inv h ht) k d hd

/-- one event of a history: the clock is moved to `t` (`evict` = through `set_time`), then `c` runs -/
structure Ev where
  t : Nat
  evict : Bool
  c : Cmd

def moveClock (cs : CState) (e : Ev) : CState :=
  if e.evict then setTime cs e.t else updateTimeReadonly cs e.t

/-- the executor over a history; `none` = a trap -/
def runC : CState → List Ev → Option (CState × List Reply)
  | cs, [] => some (cs, [])
  | cs, e :: es =>
    match execC (moveClock cs e) e.c with
    | none => none
    | some (c2, r) =>
      match runC c2 es with
      | none => none
      | some (c3, rs) => some (c3, r :: rs)

/-- M7 (with the two recorded deviations) over the same history, on Unix time -/
def runDev (epoch : Nat) : State → List Ev → State × List Reply
  | s, [] => (s, [])
  | s, e :: es =>
    ((runDev epoch (stepDev s (epoch + e.t) e.c).1 es).1,
     (stepDev s (epoch + e.t) e.c).2 :: (runDev epoch (stepDev s (epoch + e.t) e.c).1 es).2)

def isExpireTime : Cmd → Bool
  | .expiretime _ => true
  | _ => false

/-- a history the theorem speaks about: the clock never goes back and stays inside i64 (with the
    epoch), every command is well-formed (EXPIRETIME is covered by the one-step
    theorem, where its room for `+500` can be stated on the state) -/
def EvsOk (epoch : Nat) : Nat → List Ev → Prop
  | _, [] => True
  | now, e :: es =>
    now ≤ e.t ∧ epoch + e.t ≤ 9223372036854775807 ∧ CmdOk e.c ∧
      isExpireTime e.c = false ∧ EvsOk epoch e.t es

instance (epoch : Nat) : ∀ (now : Nat) (es : List Ev), Decidable (EvsOk epoch now es)
  | _, [] => by unfold EvsOk; infer_instance
  | now, e :: es => by
    unfold EvsOk
    have := instDecidableEvsOk epoch e.t es
    infer_instance

/-- **Whole histories.**  For every history of clock moves (lazy or evicting, in any mixture) and
    commands, from related states: the executor never traps, its replies are exactly M7's (with the two
    recorded deviations), and the final states are related. -/
theorem executor_run_refines (es : List Ev) : ∀ {cs : CState} {s : State}, R cs s → EvsOk cs.epoch cs.now es →
    ∃ cs' rs, runC cs es = some (cs', rs) ∧ rs = (runDev cs.epoch s es).2 ∧
      R cs' (runDev cs.epoch s es).1 ∧ cs'.epoch = cs.epoch := by
  induction es with
  | nil => intro cs s hR _; exact ⟨cs, [], rfl, rfl, hR, rfl⟩
  | cons e es ih =>
    intro cs s hR hok
    obtain ⟨h1, h2, h4, h5, h6⟩ := hok
    have hclk := executor_clock_refines hR h1 h2
    have hR1 : R (moveClock cs e) s := by
      unfold moveClock; cases e.evict
      · exact hclk.2
      · exact hclk.1
    have hnow : (moveClock cs e).now = e.t := by unfold moveClock; cases e.evict <;> rfl
    have hep : (moveClock cs e).epoch = cs.epoch := by unfold moveClock; cases e.evict <;> rfl
    have hroom : Room (moveClock cs e) e.c := by
      cases hc : e.c <;> simp only [Room]
      case expiretime k => rw [hc] at h5; cases h5
    obtain ⟨c2, r, he, hr, hR2, hn2, he2⟩ := executor_step_refines hR1 e.c h4 hroom
    have hux : unix (moveClock cs e) = cs.epoch + e.t := by simp [unix, hnow, hep]
    rw [hux] at hr hR2
    have hok2 : EvsOk c2.epoch c2.now es := by rw [he2, hn2, hep, hnow]; exact h6
    obtain ⟨c3, rs, hrun, hrs, hR3, he3⟩ := ih hR2 hok2
    rw [he2, hep] at hrs hR3 he3
    refine ⟨c3, r :: rs, ?_, ?_, ?_, he3⟩
    · simp only [runC, he, hrun]
    · simp only [runDev]; rw [hr, hrs]
    · simp only [runDev]; exact hR3

def toTimed (epoch : Nat) (es : List Ev) : List (Nat × Cmd) := es.map (fun e => (epoch + e.t, e.c))

/-- the histories without a deviating command are M7's `Redis.run` itself -/
theorem runDev_eq_run (epoch : Nat) (es : List Ev) (hd : ∀ e ∈ es, Deviates e.c = false) :
    ∀ s, runDev epoch s es = Redis.run s (toTimed epoch es) := by
  induction es with
  | nil => intro s; rfl
  | cons e es ih =>
    intro s
    have h1 := stepDev_eq_step (hd e (List.mem_cons_self ..)) s (epoch + e.t)
    have ih' := ih (fun e' he' => hd e' (List.mem_cons_of_mem _ he'))
    simp only [runDev, toTimed, List.map_cons, Redis.run, h1]
    rw [ih' (step s (epoch + e.t) e.c).1]
    rfl

/-- **Conformance of the executor, from the empty database.**  Every history of well-formed commands of
    M7's command set other than GETSET / GETRANGE, with any clock moves: the executor's replies are
    the reference model's, and what a client can see afterwards is the reference model's keyspace. -/
theorem executor_conforms (epoch : Nat) (he : epoch ≤ 9223372036854775807) (es : List Ev)
    (hok : EvsOk epoch 0 es) (hd : ∀ e ∈ es, Deviates e.c = false) :
    ∃ cs' rs, runC (CState.new epoch) es = some (cs', rs) ∧
      rs = (Redis.run Redis.init (toTimed epoch es)).2 ∧
      absP cs' = purge (Redis.run Redis.init (toTimed epoch es)).1 (unix cs') := by
  obtain ⟨cs', rs, h1, h2, h3, h4⟩ := executor_run_refines es (executor_init epoch he) hok
  rw [show (CState.new epoch).epoch = epoch from rfl, runDev_eq_run epoch es hd] at h2 h3
  exact ⟨cs', rs, h1, h2, h3.2⟩

/-- non-vacuity: a history with lazy expiry, SET options, EXPIRE flags, a stale deadline -/
example : EvsOk 1000 0
    [⟨5, true, .set 1 [1] .always (.px 10) false⟩, ⟨20, false, .set 1 [2] .xx .keepttl true⟩,
     ⟨20, false, .expire 1 100 ⟨false, false, true, false⟩⟩, ⟨21, true, .ttl 1⟩] := by decide

end RedisVerif.C01Exec
