import RedisVerif.Lemmas.GrammarNum
import RedisVerif.Props.C16

/-!
# C16 — numeric arguments: which strings are accepted, and with which value

The grammar model reads integer arguments with `parseI64` (`str::parse::<i64 / isize>`), `parseUnsigned`
(`u64 / usize / u32`) and floats with `parseF64` (`str::parse::<f64>`).  Accepted language and value are characterised
for all byte strings (`I64Lit`, `ULit`, `FloatSyntax`: no white space, no `_`, a `-` is an invalid digit for the unsigned
types, as in Rust).  The float VALUE (correctly rounded bit pattern) is only checked on boundary cases here; it is tied to
Rust by the `F` ops of every run, bit for bit on generated literals.
-/
namespace RedisVerif
namespace C16

open Grammar

/-- `s` is the decimal literal of the 64-bit signed integer `v` as Rust's `str::parse::<i64>` reads it -/
def I64Lit (s : Bytes) (v : Int) : Prop :=
  ∃ ds : Bytes, ds ≠ [] ∧ isDigits ds = true ∧
    ((s = ds ∧ v = (decVal ds : Int) ∧ decVal ds ≤ i64Max) ∨
     (s = 43 :: ds ∧ v = (decVal ds : Int) ∧ decVal ds ≤ i64Max) ∨
     (s = 45 :: ds ∧ v = -(decVal ds : Int) ∧ decVal ds ≤ i64Max + 1))

theorem scan0 (max : Nat) (ds : Bytes) (n : Nat) :
    scanDigits max 0 ds = .ok n ↔ (isDigits ds = true ∧ n = decVal ds ∧ (ds = [] ∨ n ≤ max)) := by
  rw [scanDigits_ok_iff]
  simp

theorem isDigits_head {c : Nat} {r : Bytes} (h : isDigits (c :: r) = true) : c ≠ 43 ∧ c ≠ 45 := by
  simp only [isDigits, List.all_cons, Bool.and_eq_true, isDigit, decide_eq_true_eq] at h
  omega

theorem scan_value {α : Type} (max : Nat) (f : Nat → α) {ds : Bytes} (hne : ds ≠ []) (v : α) :
    Option.map f (scanDigits max 0 ds).toOption = some v ↔
      isDigits ds = true ∧ v = f (decVal ds) ∧ decVal ds ≤ max := by
  cases hs : scanDigits max 0 ds with
  | error e =>
    simp only [Except.toOption, Option.map_none, reduceCtorEq, false_iff]
    intro ⟨h1, _, h3⟩
    rw [(scan0 max ds _).mpr ⟨h1, rfl, Or.inr h3⟩] at hs
    cases hs
  | ok n =>
    obtain ⟨h1, h2, h3⟩ := (scan0 _ _ _).mp hs
    simp only [hne, false_or] at h3
    simp only [Except.toOption, Option.map_some, Option.some.injEq, h1, true_and, ← h2, h3, and_true, eq_comm]

theorem parseI64_minus (d : Nat) (r : Bytes) :
    parseI64 (45 :: d :: r) = Option.map (fun n : Nat => -(n : Int)) (scanDigits (i64Max + 1) 0 (d :: r)).toOption := by
  simp only [parseI64]; cases scanDigits _ 0 (d :: r) <;> rfl

theorem parseI64_plus (d : Nat) (r : Bytes) :
    parseI64 (43 :: d :: r) = Option.map (fun n : Nat => (n : Int)) (scanDigits i64Max 0 (d :: r)).toOption := by
  simp only [parseI64]; cases scanDigits _ 0 (d :: r) <;> rfl

theorem parseI64_nosign {c : Nat} (h43 : c ≠ 43) (h45 : c ≠ 45) (r : Bytes) :
    parseI64 (c :: r) = Option.map (fun n : Nat => (n : Int)) (scanDigits i64Max 0 (c :: r)).toOption := by
  unfold parseI64
  split <;> first | (simp_all; done) | (cases scanDigits i64Max 0 _ <;> rfl)

/-- accepted language and value of an `i64` / `isize` argument, for every byte string -/
theorem parseI64_iff (s : Bytes) (v : Int) : parseI64 s = some v ↔ I64Lit s v := by
  constructor
  · intro h
    match s with
    | [] => cases h
    | c :: r =>
      by_cases h45 : c = 45
      · subst h45
        cases r with
        | nil => cases h
        | cons d r =>
          rw [parseI64_minus d r, scan_value _ _ (by simp)] at h
          exact ⟨d :: r, by simp, h.1, Or.inr (Or.inr ⟨rfl, h.2⟩)⟩
      · by_cases h43 : c = 43
        · subst h43
          cases r with
          | nil => cases h
          | cons d r =>
            rw [parseI64_plus d r, scan_value _ _ (by simp)] at h
            exact ⟨d :: r, by simp, h.1, Or.inr (Or.inl ⟨rfl, h.2⟩)⟩
        · rw [parseI64_nosign h43 h45 r, scan_value _ _ (by simp)] at h
          exact ⟨c :: r, by simp, h.1, Or.inl ⟨rfl, h.2⟩⟩
  · rintro ⟨ds, hne, hd, h⟩
    obtain ⟨d, r, rfl⟩ := List.exists_cons_of_ne_nil hne
    rcases h with ⟨rfl, h⟩ | ⟨rfl, h⟩ | ⟨rfl, h⟩
    · rw [parseI64_nosign (isDigits_head hd).1 (isDigits_head hd).2 r, scan_value _ _ hne]
      exact ⟨hd, h⟩
    · rw [parseI64_plus d r, scan_value _ _ hne]
      exact ⟨hd, h⟩
    · rw [parseI64_minus d r, scan_value _ _ hne]
      exact ⟨hd, h⟩

/-- non-vacuity and the boundaries: 2^63−1 and −2^63 are read, 2^63 and −2^63−1 are not; `-0`, `+5`, `007` are -/
example : I64Lit (s2b "-9223372036854775808") (-9223372036854775808) :=
  (parseI64_iff _ _).mp (by decide +kernel)
example : parseI64 (s2b "9223372036854775808") = none ∧ parseI64 (s2b "-9223372036854775809") = none ∧
    parseI64 (s2b "-0") = some 0 ∧ parseI64 (s2b "+5") = some 5 ∧ parseI64 (s2b "007") = some 7 ∧
    parseI64 (s2b " 1") = none ∧ parseI64 (s2b "1_0") = none ∧ parseI64 (s2b "0x10") = none ∧ parseI64 (s2b "--1") = none := by
  decide +kernel

/-! ## unsigned integers (`u64`, `usize`, `u32`) -/

/-- `s` is the decimal literal of `n ≤ max` as Rust's `str::parse::<u64 / usize / u32>` reads it -/
def ULit (max : Nat) (s : Bytes) (n : Nat) : Prop :=
  ∃ ds : Bytes, ds ≠ [] ∧ isDigits ds = true ∧ (s = ds ∨ s = 43 :: ds) ∧ n = decVal ds ∧ n ≤ max

theorem scanDigits_head_sign (max : Nat) (c : Nat) (r : Bytes) (hc : c = 43 ∨ c = 45) (n : Nat) :
    scanDigits max 0 (c :: r) ≠ .ok n := by
  intro h
  have := isDigits_head ((scan0 _ _ _).mp h).1
  omega

theorem parseUnsigned_plus (max d : Nat) (r : Bytes) :
    parseUnsigned max (43 :: d :: r) = scanDigits max 0 (d :: r) := by
  simp [parseUnsigned]

theorem parseUnsigned_nosign (max : Nat) {c : Nat} (h43 : c ≠ 43) (r : Bytes) :
    parseUnsigned max (c :: r) = scanDigits max 0 (c :: r) := by
  unfold parseUnsigned
  split <;> simp_all [scanDigits, digitVal]

theorem parseUnsigned_iff (max : Nat) (s : Bytes) (n : Nat) : parseUnsigned max s = .ok n ↔ ULit max s n := by
  constructor
  · intro h
    match s with
    | [] => cases h
    | c :: r =>
      by_cases h43 : c = 43
      · subst h43
        cases r with
        | nil => cases h
        | cons d r =>
          rw [parseUnsigned_plus max d r] at h
          obtain ⟨h1, h2, h3⟩ := (scan0 _ _ _).mp h
          exact ⟨d :: r, by simp, h1, Or.inr rfl, h2, by simpa using h3⟩
      · rw [parseUnsigned_nosign max h43 r] at h
        obtain ⟨h1, h2, h3⟩ := (scan0 _ _ _).mp h
        exact ⟨c :: r, by simp, h1, Or.inl rfl, h2, by simpa using h3⟩
  · rintro ⟨ds, hne, hd, h, hv, hr⟩
    obtain ⟨d, r, rfl⟩ := List.exists_cons_of_ne_nil hne
    rcases h with rfl | rfl
    · rw [parseUnsigned_nosign max (isDigits_head hd).1 r]
      exact (scan0 _ _ _).mpr ⟨hd, hv, Or.inr hr⟩
    · rw [parseUnsigned_plus max d r]
      exact (scan0 _ _ _).mpr ⟨hd, hv, Or.inr hr⟩

/-- the error kind `empty` ("cannot parse integer from empty string") is answered for the empty string only -/
theorem parseUnsigned_empty_iff (max : Nat) (s : Bytes) : parseUnsigned max s = .error .empty ↔ s = [] := by
  refine ⟨fun h => ?_, by rintro rfl; rfl⟩
  have scan : ∀ ds, scanDigits max 0 ds ≠ .error .empty := fun ds h => by
    rcases scanDigits_error_cases _ _ _ _ h with h' | h' <;> cases h'
  match s with
  | [] => rfl
  | c :: r =>
    by_cases h43 : c = 43
    · subst h43
      cases r with
      | nil => cases h
      | cons d r => exact absurd (parseUnsigned_plus max d r ▸ h) (scan _)
    · exact absurd (parseUnsigned_nosign max h43 r ▸ h) (scan _)

/-- a leading `-` is an invalid digit for the unsigned types; a lone sign is invalid -/
theorem parseUnsigned_minus (max : Nat) (r : Bytes) : parseUnsigned max (45 :: r) = .error .invalid := by
  rw [parseUnsigned_nosign max (c := 45) (by decide) r]
  simp [scanDigits, digitVal]

example : parseUnsigned u64Max (s2b "18446744073709551615") = .ok 18446744073709551615 ∧
    parseUnsigned u64Max (s2b "18446744073709551616") = .error .overflow ∧
    parseUnsigned u64Max (s2b "99999999999999999999x") = .error .overflow ∧
    parseUnsigned u64Max (s2b "x99999999999999999999") = .error .invalid ∧
    parseUnsigned u32Max (s2b "+4294967295") = .ok 4294967295 ∧ parseUnsigned u32Max (s2b "4294967296") = .error .overflow := by
  decide +kernel

/-! ## floats (`str::parse::<f64>`): the accepted language -/

/-- exponent part: empty, or `e` / `E`, an optional sign, at least one digit -/
def ExpSyntax (x : Bytes) : Prop :=
  x = [] ∨ ∃ (e : Nat) (sg ed : Bytes), (e = 101 ∨ e = 69) ∧ (sg = [] ∨ sg = [43] ∨ sg = [45]) ∧ ed ≠ [] ∧
    isDigits ed = true ∧ x = e :: (sg ++ ed)

/-- decimal body: digits, an optional `.digits` part, at least one digit in all, an optional exponent -/
def DecSyntax (b : Bytes) : Prop :=
  ∃ ip fp x : Bytes, isDigits ip = true ∧ isDigits fp = true ∧ ExpSyntax x ∧
    ((b = ip ++ x ∧ fp = [] ∧ ip ≠ []) ∨ (b = ip ++ 46 :: (fp ++ x) ∧ (ip ≠ [] ∨ fp ≠ [])))

/-- the unsigned part of a float literal -/
def AbsSyntax (b : Bytes) : Prop := isSpecialWord b = true ∨ DecSyntax b

/-- the float syntax of Rust's `f64::from_str`: an optional sign, then `inf` / `infinity` / `nan` in any letter
    case or a decimal body -/
def FloatSyntax (s : Bytes) : Prop :=
  ∃ b : Bytes, (s = b ∨ s = 43 :: b ∨ s = 45 :: b) ∧ AbsSyntax b

theorem not_digit_of_exp {x : Bytes} (h : ExpSyntax x) : ∀ c r, x = c :: r → isDigit c = false := by
  intro c r hx
  rcases h with rfl | ⟨e, sg, ed, he, _, _, _, rfl⟩
  · simp at hx
  · simp only [List.cons.injEq] at hx
    rw [← hx.1]
    rcases he with rfl | rfl <;> decide

theorem takeDigits_digits (ds : Bytes) (h : isDigits ds = true) : takeDigits ds = (ds, []) := by
  have := takeDigits_append ds [] h (by simp)
  simpa using this

theorem stripSign_spec (r : Bytes) :
    ∃ sg, (sg = [] ∨ sg = [43] ∨ sg = [45]) ∧ r = sg ++ (stripSign r).2 := by
  match r with
  | [] => exact ⟨[], Or.inl rfl, rfl⟩
  | d :: t =>
    by_cases h45 : d = 45
    · subst h45; exact ⟨[45], Or.inr (Or.inr rfl), rfl⟩
    · by_cases h43 : d = 43
      · subst h43; exact ⟨[43], Or.inr (Or.inl rfl), rfl⟩
      · refine ⟨[], Or.inl rfl, ?_⟩
        unfold stripSign
        split <;> simp_all

theorem stripSign_digits (sg ed : Bytes) (hsg : sg = [] ∨ sg = [43] ∨ sg = [45]) (hd : isDigits ed = true) :
    (stripSign (sg ++ ed)).2 = ed := by
  rcases hsg with rfl | rfl | rfl
  · match ed, hd with
    | [], _ => rfl
    | d :: t, hd =>
      have := isDigits_head hd
      simp only [List.nil_append]
      unfold stripSign
      split <;> simp_all
  · rfl
  · rfl

theorem expOf_isSome_iff (x : Bytes) : (expOf x).isSome = true ↔ ExpSyntax x := by
  constructor
  · intro h
    match x with
    | [] => exact Or.inl rfl
    | c :: r =>
      simp only [expOf] at h
      split at h
      · rename_i hc
        split at h
        · cases h
        · rename_i hbad
          simp only [Bool.or_eq_true, decide_eq_true_eq, not_or, Decidable.not_not, ne_eq, List.length_eq_zero_iff] at hbad
          obtain ⟨sg, hsg, hr⟩ := stripSign_spec r
          obtain ⟨hd, happ, _⟩ := takeDigits_spec (stripSign r).2
          rw [hbad.2, List.append_nil] at happ
          exact Or.inr ⟨c, sg, _, by simpa using hc, hsg, hbad.1, hd, by rw [happ, ← hr]⟩
      · cases h
  · rintro (rfl | ⟨e, sg, ed, he, hsg, hed, hd, rfl⟩)
    · rfl
    · have hc : (e == 101 || e == 69) = true := by rcases he with rfl | rfl <;> decide
      simp [expOf, hc, stripSign_digits sg ed hsg hd, takeDigits_digits ed hd, hed]
theorem fracOf_spec (r1 : Bytes) (h1 : ∀ c r, r1 = c :: r → isDigit c = false) :
    isDigits (fracOf r1).1 = true ∧ (∀ c r, (fracOf r1).2 = c :: r → isDigit c = false) ∧
    ((r1 = 46 :: ((fracOf r1).1 ++ (fracOf r1).2)) ∨ ((fracOf r1).1 = [] ∧ (fracOf r1).2 = r1)) := by
  match r1 with
  | [] => exact ⟨rfl, by simp [fracOf], Or.inr ⟨rfl, rfl⟩⟩
  | c :: r =>
    by_cases hc : c = 46
    · subst hc
      obtain ⟨hd, happ, hrest⟩ := takeDigits_spec r
      exact ⟨hd, hrest, Or.inl (by simp [fracOf, happ])⟩
    · have hf : fracOf (c :: r) = ([], c :: r) := by
        unfold fracOf
        split <;> simp_all
      rw [hf]
      exact ⟨rfl, h1, Or.inr ⟨rfl, rfl⟩⟩

theorem fracOf_exp {x : Bytes} (hx : ExpSyntax x) : fracOf x = ([], x) := by
  rcases hx with rfl | ⟨e, sg, ed, he, _, _, _, rfl⟩
  · rfl
  · rcases he with rfl | rfl <;> rfl

theorem parseF64Abs_isSome (b : Bytes) : (parseF64Abs b).isSome = true ↔ isSpecialWord b = true ∨
    ((takeDigits b).1.length + (fracOf (takeDigits b).2).1.length ≠ 0 ∧
      (expOf (fracOf (takeDigits b).2).2).isSome = true) := by
  unfold parseF64Abs isSpecialWord
  cases b.map upperAscii == s2b "INF" || b.map upperAscii == s2b "INFINITY" <;>
    cases b.map upperAscii == s2b "NAN" <;>
    simp only [Bool.false_eq_true, if_false, if_true, Bool.or_self, Bool.or_false, Bool.false_or,
      Option.isSome_some, true_or, false_or]
  split
  · simp only [Option.isSome_none, Bool.false_eq_true, ne_eq, not_true_eq_false, false_and, *]
  · cases expOf (fracOf (takeDigits b).2).2 <;>
      simp only [Option.isSome_none, Option.isSome_some, ne_eq, not_false_eq_true, and_false, and_true,
        Bool.false_eq_true, *]

/-- the unsigned part: accepted ⇔ a special word or a decimal body -/
theorem parseF64Abs_isSome_iff (b : Bytes) : (parseF64Abs b).isSome = true ↔ AbsSyntax b := by
  rw [parseF64Abs_isSome, expOf_isSome_iff]
  refine or_congr Iff.rfl ?_
  obtain ⟨hip, happ, hr1⟩ := takeDigits_spec b
  obtain ⟨hfp, hr2, hshape⟩ := fracOf_spec (takeDigits b).2 hr1
  constructor
  · -- the decomposition the parser computes is a decimal body
    rintro ⟨hz, hx⟩
    refine ⟨(takeDigits b).1, (fracOf (takeDigits b).2).1, (fracOf (takeDigits b).2).2, hip, hfp, hx, ?_⟩
    rcases hshape with hdot | ⟨hf1, hf2⟩
    · refine Or.inr ⟨by rw [← hdot, happ], ?_⟩
      by_cases hi : (takeDigits b).1 = []
      · exact Or.inr (fun hf => hz (by simp [hi, hf]))
      · exact Or.inl hi
    · exact Or.inl ⟨by rw [hf2, happ], hf1, fun hcon => hz (by simp [hcon, hf1])⟩
  · -- a decimal body is decomposed as it is written: the digit runs are maximal
    rintro ⟨ip, fp, x, hip', hfp', hx, hb⟩
    have hxd := not_digit_of_exp hx
    rcases hb with ⟨hb, hfp0, hipne⟩ | ⟨hb, hne⟩
    · have htd : takeDigits b = (ip, x) := by rw [hb]; exact takeDigits_append ip x hip' hxd
      simp only [htd, fracOf_exp hx]
      exact ⟨by simpa using hipne, hx⟩
    · have htd : takeDigits b = (ip, 46 :: (fp ++ x)) := by
        rw [hb]
        exact takeDigits_append ip _ hip' (by intro c r h; simp only [List.cons.injEq] at h; rw [← h.1]; decide)
      have hfr : fracOf (46 :: (fp ++ x)) = (fp, x) := by
        simp only [fracOf]; exact takeDigits_append fp x hfp' hxd
      simp only [htd, hfr]
      refine ⟨?_, hx⟩
      rcases hne with h | h
      · have : ip.length ≠ 0 := by simpa using h
        omega
      · have : fp.length ≠ 0 := by simpa using h
        omega

theorem absSyntax_head {b : Bytes} (h : AbsSyntax b) : ∀ c r, b = c :: r → c ≠ 43 ∧ c ≠ 45 := by
  intro c r hb
  subst hb
  rcases h with h | ⟨ip, fp, x, hip, hfp, hx, hb⟩
  · simp only [isSpecialWord, List.map_cons, Bool.or_eq_true, beq_iff_eq] at h
    have hup : upperAscii c = 73 ∨ upperAscii c = 78 := by
      rcases h with (h | h) | h <;> (have := congrArg List.head? h; simp [s2b] at this; omega)
    unfold upperAscii at hup
    split at hup <;> omega
  · rcases hb with ⟨hb, _, hipne⟩ | ⟨hb, _⟩
    · match ip, hipne, hip with
      | d :: t, _, hip =>
        simp only [List.cons_append, List.cons.injEq] at hb
        have := isDigits_head hip
        omega
    · match ip, hip with
      | [], _ => simp only [List.nil_append, List.cons.injEq] at hb; omega
      | d :: t, hip =>
        simp only [List.cons_append, List.cons.injEq] at hb
        have := isDigits_head hip
        omega

theorem parseF64_minus (r : Bytes) : (parseF64 (45 :: r)).isSome = (parseF64Abs r).isSome := by
  simp [parseF64]

theorem parseF64_plus (r : Bytes) : parseF64 (43 :: r) = parseF64Abs r := by
  simp [parseF64]

theorem parseF64_nosign {c : Nat} (h43 : c ≠ 43) (h45 : c ≠ 45) (r : Bytes) :
    parseF64 (c :: r) = parseF64Abs (c :: r) := by
  unfold parseF64
  split <;> simp_all

/-- accepted language of a float argument, for every byte string: exactly the float syntax of Rust -/
theorem parseF64_accepts_iff (s : Bytes) : (parseF64 s).isSome = true ↔ FloatSyntax s := by
  constructor
  · intro h
    match s with
    | [] => cases h
    | c :: r =>
      by_cases h45 : c = 45
      · subst h45
        rw [parseF64_minus r] at h
        exact ⟨r, Or.inr (Or.inr rfl), (parseF64Abs_isSome_iff r).mp h⟩
      · by_cases h43 : c = 43
        · subst h43
          rw [parseF64_plus r] at h
          exact ⟨r, Or.inr (Or.inl rfl), (parseF64Abs_isSome_iff r).mp h⟩
        · rw [parseF64_nosign h43 h45 r] at h
          exact ⟨c :: r, Or.inl rfl, (parseF64Abs_isSome_iff _).mp h⟩
  · rintro ⟨b, h, hb⟩
    have hb' := (parseF64Abs_isSome_iff b).mpr hb
    rcases h with rfl | rfl | rfl
    · cases s with
      | nil => exact absurd hb' (by decide)
      | cons c r =>
        rw [parseF64_nosign (absSyntax_head hb c r rfl).1 (absSyntax_head hb c r rfl).2 r]
        exact hb'
    · rw [parseF64_plus b]; exact hb'
    · rw [parseF64_minus b]; exact hb'

/-- non-vacuity: the corner spellings -/
example : FloatSyntax (s2b "-1.5e+3") :=
  (parseF64_accepts_iff _).mp (by decide +kernel)

example : (parseF64 (s2b ".5")).isSome = true ∧ (parseF64 (s2b "5.")).isSome = true ∧ (parseF64 (s2b ".")).isSome = false ∧
    (parseF64 (s2b "1e")).isSome = false ∧ (parseF64 (s2b "1e+")).isSome = false ∧ (parseF64 (s2b "+inf")).isSome = true ∧
    (parseF64 (s2b "-NaN")).isSome = true ∧ (parseF64 (s2b "infinit")).isSome = false ∧ (parseF64 (s2b "1_0")).isSome = false ∧
    (parseF64 (s2b " 1")).isSome = false ∧ (parseF64 (s2b "0x10")).isSome = false ∧ (parseF64 (s2b "+-1")).isSome = false := by
  decide +kernel

/-- the value model on the integers that matter to the grammar's users (scores, increments): pinned at the
    boundaries — 2^53 and 2^53+1 round to the same double, 0.1 is the well-known pattern, the largest finite
    literal and the first overflowing one -/
theorem parseF64_small_integers_exact :
    parseF64 (s2b "0") = some 0 ∧ parseF64 (s2b "1") = some 0x3FF0000000000000 ∧ parseF64 (s2b "-2") = some 0xC000000000000000 ∧
    parseF64 (s2b "9007199254740992") = some 0x4340000000000000 ∧ parseF64 (s2b "9007199254740993") = some 0x4340000000000000 ∧
    parseF64 (s2b "0.1") = some 0x3FB999999999999A ∧
    parseF64 (s2b "1.7976931348623157e308") = some 0x7FEFFFFFFFFFFFFF ∧ parseF64 (s2b "1.7976931348623159e308") = some infBits ∧
    parseF64 (s2b "4.9e-324") = some 1 ∧ parseF64 (s2b "2.4e-324") = some 0 := by
  decide +kernel

end C16
end RedisVerif
