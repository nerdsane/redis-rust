import RedisVerif.Props.C08

/-!
# C08 at the u64 boundary of the Lamport time

`LamportClock.time` is a `u64`; `tick` is `self.time += 1`, `update` is
`self.time = self.time.max(other.time) + 1`.  The shard model (`Model/Replica.lean`) uses `Nat`.

* `clock_u64_exact` — as long as `max(start, every stamp handed in) + number of operations` stays
  below 2^64, the machine arithmetic (wrapping — the release profile — or checked — `overflow-checks`,
  the profile the harness builds /repo with) computes exactly the `Nat` clock at every step, so
  every theorem of `Props/C08.lean` is a theorem about the u64 clock for such histories.
* `clock_u64_overflow_counterexample` — ONE delta stamped `u64::MAX` from a peer (arbitrary
  stamps are in the property's quantifier): `update` overflows — the checked build panics (the
  shard actor dies), the release build wraps the clock to 0 and the node's next write is stamped
  (1, r): below the value it has just stored, it loses on every replica.  Known finding
  `C08:clock:u64-overflow`.
-/
namespace RedisVerif
namespace C08

/-- 2^64 -/
def u64Bound : Nat := 18446744073709551616

/-- the two operations that move a Lamport clock -/
inductive ClockOp where
  | tick
  | update (t : Nat)
  deriving DecidableEq, Repr

/-- exact (`Nat`) clock -/
def clockStep (c : Nat) : ClockOp → Nat
  | .tick => c + 1
  | .update t => Max.max c t + 1

/-- release profile: wrapping `u64` arithmetic -/
def clockStepWrap (c : Nat) (o : ClockOp) : Nat := clockStep c o % u64Bound

/-- `overflow-checks = true`: `none` = panic "attempt to add with overflow" -/
def clockStepChecked (c : Nat) (o : ClockOp) : Option Nat :=
  if clockStep c o < u64Bound then some (clockStep c o) else none

def clockRun (c : Nat) (ops : List ClockOp) : Nat := ops.foldl clockStep c
def clockRunWrap (c : Nat) (ops : List ClockOp) : Nat := ops.foldl clockStepWrap c
def clockRunChecked (c : Nat) (ops : List ClockOp) : Option Nat :=
  ops.foldl (fun acc o => acc.bind (fun c => clockStepChecked c o)) (some c)

/-- the largest stamp handed in -/
def maxIn : List ClockOp → Nat
  | [] => 0
  | .tick :: ops => maxIn ops
  | .update t :: ops => Max.max t (maxIn ops)

theorem clockStep_le (c : Nat) (o : ClockOp) (ops : List ClockOp) :
    Max.max (clockStep c o) (maxIn ops) + ops.length ≤ Max.max c (maxIn (o :: ops)) + (o :: ops).length := by
  cases o with
  | tick => simp only [clockStep, maxIn, List.length_cons]; omega
  | update t => simp only [clockStep, maxIn, List.length_cons]; omega

/-- **below the bound the u64 clock is the exact clock**, wrapping or checked, at the end of every
    history (hence at every step: a prefix has a smaller bound) -/
theorem clock_u64_exact (ops : List ClockOp) : ∀ (c : Nat),
    Max.max c (maxIn ops) + ops.length < u64Bound →
    clockRunWrap c ops = clockRun c ops ∧ clockRunChecked c ops = some (clockRun c ops) := by
  induction ops with
  | nil => intro c _; exact ⟨rfl, rfl⟩
  | cons o ops ih =>
    intro c h
    have hle := clockStep_le c o ops
    have hstep : clockStep c o < u64Bound := by
      have : clockStep c o ≤ Max.max (clockStep c o) (maxIn ops) + ops.length := by omega
      omega
    have := ih (clockStep c o) (by omega)
    simp only [clockRunWrap, clockRun, clockRunChecked, List.foldl_cons] at this ⊢
    have hw : clockStepWrap c o = clockStep c o := by
      simp only [clockStepWrap]; exact Nat.mod_eq_of_lt hstep
    have hc : (some c).bind (fun c => clockStepChecked c o) = some (clockStep c o) := by
      simp [clockStepChecked, hstep]
    rw [hw, hc]
    exact this

/-- **known finding C08:clock:u64-overflow**: a peer's delta stamped `u64::MAX`, then a local write -/
theorem clock_u64_overflow_counterexample :
    clockRunChecked 0 [.update (u64Bound - 1)] = none ∧
    clockRunWrap 0 [.update (u64Bound - 1), .tick] = 1 ∧
    -- the exact clock would have stamped the write above what was seen
    clockRun 0 [.update (u64Bound - 1), .tick] = u64Bound + 1 ∧
    -- one step earlier nothing overflows yet: MAX − 2 → the write is stamped MAX
    clockRunChecked 0 [.update (u64Bound - 3), .tick] = some (u64Bound - 1) ∧
    clockRunChecked 0 [.update (u64Bound - 3), .tick, .tick] = none := by
  decide

example : clockRun 0 [.tick, .update 5, .tick] = 7 ∧ maxIn [.tick, .update 5, .tick] = 5 := by decide

end C08
end RedisVerif
