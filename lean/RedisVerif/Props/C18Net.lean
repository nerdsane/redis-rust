import RedisVerif.Lemmas.AENet
import RedisVerif.Lemmas.Converge
import RedisVerif.Props.C18

/-!
# C18, session level — `k` anti-entropy managers, ANY interleaving

Model: `AE.Net` (`Model/AENet.lean`): any number of nodes, each with its `AntiEntropyManager`
(`AE.Mgr`) and its replicated state; every digest / request / response ever produced stays in a
register and may be consumed at any later time, any number of times, by any node; every action
carries an arbitrary `HashMap` iteration order; local writes between any two steps.  `Net.step`
composes exactly the `Mgr.*` functions the driver runs for the `M*` op lines; an interleaving is a
list of actions (`Net.run`).

The theorems hold for EVERY list of actions (no bound on nodes, actions, keys; any per-round limit,
any requested bucket lists, any generations / stale digests; late, duplicated, reordered,
misdelivered, lost messages), for values in a carrier on which `ReplicatedValue::merge` is
associative, commutative and idempotent (C07: well-formed values, one CRDT kind per key, registers
from a consistent universe — `aci_rv`): states only grow, the merge of all states is conserved
unless somebody writes, and a round of complete pulls leaves that merge on every node.
-/
namespace RedisVerif
namespace C18

open AE

/-! ## the invariant -/

/-- every store is well-formed with values in the carrier of their key; every delta of every
    response ever produced is in the carrier and below what SOME node currently holds -/
def NetInv' (C : Nat → RV → Prop) (nodes : List NetNode) (resps : List (Nat × Response)) : Prop :=
  (∀ nd ∈ nodes, StoreOK C nd.st)
  ∧ ∀ p ∈ resps, ∀ d ∈ p.2.deltas, C d.1 d.2 ∧ ∃ nd ∈ nodes, ole (some d.2) (NMap.get nd.st d.1)

def NetInv (C : Nat → RV → Prop) (net : Net) : Prop := NetInv' C net.nodes net.resps

/-- node by node, the state only grows -/
def Grows (a b : List NetNode) : Prop :=
  a.length = b.length ∧ ∀ (i : Nat) (nd nd' : NetNode), a[i]? = some nd → b[i]? = some nd' → StLe nd.st nd'.st

/-- a local write puts a value of the key's carrier -/
def ActOK (C : Nat → RV → Prop) : NetAct → Prop
  | .put _ k v => C k v
  | _ => True

theorem actOK_of_not_put {C : Nat → RV → Prop} {a : NetAct} (h : a.isPut = false) : ActOK C a := by
  cases a <;> first | exact trivial | cases h

/-- the merge of all nodes' values for key `k` -/
def joinOf (nodes : List NetNode) (k : Nat) : Option RV :=
  (nodes.map fun nd => NMap.get nd.st k).foldl (optMerge RV.merge) none

theorem joinAt_eq (net : Net) (k : Nat) : net.joinAt k = joinOf net.nodes k := rfl

section
variable {C : Nat → RV → Prop} (hC : ∀ k, ACI RV.merge (C k))
include hC

theorem inv_set {nodes : List NetNode} {resps : List (Nat × Response)} {n : Nat} {nd nd' : NetNode}
    (hi : NetInv' C nodes resps) (hn : nodes[n]? = some nd) (hst : StoreOK C nd'.st) (hle : StLe nd.st nd'.st) :
    NetInv' C (nodes.set n nd') resps := by
  have hnd : StoreOK C nd.st := hi.1 nd (List.mem_of_getElem? hn)
  refine ⟨?_, ?_⟩
  · intro x hx
    rcases List.mem_or_eq_of_mem_set hx with hx | rfl
    · exact hi.1 x hx
    · exact hst
  · intro p hp d hd
    obtain ⟨hc, nd0, hnd0, hle0⟩ := hi.2 p hp d hd
    refine ⟨hc, ?_⟩
    rcases mem_set_of_mem (b := nd') hn hnd0 with h | h
    · exact ⟨nd0, h, hle0⟩
    · subst h
      exact ⟨nd', mem_set_self hn,
        (hC d.1).opt.le_trans (ACI.opt_some hc) (hnd.oc d.1) (hst.oc d.1) hle0 (hle d.1)⟩

theorem inv_add_resp {nodes : List NetNode} {resps : List (Nat × Response)} {rid : Nat} {r : Response}
    (hi : NetInv' C nodes resps) (hr : ∀ d ∈ r.deltas, ∃ nd ∈ nodes, NMap.get nd.st d.1 = some d.2) :
    NetInv' C nodes (putReg resps rid r) := by
  refine ⟨hi.1, ?_⟩
  intro p hp d hd
  rcases mem_putReg hp with rfl | hp
  · obtain ⟨nd, hnd, hg⟩ := hr d hd
    have hc : C d.1 d.2 := (hi.1 nd hnd).2 d.1 d.2 hg
    exact ⟨hc, nd, hnd, by rw [hg]; exact (hC d.1).opt.le_refl (ACI.opt_some hc)⟩
  · exact hi.2 p hp d hd

theorem grows_refl {nodes : List NetNode} (h : ∀ nd ∈ nodes, StoreOK C nd.st) : Grows nodes nodes := by
  refine ⟨rfl, ?_⟩
  intro i nd nd' h1 h2
  cases h1.symm.trans h2
  exact stLe_refl hC (h nd (List.mem_of_getElem? h1))

theorem grows_set {nodes : List NetNode} {n : Nat} {nd nd' : NetNode} (h : ∀ x ∈ nodes, StoreOK C x.st)
    (hn : nodes[n]? = some nd) (hle : StLe nd.st nd'.st) : Grows nodes (nodes.set n nd') := by
  refine ⟨by rw [List.length_set], ?_⟩
  intro i x x' h1 h2
  by_cases hin : i = n
  · subst hin
    cases hn.symm.trans h1
    cases (List.getElem?_set_self (List.getElem?_eq_some_iff.mp hn).1).symm.trans h2
    exact hle
  · rw [List.getElem?_set_ne (Ne.symm hin)] at h2
    cases h1.symm.trans h2
    exact stLe_refl hC (h x (List.mem_of_getElem? h1))

theorem grows_trans {a b c : List NetNode} (ha : ∀ x ∈ a, StoreOK C x.st) (hb : ∀ x ∈ b, StoreOK C x.st)
    (hc : ∀ x ∈ c, StoreOK C x.st) (h1 : Grows a b) (h2 : Grows b c) : Grows a c := by
  refine ⟨h1.1.trans h2.1, ?_⟩
  intro i x z hx hz
  have hlt : i < b.length := h1.1 ▸ (List.getElem?_eq_some_iff.mp hx).1
  have hy : b[i]? = some b[i] := List.getElem?_eq_getElem hlt
  exact stLe_trans hC (ha x (List.mem_of_getElem? hx)) (hb _ (List.mem_of_getElem? hy)) (hc z (List.mem_of_getElem? hz))
    (h1.2 i x _ hx hy) (h2.2 i _ z hy hz)

theorem join_set_merge {nodes : List NetNode} {n : Nat} {nd nd' : NetNode} (h : ∀ y ∈ nodes, StoreOK C y.st)
    (hn : nodes[n]? = some nd) (hst : StoreOK C nd'.st) (k : Nat) {x : Option RV} (hx : ACI.Opt (C k) x)
    (hg : NMap.get nd'.st k = optMerge RV.merge (NMap.get nd.st k) x) :
    joinOf (nodes.set n nd') k = optMerge RV.merge (joinOf nodes k) x := by
  have hA := (hC k).opt
  have h' : ∀ y ∈ nodes.set n nd', StoreOK C y.st := fun y hy => (List.mem_or_eq_of_mem_set hy).elim (h y) (· ▸ hst)
  have hJ := joinAt_oc hC h k
  have hJ' := joinAt_oc hC h' k
  have hnd := (h nd (List.mem_of_getElem? hn)).oc k
  have hU := hA.closed _ _ hJ hx
  have hself : ole (optMerge RV.merge (NMap.get nd.st k) x) (joinOf (nodes.set n nd') k) :=
    hg ▸ joinAt_upper hC h' k nd' (mem_set_self hn)
  apply hA.le_antisymm hJ' hU
  · apply joinAt_least hC h' k hU
    intro y hy
    rcases List.mem_or_eq_of_mem_set hy with hy | rfl
    · exact hA.le_trans ((h y hy).oc k) hJ hU (joinAt_upper hC h k y hy) (hA.le_merge_left hJ hx)
    · rw [hg]
      exact hA.merge_le hnd hx hU (hA.le_trans hnd hJ hU (joinAt_upper hC h k nd (List.mem_of_getElem? hn))
        (hA.le_merge_left hJ hx)) (hA.le_merge_right hJ hx)
  · apply hA.merge_le hJ hx hJ'
    · apply joinAt_least hC h k hJ'
      intro y hy
      rcases mem_set_of_mem (b := nd') hn hy with hy' | rfl
      · exact joinAt_upper hC h' k y hy'
      · exact hA.le_trans hnd (hA.closed _ _ hnd hx) hJ' (hA.le_merge_left hnd hx) hself
    · exact hA.le_trans hx (hA.closed _ _ hnd hx) hJ' (hA.le_merge_right hnd hx) hself

theorem join_set {nodes : List NetNode} {n : Nat} {nd nd' : NetNode} (h : ∀ x ∈ nodes, StoreOK C x.st)
    (hn : nodes[n]? = some nd) (hst : StoreOK C nd'.st) (hle : StLe nd.st nd'.st)
    (k : Nat) (hb : ole (NMap.get nd'.st k) (joinOf nodes k)) :
    joinOf (nodes.set n nd') k = joinOf nodes k :=
  (join_set_merge hC h hn hst k (hst.oc k) (hle k).symm).trans
    ((hC k).opt.absorb (joinAt_oc hC h k) (hst.oc k) hb)

theorem step_merge {nodes : List NetNode} {resps : List (Nat × Response)} {n : Nat} {nd nd' : NetNode}
    {ds : List (Nat × RV)} (hi : NetInv' C nodes resps) (hn : nodes[n]? = some nd)
    (hst : nd'.st = applyDeltas nd.st ds) (hd : ∀ d ∈ ds, C d.1 d.2) :
    NetInv' C (nodes.set n nd') resps ∧ Grows nodes (nodes.set n nd')
      ∧ ((∀ d ∈ ds, ∃ x ∈ nodes, ole (some d.2) (NMap.get x.st d.1)) →
          ∀ k, joinOf (nodes.set n nd') k = joinOf nodes k) := by
  have hnd : StoreOK C nd.st := hi.1 nd (List.mem_of_getElem? hn)
  have ⟨h1, h2⟩ := applyDeltas_ok hC hnd hd
  rw [← hst] at h1 h2
  refine ⟨inv_set hC hi hn h1 h2, grows_set hC hi.1 hn h2, ?_⟩
  intro hbel k
  apply join_set hC hi.1 hn h1 h2 k
  rw [hst]
  revert k
  apply applyDeltas_below hC hnd hd (fun k => joinAt_oc hC hi.1 k)
  · intro k; exact joinAt_upper hC hi.1 k nd (List.mem_of_getElem? hn)
  · intro d hdm
    obtain ⟨x, hx, hle⟩ := hbel d hdm
    exact (hC d.1).opt.le_trans (ACI.opt_some (hd d hdm)) ((hi.1 x hx).oc d.1) (joinAt_oc hC hi.1 d.1) hle
      (joinAt_upper hC hi.1 d.1 x hx)

theorem step_same_st {nodes : List NetNode} {resps : List (Nat × Response)} {n : Nat} {nd nd' : NetNode}
    (hi : NetInv' C nodes resps) (hn : nodes[n]? = some nd) (hst : nd'.st = nd.st) :
    NetInv' C (nodes.set n nd') resps ∧ Grows nodes (nodes.set n nd')
      ∧ ∀ k, joinOf (nodes.set n nd') k = joinOf nodes k :=
  have h := step_merge hC (ds := []) hi hn hst (fun _ h => nomatch h)
  ⟨h.1, h.2.1, h.2.2 (fun _ h => nomatch h)⟩

/-- **one action** keeps the invariant, only grows every node's state, and — unless it is a local
    write — leaves the merge of all states unchanged -/
theorem step_ok (H : Hasher) (net : Net) (act : NetAct) (hi : NetInv C net) (ha : ActOK C act) :
    NetInv C (net.step H act) ∧ Grows net.nodes (net.step H act).nodes
      ∧ (act.isPut = false → ∀ k, (net.step H act).joinAt k = net.joinAt k) := by
  have hrefl : NetInv C net ∧ Grows net.nodes net.nodes ∧ (act.isPut = false → ∀ k, net.joinAt k = net.joinAt k) :=
    ⟨hi, grows_refl hC hi.1, fun _ _ => rfl⟩
  -- an action that names a missing node or register, and `dig`, leave nodes and answers as they are
  cases act <;> simp only [Net.step] <;> split <;> try exact hrefl
  · -- `put`
    rename_i n k v _ nd hn
    have := step_merge hC (nd' := { nd with st := applyDelta nd.st (k, v), mgr := nd.mgr.onLocalWrite })
      (ds := [(k, v)]) hi hn rfl (fun d hd => List.mem_singleton.mp hd ▸ ha)
    exact ⟨this.1, this.2.1, fun h => nomatch h⟩
  · -- `heal`
    rename_i n peer _ nd hn
    have := step_same_st hC (nd' := { nd with mgr := nd.mgr.onPartitionHealed peer }) hi hn rfl
    exact ⟨this.1, this.2.1, fun _ => this.2.2⟩
  · -- `proc`
    rename_i n id π _ _ nd pd hn _
    have := step_same_st hC (nd' := { nd with
      mgr := (nd.mgr.processPeerDigest pd (nd.mgr.generateDigest H π nd.st)).1,
      verdict := (nd.mgr.processPeerDigest pd (nd.mgr.generateDigest H π nd.st)).2 }) hi hn rfl
    exact ⟨this.1, this.2.1, fun _ => this.2.2⟩
  · -- `req`
    rename_i id n peer full now π _ nd hn
    have := step_same_st hC (nd' := { nd with
      mgr := (nd.mgr.createSyncRequest peer (nd.mgr.generateDigest H π nd.st) (if full then none else nd.verdict) now).1 }) hi hn rfl
    exact ⟨this.1, this.2.1, fun _ => this.2.2⟩
  · -- `handle`: the answer consists of entries of the responder's state
    rename_i rid n qid π _ _ nd rq hn _
    have h1 := step_same_st hC (nd' := { nd with mgr := (nd.mgr.handleSyncRequest H rq π nd.st).1 }) hi hn rfl
    refine ⟨inv_add_resp hC h1.1 fun d hd => ⟨_, mem_set_self hn, ?_⟩, h1.2.1, fun _ => h1.2.2⟩
    exact mem_iter ((response_sublist_iter currentRespOrder H currentStream _ _ π nd.st rq.buckets).subset hd)
  · -- `apply`
    rename_i n rid _ _ nd rs hn hr
    have hmem := NMap.mem_of_get (lookup_of_get _ ▸ hr)
    have := step_merge hC (nd' := { nd with st := applyDeltas nd.st rs.deltas }) (ds := rs.deltas) hi hn rfl
      (fun d hd => (hi.2 _ hmem d hd).1)
    exact ⟨this.1, this.2.1, fun _ => this.2.2 (fun d hd => (hi.2 _ hmem d hd).2)⟩

/-- **a local write is the ONLY way the session-wide merge changes, and it changes it by exactly
    the written value**: after `put n k v` on an existing node the merge of all states is
    `merge(before, v)` for key `k` and unchanged for every other key -/
theorem put_joins_exactly (H : Hasher) (net : Net) (n k : Nat) (v : RV) (nd : NetNode) (hi : NetInv C net)
    (hn : net.nodes[n]? = some nd) (hv : C k v) (k' : Nat) :
    (net.step H (.put n k v)).joinAt k'
      = if k' = k then optMerge RV.merge (net.joinAt k) (some v) else net.joinAt k' := by
  have hst' : StoreOK C (applyDelta nd.st (k, v)) :=
    storeOK_applyDelta hC (hi.1 nd (List.mem_of_getElem? hn)) hv
  simp only [Net.step, hn, joinAt_eq]
  rw [join_set_merge hC hi.1 hn hst' k' (oc_deltaAt (d := (k, v)) hv k') (get_applyDelta_opt nd.st (k, v) k'), deltaAt]
  split
  · rename_i hk; rw [hk]
  · cases joinOf net.nodes k' <;> rfl

/-! ## any interleaving -/

/-- **C18 (session safety)**: for ANY list of actions of ANY number of managers: every store
    stays well-formed in the carrier, every answer ever produced stays below what some node
    holds, and every node's state only grows — nothing a replica holds is ever lost, rolled back
    or replaced by something that is not a merge of what it had with what a peer held. -/
theorem session_safe (H : Hasher) (net : Net) (acts : List NetAct) (hi : NetInv C net)
    (ha : ∀ a ∈ acts, ActOK C a) :
    NetInv C (net.run H acts) ∧ Grows net.nodes (net.run H acts).nodes := by
  induction acts generalizing net with
  | nil => exact ⟨hi, grows_refl hC hi.1⟩
  | cons a as ih =>
    have h1 := step_ok hC H net a hi (ha a (by simp))
    have h2 := ih (net.step H a) h1.1 (fun b hb => ha b (by simp [hb]))
    exact ⟨h2.1, grows_trans hC hi.1 h1.1.1 h2.1.1 h1.2.1 h2.2⟩

/-- **C18 (the session conserves the merge)**: without local writes, after ANY list of actions
    the merge of all nodes' states is, key by key, what it was at the start. -/
theorem session_conserves_join (H : Hasher) (net : Net) (acts : List NetAct) (hi : NetInv C net)
    (hw : ∀ a ∈ acts, a.isPut = false) (k : Nat) :
    (net.run H acts).joinAt k = net.joinAt k := by
  induction acts generalizing net with
  | nil => rfl
  | cons a as ih =>
    have h1 := step_ok hC H net a hi (actOK_of_not_put (hw a (by simp)))
    have h2 := ih (net.step H a) h1.1 (fun b hb => hw b (by simp [hb]))
    exact h2.trans (h1.2.2 (hw a (by simp)) k)

theorem joinOf_all_equal {nodes : List NetNode} {X : NMap RV} (hX : StoreOK C X) (hne : nodes ≠ [])
    (h : ∀ nd ∈ nodes, nd.st = X) (k : Nat) : joinOf nodes k = NMap.get X k := by
  have hs : ∀ nd ∈ nodes, StoreOK C nd.st := fun nd hnd => by rw [h nd hnd]; exact hX
  apply (hC k).opt.le_antisymm (joinAt_oc hC hs k) (hX.oc k)
  · apply joinAt_least hC hs k (hX.oc k)
    intro nd hnd; rw [h nd hnd]; exact (hC k).opt.le_refl (hX.oc k)
  · obtain ⟨nd, hnd⟩ := List.exists_mem_of_ne_nil nodes hne
    have := joinAt_upper hC hs k nd hnd
    rw [h nd hnd] at this
    exact this

/-- **C18 (a quiescent session is merged)**: if, after ANY interleaving without local writes, all
    nodes hold the same state `X`, then `X` is key by key the merge of ALL the states the session
    started from: "all in sync" can only mean "everybody holds everything". -/
theorem session_quiescent_is_merged (H : Hasher) (net : Net) (acts : List NetAct) (hi : NetInv C net)
    (hw : ∀ a ∈ acts, a.isPut = false) (hne : net.nodes ≠ []) (X : NMap RV)
    (hq : ∀ nd ∈ (net.run H acts).nodes, nd.st = X) (k : Nat) :
    NMap.get X k = net.joinAt k := by
  have hs := session_safe hC H net acts hi (fun a ha => actOK_of_not_put (hw a ha))
  have hne' : (net.run H acts).nodes ≠ [] := by
    intro h0
    have := hs.2.1
    rw [h0] at this
    exact hne (List.eq_nil_of_length_eq_zero this)
  obtain ⟨nd, hnd⟩ := List.exists_mem_of_ne_nil _ hne'
  have hX : StoreOK C X := by rw [← hq nd hnd]; exact hs.1.1 nd hnd
  rw [← session_conserves_join hC H net acts hi hw k, joinAt_eq, joinOf_all_equal hC hX hne' hq k]

end

/-! ## the carrier exists: `ReplicatedValue::merge` on one CRDT kind per key -/

/-- the carrier of C07 / C06: well-formed values of the kind `K k` assigned to key `k`, registers
    from a consistent universe `R` -/
def kindCarrier (K : Nat → Nat) (R : List (Nat × Lww)) : Nat → RV → Prop := fun k => InCarrier (K k) R

theorem kindCarrier_aci (K : Nat → Nat) (R : List (Nat × Lww)) (hR : RegsConsistent R) :
    ∀ k, ACI RV.merge (kindCarrier K R k) := fun k => aci_rv (K k) R hR

/-- `session_quiescent_is_merged` for `ReplicatedValue::merge` on the carrier of C07 (one kind per key,
    registers from a consistent universe) -/
theorem session_quiescent_is_merged_rv (K : Nat → Nat) (R : List (Nat × Lww)) (hR : RegsConsistent R)
    (H : Hasher) (net : Net) (acts : List NetAct) (hi : NetInv (kindCarrier K R) net)
    (hw : ∀ a ∈ acts, a.isPut = false) (hne : net.nodes ≠ []) (X : NMap RV)
    (hq : ∀ nd ∈ (net.run H acts).nodes, nd.st = X) (k : Nat) :
    NMap.get X k = net.joinAt k :=
  session_quiescent_is_merged (kindCarrier_aci K R hR) H net acts hi hw hne X hq k

/-- a fresh session satisfies the invariant as soon as its stores do -/
theorem netInv_init (C : Nat → RV → Prop) (depth limit interval : Nat) (auto : Bool) (sts : List (NMap RV))
    (h : ∀ s ∈ sts, StoreOK C s) : NetInv C (Net.init depth limit interval auto sts) := by
  refine ⟨?_, ?_⟩
  · intro nd hnd
    simp only [Net.init, List.mem_map] at hnd
    obtain ⟨p, hp, rfl⟩ := hnd
    exact h p.1 (List.mem_zipIdx hp |>.2.2 ▸ List.getElem_mem _)
  · intro p hp; simp [Net.init] at hp

/-! ## liveness: a round of complete pulls converges, from any reachable state -/

theorem lookup_putReg {α : Type} (l : List (Nat × α)) (k : Nat) (v : α) : (putReg l k v).lookup k = some v := by
  simp [putReg]

theorem step_length (H : Hasher) (net : Net) (act : NetAct) : (net.step H act).nodes.length = net.nodes.length := by
  cases act <;> simp only [Net.step] <;> repeat' split
  all_goals first | rfl | simp only [List.length_set]

theorem run_length (H : Hasher) (net : Net) (acts : List NetAct) : (net.run H acts).nodes.length = net.nodes.length := by
  induction acts generalizing net with
  | nil => rfl
  | cons a as ih => exact (ih (net.step H a)).trans (step_length H net a)

/-- the five actions of a full-state pull `r ← p` (ANY registers, ANY clock value, ANY iteration
    order of the requester, a valid one of the responder) whose limit covers the responder's state:
    node `r` merges every entry of `p`'s state, no other state changes -/
theorem full_pull_state (H : Hasher) (net : Net) (id r p pRid now : Nat) (πr πp : List Nat) (ndr ndp : NetNode)
    (hr : net.nodes[r]? = some ndr) (hp : net.nodes[p]? = some ndp) (hrp : r ≠ p)
    (hwf : NMap.WF ndp.st) (hπ : ValidOrder πp ndp.st)
    (hl : ndp.st.length ≤ effectiveLimit currentLimitAtLeastOne ndp.mgr.limit) (i : Nat) :
    ((net.run H (pullActs id r p pRid true now πr πp)).nodes[i]?).map (·.st)
      = if i = r then some (applyDeltas ndr.st (iter πp ndp.st)) else (net.nodes[i]?).map (·.st) := by
  have hrl := (List.getElem?_eq_some_iff.mp hr).1
  have hpl := (List.getElem?_eq_some_iff.mp hp).1
  have hlen : (iter πp ndp.st).length ≤ effectiveLimit currentLimitAtLeastOne ndp.mgr.limit := by
    rw [(iter_valid_perm hwf hπ).length_eq]; exact hl
  simp only [Net.run, pullActs, List.foldl_cons, List.foldl_nil, Net.step, hr, hp, lookup_putReg,
    List.getElem?_set_self, List.getElem?_set_ne, hrl, hrp, Ne.symm hrp, ne_eq, not_false_eq_true,
    if_true, List.set_set]
  have hd : ∀ (m : Mgr) (rq : Request), rq.buckets = none → m.limit = ndp.mgr.limit →
      (Mgr.handleSyncRequest H m rq πp ndp.st).2.deltas = iter πp ndp.st := by
    intro m rq hb hm
    show responseKeysWith currentRespOrder H currentStream _ (effectiveLimit currentLimitAtLeastOne m.limit) πp ndp.st rq.buckets = _
    rw [hb, hm]; simp only [responseKeysWith]; exact List.take_of_length_le hlen
  rw [hd _ _ rfl rfl]
  by_cases hi : i = r
  · subst hi
    rw [List.getElem?_set_self (by simp only [List.length_set]; exact hrl)]
    simp
  · rw [List.getElem?_set_ne (Ne.symm hi)]
    by_cases hip : i = p
    · subst hip
      rw [List.getElem?_set_self (by simp only [List.length_set]; exact hpl)]
      simp [hi, hp]
    · rw [List.getElem?_set_ne (Ne.symm hip), List.getElem?_set_ne (Ne.symm hi)]
      simp [hi]

/-- the value node `i` holds for key `k` -/
def valAt (nodes : List NetNode) (i k : Nat) : Option RV :=
  match (nodes[i]?).map (·.st) with
  | some s => NMap.get s k
  | none => none

/-- a complete full-state pull `r ← p`: the five protocol actions, limit ≥ the responder's state -/
inductive FullPull (H : Hasher) (r p : Nat) : Net → Net → Prop where
  | mk (net : Net) (id pRid now : Nat) (πr πp : List Nat) (ndr ndp : NetNode)
      (hr : net.nodes[r]? = some ndr) (hp : net.nodes[p]? = some ndp) (hrp : r ≠ p)
      (hwf : NMap.WF ndp.st) (hπ : ValidOrder πp ndp.st)
      (hl : ndp.st.length ≤ effectiveLimit currentLimitAtLeastOne ndp.mgr.limit) :
      FullPull H r p net (net.run H (pullActs id r p pRid true now πr πp))

/-- what one complete pull does to the values: `r` holds `merge(own, p's)`, nothing else moves -/
def pullV (V : Nat → Nat → Option RV) (r p : Nat) : Nat → Nat → Option RV :=
  fun i k => if i = r then optMerge RV.merge (V r k) (V p k) else V i k

theorem fullPull_vals {H : Hasher} {r p : Nat} {net net' : Net} (h : FullPull H r p net net') :
    net'.nodes.length = net.nodes.length ∧ ∀ i k, valAt net'.nodes i k = pullV (valAt net.nodes) r p i k := by
  cases h with
  | mk id pRid now πr πp ndr ndp hr hp hrp hwf hπ hl =>
    refine ⟨run_length H net _, fun i k => ?_⟩
    unfold pullV valAt
    rw [full_pull_state H net id r p pRid now πr πp ndr ndp hr hp hrp hwf hπ hl i]
    by_cases hi : i = r
    · subst hi
      simp only [if_true, hr, hp, Option.map_some]
      exact get_applyDeltas_iter ndr.st hwf hπ k
    · rw [if_neg hi, if_neg hi]

/-- a sequence of complete pulls, `(r, p)` = `r ← p` -/
inductive PullChain (H : Hasher) : List (Nat × Nat) → Net → Net → Prop where
  | nil (net : Net) : PullChain H [] net net
  | cons {r p : Nat} {rest : List (Nat × Nat)} {net net' net'' : Net} :
      FullPull H r p net net' → PullChain H rest net' net'' → PullChain H ((r, p) :: rest) net net''

theorem pullChain_vals {H : Hasher} {pairs : List (Nat × Nat)} {net net' : Net} (h : PullChain H pairs net net') :
    net'.nodes.length = net.nodes.length
    ∧ ∀ i k, valAt net'.nodes i k = pairs.foldl (fun V q => pullV V q.1 q.2) (valAt net.nodes) i k := by
  induction h with
  | nil net => exact ⟨rfl, fun _ _ => rfl⟩
  | cons hf _ ih =>
    have h1 := fullPull_vals hf
    refine ⟨ih.1.trans h1.1, ?_⟩
    intro i k
    rw [ih.2 i k]
    simp only [List.foldl_cons]
    have : valAt _ = pullV (valAt _) _ _ := funext fun i => funext fun k => h1.2 i k
    rw [this]

theorem foldl_congr_mem {α β : Type} {f g : β → α → β} {l : List α} (h : ∀ acc, ∀ x ∈ l, f acc x = g acc x) (a : β) :
    l.foldl f a = l.foldl g a := by
  induction l generalizing a with
  | nil => rfl
  | cons x xs ih =>
    simp only [List.foldl_cons]
    rw [h a x (by simp)]
    exact ih (fun acc y hy => h acc y (by simp [hy])) _

theorem star_phase1 (L : List Nat) (hL : ∀ p ∈ L, p ≠ 0) (V : Nat → Nat → Option RV) :
    ∀ i k, (L.map fun p => ((0 : Nat), p)).foldl (fun V q => pullV V q.1 q.2) V i k
      = if i = 0 then L.foldl (fun acc p => optMerge RV.merge acc (V p k)) (V 0 k) else V i k := by
  induction L generalizing V with
  | nil => intro i k; by_cases hi : i = 0 <;> simp [hi]
  | cons p ps ih =>
    intro i k
    have hp0 : p ≠ 0 := hL p (by simp)
    simp only [List.map_cons, List.foldl_cons]
    rw [ih (fun q hq => hL q (by simp [hq]))]
    by_cases hi : i = 0
    · simp only [hi, if_true]
      have h0 : pullV V 0 p 0 k = optMerge RV.merge (V 0 k) (V p k) := by simp [pullV]
      rw [h0]
      apply foldl_congr_mem
      intro acc q hq
      have hq0 : q ≠ 0 := hL q (by simp [hq])
      simp [pullV, hq0]
    · simp [hi, pullV]

theorem star_phase2 (L : List Nat) (hL : ∀ p ∈ L, p ≠ 0) (hn : L.Nodup) (V : Nat → Nat → Option RV) :
    ∀ i k, (L.map fun p => (p, (0 : Nat))).foldl (fun V q => pullV V q.1 q.2) V i k
      = if i ∈ L then optMerge RV.merge (V i k) (V 0 k) else V i k := by
  induction L generalizing V with
  | nil => intro i k; simp
  | cons p ps ih =>
    intro i k
    have hp0 : p ≠ 0 := hL p (by simp)
    rw [List.nodup_cons] at hn
    simp only [List.map_cons, List.foldl_cons]
    rw [ih (fun q hq => hL q (by simp [hq])) hn.2]
    by_cases hi : i ∈ ps
    · have hip : i ≠ p := fun h => hn.1 (h ▸ hi)
      simp [hi, pullV, hip, Ne.symm hp0]
    · by_cases hip : i = p
      · subst hip; simp [hi, pullV]
      · simp [hi, hip, pullV]

/-- the star schedule over `n` nodes: `0 ← 1, …, 0 ← n-1`, then `1 ← 0, …, n-1 ← 0` -/
def starPairs (n : Nat) : List (Nat × Nat) :=
  ((List.range' 1 (n - 1)).map fun p => ((0 : Nat), p)) ++ ((List.range' 1 (n - 1)).map fun p => (p, (0 : Nat)))

theorem joinOf_eq_fold_range {nodes : List NetNode} (k : Nat) :
    joinOf nodes k = (List.range nodes.length).foldl (fun acc p => optMerge RV.merge acc (valAt nodes p k)) none := by
  unfold joinOf
  have : nodes.map (fun nd => NMap.get nd.st k) = (List.range nodes.length).map (fun p => valAt nodes p k) := by
    apply List.ext_getElem
    · simp
    · intro i h1 h2
      simp only [List.length_map] at h1
      simp [valAt, List.getElem?_eq_getElem h1]
  rw [this, List.foldl_map]

section
variable {C : Nat → RV → Prop} (hC : ∀ k, ACI RV.merge (C k))
include hC

/-- **C18 (a fair round converges)**: from a session state satisfying the invariant — by
    `session_safe`, ANY state an arbitrary interleaving can reach — the star schedule of complete
    full-state pulls (`0 ← 1, …, 0 ← n-1, 1 ← 0, …, n-1 ← 0`; "complete" = the per-round limit
    covers the responder's state, the other case being the recorded starvation finding) leaves on
    EVERY node, for every key, the merge of all nodes' states. -/
theorem star_schedule_converges (H : Hasher) (net net' : Net) (hi : NetInv C net)
    (hne : 1 ≤ net.nodes.length) (hch : PullChain H (starPairs net.nodes.length) net net') :
    ∀ nd ∈ net'.nodes, ∀ k, NMap.get nd.st k = net.joinAt k := by
  have ⟨_, hv⟩ := pullChain_vals hch
  intro nd hnd k
  obtain ⟨i, hil, rfl⟩ := List.getElem_of_mem hnd
  have hval : valAt net'.nodes i k = NMap.get net'.nodes[i].st k := by
    simp [valAt, List.getElem?_eq_getElem hil]
  rw [← hval, hv i k, joinAt_eq]
  -- every node starts below the join
  have hVle : ∀ j, ole (valAt net.nodes j k) (joinOf net.nodes k) := by
    intro j
    unfold valAt
    cases hj : net.nodes[j]? with
    | none => exact ACI.none_le _ _
    | some x => exact joinAt_upper hC hi.1 k x (List.mem_of_getElem? hj)
  obtain ⟨m, hm⟩ : ∃ m, net.nodes.length = m + 1 := ⟨_, (Nat.sub_add_cancel hne).symm⟩
  have hLne : ∀ p ∈ List.range' 1 m, p ≠ 0 := fun p hp => by
    have := (List.mem_range'_1.mp hp).1; omega
  -- node 0 holds the join after phase 1
  have hJ : (List.range' 1 m).foldl (fun acc p => optMerge RV.merge acc (valAt net.nodes p k)) (valAt net.nodes 0 k)
      = joinOf net.nodes k := by
    rw [joinOf_eq_fold_range, hm, List.range_eq_range', List.range'_succ, List.foldl_cons]
    cases valAt net.nodes 0 k <;> rfl
  rw [starPairs, hm, Nat.add_sub_cancel, List.foldl_append, star_phase2 _ hLne List.nodup_range',
    star_phase1 _ hLne _ 0 k, if_pos rfl, hJ, star_phase1 _ hLne _ i k]
  by_cases hmem : i ∈ List.range' 1 m
  · rw [if_pos hmem, if_neg (hLne i hmem)]
    exact hVle i
  · have hi0 : i = 0 := by
      have : ¬ (1 ≤ i ∧ i < 1 + m) := fun h => hmem (List.mem_range'_1.mpr h)
      omega
    rw [if_neg hmem, if_pos hi0, hJ]

/-- … in particular after ANY write-free interleaving: the nodes then all hold the merge of the
    states the session STARTED from -/
theorem session_then_star_converges (H : Hasher) (net : Net) (acts : List NetAct) (net' : Net)
    (hi : NetInv C net) (hw : ∀ a ∈ acts, a.isPut = false) (hne : 1 ≤ net.nodes.length)
    (hch : PullChain H (starPairs net.nodes.length) (net.run H acts) net') :
    ∀ nd ∈ net'.nodes, ∀ k, NMap.get nd.st k = net.joinAt k := by
  have hs := session_safe hC H net acts hi (fun a ha => actOK_of_not_put (hw a ha))
  have hl := run_length H net acts
  intro nd hnd k
  rw [← session_conserves_join hC H net acts hi hw k]
  exact star_schedule_converges hC H (net.run H acts) net' hs.1 (by rw [hl]; exact hne) (by rw [hl]; exact hch) nd hnd k

end

/-! ## composition with routing (C19): an update that missed an owner -/

/-- **C18 ∘ C19 (anti-entropy closes the gap a stale routing view leaves)**: an update `δ` for key
    `k` that ANY node of the session holds (`δ ≤` its value — the sender always holds its own
    write, whoever its router did or did not hand it to, `C19.stale_view_starved_owner_is_new`) is
    held by EVERY node after any write-free interleaving followed by a fair round of complete
    pulls; and at every moment before that it is still held by the node that held it
    (`session_safe`: states only grow). -/
theorem update_held_by_one_reaches_all {C : Nat → RV → Prop} (hC : ∀ k, ACI RV.merge (C k))
    (H : Hasher) (net : Net) (acts : List NetAct) (net' : Net)
    (hi : NetInv C net) (hw : ∀ a ∈ acts, a.isPut = false) (hne : 1 ≤ net.nodes.length)
    (hch : PullChain H (starPairs net.nodes.length) (net.run H acts) net')
    (k : Nat) (δ : RV) (hδ : C k δ) (holder : NetNode) (hh : holder ∈ net.nodes)
    (hle : ole (some δ) (NMap.get holder.st k)) :
    ∀ nd ∈ net'.nodes, ole (some δ) (NMap.get nd.st k) := by
  intro nd hnd
  rw [session_then_star_converges hC H net acts net' hi hw hne hch nd hnd k, joinAt_eq]
  exact (hC k).opt.le_trans (ACI.opt_some hδ) ((hi.1 holder hh).oc k) (joinAt_oc hC hi.1 k) hle
    (joinAt_upper hC hi.1 k holder hh)

/-! ## the ideal-hash hypothesis and the REAL hash

  "Equal digests iff equal states" is proved under `SipIdeal sip` (the one 64-bit byte hash is
  collision-free).  No 64-bit function is, and for SipHash-1-3 with the fixed zero key a collision
  inside the property's quantifier can be COMPUTED (distinguished-point search, ≈ 2³² evaluations,
  two minutes): two values that differ only in `expiry_ms` with the same `KeyDigest.value_hash`.
  The kernel evaluates the model's transcription of the hasher on both. -/

def collV1 : RV := { RV.withValue [118] ⟨1, 1⟩ with expiry := some 7186234069774404105 }
def collV2 : RV := { RV.withValue [118] ⟨1, 1⟩ with expiry := some 11093851672895297929 }

/-- `KeyDigest::new(k, SET k v PX 7186234069774404105 @(1, r1)).value_hash
     = KeyDigest::new(k, SET k v PX 11093851672895297929 @(1, r1)).value_hash` -/
theorem sip13_value_hash_collision :
    currentHasher.val (currentStream collV1) = 11078082544913061200
    ∧ currentHasher.val (currentStream collV2) = 11078082544913061200
    ∧ collV1 ≠ collV2 ∧ currentStream collV1 ≠ currentStream collV2 := by
  decide +kernel

/-- the hypothesis of `digest_iff_state_eq_current` is FALSE for the real hash -/
theorem sip13_not_ideal : ¬ SipIdeal Sip.sip13 := by
  intro h
  have hc := sip13_value_hash_collision
  have : currentStream collV1 = currentStream collV2 := h.inj _ _ (by
    have h1 := hc.1; have h2 := hc.2.1
    unfold currentHasher sipHasher at h1 h2
    simp only [] at h1 h2
    rw [h1, h2])
  exact hc.2.2.2 this

theorem fromState_singleton_congr (H : Hasher) (vs : ValueStream) (depth k : Nat) (v w : RV)
    (h : keyDigest H vs k v = keyDigest H vs k w) :
    fromState H true vs depth [k] [(k, v)] = fromState H true vs depth [k] [(k, w)] :=
  fromState_congr fun b _ => by simp [bucketDigests, iter, NMap.get, h]

/-- **never a false "in sync" — refuted for the real hash by a real pair of states**: the
    single-key states `{h ↦ collV1}` and `{h ↦ collV2}` differ (in the expiry) and have EQUAL
    digests at EVERY depth — two replicas holding them report "in sync" for ever, and no bucket is
    ever requested (known finding `C18:digest:false-in-sync:sip13-collision`, replayed on the real
    code on every run).  The theorems of this property hold for the states on which the hash does
    not collide; this is the (astronomically sparse, but non-empty) rest. -/
theorem digest_false_in_sync_sip13_counterexample (depth k : Nat) :
    ([(k, collV1)] : NMap RV) ≠ [(k, collV2)]
    ∧ digest currentHasher depth [k] [(k, collV1)] = digest currentHasher depth [k] [(k, collV2)]
    ∧ differsFrom (digest currentHasher depth [k] [(k, collV1)]) (digest currentHasher depth [k] [(k, collV2)]) = false
    ∧ divergentBuckets (digest currentHasher depth [k] [(k, collV1)]) (digest currentHasher depth [k] [(k, collV2)]) = [] := by
  have hc := sip13_value_hash_collision
  have hkd : keyDigest currentHasher currentStream k collV1 = keyDigest currentHasher currentStream k collV2 := by
    unfold keyDigest
    rw [hc.1, hc.2.1]
    rfl
  have heq : digest currentHasher depth [k] [(k, collV1)] = digest currentHasher depth [k] [(k, collV2)] :=
    fromState_singleton_congr currentHasher currentStream depth k collV1 collV2 hkd
  refine ⟨?_, heq, ?_, ?_⟩
  · intro h
    injection h with h _
    injection h with _ h
    exact hc.2.2.1 h
  · rw [heq]; simp [differsFrom]
  · rw [heq]
    unfold divergentBuckets
    simp
    intro a ha
    have hl : (List.range (digest currentHasher depth [k] [(k, collV2)]).buckets.length).length
        ≤ (digest currentHasher depth [k] [(k, collV2)]).buckets.length := by simp
    rw [List.drop_of_length_le hl] at ha
    cases ha

/-! ## what the managers can observe: equal digests -/

/-- **C18 (in sync, as the managers see it, means merged)**: ideal byte hash, one configured depth.
    If after ANY write-free interleaving every node's digest equals node `nd₀`'s (whatever the
    iteration orders the digests were computed in), then every node holds, for every key, the merge
    of all the states the session started from. -/
theorem session_in_sync_is_merged {C : Nat → RV → Prop} (hC : ∀ k, ACI RV.merge (C k))
    (sip : List Nat → Nat) (hsip : SipIdeal sip) (depth : Nat)
    (net : Net) (acts : List NetAct) (hi : NetInv C net) (hw : ∀ a ∈ acts, a.isPut = false)
    (ord : NetNode → List Nat)
    (hord : ∀ nd ∈ (net.run (sipHasher sip HB.keyStr) acts).nodes, ValidOrder (ord nd) nd.st)
    (hval : ∀ nd ∈ (net.run (sipHasher sip HB.keyStr) acts).nodes, ValuesOK HB.keyStr nd.st)
    (nd₀ : NetNode) (h0 : nd₀ ∈ (net.run (sipHasher sip HB.keyStr) acts).nodes)
    (hq : ∀ nd ∈ (net.run (sipHasher sip HB.keyStr) acts).nodes,
      differsFrom (digest (sipHasher sip HB.keyStr) depth (ord nd₀) nd₀.st)
        (digest (sipHasher sip HB.keyStr) depth (ord nd) nd.st) = false) :
    ∀ nd ∈ (net.run (sipHasher sip HB.keyStr) acts).nodes, ∀ k, NMap.get nd.st k = net.joinAt k := by
  have hs := session_safe hC (sipHasher sip HB.keyStr) net acts hi (fun a ha => actOK_of_not_put (hw a ha))
  have heq : ∀ nd ∈ (net.run (sipHasher sip HB.keyStr) acts).nodes, nd.st = nd₀.st := by
    intro nd hnd
    exact ((digest_iff_state_eq_current sip hsip depth (ord nd₀) (ord nd) nd₀.st nd.st (hs.1.1 nd₀ h0).1 (hs.1.1 nd hnd).1
      (hval nd₀ h0) (hval nd hnd) (hord nd₀ h0) (hord nd hnd)).mp (hq nd hnd)).symm
  have hne : net.nodes ≠ [] := by
    intro hnil
    have := hs.2.1
    rw [hnil] at this
    have : (net.run (sipHasher sip HB.keyStr) acts).nodes = [] := List.eq_nil_of_length_eq_zero this.symm
    rw [this] at h0; cases h0
  intro nd hnd k
  rw [heq nd hnd]
  exact session_quiescent_is_merged hC _ net acts hi hw hne nd₀.st heq k

/-! ## non-vacuity -/

theorem storeOK_of_mem {C : Nat → RV → Prop} {s : NMap RV} (hw : NMap.WF s) (h : ∀ p ∈ s, C p.1 p.2) :
    StoreOK C s :=
  ⟨hw, fun k v hg => h (k, v) (NMap.mem_of_get hg)⟩

instance (K : Nat → Nat) (R : List (Nat × Lww)) (k : Nat) (v : RV) : Decidable (kindCarrier K R k v) := by
  unfold kindCarrier; infer_instance

/-- every key holds a plain LWW value; the registers in play -/
def exK : Nat → Nat := fun _ => exX.crdt.kind
def exR : List (Nat × Lww) := exX.crdt.slots ++ exY.crdt.slots ++ exY'.crdt.slots

/-- three managers (depth 2, limit 1): `stA`, `stB` (key 2 newer) and an empty node -/
def exNet : Net := Net.init 2 1 0 true [stA, stB, []]

-- the carrier hypotheses hold for a non-trivial session
example : RegsConsistent exR ∧ NetInv (kindCarrier exK exR) exNet :=
  ⟨by decide, netInv_init _ _ _ _ _ _ (by
    intro s hs
    simp only [List.mem_cons, List.not_mem_nil, or_false] at hs
    rcases hs with rfl | rfl | rfl <;> exact storeOK_of_mem (by decide) (by decide))⟩

/-- an interleaving with a stale digest, an answer applied twice, the same answer applied by the
    node it was not meant for, a second answer to the same request, then pulls by the third node -/
def exActs : List NetAct :=
  [.dig 1 1 [2, 1], .proc 0 1 [1, 2], .req 1 0 2 false 5 [2, 1], .handle 1 1 1 [1, 2],
   .apply 0 1, .apply 0 1, .apply 2 1, .handle 2 1 1 [2, 1], .apply 2 2,
   .dig 3 0 [1, 2], .proc 2 3 [2], .req 3 2 1 true 9 [2], .handle 3 0 3 [1, 2], .apply 2 3, .apply 1 3]

-- … after which all three nodes hold the merge of the three initial states (`stB`: key 2 newer)
set_option maxRecDepth 8000 in
example : ((exNet.run idealH exActs).nodes.map (·.st)) = [stB, stB, stB]
    ∧ (∀ k ∈ [1, 2, 3], exNet.joinAt k = NMap.get stB k) := by
  decide +kernel

/-- two managers whose limit covers their states: the star schedule exists (`0 ← 1`, `1 ← 0`) -/
def exNet2 : Net := Net.init 2 10 0 true [stA, stB]

set_option maxRecDepth 8000 in
example : ∃ net', PullChain idealH (starPairs exNet2.nodes.length) exNet2 net' :=
  ⟨_, .cons (FullPull.mk exNet2 1 2 0 [1, 2] [1, 2] _ _ rfl rfl (by decide) (by decide) (by decide) (by decide))
    (.cons (FullPull.mk _ 2 1 0 [1, 2] [1, 2] _ _ rfl rfl (by decide) (by decide) (by decide) (by decide)) (.nil _))⟩

end C18
end RedisVerif
