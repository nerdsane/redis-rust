import RedisVerif.Props.C09Compose
import RedisVerif.Lemmas.WalOrder

/-!
# C10 ∘ C09 — recovery returns the written entries IN THE ORDER THEY WERE WRITTEN

C10 asks that recovery return "only entries that were actually appended, each bit-identical to what was
written and in append order".  `Props/C10.lean` proves the order inside ONE file image
(`entries_of_prefix`: a prefix of the appended entries); `recovered_from` (Lemmas/WalSource.lean) proves
membership along histories.  Here the whole statement, along every history of the rotator / actor
(`Lemmas/WalOrder.lean`: ghost log of what was handed to `append`; files are created with keys above every
existing one, appends go to the highest key, deletions / crashes / torn writes only shorten): what
recovery returns is a SUBLIST of what was handed to `WalRotator::append`, within a file and ACROSS files
(recovery's sequence order is append order).
-/
namespace RedisVerif
namespace C10

open Wal Bincode Driver Concrete C09

/-- byte level: every history, every instant -/
theorem recovered_is_subsequence_of_written (fix tk : Bool) (fmt : Format) (crc : Bytes → Nat) (φ : Nat → Outcome)
    (maxSize : Nat) (evs : List Ev) (hev : ∀ ev ∈ evs, ev.Ok fmt crc) (t : Nat) (st : Store)
    (hst : (Actor.run fix tk φ fmt crc maxSize evs).rot.w.storeAt t = some st) :
    List.Sublist (durable fmt crc st) (entriesOf fmt crc evs) := by
  obtain ⟨g, h, hL⟩ := orot_run fix tk φ maxSize evs hev
  rw [← hL]
  exact orot_recovered h t st hst

/-- delta level: `recover_entries_after(T)` on any crash image of any history succeeds and returns a sublist
    of the deltas of the `Write` messages stamped `≥ T`, in message order -/
theorem recovered_deltas_in_write_order (φ : Nat → Outcome) (maxSize : Nat) (devs : List DEv)
    (hfit : ∀ p ∈ writesOf devs, DeltaFits p.1 p.2) (t : Nat) (st : Store)
    (hst : (Actor.run true false φ .v2 crc32 maxSize (devs.map DEv.toEv)).rot.w.storeAt t = some st) (T : Nat) :
    ∃ ds, recoverAfter .v2 crc32 deDelta T (crashImage st) = some ds ∧
      List.Sublist ds (((writesOf devs).filter (fun p => decide (T ≤ p.2))).map (·.1)) := by
  obtain ⟨ds, hds, hsub, -⟩ := recoverAfter_sublist_written φ maxSize devs hfit t st hst T
  exact ⟨ds, hds, hsub⟩

-- non-vacuity: three writes over two files (threshold 17), a crash: what comes back is in write order
example : (durable .v2 crc32 (Actor.run true false (fun _ => .ok) .v2 crc32 17
    [.write ⟨1, [1], 3⟩, .write ⟨2, [2], 1⟩, .flush, .write ⟨3, [3], 2⟩, .flush]).rot.w.store).map (·.ts) = [3, 1, 2] := by
  decide +kernel

end C10
end RedisVerif
