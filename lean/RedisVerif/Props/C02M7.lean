import RedisVerif.Props.C02
import RedisVerif.Props.C03M7
import RedisVerif.Lemmas.Script7
import RedisVerif.Model.Node7

/-!
# C02 over the M7 reference executor: every command type, Lua scripts, time

`Props/C02.lean` proves linearizability of the actor system w.r.t. whatever executor the shards run
and refines it to ONE store for the single-key commands of the SMALL executor (`ShardsStr`), with
scripts modelled as a single-key command.  This file does it for the M7 reference executor (the
model C01 validates against the real `CommandExecutor`) and for REAL multi-command scripts
(`Redis.Prog`: any deterministic program over `redis.call`), each run inside ONE shard-actor message.


Scope against C05: MULTI/EXEC is NOT a request of this model.  `EXEC` replays the queued commands one
awaited `execute()` at a time; in this model that is a sequence of separate `Req7.cmd` requests of
one client, between which other clients' requests may take effect (no isolation: the C05 finding).
What C02 claims for a transaction is therefore exactly what it claims for its commands one by one.
-/
namespace RedisVerif
namespace C02
open Actors Shards NMap Shards.M7 C03
open Redis (Entry cmdKeys Prog runProg ProgKeys LocalOn)
open Server (execVia execSc)

/-- the requests the C02 claim over M7 is about -/
def ReqOk (R : Routes) : Req7 → Prop
  | .cmd _ c => CmdOk R c = true
  | .script _ k p => ∃ K, k ∈ K ∧ ProgKeys K p ∧ ∀ x ∈ K, R.bytes x = R.bytes k

/-- a sweep alone is the step of the transformer that keeps the store -/
theorem rel_after_sweep {R : Routes} {st : Shards Entry} {s1 : Redis.State} {t now : Nat}
    (h : Rel7 R st s1 t) (ht : t ≤ now) (W : Nat → Bool) :
    (∀ t', now ≤ t' → ∀ k, lv t' (get (abs (sweep W now st)) k) = lv t' (get (Redis.purge s1 now) k)) ∧
    (∀ k, W (R.bytes k) = true → get (abs (sweep W now st)) k = get (Redis.purge s1 now) k) :=
  ⟨(h.step_local ht W (LocalOn.keep (K := []) (r := .nil)).toShards nofun (inv_sweep h.inv W now) rfl).2.view, h.swept ht W⟩

/-- **a script whose keys live on the shard of `KEYS[1]`** is one atomic local step: the N-shard
    node answers like `runProg` on one store and stays indistinguishable from it -/
theorem script_refines {R : Routes} (hv : R.Valid) {st : Shards Entry} {s1 : Redis.State} {t now : Nat}
    (h : Rel7 R st s1 t) (ht : t ≤ now) (k : Nat) (p : Prog) (K : List Nat)
    (hpk : ProgKeys K p) (hK : ∀ x ∈ K, R.bytes x = R.bytes k) :
    (execScript7 R now st k p).2 = (spec7 s1 (.script now k p)).2 ∧
    Rel7 R (execScript7 R now st k p).1 (spec7 s1 (.script now k p)).1 now := by
  have L := (Redis.prog_localOn now hpk).toShards
  obtain ⟨hi, ha, hq⟩ := refine_onShard (inv_sweep h.inv (fun j => j == R.bytes k) now) (R.bytes k) (hv k).2 L hK
  obtain ⟨e1, hrel⟩ := h.step_local ht _ L (fun x hx => by simp [hK x hx]) hi ha
  exact ⟨congrArg (fun r => Reply.one (.ext r)) (hq.trans e1), hrel⟩


theorem keyList_inject (now : Nat) (c : Redis.Cmd) (K : List Nat) (hK : cmdKeys c = some K) :
    keyList (inject now c) = K ∧ Keyed (inject now c) = true := by
  have v := inject_view now c
  generalize inject now c = sc at v ⊢
  cases v with
  | single h _ | two h _ => rw [h] at hK; cases hK; exact ⟨rfl, rfl⟩
  | mget | mset | msetnx | del | «exists» => cases hK; exact ⟨rfl, rfl⟩
  | keys | dbsize | flushdb | flushall | randomkey => cases hK

theorem cmdOk_keys {R : Routes} {c : Redis.Cmd} (h : CmdOk R c = true) :
    Routable7 R c = true ∧ ∃ K, cmdKeys c = some K := by
  unfold CmdOk at h
  simp only [Bool.and_eq_true] at h
  refine ⟨h.1, ?_⟩
  have v := inject_view 0 c
  generalize inject 0 c = sc at v
  cases v with
  | single hk _ | two hk _ => exact ⟨_, hk⟩
  | mget | mset | msetnx | del | «exists» => exact ⟨_, rfl⟩
  | keys | dbsize | flushdb | flushall | randomkey => cases h.2

theorem keyed_reply (s : Store sig7.Val) (sc : Cmd sig7) (hk : Keyed sc = true) :
    (∀ l, (exec7.exec s sc).2 ≠ .keys l) ∧ (∀ o, (exec7.exec s sc).2 ≠ .rkey o) := by
  obtain ⟨h1, h2⟩ := exec7_reply_kind s sc
  constructor
  · intro l e; obtain ⟨p, rfl⟩ := h1 l e; cases hk
  · intro o e; rw [h2 o e] at hk; cases hk

theorem eq_of_replyEqv {x y : Reply} (h : replyEqv x y = true) (h1 : ∀ l, y ≠ .keys l) (h2 : ∀ o, y ≠ .rkey o) :
    x = y := by
  rcases replyEqv_iff.mp h with e | ⟨_, l', _, rfl, _⟩ | ⟨_, o, _, rfl, _⟩
  · exact e
  · exact absurd rfl (h1 l')
  · exact absurd rfl (h2 o)

/-- **a command that names its keys and travels as one message**: the N-shard node answers EXACTLY
    like one executor on one store and stays indistinguishable from it -/
theorem cmd_refines {R : Routes} (hv : R.Valid) (hN : 0 < R.N) {st : Shards Entry} {s1 : Redis.State}
    {t now : Nat} (h : Rel7 R st s1 t) (ht : t ≤ now) (c : Redis.Cmd) (hok : CmdOk R c = true) :
    (execNT7code R now st c).2 = (spec7 s1 (.cmd now c)).2 ∧
    Rel7 R (execNT7code R now st c).1 (spec7 s1 (.cmd now c)).1 now := by
  obtain ⟨hr, K, hK⟩ := cmdOk_keys hok
  obtain ⟨hkl, hkeyed⟩ := keyList_inject now c K hK
  have hinv0 := inv_sweep h.inv (recv R (inject now c)) now
  obtain ⟨hi, ha, hq⟩ := shards_refine_single_m7 R hv hN hinv0 (inject now c) (routable_inject R now c hr)
  obtain ⟨n1, n2⟩ := keyed_reply (abs (sweep (recv R (inject now c)) now st)) (inject now c) hkeyed
  obtain ⟨e1, hrel⟩ := h.step_local ht _ (exec_localTo exec7_local (inject now c) hkeyed)
    (fun k hk => recv_covers R now c hr K hK k (hkl ▸ hk)) hi ha
  exact ⟨(eq_of_replyEqv hq n1 n2).trans e1, hrel⟩

theorem req7_refines {R : Routes} (hv : R.Valid) (hN : 0 < R.N) {st : Shards Entry} {s1 : Redis.State}
    {t : Nat} (h : Rel7 R st s1 t) (req : Req7) (ht : t ≤ req.time) (hok : ReqOk R req) :
    (stepN7 R st req).2 = (spec7 s1 req).2 ∧ Rel7 R (stepN7 R st req).1 (spec7 s1 req).1 req.time := by
  cases req with
  | cmd now c => exact cmd_refines hv hN h ht c hok
  | script now k p =>
    obtain ⟨K, _, hpk, hK⟩ := hok
    exact script_refines hv h ht k p K hpk hK

/-- `execVia` and `viaPlan` match on the same pair (`dispatch cls`, `c`): the four special arms agree arm
    by arm, and in the default arm none of the four patterns of `viaPlan` can match (`h1` … `h4`) -/
theorem execVia_plan (R : Routes) (cls : FrameClass) (now : Nat) (st : Shards Entry) (c : Redis.Cmd) :
    execVia R cls now st c =
      ((execSc R now st (viaPlan cls now c).1).1, (viaPlan cls now c).2 (execSc R now st (viaPlan cls now c).1).2) := by
  unfold execVia viaPlan
  split
  · rename_i heq; simp only [heq]; rfl
  · rename_i heq; simp only [heq]; rfl
  · rename_i heq; simp only [heq]
  · rename_i heq; simp only [heq]
  · rename_i h1 h2 h3 h4
    split
    · rename_i heq; exact (h1 _ heq rfl).elim
    · rename_i heq; exact (h2 _ _ heq rfl).elim
    · rename_i heq; exact (h3 _ heq rfl).elim
    · rename_i heq; exact (h4 _ _ heq rfl).elim
    · rfl

theorem linMono_iff (pend : NMap Nat) (t : Nat) (l : List (Ev Req7 Reply)) :
    LinMono pend t l ↔ LinMonoK Req7.time (· ≤ ·) (fun _ k => k) pend t l := by
  induction l generalizing pend t with
  | nil => exact Iff.rfl
  | cons e es ih =>
    cases e with
    | inv id req => exact ih _ _
    | lin id resp => unfold LinMono LinMonoK; cases NMap.get pend id <;> simp only [ih]
    | res id resp => exact ih _ _

theorem replay_sim7 {R : Routes} (hv : R.Valid) (hN : 0 < R.N) (log : List (Ev Req7 Reply))
    (t : Nat) (tm : NMap Nat)
    (rA rA' : RState (Shards Entry) Req7 Reply) (rB : RState Redis.State Req7 Reply)
    (hrel : Rel7 R rA.s rB.s t) (hp : rA.pend = rB.pend) (hd : rA.done = rB.done) (hn : rA.next = rB.next)
    (hwf : WF rA.pend)
    (hok : ∀ id req, get rA.pend id = some req → ReqOk R req ∧ get tm id = some req.time)
    (hlog : ∀ id req, (.inv id req) ∈ log → ReqOk R req)
    (hmono : LinMono tm t log)
    (h : replay (stepN7 R) rA log = some rA') :
    ∃ rB', replay spec7 rB log = some rB' :=
  replay_sim (stepN7 R) spec7 Req7.time (· ≤ ·) (fun _ k => k) (ReqOk R) (Rel7 R)
    (fun _ _ _ req hrel ht hokr => req7_refines hv hN hrel req ht hokr)
    log t tm rA rA' rB hrel hp hd hn hwf hok hlog ((linMono_iff _ _ _).mp hmono) h

/-- **C02 over M7, with scripts and with time**: every execution of the actor system whose shard
    actors run the N-shard M7 node (`stepN7`: timed commands of every type AND Lua scripts, one
    message each) — every interleaving, any number of shards, clients, slots, abandoned requests —
    in which operations take effect at non-decreasing virtual times is linearizable w.r.t. ONE store
    on which every command and every WHOLE SCRIPT is one atomic step (`spec7`) -/
theorem linearizable_m7_single_store (R : Routes) (hv : R.Valid) (hN : 0 < R.N) {pool : Nat}
    {s : Sys (Shards Entry) Req7 Reply}
    (hr : Reach (stepN7 R) (route7 R) (Shards.init Entry R.N) pool s)
    (hok : ∀ id req, (.inv id req) ∈ s.log → ReqOk R req)
    (hmono : LinMono [] 0 s.log) :
    ValidLog spec7 Redis.init s.log ∧ Linearizable spec7 Redis.init (history s.log) :=
  linearizable_of_sim (stepN7 R) (route7 R) _ spec7 Req7.time (· ≤ ·) (fun _ k => k) (ReqOk R) (Rel7 R)
    Redis.init 0 (rel7_init R) (fun _ _ _ req hrel ht hokr => req7_refines hv hN hrel req ht hokr)
    hr hok ((linMono_iff _ _ _).mp hmono)


/-! ### the response pool at and beyond its capacity

  `ResponsePool::acquire` pops a pooled slot or — when the pool is EXHAUSTED — allocates a new one
  (`Step.invokePooled` / `Step.invokeFresh`); `release` pushes the slot back or — when the pool is FULL
  — drops it (`Step.retRelease` / `Step.retDrop`).  The model leaves both choices to the scheduler, so
  every capacity (0, 1, …) and every fill level is among the executions the theorems quantify over. -/

section pool
variable {σ Req Resp : Type} [DecidableEq Resp] (step : σ → Req → σ × Resp) (route : Req → Nat) (s0 : σ)

/-- **no reply is lost**, whatever the pool does: once no mailbox holds the message of a waiting
    client any more, the response computed for ITS request is in ITS slot — also when the slot is a
    fall-back allocation of an exhausted pool, and whatever other clients abandoned -/
theorem reply_not_lost {pool : Nat} {s : Sys σ Req Resp} (hr : Reach step route s0 pool s)
    (c id : Nat) (req : Req) (sid : Nat) (hc : s.client c = .waiting id req sid)
    (hgone : ∀ i m, m ∈ s.mail i → m.id ≠ id) :
    ∃ resp, s.slot sid = some resp ∧ (.lin id resp) ∈ s.log ∧ sid ∉ s.pool := by
  obtain ⟨r, hi⟩ := reach_inv step route s0 hr
  obtain ⟨_, _, h3, _, h5⟩ := hi.cl c id req sid hc
  rcases h5 with ⟨b1, _, _⟩ | ⟨_, resp, b2, _, b4⟩
  · exact absurd rfl (hgone _ _ b1)
  · exact ⟨resp, b2, b4, h3⟩

end pool

/-- non-vacuity with an EMPTY pool (capacity exhausted from the start): two pooled requests both fall
    back to fresh slots, the shard answers both, each client takes its own reply; the second slot is
    released into the pool and REUSED by a third request, which again gets its own reply -/
theorem exhausted_pool_reach : ∃ s, Reach echo (fun _ => 0) () 0 s ∧
    history s.log = [.inv 0 10, .inv 1 20, .res 1 20, .res 0 10, .inv 2 30, .res 2 30] ∧ s.pool = [1] := by
  have r0 : Reach echo (fun _ => 0) () 0 (Sys.init () 0) := Reach.init
  have r1 := Reach.step r0 (Step.invokeFresh _ 0 10 rfl)
  have r2 := Reach.step r1 (Step.invokeFresh _ 1 20 rfl)
  have r3 := Reach.step r2 (Step.exec _ 0 ⟨0, 0, 10⟩ [⟨1, 1, 20⟩] rfl)
  have r4 := Reach.step r3 (Step.exec _ 0 ⟨1, 1, 20⟩ [] rfl)
  have r5 := Reach.step r4 (Step.retRelease _ 1 1 20 1 20 rfl rfl)
  have r6 := Reach.step r5 (Step.retDrop _ 0 0 10 0 10 rfl rfl)
  have r7 := Reach.step r6 (Step.invokePooled _ 0 30 1 [] rfl rfl)
  have r8 := Reach.step r7 (Step.exec _ 0 ⟨2, 1, 30⟩ [] rfl)
  have r9 := Reach.step r8 (Step.retRelease _ 0 2 30 1 30 rfl rfl)
  exact ⟨_, r9, rfl, rfl⟩

instance (pend : NMap Nat) (t : Nat) (l : List (Ev Req7 Reply)) : Decidable (LinMono pend t l) :=
  decidable_of_iff _ (linMono_iff pend t l).symm

/-- `local v = redis.call('GET', KEYS[1]); redis.call('SET', KEYS[1], ARGV[1]); return v` (a
    WRONGTYPE error of the GET aborts the script) -/
def swapProg (k : Nat) (v : Redis.BS) : Prog :=
  .call (.get k) (fun r => match r with
    | .err e => .ret (.err e)
    | r => .call (.set k v .always .none false) (fun _ => .ret r))

theorem swapProg_keys (k : Nat) (v : Redis.BS) : ProgKeys [k] (swapProg k v) :=
  .call _ _ [k] rfl (by simp) (fun r => by
    cases r <;> first | exact .ret _ | exact .call _ _ [k] rfl (by simp) (fun _ => .ret _))

/-- non-vacuity: client 0's script on key 1 and client 1's SET of key 1 are both in flight at the
    shard of key 1; the script runs first, the SET second; then client 1 reads key 2 on the other
    shard.  The hypotheses of `linearizable_m7_single_store` hold and its conclusion follows. -/
theorem script_reach : ∃ s, Reach (stepN7 routes7) (route7 routes7) (Shards.init Entry 2) 0 s ∧
    history s.log = [.inv 0 (.script 5 1 (swapProg 1 [119])), .inv 1 (.cmd 6 (.set 1 [120] .always (.px 10) false)),
      .res 0 (.one (.ext .nil)), .res 1 (.one (.ext .ok)), .inv 2 (.cmd 30 (.get 1)), .res 2 (.one (.ext .nil))] ∧
    (∀ id req, (.inv id req) ∈ s.log → ReqOk routes7 req) ∧ LinMono [] 0 s.log := by
  have r0 : Reach (stepN7 routes7) (route7 routes7) (Shards.init Entry 2) 0 (Sys.init _ 0) := Reach.init
  have r1 := Reach.step r0 (Step.invokeFresh _ 0 (.script 5 1 (swapProg 1 [119])) rfl)
  have r2 := Reach.step r1 (Step.invokeFresh _ 1 (.cmd 6 (.set 1 [120] .always (.px 10) false)) rfl)
  have r3 := Reach.step r2 (Step.exec _ 0 ⟨0, 0, .script 5 1 (swapProg 1 [119])⟩ [⟨1, 1, .cmd 6 (.set 1 [120] .always (.px 10) false)⟩] rfl)
  have r4 := Reach.step r3 (Step.exec _ 0 ⟨1, 1, .cmd 6 (.set 1 [120] .always (.px 10) false)⟩ [] rfl)
  have r5 := Reach.step r4 (Step.retDrop _ 0 0 (.script 5 1 (swapProg 1 [119])) 0 (.one (.ext .nil)) rfl rfl)
  have r6 := Reach.step r5 (Step.retDrop _ 1 1 (.cmd 6 (.set 1 [120] .always (.px 10) false)) 1 (.one (.ext .ok)) rfl rfl)
  have r7 := Reach.step r6 (Step.invokeFresh _ 0 (.cmd 30 (.get 1)) rfl)
  have r8 := Reach.step r7 (Step.exec _ 0 ⟨2, 2, .cmd 30 (.get 1)⟩ [] rfl)
  have r9 := Reach.step r8 (Step.retDrop _ 0 2 (.cmd 30 (.get 1)) 2 (.one (.ext .nil)) rfl rfl)
  refine ⟨_, r9, rfl, ?_, by decide⟩
  intro id req hm
  simp only [List.mem_append, List.mem_cons, List.not_mem_nil, or_false, reduceCtorEq,
    Ev.inv.injEq] at hm
  rcases hm with ((hm | ⟨_, rfl⟩) | ⟨_, rfl⟩) | ⟨_, rfl⟩
  · cases hm
  · exact ⟨[1], by simp, swapProg_keys 1 [119], by simp⟩
  · show CmdOk routes7 _ = true; decide
  · show CmdOk routes7 _ = true; decide

example : Linearizable spec7 Redis.init
    ([.inv 0 (.script 5 1 (swapProg 1 [119])), .inv 1 (.cmd 6 (.set 1 [120] .always (.px 10) false)),
      .res 0 (.one (.ext .nil)), .res 1 (.one (.ext .ok)), .inv 2 (.cmd 30 (.get 1)),
      .res 2 (.one (.ext .nil))] : List (Ev Req7 Reply)) := by
  obtain ⟨s, hr, hh, hok, hm⟩ := script_reach
  rw [← hh]
  exact (linearizable_m7_single_store routes7 routes7_valid (by decide) hr hok hm).2

/-- a script with `KEYS[1] = 1` (home: shard 0) that writes key 2 (home: shard 1) -/
def strayProg : Prog := .call (.set 2 [118] .always .none false) (fun r => .ret r)

/-- **a script that touches a key of another shard is not one atomic step of one store**: it
    plants key 2 in shard 0; the next GET of key 2 asks shard 1 and finds nothing -/
theorem script_cross_shard_counterexample :
    (stepN7 routes7 (stepN7 routes7 (Shards.init Entry 2) (.script 0 1 strayProg)).1 (.cmd 0 (.get 2))).2
      = .one (.ext .nil) ∧
    (spec7 (spec7 Redis.init (.script 0 1 strayProg)).1 (.cmd 0 (.get 2))).2 = .one (.ext (.bulk [118])) ∧
    ¬ (∀ x ∈ [2], routes7.bytes x = routes7.bytes 1) := by decide

/-- … and the history one client observes of it (script answered OK, then GET answered nil) has no
    linearization on one store -/
theorem script_cross_shard_not_linearizable :
    ¬ Linearizable spec7 Redis.init
      (seqHist [(0, Req7.script 0 1 strayProg, Reply.one (.ext .ok)), (1, .cmd 0 (.get 2), .one (.ext .nil))]) := by
  intro h
  have := seq_lin_legal spec7 Redis.init _ h
  exact absurd this.2.1 (by decide)

end C02
end RedisVerif
