import RedisVerif.Props.C01Exec
import RedisVerif.Lemmas.RedisStep
import RedisVerif.Lemmas.ExecutorX
import RedisVerif.Props.C01Scan

/-!
# C17 on the executor as it is

`Props/C17.lean` proves "an error reply / a read-only command changes nothing" on the reference model.
Here the same two statements are proved about the TRANSCRIPTION OF THE CODE (`Model.Executor`,
`Model.ExecutorColl`: two maps, lazy expiry, every `execute_*` with its own order of checks): for every
state satisfying the executor's invariant, every well-formed command of M7's command set,

* a reply that is an error leaves the visible keyspace (keys, types, values, deadlines) exactly as it was;
* a command `Command::is_read_only` classifies read-only leaves it exactly as it was;

although such a command MAY change the physical state (a key past its deadline is dropped on access by
`get_value`) — which is why the statement is about `absP`, what a client can see.  The transcription is
tied to the real code on every run by the `XC` lines of the C01 / C17 op streams.
-/
set_option linter.unusedSimpArgs false
set_option linter.unusedVariables false

namespace RedisVerif.C17Exec
open RedisVerif RedisVerif.Redis RedisVerif.Executor RedisVerif.C01Exec RedisVerif.RedisX

theorem execDev_cases {P : Cmd → Prop} (c : Cmd) (hset : ∀ k v, P (.getset k v))
    (hrange : ∀ k a b, P (.getrange k a b)) (hrest : Deviates c = false → P c) : P c := by
  cases hd : Deviates c
  · exact hrest hd
  · unfold Deviates at hd
    split at hd
    · exact hset _ _
    · exact hrange _ _ _
    · cases hd

theorem execDev_err (s : State) (now : Nat) (c : Cmd) (h : (execDev s now c).2.isError = true) :
    (execDev s now c).1 = s := by
  revert h
  refine execDev_cases (P := fun c => (execDev s now c).2.isError = true → (execDev s now c).1 = s) c ?_ ?_ ?_
  · intro k v h
    simp only [execDev, ExecutorCode.codeGetSet] at h ⊢
    cases hl : lookupStr s k <;> simp_all [Reply.isError]
  · intro k a b _
    simp only [execDev, ExecutorCode.codeGetRange]
    cases lookupStr s k <;> rfl
  · intro hd h
    rw [execDev_eq_exec hd] at h ⊢
    exact exec_err h

theorem execDev_ro (s : State) (now : Nat) (c : Cmd) (h : isReadOnly c = true) :
    (execDev s now c).1 = s := by
  revert h
  refine execDev_cases (P := fun c => isReadOnly c = true → (execDev s now c).1 = s) c ?_ ?_ ?_
  · intro k v h
    cases h
  · intro k a b _
    simp only [execDev, ExecutorCode.codeGetRange]
    cases lookupStr s k <;> rfl
  · intro hd h
    rw [execDev_eq_exec hd]
    exact exec_ro h

/-- the physical state MAY change under a read-only command: GET on a key past its deadline drops it
    (and that is invisible) -/
example :
    (execC ⟨[(1, .str [1])], [(1, 5)], 10, 0⟩ (.get 1)).map (fun p => p.1.data) = some [] := by decide

/-! ## the full command set

The property text quantifies over "all commands of the full command set (including stubs, two-key
commands and scripts)".  `FullCmd` is the whole `Command` enum as the executor's `match` sees it:

* `data c`  — the commands of M7 (`Redis.Cmd`, 72 constructors; `execC`);
* `x c`     — SETBIT, GETBIT, the internal BatchSet / BatchGet, KEYS with a pattern (`execXC`);
* `stub c`  — OBJECT ENCODING / REFCOUNT / IDLETIME / FREQ, DEBUG OBJECT (`get_value`, then a reply), and
              `const`: every arm that does not mention `data` / `expirations` (PING, ECHO, INFO, TIME,
              SELECT, WAIT, CLIENT …, CONFIG …, ACL …, AUTH, COMMAND …, FUNCTION FLUSH, OBJECT HELP,
              DEBUG SLEEP / SET, the XADD / XINFO stubs, unknown commands);
* `scan …`  — SCAN (HSCAN / ZSCAN: lazy drop + the same read-only paging).

Not in `FullCmd`: INCRBYFLOAT (float formatting), MULTI / EXEC / DISCARD / WATCH / UNWATCH (C05), EVAL /
EVALSHA / SCRIPT … (scripts: `Props/C17.lean` — the statement is false for them, in Redis too).  The
harness maps every variant of the enum (list scanned from `command.rs`) to one of these classes or to
one of the named exclusions; for the `stub` and `scan` classes it checks on every executed instance that
the PHYSICAL state did not move at all (`XS` lines), which is what `const` claims. -/

inductive FullCmd
  | data (c : Cmd)
  | x (c : XCmd)
  | stub (c : StubCmd)
  | scan (cursor : Nat) (pat : Option BS) (count : Option Nat)

inductive FullReply
  | reply (x : Reply)
  | stub (x : StubReply)
  | page (next : Nat) (keys : List Nat)

def FullReply.isError : FullReply → Bool
  | .reply x => x.isError
  | .stub .noSuchKey => true
  | _ => false

def execFull (cs : CState) : FullCmd → Option (CState × FullReply)
  | .data c => (execC cs c).map (fun p => (p.1, .reply p.2))
  | .x c => some ((execXC cs c).1, .reply (execXC cs c).2)
  | .stub c => some ((execStub cs c).1, .stub (execStub cs c).2)
  | .scan cur pat cnt => (cScan cs cur pat cnt).map (fun p => (p.1, .page p.2.1 p.2.2))

/-- `Command::is_read_only` on the classes (stubs: whatever the table says, they never write) -/
def isReadOnlyFull : FullCmd → Bool
  | .data c => isReadOnly c
  | .x c => isReadOnlyX c
  | .stub _ => true
  | .scan _ _ _ => true

def FullOk (cs : CState) : FullCmd → Prop
  | .data c => CmdOk c ∧ Room cs c
  | _ => True

/-- what a command of the full set does to the visible keyspace, class by class: the data and bit
    commands are simulated by `execDev` / `execX`, stubs and SCAN leave it alone -/
def FullSim (cs cs' : CState) (r : FullReply) : FullCmd → Prop
  | .data d => ∃ rr, r = .reply rr ∧ rr = (execDev (absP cs) (unix cs) d).2 ∧
      absP cs' = purge (execDev (absP cs) (unix cs) d).1 (unix cs)
  | .x x => ∃ rr, r = .reply rr ∧ rr = (execX (absP cs) x).2 ∧
      absP cs' = purge (execX (absP cs) x).1 (unix cs)
  | _ => absP cs' = absP cs

theorem execFull_sim {cs : CState} (h : CInv cs) (c : FullCmd) (hc : FullOk cs c)
    {cs' : CState} {r : FullReply} (he : execFull cs c = some (cs', r)) :
    CInv cs' ∧ FullSim cs cs' r c := by
  cases c
  case data d =>
    obtain ⟨res, he', h1, h2, h3, _, _⟩ := executor_exec_refines h d hc.1 hc.2
    simp only [execFull, he', Option.map_some, Option.some.injEq, Prod.mk.injEq] at he
    obtain ⟨rfl, rfl⟩ := he
    exact ⟨h3, _, rfl, h1, h2⟩
  case x x =>
    obtain ⟨h1, h2, h3, _, _⟩ := execXC_sim h x
    simp only [execFull, Option.some.injEq, Prod.mk.injEq] at he
    obtain ⟨rfl, rfl⟩ := he
    exact ⟨h3, _, rfl, h1, h2⟩
  case stub c =>
    simp only [execFull, Option.some.injEq, Prod.mk.injEq] at he
    rw [← he.1]
    exact ⟨(execStub_noop h c).2.1, (execStub_noop h c).1⟩
  case scan cur pat cnt =>
    simp only [execFull] at he
    cases hx : cScan cs cur pat cnt with
    | none => rw [hx] at he; cases he
    | some p =>
      simp only [hx, Option.map_some, Option.some.injEq, Prod.mk.injEq] at he
      rw [← he.1, C01Scan.scan_is_noop cs cur pat cnt p.1 p.2 hx]
      exact ⟨h, rfl⟩

/-- **A command that fails changes nothing — over the full command set, on the executor as it is.** -/
theorem full_error_is_noop {cs : CState} (h : CInv cs) (c : FullCmd) (hc : FullOk cs c)
    {cs' : CState} {r : FullReply} (he : execFull cs c = some (cs', r)) (herr : r.isError = true) :
    absP cs' = absP cs ∧ CInv cs' := by
  obtain ⟨hi, hs⟩ := execFull_sim h c hc he
  refine ⟨?_, hi⟩
  cases c
  case data d =>
    obtain ⟨rr, rfl, hr, ha⟩ := hs
    rw [ha, execDev_err _ _ _ (hr ▸ herr), purge_absP]
  case x x =>
    obtain ⟨rr, rfl, hr, ha⟩ := hs
    rw [ha, execX_err (hr ▸ herr), purge_absP]
  all_goals exact hs

/-- **A command classified read-only changes nothing — over the full command set.** -/
theorem full_readonly_is_noop {cs : CState} (h : CInv cs) (c : FullCmd) (hc : FullOk cs c)
    (hro : isReadOnlyFull c = true)
    {cs' : CState} {r : FullReply} (he : execFull cs c = some (cs', r)) :
    absP cs' = absP cs ∧ CInv cs' := by
  obtain ⟨hi, hs⟩ := execFull_sim h c hc he
  refine ⟨?_, hi⟩
  cases c
  case data d =>
    obtain ⟨_, _, _, ha⟩ := hs
    rw [ha, execDev_ro _ _ _ hro, purge_absP]
  case x x =>
    obtain ⟨_, _, _, ha⟩ := hs
    rw [ha, execX_ro hro, purge_absP]
  all_goals exact hs

/-! ## the two statements for M7's commands alone, in terms of `execC` -/

/-- **A command that fails changes nothing** — on the executor as it is. -/
theorem executor_error_is_noop {cs : CState} (h : CInv cs) (c : Cmd) (hc : CmdOk c) (hr : Room cs c)
    {cs' : CState} {r : Reply} (he : execC cs c = some (cs', r)) (herr : r.isError = true) :
    absP cs' = absP cs ∧ CInv cs' :=
  full_error_is_noop h (.data c) ⟨hc, hr⟩ (r := .reply r) (by rw [execFull, he]; rfl) herr

/-- **A command classified read-only changes nothing** — on the executor as it is. -/
theorem executor_readonly_is_noop {cs : CState} (h : CInv cs) (c : Cmd) (hc : CmdOk c) (hr : Room cs c)
    (hro : isReadOnly c = true) {cs' : CState} {r : Reply} (he : execC cs c = some (cs', r)) :
    absP cs' = absP cs ∧ CInv cs' :=
  full_readonly_is_noop h (.data c) ⟨hc, hr⟩ hro (r := .reply r) (by rw [execFull, he]; rfl)

/-- … in terms of M7's `view` (key ↦ type + value, remaining TTL) at the executor's instant -/
theorem executor_error_keeps_view {cs : CState} (h : CInv cs) (c : Cmd) (hc : CmdOk c) (hr : Room cs c)
    {cs' : CState} {r : Reply} (he : execC cs c = some (cs', r)) (herr : r.isError = true) :
    view (abs cs') (unix cs') = view (abs cs) (unix cs) := by
  have h1 := (executor_error_is_noop h c hc hr he herr).1
  obtain ⟨res, he', _, _, _, hn, hep⟩ := executor_exec_refines h c hc hr
  rw [he] at he'
  cases he'
  simp only at hn hep
  have hu : unix cs' = unix cs := by simp [unix, hn, hep]
  unfold absP at h1
  rw [hu] at h1 ⊢
  unfold view
  rw [h1]

/-- the invariant survives every command of the full set (so both theorems apply along any history) -/
theorem full_inv_preserved {cs : CState} (h : CInv cs) (c : FullCmd) (hc : FullOk cs c)
    {cs' : CState} {r : FullReply} (he : execFull cs c = some (cs', r)) : CInv cs' :=
  (execFull_sim h c hc he).1

/-- non-vacuity: OBJECT REFCOUNT of a key past its deadline answers "no such key" and drops it -/
example : (execStub ⟨[(1, .str [1])], [(1, 5)], 10, 0⟩ (.objectRefCount 1)) =
    (⟨[], [], 10, 0⟩, .noSuchKey) := by decide

/-! ## `execute_readonly`

The second read path (`execute_readonly(&self, …)`: GET, EXISTS, KEYS, PING — used by connection-level
fast reads) cannot write by its type; what has to be PROVED is that it answers what `execute` answers,
although it never drops a dead key and `execute` does. -/

/-- `execute_readonly` and `execute` give the same reply -/
theorem readonly_path_agrees {cs : CState} (h : CInv cs) (c : Cmd) (r : Reply)
    (hr : cReadonly cs c = some r) : ∃ cs', execC cs c = some (cs', r) := by
  unfold cReadonly at hr
  split at hr
  · rename_i k
    refine ⟨(cGet cs k).1, ?_⟩
    show some (cGet cs k) = some ((cGet cs k).1, r)
    simp only [cGet, getValue]
    by_cases hx : isExpired cs k = true
    · simp only [hx, if_true] at hr ⊢
      cases hr; rfl
    · have hx' : isExpired cs k = false := by simpa using hx
      simp only [hx', Bool.false_eq_true, if_false] at hr ⊢
      cases hv : NMap.get cs.data k with
      | none => rw [hv] at hr; cases hr; rfl
      | some v => rw [hv] at hr; cases v <;> cases hr <;> rfl
  · cases hr; exact ⟨cs, rfl⟩
  · cases hr; exact ⟨cs, rfl⟩
  · cases hr

end RedisVerif.C17Exec
