import RedisVerif.Model.Wal
import RedisVerif.Lemmas.Wal
import RedisVerif.Driver.Crc32

/-!
# C10 — WAL recovery yields only intact appended entries; truncation keeps newer ones

Model: `RedisVerif.Wal` (M3, `Model/Wal.lean`): `decode`/`Entry.encode` = `WalEntry::{decode,
encode}`, `fileEntries` = `WalReader::open` + `entries`, `recoverAll` =
`WalRotator::recover_all_entries`, `truncateBefore` = `WalRotator::truncate_before`.
The checksum function is a parameter `crc`; the on-disk format is a parameter `fmt`:
`.v2` is the code since `fix:` 2d7cc3c (entry checksum over `data_length | timestamp | data`, an
empty entry is rejected, version byte 2), `.v1` the format before it (checksum over the payload
only).  The theorems that name no format hold for both; those about `.v1` are about the same
functions and show what the earlier format let through.  Detection of same-length damage is under
the hypothesis `CrcDetects` (decidable); a zero-filled tail after a cut at an entry boundary needs
none in `.v2` (`no_phantom_zero_entry`).
-/
namespace RedisVerif
namespace C10

open Wal

/-! ## round trip -/

/-- `decode (encode e ++ rest) = some (e, |encode e|)` for every entry that fits the field
    widths, carries the checksum of what the format covers and (v2) is not empty -/
theorem decode_encode (fmt : Format) (crc : Bytes → Nat) (e : Entry) (rest : Bytes)
    (hg : e.Good fmt crc) :
    decode fmt crc (e.encode ++ rest) = some (e, e.size) ∧ e.size = e.encode.length :=
  ⟨Wal.decode_encode fmt crc e rest hg, by rw [Entry.size, encode_length]⟩

example : (Entry.mk' .v2 Driver.crc32 [1, 2, 255] 7).Good .v2 Driver.crc32 := by decide +kernel
example : (Entry.mk' .v1 Driver.crc32 [] 7).Good .v1 Driver.crc32 := by decide +kernel

/-! ## the length field is a 32-bit value: no wrap in the size test -/

/-- every `offset + len` bound test done with a `usize` addition, checked or plain (the entry size
    in `WalEntry::decode`, record lengths in a segment, data length of a checkpoint): offsets are
    below `2^63` (allocation limit), lengths are 32-bit, so the sum does not wrap and the test is the
    comparison the model makes in unbounded `Nat` -/
theorem size_test_no_wrap (a : SizeArith) (ha : a ≠ .u32Wrapping) (base remaining len : Nat)
    (hb : base < 2 ^ 63) (hl : len < 2 ^ 32) :
    sizeTest a base remaining len = if remaining < base + len then .reject else .slice (base + len) := by
  have hsum : base + len < 2 ^ 64 := by omega
  have hge : ¬ base + len < base := by omega
  cases a with
  | u32Wrapping => exact absurd rfl ha
  | usizeChecked => simp only [sizeTest, totalSize, if_pos hsum, if_neg hge]
  | usizeWrapping => simp only [sizeTest, totalSize, Nat.mod_eq_of_lt hsum, if_neg hge]

/-- the size test of the CURRENT code (`WAL_ENTRY_OVERHEAD.checked_add(data_len)?` in `usize`,
    then `data.len() < total_size`): for EVERY 32-bit length and every number of remaining
    bytes it rejects exactly when `16 + len > remaining`, and otherwise slices `data[16..16+len]`
    — which is the comparison the model's `decode` makes in unbounded `Nat` -/
theorem decode_total_no_wrap (remaining len : Nat) (hl : len < 2 ^ 32) :
    sizeTest .usizeChecked overhead remaining len
      = if remaining < overhead + len then .reject else .slice (overhead + len) :=
  size_test_no_wrap .usizeChecked (by decide) overhead remaining len (by decide) hl

/-- the length `decode` reads from four BYTES is a 32-bit value -/
theorem decode_len_is_u32 (bs : Bytes) (hb : ∀ b ∈ bs, b < 256) : leVal (bs.take 4) < 2 ^ 32 := by
  have h := leVal_lt (bs.take 4) (fun b hbm => hb b (List.mem_of_mem_take hbm))
  have hl : (bs.take 4).length ≤ 4 := by rw [List.length_take]; omega
  calc leVal (bs.take 4) < 256 ^ (bs.take 4).length := h
    _ ≤ 256 ^ 4 := Nat.pow_le_pow_right (by decide) hl
    _ = 2 ^ 32 := by decide

/-- … and it is FALSE of 32-bit wrapping arithmetic (`(WAL_ENTRY_OVERHEAD as u32 + data_len) as
    usize`): a length field in 0xFFFFFFF0..=0xFFFFFFFF (a tail that reads back as erased flash)
    with 16 bytes remaining is ACCEPTED with a total of 0..15, and the payload slice
    `data[16..total]` panics — recovery crashes instead of stopping at the last intact entry -/
theorem size_wrap_counterexample :
    sizeTest .u32Wrapping overhead 16 0xFFFFFFF0 = .crash ∧
    sizeTest .u32Wrapping overhead 16 0xFFFFFFFF = .crash ∧
    sizeTest .usizeChecked overhead 16 0xFFFFFFF0 = .reject ∧
    sizeTest .usizeChecked overhead 16 0xFFFFFFFF = .reject := by decide

/-! ## torn files -/

/-- the whole file reads back exactly what was appended, in append order -/
theorem entries_intact (fmt : Format) (crc : Bytes → Nat) (seq : Nat) (es : List Entry)
    (hok : AllOk fmt crc es) : fileEntries fmt crc (fileImage fmt seq es) = es :=
  fileEntries_clean fmt crc seq es hok

/-- EVERY prefix of a well-formed file image (torn file header, torn entry header, torn
    payload, cut at an entry boundary) reads as a prefix of the appended entries — in order,
    bit-identical, nothing else.  (The model has no crash outcome here because the Rust code
    has no reachable panic: every index is guarded by a length test; the harness checks
    that with `catch_unwind` on every truncation length.) -/
theorem entries_of_prefix (fmt : Format) (crc : Bytes → Nat) (seq : Nat) (es : List Entry)
    (hs : seq < 2 ^ 64) (hok : AllOk fmt crc es) (n : Nat) :
    ∃ k, fileEntries fmt crc ((fileImage fmt seq es).take n) = es.take k :=
  fileEntries_take fmt crc seq es hok n

example : AllOk .v2 Driver.crc32 [Entry.mk' .v2 Driver.crc32 [1] 9, Entry.mk' .v2 Driver.crc32 [0] 3] := by
  decide +kernel

/-! ## corruption -/

/-- the checksum catches the first damaged entry: if the declared payload of `bad` is
    present at all (and, v2, the declared length is not 0 — such an entry is rejected anyway),
    the checksum of the covered bytes differs from the stored one (decidable) -/
def CrcDetects (fmt : Format) (crc : Bytes → Nat) (bad : Bytes) : Prop :=
  overhead + leVal (bad.take 4) ≤ bad.length → ¬ (fmt = .v2 ∧ leVal (bad.take 4) = 0) →
    crc (covered fmt (leVal (bad.take 4)) (leVal ((bad.drop 4).take 8))
        ((bad.drop overhead).take (leVal (bad.take 4)))) ≠ leVal ((bad.drop 12).take 4)

instance (fmt : Format) (crc : Bytes → Nat) (bad : Bytes) : Decidable (CrcDetects fmt crc bad) := by
  unfold CrcDetects; infer_instance

theorem decode_none_of_detects (fmt : Format) (crc : Bytes → Nat) (bad : Bytes)
    (h : CrcDetects fmt crc bad) : decode fmt crc bad = none := by
  unfold decode
  by_cases h1 : bad.length < overhead
  · rw [if_pos h1]
  · rw [if_neg h1]
    by_cases hz : fmt = .v2 ∧ leVal (bad.take 4) = 0
    · exact if_pos hz
    · by_cases hl : bad.length < overhead + leVal (bad.take 4)
      · exact (if_neg hz).trans (if_pos hl)
      · exact (if_neg hz).trans ((if_neg hl).trans (if_neg (h (Nat.le_of_not_lt hl) hz)))

theorem fileEntries_stop {fmt : Format} {crc : Bytes → Nat} {es : List Entry} {bad : Bytes} (seq : Nat)
    (hok : AllOk fmt crc es) (h : decode fmt crc bad = none) :
    fileEntries fmt crc (fileImage fmt seq es ++ bad) = es := by
  unfold fileImage
  rw [List.append_assoc, fileEntries_image, entries_encs_append fmt crc es bad hok,
    entries_of_decode_none fmt crc bad h, List.append_nil]

theorem fileImage_split (fmt : Format) (seq : Nat) (es₁ : List Entry) (e : Entry) (es₂ : List Entry) :
    fileImage fmt seq es₁ ++ (e.encode ++ encs es₂) = fileImage fmt seq (es₁ ++ e :: es₂) := by
  unfold fileImage; rw [encs_append, encs_cons, List.append_assoc]

theorem allOk_split {fmt : Format} {crc : Bytes → Nat} {es es₁ es₂ : List Entry} {e : Entry}
    (hok : AllOk fmt crc es) (hes : es = es₁ ++ e :: es₂) : AllOk fmt crc es₁ ∧ e.Good fmt crc := by
  subst hes
  exact ⟨fun x hx => hok x (List.mem_append_left _ hx), hok e (by simp)⟩

theorem prefix_of_any_header (fmt : Format) (crc : Bytes → Nat) (es : List Entry) (h' : Bytes)
    (hl : h'.length = 16) (hok : AllOk fmt crc es) :
    ∃ k, fileEntries fmt crc (h' ++ encs es) = es.take k := by
  rw [fileEntries_hdr fmt crc h' _ hl]
  split
  · exact ⟨es.length, by rw [entries_encs fmt crc es hok, List.take_length]⟩
  · exact ⟨0, rfl⟩

theorem prefix_of_stop {es es₁ es₂ r : List Entry} {e : Entry} (hes : es = es₁ ++ e :: es₂)
    (h : r = es₁) : ∃ k, r = es.take k :=
  ⟨es₁.length, by rw [h, hes, List.take_left' rfl]⟩

/-- recovery of a file ends at the last intact entry when the first damaged one is caught:
    whatever follows (`bad` includes everything up to the end of the file) is not yielded -/
theorem corruption_stops (fmt : Format) (crc : Bytes → Nat) (seq : Nat) (es : List Entry)
    (bad : Bytes) (hs : seq < 2 ^ 64) (hok : AllOk fmt crc es) (hd : CrcDetects fmt crc bad) :
    fileEntries fmt crc (fileImage fmt seq es ++ bad) = es :=
  fileEntries_stop seq hok (decode_none_of_detects fmt crc bad hd)

theorem decode_crc_ne (fmt : Format) (crc : Bytes → Nat) (d' : Bytes) (ts c' : Nat) (rest : Bytes)
    (hf : Entry.Fits ⟨d', ts, c'⟩) (hne : crc (covered fmt d'.length ts d') ≠ c') :
    decode fmt crc ((Entry.mk d' ts c').encode ++ rest) = none := by
  rw [show (Entry.mk d' ts c').encode ++ rest = le 4 d'.length ++ (le 8 ts ++ (le 4 c' ++ (d' ++ rest))) by
    simp [Entry.encode], decode_hdr fmt crc _ _ _ _ hf.1 hf.2.1 hf.2.2]
  split
  · rfl
  · rw [if_neg (by simp), List.take_left' rfl, if_neg hne]

/-- instance: payload, stamp and/or stored checksum of an entry were changed (length field
    consistent) and the checksum notices — everything from that entry on is dropped, including
    later intact entries of the same file -/
theorem corruption_stops_payload (fmt : Format) (crc : Bytes → Nat) (seq : Nat) (es : List Entry)
    (d' : Bytes) (ts c' : Nat) (rest : Bytes)
    (hok : AllOk fmt crc es) (hf : Entry.Fits ⟨d', ts, c'⟩)
    (hne : crc (covered fmt d'.length ts d') ≠ c') :
    fileEntries fmt crc (fileImage fmt seq es ++ ((Entry.mk d' ts c').encode ++ rest)) = es :=
  fileEntries_stop seq hok (decode_crc_ne fmt crc d' ts c' rest hf hne)

-- a flipped payload bit is caught by CRC-32 (non-vacuity of `CrcDetects`), both formats
example : CrcDetects .v1 Driver.crc32 ((Entry.mk [1, 2, 2] 7 (Driver.crc32 [1, 2, 3])).encode) := by
  decide +kernel
example : CrcDetects .v2 Driver.crc32
    ((Entry.mk [1, 2, 2] 7 (Entry.mk' .v2 Driver.crc32 [1, 2, 3] 7).crc).encode) := by decide +kernel

/-- CURRENT format: the stamp is covered.  An entry whose stamp bytes were changed (`ts'`
    instead of `e.ts`, everything else as written) ends recovery of its file as soon as the
    checksum tells the two covered strings apart -/
theorem timestamp_corruption_stops_v2 (crc : Bytes → Nat) (seq : Nat) (es : List Entry)
    (e : Entry) (ts' : Nat) (rest : Bytes) (hs : seq < 2 ^ 64) (hok : AllOk .v2 crc es)
    (he : e.Good .v2 crc) (ht : ts' < 2 ^ 64)
    (hne : crc (covered .v2 e.data.length ts' e.data) ≠ crc (covered .v2 e.data.length e.ts e.data)) :
    fileEntries .v2 crc (fileImage .v2 seq es ++ ((Entry.mk e.data ts' e.crc).encode ++ rest)) = es := by
  apply corruption_stops_payload .v2 crc seq es e.data ts' e.crc rest hok ⟨he.1.1, ht, he.1.2.2⟩
  rw [← he.2.1] at *
  exact hne

-- CRC-32 tells stamp 5 from stamp 261 (the flipped bit of DESIGN.md §6.1)
example : Driver.crc32 (covered .v2 1 261 [7]) ≠ Driver.crc32 (covered .v2 1 5 [7]) := by decide +kernel

/-! ## files are independent -/

/-- recovery is the concatenation, in sequence order, of per-file results: whatever the
    bytes `f'` of one file are (unreadable, short, corrupt), the entries of all files before
    and after it are returned unchanged and in place -/
theorem files_independent (fmt : Format) (crc : Bytes → Nat) (a b : Image) (s : Nat) (f' : Bytes) :
    recoverAll fmt crc (a ++ (s, f') :: b)
      = recoverAll fmt crc a ++ fileEntries fmt crc f' ++ recoverAll fmt crc b := by
  rw [recoverAll_append, recoverAll_cons, List.append_assoc]

/-- an unreadable file (too short, wrong magic, wrong version) contributes nothing -/
theorem unreadable_contributes_nothing (fmt : Format) (crc : Bytes → Nat) (f' : Bytes)
    (h : openFile fmt f' = none) : fileEntries fmt crc f' = [] := by
  unfold fileEntries readFile; rw [h]

example : openFile .v2 [82, 87, 65] = none := by decide
-- a file of the old format is not read by the current code (version byte)
example : openFile .v2 (header .v1 1) = none := by decide

/-! ## only appended entries come back -/

/-- the damage classes of the property: truncation, one changed byte, truncation followed by
    a zero-filled tail -/
def Damaged (orig img : Bytes) : Prop :=
  (∃ n, img = orig.take n) ∨ (∃ i b, i < orig.length ∧ img = orig.set i b) ∨
    (∃ n m, img = orig.take n ++ List.replicate m 0)

/-- FULL-STRENGTH statement: whatever recovery returns from a damaged image of a file was
    appended to that file, bit-identical in every field -/
def C10_only_appended (fmt : Format) (crc : Bytes → Nat) : Prop :=
  ∀ (seq : Nat) (es : List Entry), seq < 2 ^ 64 → AllOk fmt crc es →
    ∀ img, Damaged (fileImage fmt seq es) img → ∀ e ∈ fileEntries fmt crc img, e ∈ es

/-- both formats: (1) every truncation, (2) an intact prefix followed by arbitrary bytes whose
    first entry the checksum rejects -/
theorem only_appended_partial (fmt : Format) (crc : Bytes → Nat) (seq : Nat) (es : List Entry)
    (hs : seq < 2 ^ 64) (hok : AllOk fmt crc es) :
    (∀ n, ∀ e ∈ fileEntries fmt crc ((fileImage fmt seq es).take n), e ∈ es) ∧
    (∀ k bad, CrcDetects fmt crc bad →
      ∀ e ∈ fileEntries fmt crc (fileImage fmt seq (es.take k) ++ bad), e ∈ es) := by
  constructor
  · intro n e he
    obtain ⟨k, hk⟩ := entries_of_prefix fmt crc seq es hs hok n
    rw [hk] at he
    exact List.mem_of_mem_take he
  · intro k bad hd e he
    rw [corruption_stops fmt crc seq (es.take k) bad hs
      (fun x hx => hok x (List.mem_of_mem_take hx)) hd] at he
    exact List.mem_of_mem_take he

/-- CURRENT format: bytes that announce length 0 are never an entry — in particular a
    zero-filled tail of ANY length yields nothing (no checksum assumption) -/
theorem no_phantom_zero_entry (crc : Bytes → Nat) (bs : Bytes) (h : leVal (bs.take 4) = 0) :
    decode .v2 crc bs = none :=
  decode_none_of_detects .v2 crc bs fun _ hz => absurd ⟨rfl, h⟩ hz

theorem zero_tail_stops_v2 (crc : Bytes → Nat) (seq : Nat) (es : List Entry) (m : Nat)
    (hok : AllOk .v2 crc es) :
    fileEntries .v2 crc (fileImage .v2 seq es ++ List.replicate m 0) = es :=
  fileEntries_stop seq hok (no_phantom_zero_entry crc _ (by
    rw [List.take_replicate]; exact leVal_replicate_zero _))

/-- CURRENT format, the property's damage classes:
    (1) every truncation;
    (2) a cut at an entry boundary followed by a zero-filled tail of any length (unconditional);
    (3) a same-length corruption confined to ONE entry — any of its bytes: length, stamp,
        checksum or payload — when the checksum notices (`CrcDetects` on the bytes from that
        entry on): recovery returns exactly the entries before it.
    In each case everything that comes back was appended, bit-identical, in order. -/
theorem only_appended_v2 (crc : Bytes → Nat) (seq : Nat) (es : List Entry)
    (hs : seq < 2 ^ 64) (hok : AllOk .v2 crc es) :
    (∀ n, ∀ x ∈ fileEntries .v2 crc ((fileImage .v2 seq es).take n), x ∈ es) ∧
    (∀ k m, ∀ x ∈ fileEntries .v2 crc (fileImage .v2 seq (es.take k) ++ List.replicate m 0), x ∈ es) ∧
    (∀ es₁ e es₂ bad, es = es₁ ++ e :: es₂ → bad.length = e.encode.length →
      CrcDetects .v2 crc (bad ++ encs es₂) →
      fileEntries .v2 crc (fileImage .v2 seq es₁ ++ (bad ++ encs es₂)) = es₁ ∧
      ∀ x ∈ fileEntries .v2 crc (fileImage .v2 seq es₁ ++ (bad ++ encs es₂)), x ∈ es) := by
  refine ⟨(only_appended_partial .v2 crc seq es hs hok).1, ?_, ?_⟩
  · intro k m x hx
    rw [zero_tail_stops_v2 crc seq (es.take k) m (fun y hy => hok y (List.mem_of_mem_take hy))] at hx
    exact List.mem_of_mem_take hx
  · intro es₁ e es₂ bad hes _ hd
    have := corruption_stops .v2 crc seq es₁ (bad ++ encs es₂) hs (allOk_split hok hes).1 hd
    refine ⟨this, fun x hx => ?_⟩
    rw [this] at hx
    rw [hes]; exact List.mem_append_left _ hx

-- non-vacuity of (3) with CRC-32: the entry stamped 5 with its second stamp byte flipped
-- (5 → 261) — the very input that the old format accepted
example : CrcDetects .v2 Driver.crc32
    ((Entry.mk' .v2 Driver.crc32 [7] 5).encode.set 5 1 ++ encs []) := by decide +kernel

/-- format `.v2`: on a store with a zero-filled tail `recover_entries_after` returns exactly what
    it returns for the undamaged store -/
theorem recover_after_survives_zero_fill {δ : Type} (crc : Bytes → Nat) (de : Bytes → Option δ)
    (a b : Image) (s : Nat) (es : List Entry) (m t : Nat) (hs : s < 2 ^ 64) (hok : AllOk .v2 crc es) :
    recoverAfter .v2 crc de t (a ++ (s, fileImage .v2 s es ++ List.replicate m 0) :: b)
      = recoverAfter .v2 crc de t (a ++ (s, fileImage .v2 s es) :: b) := by
  unfold recoverAfter
  rw [files_independent, files_independent, zero_tail_stops_v2 crc s es m hok,
    entries_intact .v2 crc s es hok]

/-! ## the old format `.v1` (before the fix) -/

theorem good_mk_v1 (crc : Bytes → Nat) (d : Bytes) (t : Nat) (hd : d.length < 2 ^ 32) (ht : t < 2 ^ 64)
    (hr : crc d < 2 ^ 32) : (Entry.mk' .v1 crc d t).Good .v1 crc :=
  ⟨⟨hd, ht, hr⟩, rfl, nofun⟩

/-- OLD format: the timestamp is outside the checksum: changing one byte of it (here byte 1 of
    the stamp of the only entry, 5 → 261) yields an entry that was never appended — for EVERY
    checksum function, since the payload and its checksum are untouched -/
theorem timestamp_flip_counterexample (crc : Bytes → Nat) (hr : crc [7] < 2 ^ 32) :
    ¬ C10_only_appended .v1 crc := by
  intro h
  have hok : ∀ t, t < 2 ^ 64 → AllOk .v1 crc [Entry.mk' .v1 crc [7] t] := fun t ht e he => by
    rw [List.mem_singleton.mp he]
    exact good_mk_v1 crc [7] t (by decide) ht hr
  have himg : (fileImage .v1 1 [Entry.mk' .v1 crc [7] 5]).set 21 1
      = fileImage .v1 1 [Entry.mk' .v1 crc [7] 261] := by
    simp [fileImage, header, magic, encs, Entry.encode, Entry.mk', le, covered, Format.version]
  have := h 1 [Entry.mk' .v1 crc [7] 5] (by decide) (hok 5 (by decide)) _
    (Or.inr (Or.inl ⟨21, 1, by
      simp [fileImage, header, magic, encs, Entry.encode, le_length, Entry.mk'], rfl⟩))
    (Entry.mk' .v1 crc [7] 261)
  rw [himg, entries_intact .v1 crc 1 _ (hok 261 (by decide))] at this
  have := this (by simp)
  simp [Entry.mk'] at this

theorem timestamp_flip_counterexample_crc32 : ¬ C10_only_appended .v1 Driver.crc32 :=
  timestamp_flip_counterexample Driver.crc32 (by decide)

/-- OLD format: sixteen zero bytes are a valid EMPTY entry as soon as `crc [] = 0` (true of
    CRC-32): a zero-filled tail yields an entry no writer ever produced -/
theorem zero_entry_decodes (crc : Bytes → Nat) (h0 : crc [] = 0) :
    decode .v1 crc (List.replicate 16 0) = some (⟨[], 0, 0⟩, 16) := by
  simp [decode, overhead, leVal, covered, h0]

theorem zero_fill_entries_v1 (crc : Bytes → Nat) (h0 : crc [] = 0) (s : Nat) :
    fileEntries .v1 crc (fileImage .v1 s [] ++ List.replicate 16 0) = [⟨[], 0, 0⟩] := by
  unfold fileImage
  rw [List.append_assoc, fileEntries_image]
  simp only [encs, List.flatMap_nil, List.nil_append]
  rw [entries_step, zero_entry_decodes crc h0]
  simp only
  rw [List.drop_of_length_le (by simp), entries_of_decode_none .v1 crc [] (by simp [decode, overhead])]

theorem zero_fill_counterexample (crc : Bytes → Nat) (h0 : crc [] = 0) :
    ¬ C10_only_appended .v1 crc := by
  intro h
  have := h 1 [] (by decide) (by intro e he; cases he) (fileImage .v1 1 [] ++ List.replicate 16 0)
    (Or.inr (Or.inr ⟨16, 16, by simp [fileImage, header, magic, encs, le]⟩)) ⟨[], 0, 0⟩
  rw [zero_fill_entries_v1 crc h0 1] at this
  simpa using this (by simp)

theorem zero_fill_counterexample_crc32 : ¬ C10_only_appended .v1 Driver.crc32 :=
  zero_fill_counterexample Driver.crc32 (by decide)

/-- OLD format: … and `recover_entries_after(0)` then failed as a whole when that payload did
    not deserialise (`to_delta()?`), hiding every intact entry of every file -/
theorem zero_fill_fails_recover_after {δ : Type} (crc : Bytes → Nat) (de : Bytes → Option δ)
    (h0 : crc [] = 0) (hde : de [] = none) (a b : Image) (s : Nat) (hs : s < 2 ^ 64) :
    recoverAfter .v1 crc de 0 (a ++ (s, fileImage .v1 s [] ++ List.replicate 16 0) :: b) = none := by
  unfold recoverAfter
  apply allSome_none_of_mem _ _ ⟨[], 0, 0⟩ _ hde
  rw [files_independent, zero_fill_entries_v1 crc h0 s, List.mem_filter]
  exact ⟨by simp, by simp⟩

/-! ## truncation -/

/-- FULL-STRENGTH, proved: for EVERY stamp layout (no monotonicity assumed), every threshold
    `T` and every active file: (1) the active file is never removed; (2) no file is added or
    altered; (3) the entries stamped later than `T` that recovery returns are exactly the same
    before and after (same entries, same order, same multiplicity) -/
theorem truncate_safe (fmt : Format) (crc : Bytes → Nat) (T : Nat) (active : Option Nat) (img : Image) :
    (∀ p ∈ img, active = some p.1 → p ∈ truncateBefore fmt crc T active img) ∧
    (truncateBefore fmt crc T active img).Sublist img ∧
    (recoverAll fmt crc (truncateBefore fmt crc T active img)).filter (fun e => decide (T < e.ts))
      = (recoverAll fmt crc img).filter (fun e => decide (T < e.ts)) := by
  refine ⟨?_, List.filter_sublist, ?_⟩
  · intro p hp ha
    unfold truncateBefore
    rw [List.mem_filter]
    exact ⟨hp, by simp [ha]⟩
  · induction img with
    | nil => rfl
    | cons p img ih =>
      unfold truncateBefore at ih ⊢
      rw [List.filter_cons]
      split
      · rw [recoverAll_cons, recoverAll_cons, List.filter_append, List.filter_append, ih]
      · rename_i hdel
        have hd : deletable fmt crc T p.2 = true := by
          simp only [Bool.or_eq_true, Bool.not_eq_true', not_or, Bool.not_eq_false] at hdel
          exact hdel.2
        rw [recoverAll_cons, List.filter_append, deletable_filter fmt crc T p.2 hd, List.nil_append, ih]

/-- corollary in the words of the property: an entry stamped later than `T` that was
    recoverable before `truncate_before(T)` is recoverable after it -/
theorem truncate_keeps_newer (fmt : Format) (crc : Bytes → Nat) (T : Nat) (active : Option Nat)
    (img : Image) (e : Entry) (he : e ∈ recoverAll fmt crc img) (ht : T < e.ts) :
    e ∈ recoverAll fmt crc (truncateBefore fmt crc T active img) := by
  have h := (truncate_safe fmt crc T active img).2.2
  have : e ∈ (recoverAll fmt crc img).filter (fun e => decide (T < e.ts)) := by
    rw [List.mem_filter]; exact ⟨he, by simpa using ht⟩
  rw [← h] at this
  exact (List.mem_filter.mp this).1

-- non-vacuity: a non-monotone layout (stamp 9 in an older file than stamp 3); file 1 survives
-- T = 5 because it holds stamp 9, file 2 (stamps ≤ 5) is deleted, file 3 is active
example :
    (truncateBefore .v2 Driver.crc32 5 (some 3)
      [(1, fileImage .v2 1 [Entry.mk' .v2 Driver.crc32 [1] 9, Entry.mk' .v2 Driver.crc32 [2] 2]),
       (2, fileImage .v2 2 [Entry.mk' .v2 Driver.crc32 [3] 3]),
       (3, fileImage .v2 3 [Entry.mk' .v2 Driver.crc32 [4] 1])]).map (·.1) = [1, 3] := by decide +kernel

/-! ## file names, listing order, foreign files in the directory -/

/-- `listing_order_eq_sequence_order_partial`: for sequences BELOW 2^32 the listing order of the
    rotator's file names (byte-wise order of `wal-{:08x}.wal`) is the order of the sequences … -/
theorem listing_order_eq_sequence_order_partial (a b : Nat) (ha : a < 2 ^ 32) (hb : b < 2 ^ 32) :
    nameLt (walName a) (walName b) = decide (a < b) := by
  rw [walName_small a ha, walName_small b hb, nameLt_append_left,
    nameLt_append_right _ _ _ (by rw [hexW_length, hexW_length])]
  exact nameLt_hexW 8 a b (by simpa using ha) (by simpa using hb)

/-- … and exactly at 2^32 it stops: `wal-100000000.wal` is listed BEFORE `wal-ffffffff.wal`
    (the name grows by a digit).  Nothing in the current code depends on the listing order of WAL
    names (recovery sorts by parsed sequence, truncation identifies the open file by its name). -/
theorem listing_order_breaks_at_2_32 :
    nameLt (walName (2 ^ 32)) (walName (2 ^ 32 - 1)) = true ∧
    nameLt (walName (2 ^ 32 - 1)) (walName (2 ^ 32)) = false := by decide +kernel

-- the names at the boundaries, and what `parse_wal_sequence` makes of near-WAL names
example : walName 255 = "wal-000000ff.wal".toUTF8.toList.map (·.toNat) := by decide +kernel
example : parseSeq (walName (2 ^ 64 - 1)) = some (2 ^ 64 - 1) ∧ parseSeq (walName (2 ^ 32)) = some (2 ^ 32) ∧
    parseSeq (walName 0) = some 0 := by decide +kernel
example :
    parseSeq ("wal-0000000A.wal".toUTF8.toList.map (·.toNat)) = some 10 ∧          -- upper case: an alias of sequence 10
    parseSeq ("wal-+5.wal".toUTF8.toList.map (·.toNat)) = some 5 ∧                -- leading '+', no padding
    parseSeq ("wal-zzzzzzzz.wal".toUTF8.toList.map (·.toNat)) = none ∧
    parseSeq ("wal-0000000g.wal".toUTF8.toList.map (·.toNat)) = none ∧
    parseSeq ("wal-00000001.wal.tmp".toUTF8.toList.map (·.toNat)) = none ∧
    parseSeq ("wal-.wal".toUTF8.toList.map (·.toNat)) = none ∧
    parseSeq ("wal-10000000000000000.wal".toUTF8.toList.map (·.toNat)) = none ∧  -- 2^64: overflow
    parseSeq [] = none ∧ parseSeq ("wal-manifest.json".toUTF8.toList.map (·.toNat)) = none := by
  decide +kernel

/-- `truncate_never_removes_active`: for EVERY directory (any sequences, any foreign files, any
    listing order) and every threshold, the file whose name is the open writer's name survives
    `truncate_before` -/
theorem truncate_never_removes_active (fmt : Format) (crc : Bytes → Nat) (T : Nat) (dir : Dir)
    (active : Name) (b : Bytes) (h : (active, b) ∈ dir) :
    (active, b) ∈ truncateBeforeD fmt crc T (some active) dir := by
  unfold truncateBeforeD
  rw [List.mem_filter]
  exact ⟨h, by simp⟩

/-- truncation over a directory with foreign files: nothing is added or altered, and every entry
    stamped later than `T` that recovery returned before is returned after -/
theorem truncate_keeps_newer_dir (fmt : Format) (crc : Bytes → Nat) (T : Nat) (active : Option Name)
    (dir : Dir) :
    (truncateBeforeD fmt crc T active dir).Sublist dir ∧
    ∀ e ∈ recoverAllD fmt crc dir, T < e.ts → e ∈ recoverAllD fmt crc (truncateBeforeD fmt crc T active dir) := by
  refine ⟨List.filter_sublist, fun e he ht => ?_⟩
  rw [mem_recoverAllD] at he ⊢
  obtain ⟨p, hp, hs, hx⟩ := he
  refine ⟨p, ?_, hs, hx⟩
  unfold truncateBeforeD
  rw [List.mem_filter]
  refine ⟨hp, ?_⟩
  cases hd : deletable fmt crc T p.2 with
  | false => simp
  | true =>
    have := deletable_filter fmt crc T p.2 hd
    have hmem : e ∈ (fileEntries fmt crc p.2).filter (fun e => decide (T < e.ts)) := by
      rw [List.mem_filter]; exact ⟨hx, by simpa using ht⟩
    rw [this] at hmem
    cases hmem

/-- a damaged or foreign file never hides the entries of the WAL files of the directory -/
theorem files_independent_dir (fmt : Format) (crc : Bytes → Nat) (a b : Dir) (n : Name) (f f' : Bytes)
    (p : Name × Bytes) (hp : p ∈ a ++ b) (hs : (parseSeq p.1).isSome) :
    ∀ e ∈ fileEntries fmt crc p.2,
      e ∈ recoverAllD fmt crc (a ++ (n, f) :: b) ∧ e ∈ recoverAllD fmt crc (a ++ (n, f') :: b) := by
  intro e he
  have hm : ∀ g, p ∈ a ++ (n, g) :: b := by
    intro g
    rcases List.mem_append.mp hp with h | h
    · exact List.mem_append_left _ h
    · exact List.mem_append_right _ (List.mem_cons_of_mem _ h)
  exact ⟨(mem_recoverAllD fmt crc _ e).mpr ⟨p, hm f, hs, he⟩, (mem_recoverAllD fmt crc _ e).mpr ⟨p, hm f', hs, he⟩⟩

/-- recovery ignores every name that does not parse as a WAL file -/
theorem foreign_files_ignored (fmt : Format) (crc : Bytes → Nat) (a b : Dir) (n : Name) (f : Bytes)
    (hn : parseSeq n = none) : recoverAllD fmt crc (a ++ (n, f) :: b) = recoverAllD fmt crc (a ++ b) := by
  unfold recoverAllD walFiles
  rw [List.filterMap_append, List.filterMap_cons, hn, List.filterMap_append]
  rfl

def bytesOf (s : String) : Bytes := s.toUTF8.toList.map (·.toNat)

/-- the variant that spares "whichever name comes last in the listing" instead of the open
    writer's own name: (1) the open file is `wal-100000000.wal` and `wal-ffffffff.wal` (an older
    file) is listed after it; (2) a foreign file `wal-manifest.json` is listed after the open file
    `wal-00000001.wal`.  In both directories `truncate_before(5)` with all stamps ≤ 5 deletes the
    ACTIVE file -/
theorem truncate_last_listed_counterexample :
    let e := Entry.mk' .v2 Driver.crc32 [1] 1
    let d1 : Dir := [(walName (2 ^ 32), fileImage .v2 (2 ^ 32) [e]), (walName (2 ^ 32 - 1), fileImage .v2 (2 ^ 32 - 1) [e])]
    let d2 : Dir := [(walName 1, fileImage .v2 1 [e]), (bytesOf "wal-manifest.json", [123, 125])]
    lastListed d1 = some (walName (2 ^ 32 - 1)) ∧
    (truncateBeforeD .v2 Driver.crc32 5 (lastListed d1) d1).map (·.1) = [walName (2 ^ 32 - 1)] ∧
    (truncateBeforeD .v2 Driver.crc32 5 (some (walName (2 ^ 32))) d1).map (·.1) = [walName (2 ^ 32)] ∧
    (truncateBeforeD .v2 Driver.crc32 5 (lastListed d2) d2).map (·.1) = [bytesOf "wal-manifest.json"] ∧
    (truncateBeforeD .v2 Driver.crc32 5 (some (walName 1)) d2).map (·.1) = [walName 1, bytesOf "wal-manifest.json"] := by
  decide +kernel

/-- a new rotator over a directory continues after the highest sequence that parses — also
    across the name-width change at 2^32 — and panics ("WAL sequence overflow") on its first rotate
    when a file with sequence 2^64 - 1 exists (model outcome `none`) -/
theorem new_rotator_at_boundaries :
    let e := Entry.mk' .v2 Driver.crc32 [1] 1
    ((DRot.new [(walName (2 ^ 32 - 1), fileImage .v2 (2 ^ 32 - 1) [])]).append .v2 100 e).map (fun r => r.dir.map (·.1))
      = some [walName (2 ^ 32), walName (2 ^ 32 - 1)] ∧
    ((DRot.new [(bytesOf "wal-+5.wal", []), (bytesOf "zzz", [])]).append .v2 100 e).map (fun r => r.cur) = some (some 6) ∧
    (DRot.new [(walName (2 ^ 64 - 1), [])]).append .v2 100 e = none := by
  decide +kernel

end C10
end RedisVerif
