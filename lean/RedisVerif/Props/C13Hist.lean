import RedisVerif.Props.C13

/-!
# C13 over histories — repeated compactions, `compact_if_needed`, exactness

From one pass (Props/C13.lean) to the entry point the compaction worker calls (`needs_compaction`
with the `max_segments` threshold, then `compact`), to any number of passes in a row, and to whole
histories: recovery returns EXACTLY the merge of the updates of the flushes that returned `Ok` —
not only "absorbs" them (C12) and not only "one compaction preserves" (C13).
-/
namespace RedisVerif
namespace C13

open _root_.RedisVerif.Stream FoldACI

/-- current tree, no tombstone GC: every oracle, every
    threshold `max_segments` (0 included: always "needed"), every layout with coherent content -/
theorem compact_if_needed_preserves_recovery (F : Oracle) (cfg : CompactCfg) (maxSegs sz : Nat) (w : World)
    (rid : Nat) (hinv : StoreInv w.store) (hc : Coherent (content w.store)) (hgc : cfg.cutoff = 0) :
    recState (compactIfNeeded F cfg maxSegs sz w).1.store rid = recState w.store rid :=
  have h := holds_content hinv hc
  recState_eq h (h.compactIfNeeded F hgc maxSegs sz) rid

/-- a pass below the threshold does nothing at all to the store -/
theorem compact_if_needed_below_threshold (fl : CompactFlags) (F : Oracle) (cfg : CompactCfg) (maxSegs sz : Nat)
    (w : World) (h : (needsCompaction F maxSegs w).2 = some false) :
    (compactIfNeededWith fl F cfg maxSegs sz w).1.store = w.store ∧
    (compactIfNeededWith fl F cfg maxSegs sz w).2 = .nothing := by
  unfold compactIfNeededWith
  have hs := needsCompaction_store F maxSegs w
  cases hn : needsCompaction F maxSegs w with
  | mk w1 ob =>
    rw [hn] at h hs
    simp only at h hs
    subst h
    exact ⟨hs, rfl⟩

/-! ## histories -/

/-- every history of push / flush / compact of the current tree (any number of
    compactions, compactions of compacted segments, every configuration without tombstone GC),
    coherent pushed updates, every fault oracle hence every crash point: recovery succeeds and
    the recovered state is EXACTLY the per-key merge of the updates of the flushes that returned
    `Ok` — nothing more (no resurrected or phantom update), nothing less -/
theorem history_exact (F : Oracle) (rid : Nat) (ops : List Op)
    (hc : Coherent (pushes ops)) (hgc : ∀ o ∈ ops, o.gcFree = true) :
    recState (run F (Sys.init [] rid) ops).w.store rid = some (foldState (run F (Sys.init [] rid) ops).acked) :=
  recState_of_holds (holds_of_coherent current rfl rfl F rid ops hc hgc) rid

/-- any number of compaction passes in a row (each with its own configuration, no tombstone GC)
    leaves the recovered state unchanged -/
theorem compaction_sequence_preserves_recovery (F : Oracle) (passes : List (CompactCfg × Nat)) (w : World)
    (rid : Nat) (hinv : StoreInv w.store) (hc : Coherent (content w.store))
    (hgc : ∀ p ∈ passes, p.1.cutoff = 0) :
    recState (passes.foldl (fun w p => (compact F p.1 p.2 w).1) w).store rid = recState w.store rid := by
  have h := holds_content hinv hc
  -- the carrier is written out: left to unification inside the invariant it is slow to find
  exact recState_eq h (TraceInv.run_inv_of _ (fun w' : World => Holds (carrierOf _ hc) w'.store (content w.store))
    (fun p => p.1.cutoff = 0) (fun _ p hp hw => hw.compact_current F hp p.2) w h passes hgc) rid

/-! ## non-vacuity -/

/-- a history with two compactions (the second compacts the segment the first wrote), a failed
    flush in between, and updates of two replicas on one key -/
def histOps : List Op :=
  [.push (107, lww 1 5 1), .flush 100, .push (107, lww 2 5 2), .flush 100, .compact cfgAll 150,
   .push (108, lww 3 6 1), .flush 100, .push (109, lww 4 7 1), .flush 100, .compact cfgAll 150]

def histOracle : Oracle := fun n => if n = 21 then .fail else .ok

example : Coherent (pushes histOps) ∧ (∀ o ∈ histOps, o.gcFree = true) ∧
    (run histOracle (Sys.init [] 1) histOps).acked.length = 3 ∧
    recState (run histOracle (Sys.init [] 1) histOps).w.store 1 =
      some (foldState [(107, lww 1 5 1), (107, lww 2 5 2), (108, lww 3 6 1)]) := by
  decide

example : (needsCompaction allOk 2 (after equalTimesOps)).2 = some true ∧
    (needsCompaction allOk 3 (after equalTimesOps)).2 = some false ∧
    (compactIfNeeded allOk cfgAll 2 100 (after equalTimesOps)).2 = .compacted [0, 1] 2 1 0 ∧
    (compactIfNeeded allOk cfgAll 3 100 (after equalTimesOps)).2 = .nothing := by
  decide

end C13
end RedisVerif
