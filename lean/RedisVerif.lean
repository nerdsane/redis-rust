import RedisVerif.Model.NMap
import RedisVerif.Model.Crdt
import RedisVerif.Model.Redis
import RedisVerif.Lemmas.NMap
import RedisVerif.Lemmas.Crdt
import RedisVerif.Lemmas.Redis
import RedisVerif.Lemmas.RedisStr
import RedisVerif.Lemmas.RedisList
import RedisVerif.Lemmas.RedisSetHash
import RedisVerif.Lemmas.RedisZOrder
import RedisVerif.Lemmas.RedisZSet
import RedisVerif.Lemmas.RedisStep
import RedisVerif.Props.C07
import RedisVerif.Model.Replica
import RedisVerif.Lemmas.Replica
import RedisVerif.Props.C08
import RedisVerif.Props.C08Clock
import RedisVerif.Props.C08Startup
import RedisVerif.Props.C08Persist
import RedisVerif.Props.C08ClockShard
import RedisVerif.Props.C08Cluster
import RedisVerif.Model.Lattice
import RedisVerif.Props.C07Lattice
import RedisVerif.Props.C07Reach
import RedisVerif.Props.C07Sharded
import RedisVerif.Model.Cluster
import RedisVerif.Lemmas.Lub
import RedisVerif.Lemmas.Converge
import RedisVerif.Lemmas.Absorb
import RedisVerif.Lemmas.LocalOp
import RedisVerif.Lemmas.ClusterInv
import RedisVerif.Lemmas.TwoDeltas
import RedisVerif.Props.C06
import RedisVerif.Model.Glue
import RedisVerif.Lemmas.Glue
import RedisVerif.Lemmas.GlueNode
import RedisVerif.Lemmas.GlueCluster
import RedisVerif.Props.C06Glue
import RedisVerif.Model.Gossip
import RedisVerif.Lemmas.Gossip
import RedisVerif.Lemmas.GossipSim
import RedisVerif.Props.C06Msg
import RedisVerif.Lemmas.GossipAcc
import RedisVerif.Props.C06Delivery
import RedisVerif.Props.C06Restart
import RedisVerif.Props.C06GlueRestart
import RedisVerif.Props.C06AE
import RedisVerif.Props.C06Sim
import RedisVerif.Props.C06Heal
import RedisVerif.Props.C06Mgr
import RedisVerif.Props.C06Calm
import RedisVerif.Props.C01
import RedisVerif.Props.C17
import RedisVerif.Model.SkipList
import RedisVerif.Model.DataStructs
import RedisVerif.Model.ExecutorCode
import RedisVerif.Model.RedisX
import RedisVerif.Lemmas.RedisX
import RedisVerif.Lemmas.DataStructs
import RedisVerif.Lemmas.SortedSetZReads
import RedisVerif.Props.C01Data
import RedisVerif.Props.C01Exec
import RedisVerif.Props.C01Scan
import RedisVerif.Props.C17Exec
import RedisVerif.Model.Resp
import RedisVerif.Lemmas.Resp
import RedisVerif.Props.C15
import RedisVerif.Model.Conn
import RedisVerif.Lemmas.Conn
import RedisVerif.Props.C04
import RedisVerif.Lemmas.RegsUnique
import RedisVerif.Model.Shards
import RedisVerif.Model.ShardsStr
import RedisVerif.Model.ShardsClock
import RedisVerif.Lemmas.ShardsClock
import RedisVerif.Lemmas.Shards
import RedisVerif.Lemmas.ShardsStr
import RedisVerif.Props.C03
import RedisVerif.Model.Actors
import RedisVerif.Lemmas.Actors
import RedisVerif.Lemmas.ActorsKey
import RedisVerif.Props.C02
import RedisVerif.Model.Stream
import RedisVerif.Lemmas.FoldACI
import RedisVerif.Lemmas.RVCarrier
import RedisVerif.Lemmas.Stream
import RedisVerif.Props.C11
import RedisVerif.Props.C11Ext
import RedisVerif.Lemmas.TraceInv
import RedisVerif.Lemmas.ListFacts
import RedisVerif.Lemmas.StreamOps
import RedisVerif.Lemmas.StreamFold
import RedisVerif.Props.C12
import RedisVerif.Props.C12Actor
import RedisVerif.Props.C13
import RedisVerif.Props.C13Hist
import RedisVerif.Props.C12Node
import RedisVerif.Props.C13Gc
import RedisVerif.Props.C12Json
import RedisVerif.Model.Wal
import RedisVerif.Lemmas.Wal
import RedisVerif.Props.C10
import RedisVerif.Model.Codec
import RedisVerif.Lemmas.Codec
import RedisVerif.Props.C14
import RedisVerif.Model.WalActor
import RedisVerif.Lemmas.WalRot
import RedisVerif.Lemmas.WalStep
import RedisVerif.Lemmas.WalActor
import RedisVerif.Props.C09
import RedisVerif.Lemmas.WalPolicy
import RedisVerif.Props.C09Policy
import RedisVerif.Model.Bincode
import RedisVerif.Lemmas.Bincode
import RedisVerif.Lemmas.Crc32
import RedisVerif.Lemmas.Concrete
import RedisVerif.Props.C14Bincode
import RedisVerif.Lemmas.WalBytes
import RedisVerif.Props.C10Bytes
import RedisVerif.Props.C14Bytes
import RedisVerif.Lemmas.WalSource
import RedisVerif.Lemmas.WalCompose
import RedisVerif.Props.C09Compose
import RedisVerif.Props.C10Window
import RedisVerif.Props.C09Timeout
import RedisVerif.Model.Json
import RedisVerif.Lemmas.Json
import RedisVerif.Lemmas.JsonWire
import RedisVerif.Props.C14Json
import RedisVerif.Props.C14Length
import RedisVerif.Lemmas.WalOrder
import RedisVerif.Lemmas.WalDurable
import RedisVerif.Props.C10Order
import RedisVerif.Model.InsertSort
import RedisVerif.Lemmas.InsertSort
import RedisVerif.Model.Ring
import RedisVerif.Lemmas.Ring
import RedisVerif.Props.C19
import RedisVerif.Model.Adaptive
import RedisVerif.Props.C19Adaptive
import RedisVerif.Props.C19Views
import RedisVerif.Model.AntiEntropy
import RedisVerif.Lemmas.AntiEntropy
import RedisVerif.Props.C18
import RedisVerif.Model.AENet
import RedisVerif.Lemmas.AENet
import RedisVerif.Props.C18Net
import RedisVerif.Model.Txn
import RedisVerif.Lemmas.Txn
import RedisVerif.Props.C05
import RedisVerif.Props.C05Ext
import RedisVerif.Props.C05M7
import RedisVerif.Props.C05Sched
import RedisVerif.Props.C05Wire
import RedisVerif.Props.C05Shards
import RedisVerif.Model.Grammar
import RedisVerif.Lemmas.Grammar
import RedisVerif.Model.GrammarTable
import RedisVerif.Model.LuaConv
import RedisVerif.Lemmas.GrammarOpts
import RedisVerif.Lemmas.GrammarLua
import RedisVerif.Props.C16
import RedisVerif.Model.LuaScript
import RedisVerif.Props.C16Script
import RedisVerif.Props.C16Exec
import RedisVerif.Model.GrammarDesc
import RedisVerif.Lemmas.GrammarShape
import RedisVerif.Model.GrammarGen
import RedisVerif.Lemmas.GrammarAlphabet
import RedisVerif.Props.C16Shape
import RedisVerif.Lemmas.GrammarNum
import RedisVerif.Props.C16Num
import RedisVerif.Model.GrammarElem
import RedisVerif.Props.C16Elem
import RedisVerif.Props.C16Src
import RedisVerif.Props.C16Conv
import RedisVerif.Props.C16LuaNum
import RedisVerif.Model.Apply
import RedisVerif.Lemmas.Apply
import RedisVerif.Props.C20
import RedisVerif.Lemmas.ShardsTime
import RedisVerif.Props.C03M7
import RedisVerif.Props.C02M7
import RedisVerif.Props.C02Node
import RedisVerif.Props.C02Clock
import RedisVerif.Props.Server
import RedisVerif.Props.ServerConn
import RedisVerif.Props.ServerLive
import RedisVerif.Props.RouteTable
import RedisVerif.Props.C03Str
